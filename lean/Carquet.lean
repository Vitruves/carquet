import Carquet.Gen.Constants
import Carquet.Impl.AllocExt
import Carquet.Impl.AllocFlow
import Carquet.Impl.Arena
import Carquet.Impl.BatchReader
import Carquet.Impl.BitIO
import Carquet.Impl.Bitpack
import Carquet.Impl.BitpackAcc
import Carquet.Impl.Bloom
import Carquet.Impl.Bss
import Carquet.Impl.Buffer
import Carquet.Impl.BufferReader
import Carquet.Impl.CFun3.BitReader
import Carquet.Impl.CFun3.BitWriter
import Carquet.Impl.CFun3.BufReader
import Carquet.Impl.CFun3.RleDec
import Carquet.Impl.CFun3.ThriftDec
import Carquet.Impl.CSem
import Carquet.Impl.CodecWrappers
import Carquet.Impl.ColumnReader
import Carquet.Impl.Crc32
import Carquet.Impl.Delta
import Carquet.Impl.DeltaLength
import Carquet.Impl.DeltaStrings
import Carquet.Impl.Dictionary
import Carquet.Impl.Dispatch
import Carquet.Impl.ErrorApi
import Carquet.Impl.FileReal
import Carquet.Impl.Lz4
import Carquet.Impl.Par
import Carquet.Impl.ParDict
import Carquet.Impl.Plain
import Carquet.Impl.Reader
import Carquet.Impl.ReaderApi
import Carquet.Impl.ReaderClaim
import Carquet.Impl.ReaderClaimClasses
import Carquet.Impl.ReaderTable
import Carquet.Impl.ReaderTableSpec
import Carquet.Impl.Rle
import Carquet.Impl.RleAcc
import Carquet.Impl.RlePreFix
import Carquet.Impl.Schema
import Carquet.Impl.SchemaApi
import Carquet.Impl.Simd
import Carquet.Impl.SimdBitunpack
import Carquet.Impl.SimdBlocked
import Carquet.Impl.SimdMore
import Carquet.Impl.SimdRegistry
import Carquet.Impl.Sink
import Carquet.Impl.Snappy
import Carquet.Impl.Stats
import Carquet.Impl.Thrift
import Carquet.Impl.ThriftCost
import Carquet.Impl.ThriftPageIndex
import Carquet.Impl.ThriftParquet
import Carquet.Impl.ThriftParquetReq
import Carquet.Impl.Varint
import Carquet.Impl.Writer
import Carquet.Impl.WriterHistory
import Carquet.Impl.WriterPreFixF23
import Carquet.Impl.WriterSink
import Carquet.Impl.WriterSpecTable
import Carquet.Impl.Xxh64
import Carquet.Proofs.AllocArena
import Carquet.Proofs.AllocArenaSeq
import Carquet.Proofs.AllocBuffer
import Carquet.Proofs.AllocExt
import Carquet.Proofs.AllocFlow
import Carquet.Proofs.AllocFlowClean
import Carquet.Proofs.AllocReader
import Carquet.Proofs.AllocSchema
import Carquet.Proofs.BitIO
import Carquet.Proofs.BitIORoundtrip
import Carquet.Proofs.BitIOWriter
import Carquet.Proofs.BitPackSpec
import Carquet.Proofs.BitpackAcc
import Carquet.Proofs.BitpackImpl
import Carquet.Proofs.BitpackTails
import Carquet.Proofs.Bloom
import Carquet.Proofs.Bss
import Carquet.Proofs.BufferReader
import Carquet.Proofs.CSem
import Carquet.Proofs.CFun.Basic
import Carquet.Proofs.CFun.Bits
import Carquet.Proofs.CFun.C19
import Carquet.Proofs.CFun.Loops
import Carquet.Proofs.CFun.Thrift
import Carquet.Proofs.CFun2.Bitpack
import Carquet.Proofs.CFun2.Bitpack2
import Carquet.Proofs.CFun2.Bloom
import Carquet.Proofs.CFun2.Crc32
import Carquet.Proofs.CFun2.Loads
import Carquet.Proofs.CFun2.Mem
import Carquet.Proofs.CFun2.Snappy
import Carquet.Proofs.CFun2.Stats
import Carquet.Proofs.CFun2.Varint
import Carquet.Proofs.CFun2.Xxh64
import Carquet.Proofs.CSem
import Carquet.Proofs.CFun3.CSem
import Carquet.Proofs.CFun3.BitReader
import Carquet.Proofs.CFun3.BitWriter
import Carquet.Proofs.CFun3.Bitunpack
import Carquet.Proofs.CFun3.Bitunpack32
import Carquet.Proofs.CFun3.BufReader
import Carquet.Proofs.CFun3.RleDec
import Carquet.Proofs.CFun3.ThriftDecA
import Carquet.Proofs.CFun3.ThriftDecB
import Carquet.Proofs.CFun3.ThriftDecC
import Carquet.Proofs.CFunB.Basic
import Carquet.Proofs.CFunB.Bools
import Carquet.Proofs.CFunB.Bss
import Carquet.Proofs.CFunB.BssGeneric
import Carquet.Proofs.CFunB.Enc
import Carquet.Proofs.CFunB.Lz4
import Carquet.Proofs.CFunB.Match
import Carquet.Proofs.CFunB.NullBitmap
import Carquet.Proofs.CFunB.PlainBool
import Carquet.Proofs.CFunB.Simd
import Carquet.Proofs.CFunB.Simd2
import Carquet.Proofs.CFunB.Snappy
import Carquet.Proofs.CodecBytes
import Carquet.Proofs.CodecWrappers
import Carquet.Proofs.Crc32Burst
import Carquet.Proofs.Crc32Damage
import Carquet.Proofs.Crc32Linear
import Carquet.Proofs.Crc32Slice
import Carquet.Proofs.Crc32Table
import Carquet.Proofs.CursorBasic
import Carquet.Proofs.CursorBatch
import Carquet.Proofs.CursorBatchAbs
import Carquet.Proofs.CursorBatchCol
import Carquet.Proofs.CursorBatchRun
import Carquet.Proofs.CursorBitmap
import Carquet.Proofs.CursorColumn
import Carquet.Proofs.CursorFile
import Carquet.Proofs.CursorFuel
import Carquet.Proofs.CursorHeap
import Carquet.Proofs.CursorRun
import Carquet.Proofs.DeltaBitpack
import Carquet.Proofs.DeltaBitLoop
import Carquet.Proofs.DeltaBits
import Carquet.Proofs.DeltaBytes
import Carquet.Proofs.DeltaBytesCap
import Carquet.Proofs.DeltaBytesSafe
import Carquet.Proofs.DeltaImplCap
import Carquet.Proofs.DeltaImplDec
import Carquet.Proofs.DeltaImplEnc
import Carquet.Proofs.DeltaSafe
import Carquet.Proofs.DeltaSpec
import Carquet.Proofs.DeltaSpecEnc
import Carquet.Proofs.DeltaTop
import Carquet.Proofs.DeltaVarint
import Carquet.Proofs.Dictionary
import Carquet.Proofs.ErrorApi
import Carquet.Proofs.FileRealFooter
import Carquet.Proofs.FileRealHeader
import Carquet.Proofs.ImplReadsCell
import Carquet.Proofs.ImplReadsChunk
import Carquet.Proofs.ImplReadsCodec
import Carquet.Proofs.ImplReadsDefs
import Carquet.Proofs.ImplReadsFile
import Carquet.Proofs.ImplReadsFooter
import Carquet.Proofs.ImplReadsHeader
import Carquet.Proofs.ImplReadsPages
import Carquet.Proofs.ImplReadsOracle
import Carquet.Proofs.ImplReadsExt
import Carquet.Proofs.ImplReadsPrefix
import Carquet.Proofs.ImplReadsPrefix2
import Carquet.Proofs.ImplReadsPrefix3
import Carquet.Proofs.ImplReadsReject
import Carquet.Proofs.ImplReadsRejectV2
import Carquet.Proofs.ImplReadsSchema
import Carquet.Proofs.ImplReadsThrift
import Carquet.Proofs.ImplReadsValues
import Carquet.Proofs.ImplReadsWalk
import Carquet.Proofs.ImplReadsWhole
import Carquet.Proofs.Lfsr
import Carquet.Proofs.Lists
import Carquet.Proofs.Lz4Comp
import Carquet.Proofs.Lz4Decomp
import Carquet.Proofs.Lz4Fuel
import Carquet.Proofs.Lz4Spec
import Carquet.Proofs.Lz77
import Carquet.Proofs.NatBits
import Carquet.Proofs.Par
import Carquet.Proofs.ParAdaptive
import Carquet.Proofs.ParCold
import Carquet.Proofs.ParDict
import Carquet.Proofs.ParIO
import Carquet.Proofs.ParLazy
import Carquet.Proofs.PlainBool
import Carquet.Proofs.PlainBytes
import Carquet.Proofs.PlainFixed
import Carquet.Proofs.ReaderApi
import Carquet.Proofs.ReaderBounds
import Carquet.Proofs.ReaderChunkRoundtrip
import Carquet.Proofs.ReaderCrc
import Carquet.Proofs.ReaderExamples
import Carquet.Proofs.ReaderHeaderReads
import Carquet.Proofs.ReaderModes
import Carquet.Proofs.ReaderOpen
import Carquet.Proofs.ReaderPageRoundtrip
import Carquet.Proofs.ReaderPlain
import Carquet.Proofs.ReaderSteps
import Carquet.Proofs.RleAcc
import Carquet.Proofs.RleDecoder
import Carquet.Proofs.RleEncoder
import Carquet.Proofs.RleGrammar
import Carquet.Proofs.RleHistory
import Carquet.Proofs.RleLevels
import Carquet.Proofs.RleLevelsIter
import Carquet.Proofs.RleLevelsF58
import Carquet.Proofs.RleSpecDecoder
import Carquet.Proofs.RleSpecEncoder
import Carquet.Proofs.RoundtripChunk
import Carquet.Proofs.RoundtripCursor
import Carquet.Proofs.RoundtripFile
import Carquet.Proofs.RoundtripLayout
import Carquet.Proofs.RoundtripOpen
import Carquet.Proofs.RoundtripPage
import Carquet.Proofs.Schema
import Carquet.Proofs.SchemaApi
import Carquet.Proofs.SimdBitunpack
import Carquet.Proofs.SimdBlocked
import Carquet.Proofs.SimdBools
import Carquet.Proofs.SimdBss
import Carquet.Proofs.SimdCrc
import Carquet.Proofs.SimdDispatch
import Carquet.Proofs.SimdGather
import Carquet.Proofs.SimdKernels
import Carquet.Proofs.SimdLevels
import Carquet.Proofs.SimdMatch
import Carquet.Proofs.SimdMem
import Carquet.Proofs.SimdPrefix
import Carquet.Proofs.SimdRegistry
import Carquet.Proofs.SimdScalar
import Carquet.Proofs.Sink
import Carquet.Proofs.SnappyComp
import Carquet.Proofs.SnappyDecomp
import Carquet.Proofs.SnappySpec
import Carquet.Proofs.SpecFilePlain
import Carquet.Proofs.SpecFileChainFull
import Carquet.Proofs.SpecFileChunkFull
import Carquet.Proofs.SpecFileCodec
import Carquet.Proofs.SpecFileDict
import Carquet.Proofs.SpecFileEnvelope
import Carquet.Proofs.SpecFileExtract
import Carquet.Proofs.SpecFileExtras
import Carquet.Proofs.SpecFileFooterFull
import Carquet.Proofs.SpecFileGzip
import Carquet.Proofs.SpecFileHdr
import Carquet.Proofs.SpecFileLogical
import Carquet.Proofs.SpecFileOracle
import Carquet.Proofs.SpecFilePage
import Carquet.Proofs.SpecFileSchema
import Carquet.Proofs.SpecFileStats
import Carquet.Proofs.SpecFileThrift
import Carquet.Proofs.ExceptOk
import Carquet.Proofs.SpecFileRead
import Carquet.Proofs.SpecFileWholeFull
import Carquet.Proofs.SpecFileZstd
import Carquet.Proofs.SpecWriterChunk
import Carquet.Proofs.SpecWriterEval
import Carquet.Proofs.SpecWriterFile
import Carquet.Proofs.SpecWriterFooter
import Carquet.Proofs.SpecWriterHeader
import Carquet.Proofs.SpecWriterPage
import Carquet.Proofs.SpecWriterSizes
import Carquet.Proofs.StatsBuilder
import Carquet.Proofs.StatsCmp
import Carquet.Proofs.StatsOrder
import Carquet.Proofs.StatsPage
import Carquet.Proofs.StatsPrune
import Carquet.Proofs.ThriftCost
import Carquet.Proofs.ThriftCostParquet
import Carquet.Proofs.ThriftDec
import Carquet.Proofs.ThriftExtendsDeep
import Carquet.Proofs.ThriftLoop
import Carquet.Proofs.ThriftModel
import Carquet.Proofs.ThriftPageIndex
import Carquet.Proofs.ThriftParse
import Carquet.Proofs.ThriftRoundtrip
import Carquet.Proofs.ThriftRoundtripStructs
import Carquet.Proofs.ThriftRoundtripTop
import Carquet.Proofs.ThriftSafe
import Carquet.Proofs.ThriftSafeParquet
import Carquet.Proofs.ThriftSkip
import Carquet.Proofs.ThriftSpec
import Carquet.Proofs.ThriftStructs
import Carquet.Proofs.ThriftTable
import Carquet.Proofs.ThriftTop
import Carquet.Proofs.ThriftUnknown
import Carquet.Proofs.ThriftVarint
import Carquet.Proofs.ThriftWrite
import Carquet.Proofs.ThriftWriteStructs
import Carquet.Proofs.VarintImpl
import Carquet.Proofs.Writer
import Carquet.Proofs.WriterDefs
import Carquet.Proofs.WriterInv
import Carquet.Proofs.WriterRun
import Carquet.Proofs.WriterSink
import Carquet.Proofs.Word32
import Carquet.Proofs.Xxh64
import Carquet.Proofs.Zigzag
import Carquet.Properties.C01
import Carquet.Properties.C01.CFun
import Carquet.Properties.C01.Reader
import Carquet.Properties.C01.Roundtrip
import Carquet.Properties.C01.WLogical
import Carquet.Properties.C02
import Carquet.Properties.C02.Cursor
import Carquet.Properties.C03
import Carquet.Properties.C03.Api
import Carquet.Properties.C03.Reader
import Carquet.Properties.C04
import Carquet.Properties.C04.BatchRetry
import Carquet.Properties.C04.CFun
import Carquet.Properties.C04.CFun3
import Carquet.Properties.C04.DictScan
import Carquet.Properties.C04.Error
import Carquet.Properties.C04.Reader
import Carquet.Properties.C04.Thrift
import Carquet.Properties.C05
import Carquet.Properties.C05.BrokenBatch
import Carquet.Properties.C05.BrokenFlush
import Carquet.Properties.C05.F23
import Carquet.Properties.C05.SpecFile
import Carquet.Properties.C05.SpecWriter
import Carquet.Properties.C05.WLogical
import Carquet.Properties.C05.Writer
import Carquet.Properties.C06
import Carquet.Properties.C06.CFun
import Carquet.Properties.C06.ImplReads
import Carquet.Properties.C06.SpecFile
import Carquet.Properties.C06.SpecFileFull
import Carquet.Properties.C06.WLogical
import Carquet.Properties.C07
import Carquet.Properties.C07.FailureFlag
import Carquet.Properties.C07.Par
import Carquet.Properties.C07.ParCold
import Carquet.Properties.C07.ParDict
import Carquet.Properties.C08
import Carquet.Properties.C08.BitIO
import Carquet.Properties.C08.Bitpack
import Carquet.Properties.C08.BufferReader
import Carquet.Properties.C08.CFun3
import Carquet.Properties.C08.CFunB
import Carquet.Properties.C08.CodecWrappers
import Carquet.Properties.C08.Delta
import Carquet.Properties.C08.Lz4
import Carquet.Properties.C08.Plain
import Carquet.Properties.C08.Rle
import Carquet.Properties.C08.Snappy
import Carquet.Properties.C09
import Carquet.Properties.C09.CFun
import Carquet.Properties.C09.CFun2
import Carquet.Properties.C09.CFunB
import Carquet.Properties.C09.Lz4
import Carquet.Properties.C09.Snappy
import Carquet.Properties.C10
import Carquet.Properties.C10.Lz4
import Carquet.Properties.C10.Snappy
import Carquet.Properties.C11
import Carquet.Properties.C11.BitIO
import Carquet.Properties.C11.CFun
import Carquet.Properties.C11.CFun2
import Carquet.Properties.C11.CFun3
import Carquet.Properties.C11.CFunB
import Carquet.Properties.C11.Delta
import Carquet.Properties.C11.Plain
import Carquet.Properties.C11.Rle
import Carquet.Properties.C12
import Carquet.Properties.C12.BitIO
import Carquet.Properties.C12.Delta
import Carquet.Properties.C12.Plain
import Carquet.Properties.C12.Rle
import Carquet.Properties.C13
import Carquet.Properties.C13.CFun
import Carquet.Properties.C13.CFun3
import Carquet.Properties.C13.PageIndex
import Carquet.Properties.C13.Thrift
import Carquet.Properties.C13.WLogical
import Carquet.Properties.C13.Written
import Carquet.Properties.C14
import Carquet.Properties.C14.CFun2
import Carquet.Properties.C14.Crc
import Carquet.Properties.C14.Page
import Carquet.Properties.C15
import Carquet.Properties.C15.CFunB
import Carquet.Properties.C15.Simd
import Carquet.Properties.C15.SimdMore
import Carquet.Properties.C16
import Carquet.Properties.C16.CFun
import Carquet.Properties.C16.CFun2
import Carquet.Properties.C16.SpecFile
import Carquet.Properties.C16.Stats
import Carquet.Properties.C17
import Carquet.Properties.C17.Api
import Carquet.Properties.C17.Schema
import Carquet.Properties.C18
import Carquet.Properties.C18.Open
import Carquet.Properties.C18.Sink
import Carquet.Properties.C18.WriterSink
import Carquet.Properties.C19
import Carquet.Properties.C19.Alloc
import Carquet.Properties.C19.AllocExt
import Carquet.Properties.C19.CFun
import Carquet.Properties.C20
import Carquet.Properties.C20.Bloom
import Carquet.Properties.C20.CFun
import Carquet.Properties.C20.CFun2
import Carquet.Spec.BitPack
import Carquet.Spec.Bss
import Carquet.Spec.Crc32
import Carquet.Spec.Cursor
import Carquet.Spec.Delta
import Carquet.Spec.Dictionary
import Carquet.Spec.File
import Carquet.Spec.File.Admissible
import Carquet.Spec.File.Codec
import Carquet.Spec.File.Meta
import Carquet.Spec.File.Read
import Carquet.Spec.File.Types
import Carquet.Spec.File.Write
import Carquet.Spec.FileEnvelope
import Carquet.Spec.Kernels
import Carquet.Spec.Lz4
import Carquet.Spec.Order
import Carquet.Spec.ParquetThrift
import Carquet.Spec.ParquetThriftPageIndex
import Carquet.Spec.ParquetThriftValue
import Carquet.Spec.Plain
import Carquet.Spec.RleHybrid
import Carquet.Spec.Sbbf
import Carquet.Spec.Schema
import Carquet.Spec.SchemaAnnot
import Carquet.Spec.Snappy
import Carquet.Spec.Thrift
import Carquet.Spec.Varint
import Carquet.Spec.Xxh64
import Carquet.Util
