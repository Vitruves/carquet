import Carquet.Proofs.PlainFixed
import Carquet.Proofs.PlainBool
import Carquet.Proofs.PlainBytes
import Carquet.Proofs.Bss
import Carquet.Proofs.Dictionary
/-
C11 (PLAIN, BYTE_STREAM_SPLIT and dictionary parts) — every encoding decodes its own output, for
value sequences of every length, with the reported consumed / written byte counts equal to the
actual encoded size.  Statements only; lemmas are in Carquet/Proofs/.

Conventions: the decoders are run on `encode v ++ extra` for an arbitrary `extra` (a page may
continue after the values), so "consumed = encoded size" is a statement about the count the
decoder reports, not about where the buffer happens to end.  `n * size < 2 ^ 64` says that the
caller's array of `n` values exists in the 64-bit address space (the C code computes
`(size_t)count * size` modulo 2^64).
-/
namespace Carquet.Properties.C11
open Carquet Carquet.Impl
open Carquet.Proofs.Plain Carquet.Proofs.Bss Carquet.Proofs.Dictionary

/-! ## PLAIN -/

/-- BOOLEAN, any count (also not a multiple of 8): the decoder returns the normalised input
(non-zero ↦ 1), reports `ceil(n/8)` consumed bytes, which is the encoded size; and all bits of the
encoded bytes are the values followed by `false` padding. -/
theorem C11_plain_boolean_roundtrip (vs : List UInt8) (extra : List UInt8) :
    Plain.decodeBoolean (Plain.encodeBoolean vs ++ extra) vs.length
      = .ok (vs.map (fun v => if v != 0 then 1 else 0)) (Plain.encodeBoolean vs).length ∧
    (Plain.encodeBoolean vs).length = (vs.length + 7) / 8 ∧
    (Plain.encodeBoolean vs).flatMap Spec.Plain.byteBits
      = vs.map (fun v => v != 0) ++ List.replicate ((8 - vs.length % 8) % 8) false := by
  have hlen : (Plain.encodeBoolean vs).length = (vs.length + 7) / 8 := by
    rw [Plain.encodeBoolean, packBools_eq_spec, encodeBool_length, List.length_map]
  refine ⟨?_, hlen, ?_⟩
  · have h := decodeBoolean_eq_spec (Plain.encodeBoolean vs ++ extra) vs.length
    rw [Plain.encodeBoolean, packBools_eq_spec] at h ⊢
    have hs := spec_decodeBool_encode (vs.map (fun v => v != 0)) extra
    rw [List.length_map] at hs
    rw [h, hs, encodeBool_length, List.length_map]
    simp only [List.map_map]
    congr 1
  · rw [Plain.encodeBoolean, packBools_eq_spec, bits_encodeBool, List.length_map]

/-- **F30, pinned code.**  Encoding zero booleans returns CARQUET_ERROR_OUT_OF_MEMORY (the
`carquet_buffer_advance(output, 0)` idiom), so "any length including 0" fails for BOOLEAN; for every
other length the pinned encoder is the repaired one.  Replayed by harness op `pl_enc t=bool vals=x`. -/
theorem C11_regression_F43_bool_zero :
    Plain.encodeBooleanPreFix [] = .error .outOfMemory ∧
    ∀ vs : List UInt8, vs ≠ [] → Plain.encodeBooleanPreFix vs = .ok (Plain.encodeBoolean vs) := by
  refine ⟨rfl, ?_⟩
  intro vs h
  cases vs with
  | nil => exact absurd rfl h
  | cons v vs =>
    simp only [Plain.encodeBooleanPreFix, Plain.encodeBoolean, List.length_cons]
    rw [if_neg (by omega)]

example : Plain.decodeBoolean (Plain.encodeBoolean [1, 0, 7, 1, 0, 0, 0, 0, 255, 0, 1] ++ [0xAA]) 11
    = .ok [1, 0, 1, 1, 0, 0, 0, 0, 1, 0, 1] 2 := (C11_plain_boolean_roundtrip _ _).1

theorem C11_plain_int32_roundtrip (vs : List UInt32) (extra : List UInt8) (h : vs.length * 4 < 2 ^ 64) :
    Plain.decodeInt32 (Plain.encodeInt32 vs ++ extra) vs.length = .ok vs (Plain.encodeInt32 vs).length ∧
    (Plain.encodeInt32 vs).length = vs.length * 4 := by
  have hl : (Plain.encodeInt32 vs).length = vs.length * 4 := length_encode32 vs
  exact ⟨by rw [hl]; exact decodeInt32_encode vs extra h, hl⟩

example : Plain.decodeInt32 (Plain.encodeInt32 [0, 1, 0x80000000, 0xFFFFFFFF] ++ [7]) 4
    = .ok [0, 1, 0x80000000, 0xFFFFFFFF] 16 := (C11_plain_int32_roundtrip _ _ (by decide)).1

theorem C11_plain_int64_roundtrip (vs : List UInt64) (extra : List UInt8) (h : vs.length * 8 < 2 ^ 64) :
    Plain.decodeInt64 (Plain.encodeInt64 vs ++ extra) vs.length = .ok vs (Plain.encodeInt64 vs).length ∧
    (Plain.encodeInt64 vs).length = vs.length * 8 := by
  have hl : (Plain.encodeInt64 vs).length = vs.length * 8 := length_encode64 vs
  exact ⟨by rw [hl]; exact decodeInt64_encode vs extra h, hl⟩

example : Plain.decodeInt64 (Plain.encodeInt64 [0x8000000000000000, 1]) 2
    = .ok [0x8000000000000000, 1] 16 := by
  have h := (C11_plain_int64_roundtrip [0x8000000000000000, 1] [] (by decide)).1
  rwa [List.append_nil] at h

theorem C11_plain_int96_roundtrip (vs : List Plain.Int96) (extra : List UInt8)
    (h : vs.length * 12 < 2 ^ 64) :
    Plain.decodeInt96 (Plain.encodeInt96 vs ++ extra) vs.length = .ok vs (Plain.encodeInt96 vs).length ∧
    (Plain.encodeInt96 vs).length = vs.length * 12 := by
  have hl := length_encode96 vs
  exact ⟨by rw [hl]; exact decodeInt96_encode vs extra h, hl⟩

example : Plain.decodeInt96 (Plain.encodeInt96 [(1, 2, 0xFFFFFFFF)] ++ [9]) 1
    = .ok [(1, 2, 0xFFFFFFFF)] 12 := (C11_plain_int96_roundtrip _ _ (by decide)).1

/-- FLOAT: values are 32-bit patterns (NaN payloads, −0.0 and denormals are just patterns). -/
theorem C11_plain_float_roundtrip (vs : List UInt32) (extra : List UInt8) (h : vs.length * 4 < 2 ^ 64) :
    Plain.decodeFloat (Plain.encodeFloat vs ++ extra) vs.length = .ok vs (Plain.encodeFloat vs).length ∧
    (Plain.encodeFloat vs).length = vs.length * 4 :=
  C11_plain_int32_roundtrip vs extra h

-- quiet NaN with payload, -0.0f
example : Plain.decodeFloat (Plain.encodeFloat [0x7FC00001, 0x80000000]) 2
    = .ok [0x7FC00001, 0x80000000] 8 := by
  have h := (C11_plain_float_roundtrip [0x7FC00001, 0x80000000] [] (by decide)).1
  rwa [List.append_nil] at h

/-- DOUBLE: 64-bit patterns. -/
theorem C11_plain_double_roundtrip (vs : List UInt64) (extra : List UInt8) (h : vs.length * 8 < 2 ^ 64) :
    Plain.decodeDouble (Plain.encodeDouble vs ++ extra) vs.length = .ok vs (Plain.encodeDouble vs).length ∧
    (Plain.encodeDouble vs).length = vs.length * 8 :=
  C11_plain_int64_roundtrip vs extra h

example : Plain.decodeDouble (Plain.encodeDouble [0xFFF8000000000001]) 1
    = .ok [0xFFF8000000000001] 8 := by
  have h := (C11_plain_double_roundtrip [0xFFF8000000000001] [] (by decide)).1
  rwa [List.append_nil] at h

/-- BYTE_ARRAY: the decoder returns slices `(offset, length)` of its input; read through them the
caller sees the original values (empty ones included); consumed = encoded size. -/
theorem C11_plain_byte_array_roundtrip (vs : List (List UInt8)) (extra : List UInt8)
    (h : ∀ v ∈ vs, v.length < 2 ^ 31) :
    ∃ slices, Plain.decodeByteArray (Plain.encodeByteArray vs ++ extra) vs.length
        = .ok slices (Plain.encodeByteArray vs).length ∧
      slices.map (Plain.slice (Plain.encodeByteArray vs ++ extra)) = vs := by
  have h32 : ∀ v ∈ vs, v.length < 2 ^ 32 := fun v hv => Nat.lt_trans (h v hv) (by decide)
  obtain ⟨h1, h2⟩ := baLoop_accept (Plain.encodeByteArray vs ++ extra) vs.length 0 vs extra (Nat.zero_le _)
    (by rw [List.drop_zero, encodeByteArray_eq_spec vs h32]; exact spec_decodeByteArray_encode vs extra h32) h
  refine ⟨expectedSlices 0 vs, ?_, h2⟩
  simp only [Plain.decodeByteArray, Int.toNat_natCast, h1, List.length_append, Nat.add_sub_cancel]
  rw [if_neg (by omega)]

example : Plain.decodeByteArray (Plain.encodeByteArray [[0x61, 0x62], [], [0x63]] ++ [0xFF]) 3
    = .ok [(4, 2), (10, 0), (14, 1)] 15 := by decide

/-- FIXED_LEN_BYTE_ARRAY of width `k`. -/
theorem C11_plain_fixed_len_byte_array_roundtrip (k : Nat) (hk : 0 < k) (vs : List (List UInt8))
    (hv : ∀ v ∈ vs, v.length = k) (extra : List UInt8) (h : vs.length * k < 2 ^ 64) :
    Plain.encodeFlba vs.flatten vs.length k = .ok vs.flatten ∧
    Plain.decodeFlba (vs.flatten ++ extra) vs.length k = .ok vs.flatten vs.flatten.length ∧
    vs.flatten.length = vs.length * k := by
  have hl : vs.flatten.length = vs.length * k := flatten_length_of_all vs hv
  have hs : Plain.sizeMul vs.length k = vs.length * k := sizeMul_of_lt h
  refine ⟨?_, ?_, hl⟩
  · simp only [Plain.encodeFlba, Int.toNat_natCast, hs]
    rw [if_neg (by omega), ← hl, List.take_length]
  · simp only [Plain.decodeFlba, Int.toNat_natCast, hs]
    rw [if_neg (by omega), if_neg (by rw [List.length_append]; omega), ← hl, List.take_left]

example : Plain.decodeFlba ([1, 2, 3, 4, 5, 6] ++ [7]) 2 3 = .ok [1, 2, 3, 4, 5, 6] 6 :=
  (C11_plain_fixed_len_byte_array_roundtrip 3 (by decide) [[1, 2, 3], [4, 5, 6]] (by decide) [7] (by decide)).2.1

/-! ## BYTE_STREAM_SPLIT -/

/-- Generic width `k` (FIXED_LEN_BYTE_ARRAY, INT32, INT64, ...): `n` values of `k` bytes.  The
encoder writes exactly `n * k` bytes; the decoder gives the value bytes back. -/
theorem C11_bss_roundtrip (k n : Nat) (hk : 0 < k) (vals : List (List UInt8))
    (hn : vals.length = n) (hv : ∀ v ∈ vals, v.length = k) (hsz : n * k < 2 ^ 64)
    (cap : Nat) (hcap : n * k ≤ cap) (extra : List UInt8) :
    ∃ bytes, Bss.encode vals.flatten n k cap = .ok bytes ∧ bytes.length = n * k ∧
      Bss.decode (bytes ++ extra) k n = .ok vals.flatten := by
  have hr : Rect k n vals := ⟨hn, hv⟩
  exact ⟨Spec.Bss.encode k vals, encode_flat hk hr hsz hcap, by rw [encode_length k hr, Nat.mul_comm],
    decode_encode hk hr hsz extra⟩

example : Bss.decode ([1, 4, 2, 5, 3, 6] ++ [9]) 3 2 = .ok [1, 2, 3, 4, 5, 6] ∧
    Bss.encode [1, 2, 3, 4, 5, 6] 2 3 6 = .ok [1, 4, 2, 5, 3, 6] := by decide

theorem rect_mem32 (fs : List UInt32) : Rect 4 fs.length (fs.map Plain.memU32) := rect_map _ memU32_length fs

theorem rect_mem64 (ds : List UInt64) : Rect 8 ds.length (ds.map Plain.memU64) := rect_map _ memU64_length ds

/-- FLOAT through the scalar kernel: `img` is the byte image of the caller's `float[n]`; the kernel
fills the first `4 n` bytes of the output buffer `out0` (leaving the rest untouched), and decoding
them gives the image — hence the values — back. -/
theorem C11_bss_float_roundtrip (fs : List UInt32) (hsz : fs.length * 4 < 2 ^ 64)
    (out0 : List UInt8) (hcap : fs.length * 4 ≤ out0.length) (extra : List UInt8) :
    ∃ bytes, Bss.encodeFloatBuf (fs.flatMap Plain.memU32) fs.length out0
        = .ok (bytes ++ out0.drop (fs.length * 4)) ∧ bytes.length = fs.length * 4 ∧
      Bss.decodeFloat (bytes ++ extra) fs.length = .ok (fs.flatMap Plain.memU32) ∧
      Plain.load32s (fs.flatMap Plain.memU32) = fs := by
  have hr := rect_mem32 fs
  rw [List.flatMap_def]
  exact ⟨Spec.Bss.encode 4 (fs.map Plain.memU32), scatterBuf_flat (by decide) hr hsz out0 hcap,
    by rw [encode_length 4 hr, Nat.mul_comm], (decodeFloat_eq _ _).trans (decode_encode (by decide) hr hsz extra),
    by rw [← List.flatMap_def]; exact load32s_encode fs⟩

/-- DOUBLE through the scalar kernel. -/
theorem C11_bss_double_roundtrip (ds : List UInt64) (hsz : ds.length * 8 < 2 ^ 64)
    (out0 : List UInt8) (hcap : ds.length * 8 ≤ out0.length) (extra : List UInt8) :
    ∃ bytes, Bss.encodeDoubleBuf (ds.flatMap Plain.memU64) ds.length out0
        = .ok (bytes ++ out0.drop (ds.length * 8)) ∧ bytes.length = ds.length * 8 ∧
      Bss.decodeDouble (bytes ++ extra) ds.length = .ok (ds.flatMap Plain.memU64) ∧
      Plain.load64s (ds.flatMap Plain.memU64) = ds := by
  have hr := rect_mem64 ds
  rw [List.flatMap_def]
  exact ⟨Spec.Bss.encode 8 (ds.map Plain.memU64), scatterBuf_flat (by decide) hr hsz out0 hcap,
    by rw [encode_length 8 hr, Nat.mul_comm], (decodeDouble_eq _ _).trans (decode_encode (by decide) hr hsz extra),
    by rw [← List.flatMap_def]; exact load64s_encode ds⟩

example : Bss.encodeFloatBuf ([0x3F800000, 0x7FC00001].flatMap Plain.memU32) 2 (List.replicate 9 0xEE)
    = .ok [0x00, 0x01, 0x00, 0x00, 0x80, 0xC0, 0x3F, 0x7F, 0xEE] := by decide

/-! ## Dictionary encoding -/

/-- The builder, for **any** hash function and **any** positive number of buckets (the C code uses
FNV-1a and 1024): the dictionary is the list of distinct values in order of first occurrence — so
the hash table is irrelevant to the result —, it has no duplicates, the index assigned to a value
is its position in the dictionary, every index is below the dictionary size, and looking the
indices up gives the original sequence back. -/
theorem C11_dictionary_builder (hash : List UInt8 → Nat) (nb : Nat) (hnb : 0 < nb) (isVar : Bool)
    (vals : List (List UInt8)) (hlen : vals.length < 2 ^ 31) :
    (Dictionary.build hash nb isVar vals).entries = Spec.Dictionary.firstOccurrences vals ∧
    (Dictionary.build hash nb isVar vals).entries.Nodup ∧
    (Dictionary.build hash nb isVar vals).indices
      = vals.map (fun v => Spec.Dictionary.indexIn v (Dictionary.build hash nb isVar vals).entries) ∧
    (∀ i ∈ (Dictionary.build hash nb isVar vals).indices,
      i < (Dictionary.build hash nb isVar vals).entries.length) ∧
    Spec.Dictionary.decode (Dictionary.build hash nb isVar vals).entries
      (Dictionary.build hash nb isVar vals).indices = some vals ∧
    (Dictionary.build hash nb isVar vals).count = (Dictionary.build hash nb isVar vals).entries.length := by
  obtain ⟨he, hi, hc, _⟩ := build_spec hash hnb isVar vals (by omega)
  refine ⟨he, by rw [he]; exact nodup_firstOccurrences vals, by rw [hi, he], ?_, ?_, by rw [hc, he]⟩
  · rw [hi, he]
    exact List.forall_mem_map.mpr fun v hv => indexIn_lt_length (mem_firstOccurrences.mpr hv)
  · rw [hi, he]
    exact decode_indexIn _ vals (fun v hv => mem_firstOccurrences.mpr hv)

example : (Dictionary.build Dictionary.hashNat 1024 false [[5], [3], [5], [5], [7], [3]]).indices
    = [0, 1, 0, 0, 2, 1] := by
  obtain ⟨he, _, hi, _⟩ := C11_dictionary_builder Dictionary.hashNat 1024 (by decide) false
    [[5], [3], [5], [5], [7], [3]] (by decide)
  rw [hi, he]; decide

/-- The bit width byte: 1..32, wide enough for every index, and the number of bits of
`count − 1` except that 0 is raised to 1. -/
theorem C11_dictionary_bit_width (n : Nat) (h1 : 1 ≤ n) (h2 : n < 2 ^ 32) :
    1 ≤ Dictionary.bitWidthForCount n ∧ Dictionary.bitWidthForCount n ≤ 32 ∧
    n ≤ 2 ^ Dictionary.bitWidthForCount n ∧
    Dictionary.bitWidthForCount n = max 1 (Spec.Dictionary.bitsFor n) :=
  bitWidth_spec n h1 h2

example : (List.range 10).map Dictionary.bitWidthForCount = [0, 1, 1, 2, 2, 3, 3, 3, 3, 4] := by decide

/-- INT32 / FLOAT (bit patterns): encode then decode with carquet's own (repaired) decoder, for
any index codec `idxEnc/idxDec` that round-trips indices below `2 ^ w` (the RLE hybrid, verified
separately).  `dict_count` is the number of 4-byte entries of the dictionary page. -/
theorem C11_dictionary_roundtrip_32
    (idxEnc : Nat → List Nat → List UInt8) (idxDec : Nat → List UInt8 → Nat → Option (List Nat))
    (hcodec : ∀ w idxs, 1 ≤ w → w ≤ 32 → (∀ i ∈ idxs, i < 2 ^ w) →
      idxDec w (idxEnc w idxs) idxs.length = some idxs)
    (vs : List UInt32) (hlen : vs.length < 2 ^ 31) :
    Dictionary.decode32 idxDec (Dictionary.encode32 idxEnc vs).dictPage
      (((Dictionary.encode32 idxEnc vs).dictPage.length / 4 : Nat) : Int)
      (Dictionary.encode32 idxEnc vs).indexStream (vs.length : Int) = .ok vs := by
  have h := decodeFixed_encode 4 (by decide) Dictionary.hashNat (by decide : 0 < Gen.dictNumBuckets) idxEnc idxDec
    hcodec (vs.map Plain.memU32) (rect_mem32 vs).2 (by simpa using hlen)
  rw [List.length_map] at h
  simp only [Dictionary.decode32, Dictionary.encode32, h, Dictionary.Res.map, ← List.flatMap_def, load32s_encode]

/-- INT64 / DOUBLE (bit patterns). -/
theorem C11_dictionary_roundtrip_64
    (idxEnc : Nat → List Nat → List UInt8) (idxDec : Nat → List UInt8 → Nat → Option (List Nat))
    (hcodec : ∀ w idxs, 1 ≤ w → w ≤ 32 → (∀ i ∈ idxs, i < 2 ^ w) →
      idxDec w (idxEnc w idxs) idxs.length = some idxs)
    (vs : List UInt64) (hlen : vs.length < 2 ^ 31) :
    Dictionary.decode64 idxDec (Dictionary.encode64 idxEnc vs).dictPage
      (((Dictionary.encode64 idxEnc vs).dictPage.length / 8 : Nat) : Int)
      (Dictionary.encode64 idxEnc vs).indexStream (vs.length : Int) = .ok vs := by
  have h := decodeFixed_encode 8 (by decide) Dictionary.hashNat (by decide : 0 < Gen.dictNumBuckets) idxEnc idxDec
    hcodec (vs.map Plain.memU64) (rect_mem64 vs).2 (by simpa using hlen)
  rw [List.length_map] at h
  simp only [Dictionary.decode64, Dictionary.encode64, h, Dictionary.Res.map, ← List.flatMap_def, load64s_encode]

/-- A toy index codec satisfying the hypothesis (one byte per index; only for the non-vacuity
example below — the real codec is the RLE hybrid). -/
def toyEnc (_ : Nat) (idxs : List Nat) : List UInt8 := idxs.map UInt8.ofNat
def toyDec (_ : Nat) (bs : List UInt8) (n : Nat) : Option (List Nat) := some ((bs.take n).map UInt8.toNat)

example : Dictionary.decode32 toyDec (Dictionary.encode32 toyEnc [7, 9, 7, 7, 1, 9]).dictPage 3
    (Dictionary.encode32 toyEnc [7, 9, 7, 7, 1, 9]).indexStream 6 = .ok [7, 9, 7, 7, 1, 9] := by
  obtain ⟨he, hi, hc, hv⟩ := build_spec Dictionary.hashNat (by decide : 0 < Gen.dictNumBuckets) false
    ([7, 9, 7, 7, 1, 9].map Plain.memU32) (by decide)
  have h : Dictionary.encode32 toyEnc [7, 9, 7, 7, 1, 9] =
      ⟨[7, 0, 0, 0, 9, 0, 0, 0, 1, 0, 0, 0], 2, [0, 1, 0, 0, 2, 1], [2, 0, 1, 0, 0, 2, 1]⟩ := by
    simp only [Dictionary.encode32, Dictionary.finish, Dictionary.Builder.dictBytes, he, hi, hc, hv]
    decide
  rw [h]; decide

end Carquet.Properties.C11
