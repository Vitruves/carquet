import Carquet.Spec.RleHybrid
import Carquet.Impl.Rle
import Carquet.Impl.RlePreFix
import Carquet.Proofs.Zigzag
import Carquet.Proofs.BitpackTails
import Carquet.Proofs.RleEncoder
import Carquet.Proofs.RleLevels
import Carquet.Proofs.RleLevelsF58
import Carquet.Proofs.RleHistory
/-
C11 — every encoding decodes its own output (part: ULEB128 varints + zigzag, raw bit packing,
RLE/bit-packed hybrid for values and int16 levels, with and without length prefix).

Property statements only; helper lemmas live in Carquet/Proofs/.  The models are those of the
code **as repaired** by fixes/F1, F30, F31, F32, F33 (see NOTES_rle.md); the pinned functions
are in Impl/RlePreFix.lean and the `C11_regression_*` theorems are their counterexamples.
All statements are for every bit width `w ≤ 32` and sequences of any length.
-/
namespace Carquet.Properties.C11
open Carquet Carquet.Impl Carquet.Proofs

/-! ### Varints and zigzag -/

/-- Every reader of the tree reads back what the writers write, and reports as consumed exactly
the bytes written (the unread rest is returned untouched), whatever follows. -/
theorem C11_varint_roundtrip (rest : List UInt8) :
    (∀ v, v < 2 ^ 32 →
      Varint.decodeVarint32 (Varint.writeVarint32 v ++ rest) = some (v, rest) ∧
      Varint.readVarintRle (Varint.writeVarint32 v ++ rest) = some (v, rest) ∧
      Varint.readHeaderLevels (Varint.writeVarint32 v ++ rest) = (v, rest)) ∧
    (∀ v, v < 2 ^ 64 → Varint.decodeVarint64 (Varint.writeVarint64 v ++ rest) = some (v, rest)) := by
  refine ⟨fun v hv => ?_, fun v hv => ?_⟩
  · have h := VarintImpl.readVarintRle_write hv rest
    exact ⟨h, h, VarintImpl.readHeaderLevels_of_readVarintRle h⟩
  · rw [VarintImpl.writeVarint64_eq hv]
    have hl := Spec.Varint.encode_length_le 9 v (Nat.lt_of_lt_of_le hv (by decide))
    have := VarintImpl.readLoop_eq 64 _ 10 0 0 v rest (Spec.Varint.decode_encode_append v rest)
      (by simp only [List.length_append]; omega) (by decide) (by simpa using hv)
    simpa [Varint.decodeVarint64] using this

example : Varint.decodeVarint32 (Varint.writeVarint32 300 ++ [7]) = some (300, [7]) :=
  ((C11_varint_roundtrip [7]).1 300 (by decide)).1

/-- zigzag encode/decode are mutually inverse bijections of the 32- and 64-bit words and compute
the zigzag of the Spec. -/
theorem C11_zigzag_roundtrip :
    (∀ v : BitVec 32, Varint.zigzagDecode32 (Varint.zigzagEncode32 v) = v) ∧
    (∀ x : BitVec 32, Varint.zigzagEncode32 (Varint.zigzagDecode32 x) = x) ∧
    (∀ v : BitVec 64, Varint.zigzagDecode64 (Varint.zigzagEncode64 v) = v) ∧
    (∀ v : BitVec 32, (Varint.zigzagEncode32 v).toNat = Spec.Varint.zigzag v.toInt) ∧
    (∀ v : BitVec 64, (Varint.zigzagEncode64 v).toNat = Spec.Varint.zigzag v.toInt) ∧
    (∀ i : Int, Spec.Varint.unzigzag (Spec.Varint.zigzag i) = i) :=
  ⟨Zigzag.roundtrip32, Zigzag.roundtrip32', Zigzag.roundtrip64, Zigzag.enc32_eq_spec, Zigzag.enc64_eq_spec,
   Spec.Varint.unzigzag_zigzag⟩

/-! ### Raw bit packing -/

/-- `bitunpack8_32 ∘ bitpack8_32` is the identity on eight values below `2^w`, and
`bitunpack_32 ∘ bitpack_32` on sequences of any length (tails included) returns the values
and reports as consumed exactly the number of bytes written. -/
theorem C11_bitpack_roundtrip (w : Nat) (hw : w ≤ 32) (vs : List Nat) (hv : ∀ v ∈ vs, v < 2 ^ w) :
    (vs.length = 8 → Bitpack.unpack8 w (Bitpack.pack8 w vs) = vs) ∧
    Bitpack.unpack w (Bitpack.pack w vs) vs.length = (vs, (Bitpack.pack w vs).length) ∧
    (Bitpack.pack w vs).length = Bitpack.packedSize vs.length w := by
  refine ⟨fun h8 => ?_, BitpackTails.unpack_pack hw vs hv, ?_⟩
  · rw [BitpackImpl.unpack8_eq hw, BitpackImpl.pack8_eq hw vs h8,
      List.take_of_length_le (by rw [NatBits.leBytes_length]; exact Nat.le_refl _)]
    have := BitpackImpl.fields_of_packed w w vs hv (by rw [h8]; exact Nat.le_refl _)
    rw [h8] at this; exact this
  · rw [BitpackTails.impl_pack_eq_spec hw, BitPackSpec.pack_eq, NatBits.leBytes_length]; rfl

example : Bitpack.unpack 9 (Bitpack.pack 9 [511, 0, 1, 300, 5, 6, 7, 8, 9, 10, 11]) 11
    = ([511, 0, 1, 300, 5, 6, 7, 8, 9, 10, 11], (Bitpack.pack 9 [511, 0, 1, 300, 5, 6, 7, 8, 9, 10, 11]).length) :=
  (C11_bitpack_roundtrip 9 (by decide) [511, 0, 1, 300, 5, 6, 7, 8, 9, 10, 11] (by decide)).2.1

/-- The eight specialised unpackers (`carquet_bitunpack8_1bit` … `_8bit`, which
`carquet_bitunpack8_32` dispatches to) compute what the generic loop computes. -/
theorem C11_unpack_special_eq_general (inp : List UInt8) :
    (∀ w, 1 ≤ w → w ≤ 8 → Bitpack.unpack8 w inp = Bitpack.unpack8Generic w inp) ∧
    Bitpack.unpack8_1bit inp = Bitpack.unpack8Generic 1 inp ∧
    Bitpack.unpack8_2bit inp = Bitpack.unpack8Generic 2 inp ∧
    Bitpack.unpack8_3bit inp = Bitpack.unpack8Generic 3 inp ∧
    Bitpack.unpack8_4bit inp = Bitpack.unpack8Generic 4 inp ∧
    Bitpack.unpack8_5bit inp = Bitpack.unpack8Generic 5 inp ∧
    Bitpack.unpack8_6bit inp = Bitpack.unpack8Generic 6 inp ∧
    Bitpack.unpack8_7bit inp = Bitpack.unpack8Generic 7 inp ∧
    Bitpack.unpack8_8bit inp = Bitpack.unpack8Generic 8 inp := by
  have key : ∀ w, w ≤ 8 → Bitpack.unpack8 w inp = Bitpack.unpack8Generic w inp := fun w h => by
    rw [BitpackImpl.unpack8_eq (by omega), BitpackImpl.unpack8Generic_eq (by omega)]
  exact ⟨fun w _ h => key w h, key 1 (by decide), key 2 (by decide), key 3 (by decide), key 4 (by decide),
    key 5 (by decide), key 6 (by decide), key 7 (by decide), key 8 (by decide)⟩

/-! ### RLE / bit-packed hybrid -/

/-- `carquet_rle_decode_all` returns exactly the values `carquet_rle_encode_all` encoded: all of
them (the returned count is `|vs|`, which is how this API reports success — it has no error
result) and in order. -/
theorem C11_rle_roundtrip (w : Nat) (hw : w ≤ 32) (vs : List Nat) (hv : ∀ v ∈ vs, v < 2 ^ w) :
    Rle.decodeAll w (Rle.encode w vs) vs.length = vs ∧
    Rle.decode w (Rle.encode w vs) vs.length = .ok vs := by
  obtain ⟨pad, hr, _, _⟩ := RleEncoder.encode_runs hw vs hv
  have h : Rle.decodeAll w (Rle.encode w vs) vs.length = vs := by
    rw [RleDecoder.decodeAll_eq w hw, RleGrammar.allValues_of_runs hw hr]
    simp
  refine ⟨h, ?_⟩
  unfold Rle.decode
  rw [h, if_pos rfl]

example : Rle.decodeAll 1 (Rle.encode 1 [1, 0, 1, 1, 1, 1, 1, 1, 1, 1, 1, 1, 0]) 13
    = [1, 0, 1, 1, 1, 1, 1, 1, 1, 1, 1, 1, 0] :=
  (C11_rle_roundtrip 1 (by decide) _ (by decide)).1

/-- Levels: `carquet_rle_decode_levels` returns the int16 levels `carquet_rle_encode_levels`
encoded (levels are non-negative int16 values below `2^w`); behind a 4-byte length prefix
`carquet_rle_decode_levels_prefixed` returns them too and reports `4 + len` bytes consumed,
whatever follows the block. -/
theorem C11_rle_levels_roundtrip (w : Nat) (hw : w ≤ 32) (ls : List Int)
    (hl : ∀ l ∈ ls, 0 ≤ l ∧ l < 2 ^ w ∧ l < 32768) :
    Rle.decodeLevels w (Rle.encodeLevels w ls) ls.length = ls ∧
    ∀ tail, (Rle.encodeLevels w ls).length < 2 ^ 32 →
      Rle.decodeLevelsPrefixed w (Rle.withLengthPrefix (Rle.encodeLevels w ls) ++ tail) ls.length
        = .ok (ls, 4 + (Rle.encodeLevels w ls).length) := by
  have hmap : ls.map Rle.u32OfI16 = ls.map Int.toNat := by
    apply List.map_congr_left
    intro l h
    obtain ⟨h0, _, h2⟩ := hl l h
    unfold Rle.u32OfI16
    rw [Int.emod_eq_of_lt h0 (by omega)]
  have hback : (ls.map Int.toNat).map Int.ofNat = ls := by
    rw [List.map_map]
    conv => rhs; rw [← List.map_id ls]
    apply List.map_congr_left
    intro l h
    have := (hl l h).1
    simp only [Function.comp, id]
    exact Int.toNat_of_nonneg this
  have hvs : ∀ v ∈ ls.map Int.toNat, v < 2 ^ w := by
    intro v hv
    obtain ⟨l, hlm, rfl⟩ := List.mem_map.mp hv
    obtain ⟨h0, h1, _⟩ := hl l hlm
    have : ((l.toNat : Nat) : Int) < ((2 ^ w : Nat) : Int) := by
      rw [Int.toNat_of_nonneg h0]; simpa using h1
    exact Int.ofNat_lt.mp this
  have hsm : ∀ v ∈ ls.map Int.toNat, v < 32768 := by
    intro v hv
    obtain ⟨l, hlm, rfl⟩ := List.mem_map.mp hv
    obtain ⟨h0, _, h2⟩ := hl l hlm
    omega
  obtain ⟨pad, hr, _, _⟩ := RleEncoder.encode_runs hw (ls.map Int.toNat) hvs
  have hd : Rle.decodeLevels w (Rle.encodeLevels w ls) ls.length = ls := by
    unfold Rle.encodeLevels
    rw [hmap]
    have := RleLevels.decodeLevels_of_runs hw hr ls.length (by simp) (by
      intro v hv
      rw [List.take_append_of_le_length (by simp), List.take_of_length_le (by simp)] at hv
      exact hsm v hv)
    rw [this, List.take_append_of_le_length (by simp), List.take_of_length_le (by simp), hback]
  refine ⟨hd, fun tail hlen => ?_⟩
  unfold Rle.decodeLevelsPrefixed Rle.withLengthPrefix
  have h4 : (Bitpack.leBytes 4 (Rle.encodeLevels w ls).length).length = 4 := NatBits.leBytes_length _ _
  have hlt : ¬ (Bitpack.leBytes 4 (Rle.encodeLevels w ls).length ++ Rle.encodeLevels w ls ++ tail).length < 4 := by
    simp only [List.length_append, h4]; omega
  have htake : (Bitpack.leBytes 4 (Rle.encodeLevels w ls).length ++ Rle.encodeLevels w ls ++ tail).take 4
      = Bitpack.leBytes 4 (Rle.encodeLevels w ls).length := by
    rw [List.append_assoc, List.take_left' h4]
  have hnat : Bitpack.leNat (Bitpack.leBytes 4 (Rle.encodeLevels w ls).length) = (Rle.encodeLevels w ls).length := by
    rw [NatBits.leNat_leBytes]; exact Nat.mod_eq_of_lt hlen
  rw [if_neg hlt, htake, hnat, if_neg (by simp only [List.length_append, h4]; omega)]
  rw [List.append_assoc, List.drop_left' h4, List.take_left' rfl, hd]

example : Rle.decodeLevelsPrefixed 2 (Rle.withLengthPrefix (Rle.encodeLevels 2 [0, 1, 2, 2, 2, 2, 2, 2, 2, 2, 2, 3, 1]) ++ [9, 9])
    13 = .ok ([0, 1, 2, 2, 2, 2, 2, 2, 2, 2, 2, 3, 1], 4 + 8) :=
  (C11_rle_levels_roundtrip 2 (by decide) [0, 1, 2, 2, 2, 2, 2, 2, 2, 2, 2, 3, 1] (by decide)).2 [9, 9] (by decide)

/-- **Streaming = one-shot, under any chunking and skipping, on any input bytes.**
For every byte string (well-formed or not) and every history of `get` / `get_batch k` /
`skip k` calls, what the calls return is what the list cursor returns on the one-shot decode
`carquet_rle_decode_all(bytes, N)` for any `N` at least the number of values the history asks
for: `get` returns the next value (0 when there is none), `get_batch k` the next `k` values
(fewer only when the one-shot decode has no more), `skip k` advances by `k` and returns how
many values there were.  In particular a truncated or malformed stream makes the streaming
calls stop exactly where the one-shot decoder stops. -/
theorem C11_rle_stream_eq_oneshot (w : Nat) (hw : w ≤ 32) (bytes : List UInt8) (ops : List Rle.Op)
    (N : Nat) (hN : Rle.demand ops ≤ N) :
    Rle.runOps (Rle.Dec.init w bytes) ops = Rle.cursorOps (Rle.decodeAll w bytes N) ops := by
  rw [RleDecoder.runOps_eq_cursor ops, RleDecoder.future_init w hw,
    RleDecoder.decodeAll_eq w hw, RleDecoder.cursorOps_take ops _ N hN]

example : Rle.runOps (Rle.Dec.init 1 [0x03, 0xFD, 0x08, 0x01, 0x03, 0x00]) [.get, .skip 3, .getBatch 7, .get, .getBatch 9]
    = [.val 1, .skipped 3, .vals [1, 1, 1, 1, 1, 1, 1], .val 1, .vals [0, 0, 0, 0, 0, 0, 0, 0]] := by decide

/-! ### Counterexamples on the pinned code (regressions of the fixes) -/

/-- **Arbitrary encoder histories.**  For every sequence `ops` of `carquet_rle_encoder_put`,
`_put_repeat` and `_flush` calls (flushes anywhere, any number of them) on a fresh encoder, followed by
a final flush: `carquet_rle_decode_all` on the bytes written returns exactly the values put, in
order, interleaved with the padding the flushes introduced — after the values preceding the i-th
flush come `pads[i] < 8` zeros (`flushPad`: a flush pads a pending group of 1..7 values to a whole
group of 8; it pads nothing when a run of ≥ 8 is pending, when nothing is pending, or at a group
boundary).  `denoteWith pads` is that interleaving; erasing the pads gives the values put.  A
caller that flushes in mid-stream therefore has to account for (or avoid) these zeros; a history
without inner flushes is `C11_rle_roundtrip`. -/
theorem C11_rle_history_roundtrip (w : Nat) (hw : w ≤ 32) (ops : List Rle.EncOp)
    (hv : ∀ v ∈ Rle.histValues ops, v < 2 ^ w) :
    (Rle.flushPads (Rle.Enc.init w) (ops ++ [.flush])).length = (ops.filter (· = .flush)).length + 1 ∧
    (∀ k ∈ Rle.flushPads (Rle.Enc.init w) (ops ++ [.flush]), k < 8) ∧
    Rle.decodeAll w (Rle.runEncOps (Rle.Enc.init w) (ops ++ [.flush])).out
        (Rle.denoteWith (Rle.flushPads (Rle.Enc.init w) (ops ++ [.flush])) (ops ++ [.flush])).length
      = Rle.denoteWith (Rle.flushPads (Rle.Enc.init w) (ops ++ [.flush])) (ops ++ [.flush]) ∧
    Rle.denoteWith ((Rle.flushPads (Rle.Enc.init w) (ops ++ [.flush])).map (fun _ => 0)) (ops ++ [.flush])
      = Rle.histValues ops := by
  obtain ⟨hr, h1, h2⟩ := RleHistory.history_runs hw ops hv
  refine ⟨h1, h2, ?_, ?_⟩
  · rw [RleDecoder.decodeAll_eq w hw, RleGrammar.allValues_of_runs hw hr]
    simp
  · rw [RleHistory.denoteWith_zero _ _ (by intro k hk; simp only [List.mem_map] at hk; obtain ⟨_, _, rfl⟩ := hk; rfl),
      RleHistory.histValues_append_flush]

/-- non-vacuity: put 1, flush (7 zeros of padding), 9 × 5 (an RLE run: no padding), flush, put 2, put 2 -/
example : Rle.flushPads (Rle.Enc.init 3) [.put 1, .flush, .rep 5 9, .flush, .put 2, .put 2, .flush] = [7, 0, 6] ∧
    (Rle.runEncOps (Rle.Enc.init 3) [.put 1, .flush, .rep 5 9, .flush, .put 2, .put 2, .flush]).out =
      [0x03, 0x01, 0x00, 0x00, 0x12, 0x05, 0x03, 0x12, 0x00, 0x00] ∧
    Rle.decodeAll 3 [0x03, 0x01, 0x00, 0x00, 0x12, 0x05, 0x03, 0x12, 0x00, 0x00] 25 =
      [1, 0, 0, 0, 0, 0, 0, 0, 5, 5, 5, 5, 5, 5, 5, 5, 5, 2, 2, 0, 0, 0, 0, 0, 0] := by decide

/-- F1 (pinned `flush_bitpack` before an RLE run): the bytes the pinned encoder emits for
`[1,0,1,1,1,1,1,1,1,1,1,1,0]` at width 1 are `03 01 14 01 03 00`, which denote
`1,0,0,0,0,0,0,0,1,1,1,1,1,…` for carquet's decoder and for the Spec decoder alike. -/
theorem C11_regression_F1 :
    RlePreFix.encode 1 [1, 0, 1, 1, 1, 1, 1, 1, 1, 1, 1, 1, 0] = [0x03, 0x01, 0x14, 0x01, 0x03, 0x00] ∧
    Rle.decodeAll 1 (RlePreFix.encode 1 [1, 0, 1, 1, 1, 1, 1, 1, 1, 1, 1, 1, 0]) 13
      = [1, 0, 0, 0, 0, 0, 0, 0, 1, 1, 1, 1, 1] ∧
    Spec.RleHybrid.decode 1 (RlePreFix.encode 1 [1, 0, 1, 1, 1, 1, 1, 1, 1, 1, 1, 1, 0]) 13
      = .ok [1, 0, 0, 0, 0, 0, 0, 0, 1, 1, 1, 1, 1] := by decide

/-- F30 (pinned `flush_rle` header `(uint32_t)(repeat_count << 1)`): after 2^31 equal values
(`put_repeat(5, 1 << 31)`: one `put` then `repeat_count` incremented 2^31 − 1 times) the pinned
`flush` writes `00 05`, an empty run: every value is lost. -/
theorem C11_regression_F30 :
    (RlePreFix.flush { Rle.put (Rle.Enc.init 3) 5 with rep := 2 ^ 31 }).out = [0x00, 0x05] ∧
    Rle.decodeAll 3 [0x00, 0x05] 10 = [] ∧
    (Rle.flush { Rle.put (Rle.Enc.init 3) 5 with rep := 2 ^ 31 }).out
      = [0xFE, 0xFF, 0xFF, 0xFF, 0x0F, 0x05, 0x02, 0x05] := by decide

/-- F32 (pinned tails of `carquet_bitpack_32` / `carquet_bitunpack_32`): one 32-bit value is
reported as 4 bytes but 32 bytes of the caller's buffer are written / read. -/
theorem C11_regression_F32 :
    Bitpack.packedSize 1 32 = 4 ∧ Bitpack.touchedPreFix 32 1 = 32 := by decide

/-- F33 (pinned `4 + rle_length > input_size` in 32 bits): a 6-byte input whose prefix says
4294967295 passes the pinned length test. -/
theorem C11_regression_F33 :
    RlePreFix.prefixCheck [0xFF, 0xFF, 0xFF, 0xFF, 0x02, 0x01] = .accepted 4294967295 ∧
    Rle.decodeLevelsPrefixed 1 [0xFF, 0xFF, 0xFF, 0xFF, 0x02, 0x01] 5 = .error .lengthExceedsInput := by decide

/-- F58 (pinned `carquet_rle_decode_levels`: a bit-packed group that is cut short only `break`s the
group loop): width 3, one announced group of which 2 of 3 bytes are present — the pinned loop
parses the remains `02 FF` as an RLE run header and returns the level 7 made of them; the repaired
loop stops (no level).  The same at width 8 with remains `02 05`. -/
theorem C11_regression_F58 :
    Rle.decodeLevelsPreF58 3 [0x03, 0x02, 0xFF] 1 = [7] ∧ Rle.decodeLevels 3 [0x03, 0x02, 0xFF] 1 = [] ∧
    Rle.decodeLevelsPreF58 8 [0x03, 0x02, 0x05] 4 = [5] ∧ Rle.decodeLevels 8 [0x03, 0x02, 0x05] 4 = [] := by decide

end Carquet.Properties.C11
