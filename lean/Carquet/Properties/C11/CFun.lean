import Carquet.Impl.CSem
import Carquet.Impl.Varint
import Carquet.Impl.Delta
import Carquet.Impl.Dictionary
import Carquet.Impl.Bitpack
import Carquet.Gen.CFun
import Carquet.Proofs.CFun.Basic
import Carquet.Proofs.CFun.Loops
import Carquet.Proofs.CFun.Bits
import Carquet.Proofs.DeltaBitLoop
/-
C11 — link theorems between the scalar helpers of the encoders (src/core/endian.h zigzag, src/encoding/delta.c
`zigzag_encode64 / zigzag_decode64 / bit_width_required`, src/encoding/dictionary.c `bit_width_for_count`,
src/core/bitpack.h `carquet_packed_size`, `carquet_bit_width32/64`, `carquet_clz32/64`) as translated from the CURRENT
source (`Carquet.Gen.CFun`, regenerated on every run) and the models the C11/C12 theorems are about (`Impl.Varint`,
`Impl.Delta`, `Impl.Dictionary`, `Impl.Bitpack`).
-/
namespace Carquet.Properties.C11
open Carquet Carquet.Impl
open Carquet.Impl.CSem (bitLen)

/-! ### zigzag (core/endian.h) -/

theorem C11_cfun_zigzag_encode32 (v : BitVec 32) :
    Gen.CFun.carquet_zigzag_encode32 v = Impl.Varint.zigzagEncode32 v := rfl
theorem C11_cfun_zigzag_encode32_defined (v : BitVec 32) : Gen.CFun.carquet_zigzag_encode32_defined v = true := rfl

theorem C11_cfun_zigzag_encode64 (v : BitVec 64) :
    Gen.CFun.carquet_zigzag_encode64 v = Impl.Varint.zigzagEncode64 v := rfl
theorem C11_cfun_zigzag_encode64_defined (v : BitVec 64) : Gen.CFun.carquet_zigzag_encode64_defined v = true := rfl

theorem C11_cfun_zigzag_decode32 (v : BitVec 32) :
    Gen.CFun.carquet_zigzag_decode32 v = Impl.Varint.zigzagDecode32 v := rfl
/-- `-(int32_t)(v & 1)` negates 0 or 1: never `INT_MIN` -/
theorem C11_cfun_zigzag_decode32_defined (v : BitVec 32) : Gen.CFun.carquet_zigzag_decode32_defined v = true :=
  Proofs.CFun.sNegOk_and_one v

theorem C11_cfun_zigzag_decode64 (v : BitVec 64) :
    Gen.CFun.carquet_zigzag_decode64 v = Impl.Varint.zigzagDecode64 v := rfl
theorem C11_cfun_zigzag_decode64_defined (v : BitVec 64) : Gen.CFun.carquet_zigzag_decode64_defined v = true :=
  Proofs.CFun.sNegOk_and_one v

example : Gen.CFun.carquet_zigzag_encode32 (BitVec.ofInt 32 (-3)) = 5#32 ∧
    Gen.CFun.carquet_zigzag_decode32 5#32 = BitVec.ofInt 32 (-3) ∧
    Gen.CFun.carquet_zigzag_encode64 (BitVec.ofInt 64 (-3)) = 5#64 ∧
    Gen.CFun.carquet_zigzag_decode64 5#64 = BitVec.ofInt 64 (-3) := by decide

/-! ### delta.c -/

theorem C11_cfun_delta_zigzag_decode64 (n : BitVec 64) :
    Gen.CFun.delta_zigzag_decode64 n = Impl.Delta.zigzagDecode64 n := rfl
theorem C11_cfun_delta_zigzag_decode64_defined (n : BitVec 64) : Gen.CFun.delta_zigzag_decode64_defined n = true := rfl

theorem C11_cfun_delta_zigzag_encode64 (n : BitVec 64) :
    Gen.CFun.delta_zigzag_encode64 n = Impl.Delta.zigzagEncode64 n := rfl
theorem C11_cfun_delta_zigzag_encode64_defined (n : BitVec 64) : Gen.CFun.delta_zigzag_encode64_defined n = true := rfl

example : Gen.CFun.delta_zigzag_encode64 (BitVec.ofInt 64 (-3)) = 5#64 ∧
    Gen.CFun.delta_zigzag_decode64 5#64 = BitVec.ofInt 64 (-3) := by decide

/-- `bit_width_required(value)` is the model's `bitWidthRequired`, for every `uint64_t`; the translated loop needs at
most 65 condition tests (the fuel in translate/gen_cfun.py) and `width++` stays far from `INT_MAX`. -/
theorem C11_cfun_bit_width_required (v : BitVec 64) :
    (Gen.CFun.bit_width_required v).toNat = Impl.Delta.bitWidthRequired v := by
  rw [(Proofs.CFun.bit_width_required_eq v).1, Impl.Delta.bitWidthRequired,
    Proofs.bitLoop_eq Impl.Delta.bitWidthLoop (fun _ _ => rfl) (fun _ _ _ => rfl) 64 v.toNat 0 v.isLt, Nat.zero_add]
  exact (ite_eq_right_iff.mpr fun h => by rw [h]; rfl).symm

theorem C11_cfun_bit_width_required_defined (v : BitVec 64) : Gen.CFun.bit_width_required_defined v = true :=
  (Proofs.CFun.bit_width_required_eq v).2

example : (Gen.CFun.bit_width_required 5#64).toNat = 3 ∧ Impl.Delta.bitWidthRequired 5#64 = 3 ∧
    (Gen.CFun.bit_width_required (BitVec.allOnes 64)).toNat = 64 ∧
    Gen.CFun.bit_width_required_defined (BitVec.allOnes 64) = true := by decide +kernel

/-! ### dictionary.c -/

/-- `bit_width_for_count(count)` is the model's `bitWidthForCount`, for every `uint32_t`; fuel 33 suffices -/
theorem C11_cfun_bit_width_for_count (c : BitVec 32) :
    (Gen.CFun.bit_width_for_count c).toNat = Impl.Dictionary.bitWidthForCount c.toNat := by
  rw [Impl.Dictionary.bitWidthForCount, Nat.mod_eq_of_lt c.isLt]
  by_cases h0 : c = 0#32
  · subst h0; rfl
  · rw [(Proofs.CFun.bit_width_for_count_eq c h0).1, if_neg fun e : c.toNat = 0 => h0 (BitVec.eq_of_toNat_eq e),
      Proofs.bitLoop_eq Impl.Dictionary.widthLoop (fun _ _ => rfl) (fun _ _ _ => rfl) 32 (c.toNat - 1) 0
        (Nat.lt_of_le_of_lt (Nat.sub_le _ _) c.isLt), Nat.zero_add]
    rfl

theorem C11_cfun_bit_width_for_count_defined (c : BitVec 32) : Gen.CFun.bit_width_for_count_defined c = true := by
  by_cases h0 : c = 0#32
  · subst h0; rfl
  · exact (Proofs.CFun.bit_width_for_count_eq c h0).2

example : (Gen.CFun.bit_width_for_count 5#32).toNat = 3 ∧ Impl.Dictionary.bitWidthForCount 5 = 3 ∧
    (Gen.CFun.bit_width_for_count 1#32).toNat = 1 ∧ (Gen.CFun.bit_width_for_count (BitVec.allOnes 32)).toNat = 32 ∧
    Gen.CFun.bit_width_for_count_defined (BitVec.allOnes 32) = true := by decide +kernel

/-! ### core/bitpack.h -/

/-- `carquet_packed_size(count, bit_width)` is the model's `packedSize` for a non-negative `int` width whenever
`count * bit_width + 7` fits a `size_t` (beyond that the C multiplication wraps; a negative width is converted to a
huge `size_t`). -/
theorem C11_cfun_packed_size (count : BitVec 64) (w : BitVec 32) (hw : 0 ≤ w.toInt)
    (h : count.toNat * w.toInt.toNat + 7 < 2 ^ 64) :
    (Gen.CFun.carquet_packed_size count w).toNat = Impl.Bitpack.packedSize count.toNat w.toInt.toNat := by
  have hx := Proofs.CSem.sext_of_nonneg (u := 64) w hw (by decide)
  unfold Gen.CFun.carquet_packed_size Impl.Bitpack.packedSize
  have hmul : (count * BitVec.signExtend 64 w).toNat = count.toNat * w.toInt.toNat := by
    rw [BitVec.toNat_mul, hx]; exact Nat.mod_eq_of_lt (by omega)
  have hadd : (count * BitVec.signExtend 64 w + 7#64).toNat = count.toNat * w.toInt.toNat + 7 := by
    rw [BitVec.toNat_add, hmul]; exact Nat.mod_eq_of_lt h
  rw [BitVec.toNat_udiv, hadd]
  rfl

theorem C11_cfun_packed_size_defined (count : BitVec 64) (w : BitVec 32) :
    Gen.CFun.carquet_packed_size_defined count w = true := by
  simp [Gen.CFun.carquet_packed_size_defined]

example : (0 : Int) ≤ (3#32 : BitVec 32).toInt ∧ (1000#64).toNat * (3#32 : BitVec 32).toInt.toNat + 7 < 2 ^ 64 ∧
    (Gen.CFun.carquet_packed_size 1000#64 3#32).toNat = 375 ∧ Impl.Bitpack.packedSize 1000 3 = 375 := by decide

/-- `carquet_clz32(v)` = 32 − (number of bits of `v`), for every `v` (32 for 0, where the builtin is not called) -/
theorem C11_cfun_clz32 (v : BitVec 32) : (Gen.CFun.carquet_clz32 v).toNat = 32 - bitLen v.toNat := by
  rw [Gen.CFun.carquet_clz32, Proofs.CFun.ite_beq_zero v 32#32 CSem.builtinClz rfl, Proofs.CFun.clz_toNat v (by decide)]

theorem C11_cfun_clz32_defined (v : BitVec 32) : Gen.CFun.carquet_clz32_defined v = true :=
  Proofs.CFun.builtinNonZero_guard v

theorem C11_cfun_clz64 (v : BitVec 64) : (Gen.CFun.carquet_clz64 v).toNat = 64 - bitLen v.toNat := by
  rw [Gen.CFun.carquet_clz64, Proofs.CFun.ite_beq_zero v 64#32 CSem.builtinClz rfl, Proofs.CFun.clz_toNat v (by decide)]

theorem C11_cfun_clz64_defined (v : BitVec 64) : Gen.CFun.carquet_clz64_defined v = true :=
  Proofs.CFun.builtinNonZero_guard v

example : (Gen.CFun.carquet_clz32 1#32).toNat = 31 ∧ (Gen.CFun.carquet_clz32 0#32).toNat = 32 ∧
    (Gen.CFun.carquet_clz64 0x8000000000000000#64).toNat = 0 := by decide

/-- `carquet_bit_width32(v)` is the number of bits of `v` (`Nat.log2 v + 1`, 0 for 0), for every `v` -/
theorem C11_cfun_bit_width32 (v : BitVec 32) : (Gen.CFun.carquet_bit_width32 v).toNat = bitLen v.toNat := by
  rw [Gen.CFun.carquet_bit_width32, Proofs.CFun.ite_beq_zero v 0#32 (32#32 - Gen.CFun.carquet_clz32 ·) rfl]
  exact (Proofs.CFun.width_of_clz 32 _ _ (C11_cfun_clz32 v) (Proofs.CFun.bitLen_le_of_lt _ 32 v.isLt) (by decide)).1

theorem C11_cfun_bit_width32_defined (v : BitVec 32) : Gen.CFun.carquet_bit_width32_defined v = true := by
  rw [Gen.CFun.carquet_bit_width32_defined, C11_cfun_clz32_defined,
    (Proofs.CFun.width_of_clz 32 _ _ (C11_cfun_clz32 v) (Proofs.CFun.bitLen_le_of_lt _ 32 v.isLt) (by decide)).2]
  exact ite_self _

theorem C11_cfun_bit_width64 (v : BitVec 64) : (Gen.CFun.carquet_bit_width64 v).toNat = bitLen v.toNat := by
  rw [Gen.CFun.carquet_bit_width64, Proofs.CFun.ite_beq_zero v 0#32 (64#32 - Gen.CFun.carquet_clz64 ·) rfl]
  exact (Proofs.CFun.width_of_clz 64 _ _ (C11_cfun_clz64 v) (Proofs.CFun.bitLen_le_of_lt _ 64 v.isLt) (by decide)).1

theorem C11_cfun_bit_width64_defined (v : BitVec 64) : Gen.CFun.carquet_bit_width64_defined v = true := by
  rw [Gen.CFun.carquet_bit_width64_defined, C11_cfun_clz64_defined,
    (Proofs.CFun.width_of_clz 64 _ _ (C11_cfun_clz64 v) (Proofs.CFun.bitLen_le_of_lt _ 64 v.isLt) (by decide)).2]
  exact ite_self _

example : (Gen.CFun.carquet_bit_width32 5#32).toNat = 3 ∧ bitLen 5 = 3 ∧
    (Gen.CFun.carquet_bit_width64 (BitVec.allOnes 64)).toNat = 64 := by decide

/-- `carquet_ctz32(v)` is the index of the lowest set bit of a non-zero `v` (and 32 for 0, where the builtin is not
called) -/
theorem C11_cfun_ctz32 (v : BitVec 32) (h : v ≠ 0#32) :
    (Gen.CFun.carquet_ctz32 v).toNat < 32 ∧ v.toNat % 2 ^ (Gen.CFun.carquet_ctz32 v).toNat = 0 ∧
    v.toNat / 2 ^ (Gen.CFun.carquet_ctz32 v).toNat % 2 = 1 := by
  have hne : v.toNat ≠ 0 := fun e => h (BitVec.eq_of_toNat_eq e)
  obtain ⟨a, b, c⟩ := Proofs.CFun.ctzAux_spec 32 v.toNat hne v.isLt
  have e : (Gen.CFun.carquet_ctz32 v).toNat = CSem.ctzAux 32 v.toNat := by
    simp only [Gen.CFun.carquet_ctz32, beq_iff_eq, h, if_false, CSem.builtinCtz, CSem.ctzNat, hne, BitVec.toNat_ofNat]
    omega
  rw [e]; exact ⟨a, b, c⟩

theorem C11_cfun_ctz32_zero : Gen.CFun.carquet_ctz32 0#32 = 32#32 := rfl

theorem C11_cfun_ctz32_defined (v : BitVec 32) : Gen.CFun.carquet_ctz32_defined v = true :=
  Proofs.CFun.builtinNonZero_guard v

example : (Gen.CFun.carquet_ctz32 40#32).toNat = 3 ∧ (40#32 : BitVec 32) ≠ 0#32 := by decide

/-- `carquet_popcount32(v)` / `carquet_popcount64(v)` is the number of set bits of `v` -/
theorem C11_cfun_popcount32 (v : BitVec 32) :
    (Gen.CFun.carquet_popcount32 v).toNat = Proofs.CFun.bitCount 32 v.toNat :=
  Proofs.CFun.popcount_toNat v (by decide)

theorem C11_cfun_popcount64 (v : BitVec 64) :
    (Gen.CFun.carquet_popcount64 v).toNat = Proofs.CFun.bitCount 64 v.toNat :=
  Proofs.CFun.popcount_toNat v (by decide)

theorem C11_cfun_popcount32_defined (v : BitVec 32) : Gen.CFun.carquet_popcount32_defined v = true := rfl
theorem C11_cfun_popcount64_defined (v : BitVec 64) : Gen.CFun.carquet_popcount64_defined v = true := rfl

example : (Gen.CFun.carquet_popcount32 0xF0F0#32).toNat = 8 ∧ Proofs.CFun.bitCount 32 0xF0F0 = 8 ∧
    (Gen.CFun.carquet_popcount64 (BitVec.allOnes 64)).toNat = 64 := by decide

end Carquet.Properties.C11
