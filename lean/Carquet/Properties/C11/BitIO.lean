import Carquet.Impl.BitIO
import Carquet.Proofs.BitIORoundtrip
import Carquet.Proofs.DeltaBitpack
/-
C11 — the bit stream writer / reader pair of src/core/bitpack.c decodes its own output (repaired code,
F81), and the delta model's own bit packer is the loop-level model of `carquet_bitpack_32`.
-/
namespace Carquet.Properties.C11
open Carquet Carquet.Impl.BitIO Carquet.Proofs.BitIO

/-- **Bit IO round trip.**  For any sequence of `write_bit` / `write_bits(v, n)` / `write_bits64(v, n)` calls
(any values, any `n` — counts above 32 / 64 are clamped, values are cut to their width) followed by `flush`,
into a buffer whose capacity is at least `⌈total bits / 8⌉`: exactly that many bytes are written, and
reading them back with the matching `read_bit` / `read_bits(n)` / `read_bits64(n)` calls returns, call by
call, the values written (reduced to their widths).  The capacity hypothesis is exact: with one byte less
the last byte is missing (see `C08_bitwriter_writes_le_capacity` for what is stored then). -/
theorem C11_bitio_roundtrip (cap : Nat) (ops : List WOp) (hn : WOp.flush ∉ ops)
    (hcap : (totalBits ops + 7) / 8 ≤ cap) :
    (flush (wrun (Writer.init cap) ops)).out.length = (totalBits ops + 7) / 8 ∧
    (rrun (Reader.init (flush (wrun (Writer.init cap) ops)).out) (readsOf ops)).1 = expectOf ops := by
  obtain ⟨h1, h2⟩ := roundtrip cap ops hn hcap
  exact ⟨by rw [h1, Proofs.NatBits.leBytes_length], h2⟩

/-- non-vacuity: bits, a 20-bit, two 32-bit and a 50-bit field — 135 bits, 17 bytes; the second example is
the F81 witness history (20 + 20 + 32 bits) on the repaired code -/
example : (flush (wrun (Writer.init 17) [.bit 1, .bits 0xABCDE 20, .bits 0xFFFFFFFF 32, .bits 0x12345678 32, .bits64 0x2AAAAAAAAAAAA 50])).out.length = 17 ∧
    (rrun (Reader.init (flush (wrun (Writer.init 17) [.bit 1, .bits 0xABCDE 20, .bits 0xFFFFFFFF 32, .bits 0x12345678 32, .bits64 0x2AAAAAAAAAAAA 50])).out)
      [.bit, .bits 20, .bits 32, .bits 32, .bits64 50]).1 =
    [.bit 1, .val 0xABCDE, .val 0xFFFFFFFF, .val 0x12345678, .val 0x2AAAAAAAAAAAA] := by decide +kernel

/-- F81 on the pinned code (before fixes/F81-bit-writer-accumulator-overflow.patch), data side:
`write_bits` OR-ed `value << buffer_bits` into the 64-bit accumulator with up to 55 bits pending; with 40
bits pending a 32-bit value loses its top 8 bits.  `write_bits(0xFFFFF, 20)` twice, then
`write_bits(0xFFFFFFFF, 32)`, flush: the pinned writer stores `… 00` as ninth byte and the reader gets
0x00FFFFFF back; the repaired writer stores nine `FF` (replay corpus/C11/F81-bit-writer.ops). -/
theorem C11_regression_F81 :
    ((writeBitsPreFix (Writer.init 16) 0xFFFFF 20).bind (fun w => (writeBitsPreFix w 0xFFFFF 20).bind
        (fun w => (writeBitsPreFix w 0xFFFFFFFF 32).map flushPreFix))).toOption.map (·.out) =
      some [0xFF, 0xFF, 0xFF, 0xFF, 0xFF, 0xFF, 0xFF, 0xFF, 0x00] ∧
    (rrun (Reader.init [0xFF, 0xFF, 0xFF, 0xFF, 0xFF, 0xFF, 0xFF, 0xFF, 0x00]) [.bits 20, .bits 20, .bits 32]).1 =
      [.val 0xFFFFF, .val 0xFFFFF, .val 0x00FFFFFF] ∧
    (wrun (Writer.init 16) [.bits 0xFFFFF 20, .bits 0xFFFFF 20, .bits 0xFFFFFFFF 32, .flush]).out =
      [0xFF, 0xFF, 0xFF, 0xFF, 0xFF, 0xFF, 0xFF, 0xFF, 0xFF] := by
  decide +kernel

/-- **The delta model's bit packer is `carquet_bitpack_32` / `carquet_bitunpack_32`.**  `Impl.Delta.packBits`
and `unpackBits` were written as the delta component's own LSB-first definition of the two functions
("abstract" until now).  For every width the delta code passes to them (`w ≤ 32`; wider miniblocks go
through `bitpack_wide`) and any number of values they ARE the loop-by-loop model of src/core/bitpack.c:
`packBits w vals = Impl.Bitpack.pack w (the (uint32_t) casts of vals)`, and on a buffer that holds `count`
values `unpackBits w count bytes = Impl.Bitpack.unpack w bytes count`, widened to 64 bits. -/
theorem C11_delta_packbits_eq_bitpack (w : Nat) (hw : w ≤ 32) (vals : List (BitVec 64)) (count : Nat)
    (bytes : List UInt8) :
    Impl.Delta.packBits w vals = Impl.Bitpack.pack w (vals.map (fun v => v.toNat % 2 ^ 32)) ∧
    (count * w ≤ 8 * bytes.length →
      Impl.Delta.unpackBits w count bytes = (Impl.Bitpack.unpack w bytes count).1.map (BitVec.ofNat 64)) :=
  ⟨Proofs.DeltaBitpack.packBits_eq_bitpack hw vals, Proofs.DeltaBitpack.unpackBits_eq_bitpack hw count bytes⟩

example : Impl.Delta.packBits 9 [511#64, 0#64, 0x100000001#64] = Impl.Bitpack.pack 9 [511, 0, 1] ∧
    Impl.Delta.unpackBits 9 3 [0xFF, 0x01, 0x04, 0x00] = [511#64, 0#64, 1#64] := by decide +kernel

end Carquet.Properties.C11
