import Carquet.Proofs.DeltaTop
import Carquet.Proofs.DeltaBytes
import Carquet.Proofs.DeltaImplCap
import Carquet.Proofs.DeltaBytesCap
/-
C11 — every encoding decodes its own output: DELTA_BINARY_PACKED (int32 and int64).
Property statements only; helper lemmas live in Carquet/Proofs/Delta*.lean.
The models are those of the repaired code (fixes/F13-…, fixes/F30-…).
-/
namespace Carquet.Properties.C11
open Carquet

/-- DELTA_BINARY_PACKED, INT64: for every non-empty value sequence the API can express (any
length up to `INT32_MAX`, any values: wrap-around deltas, `INT64_MIN`/`INT64_MAX` alternating,
every block-boundary length) and every capacity with which `carquet_delta_encode_int64` returns
OK, `carquet_delta_decode_int64` on the written bytes — followed by anything — returns exactly the
values, and `bytes_consumed` is the number of bytes written. -/
theorem C11_delta_int64_roundtrip (vs : List (BitVec 64)) (cap : Nat) (bs tail : List UInt8)
    (hne : vs ≠ []) (hlen : vs.length ≤ 2147483647)
    (henc : Impl.Delta.encodeInt64 vs cap = .ok bs) :
    Impl.Delta.decodeInt64 (bs ++ tail) vs.length = .ok (vs, bs.length) :=
  Impl.Delta.int64_roundtrip vs cap bs tail hne hlen henc

/-- DELTA_BINARY_PACKED, INT32 (deltas are taken on the sign-extended values in 64 bits, so
`INT32_MIN, INT32_MAX, INT32_MIN` needs a 33-bit miniblock — the case F13 broke). -/
theorem C11_delta_int32_roundtrip (vs : List (BitVec 32)) (cap : Nat) (bs tail : List UInt8)
    (hne : vs ≠ []) (hlen : vs.length ≤ 2147483647)
    (henc : Impl.Delta.encodeInt32 vs cap = .ok bs) :
    Impl.Delta.decodeInt32 (bs ++ tail) vs.length = .ok (vs, bs.length) :=
  Impl.Delta.int32_roundtrip vs cap bs tail hne hlen henc

/-- The encoders succeed whenever the output buffer has the 40 bytes the header check asks for and
`27 + 1038` bytes per started block of 128 deltas (the real need is usually far smaller: the exact
condition proved in `Impl.Delta.encodeV_succeeds` is "final size + 9 ≤ capacity"), so with an
adequate buffer the round trips above are unconditional. -/
theorem C11_delta_encode_succeeds :
    (∀ (vs : List (BitVec 64)) (cap : Nat), vs ≠ [] → vs.length ≤ 2147483647 → 40 ≤ cap →
      27 + 1038 * ((vs.length + 126) / 128) ≤ cap → ∃ bs, Impl.Delta.encodeInt64 vs cap = .ok bs) ∧
    (∀ (vs : List (BitVec 32)) (cap : Nat), vs ≠ [] → vs.length ≤ 2147483647 → 40 ≤ cap →
      27 + 1038 * ((vs.length + 126) / 128) ≤ cap → ∃ bs, Impl.Delta.encodeInt32 vs cap = .ok bs) := by
  constructor
  · intro vs cap hne hlen h40 hcap
    cases vs with
    | nil => exact absurd rfl hne
    | cons v rest =>
      exact Impl.Delta.encodeV_succeeds_of_cap v rest cap (by simpa using hlen) h40 (by simpa using hcap)
  · exact fun vs cap hne hlen h40 hcap => Impl.Delta.encodeInt32_succeeds vs cap hne hlen h40 hcap

/-- non-vacuity: a concrete encode succeeds (33-bit miniblock, two blocks would need 130 values;
this one exercises the header, one block, a 33-bit width); the round trip is the theorem's, the size
is the value the kernel computes. -/
example : ∃ bs, Impl.Delta.encodeInt32 [0x80000000#32, 0x7FFFFFFF#32, 0x80000000#32] 400 = .ok bs ∧
    Impl.Delta.decodeInt32 bs 3 = .ok ([0x80000000#32, 0x7FFFFFFF#32, 0x80000000#32], bs.length) ∧
    bs.length = 4 + 5 + 5 + 4 + 132 := by
  obtain ⟨bs, h, hl⟩ := Impl.Delta.exists_ok (Impl.Delta.encodeInt32 [0x80000000#32, 0x7FFFFFFF#32, 0x80000000#32] 400)
    (fun bs => bs.length = 4 + 5 + 5 + 4 + 132) (by decide +kernel)
  exact ⟨bs, h, by simpa using C11_delta_int32_roundtrip _ 400 bs [] (by decide) (by decide) h, hl⟩

example : ∃ bs, Impl.Delta.encodeInt64 [0x8000000000000000#64, 0x7FFFFFFFFFFFFFFF#64, 0x8000000000000000#64, 5#64] 400 = .ok bs ∧
    Impl.Delta.decodeInt64 bs 4 = .ok ([0x8000000000000000#64, 0x7FFFFFFFFFFFFFFF#64, 0x8000000000000000#64, 5#64], bs.length) := by
  obtain ⟨bs, h, _⟩ := Impl.Delta.exists_ok (Impl.Delta.encodeInt64
    [0x8000000000000000#64, 0x7FFFFFFFFFFFFFFF#64, 0x8000000000000000#64, 5#64] 400) (fun _ => True) (by decide +kernel)
  exact ⟨bs, h, by simpa using C11_delta_int64_roundtrip _ 400 bs [] (by decide) (by decide) h⟩

/-- The length-0 edge, stated as it is observable: encoding zero values succeeds and writes zero
bytes, but zero bytes are not a decodable stream (no header): the decoder reports
`CARQUET_ERROR_DECODE` even when asked for zero values.  `decode (encode []) = []` therefore
does NOT hold at length 0; see NOTES_delta.md. -/
theorem C11_delta_empty_edge (cap : Nat) :
    Impl.Delta.encodeInt64 [] cap = .ok [] ∧ Impl.Delta.encodeInt32 [] cap = .ok [] ∧
    Impl.Delta.decodeInt64 [] 0 = .error .decode ∧ Impl.Delta.decodeInt32 [] 0 = .error .decode := by
  refine ⟨rfl, rfl, ?_, ?_⟩ <;> decide

/-- DELTA_LENGTH_BYTE_ARRAY: for every non-empty list of byte arrays (each shorter than 2 GiB, as
the `int32_t length` field requires; empty strings allowed) for which
`carquet_delta_length_encode` returns OK, `carquet_delta_length_decode` on the produced bytes —
followed by anything — returns the byte arrays and reports `bytes_consumed` = bytes produced.
(The encoder's internal capacity `10·n + 100` for the length stream can be exceeded for n ≤ 5 with
length jumps ≥ 2^27; the call then returns `CARQUET_ERROR_ENCODE`, see NOTES_delta.md.) -/
theorem C11_delta_length_roundtrip (vs : List (List UInt8)) (bs tail : List UInt8) (hne : vs ≠ [])
    (hlen : vs.length ≤ 2147483647) (hv : ∀ v ∈ vs, v.length < 2 ^ 31)
    (henc : Impl.DeltaLength.encode vs = .ok bs) :
    Impl.DeltaLength.decode (bs ++ tail) vs.length = .ok (vs, bs.length) :=
  Impl.DeltaLength.roundtrip vs bs tail hne hlen hv henc

/-- DELTA_BYTE_ARRAY (incremental / prefix encoding): same statement; the caller's work buffer
must hold the reconstructed strings (`Σ length ≤ work`). -/
theorem C11_delta_strings_roundtrip (vs : List (List UInt8)) (bs tail : List UInt8) (work : Nat)
    (hne : vs ≠ []) (hlen : vs.length ≤ 2147483647) (hv : ∀ v ∈ vs, v.length < 2 ^ 31)
    (hwork : (vs.map List.length).sum ≤ work) (henc : Impl.DeltaStrings.encode vs = .ok bs) :
    Impl.DeltaStrings.decode (bs ++ tail) vs.length work = .ok (vs, bs.length) :=
  Impl.DeltaStrings.roundtrip vs bs tail work hne hlen hv hwork henc

/-- Success of the byte-array encoders, characterised: `carquet_delta_length_encode` and
`carquet_delta_strings_encode` return OK for **every** non-empty list of byte arrays the API can
express (`num_values` is an `int32_t`; nothing is asked of the values).  The only way they could
fail on the model — allocation aside — is the fixed scratch buffer their length streams are encoded
into; its capacity is re-extracted from the source on every run (`Gen.deltaLengthScratch`,
`Gen.deltaStringsScratch`) and proved sufficient (`40 + 1038·⌈n/128⌉ ≥` the 40-byte header check and
`27 + 1038` per started block of `C11_delta_encode_succeeds`).  With `num_values ≤ 0` both return
`CARQUET_ERROR_INVALID_ARGUMENT`.  So success is exactly `values ≠ []`. -/
theorem C11_delta_bytes_encode_succeeds (vs : List (List UInt8)) (hlen : vs.length ≤ 2147483647) :
    ((∃ bs, Impl.DeltaLength.encode vs = .ok bs) ↔ vs ≠ []) ∧
    ((∃ bs, Impl.DeltaStrings.encode vs = .ok bs) ↔ vs ≠ []) := by
  constructor
  · constructor
    · rintro ⟨bs, h⟩ rfl; simp [Impl.DeltaLength.encode] at h
    · intro hne; exact Impl.DeltaLength.encode_succeeds vs hne hlen
  · constructor
    · rintro ⟨bs, h⟩ rfl; simp [Impl.DeltaStrings.encode] at h
    · intro hne; exact Impl.DeltaStrings.encode_succeeds vs hne hlen

/-- DELTA_LENGTH_BYTE_ARRAY round trip without a condition on the encoder's status: for every
non-empty list of byte arrays (each shorter than 2 GiB — the `int32_t length` field) the encoder
succeeds, and the decoder on the produced bytes — followed by anything — returns the byte arrays and
`bytes_consumed` = bytes produced. -/
theorem C11_delta_length_roundtrip_total (vs : List (List UInt8)) (tail : List UInt8) (hne : vs ≠ [])
    (hlen : vs.length ≤ 2147483647) (hv : ∀ v ∈ vs, v.length < 2 ^ 31) :
    ∃ bs, Impl.DeltaLength.encode vs = .ok bs ∧
      Impl.DeltaLength.decode (bs ++ tail) vs.length = .ok (vs, bs.length) := by
  obtain ⟨bs, h⟩ := Impl.DeltaLength.encode_succeeds vs hne hlen
  exact ⟨bs, h, Impl.DeltaLength.roundtrip vs bs tail hne hlen hv h⟩

/-- DELTA_BYTE_ARRAY round trip without a condition on the encoder's status (the caller's work
buffer must hold the reconstructed strings). -/
theorem C11_delta_strings_roundtrip_total (vs : List (List UInt8)) (tail : List UInt8) (work : Nat)
    (hne : vs ≠ []) (hlen : vs.length ≤ 2147483647) (hv : ∀ v ∈ vs, v.length < 2 ^ 31)
    (hwork : (vs.map List.length).sum ≤ work) :
    ∃ bs, Impl.DeltaStrings.encode vs = .ok bs ∧
      Impl.DeltaStrings.decode (bs ++ tail) vs.length work = .ok (vs, bs.length) := by
  obtain ⟨bs, h⟩ := Impl.DeltaStrings.encode_succeeds vs hne hlen
  exact ⟨bs, h, Impl.DeltaStrings.roundtrip vs bs tail work hne hlen hv hwork h⟩

example : ∃ bs, Impl.DeltaLength.encode [[1, 2, 3], [], [4], [5, 6, 7, 8, 9]] = .ok bs ∧
    Impl.DeltaLength.decode bs 4 = .ok ([[1, 2, 3], [], [4], [5, 6, 7, 8, 9]], bs.length) := by
  simpa using C11_delta_length_roundtrip_total [[1, 2, 3], [], [4], [5, 6, 7, 8, 9]] [] (by decide) (by decide)
    (by decide)

example : ∃ bs, Impl.DeltaStrings.encode [[1, 2, 3], [1, 2, 4, 5], [], [1, 2, 4, 5], [1, 2, 4]] = .ok bs ∧
    Impl.DeltaStrings.decode bs 5 14 = .ok ([[1, 2, 3], [1, 2, 4, 5], [], [1, 2, 4, 5], [1, 2, 4]], bs.length) := by
  simpa using C11_delta_strings_roundtrip_total [[1, 2, 3], [1, 2, 4, 5], [], [1, 2, 4, 5], [1, 2, 4]] [] 14
    (by decide) (by decide) (by decide) (by decide)

/-- non-vacuity of the hypotheses (and the capacity in force for four values) -/
example : ([[1, 2, 3], [], [4], [5, 6, 7, 8, 9]] : List (List UInt8)) ≠ [] ∧
    (∀ v ∈ ([[1, 2, 3], [], [4], [5, 6, 7, 8, 9]] : List (List UInt8)), v.length < 2 ^ 31) ∧
    Impl.DeltaLength.lengthsCapacity 4 = 1078 ∧ Impl.DeltaStrings.deltaCapacity 129 = 2116 := by
  refine ⟨by decide, by decide, by decide, by decide⟩

/-- F61, the defect the repair removes: before the fix both encoders encoded their length streams
into a scratch buffer of `10·n + 100` bytes, while `delta_encoder_flush_block` asks for 14 bytes plus
every started miniblock written whole.  Three byte arrays of lengths 0, 2^27, 0 — whatever their
bytes — were refused with `CARQUET_ERROR_ENCODE` by `carquet_delta_length_encode` (one 29-bit
miniblock: 5 + 14 + 116 > 130), and a 2^27-byte value followed by two empty ones by
`carquet_delta_strings_encode`; the repaired encoders accept both (theorems above).  Kernel-checked
on the length level; replayed on the real code by `corpus/C11/F61-delta-bytes-scratch-capacity.ops`
(`dl_big lens=0,134217728,0` → `st=41` on the unpatched tree). -/
theorem C11_regression_F61 :
    (∀ a b c : List UInt8, a.length = 0 → b.length = 134217728 → c.length = 0 →
       Impl.DeltaLength.encodePreFix [a, b, c] = .error .encode) ∧
    (∀ b : List UInt8, b.length = 134217728 → Impl.DeltaStrings.encodePreFix [b, [], []] = .error .encode) ∧
    Impl.DeltaLength.encodeLensWith true [0, 134217728, 0] = .error .encode ∧
    (Impl.DeltaLength.encodeLensWith false [0, 134217728, 0]).map List.length = .ok (5 + 4 + 4 + 116) :=
  ⟨Impl.DeltaLength.encodePreFix_fails, Impl.DeltaStrings.encodePreFix_fails, by decide +kernel,
   by decide +kernel⟩

end Carquet.Properties.C11
