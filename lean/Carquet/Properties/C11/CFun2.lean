import Carquet.Proofs.CFun2.Varint
import Carquet.Proofs.CFun2.Bitpack
import Carquet.Proofs.CFun2.Bitpack2
/-
C11 — stage-2 link theorems: the varint readers / writers of src/core/endian.h, src/encoding/rle.c, src/encoding/delta.c,
the little-endian loads of endian.h and the specialised bit-unpackers of src/core/bitpack.c, as translated from the CURRENT
C source by translate/gen_cfun.py (input buffer = list + bounds obligations, `*out` = extra result component, caller
buffers = functional updates), against Impl.Varint / Impl.Delta / Impl.Bitpack.
-/
namespace Carquet.Properties.C11
open Carquet Carquet.Impl Carquet.Proofs.CFun2

/-- `carquet_decode_varint32(p, len, &out)` with `len` the size of the buffer: the returned count is the number of bytes
the model consumes and `*out` its value; on failure (−1) `*out` is untouched.  No read outside `p[0 .. len)`, no shift by
32 or more (the fifth byte is shifted by 28), five iterations at most. -/
theorem C11_cfun_decode_varint32 (p : List UInt8) (out : BitVec 32) (h : p.length < 2 ^ 64) :
    Gen.CFun.carquet_decode_varint32 p (BitVec.ofNat 64 p.length) out =
      (match Varint.decodeVarint32 p with
       | some (v, rest) => (BitVec.ofNat 32 (p.length - rest.length), BitVec.ofNat 32 v)
       | none => (4294967295#32, out)) := (decode_varint32_eq p out h).1

theorem C11_cfun_decode_varint32_defined (p : List UInt8) (out : BitVec 32) (h : p.length < 2 ^ 64) :
    Gen.CFun.carquet_decode_varint32_defined p (BitVec.ofNat 64 p.length) out = true := (decode_varint32_eq p out h).2

example : Gen.CFun.carquet_decode_varint32 [0xAC, 0x02, 0x55] 3#64 7#32 = (2#32, 300#32) ∧
    Gen.CFun.carquet_decode_varint32 [0x80, 0x80] 2#64 7#32 = (4294967295#32, 7#32) ∧
    -- a `len` larger than the buffer: the read of `p[2]` is out of bounds and `_defined` says so
    Gen.CFun.carquet_decode_varint32_defined [0x80, 0x80] 3#64 7#32 = false := by decide

theorem C11_cfun_decode_varint64 (p : List UInt8) (out : BitVec 64) (h : p.length < 2 ^ 64) :
    Gen.CFun.carquet_decode_varint64 p (BitVec.ofNat 64 p.length) out =
      (match Varint.decodeVarint64 p with
       | some (v, rest) => (BitVec.ofNat 32 (p.length - rest.length), BitVec.ofNat 64 v)
       | none => (4294967295#32, out)) := (decode_varint64_eq p out h).1

theorem C11_cfun_decode_varint64_defined (p : List UInt8) (out : BitVec 64) (h : p.length < 2 ^ 64) :
    Gen.CFun.carquet_decode_varint64_defined p (BitVec.ofNat 64 p.length) out = true := (decode_varint64_eq p out h).2

example : Gen.CFun.carquet_decode_varint64 [0xFF, 0xFF, 0xFF, 0xFF, 0xFF, 0xFF, 0xFF, 0xFF, 0xFF, 0x01] 10#64 0#64 =
    (10#32, 18446744073709551615#64) := by decide

/-- `carquet_encode_varint32(p, v)` into a buffer with room for the encoding: the returned count and the buffer
afterwards (the model's bytes, then the untouched rest); no write outside the buffer -/
theorem C11_cfun_encode_varint32 (p : List UInt8) (v : BitVec 32) (h : (Varint.writeVarint32 v.toNat).length ≤ p.length) :
    Gen.CFun.carquet_encode_varint32 p v =
      (BitVec.ofNat 32 (Varint.writeVarint32 v.toNat).length,
       Varint.writeVarint32 v.toNat ++ p.drop (Varint.writeVarint32 v.toNat).length) := (encode_varint32_eq p v h).1

theorem C11_cfun_encode_varint32_defined (p : List UInt8) (v : BitVec 32)
    (h : (Varint.writeVarint32 v.toNat).length ≤ p.length) :
    Gen.CFun.carquet_encode_varint32_defined p v = true := (encode_varint32_eq p v h).2

example : Gen.CFun.carquet_encode_varint32 [9, 9, 9] 300#32 = (2#32, [0xAC, 0x02, 9]) ∧
    Gen.CFun.carquet_encode_varint32_defined [9] 300#32 = false := by decide

theorem C11_cfun_encode_varint64 (p : List UInt8) (v : BitVec 64) (h : (Varint.writeVarint64 v.toNat).length ≤ p.length) :
    Gen.CFun.carquet_encode_varint64 p v =
      (BitVec.ofNat 32 (Varint.writeVarint64 v.toNat).length,
       Varint.writeVarint64 v.toNat ++ p.drop (Varint.writeVarint64 v.toNat).length) := (encode_varint64_eq p v h).1

theorem C11_cfun_encode_varint64_defined (p : List UInt8) (v : BitVec 64)
    (h : (Varint.writeVarint64 v.toNat).length ≤ p.length) :
    Gen.CFun.carquet_encode_varint64_defined p v = true := (encode_varint64_eq p v h).2

example : Gen.CFun.carquet_encode_varint64 [0, 0] 128#64 = (2#32, [0x80, 0x01]) := by decide

/-- rle.c `read_varint(data, size, &pos, &out)`: status 0, the new `*pos` and `*out` of the model on the bytes from
`*pos` on; −1 and both untouched otherwise -/
theorem C11_cfun_rle_read_varint (data : List UInt8) (pos : BitVec 64) (out : BitVec 32) (h : data.length < 2 ^ 64)
    (hpos : pos.toNat ≤ data.length) :
    Gen.CFun.rle_read_varint data (BitVec.ofNat 64 data.length) pos out =
      (match Varint.readVarintRle (data.drop pos.toNat) with
       | some (v, rest) => (0#32, BitVec.ofNat 64 (data.length - rest.length), BitVec.ofNat 32 v)
       | none => (4294967295#32, pos, out)) := (rle_read_varint_eq data pos out h hpos).1

theorem C11_cfun_rle_read_varint_defined (data : List UInt8) (pos : BitVec 64) (out : BitVec 32) (h : data.length < 2 ^ 64)
    (hpos : pos.toNat ≤ data.length) :
    Gen.CFun.rle_read_varint_defined data (BitVec.ofNat 64 data.length) pos out = true :=
  (rle_read_varint_eq data pos out h hpos).2

example : Gen.CFun.rle_read_varint [0xFF, 0x03, 0x7F] 3#64 1#64 0#32 = (0#32, 2#64, 3#32) := by decide

/-- delta.c `read_uleb128(data, size, &value)`: the byte count and value of the model; 0 when the model fails (then
`*value` holds whatever was accumulated — the C code accumulates directly in `*value`) -/
theorem C11_cfun_read_uleb128 (data : List UInt8) (value : BitVec 64) (h : data.length < 2 ^ 64) :
    (match Delta.readUleb128 data with
     | some (v, n) => Gen.CFun.read_uleb128 data (BitVec.ofNat 64 data.length) value = (BitVec.ofNat 64 n, v)
     | none => (Gen.CFun.read_uleb128 data (BitVec.ofNat 64 data.length) value).1 = 0#64) :=
  (read_uleb128_eq data value h).1

theorem C11_cfun_read_uleb128_defined (data : List UInt8) (value : BitVec 64) (h : data.length < 2 ^ 64) :
    Gen.CFun.read_uleb128_defined data (BitVec.ofNat 64 data.length) value = true := (read_uleb128_eq data value h).2

example : Gen.CFun.read_uleb128 [0xE5, 0x8E, 0x26] 3#64 99#64 = (3#64, 624485#64) := by decide

/-! ### little-endian loads (endian.h) and the specialised unpackers (bitpack.c) -/

theorem C11_cfun_read_u16_le (p : List UInt8) : (Gen.CFun.carquet_read_u16_le p).toNat = Bitpack.leNat (p.take 2) :=
  read_u16_le_toNat p
theorem C11_cfun_read_u32_le (p : List UInt8) : (Gen.CFun.carquet_read_u32_le p).toNat = Bitpack.leNat (p.take 4) :=
  read_u32_le_toNat p
theorem C11_cfun_read_u64_le (p : List UInt8) (h : 8 ≤ p.length) :
    (Gen.CFun.carquet_read_u64_le p).toNat = Bitpack.leNat (p.take 8) := read_u64_le_toNat p h
/-- the signed readers are the unsigned ones (a conversion that keeps the bit pattern) -/
theorem C11_cfun_read_i32_le (p : List UInt8) : Gen.CFun.carquet_read_i32_le p = Gen.CFun.carquet_read_u32_le p := rfl
theorem C11_cfun_read_i64_le (p : List UInt8) : Gen.CFun.carquet_read_i64_le p = Gen.CFun.carquet_read_u64_le p := rfl
/-- each reads exactly `sizeof v` bytes at `p` -/
theorem C11_cfun_read_le_defined (p : List UInt8) :
    Gen.CFun.carquet_read_u16_le_defined p = decide (2 ≤ p.length) ∧
    Gen.CFun.carquet_read_u32_le_defined p = decide (4 ≤ p.length) ∧
    Gen.CFun.carquet_read_u64_le_defined p = decide (8 ≤ p.length) ∧
    Gen.CFun.carquet_read_i32_le_defined p = decide (4 ≤ p.length) ∧
    Gen.CFun.carquet_read_i64_le_defined p = decide (8 ≤ p.length) := by
  simp [Gen.CFun.carquet_read_u16_le_defined, Gen.CFun.carquet_read_u32_le_defined, Gen.CFun.carquet_read_u64_le_defined,
    Gen.CFun.carquet_read_i32_le_defined, Gen.CFun.carquet_read_i64_le_defined, Impl.CSem.inb]

example : Gen.CFun.carquet_read_u32_le [0x78, 0x56, 0x34, 0x12, 0xFF] = 0x12345678#32 ∧
    Gen.CFun.carquet_read_u32_le_defined [1, 2, 3] = false := by decide

theorem C11_cfun_read_le24 (p : List UInt8) : (Gen.CFun.read_le24 p).toNat = Bitpack.leNat (p.take 3) := read_le24_toNat p
theorem C11_cfun_read_le32 (p : List UInt8) : (Gen.CFun.read_le32 p).toNat = Bitpack.leNat (p.take 4) := read_le32_toNat p

/-- `carquet_bitunpack8_3bit(input, values)`: `values[0..8)` are the model's eight values, the rest is untouched -/
theorem C11_cfun_bitunpack8_3bit (input : List UInt8) (values : List (BitVec 32)) (hv : 8 ≤ values.length) :
    (Gen.CFun.carquet_bitunpack8_3bit input values).map BitVec.toNat =
      Bitpack.unpack8_3bit input ++ (values.drop 8).map BitVec.toNat := bitunpack8_3bit_eq input values hv

/-- it reads `input[0..3)` and writes `values[0..8)` only -/
theorem C11_cfun_bitunpack8_3bit_defined (input : List UInt8) (values : List (BitVec 32)) (hi : 3 ≤ input.length)
    (hv : 8 ≤ values.length) : Gen.CFun.carquet_bitunpack8_3bit_defined input values = true :=
  bitunpack8_3bit_defined input values hi hv

example : Gen.CFun.carquet_bitunpack8_3bit [0x88, 0xC6, 0xFA] (List.replicate 8 0#32) = [0, 1, 2, 3, 4, 5, 6, 7] ∧
    Gen.CFun.carquet_bitunpack8_3bit_defined [0x88, 0xC6] (List.replicate 8 0#32) = false ∧
    Gen.CFun.carquet_bitunpack8_3bit_defined [0x88, 0xC6, 0xFA] (List.replicate 7 0#32) = false := by decide

theorem C11_cfun_bitunpack8_4bit (input : List UInt8) (values : List (BitVec 32)) (hv : 8 ≤ values.length) :
    (Gen.CFun.carquet_bitunpack8_4bit input values).map BitVec.toNat =
      Bitpack.unpack8_4bit input ++ (values.drop 8).map BitVec.toNat := bitunpack8_4bit_eq input values hv

theorem C11_cfun_bitunpack8_8bit (input : List UInt8) (values : List (BitVec 32)) (hv : 8 ≤ values.length) :
    (Gen.CFun.carquet_bitunpack8_8bit input values).map BitVec.toNat =
      Bitpack.unpack8_8bit input ++ (values.drop 8).map BitVec.toNat := bitunpack8_8bit_eq input values hv

/-- the other specialised unpackers (`read_le16/40/48/56`; for 5..7 bits the hypothesis that the 5..7 input bytes exist is
what their `_defined` asks — the values agree without it, a byte beyond the end reading as 0 on both sides) -/
theorem C11_cfun_read_le16 (p : List UInt8) : (Gen.CFun.read_le16 p).toNat = Bitpack.leNat (p.take 2) := read_le16_toNat p
theorem C11_cfun_read_le40 (p : List UInt8) (h : 5 ≤ p.length) : (Gen.CFun.read_le40 p).toNat = Bitpack.leNat (p.take 5) :=
  read_le40_toNat p
theorem C11_cfun_read_le48 (p : List UInt8) (h : 6 ≤ p.length) : (Gen.CFun.read_le48 p).toNat = Bitpack.leNat (p.take 6) :=
  read_le48_toNat p
theorem C11_cfun_read_le56 (p : List UInt8) (h : 7 ≤ p.length) : (Gen.CFun.read_le56 p).toNat = Bitpack.leNat (p.take 7) :=
  read_le56_toNat p

theorem C11_cfun_bitunpack8_1bit (input : List UInt8) (values : List (BitVec 32)) (hv : 8 ≤ values.length) :
    (Gen.CFun.carquet_bitunpack8_1bit input values).map BitVec.toNat =
      Bitpack.unpack8_1bit input ++ (values.drop 8).map BitVec.toNat := bitunpack8_1bit_eq input values hv
theorem C11_cfun_bitunpack8_2bit (input : List UInt8) (values : List (BitVec 32)) (hv : 8 ≤ values.length) :
    (Gen.CFun.carquet_bitunpack8_2bit input values).map BitVec.toNat =
      Bitpack.unpack8_2bit input ++ (values.drop 8).map BitVec.toNat := bitunpack8_2bit_eq input values hv
theorem C11_cfun_bitunpack8_5bit (input : List UInt8) (values : List (BitVec 32)) (hi : 5 ≤ input.length)
    (hv : 8 ≤ values.length) :
    (Gen.CFun.carquet_bitunpack8_5bit input values).map BitVec.toNat =
      Bitpack.unpack8_5bit input ++ (values.drop 8).map BitVec.toNat := bitunpack8_5bit_eq input values hv
theorem C11_cfun_bitunpack8_6bit (input : List UInt8) (values : List (BitVec 32)) (hi : 6 ≤ input.length)
    (hv : 8 ≤ values.length) :
    (Gen.CFun.carquet_bitunpack8_6bit input values).map BitVec.toNat =
      Bitpack.unpack8_6bit input ++ (values.drop 8).map BitVec.toNat := bitunpack8_6bit_eq input values hv
theorem C11_cfun_bitunpack8_7bit (input : List UInt8) (values : List (BitVec 32)) (hi : 7 ≤ input.length)
    (hv : 8 ≤ values.length) :
    (Gen.CFun.carquet_bitunpack8_7bit input values).map BitVec.toNat =
      Bitpack.unpack8_7bit input ++ (values.drop 8).map BitVec.toNat := bitunpack8_7bit_eq input values hv

example : Gen.CFun.carquet_bitunpack8_7bit [0x81, 0xC0, 0x60, 0x30, 0x18, 0x0C, 0x06] (List.replicate 9 5#32) =
    [1, 1, 3, 3, 3, 3, 3, 3, 5] := by decide

/- `carquet_bitunpack8_32(input, bit_width, values)` — full statement (NOT proved):
     ∀ w ≤ 32, w ≤ input.length → 8 ≤ values.length →
       (Gen.CFun.carquet_bitunpack8_32 input (BitVec.ofNat 32 w) values).map BitVec.toNat =
         Bitpack.unpack8 w input ++ (values.drop 8).map BitVec.toNat
   Proved below for the widths the function dispatches to the specialised unpackers (0..8, incl. the `memset` for 0).
   Missing: the general loop nest for 9..32 (it is translated — `carquet_bitunpack8_32_loop1/_loop2` — and compared with the
   compiled code on every run, but not related to `Bitpack.unpack8Generic`). -/
theorem C11_cfun_bitunpack8_32_partial (input : List UInt8) (values : List (BitVec 32)) (w : Nat) (hw : w ≤ 8)
    (hi : w ≤ input.length) (hv : 8 ≤ values.length) :
    (Gen.CFun.carquet_bitunpack8_32 input (BitVec.ofNat 32 w) values).map BitVec.toNat =
      Bitpack.unpack8 w input ++ (values.drop 8).map BitVec.toNat := bitunpack8_32_small input values w hw hi hv

example : Gen.CFun.carquet_bitunpack8_32 [0xFF] 0#32 (List.replicate 9 7#32) = List.replicate 8 0#32 ++ [7#32] ∧
    Gen.CFun.carquet_bitunpack8_32 [0x88, 0xC6, 0xFA] 3#32 (List.replicate 8 0#32) = [0, 1, 2, 3, 4, 5, 6, 7] := by decide

end Carquet.Properties.C11
