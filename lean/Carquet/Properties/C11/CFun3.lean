import Carquet.Proofs.CFun3.BitReader
import Carquet.Proofs.CFun3.BitWriter
import Carquet.Proofs.CFun3.Bitunpack
import Carquet.Proofs.CFun3.Bitunpack32
import Carquet.Proofs.CFun3.RleDec
/-
C11 — stage 3 of the C -> Lean function translator (translate/gen_cfun.py, notes/NOTES_cfun3.md): link theorems between the
definitions REGENERATED FROM THE C SOURCE on every check run (Gen/CFun.lean: functions that read and write a struct through
a pointer) and the hand-written Impl models the property theorems of C11 are about.  Only `C11_cfun_<function>` (value
side) and `C11_cfun_<function>_defined` (no undefined behaviour under the documented precondition), each followed by a
non-vacuity example.  The abstraction functions / invariants are executable (Impl/CFun3/*.lean) and are evaluated by the
driver on every self-check line (`modelLink3`).
-/

/-! ## BitReader -/
section CFun3BitReader
/-
C11 — stage-3 link theorems: the bit reader of src/core/bitpack.c (`carquet_bit_reader_init`, `refill_buffer`,
`carquet_bit_reader_read_bit / _read_bits / _read_bits64 / _has_more / _remaining_bits`) as translated from the CURRENT C
source by translate/gen_cfun.py (the struct `carquet_bit_reader_t` is a generated Lean structure, its pointer field
`data` an offset into the input buffer that travels as a separate list), against the model `Impl.BitIO`.

`rdAbs s data` reads a C reader state over the buffer `data` as the model state; `rdInv s data` is the invariant of a
live reader (`data` field = start of the buffer, `size` = its length, `byte_pos ≤ size`, `0 ≤ buffer_bits ≤ 64`,
`buffer < 2^buffer_bits`): it holds after `init` and every function keeps it.  The model also reports the indices of
`data` it reads; the C function does not, so only values and states are compared (the safety reading of the indices is
the `_defined` half, C08).
-/
namespace Carquet.Properties.C11
open Carquet Carquet.Impl Carquet.Impl.CFun3 Carquet.Proofs.CFun3.BitReader

/-- `carquet_bit_reader_init(reader, data, size)` with `size` the length of the buffer, on ANY incoming `*reader`:
the model's initial state, and the invariant holds -/
theorem C11_cfun_bit_reader_init (s : Gen.CFun.carquet_bit_reader_t) (data : List UInt8) (h : data.length < 2 ^ 64) :
    rdAbs (Gen.CFun.carquet_bit_reader_init s data (BitVec.ofNat 64 data.length)) data = BitIO.Reader.init data ∧
    rdInv (Gen.CFun.carquet_bit_reader_init s data (BitVec.ofNat 64 data.length)) data = true ∧
    (Gen.CFun.carquet_bit_reader_init s data (BitVec.ofNat 64 data.length)).bit_pos = 0#32 := by
  refine ⟨rfl, ?_, rfl⟩
  simp [rdInv, Gen.CFun.carquet_bit_reader_init, BitVec.toNat_ofNat, Nat.mod_eq_of_lt h]

theorem C11_cfun_bit_reader_init_defined (s : Gen.CFun.carquet_bit_reader_t) (data : List UInt8) (size : BitVec 64) :
    Gen.CFun.carquet_bit_reader_init_defined s data size = true := rfl

example : Gen.CFun.carquet_bit_reader_init ⟨7, 1#64, 2#64, 3#32, 4#64, 5#32⟩ [0xB2, 0x01] 2#64 =
      ⟨0, 2#64, 0#64, 0#32, 0#64, 0#32⟩ ∧
    rdInv ⟨0, 2#64, 0#64, 0#32, 0#64, 0#32⟩ [0xB2, 0x01] = true ∧
    -- a `size` that is not the length of the buffer is outside the invariant
    rdInv (Gen.CFun.carquet_bit_reader_init ⟨7, 1#64, 2#64, 3#32, 4#64, 5#32⟩ [0xB2, 0x01] 3#64) [0xB2, 0x01] = false := by
  decide +kernel

/-- `refill_buffer(reader)`: the model's `refill` (which runs with fuel 8; the translated loop makes at most 9
condition tests), invariant kept, `data` / `size` / `bit_pos` untouched -/
theorem C11_cfun_refill_buffer (s : Gen.CFun.carquet_bit_reader_t) (data : List UInt8) (h : rdInv s data = true) :
    rdAbs (Gen.CFun.refill_buffer s data) data = (BitIO.refill (rdAbs s data)).1 ∧
    rdInv (Gen.CFun.refill_buffer s data) data = true ∧
    (Gen.CFun.refill_buffer s data).data = s.data ∧ (Gen.CFun.refill_buffer s data).size = s.size ∧
    (Gen.CFun.refill_buffer s data).bit_pos = s.bit_pos :=
  have h := refill_buffer_spec s data h
  ⟨h.1.abs, h.1.inv, h.2.1, h.2.2, h.1.bitpos⟩

theorem C11_cfun_refill_buffer_defined (s : Gen.CFun.carquet_bit_reader_t) (data : List UInt8)
    (h : rdInv s data = true) : Gen.CFun.refill_buffer_defined s data = true :=
  (refill_buffer_spec s data h).1.defined

example : Gen.CFun.refill_buffer ⟨0, 10#64, 1#64, 0#32, 0x5#64, 3#32⟩ [1, 2, 3, 4, 5, 6, 7, 8, 9, 10] =
      ⟨0, 10#64, 8#64, 0#32, 0x40383028201815#64, 59#32⟩ ∧
    rdInv ⟨0, 10#64, 1#64, 0#32, 0x5#64, 3#32⟩ [1, 2, 3, 4, 5, 6, 7, 8, 9, 10] = true ∧
    Gen.CFun.refill_buffer_defined ⟨0, 10#64, 1#64, 0#32, 0x5#64, 3#32⟩ [1, 2, 3, 4, 5, 6, 7, 8, 9, 10] = true ∧
    -- outside the invariant (`buffer_bits = -8`): the C code shifts by a negative count
    Gen.CFun.refill_buffer_defined ⟨0, 2#64, 0#64, 0#32, 0#64, 0xFFFFFFF8#32⟩ [1, 2] = false := by decide +kernel

/-- `carquet_bit_reader_read_bit(reader)`: the returned `int` (−1 at the end of the data, else the next bit) and the
new state are the model's; invariant kept, `bit_pos` untouched -/
theorem C11_cfun_bit_reader_read_bit (s : Gen.CFun.carquet_bit_reader_t) (data : List UInt8) (h : rdInv s data = true) :
    (Gen.CFun.carquet_bit_reader_read_bit s data).1.toInt = (BitIO.readBit (rdAbs s data)).1 ∧
    rdAbs (Gen.CFun.carquet_bit_reader_read_bit s data).2 data = (BitIO.readBit (rdAbs s data)).2.1 ∧
    rdInv (Gen.CFun.carquet_bit_reader_read_bit s data).2 data = true ∧
    (Gen.CFun.carquet_bit_reader_read_bit s data).2.bit_pos = s.bit_pos :=
  RSpec.link (read_bit_eq s data h)

theorem C11_cfun_bit_reader_read_bit_defined (s : Gen.CFun.carquet_bit_reader_t) (data : List UInt8)
    (h : rdInv s data = true) : Gen.CFun.carquet_bit_reader_read_bit_defined s data = true :=
  (read_bit_eq s data h).2.defined

example : Gen.CFun.carquet_bit_reader_read_bit ⟨0, 2#64, 0#64, 0#32, 0#64, 0#32⟩ [0xB3, 0x01] =
      (1#32, ⟨0, 2#64, 2#64, 0#32, 0xD9#64, 15#32⟩) ∧
    Gen.CFun.carquet_bit_reader_read_bit ⟨0, 2#64, 2#64, 0#32, 0#64, 0#32⟩ [0xB3, 0x01] =
      (4294967295#32, ⟨0, 2#64, 2#64, 0#32, 0#64, 0#32⟩) ∧
    BitIO.readBit ⟨[0xB3, 0x01], 2, 0, 0⟩ = (-1, ⟨[0xB3, 0x01], 2, 0, 0⟩, []) := by decide +kernel

/-- `carquet_bit_reader_read_bits(reader, num_bits)` for `num_bits ≥ 0` (clamped to 32; at the end of the data the bits
that are left, zero-extended): value and new state are the model's; invariant kept -/
theorem C11_cfun_bit_reader_read_bits (s : Gen.CFun.carquet_bit_reader_t) (data : List UInt8) (num_bits : BitVec 32)
    (h : rdInv s data = true) (hn : 0 ≤ num_bits.toInt) :
    (Gen.CFun.carquet_bit_reader_read_bits s data num_bits).1.toNat = (BitIO.readBits (rdAbs s data) num_bits.toNat).1 ∧
    rdAbs (Gen.CFun.carquet_bit_reader_read_bits s data num_bits).2 data = (BitIO.readBits (rdAbs s data) num_bits.toNat).2.1 ∧
    rdInv (Gen.CFun.carquet_bit_reader_read_bits s data num_bits).2 data = true ∧
    (Gen.CFun.carquet_bit_reader_read_bits s data num_bits).2.bit_pos = s.bit_pos :=
  RSpec.link (read_bits_eq s data num_bits h hn)

theorem C11_cfun_bit_reader_read_bits_defined (s : Gen.CFun.carquet_bit_reader_t) (data : List UInt8)
    (num_bits : BitVec 32) (h : rdInv s data = true) (hn : 0 ≤ num_bits.toInt) :
    Gen.CFun.carquet_bit_reader_read_bits_defined s data num_bits = true := (read_bits_eq s data num_bits h hn).2.defined

example : Gen.CFun.carquet_bit_reader_read_bits ⟨0, 3#64, 1#64, 0#32, 0x2#64, 3#32⟩ [0xB3, 0xFF, 0x01] 9#32 =
      (0x1FA#32, ⟨0, 3#64, 3#64, 0#32, 0x7#64, 10#32⟩) ∧
    -- end of the data: the 3 + 8 bits that are left (F82), 40 clamped to 32
    Gen.CFun.carquet_bit_reader_read_bits ⟨0, 3#64, 2#64, 0#32, 0x2#64, 3#32⟩ [0xB3, 0xFF, 0x01] 40#32 =
      (0xA#32, ⟨0, 3#64, 3#64, 0#32, 0#64, 0#32⟩) ∧
    -- a negative count is outside the API: the C code shifts by it
    Gen.CFun.carquet_bit_reader_read_bits_defined ⟨0, 3#64, 1#64, 0#32, 0x2#64, 3#32⟩ [0xB3, 0xFF, 0x01] 0xFFFFFFFF#32 = false := by
  decide +kernel

/-- `carquet_bit_reader_read_bits64(reader, num_bits)` for `num_bits ≥ 0` (clamped to 64; more than 32 bits in two
parts `low | high << 32`): value and new state are the model's; invariant kept -/
theorem C11_cfun_bit_reader_read_bits64 (s : Gen.CFun.carquet_bit_reader_t) (data : List UInt8) (num_bits : BitVec 32)
    (h : rdInv s data = true) (hn : 0 ≤ num_bits.toInt) :
    (Gen.CFun.carquet_bit_reader_read_bits64 s data num_bits).1.toNat = (BitIO.readBits64 (rdAbs s data) num_bits.toNat).1 ∧
    rdAbs (Gen.CFun.carquet_bit_reader_read_bits64 s data num_bits).2 data = (BitIO.readBits64 (rdAbs s data) num_bits.toNat).2.1 ∧
    rdInv (Gen.CFun.carquet_bit_reader_read_bits64 s data num_bits).2 data = true ∧
    (Gen.CFun.carquet_bit_reader_read_bits64 s data num_bits).2.bit_pos = s.bit_pos :=
  RSpec.link (read_bits64_eq s data num_bits h hn)

theorem C11_cfun_bit_reader_read_bits64_defined (s : Gen.CFun.carquet_bit_reader_t) (data : List UInt8)
    (num_bits : BitVec 32) (h : rdInv s data = true) (hn : 0 ≤ num_bits.toInt) :
    Gen.CFun.carquet_bit_reader_read_bits64_defined s data num_bits = true :=
  (read_bits64_eq s data num_bits h hn).2.defined

example : Gen.CFun.carquet_bit_reader_read_bits64 ⟨0, 9#64, 0#64, 0#32, 0#64, 0#32⟩
        [0x01, 0x23, 0x45, 0x67, 0x89, 0xAB, 0xCD, 0xEF, 0x5A] 44#32 =
      (0xB8967452301#64, ⟨0, 9#64, 8#64, 0#32, 0xEFCDA#64, 20#32⟩) ∧
    (BitIO.readBits64 ⟨[0x01, 0x23, 0x45, 0x67, 0x89, 0xAB, 0xCD, 0xEF, 0x5A], 0, 0, 0⟩ 44).1 = 0xB8967452301 ∧
    Gen.CFun.carquet_bit_reader_read_bits64_defined ⟨0, 9#64, 0#64, 0#32, 0#64, 0#32⟩
        [0x01, 0x23, 0x45, 0x67, 0x89, 0xAB, 0xCD, 0xEF, 0x5A] 0x80000000#32 = false := by
  decide +kernel

/-- `carquet_bit_reader_has_more(reader)` -/
theorem C11_cfun_bit_reader_has_more (s : Gen.CFun.carquet_bit_reader_t) (data : List UInt8) (h : rdInv s data = true) :
    Gen.CFun.carquet_bit_reader_has_more s = BitIO.hasMore (rdAbs s data) := has_more_eq s data h

theorem C11_cfun_bit_reader_has_more_defined (s : Gen.CFun.carquet_bit_reader_t) :
    Gen.CFun.carquet_bit_reader_has_more_defined s = true := rfl

example : Gen.CFun.carquet_bit_reader_has_more ⟨0, 2#64, 2#64, 0#32, 0x1#64, 1#32⟩ = true ∧
    Gen.CFun.carquet_bit_reader_has_more ⟨0, 2#64, 2#64, 0#32, 0#64, 0#32⟩ = false ∧
    -- outside the invariant (`buffer_bits = -24`, the pinned F82 state): C says "no more", the Nat model cannot express it
    Gen.CFun.carquet_bit_reader_has_more ⟨0, 1#64, 1#64, 0#32, 0#64, 0xFFFFFFE8#32⟩ = false ∧
    rdInv ⟨0, 1#64, 1#64, 0#32, 0#64, 0xFFFFFFE8#32⟩ [0xFF] = false := by decide +kernel

/-- `carquet_bit_reader_remaining_bits(reader)` = `(size_t)buffer_bits + (size - byte_pos) * 8` -/
theorem C11_cfun_bit_reader_remaining_bits (s : Gen.CFun.carquet_bit_reader_t) (data : List UInt8)
    (h : rdInv s data = true) :
    (Gen.CFun.carquet_bit_reader_remaining_bits s).toNat = BitIO.remainingBits (rdAbs s data) :=
  remaining_bits_eq s data h

theorem C11_cfun_bit_reader_remaining_bits_defined (s : Gen.CFun.carquet_bit_reader_t) :
    Gen.CFun.carquet_bit_reader_remaining_bits_defined s = true := rfl

example : Gen.CFun.carquet_bit_reader_remaining_bits ⟨0, 5#64, 2#64, 0#32, 0x1#64, 3#32⟩ = 27#64 ∧
    BitIO.remainingBits ⟨[1, 2, 3, 4, 5], 2, 1, 3⟩ = 27 ∧
    -- outside the invariant (`buffer_bits = -24`, the pinned F82 state): 2^64 − 24
    Gen.CFun.carquet_bit_reader_remaining_bits ⟨0, 1#64, 1#64, 0#32, 0#64, 0xFFFFFFE8#32⟩ = 18446744073709551592#64 := by
  decide +kernel

end Carquet.Properties.C11
end CFun3BitReader

/-! ## BitWriter -/
section CFun3BitWriter
/-
C11 — stage-3 link theorems, the bit WRITER of src/core/bitpack.c (`carquet_bit_writer_init`, the static
`flush_buffer`, `_write_bit`, `_write_bits`, `_write_bits64`, `_flush`, `_bytes_written`) as translated from the CURRENT
C source by translate/gen_cfun.py (the struct is `Gen.CFun.carquet_bit_writer_t`, `writer->data` an offset into the output
array that travels separately; each function returns the new struct and the new content of the array) against the
model `Impl.BitIO.Writer`.

`Impl.CFun3.wrAbs s data` is the model state (capacity, `data[0 .. byte_pos)`, accumulator, pending bits);
`Impl.CFun3.wrInv s data` the invariant of a live writer: `writer->data` is the start of `data`, the array has at least
`capacity` bytes, `byte_pos ≤ capacity`, `0 ≤ buffer_bits ≤ 55`, `buffer < 2^buffer_bits`.  It holds after `init` and
is preserved by every public function; `flush_buffer` alone is entered with up to 64 pending bits (`wrFlushInv`: ≤ 71, the
most its translated loop — fuel 9 — can handle).

Every link theorem: with `(s', data') = f s data args`, the abstraction of the result is the model function on the
abstraction of the argument; the invariant holds again; the array keeps its length, the bytes already stored
(`[0, byte_pos)`) and the bytes from the new `byte_pos` on are untouched (so exactly the bytes the model appends are
written); `byte_pos` does not decrease; `capacity`, `data`, `bit_pos` are unchanged.
-/
namespace Carquet.Properties.C11
open Carquet Carquet.Impl Carquet.Impl.CFun3 Carquet.Proofs.CFun3.BitWriter

/-- `carquet_bit_writer_init(writer, data, capacity)` on an array of at least `capacity` bytes (whatever the struct held
before): the model's initial state, and the invariant holds; the array is returned as it was -/
theorem C11_cfun_bit_writer_init (s0 : Gen.CFun.carquet_bit_writer_t) (data : List UInt8) (cap : Nat)
    (hl : data.length < 2 ^ 64) (hc : cap ≤ data.length)
    (s' : Gen.CFun.carquet_bit_writer_t) (data' : List UInt8)
    (e : Gen.CFun.carquet_bit_writer_init s0 data (BitVec.ofNat 64 cap) = (s', data')) :
    wrAbs s' data' = BitIO.Writer.init cap ∧ wrInv s' data' = true ∧ data' = data ∧
    s'.capacity = BitVec.ofNat 64 cap ∧ s'.data = 0 ∧ s'.bit_pos = 0#32 := by
  obtain ⟨h1, h2⟩ := init_spec s0 data cap hl hc
  rw [e] at h1 h2
  refine ⟨h1, (wrInv_iff _ _).mpr (h2.mono (by omega)), ?_, ?_, ?_, ?_⟩ <;>
    (simp only [Gen.CFun.carquet_bit_writer_init, Prod.mk.injEq] at e; obtain ⟨e1, e2⟩ := e; subst e1; subst e2; rfl)

theorem C11_cfun_bit_writer_init_defined (s0 : Gen.CFun.carquet_bit_writer_t) (data : List UInt8) (capacity : BitVec 64) :
    Gen.CFun.carquet_bit_writer_init_defined s0 data capacity = true := rfl

example : Gen.CFun.carquet_bit_writer_init ⟨7, 1#64, 2#64, 3#32, 4#64, 5#32⟩ [9, 9, 9] 2#64 =
      (⟨0, 2#64, 0#64, 0#32, 0#64, 0#32⟩, [9, 9, 9]) ∧
    wrAbs ⟨0, 2#64, 0#64, 0#32, 0#64, 0#32⟩ [9, 9, 9] = BitIO.Writer.init 2 ∧
    wrInv ⟨0, 2#64, 0#64, 0#32, 0#64, 0#32⟩ [9, 9, 9] = true ∧
    -- a declared capacity larger than the caller's array: not a live writer
    wrInv (Gen.CFun.carquet_bit_writer_init ⟨7, 1#64, 2#64, 3#32, 4#64, 5#32⟩ [9, 9, 9] 4#64).1 [9, 9, 9] = false := by
  decide +kernel

/-- the static `flush_buffer`, entered with up to 71 pending bits: the model's `flushBuffer` (complete bytes leave the
accumulator, those that do not fit in the capacity are dropped); fewer than 8 bits stay pending -/
theorem C11_cfun_flush_buffer (s : Gen.CFun.carquet_bit_writer_t) (data : List UInt8) (h : wrFlushInv s data = true)
    (s' : Gen.CFun.carquet_bit_writer_t) (data' : List UInt8) (e : Gen.CFun.flush_buffer s data = (s', data')) :
    wrAbs s' data' = BitIO.flushBuffer (wrAbs s data) ∧ wrInv s' data' = true ∧ data'.length = data.length ∧
    data'.take s.byte_pos.toNat = data.take s.byte_pos.toNat ∧
    data'.drop s'.byte_pos.toNat = data.drop s'.byte_pos.toNat ∧
    s.byte_pos.toNat ≤ s'.byte_pos.toNat ∧ s'.capacity = s.capacity ∧ s'.data = s.data ∧ s'.bit_pos = s.bit_pos :=
  (flush_buffer_spec s data ((wrFlushInv_iff s data).mp h)).link (by decide) s' data' e

/-- no store outside the `capacity` bytes (each `data[byte_pos]` is guarded by `byte_pos < capacity ≤ data.length`),
`buffer_bits -= 8` does not overflow, at most 8 iterations -/
theorem C11_cfun_flush_buffer_defined (s : Gen.CFun.carquet_bit_writer_t) (data : List UInt8)
    (h : wrFlushInv s data = true) : Gen.CFun.flush_buffer_defined s data = true :=
  (flush_buffer_spec s data ((wrFlushInv_iff s data).mp h)).defined

/-- 64 pending bits, room for 3 of the 8 bytes: 3 stored, 5 dropped; with 72 pending bits the loop would need a tenth
test (outside `wrFlushInv`); a capacity beyond the array makes the third store an out-of-bounds write -/
example : Gen.CFun.flush_buffer ⟨0, 4#64, 1#64, 9#32, 0x0807060504030201#64, 64#32⟩ [0xAA, 0, 0, 0, 0xEE] =
      (⟨0, 4#64, 4#64, 9#32, 0#64, 0#32⟩, [0xAA, 1, 2, 3, 0xEE]) ∧
    wrFlushInv ⟨0, 4#64, 1#64, 9#32, 0x0807060504030201#64, 64#32⟩ [0xAA, 0, 0, 0, 0xEE] = true ∧
    BitIO.flushBuffer ⟨4, [0xAA], 0x0807060504030201, 64⟩ = ⟨4, [0xAA, 1, 2, 3], 0, 0⟩ ∧
    Gen.CFun.flush_buffer_defined ⟨0, 4#64, 1#64, 9#32, 0x0807060504030201#64, 64#32⟩ [0xAA, 0, 0, 0, 0xEE] = true ∧
    Gen.CFun.flush_buffer_defined ⟨0, 4#64, 1#64, 9#32, 0#64, 72#32⟩ [0xAA, 0, 0, 0, 0xEE] = false ∧
    Gen.CFun.flush_buffer_defined ⟨0, 4#64, 1#64, 9#32, 0x0807060504030201#64, 64#32⟩ [0xAA, 0, 0] = false := by
  decide +kernel

/-- `carquet_bit_writer_write_bit(writer, bit)`: the model's `writeBit` on the value of the `int` read as unsigned (only
its lowest bit is used) -/
theorem C11_cfun_bit_writer_write_bit (s : Gen.CFun.carquet_bit_writer_t) (data : List UInt8) (bit : BitVec 32)
    (h : wrInv s data = true) (s' : Gen.CFun.carquet_bit_writer_t) (data' : List UInt8)
    (e : Gen.CFun.carquet_bit_writer_write_bit s data bit = (s', data')) :
    wrAbs s' data' = BitIO.writeBit (wrAbs s data) bit.toNat ∧ wrInv s' data' = true ∧ data'.length = data.length ∧
    data'.take s.byte_pos.toNat = data.take s.byte_pos.toNat ∧
    data'.drop s'.byte_pos.toNat = data.drop s'.byte_pos.toNat ∧
    s.byte_pos.toNat ≤ s'.byte_pos.toNat ∧ s'.capacity = s.capacity ∧ s'.data = s.data ∧ s'.bit_pos = s.bit_pos :=
  (write_bit_spec s data bit ((wrInv_iff s data).mp h)).link (by decide) s' data' e

/-- the shift count `buffer_bits` is in `[0, 64)`, `buffer_bits++` does not overflow, `flush_buffer` is entered with at
most 56 bits and stores inside the capacity -/
theorem C11_cfun_bit_writer_write_bit_defined (s : Gen.CFun.carquet_bit_writer_t) (data : List UInt8) (bit : BitVec 32)
    (h : wrInv s data = true) : Gen.CFun.carquet_bit_writer_write_bit_defined s data bit = true :=
  (write_bit_spec s data bit ((wrInv_iff s data).mp h)).defined

/-- the 56th pending bit triggers the flush: 7 bytes leave the accumulator, 2 fit; `bit = -1` writes a 1 -/
example : Gen.CFun.carquet_bit_writer_write_bit ⟨0, 3#64, 1#64, 0#32, 0x55555555555555#64, 55#32⟩ [7, 0, 0, 9] (-1#32) =
      (⟨0, 3#64, 3#64, 0#32, 0#64, 0#32⟩, [7, 0x55, 0x55, 9]) ∧
    wrInv ⟨0, 3#64, 1#64, 0#32, 0x55555555555555#64, 55#32⟩ [7, 0, 0, 9] = true ∧
    BitIO.writeBit ⟨3, [7], 0x55555555555555, 55⟩ 0xFFFFFFFF = ⟨3, [7, 0x55, 0x55], 0, 0⟩ ∧
    Gen.CFun.carquet_bit_writer_write_bit_defined ⟨0, 3#64, 1#64, 0#32, 0x55555555555555#64, 55#32⟩ [7, 0, 0, 9] 1#32 = true ∧
    -- capacity 3 declared on a 2-byte array: the C code would write outside the caller's buffer
    Gen.CFun.carquet_bit_writer_write_bit_defined ⟨0, 3#64, 1#64, 0#32, 0x55555555555555#64, 55#32⟩ [7, 0] 1#32 = false ∧
    -- 64 pending bits (impossible for a live writer): shift by 64
    Gen.CFun.carquet_bit_writer_write_bit_defined ⟨0, 3#64, 1#64, 0#32, 0#64, 64#32⟩ [7, 0, 0, 9] 1#32 = false := by
  decide +kernel

/-- `carquet_bit_writer_write_bits(writer, value, num_bits)` for `num_bits ≥ 0` (counts above 32 are clamped by the
code): the model's `writeBits` -/
theorem C11_cfun_bit_writer_write_bits (s : Gen.CFun.carquet_bit_writer_t) (data : List UInt8) (value num_bits : BitVec 32)
    (h : wrInv s data = true) (hn : 0 ≤ num_bits.toInt) (s' : Gen.CFun.carquet_bit_writer_t) (data' : List UInt8)
    (e : Gen.CFun.carquet_bit_writer_write_bits s data value num_bits = (s', data')) :
    wrAbs s' data' = BitIO.writeBits (wrAbs s data) value.toNat num_bits.toNat ∧ wrInv s' data' = true ∧
    data'.length = data.length ∧
    data'.take s.byte_pos.toNat = data.take s.byte_pos.toNat ∧
    data'.drop s'.byte_pos.toNat = data.drop s'.byte_pos.toNat ∧
    s.byte_pos.toNat ≤ s'.byte_pos.toNat ∧ s'.capacity = s.capacity ∧ s'.data = s.data ∧ s'.bit_pos = s.bit_pos :=
  (write_bits_spec s data value num_bits ((wrInv_iff s data).mp h) hn).link (by decide) s' data' e

/-- `1U << num_bits` only for `num_bits < 32`, the accumulator is shifted by at most 32 (room is made first) and holds
at most 64 bits before the second flush, no `int` overflow, every store inside the capacity -/
theorem C11_cfun_bit_writer_write_bits_defined (s : Gen.CFun.carquet_bit_writer_t) (data : List UInt8)
    (value num_bits : BitVec 32) (h : wrInv s data = true) (hn : 0 ≤ num_bits.toInt) :
    Gen.CFun.carquet_bit_writer_write_bits_defined s data value num_bits = true :=
  (write_bits_spec s data value num_bits ((wrInv_iff s data).mp h) hn).defined

/-- 40 bits pending and 32 more (the F81 situation): room is made first (5 bytes out), nothing is lost; a negative
`num_bits` reaches `1U << num_bits` -/
example : Gen.CFun.carquet_bit_writer_write_bits ⟨0, 16#64, 0#64, 0#32, 0xFFFFFFFFFF#64, 40#32⟩ [0, 0, 0, 0, 0, 0, 0, 0]
        0xFFFFFFFF#32 32#32 =
      (⟨0, 16#64, 5#64, 0#32, 0xFFFFFFFF#64, 32#32⟩, [0xFF, 0xFF, 0xFF, 0xFF, 0xFF, 0, 0, 0]) ∧
    BitIO.writeBits ⟨16, [], 0xFFFFFFFFFF, 40⟩ 0xFFFFFFFF 32 = ⟨16, [0xFF, 0xFF, 0xFF, 0xFF, 0xFF], 0xFFFFFFFF, 32⟩ ∧
    Gen.CFun.carquet_bit_writer_write_bits ⟨0, 2#64, 0#64, 0#32, 0x1FFFFFF#64, 25#32⟩ [0, 0, 0] 0xABCDEF12#32 77#32 =
      (⟨0, 2#64, 2#64, 0#32, 1#64, 1#32⟩, [0xFF, 0xFF, 0]) ∧
    Gen.CFun.carquet_bit_writer_write_bits_defined ⟨0, 2#64, 0#64, 0#32, 0x1FFFFFF#64, 25#32⟩ [0, 0, 0] 0xABCDEF12#32 77#32 = true ∧
    Gen.CFun.carquet_bit_writer_write_bits_defined ⟨0, 2#64, 0#64, 0#32, 0x1FFFFFF#64, 25#32⟩ [0, 0, 0] 1#32 (-1#32) = false ∧
    Gen.CFun.carquet_bit_writer_write_bits_defined ⟨0, 2#64, 0#64, 0#32, 0x1FFFFFF#64, 25#32⟩ [0] 0xABCDEF12#32 32#32 = false := by
  decide +kernel

/-- `carquet_bit_writer_write_bits64(writer, value, num_bits)` for `num_bits ≥ 0` (clamped to 64; more than 32 bits go
in two `write_bits` calls): the model's `writeBits64` -/
theorem C11_cfun_bit_writer_write_bits64 (s : Gen.CFun.carquet_bit_writer_t) (data : List UInt8) (value : BitVec 64)
    (num_bits : BitVec 32) (h : wrInv s data = true) (hn : 0 ≤ num_bits.toInt)
    (s' : Gen.CFun.carquet_bit_writer_t) (data' : List UInt8)
    (e : Gen.CFun.carquet_bit_writer_write_bits64 s data value num_bits = (s', data')) :
    wrAbs s' data' = BitIO.writeBits64 (wrAbs s data) value.toNat num_bits.toNat ∧ wrInv s' data' = true ∧
    data'.length = data.length ∧
    data'.take s.byte_pos.toNat = data.take s.byte_pos.toNat ∧
    data'.drop s'.byte_pos.toNat = data.drop s'.byte_pos.toNat ∧
    s.byte_pos.toNat ≤ s'.byte_pos.toNat ∧ s'.capacity = s.capacity ∧ s'.data = s.data ∧ s'.bit_pos = s.bit_pos :=
  (write_bits64_spec s data value num_bits ((wrInv_iff s data).mp h) hn).link (by decide) s' data' e

theorem C11_cfun_bit_writer_write_bits64_defined (s : Gen.CFun.carquet_bit_writer_t) (data : List UInt8)
    (value : BitVec 64) (num_bits : BitVec 32) (h : wrInv s data = true) (hn : 0 ≤ num_bits.toInt) :
    Gen.CFun.carquet_bit_writer_write_bits64_defined s data value num_bits = true :=
  (write_bits64_spec s data value num_bits ((wrInv_iff s data).mp h) hn).defined

/-- 50 bits on top of 3 pending ones: 35 bits after the low half, room is made for the high half (4 bytes out), 21
bits stay pending; a negative count is passed on to `write_bits` -/
example : Gen.CFun.carquet_bit_writer_write_bits64 ⟨0, 8#64, 1#64, 0#32, 5#64, 3#32⟩ [0x11, 0, 0, 0, 0, 0, 0, 0]
        0x2AAAAAAAAAAAA#64 50#32 =
      (⟨0, 8#64, 5#64, 0#32, 0x155555#64, 21#32⟩, [0x11, 0x55, 0x55, 0x55, 0x55, 0, 0, 0]) ∧
    BitIO.writeBits64 ⟨8, [0x11], 5, 3⟩ 0x2AAAAAAAAAAAA 50 = ⟨8, [0x11, 0x55, 0x55, 0x55, 0x55], 0x155555, 21⟩ ∧
    Gen.CFun.carquet_bit_writer_write_bits64_defined ⟨0, 8#64, 1#64, 0#32, 5#64, 3#32⟩ [0x11, 0, 0, 0, 0, 0, 0, 0]
        0x2AAAAAAAAAAAA#64 50#32 = true ∧
    Gen.CFun.carquet_bit_writer_write_bits64_defined ⟨0, 8#64, 1#64, 0#32, 5#64, 3#32⟩ [0x11, 0, 0, 0, 0, 0, 0, 0]
        0x2AAAAAAAAAAAA#64 (-5#32) = false ∧
    Gen.CFun.carquet_bit_writer_write_bits64_defined ⟨0, 8#64, 1#64, 0#32, 5#64, 3#32⟩ [0x11, 0, 0]
        0x2AAAAAAAAAAAA#64 50#32 = false := by
  decide +kernel

/-- `carquet_bit_writer_flush(writer)`: the model's `flush` (complete bytes, then the partial byte if it fits) -/
theorem C11_cfun_bit_writer_flush (s : Gen.CFun.carquet_bit_writer_t) (data : List UInt8) (h : wrInv s data = true)
    (s' : Gen.CFun.carquet_bit_writer_t) (data' : List UInt8) (e : Gen.CFun.carquet_bit_writer_flush s data = (s', data')) :
    wrAbs s' data' = BitIO.flush (wrAbs s data) ∧ wrInv s' data' = true ∧ data'.length = data.length ∧
    data'.take s.byte_pos.toNat = data.take s.byte_pos.toNat ∧
    data'.drop s'.byte_pos.toNat = data.drop s'.byte_pos.toNat ∧
    s.byte_pos.toNat ≤ s'.byte_pos.toNat ∧ s'.capacity = s.capacity ∧ s'.data = s.data ∧ s'.bit_pos = s.bit_pos :=
  (flush_spec s data ((wrInv_iff s data).mp h)).link (by decide) s' data' e

theorem C11_cfun_bit_writer_flush_defined (s : Gen.CFun.carquet_bit_writer_t) (data : List UInt8)
    (h : wrInv s data = true) : Gen.CFun.carquet_bit_writer_flush_defined s data = true :=
  (flush_spec s data ((wrInv_iff s data).mp h)).defined

/-- 20 pending bits: two complete bytes and the partial one; with room for two only, the partial byte stays pending -/
example : Gen.CFun.carquet_bit_writer_flush ⟨0, 4#64, 1#64, 0#32, 0xABCDE#64, 20#32⟩ [1, 0, 0, 0, 9] =
      (⟨0, 4#64, 4#64, 0#32, 0#64, 0#32⟩, [1, 0xDE, 0xBC, 0x0A, 9]) ∧
    BitIO.flush ⟨4, [1], 0xABCDE, 20⟩ = ⟨4, [1, 0xDE, 0xBC, 0x0A], 0, 0⟩ ∧
    Gen.CFun.carquet_bit_writer_flush ⟨0, 3#64, 1#64, 0#32, 0xABCDE#64, 20#32⟩ [1, 0, 0, 0, 9] =
      (⟨0, 3#64, 3#64, 0#32, 0xA#64, 4#32⟩, [1, 0xDE, 0xBC, 0, 9]) ∧
    Gen.CFun.carquet_bit_writer_flush_defined ⟨0, 4#64, 1#64, 0#32, 0xABCDE#64, 20#32⟩ [1, 0, 0, 0, 9] = true ∧
    Gen.CFun.carquet_bit_writer_flush_defined ⟨0, 4#64, 1#64, 0#32, 0xABCDE#64, 20#32⟩ [1, 0, 0] = false := by
  decide +kernel

/-- `carquet_bit_writer_bytes_written(writer)` = the number of bytes the model has stored -/
theorem C11_cfun_bit_writer_bytes_written (s : Gen.CFun.carquet_bit_writer_t) (data : List UInt8)
    (h : wrInv s data = true) :
    (Gen.CFun.carquet_bit_writer_bytes_written s).toNat = BitIO.bytesWritten (wrAbs s data) := by
  have hi := (wrInv_iff s data).mp h
  have := hi.pos
  have := hi.cap
  simp only [Gen.CFun.carquet_bit_writer_bytes_written, BitIO.bytesWritten, wrAbs, List.length_take]
  omega

theorem C11_cfun_bit_writer_bytes_written_defined (s : Gen.CFun.carquet_bit_writer_t) :
    Gen.CFun.carquet_bit_writer_bytes_written_defined s = true := rfl

example : Gen.CFun.carquet_bit_writer_bytes_written ⟨0, 4#64, 3#64, 0#32, 5#64, 3#32⟩ = 3#64 ∧
    BitIO.bytesWritten (wrAbs ⟨0, 4#64, 3#64, 0#32, 5#64, 3#32⟩ [1, 2, 3, 4]) = 3 ∧
    -- outside the invariant (`byte_pos` beyond the array) the model side differs
    BitIO.bytesWritten (wrAbs ⟨0, 4#64, 3#64, 0#32, 5#64, 3#32⟩ [1, 2]) = 2 := by decide +kernel

end Carquet.Properties.C11
end CFun3BitWriter

/-! ## Bitunpack -/
section CFun3Bitunpack
/-
C11 — stage-3 link theorem: `carquet_bitunpack8_32` of src/core/bitpack.c as translated from the CURRENT C source by
translate/gen_cfun.py (dispatch on the width, the eight specialised unpackers, and the general `bit_pos` / `byte_pos` loop
nest for widths 9..32), against `Impl.Bitpack.unpack8`, at every width 0..32.
-/
namespace Carquet.Properties.C11
open Carquet Carquet.Impl Carquet.Proofs.CFun3.Bitunpack

/-- **`carquet_bitunpack8_32(input, bit_width, values)`**, `bit_width ≤ 32` and that many bytes in `input`: the eight values
the model `Bitpack.unpack8` computes are stored in `values[0..8)`, the rest of `values` is untouched. -/
theorem C11_cfun_bitunpack8_32 (input : List UInt8) (values : List (BitVec 32)) (w : Nat) (hw : w ≤ 32)
    (hi : w ≤ input.length) (hv : 8 ≤ values.length) :
    (Gen.CFun.carquet_bitunpack8_32 input (BitVec.ofNat 32 w) values).map BitVec.toNat =
      Bitpack.unpack8 w input ++ (values.drop 8).map BitVec.toNat :=
  (bitunpack8_32_spec input values w hw hi hv).1

example : (Gen.CFun.carquet_bitunpack8_32 [1, 32, 0, 3, 240, 255, 0, 0, 128, 7, 64, 6] 12#32
      (List.replicate 9 7#32)).map BitVec.toNat = [1, 2, 3, 4095, 0, 2048, 7, 100, 7] ∧
    Bitpack.unpack8 12 [1, 32, 0, 3, 240, 255, 0, 0, 128, 7, 64, 6] = [1, 2, 3, 4095, 0, 2048, 7, 100] ∧
    (Gen.CFun.carquet_bitunpack8_32 [255, 1, 4, 0, 88, 64, 85, 85, 150] 9#32
      (List.replicate 8 0#32)).map BitVec.toNat = [511, 0, 1, 256, 5, 170, 341, 300] := by decide +kernel

/-- … and under the same hypotheses the C function reaches no undefined behaviour: every read is inside `input`, every
write inside `values`, no signed overflow, no out-of-range shift, and the loop fuels of the translation are not exhausted. -/
theorem C11_cfun_bitunpack8_32_defined (input : List UInt8) (values : List (BitVec 32)) (w : Nat) (hw : w ≤ 32)
    (hi : w ≤ input.length) (hv : 8 ≤ values.length) :
    Gen.CFun.carquet_bitunpack8_32_defined input (BitVec.ofNat 32 w) values = true :=
  (bitunpack8_32_spec input values w hw hi hv).2

example : Gen.CFun.carquet_bitunpack8_32_defined [1, 32, 0, 3, 240, 255, 0, 0, 128, 7, 64, 6] 12#32
      (List.replicate 9 7#32) = true ∧
    Gen.CFun.carquet_bitunpack8_32_defined [1, 32, 0, 3, 240, 255, 0, 0, 128, 7, 64] 12#32
      (List.replicate 9 7#32) = false ∧
    Gen.CFun.carquet_bitunpack8_32_defined [1, 32, 0, 3, 240, 255, 0, 0, 128, 7, 64, 6] 12#32
      (List.replicate 7 7#32) = false := by decide +kernel

end Carquet.Properties.C11
end CFun3Bitunpack

/-! ## Bitunpack32 -/
section CFun3Bitunpack32
/-
C11 — stage-3 link theorem: `carquet_bitunpack_32` of src/core/bitpack.c as translated from the CURRENT C source by
translate/gen_cfun.py (the `memset` for width 0, the loop over the groups of 8 through `carquet_bitunpack8_32(input +
bytes_consumed, bit_width, values + i)`, the tail of `count % 8` values unpacked from the zero-padded 32-byte local copy
into the uninitialised local `temp[8]` and copied out), against `Impl.Bitpack.unpack`, at every width 0..32 and every
count below 2^61.  `temp_indet` is the ghost parameter of the translation for the indeterminate content of `temp` before
`carquet_bitunpack8_32` overwrites it: the theorems hold for every such content.
-/
namespace Carquet.Properties.C11
open Carquet Carquet.Impl Carquet.Proofs.CFun3.Bitunpack32

/-- **`carquet_bitunpack_32(input, count, bit_width, values)`**, `bit_width ≤ 32`, `input` holds the bytes the function
reports as consumed (`count / 8 * w + packed_size(count % 8, w)`, 0 for width 0) and `values` has room for `count`
entries: the return value is the model's `bytes_consumed`, `values[0 .. count)` are the model's values, the rest of
`values` is untouched. -/
theorem C11_cfun_bitunpack_32 (input : List UInt8) (values temp_indet : List (BitVec 32)) (w count : Nat) (hw : w ≤ 32)
    (hc : count < 2 ^ 61) (hi : (Bitpack.unpack w input count).2 ≤ input.length) (hv : count ≤ values.length)
    (ht : temp_indet.length = 8) :
    ((Gen.CFun.carquet_bitunpack_32 input (BitVec.ofNat 64 count) (BitVec.ofNat 32 w) values temp_indet).1.toNat =
      (Bitpack.unpack w input count).2) ∧
    ((Gen.CFun.carquet_bitunpack_32 input (BitVec.ofNat 64 count) (BitVec.ofNat 32 w) values temp_indet).2.map BitVec.toNat =
      (Bitpack.unpack w input count).1 ++ (values.drop count).map BitVec.toNat) :=
  have h := bitunpack_32_spec input values temp_indet w count hw hc hi hv ht
  ⟨h.1, h.2.1⟩

-- 11 values of width 9 (one group through the general loop nest, a tail of 3 through `packed` / `temp`), junk in `temp`
example : (Bitpack.unpack 9 [255, 1, 4, 0, 88, 64, 85, 85, 150, 255, 1, 4, 0] 11).2 ≤ 13 ∧
    (Gen.CFun.carquet_bitunpack_32 [255, 1, 4, 0, 88, 64, 85, 85, 150, 255, 1, 4, 0] 11#64 9#32 (List.replicate 12 7#32)
      [0xdeadbeef#32, 2#32, 3#32, 4#32, 5#32, 6#32, 7#32, 8#32]).1.toNat = 13 ∧
    (Gen.CFun.carquet_bitunpack_32 [255, 1, 4, 0, 88, 64, 85, 85, 150, 255, 1, 4, 0] 11#64 9#32 (List.replicate 12 7#32)
      [0xdeadbeef#32, 2#32, 3#32, 4#32, 5#32, 6#32, 7#32, 8#32]).2.map BitVec.toNat =
      [511, 0, 1, 256, 5, 170, 341, 300, 511, 0, 1, 7] ∧
    Bitpack.unpack 9 [255, 1, 4, 0, 88, 64, 85, 85, 150, 255, 1, 4, 0] 11 =
      ([511, 0, 1, 256, 5, 170, 341, 300, 511, 0, 1], 13) ∧
    -- one value of width 32: 4 bytes of the caller's buffer (F32)
    (Gen.CFun.carquet_bitunpack_32 [0xef, 0xbe, 0xad, 0xde] 1#64 32#32 [0#32, 9#32]
      (List.replicate 8 0x55#32)).2.map BitVec.toNat = [0xdeadbeef, 9] ∧
    -- width 0: `memset`
    (Gen.CFun.carquet_bitunpack_32 [] 3#64 0#32 (List.replicate 4 5#32) (List.replicate 8 0x55#32)).2.map BitVec.toNat =
      [0, 0, 0, 5] := by decide +kernel

/-- … and under the same hypotheses the C function reaches no undefined behaviour: every read of `input` lies inside
`input[0 .. bytes_consumed)`, every write inside `values[0 .. count)`, the `memcpy` into `packed[32]` copies at most 32
bytes, `temp[j]` is read for `j < 8` only, and the loop fuels of the translation are not exhausted. -/
theorem C11_cfun_bitunpack_32_defined (input : List UInt8) (values temp_indet : List (BitVec 32)) (w count : Nat)
    (hw : w ≤ 32) (hc : count < 2 ^ 61) (hi : (Bitpack.unpack w input count).2 ≤ input.length)
    (hv : count ≤ values.length) (ht : temp_indet.length = 8) :
    Gen.CFun.carquet_bitunpack_32_defined input (BitVec.ofNat 64 count) (BitVec.ofNat 32 w) values temp_indet = true :=
  (bitunpack_32_spec input values temp_indet w count hw hc hi hv ht).2.2

example : Gen.CFun.carquet_bitunpack_32_defined [255, 1, 4, 0, 88, 64, 85, 85, 150, 255, 1, 4, 0] 11#64 9#32
      (List.replicate 12 7#32) [0xdeadbeef#32, 2#32, 3#32, 4#32, 5#32, 6#32, 7#32, 8#32] = true ∧
    -- the input one byte too short: the `memcpy` of the 4 tail bytes reads `input[12]`
    (Bitpack.unpack 9 [255, 1, 4, 0, 88, 64, 85, 85, 150, 255, 1, 4] 11).2 = 13 ∧
    Gen.CFun.carquet_bitunpack_32_defined [255, 1, 4, 0, 88, 64, 85, 85, 150, 255, 1, 4] 11#64 9#32
      (List.replicate 12 7#32) [0xdeadbeef#32, 2#32, 3#32, 4#32, 5#32, 6#32, 7#32, 8#32] = false ∧
    -- room for 10 values only: `values[10] = temp[2]`
    Gen.CFun.carquet_bitunpack_32_defined [255, 1, 4, 0, 88, 64, 85, 85, 150, 255, 1, 4, 0] 11#64 9#32
      (List.replicate 10 7#32) [0xdeadbeef#32, 2#32, 3#32, 4#32, 5#32, 6#32, 7#32, 8#32] = false := by decide +kernel

end Carquet.Properties.C11
end CFun3Bitunpack32

/-! ## RleDec -/
section CFun3RleDec
/-
C11 — stage-3 link theorems: the non-recursive pieces of the RLE / bit-packing hybrid DECODER of src/encoding/rle.c
(`carquet_rle_decoder_init`, `carquet_rle_decoder_has_next`, `fill_bitpack_buffer`) as translated from the CURRENT C source
by translate/gen_cfun.py (the struct `carquet_rle_decoder_t` is a generated Lean structure, its pointer field `data` an
offset into the input buffer that travels as a separate list, its array `bitpack_buffer[8]` a list), against the model
`Impl.Rle.Dec` (`Dec.init`, `hasNext`, `fill`).

`rleAbs inRle rleValue s data` reads a C decoder state over the buffer `data` as the model state (`rest` = the bytes from
`pos` on, `bp` = `bitpack_buffer[bitpack_pos .. bitpack_count)`); the C fields `in_rle_run` / `rle_value` are never
touched by these three functions, are not part of the generated structure, and enter as the two parameters.
`rleInv s data` is the invariant of a live decoder (`data` field = start of the buffer, `size` = its length and
`size + 32 < 2^64`, `pos ≤ size`, `run_remaining ≥ 0`, 8 group-buffer elements, `0 ≤ bitpack_pos ≤ bitpack_count ≤ 8`,
status 0 or 43, and while the status is OK `0 ≤ bit_width ≤ 32` with `value_mask` the mask of that width): it holds
after `init` and `fill_bitpack_buffer` keeps it.

`size + 32 < 2^64` is what keeps `dec->pos + bytes_needed` from wrapping (`size_t` arithmetic); no C object is that large.
Without it the generated function and the model part ways: see the last example of `C11_cfun_fill_bitpack_buffer`.
-/
namespace Carquet.Properties.C11
open Carquet Carquet.Impl Carquet.Impl.CFun3 Carquet.Proofs.CFun3.RleDec

/-- `carquet_rle_decoder_init(dec, data, size, bit_width)` with `size` the length of the buffer, on ANY incoming `*dec`
and ANY `int bit_width`: the model's initial state (`in_rle_run = false`, `rle_value = 0` from the `memset`), and the
invariant holds.  A negative `bit_width` needs no side condition: its bit pattern read unsigned is a width above 32, and
both the C code (`bit_width < 0`) and the model (`w > maxWidth`) leave the decoder in status INVALID_RLE (43) -/
theorem C11_cfun_rle_decoder_init (s : Gen.CFun.carquet_rle_decoder_t) (data : List UInt8) (bit_width : BitVec 32)
    (h : data.length + 32 < 2 ^ 64) :
    rleAbs false 0 (Gen.CFun.carquet_rle_decoder_init s data (BitVec.ofNat 64 data.length) bit_width) data =
      Rle.Dec.init bit_width.toNat data ∧
    rleInv (Gen.CFun.carquet_rle_decoder_init s data (BitVec.ofNat 64 data.length) bit_width) data = true :=
  ⟨(init_eq s data bit_width h).1, (init_eq s data bit_width h).2.1⟩

/-- … and `1U << bit_width` is evaluated for `0 ≤ bit_width < 32` only -/
theorem C11_cfun_rle_decoder_init_defined (s : Gen.CFun.carquet_rle_decoder_t) (data : List UInt8)
    (bit_width : BitVec 32) (h : data.length + 32 < 2 ^ 64) :
    Gen.CFun.carquet_rle_decoder_init_defined s data (BitVec.ofNat 64 data.length) bit_width = true :=
  (init_eq s data bit_width h).2.2

example :
    -- every field of the incoming struct is overwritten (memset); width 3: mask 7, status OK
    Gen.CFun.carquet_rle_decoder_init ⟨7, 1#64, 2#64, 3#32, 4#32, 5#64, [1#32], 6#32, 7#32, 8#32⟩
        [0x03, 0x88, 0xC6, 0xFA] 4#64 3#32 =
      ⟨0, 4#64, 0#64, 3#32, 7#32, 0#64, List.replicate 8 0#32, 0#32, 0#32, 0#32⟩ ∧
    rleAbs false 0 ⟨0, 4#64, 0#64, 3#32, 7#32, 0#64, List.replicate 8 0#32, 0#32, 0#32, 0#32⟩ [0x03, 0x88, 0xC6, 0xFA] =
      ⟨3, [0x03, 0x88, 0xC6, 0xFA], false, 0, 0, [], .ok⟩ ∧
    -- width 32: `~0U`
    (Gen.CFun.carquet_rle_decoder_init ⟨7, 1#64, 2#64, 3#32, 4#32, 5#64, [1#32], 6#32, 7#32, 8#32⟩
        [0x03, 0x88, 0xC6, 0xFA] 4#64 32#32).value_mask = 0xFFFFFFFF#32 ∧
    -- width 33 and width -1: status 43, `value_mask` left 0; the invariant holds (the width is then unconstrained)
    Gen.CFun.carquet_rle_decoder_init ⟨7, 1#64, 2#64, 3#32, 4#32, 5#64, [1#32], 6#32, 7#32, 8#32⟩
        [0x03, 0x88, 0xC6, 0xFA] 4#64 33#32 =
      ⟨0, 4#64, 0#64, 33#32, 0#32, 0#64, List.replicate 8 0#32, 0#32, 0#32, 43#32⟩ ∧
    Gen.CFun.carquet_rle_decoder_init ⟨7, 1#64, 2#64, 3#32, 4#32, 5#64, [1#32], 6#32, 7#32, 8#32⟩
        [0x03, 0x88, 0xC6, 0xFA] 4#64 0xFFFFFFFF#32 =
      ⟨0, 4#64, 0#64, 0xFFFFFFFF#32, 0#32, 0#64, List.replicate 8 0#32, 0#32, 0#32, 43#32⟩ ∧
    (Rle.Dec.init 4294967295 [0x03, 0x88, 0xC6, 0xFA]).status = .invalidRle ∧
    rleInv ⟨0, 4#64, 0#64, 0xFFFFFFFF#32, 0#32, 0#64, List.replicate 8 0#32, 0#32, 0#32, 43#32⟩
        [0x03, 0x88, 0xC6, 0xFA] = true ∧
    Gen.CFun.carquet_rle_decoder_init_defined ⟨7, 1#64, 2#64, 3#32, 4#32, 5#64, [1#32], 6#32, 7#32, 8#32⟩
        [0x03, 0x88, 0xC6, 0xFA] 4#64 0xFFFFFFFF#32 = true ∧
    -- a `size` that is not the length of the buffer is outside the invariant
    rleInv (Gen.CFun.carquet_rle_decoder_init ⟨7, 1#64, 2#64, 3#32, 4#32, 5#64, [1#32], 6#32, 7#32, 8#32⟩
        [0x03, 0x88, 0xC6, 0xFA] 5#64 3#32) [0x03, 0x88, 0xC6, 0xFA] = false := by decide +kernel

/-- `carquet_rle_decoder_has_next(dec)`: the model's `hasNext` (whatever `in_rle_run` / `rle_value` hold) -/
theorem C11_cfun_rle_decoder_has_next (ir : Bool) (rv : Nat) (s : Gen.CFun.carquet_rle_decoder_t) (data : List UInt8)
    (h : rleInv s data = true) :
    Gen.CFun.carquet_rle_decoder_has_next s = Rle.hasNext (rleAbs ir rv s data) := has_next_eq ir rv s data h

theorem C11_cfun_rle_decoder_has_next_defined (s : Gen.CFun.carquet_rle_decoder_t) :
    Gen.CFun.carquet_rle_decoder_has_next_defined s = true := rfl

example :
    -- input left
    Gen.CFun.carquet_rle_decoder_has_next ⟨0, 4#64, 1#64, 3#32, 7#32, 0#64, List.replicate 8 0#32, 0#32, 0#32, 0#32⟩ = true ∧
    -- input exhausted but 5 values of the run left
    Gen.CFun.carquet_rle_decoder_has_next ⟨0, 4#64, 4#64, 3#32, 7#32, 5#64, List.replicate 8 0#32, 3#32, 8#32, 0#32⟩ = true ∧
    -- exhausted; status INVALID_RLE
    Gen.CFun.carquet_rle_decoder_has_next ⟨0, 4#64, 4#64, 3#32, 7#32, 0#64, List.replicate 8 0#32, 8#32, 8#32, 0#32⟩ = false ∧
    Gen.CFun.carquet_rle_decoder_has_next ⟨0, 4#64, 1#64, 3#32, 7#32, 5#64, List.replicate 8 0#32, 0#32, 0#32, 43#32⟩ = false ∧
    Rle.hasNext ⟨3, [], true, 5, 2, [], .ok⟩ = true ∧ Rle.hasNext ⟨3, [0x88], true, 5, 2, [], .invalidRle⟩ = false ∧
    -- outside the invariant (`run_remaining = -1`): C says "no value left" at the end of the input, the model's
    -- `runRemaining : Nat` cannot be negative
    Gen.CFun.carquet_rle_decoder_has_next
      ⟨0, 4#64, 4#64, 3#32, 7#32, 0xFFFFFFFFFFFFFFFF#64, List.replicate 8 0#32, 0#32, 0#32, 0#32⟩ = false ∧
    Rle.hasNext (rleAbs false 0
      ⟨0, 4#64, 4#64, 3#32, 7#32, 0xFFFFFFFFFFFFFFFF#64, List.replicate 8 0#32, 0#32, 0#32, 0#32⟩ [1, 2, 3, 4]) = true ∧
    rleInv ⟨0, 4#64, 4#64, 3#32, 7#32, 0xFFFFFFFFFFFFFFFF#64, List.replicate 8 0#32, 0#32, 0#32, 0#32⟩ [1, 2, 3, 4] = false := by
  decide +kernel

/-- `fill_bitpack_buffer(dec)` on a live decoder with status OK (`carquet_rle_decoder_get / _get_batch / _skip` call it
only then; with status 43 the width may be outside 0..32): the returned `bool` and the new state are the model's `fill`
(no run open: nothing; fewer than `bit_width` bytes left: status INVALID_RLE; else the 8 values of the group in
`bitpack_buffer[0..8)`, `bitpack_pos = 0`, `bitpack_count = 8`, `pos += bit_width`); the invariant is kept; `data`,
`size`, `bit_width`, `value_mask`, `run_remaining` are unchanged -/
theorem C11_cfun_fill_bitpack_buffer (ir : Bool) (rv : Nat) (s : Gen.CFun.carquet_rle_decoder_t) (data : List UInt8)
    (h : rleInv s data = true) (h0 : s.status = 0#32) :
    (Gen.CFun.fill_bitpack_buffer s data).1 = (Rle.fill (rleAbs ir rv s data)).1 ∧
    rleAbs ir rv (Gen.CFun.fill_bitpack_buffer s data).2 data = (Rle.fill (rleAbs ir rv s data)).2 ∧
    rleInv (Gen.CFun.fill_bitpack_buffer s data).2 data = true ∧
    (Gen.CFun.fill_bitpack_buffer s data).2.data = s.data ∧
    (Gen.CFun.fill_bitpack_buffer s data).2.size = s.size ∧
    (Gen.CFun.fill_bitpack_buffer s data).2.bit_width = s.bit_width ∧
    (Gen.CFun.fill_bitpack_buffer s data).2.value_mask = s.value_mask ∧
    (Gen.CFun.fill_bitpack_buffer s data).2.run_remaining = s.run_remaining :=
  ⟨(fill_eq ir rv s data h h0).1, (fill_eq ir rv s data h h0).2.1, (fill_eq ir rv s data h h0).2.2.1,
   (fill_eq ir rv s data h h0).2.2.2.1, (fill_eq ir rv s data h h0).2.2.2.2.1, (fill_eq ir rv s data h h0).2.2.2.2.2.1,
   (fill_eq ir rv s data h h0).2.2.2.2.2.2.1, (fill_eq ir rv s data h h0).2.2.2.2.2.2.2.1⟩

/-- … and no undefined behaviour: the group unpacker `carquet_bitunpack8_32(dec->data + dec->pos, bit_width,
dec->bitpack_buffer)` runs only after `pos + bit_width ≤ size` was tested, so every byte it reads is inside
`data[0 .. size)`; it writes `bitpack_buffer[0 .. 8)` only; `pos + bytes_needed` does not wrap -/
theorem C11_cfun_fill_bitpack_buffer_defined (s : Gen.CFun.carquet_rle_decoder_t) (data : List UInt8)
    (h : rleInv s data = true) (h0 : s.status = 0#32) : Gen.CFun.fill_bitpack_buffer_defined s data = true :=
  (fill_eq false 0 s data h h0).2.2.2.2.2.2.2.2

example :
    -- width 3, the group 0x88 0xC6 0xFA after the run header 0x03 = values 0..7 (stale buffer content overwritten)
    Gen.CFun.fill_bitpack_buffer ⟨0, 4#64, 1#64, 3#32, 7#32, 8#64, List.replicate 8 9#32, 8#32, 8#32, 0#32⟩
        [0x03, 0x88, 0xC6, 0xFA] =
      (true, ⟨0, 4#64, 4#64, 3#32, 7#32, 8#64, [0#32, 1#32, 2#32, 3#32, 4#32, 5#32, 6#32, 7#32], 0#32, 8#32, 0#32⟩) ∧
    Rle.fill ⟨3, [0x88, 0xC6, 0xFA], false, 8, 0, [], .ok⟩ = (true, ⟨3, [], false, 8, 0, [0, 1, 2, 3, 4, 5, 6, 7], .ok⟩) ∧
    rleInv ⟨0, 4#64, 1#64, 3#32, 7#32, 8#64, List.replicate 8 9#32, 8#32, 8#32, 0#32⟩ [0x03, 0x88, 0xC6, 0xFA] = true ∧
    Gen.CFun.fill_bitpack_buffer_defined ⟨0, 4#64, 1#64, 3#32, 7#32, 8#64, List.replicate 8 9#32, 8#32, 8#32, 0#32⟩
        [0x03, 0x88, 0xC6, 0xFA] = true ∧
    -- a truncated group: status 43, nothing else changes
    Gen.CFun.fill_bitpack_buffer ⟨0, 3#64, 1#64, 3#32, 7#32, 8#64, List.replicate 8 9#32, 8#32, 8#32, 0#32⟩
        [0x03, 0x88, 0xC6] =
      (false, ⟨0, 3#64, 1#64, 3#32, 7#32, 8#64, List.replicate 8 9#32, 8#32, 8#32, 43#32⟩) ∧
    Rle.fill ⟨3, [0x88, 0xC6], false, 8, 0, [], .ok⟩ = (false, ⟨3, [0x88, 0xC6], false, 8, 0, [], .invalidRle⟩) ∧
    -- no run open: nothing happens; width 0: eight zeros, no byte consumed
    Gen.CFun.fill_bitpack_buffer ⟨0, 3#64, 1#64, 3#32, 7#32, 0#64, List.replicate 8 9#32, 8#32, 8#32, 0#32⟩
        [0x03, 0x88, 0xC6] =
      (false, ⟨0, 3#64, 1#64, 3#32, 7#32, 0#64, List.replicate 8 9#32, 8#32, 8#32, 0#32⟩) ∧
    Gen.CFun.fill_bitpack_buffer ⟨0, 1#64, 1#64, 0#32, 0#32, 8#64, List.replicate 8 9#32, 8#32, 8#32, 0#32⟩ [0x03] =
      (true, ⟨0, 1#64, 1#64, 0#32, 0#32, 8#64, List.replicate 8 0#32, 0#32, 8#32, 0#32⟩) ∧
    -- outside the invariant, `size` larger than the data list: the unpacker reads `data[3]`
    rleInv ⟨0, 4#64, 1#64, 3#32, 7#32, 8#64, List.replicate 8 9#32, 8#32, 8#32, 0#32⟩ [0x03, 0x88, 0xC6] = false ∧
    Gen.CFun.fill_bitpack_buffer_defined ⟨0, 4#64, 1#64, 3#32, 7#32, 8#64, List.replicate 8 9#32, 8#32, 8#32, 0#32⟩
        [0x03, 0x88, 0xC6] = false ∧
    -- outside the invariant, `size + 32 ≥ 2^64`: `pos + bytes_needed` wraps to 1, the test `> size` passes, and the
    -- unpacker reads three bytes at `data + 2^64 - 2` (a buffer of that size cannot exist)
    (Gen.CFun.fill_bitpack_buffer
      ⟨0, 0xFFFFFFFFFFFFFFFF#64, 0xFFFFFFFFFFFFFFFE#64, 3#32, 7#32, 8#64, List.replicate 8 9#32, 8#32, 8#32, 0#32⟩
        [0x03, 0x88, 0xC6]).1 = true ∧
    Gen.CFun.fill_bitpack_buffer_defined
      ⟨0, 0xFFFFFFFFFFFFFFFF#64, 0xFFFFFFFFFFFFFFFE#64, 3#32, 7#32, 8#64, List.replicate 8 9#32, 8#32, 8#32, 0#32⟩
        [0x03, 0x88, 0xC6] = false := by decide +kernel

end Carquet.Properties.C11
end CFun3RleDec
