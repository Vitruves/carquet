import Carquet.Proofs.CFunB.BssGeneric
import Carquet.Proofs.CFunB.Enc
import Carquet.Proofs.CFunB.PlainBool
/-
C11 — link theorems (component `cfun`, batch `cfunb`): array loops of the encodings as translated from the CURRENT C source by
translate/gen_cfun.py on every check run, proved equal to the Impl models the round-trip theorems are about:
`carquet_byte_stream_split_encode` / `_decode` (the generic FIXED_LEN_BYTE_ARRAY loop nests with their argument checks;
`Impl.Bss.encode` / `decode`, C11_bss_roundtrip), `carquet_decode_plain_fixed_byte_array` (`Impl.Plain.decodeFlba`,
C11_plain_fixed_len_byte_array_roundtrip), `dict_hash` (`Impl.Dictionary.dictHash`, C11_dictionary_builder), `write_uleb128`
(`Impl.Delta.writeUleb128`, C11_delta_*_roundtrip), `common_prefix_length` (`Impl.DeltaStrings.commonPrefixLength`,
C11_delta_strings_roundtrip).  NULL tests of the array parameters are constant (arrays are objects the caller provides).
-/
namespace Carquet.Properties.C11
open Carquet Carquet.Impl Carquet.Proofs.CFunB

/-! ### BYTE_STREAM_SPLIT, generic -/

/-- success path: `count` values of `type_length` bytes each, an output of exactly `count * type_length` bytes; the status is
`CARQUET_OK` (0), the output holds the model's bytes, `*bytes_written` their number -/
theorem C11_cfun_byte_stream_split_encode (values out : List UInt8) (n k cap : Nat) (bw : BitVec 64) (hk0 : 0 < k)
    (hk : k < 2 ^ 30) (hs : values.length = n * k) (ho : out.length = n * k) (hn : n * k + k + n < 2 ^ 63) (hcap : n * k ≤ cap)
    (hc : cap < 2 ^ 64) :
    ∃ L, Bss.encode values (n : Int) (k : Int) cap = .ok L ∧
      Gen.CFun.carquet_byte_stream_split_encode values (BitVec.ofNat 64 n) (BitVec.ofNat 32 k) out (BitVec.ofNat 64 cap) bw =
        (0#32, L, BitVec.ofNat 64 L.length) := (bss_encode_ok values out n k cap bw hk0 hk hs ho hn hcap hc).1
theorem C11_cfun_byte_stream_split_encode_defined (values out : List UInt8) (n k cap : Nat) (bw : BitVec 64) (hk0 : 0 < k)
    (hk : k < 2 ^ 30) (hs : values.length = n * k) (ho : out.length = n * k) (hn : n * k + k + n < 2 ^ 63) (hcap : n * k ≤ cap)
    (hc : cap < 2 ^ 64) :
    Gen.CFun.carquet_byte_stream_split_encode_defined values (BitVec.ofNat 64 n) (BitVec.ofNat 32 k) out (BitVec.ofNat 64 cap) bw
      = true := (bss_encode_ok values out n k cap bw hk0 hk hs ho hn hcap hc).2

/-- `type_length <= 0`: CARQUET_ERROR_INVALID_ARGUMENT (1), nothing read or written -/
theorem C11_cfun_byte_stream_split_encode_invalid (values out : List UInt8) (count cap bw : BitVec 64) (tl : BitVec 32)
    (h : tl.toInt ≤ 0) :
    Gen.CFun.carquet_byte_stream_split_encode values count tl out cap bw = (1#32, out, bw) ∧
    Gen.CFun.carquet_byte_stream_split_encode_defined values count tl out cap bw = true ∧
    Bss.encode values count.toInt tl.toInt cap.toNat = .error .invalidArgument := bss_encode_invalid values out count cap bw tl h

/-- capacity below `count * type_length`: CARQUET_ERROR_ENCODE (41), nothing read or written -/
theorem C11_cfun_byte_stream_split_encode_small (values out : List UInt8) (n k cap : Nat) (bw : BitVec 64) (hk0 : 0 < k)
    (hk : k < 2 ^ 30) (hn : n * k < 2 ^ 63) (hn2 : n < 2 ^ 63) (hcap : cap < n * k) :
    Gen.CFun.carquet_byte_stream_split_encode values (BitVec.ofNat 64 n) (BitVec.ofNat 32 k) out (BitVec.ofNat 64 cap) bw =
      (41#32, out, bw) ∧
    Gen.CFun.carquet_byte_stream_split_encode_defined values (BitVec.ofNat 64 n) (BitVec.ofNat 32 k) out (BitVec.ofNat 64 cap) bw
      = true ∧
    Bss.encode values (n : Int) (k : Int) cap = .error .encode := bss_encode_small values out n k cap bw hk0 hk hn hn2 hcap

example : Gen.CFun.carquet_byte_stream_split_encode [1, 2, 3, 0x0A, 0x0B, 0x0C] 2#64 3#32 [0, 0, 0, 0, 0, 0] 6#64 77#64 =
      (0#32, [1, 0x0A, 2, 0x0B, 3, 0x0C], 6#64) ∧
    Bss.encode [1, 2, 3, 0x0A, 0x0B, 0x0C] 2 3 6 = .ok [1, 0x0A, 2, 0x0B, 3, 0x0C] ∧
    Gen.CFun.carquet_byte_stream_split_encode [1, 2, 3, 0x0A, 0x0B, 0x0C] 2#64 3#32 [0, 0, 0, 0, 0, 0] 5#64 77#64 =
      (41#32, [0, 0, 0, 0, 0, 0], 77#64) ∧
    -- a `values` array one byte short: the read of values[5] is outside
    Gen.CFun.carquet_byte_stream_split_encode_defined [1, 2, 3, 0x0A, 0x0B] 2#64 3#32 [0, 0, 0, 0, 0, 0] 6#64 77#64 = false := by
  decide +kernel

/-- success path of the decoder: at least `count * type_length` input bytes, `data_size` = the length of the input -/
theorem C11_cfun_byte_stream_split_decode (data out : List UInt8) (n k : Nat) (hk0 : 0 < k) (hk : k < 2 ^ 30)
    (hs : k * n ≤ data.length) (hd : data.length < 2 ^ 64) (ho : out.length = k * n) (hn : k * n + k + n < 2 ^ 63) :
    ∃ L, Bss.decode data (k : Int) (n : Int) = .ok L ∧
      Gen.CFun.carquet_byte_stream_split_decode data (BitVec.ofNat 64 data.length) (BitVec.ofNat 32 k) out (BitVec.ofNat 64 n) =
        (0#32, L) := (bss_decode_ok data out n k hk0 hk hs hd ho hn).1
theorem C11_cfun_byte_stream_split_decode_defined (data out : List UInt8) (n k : Nat) (hk0 : 0 < k) (hk : k < 2 ^ 30)
    (hs : k * n ≤ data.length) (hd : data.length < 2 ^ 64) (ho : out.length = k * n) (hn : k * n + k + n < 2 ^ 63) :
    Gen.CFun.carquet_byte_stream_split_decode_defined data (BitVec.ofNat 64 data.length) (BitVec.ofNat 32 k) out
      (BitVec.ofNat 64 n) = true := (bss_decode_ok data out n k hk0 hk hs hd ho hn).2

example : Gen.CFun.carquet_byte_stream_split_decode [1, 0x0A, 2, 0x0B, 3, 0x0C] 6#64 3#32 [0, 0, 0, 0, 0, 0] 2#64 =
      (0#32, [1, 2, 3, 0x0A, 0x0B, 0x0C]) ∧
    Gen.CFun.carquet_byte_stream_split_decode [1, 0x0A, 2, 0x0B, 3] 5#64 3#32 [0, 0, 0, 0, 0, 0] 2#64 =
      (40#32, [0, 0, 0, 0, 0, 0]) := by decide +kernel

/-! ### PLAIN, FIXED_LEN_BYTE_ARRAY -/

/-- the whole of `carquet_decode_plain_fixed_byte_array` (`input_size` = the length of the input): the model's values and
byte count on success, -1 exactly when the model refuses -/
theorem C11_cfun_decode_plain_fixed_byte_array (input output : List UInt8) (count : BitVec 64) (fl : BitVec 32)
    (hin : input.length < 2 ^ 64) :
    (∀ vals consumed, Plain.decodeFlba input count.toInt fl.toInt = .ok vals consumed → consumed ≤ output.length →
      Gen.CFun.carquet_decode_plain_fixed_byte_array input (BitVec.ofNat 64 input.length) output count fl =
        (BitVec.ofNat 64 consumed, vals ++ output.drop consumed)) ∧
    (Plain.decodeFlba input count.toInt fl.toInt = .err →
      Gen.CFun.carquet_decode_plain_fixed_byte_array input (BitVec.ofNat 64 input.length) output count fl =
        (BitVec.allOnes 64, output)) :=
  ⟨fun v c h ho => ((decode_plain_flba_eq input output count fl hin).1 v c h ho).1,
   fun h => ((decode_plain_flba_eq input output count fl hin).2 h).1⟩
theorem C11_cfun_decode_plain_fixed_byte_array_defined (input output : List UInt8) (count : BitVec 64) (fl : BitVec 32)
    (hin : input.length < 2 ^ 64)
    (hout : ∀ vals consumed, Plain.decodeFlba input count.toInt fl.toInt = .ok vals consumed → consumed ≤ output.length) :
    Gen.CFun.carquet_decode_plain_fixed_byte_array_defined input (BitVec.ofNat 64 input.length) output count fl = true := by
  cases h : Plain.decodeFlba input count.toInt fl.toInt with
  | ok v c => exact ((decode_plain_flba_eq input output count fl hin).1 v c h (hout v c h)).2
  | err => exact ((decode_plain_flba_eq input output count fl hin).2 h).2
  | oob => simp [Plain.decodeFlba] at h; split at h <;> (try split at h) <;> simp at h

example : Gen.CFun.carquet_decode_plain_fixed_byte_array [1, 2, 3, 4, 5, 6, 7] 7#64 [0, 0, 0, 0, 0, 0, 9] 2#64 3#32 =
      (6#64, [1, 2, 3, 4, 5, 6, 9]) ∧
    Gen.CFun.carquet_decode_plain_fixed_byte_array [1, 2, 3, 4, 5] 5#64 [0, 0, 0, 0, 0, 0] 2#64 3#32 =
      (BitVec.allOnes 64, [0, 0, 0, 0, 0, 0]) ∧
    -- an output buffer shorter than what is copied
    Gen.CFun.carquet_decode_plain_fixed_byte_array_defined [1, 2, 3, 4, 5, 6] 6#64 [0, 0, 0, 0, 0] 2#64 3#32 = false := by decide +kernel

/-! ### PLAIN, BOOLEAN -/

/-- the whole of `carquet_decode_plain_boolean` for a non-negative `count` (`input_size` = the length of the input, `count`
output slots): the loop over whole bytes with its eight unrolled stores and the loop over the remaining bits yield the model's
flags and byte count; -1 exactly when the model refuses (input shorter than `(count + 7) / 8` bytes) -/
theorem C11_cfun_decode_plain_boolean (input output : List UInt8) (hn : output.length < 2 ^ 62) (hin : input.length < 2 ^ 64) :
    (∀ vals consumed, Plain.decodeBoolean input (output.length : Int) = .ok vals consumed →
      Gen.CFun.carquet_decode_plain_boolean input (BitVec.ofNat 64 input.length) output (BitVec.ofNat 64 output.length) =
        (BitVec.ofNat 64 consumed, vals)) ∧
    (Plain.decodeBoolean input (output.length : Int) = .err →
      Gen.CFun.carquet_decode_plain_boolean input (BitVec.ofNat 64 input.length) output (BitVec.ofNat 64 output.length) =
        (BitVec.allOnes 64, output)) :=
  ⟨(decode_plain_boolean_eq input output hn hin).1, (decode_plain_boolean_eq input output hn hin).2.1⟩
theorem C11_cfun_decode_plain_boolean_defined (input output : List UInt8) (hn : output.length < 2 ^ 62)
    (hin : input.length < 2 ^ 64) :
    Gen.CFun.carquet_decode_plain_boolean_defined input (BitVec.ofNat 64 input.length) output (BitVec.ofNat 64 output.length) = true :=
  (decode_plain_boolean_eq input output hn hin).2.2.2

example : Gen.CFun.carquet_decode_plain_boolean [0xA5, 0x01] 2#64 [9, 9, 9, 9, 9, 9, 9, 9, 9] 9#64 =
      (2#64, [1, 0, 1, 0, 0, 1, 0, 1, 1]) ∧
    Plain.decodeBoolean [0xA5, 0x01] 9 = .ok [1, 0, 1, 0, 0, 1, 0, 1, 1] 2 ∧
    Gen.CFun.carquet_decode_plain_boolean [0xA5] 1#64 [9, 9, 9, 9, 9, 9, 9, 9, 9] 9#64 =
      (BitVec.allOnes 64, [9, 9, 9, 9, 9, 9, 9, 9, 9]) ∧
    -- an `input_size` that overstates the input: the size check passes and the second byte is read outside
    Gen.CFun.carquet_decode_plain_boolean_defined [0xA5] 2#64 [9, 9, 9, 9, 9, 9, 9, 9, 9] 9#64 = false := by decide +kernel

/-! ### dictionary, delta -/

/-- `dict_hash(data, size)`: 32-bit FNV-1a -/
theorem C11_cfun_dict_hash (data : List UInt8) (h : data.length < 2 ^ 64) :
    Gen.CFun.dict_hash data (BitVec.ofNat 64 data.length) = (Dictionary.dictHash data).toBitVec := (dict_hash_eq data h).1
theorem C11_cfun_dict_hash_defined (data : List UInt8) (h : data.length < 2 ^ 64) :
    Gen.CFun.dict_hash_defined data (BitVec.ofNat 64 data.length) = true := (dict_hash_eq data h).2

example : Gen.CFun.dict_hash [0x61, 0x62, 0x63] 3#64 = 0x1A47E90B#32 ∧ Gen.CFun.dict_hash_defined [0x61] 2#64 = false := by decide +kernel

/-- `write_uleb128(data, value)` on a buffer with room for the encoding (at most 10 bytes) -/
theorem C11_cfun_write_uleb128 (data : List UInt8) (v : BitVec 64) (h : (Delta.writeUleb128 v).length ≤ data.length) :
    Gen.CFun.write_uleb128 data v =
      (BitVec.ofNat 64 (Delta.writeUleb128 v).length, Delta.writeUleb128 v ++ data.drop (Delta.writeUleb128 v).length) :=
  (write_uleb128_eq data v h).1
theorem C11_cfun_write_uleb128_defined (data : List UInt8) (v : BitVec 64) (h : (Delta.writeUleb128 v).length ≤ data.length) :
    Gen.CFun.write_uleb128_defined data v = true := (write_uleb128_eq data v h).2

example : Gen.CFun.write_uleb128 [9, 9, 9] 300#64 = (2#64, [0xAC, 0x02, 9]) ∧
    (Gen.CFun.write_uleb128 (List.replicate 10 0) 0xFFFFFFFFFFFFFFFF#64).1 = 10#64 ∧
    Gen.CFun.write_uleb128_defined [9] 300#64 = false := by decide +kernel

/-- `common_prefix_length(a, a_len, b, b_len)` with the lengths of the two strings -/
theorem C11_cfun_common_prefix_length (a b : List UInt8) (ha : a.length < 2 ^ 31) (hb : b.length < 2 ^ 31) :
    Gen.CFun.common_prefix_length a (BitVec.ofNat 32 a.length) b (BitVec.ofNat 32 b.length) =
      BitVec.ofNat 32 (DeltaStrings.commonPrefixLength a b) := (common_prefix_length_eq a b ha hb).1
theorem C11_cfun_common_prefix_length_defined (a b : List UInt8) (ha : a.length < 2 ^ 31) (hb : b.length < 2 ^ 31) :
    Gen.CFun.common_prefix_length_defined a (BitVec.ofNat 32 a.length) b (BitVec.ofNat 32 b.length) = true :=
  (common_prefix_length_eq a b ha hb).2

example : Gen.CFun.common_prefix_length [1, 2, 3, 4] 4#32 [1, 2, 9] 3#32 = 2#32 ∧
    Gen.CFun.common_prefix_length [1, 2] 2#32 [1, 2, 9] 3#32 = 2#32 ∧
    Gen.CFun.common_prefix_length_defined [1, 2] 3#32 [1, 2, 9] 3#32 = false := by decide +kernel

end Carquet.Properties.C11
