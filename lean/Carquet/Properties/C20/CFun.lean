import Carquet.Impl.CSem
import Carquet.Impl.Xxh64
import Carquet.Impl.Bloom
import Carquet.Gen.CFun
import Carquet.Proofs.CFun.Basic
/-
C20 — link theorems between the C functions of src/metadata/bloom_filter.c and src/util/xxhash.c as translated from
the CURRENT source by translate/gen_cfun.py (`Carquet.Gen.CFun`, regenerated on every run) and the hand-written
models the C20 theorems are about (`Impl.Bloom.blockIndex`, `Impl.Xxh64.rotl / round / mergeRound`).
A change to one of these C functions changes the generated definition, and the theorem here stops checking.
-/
namespace Carquet.Properties.C20
open Carquet Carquet.Impl

/-- `bloom_filter_block_index(hash, num_blocks)` is the model's block index, for every hash and every `size_t`
block count. -/
theorem C20_cfun_bloom_filter_block_index (hash numBlocks : BitVec 64) :
    (Gen.CFun.bloom_filter_block_index hash numBlocks).toNat = Impl.Bloom.blockIndex hash numBlocks.toNat := by
  rw [Gen.CFun.bloom_filter_block_index, Impl.Bloom.blockIndex, BitVec.ofNat_toNat, BitVec.setWidth_eq]

theorem C20_cfun_bloom_filter_block_index_defined (hash numBlocks : BitVec 64) :
    Gen.CFun.bloom_filter_block_index_defined hash numBlocks = true := by
  simp [Gen.CFun.bloom_filter_block_index_defined]

example : (Gen.CFun.bloom_filter_block_index 0x0000000100000001#64 2#64).toNat = 0 ∧
    Impl.Bloom.blockIndex 0x0000000100000001#64 2 = 0 := by decide

/-- `xxh64_rotl(x, r)` is the model's rotation for every count the C code may legally pass (`0 < r < 64`; the
function is called with 1, 7, 11, 12, 18, 23, 27, 31 only). -/
theorem C20_cfun_xxh64_rotl (x : BitVec 64) (r : BitVec 32) (h : r.toNat ≤ 64) :
    Gen.CFun.xxh64_rotl x r = Impl.Xxh64.rotl x r.toNat := by
  rw [Gen.CFun.xxh64_rotl, Impl.Xxh64.rotl, BitVec.toNat_sub_of_le (show r ≤ 64#32 from h)]
  rfl

/-- the rotation has no undefined behaviour exactly for counts 1..63 (a count of 0 would shift by 64) -/
theorem C20_cfun_xxh64_rotl_defined (x : BitVec 64) (r : BitVec 32) :
    Gen.CFun.xxh64_rotl_defined x r = decide (0 < r.toNat ∧ r.toNat < 64) := by
  rw [Gen.CFun.xxh64_rotl_defined, CSem.shCountOk, CSem.shCountOk, Bool.not_true, Bool.false_or, Bool.false_or]
  by_cases h1 : r.toNat < 64
  · have hm : r.msb = false := BitVec.msb_eq_false_iff_two_mul_lt.mpr (by omega)
    have hs : (64#32 - r).toNat = 64 - r.toNat := BitVec.toNat_sub_of_le (show r ≤ 64#32 from Nat.le_of_lt h1)
    have hm' : (64#32 - r).msb = false := BitVec.msb_eq_false_iff_two_mul_lt.mpr (by omega)
    rw [hm, hm', hs, decide_eq_true h1, Proofs.CSem.sSubOk_small _ _ (by decide) (by omega)]
    exact decide_eq_decide.mpr (by omega)
  · rw [decide_eq_false h1, decide_eq_false (show ¬ (0 < r.toNat ∧ r.toNat < 64) from fun h => h1 h.2), Bool.and_false, Bool.false_and, Bool.false_and]

example : Gen.CFun.xxh64_rotl_defined 5#64 31#32 = true ∧ Gen.CFun.xxh64_rotl_defined 5#64 0#32 = false ∧
    Gen.CFun.xxh64_rotl 0x8000000000000001#64 1#32 = 3#64 := by decide

/-- `xxh64_round` is the model's round for every accumulator and input. -/
theorem C20_cfun_xxh64_round (acc input : BitVec 64) :
    Gen.CFun.xxh64_round acc input = Impl.Xxh64.round acc input := by
  have hp1 : Impl.Xxh64.prime1 = 11400714785074694791#64 := by decide
  have hp2 : Impl.Xxh64.prime2 = 14029467366897019727#64 := by decide
  have hr : ∀ x, Gen.CFun.xxh64_rotl x 31#32 = Impl.Xxh64.rotl x 31 := fun x => by
    rw [C20_cfun_xxh64_rotl x 31#32 (by decide)]; rfl
  simp [Gen.CFun.xxh64_round, Impl.Xxh64.round, hp1, hp2, hr]

theorem C20_cfun_xxh64_round_defined (acc input : BitVec 64) :
    Gen.CFun.xxh64_round_defined acc input = true := by
  simp only [Gen.CFun.xxh64_round_defined, C20_cfun_xxh64_rotl_defined]
  decide

example : Gen.CFun.xxh64_round 1#64 2#64 = Impl.Xxh64.round 1#64 2#64 ∧ Gen.CFun.xxh64_round 1#64 2#64 ≠ 0#64 := by
  decide

/-- `xxh64_merge_round` is the model's merge round for every accumulator and lane value. -/
theorem C20_cfun_xxh64_merge_round (acc val : BitVec 64) :
    Gen.CFun.xxh64_merge_round acc val = Impl.Xxh64.mergeRound acc val := by
  have hp1 : Impl.Xxh64.prime1 = 11400714785074694791#64 := by decide
  have hp4 : Impl.Xxh64.prime4 = 9650029242287828579#64 := by decide
  simp [Gen.CFun.xxh64_merge_round, Impl.Xxh64.mergeRound, hp1, hp4, C20_cfun_xxh64_round]

theorem C20_cfun_xxh64_merge_round_defined (acc val : BitVec 64) :
    Gen.CFun.xxh64_merge_round_defined acc val = true := by
  simp only [Gen.CFun.xxh64_merge_round_defined, C20_cfun_xxh64_round_defined]

example : Gen.CFun.xxh64_merge_round 1#64 2#64 = Impl.Xxh64.mergeRound 1#64 2#64 ∧
    Gen.CFun.xxh64_merge_round 1#64 2#64 ≠ 0#64 := by decide

end Carquet.Properties.C20
