import Carquet.Proofs.CFun2.Xxh64
import Carquet.Proofs.CFun2.Bloom
/-
C20 — stage-2 link theorems: the byte-level kernels of src/util/xxhash.c and src/metadata/bloom_filter.c as translated
from the CURRENT C source by translate/gen_cfun.py (arrays as lists, pointers as offsets, `SALT[8]` read from its
initialiser in the AST) are the hand-written models the C20 theorems are about.  With `C20_cfun_xxhash64`,
`C20_xxh64_impl_eq_spec` is a statement about regenerated code end to end.
`…_defined`: no read outside `[0, length)`, no undefined arithmetic, loop fuel sufficient.
-/
namespace Carquet.Properties.C20
open Carquet Carquet.Impl Carquet.Proofs.CFun2
open Carquet.Spec.Sbbf (wordsOfBytes)

/-- `read64_le(p)` on a buffer of at least 8 bytes is the model's little-endian load of its first 8 bytes -/
theorem C20_cfun_read64_le (b0 b1 b2 b3 b4 b5 b6 b7 : UInt8) (rest : List UInt8) :
    Gen.CFun.read64_le (b0 :: b1 :: b2 :: b3 :: b4 :: b5 :: b6 :: b7 :: rest) = Xxh64.read64le b0 b1 b2 b3 b4 b5 b6 b7 :=
  rfl

/-- it reads exactly the 8 bytes `p[0..7]`: defined iff the buffer has them -/
theorem C20_cfun_read64_le_defined (p : List UInt8) :
    Gen.CFun.read64_le_defined p = decide (8 ≤ p.length) :=
  (read64_le_defined_drop p 0).trans (by rw [Nat.zero_add])

example : Gen.CFun.read64_le [1, 2, 3, 4, 5, 6, 7, 8, 9] = 0x0807060504030201#64 ∧
    Gen.CFun.read64_le_defined [1, 2, 3, 4, 5, 6, 7] = false := by decide

theorem C20_cfun_read32_le (b0 b1 b2 b3 : UInt8) (rest : List UInt8) :
    Gen.CFun.read32_le (b0 :: b1 :: b2 :: b3 :: rest) = Xxh64.read32le b0 b1 b2 b3 :=
  rfl

theorem C20_cfun_read32_le_defined (p : List UInt8) :
    Gen.CFun.read32_le_defined p = decide (4 ≤ p.length) :=
  (read32_le_defined_drop p 0).trans (by rw [Nat.zero_add])

example : Gen.CFun.read32_le [0x80, 0, 0, 0xff] = 0xff000080#32 ∧ Gen.CFun.read32_le_defined [1, 2, 3] = false := by decide

/-- **`carquet_xxhash64` itself**: for every byte string (shorter than 2^64) and every seed, the function translated from
the C source — stripe loop, 8/4/1-byte tail steps, avalanche — returns what the model `Impl.Xxh64.xxh64` returns. -/
theorem C20_cfun_xxhash64 (data : List UInt8) (seed : BitVec 64) (h : data.length < 2 ^ 64) :
    Gen.CFun.carquet_xxhash64 data (BitVec.ofNat 64 data.length) seed = Xxh64.xxh64 data seed :=
  (xxhash64_eq data _ seed (Proofs.CSem.toNat_ofNat _ h)).1

/-- …and on the way it reads only inside `data[0 .. length)`, performs no undefined shift, and the three loops stop
within the fuel the translator was given (`length/32 + 1`, `length/8 + 1`, `length + 1`). -/
theorem C20_cfun_xxhash64_defined (data : List UInt8) (seed : BitVec 64) (h : data.length < 2 ^ 64) :
    Gen.CFun.carquet_xxhash64_defined data (BitVec.ofNat 64 data.length) seed = true :=
  (xxhash64_eq data _ seed (Proofs.CSem.toNat_ofNat _ h)).2

/-- a `length` larger than the buffer is an out-of-bounds read, and `_defined` says so (non-vacuity of the bounds
obligation): 3 bytes declared as 4 -/
example : Gen.CFun.carquet_xxhash64_defined [1, 2, 3] 4#64 0#64 = false ∧
    Gen.CFun.carquet_xxhash64_defined [1, 2, 3] 3#64 0#64 = true := by decide

example : Gen.CFun.carquet_xxhash64 [] 0#64 0#64 = 0xEF46DB3751D8E999#64 := by decide

/-- the salts the translator extracted from the initialiser of `SALT[8]` are the salts of the Parquet specification -/
theorem C20_cfun_salt_table : Gen.CFun.bloom_filter_SALT = Spec.Sbbf.salt := by decide

/-- `bloom_filter_block_insert(block, hash)` on the words of a block (`uint32_t*` view of at least 32 bytes) yields the
words of what the byte model's loop yields -/
theorem C20_cfun_bloom_block_insert (p : List UInt8) (hash : BitVec 64) (h : 32 ≤ p.length) :
    Gen.CFun.bloom_filter_block_insert (wordsOfBytes p) hash =
      wordsOfBytes (Bloom.blockInsertLoop (hash.setWidth 32) Bloom.salt p) := by
  rw [Proofs.Bloom.wordsOf_insertLoop]
  exact (block_insert_eq _ _ (by rw [Proofs.Bloom.wordsOf_length]; omega)).1

theorem C20_cfun_bloom_block_insert_defined (ws : List (BitVec 32)) (hash : BitVec 64) (h : 8 ≤ ws.length) :
    Gen.CFun.bloom_filter_block_insert_defined ws hash = true := (block_insert_eq ws hash h).2

/-- a block of 7 words: the eighth store is out of bounds -/
example : Gen.CFun.bloom_filter_block_insert_defined (List.replicate 7 0#32) 1#64 = false ∧
    Gen.CFun.bloom_filter_block_insert (List.replicate 8 0#32) 1#64 ≠ List.replicate 8 0#32 := by decide

theorem C20_cfun_bloom_block_check (p : List UInt8) (hash : BitVec 64) (h : 32 ≤ p.length) :
    Gen.CFun.bloom_filter_block_check (wordsOfBytes p) hash =
      Bloom.blockCheckLoop (hash.setWidth 32) Bloom.salt p := by
  rw [Proofs.Bloom.checkLoop_words]
  exact (block_check_eq _ _ (by rw [Proofs.Bloom.wordsOf_length]; omega)).1

theorem C20_cfun_bloom_block_check_defined (ws : List (BitVec 32)) (hash : BitVec 64) (h : 8 ≤ ws.length) :
    Gen.CFun.bloom_filter_block_check_defined ws hash = true := (block_check_eq ws hash h).2

example : Gen.CFun.bloom_filter_block_check (Gen.CFun.bloom_filter_block_insert (List.replicate 8 0#32) 5#64) 5#64 = true ∧
    Gen.CFun.bloom_filter_block_check (List.replicate 8 0#32) 5#64 = false := by decide

end Carquet.Properties.C20
