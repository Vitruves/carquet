import Carquet.Proofs.SpecWriterFile
import Carquet.Proofs.SpecWriterSizes
import Carquet.Proofs.SpecWriterEval
import Carquet.Spec.File
/-
C05, full strength — the independent whole-file reader accepts every file the writer reports
complete and returns exactly the table that was written.

`Spec.File.read` (Spec/File/Read.lean) is the reader written from the format documents; it shares
nothing with carquet and REJECTS a byte string unless every structural claim the file makes about
itself is true (envelope, footer with required fields, schema tree, chunks tiling `[4, footer)`
exactly, page headers chaining through each chunk, legal and listed encodings, CRC, decompressed
length, levels, values, true page statistics, counts pages → chunk → row group → file, and — since fix
F23 — the byte sizes the metadata state: `total_uncompressed_size` = Σ (page header + uncompressed page),
`RowGroup.total_byte_size` = Σ of the chunks' `total_uncompressed_size`).
`fileOf (Impl.FileReal.deps [])` is the byte-exact model of carquet's writer over the models of
its real components (tie: byte equality of whole files, op `wr`).

Statements only; the stages are in Proofs/SpecWriter{Inv,Run,Header,Page,Chunk,Footer,File,Sizes}.lean.
-/
namespace Carquet.Properties.C05
open Carquet.Impl Carquet.Impl.Writer Carquet.Impl.FileReal
open Carquet.Spec Carquet.Proofs.SpecWriter Carquet.Proofs.WriterTable

/-- The schema: at least one column; flat REQUIRED / OPTIONAL / REPEATED columns (everything
`carquet_schema_add_column` can build at the top level); a FIXED_LEN_BYTE_ARRAY column has a positive
length; and the schema fits the C structures and the Thrift parser's limits (fewer than 10000
columns, names that are C strings — NUL-free, shorter than 2^31 —, `type_length` an `int32_t`, the
parameters of a column's logical type within the members of `carquet_logical_type_t`: `int32_t` scale and
precision, `int8_t` bit_width).  Any logical type — every id, any parameters in those ranges, a NULL
pointer, id UNKNOWN — is allowed on any column: see Properties/C05/WLogical.lean. -/
structure SchemaOk (cols : List Col) : Prop where
  nonEmpty : cols ≠ []
  colsOk : ∀ c ∈ cols, ColOk c
  small : SchemaSmall cols

/-- The history respects the documented preconditions of `carquet_writer_write_batch`: the arrays
hold what the counts say (`HistWF`, `BatchOk`: one definition level ≤ 1 per entry for OPTIONAL and
REPEATED — 0 = null / empty list, 1 = value / list element —, one repetition level ≤ 1 per entry when
a rep_levels array is passed, as many dense values as entries with definition level 1 — an entry
with definition level 0 carries no value —, every value a PLAIN bit pattern of the column's type —
BOOLEAN one byte 0 / 1, BYTE_ARRAY shorter than 2^31);
all columns of a row group receive the same number of rows ("All columns must be written the same
number of rows before closing or starting a new row group", carquet.h), where the rows of a
REPEATED column are its entries with repetition level 0 (`ColData.recs`; a NULL rep_levels pointer
makes every entry a row);
and what a REPEATED column receives in a row group begins with repetition level 0 — a row group
begins with a new row (`FirstRepZero`).  All three are decidable from the history alone. -/
structure HistOk (cols : List Col) (ops : List Op) : Prop where
  wf : HistWF ops
  batches : ∀ b, Op.batch b ∈ ops → ∀ c, cols[b.col]? = some c → BatchOk c b
  aligned : ∀ g ∈ tableOf cols ops, ∀ n ∈ List.zipWith (fun (c : Col) (d : ColData) => d.recs c.maxRep) cols g,
    n = firstRecs cols g
  firstRep : ∀ g ∈ tableOf cols ops, ∀ cd ∈ List.zip cols g, FirstRepZero cd.1 cd.2

instance (cols : List Col) : Decidable (SchemaOk cols) :=
  decidable_of_iff (cols ≠ [] ∧ (∀ c ∈ cols, ColOk c) ∧ SchemaSmall cols)
    ⟨fun ⟨h1, h2, h3⟩ => ⟨h1, h2, h3⟩, fun h => ⟨h.1, h.2, h.3⟩⟩

/-- a property of the batches of a history is decided call by call -/
instance (op : Op) (P : Batch → Prop) [DecidablePred P] : Decidable (∀ b, op = .batch b → P b) :=
  match op with
  | .batch b => decidable_of_iff (P b) ⟨fun h _ hb => by cases hb; exact h, fun h => h b rfl⟩
  | .newRowGroup => isTrue (fun _ h => by cases h)

instance (ops : List Op) (P : Batch → Prop) [DecidablePred P] : Decidable (∀ b, Op.batch b ∈ ops → P b) :=
  decidable_of_iff (∀ op ∈ ops, ∀ b, op = .batch b → P b)
    ⟨fun h b hb => h _ hb b rfl, fun h op hop b hb => h b (hb ▸ hop)⟩

instance (ops : List Op) : Decidable (HistWF ops) := by
  unfold HistWF BatchWF; infer_instance

instance (cols : List Col) (ops : List Op) : Decidable (HistOk cols ops) :=
  decidable_of_iff (HistWF ops ∧ (∀ b, Op.batch b ∈ ops → ∀ c, cols[b.col]? = some c → BatchOk c b) ∧
      (∀ g ∈ tableOf cols ops, ∀ n ∈ List.zipWith (fun (c : Col) (d : ColData) => d.recs c.maxRep) cols g,
        n = firstRecs cols g) ∧ ∀ g ∈ tableOf cols ops, ∀ cd ∈ List.zip cols g, FirstRepZero cd.1 cd.2)
    ⟨fun ⟨h1, h2, h3, h4⟩ => ⟨h1, h2, h3, h4⟩, fun h => ⟨h.1, h.2, h.3, h.4⟩⟩

/-- The written file is small enough for the C integer types in which carquet keeps its numbers
(the model computes in unbounded `Nat`, so it speaks for the C code only under these): the file is
shorter than 2 GiB, has at most 32768 row groups (`RowGroup.ordinal` is an `int16_t`), and every
column chunk has fewer than 2^31 values and fewer than 2^31 uncompressed bytes — the
`num_values` / `total_uncompressed_size` the footer itself states (`mdOfRun` is the FileMetaData
`carquet_writer_close` serialises; page headers carry these quantities per page as `int32_t`). -/
def FileSizesOk (cols : List Col) (codec pageSize : Nat) (ops : List Op) : Prop :=
  OutputSmall (fileOf (deps []) cols codec pageSize "Carquet" ops).1 (mdOfRun (deps []) cols codec pageSize "Carquet" ops)

theorem FileSizesOk.of_run {cols : List Col} {codec pageSize : Nat} {ops : List Op} {n : Nat} {md : FooterData}
    (hlen : (fileOf (deps []) cols codec pageSize "Carquet" ops).1.length = n)
    (hmd : mdOfRun (deps []) cols codec pageSize "Carquet" ops = md)
    (h : n < 2147483648 ∧ md.rowGroups.length ≤ 32768 ∧
      ∀ g ∈ md.rowGroups, ∀ ch ∈ g.chunks, ch.numValues < 2147483648 ∧ ch.totalUncompressed < 2147483648) :
    FileSizesOk cols codec pageSize ops := by
  unfold FileSizesOk
  rw [hmd]
  exact ⟨hlen ▸ h.1, h.2.1, h.2.2⟩

/-- **C05.**  For every schema, codec among UNCOMPRESSED / SNAPPY / LZ4 / LZ4_RAW, page size and write
history satisfying the preconditions above: if every call and the close returned OK, the
independent reader — with strict tiling — accepts the file and returns exactly the table the
history denotes. -/
theorem C05_spec_reader_accepts_writer
    (cols : List Col) (codec pageSize : Nat) (ops : List Op)
    (hcodec : codec = 0 ∨ codec = 1 ∨ codec = 5 ∨ codec = 7)
    (hschema : SchemaOk cols) (hhist : HistOk cols ops) (hsize : FileSizesOk cols codec pageSize ops)
    (hok : ∀ s ∈ (fileOf (deps []) cols codec pageSize "Carquet" ops).2, s = .ok) :
    Spec.File.read (fileOf (deps []) cols codec pageSize "Carquet" ops).1 (strictTiling := true)
      = .ok (specTableOf cols ops) :=
  read_written [] hcodec cols hschema.nonEmpty hschema.colsOk pageSize "Carquet" ops hhist.batches hhist.aligned hhist.firstRep
    (runSmall_of_output [] hcodec cols pageSize ops hhist.batches (Carquet.Proofs.Writer.fileOf_last_ok _ cols codec pageSize _ ops hok)
      hschema.small hsize) hok []

/-- The same under the size conditions in their direct form (`RunSmall`: the footer data within
the limits `footerOk`, the footer shorter than 4 GiB, every page's uncompressed body, stored body and
row count below 2^31), which `FileSizesOk` implies. -/
theorem C05_spec_reader_accepts_writer_sizes
    (cols : List Col) (codec pageSize : Nat) (ops : List Op)
    (hcodec : codec = 0 ∨ codec = 1 ∨ codec = 5 ∨ codec = 7)
    (hne : cols ≠ []) (hcols : ∀ c ∈ cols, ColOk c) (hhist : HistOk cols ops)
    (hsize : RunSmall (mdOfRun (deps []) cols codec pageSize "Carquet" ops)
               (pagesOfRun (deps []) cols codec pageSize "Carquet" ops))
    (hok : ∀ s ∈ (fileOf (deps []) cols codec pageSize "Carquet" ops).2, s = .ok) :
    Spec.File.read (fileOf (deps []) cols codec pageSize "Carquet" ops).1 (strictTiling := true)
      = .ok (specTableOf cols ops) :=
  read_written [] hcodec cols hne hcols pageSize "Carquet" ops hhist.batches hhist.aligned hhist.firstRep hsize hok []

/-! ### the stages, as statements of their own -/

/-- **One page.**  For a page record of column `c` that is the finalisation of a well-formed
page-builder content (`PageFacts`: `carquet_page_writer_finalize` of `r.src`, stored body =
`compress_data` of the body, sizes below 2^31), followed by any bytes: the independent reader parses
the hand-written header, checks the sizes, the CRC, decompresses to exactly the body, and decodes
the body (levels, PLAIN values, true statistics) to the entries of the page's content. -/
theorem C05_spec_reader_reads_page (codec : Nat) (hcodec : codec = 0 ∨ codec = 1 ∨ codec = 5 ∨ codec = 7)
    (c : Col) (hc : ColOk c) (r : PageRec) (hf : PageFacts [] codec c r) (rest : List UInt8) (cfg : File.Config) :
    File.readRawPage cfg codec (r.bytes (deps []) ++ rest) =
      .ok ⟨pageHdrOfWritten r.body.length r.comp.length (FileReal.crc32 r.comp) r.rows r.stats, r.body,
           (r.bytes (deps [])).length, rest⟩ ∧
    File.decodeDataPage (leafOf c) none ⟨r.rows, 0, 3, 3, r.stats.map statsMetaOf⟩ r.body =
      .ok (specChunkOf c (pageData r.src)) :=
  page_written [] cfg codec hcodec c (maxRep_lt c) (maxDef_lt c) r hf rest

/-- **One column chunk** (the single-chunk statement): the bytes of a chunk — the concatenation of
`header ++ stored body` of ANY list of such page records, reachable by the writer or not — are read
by the reader's chunk stage, page after page to the last byte, to the column's entries; the value
count is the chunk's `num_values`. -/
theorem C05_spec_reader_reads_chunk (codec : Nat) (hcodec : codec = 0 ∨ codec = 1 ∨ codec = 5 ∨ codec = 7)
    (c : Col) (hc : ColOk c) (ps : List PageRec) (h : ∀ r ∈ ps, PageFacts [] codec c r)
    (hfirst : FirstRepZero c (pagesData ps)) (m : File.ColumnMeta)
    (henc : m.encodings = [0, 3]) (hmc : m.codec = codec) (hd : m.dictionaryPageOffset = none)
    (hnv : m.numValues = Carquet.Proofs.WriterPages.sumRows ps) (start : Nat) (cfg : File.Config) :
    File.readChunk cfg (leafOf c) m start (Carquet.Proofs.WriterPages.pagesBytes (deps []) ps) =
      .ok (specChunkOf c (pagesData ps)) :=
  (readChunk_written [] cfg codec hcodec c (maxRep_lt c) (maxDef_lt c) ps h hfirst m henc hmc hd hnv start).1

/-- **The footer.**  For footer data within the limits (`footerOk`), the footer carquet writes is
parsed by the independent reader — generic compact-protocol decoder, then extraction with the
REQUIRED-field rules of parquet.thrift — to version 2, the element list of the schema tree
`specSchemaOf cols`, `num_rows`, and the row-group / chunk metadata the writer assembled. -/
theorem C05_spec_reader_reads_footer (md : FooterData) (hok : Carquet.Proofs.FileRealFooter.footerOk md = true) :
    File.parseFooter (FileReal.footer md) = .ok (fileMetaOfWritten md) :=
  parseFooter_written md hok

/-- non-vacuity of the page / chunk statements: a Snappy page of an OPTIONAL INT32 column with one
null and statistics -/
private def exCol : Col := ⟨"a", .int32, .optional, 0, none⟩
private def exPage : Page :=
  { values := [[1, 0, 0, 0], [2, 0, 0, 0]], defs := [1, 0, 1], numValues := 3, numNulls := 1,
    minMax := some ([1, 0, 0, 0], [2, 0, 0, 0]) }

example : ColOk exCol := ⟨by decide⟩
example : PageFacts [] 1 exCol (pageRecOf (deps []) 1 exCol exPage) :=
  ⟨rfl, ⟨by decide +kernel, by decide⟩,
   ⟨by decide, by decide, by decide, by decide, by decide, by decide, by decide, by decide +kernel, by decide, by decide⟩,
   ⟨by decide +kernel, by decide +kernel, by decide⟩⟩

example : Carquet.Proofs.FileRealFooter.footerOk
    ⟨[exCol], "Carquet", 3, [⟨3, 40, 4, 40, 0, [⟨4, .int32, 1, 3, 40, 19, "a"⟩]⟩]⟩ = true := by decide +kernel

/-! ### non-vacuity: a two-column, two-row-group history (OPTIONAL INT32 with a null and page
statistics, REQUIRED BOOLEAN), Snappy-compressed, satisfies every hypothesis -/

private def exCols : List Col := [⟨"a", .int32, .optional, 0, none⟩, ⟨"b", .boolean, .required, 0, none⟩]
private def exOps : List Op :=
  [.batch ⟨0, 3, some [1, 0, 1], [[1, 0, 0, 0], [2, 0, 0, 0]], none⟩, .batch ⟨1, 3, none, [[1], [0], [1]], none⟩, .newRowGroup,
   .batch ⟨0, 1, none, [[7, 0, 0, 0]], none⟩, .batch ⟨1, 1, none, [[0]], none⟩]

private theorem exSchemaOk : SchemaOk exCols := by decide +kernel

private theorem exHistOk : HistOk exCols exOps := by decide +kernel

/-- the run of the example, evaluated once: length of the file, statuses, footer data -/
private theorem ex_run :
    (fileOf (deps []) exCols 1 64 "Carquet" exOps).1.length = 349 ∧
    (fileOf (deps []) exCols 1 64 "Carquet" exOps).2 = List.replicate 6 .ok ∧
    mdOfRun (deps []) exCols 1 64 "Carquet" exOps =
      ⟨exCols, "Carquet", 4, [⟨3, 77, 4, 81, 0, [⟨4, .int32, 1, 3, 55, 53, "a"⟩, ⟨59, .boolean, 1, 3, 26, 24, "b"⟩]⟩,
                              ⟨1, 72, 85, 76, 1, [⟨85, .int32, 1, 1, 51, 49, "a"⟩, ⟨136, .boolean, 1, 1, 25, 23, "b"⟩]⟩]⟩ := by
  rw [deps_eq]; decide +kernel

private theorem exSizesOk : FileSizesOk exCols 1 64 exOps := .of_run ex_run.1 ex_run.2.2 (by decide)

private theorem exAllOk : ((fileOf (deps []) exCols 1 64 "Carquet" exOps).2.all (· == .ok)) = true := by
  rw [ex_run.2.1]; rfl

/-- the four facts under one public name: Properties/C01/Roundtrip.lean keeps a private copy of this history (same
bodies) and takes its own four facts from here -/
theorem ex_facts : SchemaOk exCols ∧ HistOk exCols exOps ∧ FileSizesOk exCols 1 64 exOps ∧
    ((fileOf (deps []) exCols 1 64 "Carquet" exOps).2.all (· == .ok)) = true :=
  ⟨exSchemaOk, exHistOk, exSizesOk, exAllOk⟩

/-- the theorem applied to the example: the reader returns the example's table -/
example : Spec.File.read (fileOf (deps []) exCols 1 64 "Carquet" exOps).1 (strictTiling := true) =
    .ok (specTableOf exCols exOps) :=
  C05_spec_reader_accepts_writer exCols 1 64 exOps (by decide) exSchemaOk exHistOk exSizesOk
    (fun s hs => by simpa using List.all_eq_true.mp exAllOk s hs)

/-- the table of the example: two row groups; column `a` of the first has a null entry -/
example : (specTableOf exCols exOps).rowGroups =
    [⟨[[⟨0, 1, some [1, 0, 0, 0]⟩, ⟨0, 0, none⟩, ⟨0, 1, some [2, 0, 0, 0]⟩],
       [⟨0, 0, some [1]⟩, ⟨0, 0, some [0]⟩, ⟨0, 0, some [1]⟩]]⟩,
     ⟨[[⟨0, 1, some [7, 0, 0, 0]⟩], [⟨0, 0, some [0]⟩]]⟩] := by decide +kernel

/-! ### non-vacuity for REPEATED columns: a REPEATED INT32 column first (lists [1,2], [], [3,4] — the
second batch continues the last list, i.e. a batch, and with page size 1 a page, ends inside a row —
then two one-element lists written with NULL level pointers) next to a REQUIRED column, two row
groups, LZ4_RAW -/

def rpCols : List Col := [⟨"l", .int32, .repeated, 0, none⟩, ⟨"k", .int32, .required, 0, none⟩]
def rpOps : List Op :=
  [.batch ⟨0, 4, some [1, 1, 0, 1], [[1, 0, 0, 0], [2, 0, 0, 0], [3, 0, 0, 0]], some [0, 1, 0, 0]⟩,
   .batch ⟨0, 1, none, [[4, 0, 0, 0]], some [1]⟩,
   .batch ⟨1, 3, none, [[10, 0, 0, 0], [11, 0, 0, 0], [12, 0, 0, 0]], none⟩, .newRowGroup,
   .batch ⟨0, 2, none, [[5, 0, 0, 0], [6, 0, 0, 0]], none⟩,
   .batch ⟨1, 2, none, [[13, 0, 0, 0], [14, 0, 0, 0]], none⟩]

theorem rpSchemaOk : SchemaOk rpCols := by decide +kernel

theorem rpHistOk : HistOk rpCols rpOps := by decide +kernel

/-- the run, evaluated once: length of the file, statuses, footer data -/
theorem rp_run :
    (fileOf (deps []) rpCols 7 1 "Carquet" rpOps).1.length = 475 ∧
    (fileOf (deps []) rpCols 7 1 "Carquet" rpOps).2 = List.replicate 7 .ok ∧
    mdOfRun (deps []) rpCols 7 1 "Carquet" rpOps =
      ⟨rpCols, "Carquet", 5, [⟨3, 169, 4, 171, 0, [⟨4, .int32, 7, 5, 119, 118, "l"⟩, ⟨123, .int32, 7, 3, 52, 51, "k"⟩]⟩,
                              ⟨2, 105, 175, 108, 1, [⟨175, .int32, 7, 2, 61, 59, "l"⟩, ⟨236, .int32, 7, 2, 47, 46, "k"⟩]⟩]⟩ := by
  rw [deps_eq]; decide +kernel

theorem rpSizesOk : FileSizesOk rpCols 7 1 rpOps := .of_run rp_run.1 rp_run.2.2 (by decide)

theorem rpAllOk : ((fileOf (deps []) rpCols 7 1 "Carquet" rpOps).2.all (· == .ok)) = true := by
  rw [rp_run.2.1]; rfl

/-- the theorem applied: the independent reader accepts the file with the REPEATED column -/
example : Spec.File.read (fileOf (deps []) rpCols 7 1 "Carquet" rpOps).1 (strictTiling := true) =
    .ok (specTableOf rpCols rpOps) :=
  C05_spec_reader_accepts_writer rpCols 7 1 rpOps (by decide) rpSchemaOk rpHistOk rpSizesOk
    (fun s hs => by simpa using List.all_eq_true.mp rpAllOk s hs)

/-- its table: three rows [1,2], [], [3,4] in the first row group (five entries), [5], [6] in the second -/
example : (specTableOf rpCols rpOps).rowGroups =
    [⟨[[⟨0, 1, some [1, 0, 0, 0]⟩, ⟨1, 1, some [2, 0, 0, 0]⟩, ⟨0, 0, none⟩, ⟨0, 1, some [3, 0, 0, 0]⟩, ⟨1, 1, some [4, 0, 0, 0]⟩],
       [⟨0, 0, some [10, 0, 0, 0]⟩, ⟨0, 0, some [11, 0, 0, 0]⟩, ⟨0, 0, some [12, 0, 0, 0]⟩]]⟩,
     ⟨[[⟨0, 1, some [5, 0, 0, 0]⟩, ⟨0, 1, some [6, 0, 0, 0]⟩],
       [⟨0, 0, some [13, 0, 0, 0]⟩, ⟨0, 0, some [14, 0, 0, 0]⟩]]⟩] := by decide +kernel

/-- the rows per row group (`num_rows`): 3 and 2, not the 5 and 2 level entries of column 0 -/
example : (tableOf rpCols rpOps).map (firstRecs rpCols) = [3, 2] := by decide +kernel

/-! ### regression F64: the pinned code counted one row per level ENTRY of a REPEATED first column

`carquet_writer_write_batch` did `if (column_index == 0) current_row_group_rows += num_values`.
Witness (corpus/C05/fixed-F64-repeated-first-column-rows.ops): one REPEATED INT32 column, one batch
holding ONE row, the list [1, 2] (two entries, repetition levels 0 1).  Every call returned OK; the
footer said `num_rows = 2`; the independent reader rejects the file. -/

private def f62Cols : List Col := [⟨"c0", .int32, .repeated, 0, none⟩]
private def f62Ops : List Op := [.batch ⟨0, 2, some [1, 1], [[1, 0, 0, 0], [2, 0, 0, 0]], some [0, 1]⟩]
/-- the FileMetaData the pinned code assembled: one row group, `num_rows` 2 -/
private def f62Md : FooterData := ⟨f62Cols, "Carquet", 2, [⟨2, 59, 4, 59, 0, [⟨4, .int32, 0, 2, 59, 59, "c0"⟩]⟩]⟩

/-- envelope and row-group stage of the reader on the file of the pinned code (one evaluation of the file) -/
private theorem f62_reader :
    File.splitFile (fileOfPreFixF64 (deps []) f62Cols 0 1048576 "Carquet" f62Ops).1 = .ok (63, FileReal.footer f62Md) ∧
    File.readRowGroups ⟨true, []⟩ (fileOfPreFixF64 (deps []) f62Cols 0 1048576 "Carquet" f62Ops).1 63
      (f62Cols.map leafOf) (f62Md.rowGroups.map rgMetaOf) 4 = .error .rowGroupRowCountMismatch := by
  rw [deps_eq]; decide +kernel

/-- **Regression F64** (pinned code, kernel-checked): every call of the witness history returned OK
and the independent reader rejects the file — the row group claims 2 rows, its only column holds 1. -/
theorem C05_regression_F64 :
    (fileOfPreFixF64 (deps []) f62Cols 0 1048576 "Carquet" f62Ops).2 = [.ok, .ok] ∧
    Spec.File.read (fileOfPreFixF64 (deps []) f62Cols 0 1048576 "Carquet" f62Ops).1 (strictTiling := true) =
      .error .rowGroupRowCountMismatch :=
  ⟨by decide +kernel, read_rejects _ f62Md 63 _ f62_reader.1 (by decide +kernel) (by decide) (by decide) f62_reader.2⟩

/-- the run of the repaired writer on the same history, evaluated once -/
private theorem f62_run :
    (fileOf (deps []) f62Cols 0 1048576 "Carquet" f62Ops).1.length = 148 ∧
    (fileOf (deps []) f62Cols 0 1048576 "Carquet" f62Ops).2 = [.ok, .ok] ∧
    mdOfRun (deps []) f62Cols 0 1048576 "Carquet" f62Ops =
      ⟨f62Cols, "Carquet", 1, [⟨1, 59, 4, 59, 0, [⟨4, .int32, 0, 2, 59, 59, "c0"⟩]⟩]⟩ := by
  rw [deps_eq]; decide +kernel

/-- the repaired writer on the same history: accepted, one row -/
example : Spec.File.read (fileOf (deps []) f62Cols 0 1048576 "Carquet" f62Ops).1 (strictTiling := true) =
    .ok (specTableOf f62Cols f62Ops) :=
  C05_spec_reader_accepts_writer f62Cols 0 1048576 f62Ops (by decide) (by decide +kernel) (by decide +kernel)
    (FileSizesOk.of_run f62_run.1 f62_run.2.2 (by decide)) (fun s hs => by rw [f62_run.2.1] at hs; simp_all)

example : (tableOf f62Cols f62Ops).map (firstRecs f62Cols) = [1] := by decide +kernel

end Carquet.Properties.C05
