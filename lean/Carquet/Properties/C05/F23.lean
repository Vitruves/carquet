import Carquet.Properties.C05.Writer
import Carquet.Properties.C05.SpecWriter
import Carquet.Impl.WriterPreFixF23
import Carquet.Proofs.SpecWriterEval
/-
C05, "uncompressed sizes that match" — `ColumnMetaData.total_uncompressed_size` and
`RowGroup.total_byte_size` (finding F23, repaired).

parquet.thrift: `total_uncompressed_size` = "total byte size of all uncompressed pages in this column
chunk (including the headers)"; `RowGroup.total_byte_size` = "Total byte size of all the uncompressed
column data in this row group".  The pinned writer recorded the sum of the uncompressed page BODIES in
the first and the COMPRESSED chunk sizes in the second; because every carquet file had this, the
independent reader did not look at the two fields.  After fix F23

  * the writer model (`Impl.Writer.flushPage`, `flushRowGroup`) records Σ (page header + uncompressed
    body) and Σ of the chunks' `total_uncompressed_size` (`C05_uncompressed_sizes_match`, for every
    schema, option set and history, generic in the byte-level components);
  * the independent reader CHECKS both (`Spec.File.chunkUsize`, reasons
    `chunkUncompressedSizeMismatch` / `rowGroupByteSizeMismatch`):
    `C05_reader_checks_chunk_uncompressed_size`, `C05_reader_checks_row_group_byte_size` say that it
    accepts nothing else; `C05_spec_reader_accepts_writer` (Properties/C05/SpecWriter.lean) and
    `C06_reference_selfconsistent` (Properties/C06/SpecFileFull.lean) are proved for this reader;
  * `C05_regression_F23` keeps the pinned behaviour as a kernel-checked counterexample.
-/
namespace Carquet.Properties.C05
open Carquet.Impl Carquet.Impl.Writer Carquet.Impl.FileReal
open Carquet.Spec Carquet.Proofs.SpecWriter Carquet.Proofs.WriterTable
open Carquet.Proofs.WriterLayout Carquet.Proofs.WriterPages

/-! ### the writer -/

/-- the chunks of a row group state Σ (header + uncompressed body) over their pages -/
def ChunksUsize (D : Deps) : List ChunkMeta → List (List PageRec) → Prop
  | [], [] => True
  | m :: ms, ps :: pss => m.totalUncompressed = (ps.map (fun r => (r.header D).length + r.body.length)).sum ∧ ChunksUsize D ms pss
  | _, _ => False

theorem chunksUsize_of_allChunks (D : Deps) (codec : Nat) : ∀ (ms : List ChunkMeta) (pss : List (List PageRec)),
    AllChunks D codec ms pss → ChunksUsize D ms pss
  | [], [], _ => trivial
  | m :: ms, ps :: pss, h => ⟨h.1.2.2.1, chunksUsize_of_allChunks D codec ms pss h.2⟩
  | [], _ :: _, h => by simp [AllChunks] at h
  | _ :: _, [], h => by simp [AllChunks] at h

/-- every row group: its chunks state Σ (header + uncompressed body) over their pages, and
`total_byte_size` is the sum of the chunks' `total_uncompressed_size` -/
def GroupsUsize (D : Deps) : List RgMeta → List (List (List PageRec)) → Prop
  | [], [] => True
  | g :: gms, pss :: gs =>
    (ChunksUsize D g.chunks pss ∧ g.totalByteSize = (g.chunks.map (·.totalUncompressed)).sum) ∧ GroupsUsize D gms gs
  | _, _ => False

theorem groupsUsize_of (D : Deps) (codec : Nat) : ∀ (gms : List RgMeta) (gs : List (List (List PageRec))) (start : Nat),
    GroupsAt gms start → AllGroups D codec gms gs → GroupsUsize D gms gs
  | [], [], _, _, _ => trivial
  | g :: gms, pss :: gs, start, h2, h3 =>
    ⟨⟨chunksUsize_of_allChunks D codec g.chunks pss h3.1, h2.2.2.2.1⟩,
     groupsUsize_of D codec gms gs _ h2.2.2.2.2 h3.2⟩
  | [], _ :: _, _, _, h => by simp [AllGroups] at h
  | _ :: _, [], _, _, h => by simp [AllGroups] at h

/-- **The uncompressed sizes match.**  For every schema, options and history (generic in the byte-level
components): if close returns OK, the file is `PAR1 ++ pages ++ footer(md) ++ len ++ PAR1` (as in
`C05_pages_chain`) and, in `md`,
* every column chunk's `total_uncompressed_size` is the sum over the chunk's pages of
  |page header| + |uncompressed page body| — the headers being exactly the bytes in front of each
  stored body in the file (`PageRec.bytes = header ++ comp`);
* every row group's `total_byte_size` is the sum of its chunks' `total_uncompressed_size`. -/
theorem C05_uncompressed_sizes_match (D : Deps) (cols : List Col) (codec pageSize : Nat) (createdBy : String)
    (ops : List Op)
    (hok : (fileOf D cols codec pageSize createdBy ops).2.getLast? = some .ok) :
    ∃ (md : FooterData) (gs : List (List (List PageRec))),
      (fileOf D cols codec pageSize createdBy ops).1 =
        magic ++ dataBytes D gs ++ D.footer md ++ le32 (D.footer md).length ++ magic ∧
      (∀ r : PageRec, r.bytes D = r.header D ++ r.comp) ∧
      GroupsUsize D md.rowGroups gs := by
  obtain ⟨md, gs, h1, h2, h3⟩ := C05_pages_chain D cols codec pageSize createdBy ops hok
  exact ⟨md, gs, h1, fun r => rfl, groupsUsize_of D codec _ _ 4 h2 h3⟩

/- non-vacuity: the two-column, two-row-group history of Properties/C05/Writer.lean closes OK; its footer
states 50 + 51 and 46 + 40 bytes (headers included), row groups 101 and 86 -/
example : (fileOf (deps []) [⟨"a", .int32, .optional, 0, none⟩, ⟨"b", .boolean, .required, 0, none⟩] 0 64 "Carquet"
    [.batch ⟨0, 3, some [1, 0, 1], [[1, 0, 0, 0], [2, 0, 0, 0]], none⟩, .batch ⟨1, 3, none, [[1], [0], [1]], none⟩, .newRowGroup,
     .batch ⟨0, 1, none, [[7, 0, 0, 0]], none⟩, .batch ⟨1, 1, none, [[0]], none⟩]).2.getLast? = some .ok := by
  decide +kernel

/-! ### the independent reader checks both fields -/

/-- **The reader accepts a chunk only with the right `total_uncompressed_size`**: whenever the chunk
loop of `Spec.File.read` succeeds on a column chunk, the chunk's `total_uncompressed_size` is what
`chunkUsize` computes from the chunk's own bytes — Σ over its pages of (length of the page header +
`uncompressed_page_size`). -/
theorem C05_reader_checks_chunk_uncompressed_size (cfg : File.Config) (file : File.Bytes) (footerStart : Nat)
    (leaf : File.LeafInfo) (ls : List File.LeafInfo) (m : File.ColumnMeta) (ms : List File.ColumnMeta) (pos : Nat)
    (r : List File.Chunk × Nat)
    (h : File.readChunks cfg file footerStart (leaf :: ls) (m :: ms) pos = .ok r) :
    File.chunkUsize (m.totalCompressed + 1) ((file.drop (File.chunkStart m)).take m.totalCompressed) =
      some m.totalUncompressed := by
  rw [File.readChunks] at h
  simp only [Carquet.Proofs.ExceptOk.guard_ok_iff, Carquet.Proofs.ExceptOk.bind_ok_iff] at h
  obtain ⟨_, _, _, _, _, es, _, hu, _⟩ := h
  exact Classical.not_not.mp hu

/-- **The reader accepts a row group only with the right `total_byte_size`**: the sum of its chunks'
`total_uncompressed_size`. -/
theorem C05_reader_checks_row_group_byte_size (cfg : File.Config) (file : File.Bytes) (footerStart : Nat)
    (leaves : List File.LeafInfo) (g : File.RowGroupMeta) (gs : List File.RowGroupMeta) (pos : Nat)
    (r : List File.RowGroup × Nat)
    (h : File.readRowGroups cfg file footerStart leaves (g :: gs) pos = .ok r) :
    (g.columns.map (·.totalUncompressed)).sum = g.totalByteSize := by
  rw [File.readRowGroups] at h
  simp only [Carquet.Proofs.ExceptOk.guard_ok_iff, Carquet.Proofs.ExceptOk.bind_ok_iff] at h
  obtain ⟨_, _, _, hu, _⟩ := h
  exact Classical.not_not.mp hu

/-! ### regression F23: the pinned writer left the page headers out of `total_uncompressed_size` and put the
compressed chunk sizes into `RowGroup.total_byte_size`

`flush_current_page` did `total_uncompressed_size += uncompressed_size`, `carquet_row_group_writer_finalize`
`total_byte_size += col_size` (Impl/WriterPreFixF23.lean).  Witnesses (corpus/C05/fixed-F23-uncompressed-sizes.ops):
one REQUIRED INT32 column, one batch.  (a) two values, UNCOMPRESSED: the page is an 8-byte body behind a 38-byte
header; the footer said `total_uncompressed_size = 8`.  (b) sixteen equal values, SNAPPY: a 64-byte body stored in
9 bytes behind a 40-byte header; the footer said `total_uncompressed_size = 64` and `total_byte_size = 49` (the
compressed chunk) where the format defines 104 for both.  Every call returned OK. -/

private def f23Cols : List Col := [⟨"c0", .int32, .required, 0, none⟩]
private def f23Ops : List Op := [.batch ⟨0, 2, none, [[1, 0, 0, 0], [2, 0, 0, 0]], none⟩]
private def f23OpsB : List Op := [.batch ⟨0, 16, none, List.replicate 16 [7, 0, 0, 0], none⟩]
/-- the FileMetaData the pinned code assembled for (a) -/
private def f23Md : FooterData := ⟨f23Cols, "Carquet", 2, [⟨2, 46, 4, 46, 0, [⟨4, .int32, 0, 2, 46, 8, "c0"⟩]⟩]⟩

/-- the run of the pinned code on witness (a), evaluated once: statuses, the FileMetaData it assembled, the pages'
true sizes, and the envelope and row-group stage of the reader on its file -/
private theorem f23a :
    (fileOfPreFixF23 (deps []) f23Cols 0 1048576 "Carquet" f23Ops).2 = [.ok, .ok] ∧
    footerDataPreFixF23 (deps []) f23Cols 0 1048576 "Carquet" f23Ops = f23Md ∧
    (closingStatePreFixF23 (deps []) f23Cols 0 1048576 "Carquet" f23Ops).pagesDone.map
        (fun g => g.map (sumUsize (deps []))) = [[46]] ∧
    File.splitFile (fileOfPreFixF23 (deps []) f23Cols 0 1048576 "Carquet" f23Ops).1 = .ok (50, FileReal.footer f23Md) ∧
    File.readRowGroups ⟨true, []⟩ (fileOfPreFixF23 (deps []) f23Cols 0 1048576 "Carquet" f23Ops).1 50
      (f23Cols.map leafOf) (f23Md.rowGroups.map rgMetaOf) 4 = .error .chunkUncompressedSizeMismatch := by
  rw [deps_eq]; decide +kernel

private theorem f23_md : footerDataPreFixF23 (deps []) f23Cols 0 1048576 "Carquet" f23Ops = f23Md := f23a.2.1

/-- **Regression F23** (pinned code, kernel-checked).  On witness (a) every call returned OK, the footer's
`total_uncompressed_size` is 8 while the chunk's single page has header + uncompressed body = 46 bytes, and the
independent reader rejects the file (`chunkUncompressedSizeMismatch`).  On witness (b) the footer's
`total_uncompressed_size` is 64 and `RowGroup.total_byte_size` 49 where header + uncompressed body is 104. -/
theorem C05_regression_F23 :
    (fileOfPreFixF23 (deps []) f23Cols 0 1048576 "Carquet" f23Ops).2 = [.ok, .ok] ∧
    (footerDataPreFixF23 (deps []) f23Cols 0 1048576 "Carquet" f23Ops).rowGroups.map
        (fun g => g.chunks.map (·.totalUncompressed)) = [[8]] ∧
    (closingStatePreFixF23 (deps []) f23Cols 0 1048576 "Carquet" f23Ops).pagesDone.map
        (fun g => g.map (sumUsize (deps []))) = [[46]] ∧
    Spec.File.read (fileOfPreFixF23 (deps []) f23Cols 0 1048576 "Carquet" f23Ops).1 (strictTiling := true) =
      .error .chunkUncompressedSizeMismatch ∧
    (fileOfPreFixF23 (deps []) f23Cols 1 1048576 "Carquet" f23OpsB).2 = [.ok, .ok] ∧
    (footerDataPreFixF23 (deps []) f23Cols 1 1048576 "Carquet" f23OpsB).rowGroups.map
        (fun g => (g.totalByteSize, g.chunks.map (·.totalUncompressed))) = [(49, [64])] ∧
    (closingStatePreFixF23 (deps []) f23Cols 1 1048576 "Carquet" f23OpsB).pagesDone.map
        (fun g => g.map (sumUsize (deps []))) = [[104]] :=
  ⟨f23a.1, by rw [f23_md]; rfl, f23a.2.2.1,
    read_rejects _ f23Md 50 _ f23a.2.2.2.1 (by decide +kernel) (by decide) (by decide) f23a.2.2.2.2,
    -- the three facts about witness (b) read the same run: one evaluation
    by rw [deps_eq]; decide +kernel⟩

/-- the run of the repaired writer on witness (a), evaluated once (with the chunk loop and the row-group loop of the
reader on its file) -/
private theorem f23_run :
    (fileOf (deps []) f23Cols 0 1048576 "Carquet" f23Ops).1.length = 135 ∧
    (fileOf (deps []) f23Cols 0 1048576 "Carquet" f23Ops).2 = [.ok, .ok] ∧
    mdOfRun (deps []) f23Cols 0 1048576 "Carquet" f23Ops =
      ⟨f23Cols, "Carquet", 2, [⟨2, 46, 4, 46, 0, [⟨4, .int32, 0, 2, 46, 46, "c0"⟩]⟩]⟩ ∧
    (File.readChunks ⟨true, []⟩ (fileOf (deps []) f23Cols 0 1048576 "Carquet" f23Ops).1 50 (f23Cols.map leafOf)
      [cmOf ⟨4, .int32, 0, 2, 46, 46, "c0"⟩] 4).toOption.map (·.2) = some 50 ∧
    (File.readRowGroups ⟨true, []⟩ (fileOf (deps []) f23Cols 0 1048576 "Carquet" f23Ops).1 50 (f23Cols.map leafOf)
      [rgMetaOf ⟨2, 46, 4, 46, 0, [⟨4, .int32, 0, 2, 46, 46, "c0"⟩]⟩] 4).toOption.map (·.2) = some 50 := by
  rw [deps_eq]; decide +kernel

/-- the repaired writer on the same histories: 46 and 104 in the footer -/
example : (mdOfRun (deps []) f23Cols 0 1048576 "Carquet" f23Ops).rowGroups.map
      (fun g => (g.totalByteSize, g.chunks.map (·.totalUncompressed))) = [(46, [46])] ∧
    (mdOfRun (deps []) f23Cols 1 1048576 "Carquet" f23OpsB).rowGroups.map
      (fun g => (g.totalByteSize, g.chunks.map (·.totalUncompressed))) = [(104, [104])] :=
  ⟨by rw [f23_run.2.2.1]; rfl, by rw [deps_eq]; decide +kernel⟩

/- non-vacuity of `C05_reader_checks_chunk_uncompressed_size` / `C05_reader_checks_row_group_byte_size`: on the file of the
repaired writer for witness (a) the chunk loop and the row-group loop of the reader succeed (and end at the footer, offset 50) -/
example : (File.readChunks ⟨true, []⟩ (fileOf (deps []) f23Cols 0 1048576 "Carquet" f23Ops).1 50 (f23Cols.map leafOf)
      [cmOf ⟨4, .int32, 0, 2, 46, 46, "c0"⟩] 4).toOption.map (·.2) = some 50 ∧
    (File.readRowGroups ⟨true, []⟩ (fileOf (deps []) f23Cols 0 1048576 "Carquet" f23Ops).1 50 (f23Cols.map leafOf)
      [rgMetaOf ⟨2, 46, 4, 46, 0, [⟨4, .int32, 0, 2, 46, 46, "c0"⟩]⟩] 4).toOption.map (·.2) = some 50 :=
  f23_run.2.2.2

/-- the repaired writer on witness (a): accepted by the independent reader, which checks both fields -/
example : Spec.File.read (fileOf (deps []) f23Cols 0 1048576 "Carquet" f23Ops).1 (strictTiling := true) =
    .ok (specTableOf f23Cols f23Ops) :=
  C05_spec_reader_accepts_writer f23Cols 0 1048576 f23Ops (by decide) (by decide +kernel) (by decide +kernel)
    (FileSizesOk.of_run f23_run.1 f23_run.2.2.1 (by decide)) (fun s hs => by rw [f23_run.2.1] at hs; simp_all)

end Carquet.Properties.C05
