import Carquet.Properties.C05.SpecWriter
import Carquet.Proofs.SpecFileLogical
/-
C05 — LOGICAL TYPES of the columns of written files.

`carquet_schema_add_column(schema, name, physical_type, logical_type, repetition, type_length)` takes a
logical type; `add_column_internal` copies it, `build_file_metadata` sets `has_logical_type` when the id is
not UNKNOWN, `write_schema_element` / `write_logical_type` serialise it as SchemaElement field 10 (the
LogicalType union).  The writer model carries it (`Impl.Writer.Col.logical`, `Impl.FileReal.colLogical`,
byte-exact through `Impl.ThriftParquet.wLogicalMember`; tie: whole files byte for byte, op `wr`), and the
independent reader `Spec.File.read` VALIDATES the union of every schema element against parquet.thrift —
exactly one member; DecimalType with scale and precision, TimeType / TimestampType with isAdjustedToUTC and a
one-member TimeUnit, IntType with bitWidth and isSigned (all REQUIRED there) — and returns the annotation in
the schema tree (`Spec.Schema.Info.logicalType`, next to the converted type `Info.logical`).

So `C05_spec_reader_accepts_writer` (Properties/C05/SpecWriter.lean) now holds for columns WITH logical types
and its right-hand side `specTableOf cols ops` STATES them.  This file makes that content explicit.
Statements only; lemmas in Proofs/SpecFileLogical.lean, Proofs/SpecWriterFooter.lean.
-/
namespace Carquet.Properties.C05
open Carquet.Impl Carquet.Impl.Writer Carquet.Impl.FileReal
open Carquet.Spec Carquet.Proofs.SpecWriter Carquet.Proofs.WriterTable

private theorem leafInfosList_leaves (cols : List Col) :
    Schema.leafInfosList (cols.map specLeafNode) =
      cols.map (fun c => (⟨c.name, some (specRep c.rep), some c.ptype.code, (c.typeLen : Int), none, specLogicalOf c⟩ : Schema.Info)) := by
  induction cols with
  | nil => rfl
  | cons c cs ih => simp [Schema.leafInfosList, Schema.leafInfos, specLeafNode, ih]

/-- **The file states what was written.**  Under the hypotheses of `C05_spec_reader_accepts_writer`, the schema
the independent reader returns for the written file carries, column by column, exactly the logical types the
columns were created with: id and parameters (DECIMAL scale and precision, TIME / TIMESTAMP UTC flag and unit,
INTEGER width and sign) for a column created with a logical type, nothing for a column created with a NULL
pointer or with id UNKNOWN — and no converted type.  The metadata stages alone (`readSchema`) return the same
tree. -/
theorem C05_written_logical_types
    (cols : List Col) (codec pageSize : Nat) (ops : List Op)
    (hcodec : codec = 0 ∨ codec = 1 ∨ codec = 5 ∨ codec = 7)
    (hschema : SchemaOk cols) (hhist : HistOk cols ops) (hsize : FileSizesOk cols codec pageSize ops)
    (hok : ∀ s ∈ (fileOf (deps []) cols codec pageSize "Carquet" ops).2, s = .ok) :
    ∃ t, Spec.File.read (fileOf (deps []) cols codec pageSize "Carquet" ops).1 (strictTiling := true) = .ok t ∧
      (Schema.leafInfos t.schema).map (·.logicalType) = cols.map specLogicalOf ∧
      (Schema.leafInfos t.schema).map (·.logical) = cols.map (fun _ => none) ∧
      Spec.File.readSchema (fileOf (deps []) cols codec pageSize "Carquet" ops).1 = .ok (specSchemaOf cols) := by
  have h := C05_spec_reader_accepts_writer cols codec pageSize ops hcodec hschema hhist hsize hok
  refine ⟨_, h, ?_, ?_, Carquet.Proofs.SpecFile.readSchema_of_read _ _ _ _ h⟩
  · show (Schema.leafInfos (specSchemaOf cols)).map (·.logicalType) = _
    simp [specSchemaOf, Schema.leafInfos, leafInfosList_leaves, List.map_map, Function.comp_def]
  · show (Schema.leafInfos (specSchemaOf cols)).map (·.logical) = _
    simp [specSchemaOf, Schema.leafInfos, leafInfosList_leaves, List.map_map, Function.comp_def]

/-- what `specLogicalOf` is, case by case: a NULL pointer and id UNKNOWN state nothing; every other
`carquet_logical_type_t` states the member of parquet.thrift's union with the same parameters -/
theorem C05_specLogicalOf_cases (c : Col) :
    (c.logical = none → specLogicalOf c = none) ∧ (c.logical = some .unknown → specLogicalOf c = none) ∧
    (∀ s p, c.logical = some (.decimal s p) → specLogicalOf c = some (.decimal s p)) ∧
    (∀ utc, c.logical = some (.timestamp utc .millis) → specLogicalOf c = some (.timestamp utc .millis)) ∧
    (∀ utc, c.logical = some (.timestamp utc .micros) → specLogicalOf c = some (.timestamp utc .micros)) ∧
    (∀ utc, c.logical = some (.timestamp utc .nanos) → specLogicalOf c = some (.timestamp utc .nanos)) ∧
    (∀ utc u, c.logical = some (.time utc u) → specLogicalOf c = some (.time utc (specUnit u))) ∧
    (∀ bw sg, c.logical = some (.integer bw sg) → specLogicalOf c = some (.integer bw sg)) ∧
    (∀ lt, c.logical = some lt → lt ≠ .unknown → (specLogicalOf c).isSome = true) := by
  refine ⟨?_, ?_, ?_, ?_, ?_, ?_, ?_, ?_, ?_⟩ <;> intros <;> simp_all [specLogicalOf, specLogical, specUnit]
  rename_i lt _ hne
  cases lt <;> simp_all

/-- **Every LogicalType struct of a written footer is complete per parquet.thrift.**  For every footer the
writer assembles (within the limits `footerOk`), the INDEPENDENT generic compact-protocol decoder reads the
footer bytes as one struct value consuming them exactly, and every SchemaElement value in its `schema` list
either has no field 10, or field 10 is a union value with exactly one member, of an id the union has, whose
member struct carries every REQUIRED field of parquet.thrift (DecimalType scale, precision; TimeType /
TimestampType isAdjustedToUTC, unit — itself a one-member TimeUnit; IntType bitWidth, isSigned) with the
types parquet.thrift gives them (`logicalTypeComplete`). -/
theorem C05_logical_type_required_fields (md : FooterData) (hok : Carquet.Proofs.FileRealFooter.footerOk md = true) :
    ∃ fs els, Spec.Thrift.decodeStruct (FileReal.footer md) = some (.struct fs) ∧
      File.structsOf "FileMetaData.schema" ((File.getList fs 2).getD []) = .ok els ∧
      els.length = 1 + md.cols.length ∧
      ∀ el ∈ els, ∀ u, File.getStruct el 10 = some u → File.logicalTypeComplete u = true := by
  refine ⟨fmFieldsW md, (Schema.flatten (specSchemaOf md.cols)).map Carquet.Proofs.SpecFile.seFields,
    decodeStruct_written md hok, ?_, ?_, ?_⟩
  · have h1 := Carquet.Proofs.SpecFile.structsOf_map "FileMetaData.schema" Carquet.Proofs.SpecFile.seFields
      (Schema.flatten (specSchemaOf md.cols))
    simpa [fmFieldsW, File.getList, File.field?] using h1
  · simp [specSchemaOf, Schema.flatten, flattenList_leaves]
    omega
  · intro el hel u hu
    obtain ⟨e, _, rfl⟩ := List.mem_map.mp hel
    exact Carquet.Proofs.SpecFile.seFields_logical_complete e u hu

/-- **An incomplete or malformed LogicalType is REJECTED, with a reason** (the independent reader's rule, for
ANY member struct `m`, whatever else it holds): a DecimalType lacking scale or precision; a TimeType /
TimestampType lacking isAdjustedToUTC or unit; an IntType lacking bitWidth or isSigned; a union that does not
hold exactly one member; a TimeUnit that does not hold exactly one member; and an error in field 10 is an error
of the schema element (hence of `parseFooter`, `readSchema` and `read`, which thread it through). -/
theorem C05_incomplete_logical_type_rejected :
    (∀ m, Spec.ParquetThrift.decimalType.complete m = false →
      File.logicalTypeOf [(5, .struct m)] = .error (.missingField "DecimalType")) ∧
    (∀ id, id = 7 ∨ id = 8 → ∀ m, Spec.ParquetThrift.timeType.complete m = false →
      File.logicalTypeOf [(id, .struct m)] = .error (.missingField "TimeType / TimestampType")) ∧
    (∀ m, Spec.ParquetThrift.intType.complete m = false →
      File.logicalTypeOf [(10, .struct m)] = .error (.missingField "IntType")) ∧
    (∀ u, u.length ≠ 1 → ∃ e, File.logicalTypeOf u = .error e) ∧
    (∀ u, u.length ≠ 1 → ∃ e, File.timeUnitOf u = .error e) ∧
    (∀ fs e, File.optLogicalTypeOf fs = .error e → ∃ e', File.schemaElementOf fs = .error e') :=
  ⟨Carquet.Proofs.SpecFile.logicalTypeOf_decimal_incomplete,
   fun id hid m h => Carquet.Proofs.SpecFile.logicalTypeOf_time_incomplete id hid m h,
   Carquet.Proofs.SpecFile.logicalTypeOf_int_incomplete,
   Carquet.Proofs.SpecFile.logicalTypeOf_not_one,
   Carquet.Proofs.SpecFile.timeUnitOf_not_one,
   Carquet.Proofs.SpecFile.schemaElementOf_logical_error⟩

/-! ### what the reader says about concrete union values (tests of the rule, kernel-checked) -/

open Carquet.Spec.Thrift in
/-- DECIMAL(9, 0) as carquet writes it: scale 0 IS on the wire -/
example : File.logicalTypeOf [(5, .struct [(1, .i32 0), (2, .i32 9)])] = .ok (some (.decimal 0 9)) := rfl
open Carquet.Spec.Thrift in
/-- the footer of the seeded defect (scale / precision written only when non-zero): DECIMAL(9, 0) without field 1 -/
example : File.logicalTypeOf [(5, .struct [(2, .i32 9)])] = .error (.missingField "DecimalType") := rfl
open Carquet.Spec.Thrift in
example : File.logicalTypeOf [(5, .struct [])] = .error (.missingField "DecimalType") := rfl
open Carquet.Spec.Thrift in
/-- a scale of the wrong Thrift type -/
example : File.logicalTypeOf [(5, .struct [(1, .i64 0), (2, .i32 9)])] = .error (.wrongFieldType "DecimalType") := rfl
open Carquet.Spec.Thrift in
/-- TIMESTAMP(UTC, MICROS) -/
example : File.logicalTypeOf [(8, .struct [(1, .bool true), (2, .struct [(2, .struct [])])])] =
    .ok (some (.timestamp true .micros)) := rfl
open Carquet.Spec.Thrift in
/-- TIMESTAMP whose unit sits under field 1 (where isAdjustedToUTC belongs): wrong type for field 1 -/
example : File.logicalTypeOf [(8, .struct [(1, .bool true), (1, .struct [(2, .struct [])])])] =
    .error (.missingField "TimeType / TimestampType") := rfl
open Carquet.Spec.Thrift in
example : File.logicalTypeOf [(8, .struct [(1, .struct [(2, .struct [])])])] =
    .error (.missingField "TimeType / TimestampType") := rfl
open Carquet.Spec.Thrift in
/-- TIME without its unit -/
example : File.logicalTypeOf [(7, .struct [(1, .bool false)])] = .error (.missingField "TimeType / TimestampType") := rfl
open Carquet.Spec.Thrift in
/-- a TimeUnit with two members, with none, with a member parquet.thrift does not have -/
example : File.logicalTypeOf [(7, .struct [(1, .bool false), (2, .struct [(1, .struct []), (2, .struct [])])])] =
    .error (.unionNotOneMember "TimeUnit") := rfl
open Carquet.Spec.Thrift in
example : File.logicalTypeOf [(7, .struct [(1, .bool false), (2, .struct [])])] = .error (.unionNotOneMember "TimeUnit") := rfl
open Carquet.Spec.Thrift in
example : File.logicalTypeOf [(7, .struct [(1, .bool false), (2, .struct [(4, .struct [])])])] = .error .unknownTimeUnit := rfl
open Carquet.Spec.Thrift in
/-- a union with two members; an empty union -/
example : File.logicalTypeOf [(1, .struct []), (6, .struct [])] = .error (.unionNotOneMember "LogicalType") := rfl
example : File.logicalTypeOf [] = .error (.unionNotOneMember "LogicalType") := rfl
open Carquet.Spec.Thrift in
/-- INTEGER(8, signed); without isSigned -/
example : File.logicalTypeOf [(10, .struct [(1, .i8 8), (2, .bool true)])] = .ok (some (.integer 8 true)) := rfl
open Carquet.Spec.Thrift in
example : File.logicalTypeOf [(10, .struct [(1, .i8 8)])] = .error (.missingField "IntType") := rfl
open Carquet.Spec.Thrift in
/-- a member that is not a struct -/
example : File.logicalTypeOf [(1, .i32 0)] = .error (.wrongFieldType "LogicalType") := rfl
open Carquet.Spec.Thrift in
/-- a single member this reader has no name for (a newer annotation): accepted, no annotation; unknown fields
inside a member are ignored -/
example : File.logicalTypeOf [(20, .struct [])] = .ok none := rfl
open Carquet.Spec.Thrift in
example : File.logicalTypeOf [(5, .struct [(1, .i32 2), (2, .i32 9), (7, .binary [1])])] = .ok (some (.decimal 2 9)) := rfl

/-! ### non-vacuity: a three-column, two-row-group, Snappy-compressed history with a DECIMAL(9, 0) INT32 column
(OPTIONAL, with a null), a TIMESTAMP(UTC, MICROS) INT64 column and a column created with a non-NULL pointer
whose id is UNKNOWN satisfies every hypothesis -/

def lgCols : List Col :=
  [⟨"price", .int32, .optional, 0, some (.decimal 0 9)⟩, ⟨"ts", .int64, .required, 0, some (.timestamp true .micros)⟩,
   ⟨"u", .boolean, .required, 0, some .unknown⟩]
def lgOps : List Op :=
  [.batch ⟨0, 3, some [1, 0, 1], [[1, 0, 0, 0], [2, 0, 0, 0]], none⟩,
   .batch ⟨1, 3, none, [[1, 0, 0, 0, 0, 0, 0, 0], [2, 0, 0, 0, 0, 0, 0, 0], [3, 0, 0, 0, 0, 0, 0, 0]], none⟩,
   .batch ⟨2, 3, none, [[1], [0], [1]], none⟩, .newRowGroup,
   .batch ⟨0, 1, none, [[7, 0, 0, 0]], none⟩, .batch ⟨1, 1, none, [[9, 0, 0, 0, 0, 0, 0, 0]], none⟩, .batch ⟨2, 1, none, [[0]], none⟩]

theorem lgSchemaOk : SchemaOk lgCols := by decide +kernel

theorem lgHistOk : HistOk lgCols lgOps := by decide +kernel

/-- the run, evaluated once: length of the file, statuses, footer data -/
theorem lg_run :
    (fileOf (deps []) lgCols 1 64 "Carquet" lgOps).1.length = 572 ∧
    (fileOf (deps []) lgCols 1 64 "Carquet" lgOps).2 = List.replicate 8 .ok ∧
    mdOfRun (deps []) lgCols 1 64 "Carquet" lgOps =
      ⟨lgCols, "Carquet", 4,
       [⟨3, 148, 4, 151, 0, [⟨4, .int32, 1, 3, 55, 53, "price"⟩, ⟨59, .int64, 1, 3, 70, 71, "ts"⟩, ⟨129, .boolean, 1, 3, 26, 24, "u"⟩]⟩,
        ⟨1, 127, 155, 133, 1, [⟨155, .int32, 1, 1, 51, 49, "price"⟩, ⟨206, .int64, 1, 1, 57, 55, "ts"⟩,
                               ⟨263, .boolean, 1, 1, 25, 23, "u"⟩]⟩]⟩ := by
  rw [deps_eq]; decide +kernel

theorem lgSizesOk : FileSizesOk lgCols 1 64 lgOps := .of_run lg_run.1 lg_run.2.2 (by decide)

theorem lgAllOk : ((fileOf (deps []) lgCols 1 64 "Carquet" lgOps).2.all (· == .ok)) = true := by
  rw [lg_run.2.1]; rfl

/-- `C05_spec_reader_accepts_writer` applied to it: the independent reader accepts the file and returns the table — with the
DECIMAL and TIMESTAMP annotations in its schema -/
example : Spec.File.read (fileOf (deps []) lgCols 1 64 "Carquet" lgOps).1 (strictTiling := true) =
    .ok (specTableOf lgCols lgOps) :=
  C05_spec_reader_accepts_writer lgCols 1 64 lgOps (by decide) lgSchemaOk lgHistOk lgSizesOk
    (fun s hs => by simpa using List.all_eq_true.mp lgAllOk s hs)

/-- `C05_written_logical_types` applied to it -/
example : ∃ t, Spec.File.read (fileOf (deps []) lgCols 1 64 "Carquet" lgOps).1 (strictTiling := true) = .ok t ∧
    (Schema.leafInfos t.schema).map (·.logicalType) = lgCols.map specLogicalOf ∧
    (Schema.leafInfos t.schema).map (·.logical) = lgCols.map (fun _ => none) ∧
    Spec.File.readSchema (fileOf (deps []) lgCols 1 64 "Carquet" lgOps).1 = .ok (specSchemaOf lgCols) :=
  C05_written_logical_types lgCols 1 64 lgOps (by decide) lgSchemaOk lgHistOk lgSizesOk
    (fun s hs => by simpa using List.all_eq_true.mp lgAllOk s hs)

/-- what the file must state: DECIMAL(scale 0, precision 9), TIMESTAMP(UTC, MICROS), and nothing for the column
whose id is UNKNOWN -/
example : lgCols.map specLogicalOf = [some (.decimal 0 9), some (.timestamp true .micros), none] := by decide

/-- the schema tree of the table -/
example : File.nodeBeq (specTableOf lgCols lgOps).schema
    (.group ⟨"schema", none, none, 0, none, none⟩
      [.leaf ⟨"price", some .optional, some 1, 0, none, some (.decimal 0 9)⟩,
       .leaf ⟨"ts", some .required, some 2, 0, none, some (.timestamp true .micros)⟩,
       .leaf ⟨"u", some .required, some 0, 0, none, none⟩]) = true := by decide

/-- the footer data of the example's run is within `footerOk` (hypothesis of `C05_logical_type_required_fields`,
`C05_spec_reader_reads_footer`, `C13_written_footer_roundtrip`) -/
theorem lgFooterOk : Carquet.Proofs.FileRealFooter.footerOk (mdOfRun (deps []) lgCols 1 64 "Carquet" lgOps) = true := by
  rw [lg_run.2.2]; decide +kernel

/-- `C05_logical_type_required_fields` applied to it -/
example : ∃ fs els, Spec.Thrift.decodeStruct (FileReal.footer (mdOfRun (deps []) lgCols 1 64 "Carquet" lgOps)) = some (.struct fs) ∧
    File.structsOf "FileMetaData.schema" ((File.getList fs 2).getD []) = .ok els ∧
    els.length = 1 + (mdOfRun (deps []) lgCols 1 64 "Carquet" lgOps).cols.length ∧
    ∀ el ∈ els, ∀ u, File.getStruct el 10 = some u → File.logicalTypeComplete u = true :=
  C05_logical_type_required_fields _ lgFooterOk

/-- the bytes of field 10 of the two annotated columns in that footer, as `write_logical_type` emits them:
`5c 15 00 15 12 00 00` (member 5: struct { 1: i32 0, 2: i32 9 }) and `8c 11 1c 2c 00 00 00 00` hold the required
fields; the union values they decode to are complete -/
example : File.logicalTypeComplete [(5, .struct [(1, .i32 0), (2, .i32 9)])] = true ∧
    File.logicalTypeComplete [(8, .struct [(1, .bool true), (2, .struct [(2, .struct [])])])] = true ∧
    File.logicalTypeComplete [(5, .struct [(2, .i32 9)])] = false := by decide

end Carquet.Properties.C05
