import Carquet.Proofs.WriterRun
import Carquet.Impl.FileReal
/-
C05 (envelope part) — every file the writer reports complete has the Parquet envelope.
Statements only; each is read off `fileOf_groups` / `run_table` (Proofs/WriterRun.lean).  Generic in the byte-level
components (`Deps`), hence in particular for the real ones (`Impl.FileReal.deps`).
-/
namespace Carquet.Properties.C05
open Carquet.Impl.Writer Carquet.Proofs.Writer Carquet.Proofs.WriterLayout Carquet.Proofs.WriterPages
open Carquet.Proofs.WriterTable Carquet.Proofs.WriterInv

/-- For every schema, options and history: if close returns OK, the file is
`PAR1 ++ data ++ footer ++ len ++ PAR1` where the footer is the serialisation of metadata `md`
whose row groups and column chunks describe consecutive, gap-free, non-overlapping byte ranges
starting at offset 4 and ending exactly where the footer starts (`GroupsAt md.rowGroups 4`,
`|data| = Σ total_compressed_size`), the file's `num_rows` is the sum of the row groups' `num_rows`, each row group's
`total_compressed_size` being the sum of its chunks' `total_compressed_size`, its `total_byte_size` the sum of its chunks'
`total_uncompressed_size` (parquet.thrift: "Total byte size of all the uncompressed column data in this row group"; after
fix F23 — the pinned code put the compressed sizes there) and each chunk's `file_offset` (= `data_page_offset`) the position
of its first byte. -/
theorem C05_chunks_tile (D : Deps) (cols : List Col) (codec pageSize : Nat) (createdBy : String)
    (ops : List Op)
    (hok : (fileOf D cols codec pageSize createdBy ops).2.getLast? = some .ok) :
    ∃ (data : Bytes) (md : FooterData),
      (fileOf D cols codec pageSize createdBy ops).1 =
        magic ++ data ++ D.footer md ++ le32 (D.footer md).length ++ magic ∧
      md.cols = cols ∧ md.createdBy = createdBy ∧
      data.length = groupsSize md.rowGroups ∧ GroupsAt md.rowGroups 4 ∧
      md.numRows = (md.rowGroups.map (·.numRows)).sum := by
  obtain ⟨hfile, hc, hcb, hrows, hg⟩ :=
    fileOf_groups D (.top D) cols codec pageSize createdBy ops (fun _ _ _ _ => trivial) hok
  obtain ⟨g1, -, -, g4⟩ := hg.proj
  exact ⟨_, _, hfile, hc, hcb, g4, g1, hrows⟩

/-- For every schema, options and write history (any batches, any row-group boundaries, also
calls that failed in between): if `carquet_writer_close` returns OK, the stream received
`PAR1`, then the data region, then the footer, its length as a 4-byte little-endian number,
and `PAR1` — and the footer is exactly what `parquet_write_file_metadata` produced. -/
theorem C05_envelope (D : Deps) (cols : List Col) (codec pageSize : Nat) (createdBy : String)
    (ops : List Op)
    (hok : (fileOf D cols codec pageSize createdBy ops).2.getLast? = some .ok) :
    ∃ (data ftr : Bytes), (fileOf D cols codec pageSize createdBy ops).1 =
      magic ++ data ++ ftr ++ le32 ftr.length ++ magic := by
  obtain ⟨data, md, h, -⟩ := C05_chunks_tile D cols codec pageSize createdBy ops hok
  exact ⟨data, D.footer md, h⟩

/-- For every schema, options and history: if close returns OK, the data region of the file
is, row group by row group and chunk by chunk, a concatenation of pages
`pageHeader(|body|, |stored|, crc32(stored), rows, stats) ++ stored` with
`stored = compress(codec, body)` (`PageRec.bytes`, `PageOk`): the sizes in each header are the
lengths of the bytes that follow and of what they decompress from, the CRC in the header is the
CRC-32 of exactly the stored page bytes, no page is empty; and every chunk's metadata are the sums
over its pages (`ChunkPages`: `num_values` = Σ rows, `total_compressed_size` = Σ |header ++ stored|,
`total_uncompressed_size` = Σ (|header| + |body|) as parquet.thrift defines it — `sumUsize`, after fix F23; the pinned
code left the headers out —, the codec tag is the writer's).  The same metadata `md`
tile the region (`GroupsAt`, as in `C05_chunks_tile`). -/
theorem C05_pages_chain (D : Deps) (cols : List Col) (codec pageSize : Nat) (createdBy : String)
    (ops : List Op)
    (hok : (fileOf D cols codec pageSize createdBy ops).2.getLast? = some .ok) :
    ∃ (md : FooterData) (gs : List (List (List PageRec))),
      (fileOf D cols codec pageSize createdBy ops).1 =
        magic ++ dataBytes D gs ++ D.footer md ++ le32 (D.footer md).length ++ magic ∧
      GroupsAt md.rowGroups 4 ∧ AllGroups D codec md.rowGroups gs := by
  obtain ⟨hfile, -, -, -, hg⟩ := fileOf_groups D (.top D) cols codec pageSize createdBy ops (fun _ _ _ _ => trivial) hok
  exact ⟨_, _, hfile, hg.proj.1, hg.proj.2.1⟩

/-- **What the pages contain** (writer half of "recovers exactly the table that was written").
For every schema, options and history whose batches are well formed (`HistWF`: the caller's
arrays hold what the counts say) and in which EVERY call and the close returned OK: the file is
`PAR1 ++ pages ++ footer(md) ++ len ++ PAR1` as in `C05_pages_chain`, every page record is the
finalisation of the page-builder content it carries — body = rep levels ++ def levels ++ PLAIN
values of exactly that content, header row count, statistics (`GroupOf` / `pageRecOf`) — and
the contents of the pages, concatenated chunk by chunk, are exactly the table the history
denotes (`tableOf`, defined from the batches alone: rows, levels and dense values per column
per row group, in call order). -/
theorem C05_written_table (D : Deps) (cols : List Col) (codec pageSize : Nat) (createdBy : String)
    (ops : List Op) (hwf : HistWF ops)
    (hok : ∀ s ∈ (fileOf D cols codec pageSize createdBy ops).2, s = .ok) :
    ∃ (md : FooterData) (gs : List (List (List PageRec))),
      (fileOf D cols codec pageSize createdBy ops).1 =
        magic ++ dataBytes D gs ++ D.footer md ++ le32 (D.footer md).length ++ magic ∧
      md.cols = cols ∧ GroupsAt md.rowGroups 4 ∧ AllGroups D codec md.rowGroups gs ∧
      (∀ g ∈ gs, GroupOf D codec cols g) ∧
      gs.map (·.map pagesData) = tableOf cols ops := by
  have hq : ∀ b, Op.batch b ∈ ops → ∀ c, cols[b.col]? = some c → (Pred.wf D).Q c b := fun b hb _ _ => hwf b hb
  obtain ⟨hfile, hc, -, -, hg⟩ :=
    fileOf_groups D (.wf D) cols codec pageSize createdBy ops hq (fileOf_last_ok D cols codec pageSize createdBy ops hok)
  obtain ⟨g1, g2, g3, -⟩ := hg.proj
  exact ⟨_, _, hfile, hc, g1, g2, g3, run_table (pp := .wf D) (fun _ _ h => h) cols codec pageSize createdBy ops hq hok⟩

/-- the same for the real components -/
theorem C05_envelope_real (cols : List Col) (codec pageSize : Nat) (ops : List Op)
    (hok : (fileOf (Carquet.Impl.FileReal.deps []) cols codec pageSize "Carquet" ops).2.getLast? = some .ok) :
    ∃ (data ftr : Bytes), (fileOf (Carquet.Impl.FileReal.deps []) cols codec pageSize "Carquet" ops).1 =
      magic ++ data ++ ftr ++ le32 ftr.length ++ magic :=
  C05_envelope _ cols codec pageSize "Carquet" ops hok

/-- non-vacuity: a two-column history with a row-group boundary closes OK -/
example : (fileOf (Carquet.Impl.FileReal.deps []) [⟨"a", .int32, .optional, 0, none⟩, ⟨"b", .boolean, .required, 0, none⟩] 0 64 "Carquet"
    [.batch ⟨0, 3, some [1, 0, 1], [[1, 0, 0, 0], [2, 0, 0, 0]], none⟩, .batch ⟨1, 3, none, [[1], [0], [1]], none⟩, .newRowGroup,
     .batch ⟨0, 1, none, [[7, 0, 0, 0]], none⟩, .batch ⟨1, 1, none, [[0]], none⟩]).2.getLast? = some .ok := by
  decide +kernel

/-- non-vacuity of `C05_written_table`: the same history is well formed, all its calls return
OK, and the table it denotes is the expected one (two row groups) -/
example : HistWF [.batch ⟨0, 3, some [1, 0, 1], [[1, 0, 0, 0], [2, 0, 0, 0]], none⟩, .batch ⟨1, 3, none, [[1], [0], [1]], none⟩, .newRowGroup,
     .batch ⟨0, 1, none, [[7, 0, 0, 0]], none⟩, .batch ⟨1, 1, none, [[0]], none⟩] := by
  intro b hb
  simp only [List.mem_cons, Op.batch.injEq, List.mem_nil_iff, or_false, reduceCtorEq, false_or] at hb
  rcases hb with h | h | h | h <;> subst h <;>
    exact ⟨by decide, (by intro ds h; cases h <;> rfl), (by intro rs h; cases h)⟩

example : ((fileOf (Carquet.Impl.FileReal.deps []) [⟨"a", .int32, .optional, 0, none⟩, ⟨"b", .boolean, .required, 0, none⟩] 0 64 "Carquet"
    [.batch ⟨0, 3, some [1, 0, 1], [[1, 0, 0, 0], [2, 0, 0, 0]], none⟩, .batch ⟨1, 3, none, [[1], [0], [1]], none⟩, .newRowGroup,
     .batch ⟨0, 1, none, [[7, 0, 0, 0]], none⟩, .batch ⟨1, 1, none, [[0]], none⟩]).2.all (· == .ok)) = true := by
  decide +kernel

example : tableOf [⟨"a", .int32, .optional, 0, none⟩, ⟨"b", .boolean, .required, 0, none⟩]
    [.batch ⟨0, 3, some [1, 0, 1], [[1, 0, 0, 0], [2, 0, 0, 0]], none⟩, .batch ⟨1, 3, none, [[1], [0], [1]], none⟩, .newRowGroup,
     .batch ⟨0, 1, none, [[7, 0, 0, 0]], none⟩, .batch ⟨1, 1, none, [[0]], none⟩] =
    [[⟨3, [1, 0, 1], [], [[1, 0, 0, 0], [2, 0, 0, 0]]⟩, ⟨3, [], [], [[1], [0], [1]]⟩],
     [⟨1, [1], [], [[7, 0, 0, 0]]⟩, ⟨1, [], [], [[0]]⟩]] := by
  decide +kernel

end Carquet.Properties.C05
