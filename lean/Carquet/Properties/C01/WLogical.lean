import Carquet.Properties.C01.Roundtrip
import Carquet.Properties.C05.WLogical
/-
C01 — LOGICAL TYPES: write-then-read returns the schema that was written, logical types included.

`C01_roundtrip` and `C01_schema_read_back` (Properties/C01/Roundtrip.lean) hold for columns created with a
logical type; `C01_schema_read_back` now says what `carquet_schema_node_logical_type` returns for every column
after re-opening.  This file states the accessor content for all columns at once and gives the instance with a
DECIMAL(9, 0) and a TIMESTAMP column.  Statements only.
-/
namespace Carquet.Properties.C01
open Carquet.Impl Carquet.Impl.Writer Carquet.Impl.FileReal
open Carquet.Proofs.SpecWriter Carquet.Proofs.WriterTable Carquet.Proofs.Roundtrip
open Carquet.Properties.C05 (SchemaOk HistOk FileSizesOk)

/-- **The logical types read back.**  Under the hypotheses of `C01_roundtrip`, in every open mode: the schema of
the re-opened file has `1 + |cols|` elements; `carquet_schema_node_logical_type` returns NULL for the root and,
for the element of column `j` (`carquet_schema_get_element(schema, 1 + j)`), the logical type the column was
created with — id and parameters — or NULL when it was created with a NULL pointer or id UNKNOWN. -/
theorem C01_logical_types_read_back (cols : List Col) (codec pageSize : Nat) (ops : List Op) (mode : Reader.Mode)
    (hcodec : codec = 0 ∨ codec = 1 ∨ codec = 5 ∨ codec = 7)
    (hschema : SchemaOk cols) (hhist : HistOk cols ops) (hsize : FileSizesOk cols codec pageSize ops)
    (hok : ∀ s ∈ (fileOf (deps []) cols codec pageSize "Carquet" ops).2, s = .ok) :
    ∃ o, Reader.openFile mode (fileOf (deps []) cols codec pageSize "Carquet" ops).1 = .ok o ∧
      o.md.schema.map SchemaApi.nodeLogicalType = none :: cols.map colLogical := by
  have hopen := C01_open_written cols codec pageSize ops hcodec hschema hhist hsize hok mode
  have hf := (Carquet.Proofs.WriterInv.fileOf_groups (deps []) (goodPred []) cols codec pageSize "Carquet" ops hhist.batches
    (Carquet.Proofs.Writer.fileOf_last_ok _ cols codec pageSize _ ops hok)).2.1
  refine ⟨_, hopen, ?_⟩
  show (FileReal.fileMetaData (mdOfRun (deps []) cols codec pageSize "Carquet" ops)).schema.map SchemaApi.nodeLogicalType = _
  simp only [FileReal.fileMetaData, List.map_cons, List.map_map, hf]
  rfl

/-! ### non-vacuity: the history of Properties/C05/WLogical.lean — DECIMAL(9, 0) OPTIONAL INT32 with a null,
TIMESTAMP(UTC, MICROS) INT64, a column created with a non-NULL pointer whose id is UNKNOWN; two row groups, Snappy -/

open Carquet.Properties.C05 (lgCols lgOps lgSchemaOk lgHistOk lgSizesOk lgAllOk)

/-- `C01_roundtrip` applied to it (buffer mode, checksum verification on) -/
example : Reader.readAll Reader.Fixes.all Carquet.Proofs.ReaderExamples.noLibs true .buffer
    (fileOf (deps []) lgCols 1 64 "Carquet" lgOps).1 = .ok (readerTableOf lgCols lgOps) :=
  C01_roundtrip lgCols 1 64 lgOps .buffer true _ (by decide) lgSchemaOk lgHistOk lgSizesOk
    (fun s hs => by simpa using List.all_eq_true.mp lgAllOk s hs)

/-- `C01_logical_types_read_back` applied to it (mmap mode) -/
example : ∃ o, Reader.openFile .mmap (fileOf (deps []) lgCols 1 64 "Carquet" lgOps).1 = .ok o ∧
    o.md.schema.map SchemaApi.nodeLogicalType = none :: lgCols.map colLogical :=
  C01_logical_types_read_back lgCols 1 64 lgOps .mmap (by decide) lgSchemaOk lgHistOk lgSizesOk
    (fun s hs => by simpa using List.all_eq_true.mp lgAllOk s hs)

/-- what the accessor returns for the three columns: DECIMAL(scale 0, precision 9), TIMESTAMP(UTC, MICROS), NULL -/
example : lgCols.map colLogical = [some (.decimal 0 9), some (.timestamp true .micros), none] := by decide

/-- `C01_schema_read_back` applied to the DECIMAL column (fread mode) -/
example : ∃ o lf el, Reader.openFile .fread (fileOf (deps []) lgCols 1 64 "Carquet" lgOps).1 = .ok o ∧
    o.numColumns = lgCols.length ∧ o.leaves[0]? = some lf ∧ o.md.schema[lf.elemIdx]? = some el ∧
    el.name = some (FileReal.strBytes "price") ∧ el.type = some 1 ∧
    el.repetition = some 1 ∧ el.typeLength = 0 ∧ el.numChildren = 0 ∧
    lf.maxDef = 1 ∧ lf.maxRep = 0 ∧
    SchemaApi.nodeLogicalType el = some (.decimal 0 9) ∧ el.convertedType = none :=
  C01_schema_read_back lgCols 1 64 lgOps (by decide) lgSchemaOk lgHistOk lgSizesOk
    (fun s hs => by simpa using List.all_eq_true.mp lgAllOk s hs) .fread 0 _ rfl

end Carquet.Properties.C01
