import Carquet.Proofs.ReaderPageRoundtrip
import Carquet.Proofs.ReaderChunkRoundtrip
import Carquet.Proofs.ReaderExamples
import Carquet.Properties.C02.Cursor
import Carquet.Properties.C09.Snappy
import Carquet.Properties.C09.Lz4
/-
C01 (reader part) — the reader half of the write-then-read round trip, up to chunk level.
Statements only; lemmas in Proofs/ReaderPageRoundtrip.lean, Proofs/ReaderHeaderReads.lean,
Proofs/ReaderChunkRoundtrip.lean; uses C11 (RLE levels, PLAIN), C09 (Snappy, LZ4), C13 machinery
(page header written by the writer = what `parquet_parse_page_header` reads) and C02 (column
reader = index cursor).

  page body      C01_page_body_roundtrip, C01_stored_body_roundtrip(_lib)
  one page       C01_page_load_roundtrip: `load_next_page`, any mode, on a page as the writer lays
                 it out in the file (hand-written header ++ stored body)
  one chunk      C01_chunk_pages_roundtrip (page iteration delivers the writer's pages in order),
                 C01_chunk_roundtrip (any consumption history through the column reader = the index
                 cursor over the written rows; levels and dense values of those rows are the page
                 builders' content, i.e. `pagesData` of C05_written_table)

Vocabulary: `RecOk c codec r` (Proofs/ReaderChunkRoundtrip) — the page record `r` is what the
writer theorems say it is (`recOk_of_writer`: C05_pages_chain's `PageOk`, C05_written_table's
`r = pageRecOf …`) and its content has the shape the page builder produces for a flat column
(`PageShape`) within the C size limits (`HdrFits`, header ≤ 256 bytes).

The file level (`readAll (fileOf history) = readerTableOf history`) is Properties/C01/Roundtrip.lean.
-/
namespace Carquet.Properties.C01
open Carquet.Impl Carquet.Impl.Reader
open Carquet.Proofs.ReaderPageRoundtrip Carquet.Proofs.ReaderChunkRoundtrip Carquet.Proofs.ReaderModes

/-- **Page body round trip.**  For a flat REQUIRED, OPTIONAL or REPEATED column of any of the eight
physical types and a page as the page builder holds it when it is finalised (`PageShape`: one
definition level ≤ 1 per entry for OPTIONAL / REPEATED, none for REQUIRED; one repetition level ≤ 1
per entry for REPEATED, none otherwise; as many values as entries with definition level 1; values
of the column's width, booleans 0/1; sizes that fit the C types), decoding the body the writer emits —
`carquet_read_data_page_v1` with PLAIN encoding and the page's entry count — returns exactly the
definition levels, the repetition levels (all zero for a column that is not REPEATED) and the dense
values that went in. -/
theorem C01_page_body_roundtrip (c : Writer.Col) (p : Writer.Page) (h : PageShape c p) (cm : ThriftParquet.ColumnMetaData)
    (dict : Option Dict) :
    readDataPageV1 Fixes.all (colOf c cm) dict (Writer.pageBody (FileReal.deps []) c p) p.numValues 0 =
      .ok ⟨if c.maxDef > 0 then p.defs else List.replicate p.numValues 0,
           if c.maxRep > 0 then p.reps else List.replicate p.numValues 0, p.values⟩ :=
  readDataPageV1_pageBody c p h cm dict

-- non-vacuity: an OPTIONAL INT32 page with rows 5, null, 6
example : PageShape ⟨"a", .int32, .optional, 0, none⟩
    { values := [[5, 0, 0, 0], [6, 0, 0, 0]], defs := [1, 0, 1], numValues := 3, numNulls := 1 } := by
  decide

-- non-vacuity for REPEATED: a page holding the lists [5, 6] and [] (three entries)
example : PageShape ⟨"l", .int32, .repeated, 0, none⟩
    { values := [[5, 0, 0, 0], [6, 0, 0, 0]], defs := [1, 1, 0], reps := [0, 1, 0], numValues := 3, numNulls := 1 } := by
  decide

/-- **Stored page round trip, with the codec.**  What `compress_data` makes of a page body (codecs
UNCOMPRESSED, SNAPPY, LZ4, LZ4_RAW; bodies below 2^32 bytes), the loaders' `pageData` step with
the header's `uncompressed_page_size` turns back into the body. -/
theorem C01_stored_body_roundtrip (L : Libs) (codec : Nat) (body comp : Reader.Bytes)
    (hc : codec = 0 ∨ codec = 1 ∨ codec = 5 ∨ codec = 7) (hsz : body.length < 2 ^ 32)
    (hcomp : FileReal.compress [] codec body = some comp) :
    pageData L (codec : Int) comp body.length = .ok body :=
  stored_body_roundtrip L codec body comp hc hsz hcomp

/-- the same for GZIP and ZSTD under the library contract of Impl.CodecWrappers (whatever bytes the
library produced for the body at the level the writer uses) -/
theorem C01_stored_body_roundtrip_lib (L : Libs) (lo hi lvl : Int) (cap : Nat) (body comp : Reader.Bytes)
    (hg : CodecWrappers.Lib.Contract L.gzip lo hi) (hl : lo ≤ lvl ∧ lvl ≤ hi)
    (hcomp : L.gzip.compress lvl body cap = some comp) :
    pageData L 2 comp body.length = .ok body := by
  have := hg.roundtrip lvl body comp cap body.length hl.1 hl.2 hcomp (Nat.le_refl _)
  simp [pageData, decompressPage, CodecWrappers.gzipDecompress, CodecWrappers.gzipDecompressG, this, mapWrap]

/-! ### one page, one chunk -/

/-- **One page through `load_next_page`.**  A page as the writer lays it out in the file — the
hand-written header (sizes, CRC-32 of the stored body, row count, statistics) followed by the
stored body — sitting at the reader's current offset, anywhere in a file with at least 8 bytes
behind it: in EVERY mode (fread, mmap, buffer; with or without checksum verification; whatever
the zlib/zstd behaviour) the load succeeds, returns exactly the definition levels, all-zero
repetition levels and dense values of the page-builder content the page was made from, reports
the header's and the stored body's true sizes (so the iteration advances to exactly the next
page), and leaves the chunk state untouched (no dictionary). -/
theorem C01_page_load_roundtrip (L : Libs) (verify : Bool) (mode : Mode) (pre post : Reader.Bytes) (c : Writer.Col)
    (cm : ThriftParquet.ColumnMetaData) (codec : Nat) (r : Writer.PageRec) (st : PState)
    (hr : RecOk c codec r) (hcodec : cm.codec = (codec : Int)) (hnd : cm.dictionaryPageOffset = none)
    (hoff : st.dataStart + st.currentPage = (pre.length : Int)) (hrem : (r.rows : Int) ≤ st.valuesRemaining)
    (hpost : 8 ≤ post.length) (hsz : (pre ++ Writer.PageRec.bytes D r ++ post).length < 2 ^ 64) :
    (okOf (loadPage Fixes.all L verify mode (pre ++ Writer.PageRec.bytes D r ++ post) (colOf c cm) st).result).map proj =
      some (decodedOf c r, (hdrBytes r).length, r.comp.length) ∧
    stateAfterLoad Fixes.all L verify mode (pre ++ Writer.PageRec.bytes D r ++ post) (colOf c cm) st = st :=
  loadPage_writerPage L verify mode pre post c cm codec r st (hr.toL L) hcodec hnd hoff hrem hpost hsz

/-- **One chunk through the page iteration.**  A column chunk as the writer lays it out
(`pagesBytes`: its pages one after the other) at the offset its metadata name, with `num_values`
the sum of the pages' row counts and no dictionary page: in every mode the page iteration
(`carquet_read_next_page` until the values are used up) delivers exactly the writer's pages, in
order, each decoded to its page-builder content — no page lost, none read twice, no error. -/
theorem C01_chunk_pages_roundtrip (L : Libs) (verify : Bool) (mode : Mode) (c : Writer.Col) (cm : ThriftParquet.ColumnMetaData)
    (codec : Nat) (ps : List Writer.PageRec) (pre post : Reader.Bytes)
    (hcodec : cm.codec = (codec : Int)) (hnd : cm.dictionaryPageOffset = none)
    (hoff : cm.dataPageOffset = (pre.length : Int))
    (hnv : cm.numValues = (Carquet.Proofs.WriterPages.sumRows ps : Int))
    (hall : ∀ r ∈ ps, RecOk c codec r) (hpost : 8 ≤ post.length)
    (hsz : (pre ++ Carquet.Proofs.WriterPages.pagesBytes D ps ++ post).length < 2 ^ 64) :
    (chunkOf Fixes.all L verify mode (pre ++ Carquet.Proofs.WriterPages.pagesBytes D ps ++ post) (colOf c cm)).pages =
      ps.map (fun r => some (cursorPage c r)) :=
  (chunkOf_writer L verify mode c cm codec ps pre post hcodec hnd hoff hnv (fun r hr => (hall r hr).toL L) hpost hsz).1

/-- **One chunk through the column reader, any consumption pattern.**  Under the same hypotheses,
for every history of `read k | skip k | has_next | remaining | re-create` calls on the column
reader of that chunk, the outputs are those of the index cursor (Spec.Cursor) over the rows the
writer's pages stand for (`writtenRows`), and those rows carry exactly what went into the page
builders: their definition levels are the pages' levels concatenated (all zero for a REQUIRED
column), the values at the non-null rows are the pages' dense values concatenated — i.e. the
`defs` and `vals` of `pagesData ps`, which C05_written_table equates with the table the history
denotes — and there are `Σ rows` of them. -/
theorem C01_chunk_roundtrip (L : Libs) (verify : Bool) (mode : Mode) (c : Writer.Col) (cm : ThriftParquet.ColumnMetaData)
    (codec : Nat) (ps : List Writer.PageRec) (pre post : Reader.Bytes)
    (hcodec : cm.codec = (codec : Int)) (hnd : cm.dictionaryPageOffset = none)
    (hoff : cm.dataPageOffset = (pre.length : Int))
    (hnv : cm.numValues = (Carquet.Proofs.WriterPages.sumRows ps : Int))
    (hall : ∀ r ∈ ps, RecOk c codec r) (hpost : 8 ≤ post.length)
    (hsz : (pre ++ Carquet.Proofs.WriterPages.pagesBytes D ps ++ post).length < 2 ^ 64)
    (ops : List Carquet.Spec.Cursor.Op) (hops : ∀ op ∈ ops, Carquet.Proofs.Cursor.OpOk op) :
    (ColumnReader.run ColumnReader.Fixes.all
        (chunkOf Fixes.all L verify mode (pre ++ Carquet.Proofs.WriterPages.pagesBytes D ps ++ post) (colOf c cm)) ops).2 =
      (Carquet.Spec.Cursor.run (writtenRows c ps) ops).2.map Carquet.Proofs.Cursor.encodeOut ∧
    (writtenRows c ps).length = (Carquet.Proofs.WriterTable.pagesData ps).rows ∧
    (writtenRows c ps).map (·.defLevel) =
      (if c.maxDef > 0 then (Carquet.Proofs.WriterTable.pagesData ps).defs
       else List.replicate (Carquet.Proofs.WriterTable.pagesData ps).rows 0) ∧
    (writtenRows c ps).filterMap (·.val) = (Carquet.Proofs.WriterTable.pagesData ps).vals := by
  have hshape : ∀ r ∈ ps, RecShape c r := fun r hr => (hall r hr).toShape
  obtain ⟨h1, h2, h3⟩ := chunkOf_writer L verify mode c cm codec ps pre post hcodec hnd hoff hnv (fun r hr => (hall r hr).toL L) hpost hsz
  obtain ⟨hok, hrows⟩ := chunkOk_writer _ c ps hshape h1 h2 h3
  obtain ⟨hlen, hdefs, _, hvals⟩ := writtenRows_content c ps hshape
  exact ⟨by rw [← hrows]; exact (Carquet.Properties.C02.C02_column_refines_cursor _ hok ops hops).1,
    by rw [hlen, sumRows_pagesData c ps hshape], hdefs, hvals⟩

/-- the hypotheses `RecOk` come from the writer theorems: C05_pages_chain gives `PageOk`,
C05_written_table gives `r = pageRecOf …`; what remains is the shape of the page-builder content
and the size bounds -/
theorem C01_recOk_of_writer (c : Writer.Col) (codec : Nat) (r : Writer.PageRec)
    (hcodec : codec = 0 ∨ codec = 1 ∨ codec = 5 ∨ codec = 7)
    (hpage : Carquet.Proofs.WriterPages.PageOk D codec r) (hof : r = Writer.pageRecOf D codec c r.src)
    (hshape : PageShape c r.src)
    (hfits : Carquet.Proofs.ReaderHeaderReads.HdrFits r.body.length r.comp.length (FileReal.crc32 r.comp) r.rows r.stats)
    (hshort : (hdrBytes r).length ≤ 256) : RecOk c codec r :=
  recOk_of_writer c codec r hcodec hpage hof hshape hfits hshort

/-! ### non-vacuity -/

def exCol : Writer.Col := ⟨"a", .int32, .optional, 0, none⟩
def exP1 : Writer.Page := { values := [[5, 0, 0, 0], [6, 0, 0, 0]], defs := [1, 0, 1], numValues := 3, numNulls := 1 }
def exP2 : Writer.Page := { values := [[9, 0, 0, 0]], defs := [1], numValues := 1, numNulls := 0 }
def exR1 := Writer.pageRecOf D 1 exCol exP1
def exR2 := Writer.pageRecOf D 1 exCol exP2

private theorem rec1 : RecOk exCol 1 exR1 := by
  refine recOk_of_writer exCol 1 exR1 (by decide) ⟨by decide +kernel, by decide⟩ rfl (by decide) ?_ (by decide +kernel)
  refine ⟨by decide +kernel, by decide +kernel, crc32_lt _, by decide, ?_⟩
  intro s hs
  have h2 : exR1.stats = none := by decide +kernel
  rw [h2] at hs; cases hs

private theorem rec2 : RecOk exCol 1 exR2 := by
  refine recOk_of_writer exCol 1 exR2 (by decide) ⟨by decide +kernel, by decide⟩ rfl (by decide) ?_ (by decide +kernel)
  refine ⟨by decide +kernel, by decide +kernel, crc32_lt _, by decide, ?_⟩
  intro s hs
  have h2 : exR2.stats = none := by decide +kernel
  rw [h2] at hs; cases hs

def exCm : ThriftParquet.ColumnMetaData := { codec := 1, dataPageOffset := 4, numValues := 4, type := 1 }
def exFile : Reader.Bytes := [80, 65, 82, 49] ++ Carquet.Proofs.WriterPages.pagesBytes D [exR1, exR2] ++ [0, 0, 0, 0, 80, 65, 82, 49]

-- non-vacuity of the chunk theorems: their hypotheses hold for this two-page SNAPPY chunk of an
-- OPTIONAL INT32 column (rows 5, null, 6 | 9) …
example : (∀ r ∈ [exR1, exR2], RecOk exCol 1 r) ∧ exCm.codec = ((1 : Nat) : Int) ∧ exCm.dictionaryPageOffset = none ∧
    exCm.dataPageOffset = (([80, 65, 82, 49] : Reader.Bytes).length : Int) ∧
    exCm.numValues = (Carquet.Proofs.WriterPages.sumRows [exR1, exR2] : Int) := by
  refine ⟨?_, by decide, by decide, by decide, by decide⟩
  intro r hr
  simp only [List.mem_cons, List.mem_nil_iff, or_false] at hr
  rcases hr with rfl | rfl
  · exact rec1
  · exact rec2

-- … and, evaluated directly in the kernel, the iteration over the file bytes returns the two pages
example : (chunkOf Fixes.all Carquet.Proofs.ReaderExamples.noLibs true .mmap exFile (colOf exCol exCm)).pages =
    [some ⟨[1, 0, 1], [0, 0, 0], [[5, 0, 0, 0], [6, 0, 0, 0]]⟩, some ⟨[1], [0], [[9, 0, 0, 0]]⟩] := by
  decide +kernel

end Carquet.Properties.C01
