import Carquet.Impl.SchemaApi
import Carquet.Proofs.RoundtripFile
import Carquet.Proofs.RoundtripCursor
import Carquet.Proofs.SpecWriterSizes
import Carquet.Properties.C05.SpecWriter
import Carquet.Properties.C01.Reader
/-
C01, FILE LEVEL — write-then-read returns the table.

`fileOf (Impl.FileReal.deps [])` is the byte-exact model of carquet's writer (tie: byte equality of
whole files, op `wr`); `Impl.Reader.readAll` is the model of carquet's reader (open, get_column,
page loaders, column reader; tie: every field the real reader returns on every generated file, in
three I/O modes, op `wr`).  `readerTableOf cols ops` (Impl/ReaderTable.lean) is the table the
history denotes — per row group, per column, the definition level of every row and the dense
values — defined from the batches alone; the driver's read-back predicate of op `wr` compares the
REAL reader's output with the same function.

The hypotheses are those of C05_spec_reader_accepts_writer (Properties/C05/SpecWriter.lean), where
each is explained: codec among UNCOMPRESSED / SNAPPY / LZ4 / LZ4_RAW; `SchemaOk` (at least one column,
flat REQUIRED / OPTIONAL / REPEATED columns, FLBA with a positive length, C-string names); `HistOk` (the arrays
hold what the counts say, values are bit patterns of the column's type, columns of a row group are
aligned — the rows of a REPEATED column are its entries with repetition level 0 — and begin with
repetition level 0); `FileSizesOk` (file below 2 GiB, at most 32768 row groups, chunk `num_values` and
`total_uncompressed_size` below 2^31); every call and the close returned OK.

Stages (each a statement of its own below; lemmas in Proofs/Roundtrip{Page,Open,Layout,Chunk,File,Cursor}.lean):
  open          C01_open_written          all three open paths on the written envelope + footer; build_schema
  get_column    C01_get_column_written    every test of get_column passes on the writer's metadata
  chunk offsets C01_chunk_at_offset       file = pre ++ pages of the chunk ++ post at data_page_offset, and
                                          every page record satisfies the reader half's `RecOk` (PageShape,
                                          HdrFits, header within the first 256-byte window)
  one chunk     C01_chunk_read_written    one read_batch of num_values rows = the column's table entry
                C01_read_chunk_api        the same through `readChunk`, as the caller's arrays (what the tie prints)
  row group     C01_row_group_read_written
  whole file    C01_roundtrip             (C01_roundtrip_sizes: direct size conditions, no alignment hypothesis)
Corollaries: C01_roundtrip_modes_agree (C03 on written files), C01_roundtrip_any_consumption (the
batch-at-a-time API through C02), C01_schema_read_back (names, types, repetition, type length, levels),
C01_null_def_levels_all_present.
Every codec tag: C01_roundtrip_lib — the same theorem for ANY codec tag and writer-side oracle under
`StoredOk` (what was stored decompresses), which is a theorem for UNCOMPRESSED / SNAPPY / LZ4 / LZ4_RAW
(C01_storedOk_exact) and the library contract `decompress (compress x) = x` for GZIP / ZSTD
(C01_storedOk_gzip, C01_storedOk_zstd).
-/
namespace Carquet.Properties.C01
open Carquet.Impl Carquet.Impl.Writer Carquet.Impl.FileReal
open Carquet.Proofs.SpecWriter Carquet.Proofs.WriterTable Carquet.Proofs.Roundtrip
open Carquet.Properties.C05 (SchemaOk HistOk FileSizesOk)

private theorem run_all (cols : List Col) (codec pageSize : Nat) (ops : List Op)
    (hcodec : codec = 0 ∨ codec = 1 ∨ codec = 5 ∨ codec = 7)
    (hschema : SchemaOk cols) (hhist : HistOk cols ops) (hsize : FileSizesOk cols codec pageSize ops)
    (hok : ∀ s ∈ (fileOf (deps []) cols codec pageSize "Carquet" ops).2, s = .ok) :
    RunFacts (deps []) (goodPred []) cols codec ops (fileOf (deps []) cols codec pageSize "Carquet" ops).1
      (mdOfRun (deps []) cols codec pageSize "Carquet" ops) (pagesOfRun (deps []) cols codec pageSize "Carquet" ops) ∧
    RunSmall (mdOfRun (deps []) cols codec pageSize "Carquet" ops) (pagesOfRun (deps []) cols codec pageSize "Carquet" ops) ∧
    ReadSmall (fileOf (deps []) cols codec pageSize "Carquet" ops).1 (mdOfRun (deps []) cols codec pageSize "Carquet" ops) := by
  have hf := run_facts (deps []) (goodPred []) (goodPred_wf []) cols codec pageSize "Carquet" ops hhist.batches hok
  refine ⟨hf, runSmall_of_output [] hcodec cols pageSize ops hhist.batches
    (Carquet.Proofs.Writer.fileOf_last_ok _ cols codec pageSize _ ops hok) hschema.small hsize, ?_, ?_⟩
  · exact Nat.lt_trans hsize.fileLen (by decide)
  · intro g hg ch hch
    exact (hsize.chunks g hg ch hch).1

/-- **C01, file level.**  For every schema, codec among UNCOMPRESSED / SNAPPY / LZ4 / LZ4_RAW, page size
and write history satisfying the preconditions: if every call and the close returned OK, carquet's
reader — opened by `carquet_reader_open` with or without mmap or by `carquet_reader_open_buffer`,
with or without checksum verification, whatever zlib / libzstd would do — reads every column chunk
of every row group of the written file completely and returns exactly the table the history
denotes: row groups, rows, null positions (definition levels) and bit-identical values; `num_rows`
is the number of rows written. -/
theorem C01_roundtrip (cols : List Col) (codec pageSize : Nat) (ops : List Op) (mode : Reader.Mode) (verify : Bool)
    (L : Reader.Libs)
    (hcodec : codec = 0 ∨ codec = 1 ∨ codec = 5 ∨ codec = 7)
    (hschema : SchemaOk cols) (hhist : HistOk cols ops) (hsize : FileSizesOk cols codec pageSize ops)
    (hok : ∀ s ∈ (fileOf (deps []) cols codec pageSize "Carquet" ops).2, s = .ok) :
    Reader.readAll Reader.Fixes.all L verify mode (fileOf (deps []) cols codec pageSize "Carquet" ops).1 =
      .ok (readerTableOf cols ops) := by
  obtain ⟨hf, hsm, hrs⟩ := run_all cols codec pageSize ops hcodec hschema hhist hsize hok
  exact readAll_written L verify mode codec [] (storedOk_exact L [] codec hcodec) cols hschema.colsOk ops _ _ _ hf hsm hrs
    hschema.nonEmpty

/-- The same under the size conditions in their direct form: `RunSmall` (footer within the limits
`footerOk`, footer shorter than 4 GiB, every page's body / stored body / row count below 2^31) and
`ReadSmall` (file shorter than 2^64 bytes, every chunk's `num_values` below 2^31); and WITHOUT the
alignment of the columns of a row group — carquet's reader does not compare a chunk's row count
with the row group's `num_rows`. -/
theorem C01_roundtrip_sizes (cols : List Col) (codec pageSize : Nat) (ops : List Op) (mode : Reader.Mode) (verify : Bool)
    (L : Reader.Libs)
    (hcodec : codec = 0 ∨ codec = 1 ∨ codec = 5 ∨ codec = 7)
    (hne : cols ≠ []) (hcols : ∀ c ∈ cols, ColOk c) (hwf : HistWF ops)
    (hbatches : ∀ b, Op.batch b ∈ ops → ∀ c, cols[b.col]? = some c → BatchOk c b)
    (hsm : RunSmall (mdOfRun (deps []) cols codec pageSize "Carquet" ops) (pagesOfRun (deps []) cols codec pageSize "Carquet" ops))
    (hrs : ReadSmall (fileOf (deps []) cols codec pageSize "Carquet" ops).1 (mdOfRun (deps []) cols codec pageSize "Carquet" ops))
    (hok : ∀ s ∈ (fileOf (deps []) cols codec pageSize "Carquet" ops).2, s = .ok) :
    Reader.readAll Reader.Fixes.all L verify mode (fileOf (deps []) cols codec pageSize "Carquet" ops).1 =
      .ok (readerTableOf cols ops) :=
  readAll_written L verify mode codec [] (storedOk_exact L [] codec hcodec) cols hcols ops _ _ _
    (run_facts (deps []) (goodPred []) (goodPred_wf []) cols codec pageSize "Carquet" ops hbatches hok) hsm hrs hne

/-- **C03 on written files** (immediate): the three ways of opening, and both checksum settings,
give the same result on every file the writer reports complete. -/
theorem C01_roundtrip_modes_agree (cols : List Col) (codec pageSize : Nat) (ops : List Op)
    (mode mode' : Reader.Mode) (verify verify' : Bool) (L L' : Reader.Libs)
    (hcodec : codec = 0 ∨ codec = 1 ∨ codec = 5 ∨ codec = 7)
    (hschema : SchemaOk cols) (hhist : HistOk cols ops) (hsize : FileSizesOk cols codec pageSize ops)
    (hok : ∀ s ∈ (fileOf (deps []) cols codec pageSize "Carquet" ops).2, s = .ok) :
    Reader.readAll Reader.Fixes.all L verify mode (fileOf (deps []) cols codec pageSize "Carquet" ops).1 =
      Reader.readAll Reader.Fixes.all L' verify' mode' (fileOf (deps []) cols codec pageSize "Carquet" ops).1 := by
  rw [C01_roundtrip cols codec pageSize ops mode verify L hcodec hschema hhist hsize hok,
    C01_roundtrip cols codec pageSize ops mode' verify' L' hcodec hschema hhist hsize hok]

/-! ### every codec tag: GZIP and ZSTD by the library contract -/

/-- **C01 for ANY codec tag, over the libraries' contract.**  `o` is what zlib / libzstd produced on
the writer's side (the oracle of `Impl.FileReal.compress`, a table from page bodies to stored
bodies; irrelevant for the byte-exact codecs), `L` the libraries on the reader's side.  If whatever
was stored decompresses (`StoredOk L o codec`: a theorem for UNCOMPRESSED / SNAPPY / LZ4 / LZ4_RAW —
`C01_storedOk_exact` —, the contract `decompress (compress x) = x` of Impl.CodecWrappers for GZIP /
ZSTD — `C01_storedOk_gzip`, `C01_storedOk_zstd`), the reader returns the table, in every mode.
Size conditions in their direct form (`RunSmall`, `ReadSmall`), no alignment hypothesis. -/
theorem C01_roundtrip_lib (o : FileReal.Oracle) (cols : List Col) (codec pageSize : Nat) (ops : List Op) (mode : Reader.Mode)
    (verify : Bool) (L : Reader.Libs) (hst : StoredOk L o codec)
    (hne : cols ≠ []) (hcols : ∀ c ∈ cols, ColOk c) (hwf : HistWF ops)
    (hbatches : ∀ b, Op.batch b ∈ ops → ∀ c, cols[b.col]? = some c → BatchOk c b)
    (hsm : RunSmall (mdOfRun (deps o) cols codec pageSize "Carquet" ops) (pagesOfRun (deps o) cols codec pageSize "Carquet" ops))
    (hrs : ReadSmall (fileOf (deps o) cols codec pageSize "Carquet" ops).1 (mdOfRun (deps o) cols codec pageSize "Carquet" ops))
    (hok : ∀ s ∈ (fileOf (deps o) cols codec pageSize "Carquet" ops).2, s = .ok) :
    Reader.readAll Reader.Fixes.all L verify mode (fileOf (deps o) cols codec pageSize "Carquet" ops).1 =
      .ok (readerTableOf cols ops) :=
  readAll_written L verify mode codec o hst cols hcols ops _ _ _
    (run_facts (deps o) (goodPred o) (goodPred_wf o) cols codec pageSize "Carquet" ops hbatches hok) hsm hrs hne

/-- UNCOMPRESSED, SNAPPY, LZ4, LZ4_RAW: the stored body decompresses, by C09 (no assumption) -/
theorem C01_storedOk_exact (L : Reader.Libs) (o : FileReal.Oracle) (codec : Nat)
    (hcodec : codec = 0 ∨ codec = 1 ∨ codec = 5 ∨ codec = 7) : StoredOk L o codec :=
  storedOk_exact L o codec hcodec

/-- GZIP: if the writer's side stored outputs of zlib's compressor (at a level inside the range of the
contract) and zlib satisfies `decompress (compress x) = x`, the stored body decompresses -/
theorem C01_storedOk_gzip (L : Reader.Libs) (o : FileReal.Oracle) (lo hi : Int)
    (hc : CodecWrappers.Lib.Contract L.gzip lo hi) (ho : OracleFrom L.gzip lo hi o) : StoredOk L o 2 :=
  storedOk_gzip L o lo hi hc ho

/-- ZSTD: the same for libzstd -/
theorem C01_storedOk_zstd (L : Reader.Libs) (o : FileReal.Oracle) (lo hi : Int)
    (hc : CodecWrappers.Lib.Contract L.zstd lo hi) (ho : OracleFrom L.zstd lo hi o) : StoredOk L o 6 :=
  storedOk_zstd L o lo hi hc ho

/-! ### the reader half in its general form (any codec tag)

`RecOkL L c codec r` (Proofs/ReaderChunkRoundtrip.lean) is `RecOk` with "the stored body is
`compress_data` of the body for a byte-exact codec" replaced by what the reader needs of it: the
loaders' decompression step turns the stored body back into the body.  `C01_page_load_roundtrip`
and `C01_chunk_pages_roundtrip` (Properties/C01/Reader.lean) are the instances for codecs 0/1/5/7. -/

open Carquet.Proofs.ReaderChunkRoundtrip Carquet.Proofs.ReaderPageRoundtrip Carquet.Proofs.ReaderModes in
/-- one page through `load_next_page`, any codec tag -/
theorem C01_page_load_roundtrip_lib (L : Reader.Libs) (verify : Bool) (mode : Reader.Mode) (pre post : Reader.Bytes) (c : Col)
    (cm : ThriftParquet.ColumnMetaData) (codec : Nat) (r : PageRec) (st : Reader.PState)
    (hr : RecOkL L c codec r) (hcodec : cm.codec = (codec : Int)) (hnd : cm.dictionaryPageOffset = none)
    (hoff : st.dataStart + st.currentPage = (pre.length : Int)) (hrem : (r.rows : Int) ≤ st.valuesRemaining)
    (hpost : 8 ≤ post.length) (hsz : (pre ++ PageRec.bytes D r ++ post).length < 2 ^ 64) :
    (okOf (Reader.loadPage Reader.Fixes.all L verify mode (pre ++ PageRec.bytes D r ++ post) (colOf c cm) st).result).map proj =
      some (decodedOf c r, (hdrBytes r).length, r.comp.length) ∧
    Reader.stateAfterLoad Reader.Fixes.all L verify mode (pre ++ PageRec.bytes D r ++ post) (colOf c cm) st = st :=
  loadPage_writerPage L verify mode pre post c cm codec r st hr hcodec hnd hoff hrem hpost hsz

open Carquet.Proofs.ReaderChunkRoundtrip Carquet.Proofs.ReaderPageRoundtrip in
/-- one chunk through the page iteration, any codec tag -/
theorem C01_chunk_pages_roundtrip_lib (L : Reader.Libs) (verify : Bool) (mode : Reader.Mode) (c : Col)
    (cm : ThriftParquet.ColumnMetaData) (codec : Nat) (ps : List PageRec) (pre post : Reader.Bytes)
    (hcodec : cm.codec = (codec : Int)) (hnd : cm.dictionaryPageOffset = none)
    (hoff : cm.dataPageOffset = (pre.length : Int))
    (hnv : cm.numValues = (Carquet.Proofs.WriterPages.sumRows ps : Int))
    (hall : ∀ r ∈ ps, RecOkL L c codec r) (hpost : 8 ≤ post.length)
    (hsz : (pre ++ Carquet.Proofs.WriterPages.pagesBytes D ps ++ post).length < 2 ^ 64) :
    (Reader.chunkOf Reader.Fixes.all L verify mode (pre ++ Carquet.Proofs.WriterPages.pagesBytes D ps ++ post) (colOf c cm)).pages =
      ps.map (fun r => some (cursorPage c r)) :=
  (chunkOf_writer L verify mode c cm codec ps pre post hcodec hnd hoff hnv hall hpost hsz).1

/-! ### the stages, as statements of their own -/

section stages
variable (cols : List Col) (codec pageSize : Nat) (ops : List Op)
  (hcodec : codec = 0 ∨ codec = 1 ∨ codec = 5 ∨ codec = 7)
  (hschema : SchemaOk cols) (hhist : HistOk cols ops) (hsize : FileSizesOk cols codec pageSize ops)
  (hok : ∀ s ∈ (fileOf (deps []) cols codec pageSize "Carquet" ops).2, s = .ok)
include hcodec hschema hhist hsize hok

/-- **open.**  Every open path accepts the written file (both magics, the footer length word, the
footer parsed by `parquet_parse_file_metadata` with its required fields, `build_schema`) and holds
afterwards: the metadata the writer assembled at close, and one leaf per column — leaf `j` is
schema element `1 + j` with the levels of the column's repetition. -/
theorem C01_open_written (mode : Reader.Mode) :
    Reader.openFile mode (fileOf (deps []) cols codec pageSize "Carquet" ops).1 =
      .ok ⟨FileReal.fileMetaData (mdOfRun (deps []) cols codec pageSize "Carquet" ops), leavesOfCols cols⟩ := by
  obtain ⟨hf, hsm, _⟩ := run_all cols codec pageSize ops hcodec hschema hhist hsize hok
  have := openFile_written mode codec [] cols ops _ _ _ hf hsm hschema.nonEmpty
  rwa [hf.cols_eq] at this

/-- **get_column.**  For row group `i` of the footer and column `j` of the schema,
`carquet_reader_get_column` passes every test (indices, chunk count, metadata present, physical
type against the schema, FLBA length, `num_values ≥ 0`) and creates the column reader of the
column with the chunk's metadata. -/
theorem C01_get_column_written (i j : Nat) (gm : RgMeta) (m : ChunkMeta) (c : Col)
    (hg : (mdOfRun (deps []) cols codec pageSize "Carquet" ops).rowGroups[i]? = some gm)
    (hm : gm.chunks[j]? = some m) (hc : cols[j]? = some c) :
    Reader.getColumn ⟨FileReal.fileMetaData (mdOfRun (deps []) cols codec pageSize "Carquet" ops), leavesOfCols cols⟩ i j =
      .ok (Carquet.Proofs.ReaderPageRoundtrip.colOf c (cmdOf m)) := by
  obtain ⟨hf, hsm, _⟩ := run_all cols codec pageSize ops hcodec hschema hhist hsize hok
  obtain ⟨_, m', _, _, h2, _, hcell⟩ := cell_of_run [] codec cols ops _ _ _ hf hsm i j gm c hg hc
  rw [hm] at h2
  simp only [Option.some.injEq] at h2
  subst h2
  have := getColumn_written _ i j gm m c (hschema.colsOk c (List.mem_of_getElem? hc)) hg hm (by rw [hf.cols_eq]; exact hc) hcell.ptype
  rw [hf.cols_eq] at this
  exact this

private theorem group_of_table (i : Nat) (g : List ColData) (hg : (tableOf cols ops)[i]? = some g) :
    ∃ gp gm, (pagesOfRun (deps []) cols codec pageSize "Carquet" ops)[i]? = some gp ∧ gp.map pagesData = g ∧
      (mdOfRun (deps []) cols codec pageSize "Carquet" ops).rowGroups[i]? = some gm := by
  obtain ⟨hf, _, _⟩ := run_all cols codec pageSize ops hcodec hschema hhist hsize hok
  have hlen := hf.groups.length
  rw [← hf.table, List.getElem?_map] at hg
  cases hgp : (pagesOfRun (deps []) cols codec pageSize "Carquet" ops)[i]? with
  | none => rw [hgp] at hg; cases hg
  | some gp =>
    rw [hgp] at hg
    have hi : i < (mdOfRun (deps []) cols codec pageSize "Carquet" ops).rowGroups.length := by
      have := (List.getElem?_eq_some_iff.mp hgp).1; omega
    exact ⟨gp, _, rfl, Option.some.inj hg, List.getElem?_eq_getElem hi⟩

private theorem cell_at (i j : Nat) (g : List ColData) (c : Col)
    (hg : (tableOf cols ops)[i]? = some g) (hc : cols[j]? = some c) :
    ∃ (gm : RgMeta) (m : ChunkMeta) (ps : List PageRec),
      (mdOfRun (deps []) cols codec pageSize "Carquet" ops).rowGroups[i]? = some gm ∧ gm.chunks[j]? = some m ∧
      g[j]? = some (pagesData ps) ∧
      Cell [] codec (fileOf (deps []) cols codec pageSize "Carquet" ops).1 c m ps ∧ m.numValues < 2147483648 := by
  obtain ⟨hf, hsm, hrs⟩ := run_all cols codec pageSize ops hcodec hschema hhist hsize hok
  obtain ⟨gp, gm, hgp, rfl, hgm⟩ := group_of_table cols codec pageSize ops hcodec hschema hhist hsize hok i g hg
  obtain ⟨gp', m, ps, h1, h2, h3, hcell⟩ := cell_of_run [] codec cols ops _ _ _ hf hsm i j gm c hgm hc
  cases hgp.symm.trans h1
  exact ⟨gm, m, ps, hgm, h2, by rw [List.getElem?_map, h3]; rfl, hcell,
    hrs.numValues _ (List.mem_of_getElem? hgm) m (List.mem_of_getElem? h2)⟩

/-- **chunk offsets and page invariants.**  The chunk of row group `i`, column `j` lies in the file
exactly where its metadata say: the file is `pre ++ pages ++ post` with `|pre|` = the chunk's
`file_offset` = `data_page_offset`, at least the 8 trailing bytes behind it, `pages` the bytes
(hand-written header ++ stored body) of the chunk's page records, whose row counts sum to the
chunk's `num_values`; their content concatenated is the column's entry of the table; and every page
record satisfies `RecOk` — the hypothesis of the reader half (C01_page_load_roundtrip,
C01_chunk_pages_roundtrip): `PageShape`, `HdrFits` and a header of at most 256 bytes are INVARIANTS
of the writer's page builder. -/
theorem C01_chunk_at_offset (i j : Nat) (g : List ColData) (c : Col)
    (hg : (tableOf cols ops)[i]? = some g) (hc : cols[j]? = some c) :
    ∃ (gm : RgMeta) (m : ChunkMeta) (ps : List PageRec) (pre post : List UInt8),
      (mdOfRun (deps []) cols codec pageSize "Carquet" ops).rowGroups[i]? = some gm ∧ gm.chunks[j]? = some m ∧
      (fileOf (deps []) cols codec pageSize "Carquet" ops).1 = pre ++ Carquet.Proofs.WriterPages.pagesBytes (deps []) ps ++ post ∧
      pre.length = m.fileOffset ∧ 8 ≤ post.length ∧ m.numValues = Carquet.Proofs.WriterPages.sumRows ps ∧ m.codec = codec ∧
      g[j]? = some (pagesData ps) ∧
      ∀ r ∈ ps, Carquet.Proofs.ReaderChunkRoundtrip.RecOk c codec r := by
  obtain ⟨gm, m, ps, hgm, hm, hgj, hcell, _⟩ := cell_at cols codec pageSize ops hcodec hschema hhist hsize hok i j g c hg hc
  obtain ⟨pre, post, s1, s2, s3⟩ := hcell.split
  exact ⟨gm, m, ps, pre, post, hgm, hm, s1, s2, s3, hcell.pages.1, hcell.pages.2.2.2.1, hgj,
    fun r hr => recOk_of_facts hcodec (hschema.colsOk c (List.mem_of_getElem? hc)) (hcell.facts r hr)⟩

/-- **one chunk.**  The column reader `get_column` creates for row group `i`, column `j`, driven by
one `carquet_column_read_batch` of `num_values` rows with a definition-level array, returns the
column's entry of the table: one definition level per row and the dense values. -/
theorem C01_chunk_read_written (L : Reader.Libs) (verify : Bool) (mode : Reader.Mode) (i j : Nat) (g : List ColData) (d : ColData)
    (c : Col) (hg : (tableOf cols ops)[i]? = some g) (hd : g[j]? = some d) (hc : cols[j]? = some c) :
    ∃ col, Reader.getColumn ⟨FileReal.fileMetaData (mdOfRun (deps []) cols codec pageSize "Carquet" ops), leavesOfCols cols⟩ i j = .ok col ∧
      Reader.columnData col.maxDef
        (ColumnReader.readBatch ColumnReader.Fixes.all (ColumnReader.getColumn
          (Reader.chunkOf Reader.Fixes.all L verify mode (fileOf (deps []) cols codec pageSize "Carquet" ops).1 col))
          col.cm.numValues true false).2 col.cm.numValues = some (readerColOf c d) := by
  obtain ⟨_, _, hrs⟩ := run_all cols codec pageSize ops hcodec hschema hhist hsize hok
  obtain ⟨gm, m, ps, hgm, hm, hgj, hcell, hnv⟩ := cell_at cols codec pageSize ops hcodec hschema hhist hsize hok i j g c hg hc
  cases hgj.symm.trans hd
  exact ⟨_, C01_get_column_written cols codec pageSize ops hcodec hschema hhist hsize hok i j gm m c hgm hm hc,
    readCell L verify mode codec [] (storedOk_exact L [] codec hcodec) _ c (hschema.colsOk c (List.mem_of_getElem? hc)) m ps hcell
      hnv hrs.fileLen⟩

/-- **one chunk through the public call**, as the harness makes it and `Impl.Reader.readChunk` models it:
`get_column`, then ONE `carquet_column_read_batch(cr, values, carquet_column_remaining(cr), def_levels?, NULL)`.
The call returns the number of rows of the column in that row group, fills the level array (when
one is passed) with the definition level of every row, and the value array with the dense values
(its remaining slots stay untouched). -/
theorem C01_read_chunk_api (L : Reader.Libs) (verify : Bool) (mode : Reader.Mode) (i j : Nat) (g : List ColData) (d : ColData)
    (c : Col) (hg : (tableOf cols ops)[i]? = some g) (hd : g[j]? = some d) (hc : cols[j]? = some c) (wantDefs : Bool) :
    ∃ res, Reader.readChunk Reader.Fixes.all L verify mode (fileOf (deps []) cols codec pageSize "Carquet" ops).1
        ⟨FileReal.fileMetaData (mdOfRun (deps []) cols codec pageSize "Carquet" ops), leavesOfCols cols⟩ i j wantDefs = .ok res ∧
      res.count = (d.rows : Int) ∧ res.defs = (if wantDefs then (readerDefs c d).map some else []) ∧ res.reps = [] ∧
      res.vals = d.vals.map some ++ List.replicate (d.rows - d.vals.length) none := by
  obtain ⟨_, _, hrs⟩ := run_all cols codec pageSize ops hcodec hschema hhist hsize hok
  obtain ⟨gm, m, ps, hgm, hm, hgj, hcell, hnv⟩ := cell_at cols codec pageSize ops hcodec hschema hhist hsize hok i j g c hg hc
  cases hgj.symm.trans hd
  obtain ⟨res, hres, hfields⟩ := readCellApi L verify mode codec [] (storedOk_exact L [] codec hcodec) _ c
    (hschema.colsOk c (List.mem_of_getElem? hc)) m ps hcell hnv hrs.fileLen wantDefs
  refine ⟨res, ?_, hfields⟩
  unfold Reader.readChunk
  rw [C01_get_column_written cols codec pageSize ops hcodec hschema hhist hsize hok i j gm m c hgm hm hc]
  simp only [hres]

/-- **one row group.**  The loop over the columns (`num_columns` = number of columns of the schema)
returns the row group of the table. -/
theorem C01_row_group_read_written (L : Reader.Libs) (verify : Bool) (mode : Reader.Mode) (i : Nat) (g : List ColData)
    (hg : (tableOf cols ops)[i]? = some g) :
    Reader.readRowGroup Reader.Fixes.all L verify mode (fileOf (deps []) cols codec pageSize "Carquet" ops).1
      ⟨FileReal.fileMetaData (mdOfRun (deps []) cols codec pageSize "Carquet" ops), leavesOfCols cols⟩ i cols.length =
      .ok (List.zipWith readerColOf cols g) := by
  obtain ⟨hf, hsm, hrs⟩ := run_all cols codec pageSize ops hcodec hschema hhist hsize hok
  obtain ⟨gp, gm, hgp, rfl, hgm⟩ := group_of_table cols codec pageSize ops hcodec hschema hhist hsize hok i g hg
  have := readRowGroup_written L verify mode codec [] (storedOk_exact L [] codec hcodec) cols hschema.colsOk ops _ _ _ hf hsm hrs
    i gm gp hgm hgp cols.length (Nat.le_refl _)
  rw [hf.cols_eq] at this
  rw [this]
  exact congrArg _ (List.take_of_length_le (by simp only [groupRead, List.length_zipWith]; omega))

/-- **The batch-at-a-time API (through C02).**  For row group `i`, column `j` of the written file and
EVERY history of `read k | skip k | has_next | remaining | re-create` calls on the column reader
`get_column` creates — in any mode —, the outputs are those of the index cursor (Spec.Cursor) over
the rows of that column of the table the history denotes (`tableRows`: one row per definition
level, a value on the rows at the maximum level): however the consumer cuts the chunk into batches,
it sees the written rows, in order, none lost, none repeated. -/
theorem C01_roundtrip_any_consumption (L : Reader.Libs) (verify : Bool) (mode : Reader.Mode) (i j : Nat)
    (g : List ColData) (d : ColData) (c : Col)
    (hg : (tableOf cols ops)[i]? = some g) (hd : g[j]? = some d) (hc : cols[j]? = some c)
    (cops : List Carquet.Spec.Cursor.Op) (hops : ∀ op ∈ cops, Carquet.Proofs.Cursor.OpOk op) :
    ∃ o col, Reader.openFile mode (fileOf (deps []) cols codec pageSize "Carquet" ops).1 = .ok o ∧
      Reader.getColumn o i j = .ok col ∧
      (ColumnReader.run ColumnReader.Fixes.all
        (Reader.chunkOf Reader.Fixes.all L verify mode (fileOf (deps []) cols codec pageSize "Carquet" ops).1 col) cops).2 =
        (Carquet.Spec.Cursor.run (tableRows c d) cops).2.map Carquet.Proofs.Cursor.encodeOut := by
  obtain ⟨_, _, hrs⟩ := run_all cols codec pageSize ops hcodec hschema hhist hsize hok
  obtain ⟨gm, m, ps, hgm, hm, hgj, hcell, _⟩ := cell_at cols codec pageSize ops hcodec hschema hhist hsize hok i j g c hg hc
  cases hgj.symm.trans hd
  exact ⟨_, _, C01_open_written cols codec pageSize ops hcodec hschema hhist hsize hok mode,
    C01_get_column_written cols codec pageSize ops hcodec hschema hhist hsize hok i j gm m c hgm hm hc,
    runCell L verify mode codec [] (storedOk_exact L [] codec hcodec) _ c (hschema.colsOk c (List.mem_of_getElem? hc)) m ps hcell
      hrs.fileLen cops hops⟩

/-- **The schema reads back.**  The opened reader's schema is the written one: for column `j`, leaf `j`
points at a schema element that carries the column's name (UTF-8 bytes), physical type, repetition
and type length, the leaf's maximum definition / repetition levels are those of the column, and
`carquet_schema_node_logical_type` of that element returns the logical type the column was created
with — id and parameters — or NULL when the column was created with a NULL pointer or id UNKNOWN
(`FileReal.colLogical`); no converted type is stated. -/
theorem C01_schema_read_back (mode : Reader.Mode) (j : Nat) (c : Col) (hc : cols[j]? = some c) :
    ∃ o lf el, Reader.openFile mode (fileOf (deps []) cols codec pageSize "Carquet" ops).1 = .ok o ∧
      o.numColumns = cols.length ∧ o.leaves[j]? = some lf ∧ o.md.schema[lf.elemIdx]? = some el ∧
      el.name = some (FileReal.strBytes c.name) ∧ el.type = some (c.ptype.code : Int) ∧
      el.repetition = some (c.rep.code : Int) ∧ el.typeLength = (c.typeLen : Int) ∧ el.numChildren = 0 ∧
      lf.maxDef = c.maxDef ∧ lf.maxRep = c.maxRep ∧
      SchemaApi.nodeLogicalType el = FileReal.colLogical c ∧ el.convertedType = none := by
  obtain ⟨hf, _, _⟩ := run_all cols codec pageSize ops hcodec hschema hhist hsize hok
  have hopen := C01_open_written cols codec pageSize ops hcodec hschema hhist hsize hok mode
  obtain ⟨hd, hr⟩ := colInfo_levels c
  refine ⟨_, _, colElement c, hopen, by simp [Reader.Opened.numColumns, leavesOfCols], leavesOfCols_get cols j c hc, ?_,
    rfl, rfl, rfl, rfl, rfl, hd, hr, rfl, rfl⟩
  show (FileReal.fileMetaData (mdOfRun (deps []) cols codec pageSize "Carquet" ops)).schema[1 + j]? = _
  rw [Carquet.Proofs.Roundtrip.schema_written, Nat.add_comm, List.getElem?_cons_succ, List.getElem?_map, hf.cols_eq, hc]
  rfl

end stages

/-- **NULL def_levels = all present.**  What an accepted `write_batch` on an OPTIONAL column with a NULL
`def_levels` pointer contributes to the table (`tableOf` is the concatenation of `batchData` per row
group and column): `nrows` rows, every one at definition level 1, carrying the values handed in. -/
theorem C01_null_def_levels_all_present (c : Col) (b : Batch) (hc : c.rep = .optional) (hb : b.defs = none) :
    readerDefs c (batchData c b) = List.replicate b.nrows 1 ∧ (batchData c b).vals = b.vals ∧ (batchData c b).rows = b.nrows := by
  simp [readerDefs, batchData, Col.maxDef, hc, hb]

/-! ### non-vacuity: the two-column, two-row-group, Snappy-compressed history of Properties/C05/SpecWriter.lean
(OPTIONAL INT32 with a null and page statistics, REQUIRED BOOLEAN) satisfies every hypothesis -/

private def exCols : List Col := [⟨"a", .int32, .optional, 0, none⟩, ⟨"b", .boolean, .required, 0, none⟩]
private def exOps : List Op :=
  [.batch ⟨0, 3, some [1, 0, 1], [[1, 0, 0, 0], [2, 0, 0, 0]], none⟩, .batch ⟨1, 3, none, [[1], [0], [1]], none⟩, .newRowGroup,
   .batch ⟨0, 1, none, [[7, 0, 0, 0]], none⟩, .batch ⟨1, 1, none, [[0]], none⟩]

-- the same history as `exCols`, `exOps` of Properties/C05/SpecWriter.lean, whose facts these are
private theorem exSchemaOk : SchemaOk exCols := Carquet.Properties.C05.ex_facts.1

private theorem exHistOk : HistOk exCols exOps := Carquet.Properties.C05.ex_facts.2.1

private theorem exSizesOk : FileSizesOk exCols 1 64 exOps := Carquet.Properties.C05.ex_facts.2.2.1

private theorem exAllOk : ((fileOf (deps []) exCols 1 64 "Carquet" exOps).2.all (· == .ok)) = true :=
  Carquet.Properties.C05.ex_facts.2.2.2

/-- the theorem applied to the example, in mmap mode with checksum verification and libraries that
always fail: the reader returns the example's table -/
example : Reader.readAll Reader.Fixes.all Carquet.Proofs.ReaderExamples.noLibs true .mmap
    (fileOf (deps []) exCols 1 64 "Carquet" exOps).1 = .ok (readerTableOf exCols exOps) :=
  C01_roundtrip exCols 1 64 exOps .mmap true _ (by decide) exSchemaOk exHistOk exSizesOk
    (fun s hs => by simpa using List.all_eq_true.mp exAllOk s hs)

/-- the table of the example: 4 rows in two row groups; column `a` of the first has a null -/
example : readerTableOf exCols exOps =
    ⟨4, [[⟨[1, 0, 1], [[1, 0, 0, 0], [2, 0, 0, 0]]⟩, ⟨[0, 0, 0], [[1], [0], [1]]⟩],
         [⟨[1], [[7, 0, 0, 0]]⟩, ⟨[0], [[0]]⟩]]⟩ := by decide +kernel

/-- … and its rows for the batch-at-a-time API -/
example : tableRows ⟨"a", .int32, .optional, 0, none⟩ ⟨3, [1, 0, 1], [], [[1, 0, 0, 0], [2, 0, 0, 0]]⟩ =
    [⟨1, 0, some [1, 0, 0, 0]⟩, ⟨0, 0, none⟩, ⟨1, 0, some [2, 0, 0, 0]⟩] := by decide

/-! ### non-vacuity for REPEATED columns: a REPEATED INT32 column first (rows [1,2], [], [3,4]; the second
batch continues the last list, so with page size 1 a page ends inside a row; then two one-element
lists written with NULL level pointers) next to a REQUIRED column, two row groups, LZ4_RAW
(`rpCols`, `rpOps` and the proofs that they satisfy the hypotheses: Properties/C05/SpecWriter.lean) -/

open Carquet.Properties.C05 (rpCols rpOps rpSchemaOk rpHistOk rpSizesOk rpAllOk) in
/-- the theorem applied: the reader returns the table with the REPEATED column, in fread mode -/
example : Reader.readAll Reader.Fixes.all Carquet.Proofs.ReaderExamples.noLibs true .fread
    (fileOf (deps []) rpCols 7 1 "Carquet" rpOps).1 = .ok (readerTableOf rpCols rpOps) :=
  C01_roundtrip rpCols 7 1 rpOps .fread true _ (by decide) rpSchemaOk rpHistOk rpSizesOk
    (fun s hs => by simpa using List.all_eq_true.mp rpAllOk s hs)

open Carquet.Properties.C05 (rpCols rpOps) in
/-- its table: `num_rows` 5 = 3 + 2 rows (not the 7 level entries of column `l`); per entry of `l` the
definition level (0 = empty list) and the dense values -/
example : readerTableOf rpCols rpOps =
    ⟨5, [[⟨[1, 1, 0, 1, 1], [[1, 0, 0, 0], [2, 0, 0, 0], [3, 0, 0, 0], [4, 0, 0, 0]]⟩,
          ⟨[0, 0, 0], [[10, 0, 0, 0], [11, 0, 0, 0], [12, 0, 0, 0]]⟩],
         [⟨[1, 1], [[5, 0, 0, 0], [6, 0, 0, 0]]⟩, ⟨[0, 0], [[13, 0, 0, 0], [14, 0, 0, 0]]⟩]]⟩ := by decide +kernel

open Carquet.Properties.C05 (rpCols rpOps) in
/-- … and the entries of column `l` of the first row group for the batch-at-a-time API
(C01_roundtrip_any_consumption), with their repetition levels: [1,2], [], [3,4] -/
example : ((tableOf rpCols rpOps)[0]?.bind (·[0]?)).map (tableRows ⟨"l", .int32, .repeated, 0, none⟩) =
    some [⟨1, 0, some [1, 0, 0, 0]⟩, ⟨1, 1, some [2, 0, 0, 0]⟩, ⟨0, 0, none⟩, ⟨1, 0, some [3, 0, 0, 0]⟩,
          ⟨1, 1, some [4, 0, 0, 0]⟩] := by decide +kernel

/-! ### non-vacuity of the library form: the same history written with codec tag GZIP, with a "library"
that stores its input (it satisfies the contract), the oracle holding what it produced -/

private def idLib : CodecWrappers.Lib :=
  ⟨fun _ x cap => if x.length ≤ cap then some x else none, fun c cap => if c.length ≤ cap then some c else none, fun n => n⟩

private theorem idLib_contract : CodecWrappers.Lib.Contract idLib 1 9 := by
  -- both directions hand back their input when it fits the capacity
  have key : ∀ {x c : List UInt8} {cap : Nat}, (if x.length ≤ cap then some x else none) = some c → x.length ≤ cap ∧ x = c :=
    fun h => (Option.ite_none_right_eq_some.mp h).imp_right Option.some.inj
  refine ⟨fun lvl x cap _ _ h => ⟨x, if_pos h⟩, fun lvl x c cap h => ?_, fun lvl x c cap _ _ h => ?_,
    fun lvl x c cap cap' _ _ h hx => ?_, fun c y cap h => ?_⟩ <;> obtain ⟨hc, rfl⟩ := key h
  · exact hc
  · exact Nat.le_refl _
  · exact if_pos hx
  · exact hc

/-- the page bodies of the example history (they do not depend on the codec) and what the library made of them -/
private def exOracle : FileReal.Oracle :=
  ((pagesOfRun (deps []) exCols 0 64 "Carquet" exOps).flatten.flatten.map (·.body)).map (fun b => (b, b))

private theorem exOracleFrom : OracleFrom idLib 1 9 exOracle := by
  intro p hp
  obtain ⟨b, _, rfl⟩ := List.mem_map.mp hp
  exact ⟨1, b.length, by decide, by decide, by simp [idLib]⟩

private theorem exAllOkLib : ((fileOf (deps exOracle) exCols 2 64 "Carquet" exOps).2.all (· == .ok)) = true := by decide +kernel

/-- the size conditions of the run with the GZIP tag, in one conjunction so that the kernel runs the writer once -/
private theorem exLibSmall :
    Carquet.Proofs.FileRealFooter.footerOk (mdOfRun (deps exOracle) exCols 2 64 "Carquet" exOps) = true ∧
    (FileReal.footer (mdOfRun (deps exOracle) exCols 2 64 "Carquet" exOps)).length < 2 ^ 32 ∧
    (∀ g ∈ pagesOfRun (deps exOracle) exCols 2 64 "Carquet" exOps, ∀ ps ∈ g, ∀ r ∈ ps, PageSmall r) ∧
    (fileOf (deps exOracle) exCols 2 64 "Carquet" exOps).1.length < 2 ^ 64 ∧
    ∀ g ∈ (mdOfRun (deps exOracle) exCols 2 64 "Carquet" exOps).rowGroups, ∀ ch ∈ g.chunks, ch.numValues < 2147483648 := by
  decide +kernel

example : Reader.readAll Reader.Fixes.all ⟨idLib, idLib⟩ true .buffer
    (fileOf (deps exOracle) exCols 2 64 "Carquet" exOps).1 = .ok (readerTableOf exCols exOps) :=
  C01_roundtrip_lib exOracle exCols 2 64 exOps .buffer true ⟨idLib, idLib⟩
    (C01_storedOk_gzip ⟨idLib, idLib⟩ exOracle 1 9 idLib_contract exOracleFrom)
    exSchemaOk.nonEmpty exSchemaOk.colsOk exHistOk.wf exHistOk.batches
    ⟨exLibSmall.1, exLibSmall.2.1, exLibSmall.2.2.1⟩ ⟨exLibSmall.2.2.2.1, exLibSmall.2.2.2.2⟩
    (fun s hs => by simpa using List.all_eq_true.mp exAllOkLib s hs)

end Carquet.Properties.C01
