import Carquet.Impl.CSem
import Carquet.Impl.Writer
import Carquet.Gen.CFun
import Carquet.Proofs.CFun.Basic
import Carquet.Proofs.CFun.Loops
/-
C01 — link theorem between the level bit width the page writer encodes with (src/writer/page_writer.c
`bit_width_for_max`) as translated from the CURRENT source (`Carquet.Gen.CFun`, regenerated on every run) and the writer
model the C01 theorems are about (`Impl.Writer.bitWidthForMax`).
-/
namespace Carquet.Properties.C01
open Carquet Carquet.Impl

/-- page_writer.c `bit_width_for_max(max_level)` is the model's `bitWidthForMax` for every non-negative `int16_t`
maximum level -/
theorem C01_cfun_bit_width_for_max (m : BitVec 16) (h : 0 ≤ m.toInt) :
    (Gen.CFun.page_writer_bit_width_for_max m).toNat = Impl.Writer.bitWidthForMax m.toInt.toNat := by
  rw [← Proofs.CSem.toNat_of_nonneg m h]
  exact (Proofs.CFun.page_writer_bit_width_for_max_eq m h).1

theorem C01_cfun_bit_width_for_max_defined (m : BitVec 16) (h : 0 ≤ m.toInt) :
    Gen.CFun.page_writer_bit_width_for_max_defined m = true :=
  (Proofs.CFun.page_writer_bit_width_for_max_eq m h).2

example : (0 : Int) ≤ (5#16 : BitVec 16).toInt ∧ (Gen.CFun.page_writer_bit_width_for_max 5#16).toNat = 3 ∧
    Impl.Writer.bitWidthForMax 5 = 3 ∧ (Gen.CFun.page_writer_bit_width_for_max 32767#16).toNat = 15 ∧
    Gen.CFun.page_writer_bit_width_for_max_defined 32767#16 = true := by decide

end Carquet.Properties.C01
