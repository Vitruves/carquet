import Carquet.Impl.BitIO
import Carquet.Proofs.BitIO
import Carquet.Proofs.BitIOWriter
import Carquet.Proofs.BitIORoundtrip
/-
C08 — the bit stream reader and writer of src/core/bitpack.c (`carquet_bit_reader_*`, `carquet_bit_writer_*`)
for EVERY history of calls: the reader on arbitrary bytes, the writer with any declared capacity.  The
reader model reports the index of every `data[byte_pos++]`; the writer model keeps the bytes stored and the
declared capacity.  Repaired code (F81 writer, F82 reader).
-/
namespace Carquet.Properties.C08
open Carquet Carquet.Impl.BitIO Carquet.Proofs.BitIO

/-- **Bit reader: reads stay inside `[0, size)`, for every call sequence.**  On any input and any history of
`read_bit` / `read_bits n` / `read_bits64 n` / `has_more` / `remaining_bits` (any `n`): every index read is
below `size`; afterwards `byte_pos ≤ size`, `buffer_bits ≤ 64`, the accumulator holds exactly
`buffer_bits` bits; and what the caller sees is what the abstract bit string of the input prescribes
(`arun`: the next `min n 32|64` bits, least significant first, zero-extended at the end; `read_bit` = −1
exactly when nothing is left; `remaining_bits` = the number of undelivered bits). -/
theorem C08_bitreader_reads_in_input (data : List UInt8) (ops : List ROp) :
    (∀ i ∈ (rrun (Reader.init data) ops).2.1, i < data.length) ∧
    (rrun (Reader.init data) ops).2.2.bytePos ≤ data.length ∧
    (rrun (Reader.init data) ops).2.2.bufferBits ≤ 64 ∧
    (rrun (Reader.init data) ops).2.2.buffer < 2 ^ (rrun (Reader.init data) ops).2.2.bufferBits ∧
    (rrun (Reader.init data) ops).1 = arun (Impl.Bitpack.leNat data, 8 * data.length) ops := by
  obtain ⟨r1, r2, r3, r4⟩ := rrun_spec ops (Reader.init data) (RInv_init data)
  rw [stream_init, avail_init] at r1
  have hp := r2.pos
  rw [r3] at hp
  exact ⟨fun i hi => (r4 i hi).2, hp, r2.bits, r2.buf, r1⟩

example : rrun (Reader.init [0xB2, 0x01]) [.bit, .bits 4, .bits64 40, .remaining, .bit, .hasMore] =
    ([.bit 0, .val 9, .val 13, .rem 0, .bit (-1), .more false], [0, 1], ⟨[0xB2, 0x01], 2, 0, 0⟩) := by decide +kernel

/-- **Bit writer: no write beyond the capacity, for every call sequence** (flushes anywhere): the number of
bytes stored never exceeds the declared capacity, the capacity field is never changed, fewer than 56 bits
are pending between calls and the accumulator holds exactly that many bits (so no shift of the 64-bit
accumulator by 64 or more can occur).  When the capacity is exhausted complete bytes are dropped:
after `writes; flush` the bytes stored are exactly the first `cap` bytes of the full stream. -/
theorem C08_bitwriter_writes_le_capacity (cap : Nat) (ops : List WOp) :
    (wrun (Writer.init cap) ops).out.length ≤ cap ∧
    (wrun (Writer.init cap) ops).cap = cap ∧
    (wrun (Writer.init cap) ops).bufferBits ≤ 55 ∧
    (wrun (Writer.init cap) ops).buffer < 2 ^ (wrun (Writer.init cap) ops).bufferBits ∧
    (WOp.flush ∉ ops →
      (flush (wrun (Writer.init cap) ops)).out =
        (Impl.Bitpack.leBytes ((totalBits ops + 7) / 8) (concatFields (fieldsOf ops))).take cap) := by
  obtain ⟨_, _, h⟩ := wrun_cap ops (Writer.init cap) 0 0 (Idle_init cap)
  exact ⟨h.len, h.capEq, h.bits, h.buf, fun hn => (flush_wrun cap ops hn).1⟩

example : (wrun (Writer.init 2) [.bits 0xFFFFFFFF 32, .bits 0xFFFFFFFF 32, .bit 1, .flush, .bits 5 3, .flush]).out = [0xFF, 0xFF] ∧
    (wrun (Writer.init 2) [.bits 0xFFFFFFFF 32, .bits 0xFFFFFFFF 32, .bit 1, .flush, .bits 5 3, .flush]).bufferBits = 4 := by decide +kernel

/-- F81 on the pinned code (before fixes/F81-bit-writer-accumulator-overflow.patch), capacity side: `flush_buffer`
stopped at a full output and left the complete bytes in the accumulator; with a 1-byte buffer, 72 `write_bit`
calls pile up 64 pending bits and the 73rd `write_bit` shifts the 64-bit accumulator by 64 — undefined
behaviour (UBSan `shift exponent 64 is too large`, replay corpus/C08/F81-bit-writer.ops).  The repaired
writer keeps fewer than 56 bits. -/
theorem C08_regression_F81 :
    ((List.replicate 73 1).foldl (fun (acc : Except Fault Writer) b => acc.bind (fun w => writeBitPreFix w b))
        (.ok (Writer.init 1))) = .error (.shiftTooLarge 64) ∧
    (wrun (Writer.init 1) ((List.replicate 73 1).map WOp.bit)).bufferBits = 17 ∧
    (wrun (Writer.init 1) ((List.replicate 73 1).map WOp.bit)).out = [0xFF] :=
  ⟨by rfl, by decide +kernel, by decide +kernel⟩

/-- F82 on the pinned code (before fixes/F82-bit-reader-overread-count.patch): `read_bits(32)` on a 1-byte
input subtracted 32 from the 8 buffered bits: `buffer_bits = −24`, and `remaining_bits()` then reports
`(size_t)−24` = 2^64 − 24 bits for an exhausted 1-byte input (replay corpus/C08/F82-bit-reader.ops).  The
repaired reader takes the 8 bits that are left. -/
theorem C08_regression_F82 :
    readBitsPreFix (Reader.init [0xFF]) 32 = (255, -24, 18446744073709551592) ∧
    rrun (Reader.init [0xFF]) [.bits 32, .remaining, .hasMore] =
      ([.val 255, .rem 0, .more false], [0], ⟨[0xFF], 1, 0, 0⟩) := by
  decide +kernel

end Carquet.Properties.C08
