import Carquet.Spec.Lz4
import Carquet.Impl.Lz4
import Carquet.Proofs.Lz4Decomp
import Carquet.Proofs.Lz4Fuel
/-
C08 (LZ4 part) — `carquet_lz4_decompress` is memory-safe on arbitrary bytes.
The Impl model is fail-stop (Impl/Lz4.lean): the token, length-chain and offset reads index the
source array, `memcpy(op, ip, lit_len)` reads `src[ip, ip+lit_len)`, the match copy — the 8-byte
`memcpy` loop for offsets ≥ 8 and the byte loop — reads only bytes written before and appends at
`op`; any of these outside `[0, |src|)` resp. `[0, cap)` is the result `oobRead` / `oobWrite`.
-/
namespace Carquet.Properties.C08
open Carquet
open Carquet.Impl.Lz4 (decompress)

/-- For every input and every declared capacity: no read outside the source, no read of
destination bytes not yet written, no write at or beyond `dst + cap` (including the 8-byte copy
loop, which never writes past `op + match_len`), and a reported length of at most `cap`. -/
theorem C08_lz4_decompress_in_bounds (bs : List UInt8) (cap : Nat) :
    decompress bs cap ≠ .error .oobRead ∧ decompress bs cap ≠ .error .oobWrite ∧
    ∀ out, decompress bs cap = .ok out → out.length ≤ cap := by
  rw [Proofs.Lz4Decomp.decompress_eq_spec]
  cases h : Spec.Lz4.decode bs cap with
  | error e => exact ⟨by simp, by simp, by simp⟩
  | ok o =>
    refine ⟨by simp, by simp, ?_⟩
    intro out ho
    simp only [Except.ok.injEq] at ho
    subst ho
    exact (Proofs.Lz4Spec.decode_inv h).2

/-- an overlapping wide copy at the very end of an exact-size destination -/
example : decompress [0x8f, 1, 2, 3, 4, 5, 6, 7, 8, 0x08, 0x00, 0x05, 0x00] 32
    = .ok [1, 2, 3, 4, 5, 6, 7, 8, 1, 2, 3, 4, 5, 6, 7, 8, 1, 2, 3, 4, 5, 6, 7, 8, 1, 2, 3, 4, 5, 6, 7, 8] := by
  decide +kernel
example : decompress [0x8f, 1, 2, 3, 4, 5, 6, 7, 8, 0x08, 0x00, 0x05, 0x00] 31 = .error .invalidData := by
  decide +kernel

/-- The model terminates by construction (structural recursion on fuel); the fuel never decides
the result: the model equals the Spec decoder, which accepts exactly the grammar. -/
theorem C08_lz4_decompress_total (bs : List UInt8) (cap : Nat) :
    (∃ out, decompress bs cap = .ok out) ∨ decompress bs cap = .error .invalidData := by
  rw [Proofs.Lz4Decomp.decompress_eq_spec]
  cases Spec.Lz4.decode bs cap with
  | error e => exact Or.inr rfl
  | ok o => exact Or.inl ⟨o, rfl⟩

/-- Fuel bound of the decoder loops: started with `|bs| + 1` (every iteration consumes at least
its token), and any larger amount accepts exactly the same inputs with the same output. -/
theorem C08_lz4_decompress_fuel_adequate (bs : List UInt8) (cap : Nat) (o : Array UInt8) (k : Nat) :
    Spec.Lz4.loop (bs.length + 1 + k) bs #[] cap = .ok o ↔ Spec.Lz4.loop (bs.length + 1) bs #[] cap = .ok o :=
  Proofs.Lz4Fuel.decode_fuel_add bs cap o k

end Carquet.Properties.C08
