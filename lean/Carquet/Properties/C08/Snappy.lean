import Carquet.Spec.Snappy
import Carquet.Impl.Snappy
import Carquet.Proofs.SnappyDecomp
/-
C08 (Snappy decompressor) — safe on arbitrary bytes.
The Impl model is in access-reporting form: every load from the input, every load from the part of
the destination already written and every store goes through a primitive that compares the index with
the real buffer sizes (`src_size`, `dst_capacity`) and yields the model-only outcome
`oobRead i` / `oobDst i` / `oobWrite i` where the C code would touch memory outside them; the element
loop runs on fuel `src_size + 1` and yields `fuel` if that were not enough.
-/
namespace Carquet.Properties.C08
open Carquet

/-- For arbitrary input bytes and any destination capacity the repaired decompressor never reads
outside `src[0..src_size)`, never reads an unwritten destination byte, never writes outside
`dst[0..dst_capacity)` and terminates within its fuel: the only failure is the status
INVALID_COMPRESSED_DATA; and on success it reports at most `dst_capacity` bytes. -/
theorem C08_snappy_decompress_in_bounds (bs : List UInt8) (cap : Nat) :
    (∀ e, Impl.Snappy.decompress bs cap = .error e → e = .invalidData) ∧
    (∀ out, Impl.Snappy.decompress bs cap = .ok out → out.length ≤ cap) := by
  refine ⟨fun e h => ?_, fun out h => (Proofs.Snappy.decode_of_decompress h).2⟩
  rw [Proofs.Snappy.decompress_eq_spec] at h
  split at h
  · split at h <;> cases h
    rfl
  · cases h
    rfl

-- both outcomes occur
example : Impl.Snappy.decompress [0x04, 0x01] 4 = .error .invalidData := by decide +kernel
example : Impl.Snappy.decompress [0x02, 0x00, 0x41, 0x02, 0x01, 0x00] 2 = .ok [0x41, 0x41] := by decide +kernel

/-- F6 on the pinned code (before fixes/F6-snappy-copy-bounds.patch): an input that ends right after a
COPY_1 tag makes the decompressor read `src[src_size]` (heap-buffer-overflow under ASan). -/
theorem C08_regression_F6 :
    Impl.Snappy.decompressPreFix [0x04, 0x01] 4 = .error (.oobRead 2) ∧
    Impl.Snappy.decompressPreFix [0x05, 0x00, 0x41, 0x01] 5 = .error (.oobRead 4) ∧
    Impl.Snappy.decompress [0x04, 0x01] 4 = .error .invalidData := by
  decide +kernel

end Carquet.Properties.C08
