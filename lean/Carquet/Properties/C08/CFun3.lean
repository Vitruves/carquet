import Carquet.Proofs.CFun3.BitReader
import Carquet.Proofs.CFun3.BitWriter
import Carquet.Proofs.CFun3.BufReader
import Carquet.Proofs.CFun3.Bitunpack32
import Carquet.Proofs.CFun3.RleDec
/-
C08 — stage 3 of the C -> Lean function translator (translate/gen_cfun.py, notes/NOTES_cfun3.md): link theorems between the
definitions REGENERATED FROM THE C SOURCE on every check run (Gen/CFun.lean: functions that read and write a struct through
a pointer) and the hand-written Impl models the property theorems of C08 are about.  Only `C08_cfun_<function>` (value
side) and `C08_cfun_<function>_defined` (no undefined behaviour under the documented precondition), each followed by a
non-vacuity example.  The abstraction functions / invariants are executable (Impl/CFun3/*.lean) and are evaluated by the
driver on every self-check line (`modelLink3`).
-/

/-! ## BitReader -/
section CFun3BitReader
/-
C08 — stage-3 link theorems, safety half: the bit reader of src/core/bitpack.c as translated from the CURRENT C source
(Gen/CFun.lean).  `f_defined … = true` says that the C execution reaches no undefined behaviour this layer knows about.
Here, for a live reader (`rdInv`: `data` field = start of the buffer, `size` = its length, `byte_pos ≤ size`,
`0 ≤ buffer_bits ≤ 64`, `buffer < 2^buffer_bits`) and EVERY content of the input buffer: every `data[byte_pos]` the code
evaluates lies inside `data[0 .. size)`, every shift of the 64-bit accumulator is by `0..63`, no `int` addition or
subtraction overflows, and the refill loop ends within its 9 condition tests.  The value halves (and the preservation
of `rdInv`, which makes these statements chain over any history of calls) are in Properties/C11/CFun3.lean (section CFun3BitReader).
-/
namespace Carquet.Properties.C08
open Carquet Carquet.Impl Carquet.Impl.CFun3 Carquet.Proofs.CFun3.BitReader

theorem C08_cfun_refill_buffer_defined (s : Gen.CFun.carquet_bit_reader_t) (data : List UInt8)
    (h : rdInv s data = true) : Gen.CFun.refill_buffer_defined s data = true :=
  (refill_buffer_spec s data h).1.defined

-- a reader at the last byte; a reader whose `size` promises more bytes than the buffer has reads `data[2]`
example : rdInv ⟨0, 3#64, 2#64, 0#32, 0#64, 0#32⟩ [0xB3, 0xFF, 0x01] = true ∧
    Gen.CFun.refill_buffer_defined ⟨0, 3#64, 2#64, 0#32, 0#64, 0#32⟩ [0xB3, 0xFF, 0x01] = true ∧
    Gen.CFun.refill_buffer ⟨0, 3#64, 2#64, 0#32, 0#64, 0#32⟩ [0xB3, 0xFF, 0x01] = ⟨0, 3#64, 3#64, 0#32, 0x1#64, 8#32⟩ ∧
    rdInv ⟨0, 4#64, 0#64, 0#32, 0#64, 0#32⟩ [0xB3, 0xFF] = false ∧
    Gen.CFun.refill_buffer_defined ⟨0, 4#64, 0#64, 0#32, 0#64, 0#32⟩ [0xB3, 0xFF] = false := by decide +kernel

theorem C08_cfun_bit_reader_read_bit_defined (s : Gen.CFun.carquet_bit_reader_t) (data : List UInt8)
    (h : rdInv s data = true) : Gen.CFun.carquet_bit_reader_read_bit_defined s data = true :=
  (read_bit_eq s data h).2.defined

example : Gen.CFun.carquet_bit_reader_read_bit_defined ⟨0, 3#64, 2#64, 0#32, 0#64, 0#32⟩ [0xB3, 0xFF, 0x01] = true ∧
    -- exhausted input: no read at all
    Gen.CFun.carquet_bit_reader_read_bit_defined ⟨0, 3#64, 3#64, 0#32, 0#64, 0#32⟩ [0xB3, 0xFF, 0x01] = true ∧
    -- `byte_pos < size` but the buffer is shorter than `size`
    Gen.CFun.carquet_bit_reader_read_bit_defined ⟨0, 3#64, 2#64, 0#32, 0#64, 0#32⟩ [0xB3, 0xFF] = false ∧
    -- `buffer_bits = INT_MIN`: `buffer_bits--` overflows
    Gen.CFun.carquet_bit_reader_read_bit_defined ⟨0, 2#64, 2#64, 0#32, 0#64, 0x80000000#32⟩ [0xB3, 0xFF] = false := by
  decide +kernel

theorem C08_cfun_bit_reader_read_bits_defined (s : Gen.CFun.carquet_bit_reader_t) (data : List UInt8)
    (num_bits : BitVec 32) (h : rdInv s data = true) (hn : 0 ≤ num_bits.toInt) :
    Gen.CFun.carquet_bit_reader_read_bits_defined s data num_bits = true := (read_bits_eq s data num_bits h hn).2.defined

example : Gen.CFun.carquet_bit_reader_read_bits_defined ⟨0, 3#64, 2#64, 0#32, 0x2#64, 3#32⟩ [0xB3, 0xFF, 0x01] 32#32 = true ∧
    Gen.CFun.carquet_bit_reader_read_bits_defined ⟨0, 3#64, 2#64, 0#32, 0x2#64, 3#32⟩ [0xB3, 0xFF, 0x01] 0x7FFFFFFF#32 = true ∧
    Gen.CFun.carquet_bit_reader_read_bits_defined ⟨0, 3#64, 2#64, 0#32, 0x2#64, 3#32⟩ [0xB3, 0xFF] 32#32 = false ∧
    -- a negative count is outside the API: `1ULL << num_bits`
    Gen.CFun.carquet_bit_reader_read_bits_defined ⟨0, 3#64, 2#64, 0#32, 0x2#64, 3#32⟩ [0xB3, 0xFF, 0x01] 0xFFFFFFFF#32 = false := by
  decide +kernel

theorem C08_cfun_bit_reader_read_bits64_defined (s : Gen.CFun.carquet_bit_reader_t) (data : List UInt8)
    (num_bits : BitVec 32) (h : rdInv s data = true) (hn : 0 ≤ num_bits.toInt) :
    Gen.CFun.carquet_bit_reader_read_bits64_defined s data num_bits = true :=
  (read_bits64_eq s data num_bits h hn).2.defined

example : Gen.CFun.carquet_bit_reader_read_bits64_defined ⟨0, 9#64, 1#64, 0#32, 0x1#64, 1#32⟩
        [0x01, 0x23, 0x45, 0x67, 0x89, 0xAB, 0xCD, 0xEF, 0x5A] 64#32 = true ∧
    Gen.CFun.carquet_bit_reader_read_bits64_defined ⟨0, 9#64, 8#64, 0#32, 0x1#64, 1#32⟩
        [0x01, 0x23, 0x45, 0x67, 0x89, 0xAB, 0xCD, 0xEF, 0x5A] 1000#32 = true ∧
    -- the second part (`num_bits - 32` bits) refills from a buffer that is shorter than `size`
    Gen.CFun.carquet_bit_reader_read_bits64_defined ⟨0, 9#64, 1#64, 0#32, 0x1#64, 1#32⟩
        [0x01, 0x23, 0x45, 0x67, 0x89, 0xAB, 0xCD, 0xEF] 64#32 = false ∧
    Gen.CFun.carquet_bit_reader_read_bits64_defined ⟨0, 9#64, 1#64, 0#32, 0x1#64, 1#32⟩
        [0x01, 0x23, 0x45, 0x67, 0x89, 0xAB, 0xCD, 0xEF, 0x5A] 0xFFFFFFC0#32 = false := by
  decide +kernel

end Carquet.Properties.C08
end CFun3BitReader

/-! ## BitWriter -/
section CFun3BitWriter
/-
C08 — stage-3 link, the bit WRITER of src/core/bitpack.c as translated from the CURRENT C source (Gen/CFun.lean): the
safety reading of the `_defined` facts.  For a live writer (`Impl.CFun3.wrInv`: the caller's array has at least the
declared `capacity` bytes, `byte_pos ≤ capacity`, `0 ≤ buffer_bits ≤ 55`, `buffer < 2^buffer_bits`) and a non-negative
`num_bits`, no call reaches undefined behaviour: every store `data[byte_pos]` lies inside the `capacity` bytes of the
caller's array, the 64-bit accumulator is never shifted by 64 or more, `1U << num_bits` only for `num_bits < 32`, no `int`
overflow, the loop of `flush_buffer` ends within its 9 condition tests.  (Value side: Properties/C11/CFun3.lean (section CFun3BitWriter).)
-/
namespace Carquet.Properties.C08
open Carquet Carquet.Impl Carquet.Impl.CFun3 Carquet.Proofs.CFun3.BitWriter

/-- the static `flush_buffer` entered with at most 71 pending bits (the public functions enter it with at most 64) -/
theorem C08_cfun_flush_buffer_defined (s : Gen.CFun.carquet_bit_writer_t) (data : List UInt8)
    (h : wrFlushInv s data = true) : Gen.CFun.flush_buffer_defined s data = true :=
  (flush_buffer_spec s data ((wrFlushInv_iff s data).mp h)).defined

/-- 8 complete bytes, room for 1: one store, inside the array; the same state on an array shorter than the declared
capacity stores out of bounds -/
example : wrFlushInv ⟨0, 2#64, 1#64, 0#32, 0x0807060504030201#64, 64#32⟩ [0, 0] = true ∧
    Gen.CFun.flush_buffer_defined ⟨0, 2#64, 1#64, 0#32, 0x0807060504030201#64, 64#32⟩ [0, 0] = true ∧
    (Gen.CFun.flush_buffer ⟨0, 2#64, 1#64, 0#32, 0x0807060504030201#64, 64#32⟩ [0, 0]).2 = [0, 1] ∧
    wrFlushInv ⟨0, 2#64, 1#64, 0#32, 0x0807060504030201#64, 64#32⟩ [0] = false ∧
    Gen.CFun.flush_buffer_defined ⟨0, 2#64, 1#64, 0#32, 0x0807060504030201#64, 64#32⟩ [0] = false := by
  decide +kernel

theorem C08_cfun_bit_writer_write_bit_defined (s : Gen.CFun.carquet_bit_writer_t) (data : List UInt8) (bit : BitVec 32)
    (h : wrInv s data = true) : Gen.CFun.carquet_bit_writer_write_bit_defined s data bit = true :=
  (write_bit_spec s data bit ((wrInv_iff s data).mp h)).defined

/-- the F81 state (64 bits piled up in the accumulator) is not a live writer: `1 << 64` -/
example : wrInv ⟨0, 1#64, 1#64, 0#32, 0x7FFFFFFFFFFFFF#64, 55#32⟩ [0xFF] = true ∧
    Gen.CFun.carquet_bit_writer_write_bit_defined ⟨0, 1#64, 1#64, 0#32, 0x7FFFFFFFFFFFFF#64, 55#32⟩ [0xFF] 1#32 = true ∧
    Gen.CFun.carquet_bit_writer_write_bit ⟨0, 1#64, 1#64, 0#32, 0x7FFFFFFFFFFFFF#64, 55#32⟩ [0xFF] 1#32 =
      (⟨0, 1#64, 1#64, 0#32, 0#64, 0#32⟩, [0xFF]) ∧
    wrInv ⟨0, 1#64, 1#64, 0#32, 0xFFFFFFFFFFFFFFFF#64, 64#32⟩ [0xFF] = false ∧
    Gen.CFun.carquet_bit_writer_write_bit_defined ⟨0, 1#64, 1#64, 0#32, 0xFFFFFFFFFFFFFFFF#64, 64#32⟩ [0xFF] 1#32 = false := by
  decide +kernel

theorem C08_cfun_bit_writer_write_bits_defined (s : Gen.CFun.carquet_bit_writer_t) (data : List UInt8)
    (value num_bits : BitVec 32) (h : wrInv s data = true) (hn : 0 ≤ num_bits.toInt) :
    Gen.CFun.carquet_bit_writer_write_bits_defined s data value num_bits = true :=
  (write_bits_spec s data value num_bits ((wrInv_iff s data).mp h) hn).defined

/-- 55 pending bits and 32 more on a full output: defined (the bytes are dropped); a negative count is not -/
example : wrInv ⟨0, 2#64, 2#64, 0#32, 0x7FFFFFFFFFFFFF#64, 55#32⟩ [1, 2, 3] = true ∧
    Gen.CFun.carquet_bit_writer_write_bits_defined ⟨0, 2#64, 2#64, 0#32, 0x7FFFFFFFFFFFFF#64, 55#32⟩ [1, 2, 3]
      0xFFFFFFFF#32 32#32 = true ∧
    Gen.CFun.carquet_bit_writer_write_bits ⟨0, 2#64, 2#64, 0#32, 0x7FFFFFFFFFFFFF#64, 55#32⟩ [1, 2, 3] 0xFFFFFFFF#32 32#32 =
      (⟨0, 2#64, 2#64, 0#32, 0x7FFFFFFFFF#64, 39#32⟩, [1, 2, 3]) ∧
    Gen.CFun.carquet_bit_writer_write_bits_defined ⟨0, 2#64, 2#64, 0#32, 0x7FFFFFFFFFFFFF#64, 55#32⟩ [1, 2, 3]
      0xFFFFFFFF#32 (-32#32) = false := by
  decide +kernel

theorem C08_cfun_bit_writer_write_bits64_defined (s : Gen.CFun.carquet_bit_writer_t) (data : List UInt8)
    (value : BitVec 64) (num_bits : BitVec 32) (h : wrInv s data = true) (hn : 0 ≤ num_bits.toInt) :
    Gen.CFun.carquet_bit_writer_write_bits64_defined s data value num_bits = true :=
  (write_bits64_spec s data value num_bits ((wrInv_iff s data).mp h) hn).defined

/-- 64 bits (the count 1000 is clamped) on 55 pending ones, one byte of room -/
example : wrInv ⟨0, 3#64, 2#64, 0#32, 0x7FFFFFFFFFFFFF#64, 55#32⟩ [1, 2, 3] = true ∧
    Gen.CFun.carquet_bit_writer_write_bits64_defined ⟨0, 3#64, 2#64, 0#32, 0x7FFFFFFFFFFFFF#64, 55#32⟩ [1, 2, 3]
      0xFFFFFFFFFFFFFFFF#64 1000#32 = true ∧
    (Gen.CFun.carquet_bit_writer_write_bits64 ⟨0, 3#64, 2#64, 0#32, 0x7FFFFFFFFFFFFF#64, 55#32⟩ [1, 2, 3]
      0xFFFFFFFFFFFFFFFF#64 1000#32).2 = [1, 2, 0xFF] ∧
    Gen.CFun.carquet_bit_writer_write_bits64_defined ⟨0, 3#64, 2#64, 0#32, 0x7FFFFFFFFFFFFF#64, 55#32⟩ [1, 2]
      0xFFFFFFFFFFFFFFFF#64 1000#32 = false := by
  decide +kernel

theorem C08_cfun_bit_writer_flush_defined (s : Gen.CFun.carquet_bit_writer_t) (data : List UInt8)
    (h : wrInv s data = true) : Gen.CFun.carquet_bit_writer_flush_defined s data = true :=
  (flush_spec s data ((wrInv_iff s data).mp h)).defined

/-- the partial byte is stored only if `byte_pos < capacity`; with the capacity overstated it lands outside the array -/
example : wrInv ⟨0, 1#64, 0#64, 0#32, 5#64, 3#32⟩ [0] = true ∧
    Gen.CFun.carquet_bit_writer_flush_defined ⟨0, 1#64, 0#64, 0#32, 5#64, 3#32⟩ [0] = true ∧
    Gen.CFun.carquet_bit_writer_flush ⟨0, 1#64, 0#64, 0#32, 5#64, 3#32⟩ [0] = (⟨0, 1#64, 1#64, 0#32, 0#64, 0#32⟩, [5]) ∧
    Gen.CFun.carquet_bit_writer_flush_defined ⟨0, 1#64, 1#64, 0#32, 5#64, 3#32⟩ [0] = true ∧
    Gen.CFun.carquet_bit_writer_flush_defined ⟨0, 1#64, 0#64, 0#32, 5#64, 3#32⟩ [] = false := by
  decide +kernel

end Carquet.Properties.C08
end CFun3BitWriter

/-! ## BufReader -/
section CFun3BufReader
/-
C08 — stage-3 link theorems for the buffer read cursor: `carquet_buffer_reader_init_data / _read / _skip / _read_byte /
_read_u16_le / _read_u32_le / _read_u64_le` of src/core/buffer.c as translated from the CURRENT C source
(`Carquet.Gen.CFun`, struct `carquet_buffer_reader_t` = data offset, size, pos; the byte array travels separately)
against one call `BufferReader.step true` of the model the C08 cursor theorems (`C08_bufreader_reads_in_input`, …) are
about.  `brAbs s data` is the model cursor of the C cursor `s` over the array `data`; `brInv s data` (the pointer is the
start of `data`, `size` its length, `pos ≤ size`) is what `init_data` establishes and every function preserves.

Shape of each value theorem, with `(st, s', out') := f s data out`:
  * `brAbs s' data` is the model's next cursor and `brInv s' data` holds again (so `s'.data`, `s'.size` are unchanged);
  * what the caller sees, read as a model observation (`stObs st`, `valObs st out'`, `bytesObs st dest' n`), IS the
    model's observation;
  * `st` is 0 (CARQUET_OK), or it is 15 (CARQUET_ERROR_FILE_TRUNCATED) and then NOTHING changed (`s' = s`, `out' = out`).
`_defined`: no access outside `data[0 .. size)` (and, for `read`, outside `dest[0 .. n)`), for every argument.
-/
namespace Carquet.Properties.C08
open Carquet Carquet.Impl Carquet.Impl.CFun3 Carquet.Impl.BufferReader Carquet.Proofs.CFun3.BufReader

/-- `carquet_buffer_reader_init_data(reader, data, size)` with `size` the length of the array: the model's `init data`,
in the invariant, whatever the struct held before -/
theorem C08_cfun_buffer_reader_init_data (s : Gen.CFun.carquet_buffer_reader_t) (data : List UInt8) (size : BitVec 64)
    (h : brInitPre data size = true) :
    brAbs (Gen.CFun.carquet_buffer_reader_init_data s data size) data = BufferReader.init data ∧
    brInv (Gen.CFun.carquet_buffer_reader_init_data s data size) data = true := by
  have hs : size.toNat = data.length := by simpa [brInitPre] using h
  refine ⟨rfl, ?_⟩
  rw [brInv_iff]
  simp [Gen.CFun.carquet_buffer_reader_init_data, hs]

theorem C08_cfun_buffer_reader_init_data_defined (s : Gen.CFun.carquet_buffer_reader_t) (data : List UInt8)
    (size : BitVec 64) : Gen.CFun.carquet_buffer_reader_init_data_defined s data size = true := rfl

example : brInitPre [1, 2, 3] 3#64 = true ∧
    Gen.CFun.carquet_buffer_reader_init_data ⟨7, 9#64, 9#64⟩ [1, 2, 3] 3#64 = ⟨0, 3#64, 0#64⟩ ∧
    brInv (Gen.CFun.carquet_buffer_reader_init_data ⟨7, 9#64, 9#64⟩ [1, 2, 3] 3#64) [1, 2, 3] = true ∧
    -- a `size` that is not the length of the array: outside the precondition, and the invariant does not hold
    brInitPre [1, 2, 3] 4#64 = false ∧
    brInv (Gen.CFun.carquet_buffer_reader_init_data ⟨7, 9#64, 9#64⟩ [1, 2, 3] 4#64) [1, 2, 3] = false := by decide +kernel

/-- `carquet_buffer_reader_skip(reader, n)` is the model's `skip n`, for every `size_t n` -/
theorem C08_cfun_buffer_reader_skip (s : Gen.CFun.carquet_buffer_reader_t) (data : List UInt8) (n : BitVec 64)
    (h : brInv s data = true) :
    brAbs (Gen.CFun.carquet_buffer_reader_skip s n).2 data = (step true (brAbs s data) (.skip n.toNat)).next ∧
    brInv (Gen.CFun.carquet_buffer_reader_skip s n).2 data = true ∧
    stObs (Gen.CFun.carquet_buffer_reader_skip s n).1 = (step true (brAbs s data) (.skip n.toNat)).obs ∧
    ((Gen.CFun.carquet_buffer_reader_skip s n).1 = 0#32 ∨ Gen.CFun.carquet_buffer_reader_skip s n = (15#32, s)) := by
  rw [skip_eq s data n h, step_skip_abs s data n.toNat h]
  by_cases hle : s.pos.toNat + n.toNat ≤ data.length
  · obtain ⟨hi, ha⟩ := advance_inv s data n h hle
    rw [if_pos hle, if_pos hle]
    exact ⟨by simp [brAbs, ha], hi, rfl, Or.inl rfl⟩
  · rw [if_neg hle, if_neg hle]
    exact ⟨rfl, h, rfl, Or.inr rfl⟩

theorem C08_cfun_buffer_reader_skip_defined (s : Gen.CFun.carquet_buffer_reader_t) (n : BitVec 64) :
    Gen.CFun.carquet_buffer_reader_skip_defined s n = true := by
  simp [Gen.CFun.carquet_buffer_reader_skip_defined, Gen.CFun.carquet_buffer_reader_has_defined]

example : brInv ⟨0, 5#64, 3#64⟩ [1, 2, 3, 4, 5] = true ∧
    Gen.CFun.carquet_buffer_reader_skip ⟨0, 5#64, 3#64⟩ 2#64 = (0#32, ⟨0, 5#64, 5#64⟩) ∧
    step true ⟨[1, 2, 3, 4, 5], 3⟩ (.skip 2) = ⟨.st .ok, ⟨[1, 2, 3, 4, 5], 5⟩, []⟩ ∧
    Gen.CFun.carquet_buffer_reader_skip ⟨0, 5#64, 3#64⟩ 3#64 = (15#32, ⟨0, 5#64, 3#64⟩) ∧
    -- F83: a huge `n` does not wrap
    Gen.CFun.carquet_buffer_reader_skip ⟨0, 5#64, 3#64⟩ (BitVec.allOnes 64) = (15#32, ⟨0, 5#64, 3#64⟩) ∧
    (step true ⟨[1, 2, 3, 4, 5], 3⟩ (.skip (2 ^ 64 - 1))).obs = .st .truncated := by decide +kernel

/-- `carquet_buffer_reader_read(reader, dest, n)` is the model's `read n`: on OK `dest[0 .. n)` are the bytes
`data[pos .. pos + n)` the model delivers and the rest of `dest` is as before (the length too when `dest` has room);
on TRUNCATED neither the cursor nor `dest` changed -/
theorem C08_cfun_buffer_reader_read (s : Gen.CFun.carquet_buffer_reader_t) (data dest : List UInt8) (n : BitVec 64)
    (h : brInv s data = true) :
    brAbs (Gen.CFun.carquet_buffer_reader_read s data dest n).2.1 data =
      (step true (brAbs s data) (.read n.toNat)).next ∧
    brInv (Gen.CFun.carquet_buffer_reader_read s data dest n).2.1 data = true ∧
    bytesObs (Gen.CFun.carquet_buffer_reader_read s data dest n).1
        (Gen.CFun.carquet_buffer_reader_read s data dest n).2.2 n.toNat =
      (step true (brAbs s data) (.read n.toNat)).obs ∧
    (((Gen.CFun.carquet_buffer_reader_read s data dest n).1 = 0#32 ∧
        (Gen.CFun.carquet_buffer_reader_read s data dest n).2.2.take n.toNat = bytesAt data s.pos.toNat n.toNat ∧
        (Gen.CFun.carquet_buffer_reader_read s data dest n).2.2.drop n.toNat = dest.drop n.toNat ∧
        (n.toNat ≤ dest.length → (Gen.CFun.carquet_buffer_reader_read s data dest n).2.2.length = dest.length)) ∨
      Gen.CFun.carquet_buffer_reader_read s data dest n = (15#32, s, dest)) := by
  rw [read_eq s data dest n h, step_read_abs s data n.toNat h]
  by_cases hle : s.pos.toNat + n.toNat ≤ data.length
  · obtain ⟨hi, ha⟩ := advance_inv s data n h hle
    have hl := bytesAt_length data s.pos.toNat n.toNat hle
    rw [if_pos hle, if_pos hle]
    have ht : (bytesAt data s.pos.toNat n.toNat ++ dest.drop n.toNat).take n.toNat = bytesAt data s.pos.toNat n.toNat := by
      rw [List.take_append_of_le_length (by omega), List.take_of_length_le (by omega)]
    refine ⟨by simp [brAbs, ha], hi, ?_, Or.inl ⟨rfl, ht, ?_, fun hd => ?_⟩⟩
    · simp only [bytesObs, statusOf, if_true, ht]
    · rw [List.drop_append_of_le_length (by omega), List.drop_of_length_le (by omega), List.nil_append]
    · simp only [List.length_append, List.length_drop, hl]; omega
  · rw [if_neg hle, if_neg hle]
    exact ⟨rfl, h, rfl, Or.inr rfl⟩

/-- `memcpy(dest, data + pos, n)` reads inside `data[0 .. size)` and writes inside `dest` when `dest` has room for `n` bytes -/
theorem C08_cfun_buffer_reader_read_defined (s : Gen.CFun.carquet_buffer_reader_t) (data dest : List UInt8) (n : BitVec 64)
    (h : brInv s data = true) (hd : n.toNat ≤ dest.length) :
    Gen.CFun.carquet_buffer_reader_read_defined s data dest n = true := by
  obtain ⟨h0, hs, hp⟩ := (brInv_iff s data).mp h
  unfold Gen.CFun.carquet_buffer_reader_read_defined
  rw [has_c _ _ _ hp, hs]
  by_cases hle : s.pos.toNat + n.toNat ≤ data.length <;>
    simp [hle, CSem.inb, Gen.CFun.carquet_buffer_reader_has_defined, h0, hd]

example : Gen.CFun.carquet_buffer_reader_read ⟨0, 5#64, 1#64⟩ [1, 2, 3, 4, 5] [9, 9, 9, 9] 3#64 =
      (0#32, ⟨0, 5#64, 4#64⟩, [2, 3, 4, 9]) ∧
    step true ⟨[1, 2, 3, 4, 5], 1⟩ (.read 3) = ⟨.bytes .ok [2, 3, 4], ⟨[1, 2, 3, 4, 5], 4⟩, [⟨1, 3⟩]⟩ ∧
    Gen.CFun.carquet_buffer_reader_read ⟨0, 5#64, 3#64⟩ [1, 2, 3, 4, 5] [9, 9, 9, 9] 3#64 =
      (15#32, ⟨0, 5#64, 3#64⟩, [9, 9, 9, 9]) ∧
    Gen.CFun.carquet_buffer_reader_read_defined ⟨0, 5#64, 1#64⟩ [1, 2, 3, 4, 5] [9, 9, 9, 9] 3#64 = true ∧
    -- a destination that is too small: the `memcpy` writes past its end
    Gen.CFun.carquet_buffer_reader_read_defined ⟨0, 5#64, 1#64⟩ [1, 2, 3, 4, 5] [9, 9] 3#64 = false ∧
    -- a state outside the invariant (`size` larger than the array): the `memcpy` reads past the end of `data`
    brInv ⟨0, 8#64, 3#64⟩ [1, 2, 3, 4, 5] = false ∧
    Gen.CFun.carquet_buffer_reader_read_defined ⟨0, 8#64, 3#64⟩ [1, 2, 3, 4, 5] [9, 9, 9, 9] 3#64 = false := by decide +kernel

/-- `carquet_buffer_reader_read_byte(reader, &value)` is the model's `readByte` -/
theorem C08_cfun_buffer_reader_read_byte (s : Gen.CFun.carquet_buffer_reader_t) (data : List UInt8) (v : BitVec 8)
    (h : brInv s data = true) :
    brAbs (Gen.CFun.carquet_buffer_reader_read_byte s data v).2.1 data = (step true (brAbs s data) .readByte).next ∧
    brInv (Gen.CFun.carquet_buffer_reader_read_byte s data v).2.1 data = true ∧
    valObs (Gen.CFun.carquet_buffer_reader_read_byte s data v).1 (Gen.CFun.carquet_buffer_reader_read_byte s data v).2.2.toNat =
      (step true (brAbs s data) .readByte).obs ∧
    ((Gen.CFun.carquet_buffer_reader_read_byte s data v).1 = 0#32 ∨ Gen.CFun.carquet_buffer_reader_read_byte s data v = (15#32, s, v)) := by
  have h0 : s.data = 0 := ((brInv_iff s data).mp h).1
  exact typed_link s data v 1 1#64 rfl (CSem.rd8 data (s.data + s.pos.toNat))
    (fun hle => by rw [h0, Nat.zero_add]; exact load8 data s.pos.toNat hle) h _ (by simp [Gen.CFun.carquet_buffer_reader_read_byte])

/-- every byte it reads is inside `data[0 .. size)` -/
theorem C08_cfun_buffer_reader_read_byte_defined (s : Gen.CFun.carquet_buffer_reader_t) (data : List UInt8) (v : BitVec 8)
    (h : brInv s data = true) : Gen.CFun.carquet_buffer_reader_read_byte_defined s data v = true := by
  have h0 : s.data = 0 := ((brInv_iff s data).mp h).1
  unfold Gen.CFun.carquet_buffer_reader_read_byte_defined
  refine typed_defined s data 1 1#64 rfl _ (fun hle => ?_) h
  simp [CSem.inb, h0]
  omega

example : brInv ⟨0, 3#64, 2#64⟩ [7, 8, 9] = true ∧
    Gen.CFun.carquet_buffer_reader_read_byte ⟨0, 3#64, 2#64⟩ [7, 8, 9] 0x55#8 = (0#32, ⟨0, 3#64, 3#64⟩, 9#8) ∧
    step true ⟨[7, 8, 9], 2⟩ .readByte = ⟨.val .ok 9, ⟨[7, 8, 9], 3⟩, [⟨2, 1⟩]⟩ ∧
    Gen.CFun.carquet_buffer_reader_read_byte ⟨0, 3#64, 3#64⟩ [7, 8, 9] 0x55#8 = (15#32, ⟨0, 3#64, 3#64⟩, 0x55#8) ∧
    step true ⟨[7, 8, 9], 3⟩ .readByte = ⟨.val .truncated 0, ⟨[7, 8, 9], 3⟩, []⟩ ∧
    -- outside the invariant (`size` = 4 for 3 bytes): `data[3]` is read
    brInv ⟨0, 4#64, 3#64⟩ [7, 8, 9] = false ∧
    Gen.CFun.carquet_buffer_reader_read_byte_defined ⟨0, 4#64, 3#64⟩ [7, 8, 9] 0#8 = false := by decide +kernel

/-- `carquet_buffer_reader_read_u16_le(reader, &value)` is the model's `readU16` -/
theorem C08_cfun_buffer_reader_read_u16_le (s : Gen.CFun.carquet_buffer_reader_t) (data : List UInt8) (v : BitVec 16)
    (h : brInv s data = true) :
    brAbs (Gen.CFun.carquet_buffer_reader_read_u16_le s data v).2.1 data = (step true (brAbs s data) .readU16).next ∧
    brInv (Gen.CFun.carquet_buffer_reader_read_u16_le s data v).2.1 data = true ∧
    valObs (Gen.CFun.carquet_buffer_reader_read_u16_le s data v).1 (Gen.CFun.carquet_buffer_reader_read_u16_le s data v).2.2.toNat =
      (step true (brAbs s data) .readU16).obs ∧
    ((Gen.CFun.carquet_buffer_reader_read_u16_le s data v).1 = 0#32 ∨ Gen.CFun.carquet_buffer_reader_read_u16_le s data v = (15#32, s, v)) := by
  have h0 : s.data = 0 := ((brInv_iff s data).mp h).1
  exact typed_link s data v 2 2#64 rfl (Gen.CFun.carquet_read_u16_le (List.drop (s.data + s.pos.toNat) data))
    (fun hle => by rw [h0, Nat.zero_add]; exact load16 data s.pos.toNat) h _ (by simp [Gen.CFun.carquet_buffer_reader_read_u16_le])

/-- every byte it reads is inside `data[0 .. size)` -/
theorem C08_cfun_buffer_reader_read_u16_le_defined (s : Gen.CFun.carquet_buffer_reader_t) (data : List UInt8) (v : BitVec 16)
    (h : brInv s data = true) : Gen.CFun.carquet_buffer_reader_read_u16_le_defined s data v = true := by
  have h0 : s.data = 0 := ((brInv_iff s data).mp h).1
  unfold Gen.CFun.carquet_buffer_reader_read_u16_le_defined
  refine typed_defined s data 2 2#64 rfl _ (fun hle => ?_) h
  simp [CSem.inb, h0, Gen.CFun.carquet_read_u16_le_defined]
  omega

example : Gen.CFun.carquet_buffer_reader_read_u16_le ⟨0, 5#64, 1#64⟩ [1, 2, 3, 4, 5] 0#16 = (0#32, ⟨0, 5#64, 3#64⟩, 0x0302#16) ∧
    step true ⟨[1, 2, 3, 4, 5], 1⟩ .readU16 = ⟨.val .ok 0x0302, ⟨[1, 2, 3, 4, 5], 3⟩, [⟨1, 2⟩]⟩ ∧
    Gen.CFun.carquet_buffer_reader_read_u16_le ⟨0, 5#64, 4#64⟩ [1, 2, 3, 4, 5] 0x7777#16 = (15#32, ⟨0, 5#64, 4#64⟩, 0x7777#16) ∧
    Gen.CFun.carquet_buffer_reader_read_u16_le_defined ⟨0, 6#64, 4#64⟩ [1, 2, 3, 4, 5] 0#16 = false := by decide +kernel

/-- `carquet_buffer_reader_read_u32_le(reader, &value)` is the model's `readU32` -/
theorem C08_cfun_buffer_reader_read_u32_le (s : Gen.CFun.carquet_buffer_reader_t) (data : List UInt8) (v : BitVec 32)
    (h : brInv s data = true) :
    brAbs (Gen.CFun.carquet_buffer_reader_read_u32_le s data v).2.1 data = (step true (brAbs s data) .readU32).next ∧
    brInv (Gen.CFun.carquet_buffer_reader_read_u32_le s data v).2.1 data = true ∧
    valObs (Gen.CFun.carquet_buffer_reader_read_u32_le s data v).1 (Gen.CFun.carquet_buffer_reader_read_u32_le s data v).2.2.toNat =
      (step true (brAbs s data) .readU32).obs ∧
    ((Gen.CFun.carquet_buffer_reader_read_u32_le s data v).1 = 0#32 ∨ Gen.CFun.carquet_buffer_reader_read_u32_le s data v = (15#32, s, v)) := by
  have h0 : s.data = 0 := ((brInv_iff s data).mp h).1
  exact typed_link s data v 4 4#64 rfl (Gen.CFun.carquet_read_u32_le (List.drop (s.data + s.pos.toNat) data))
    (fun hle => by rw [h0, Nat.zero_add]; exact load32 data s.pos.toNat) h _ (by simp [Gen.CFun.carquet_buffer_reader_read_u32_le])

/-- every byte it reads is inside `data[0 .. size)` -/
theorem C08_cfun_buffer_reader_read_u32_le_defined (s : Gen.CFun.carquet_buffer_reader_t) (data : List UInt8) (v : BitVec 32)
    (h : brInv s data = true) : Gen.CFun.carquet_buffer_reader_read_u32_le_defined s data v = true := by
  have h0 : s.data = 0 := ((brInv_iff s data).mp h).1
  unfold Gen.CFun.carquet_buffer_reader_read_u32_le_defined
  refine typed_defined s data 4 4#64 rfl _ (fun hle => ?_) h
  simp [CSem.inb, h0, Gen.CFun.carquet_read_u32_le_defined]
  omega

/-- a cursor two bytes before the end asked for 4 bytes: TRUNCATED, position and `*value` kept; one that has 4 bytes left -/
example : brInv ⟨0, 6#64, 4#64⟩ [1, 2, 3, 4, 5, 6] = true ∧
    Gen.CFun.carquet_buffer_reader_read_u32_le ⟨0, 6#64, 4#64⟩ [1, 2, 3, 4, 5, 6] 0xDEADBEEF#32 =
      (15#32, ⟨0, 6#64, 4#64⟩, 0xDEADBEEF#32) ∧
    step true ⟨[1, 2, 3, 4, 5, 6], 4⟩ .readU32 = ⟨.val .truncated 0, ⟨[1, 2, 3, 4, 5, 6], 4⟩, []⟩ ∧
    Gen.CFun.carquet_buffer_reader_read_u32_le_defined ⟨0, 6#64, 4#64⟩ [1, 2, 3, 4, 5, 6] 0#32 = true ∧
    Gen.CFun.carquet_buffer_reader_read_u32_le ⟨0, 6#64, 2#64⟩ [1, 2, 3, 4, 5, 6] 0#32 = (0#32, ⟨0, 6#64, 6#64⟩, 0x06050403#32) ∧
    step true ⟨[1, 2, 3, 4, 5, 6], 2⟩ .readU32 = ⟨.val .ok 0x06050403, ⟨[1, 2, 3, 4, 5, 6], 6⟩, [⟨2, 4⟩]⟩ ∧
    -- a state violating the invariant (`size` = 8 for a 6-byte array): the load reads `data[6]`, `data[7]`
    brInv ⟨0, 8#64, 4#64⟩ [1, 2, 3, 4, 5, 6] = false ∧
    Gen.CFun.carquet_buffer_reader_read_u32_le_defined ⟨0, 8#64, 4#64⟩ [1, 2, 3, 4, 5, 6] 0#32 = false := by decide +kernel

/-- `carquet_buffer_reader_read_u64_le(reader, &value)` is the model's `readU64` -/
theorem C08_cfun_buffer_reader_read_u64_le (s : Gen.CFun.carquet_buffer_reader_t) (data : List UInt8) (v : BitVec 64)
    (h : brInv s data = true) :
    brAbs (Gen.CFun.carquet_buffer_reader_read_u64_le s data v).2.1 data = (step true (brAbs s data) .readU64).next ∧
    brInv (Gen.CFun.carquet_buffer_reader_read_u64_le s data v).2.1 data = true ∧
    valObs (Gen.CFun.carquet_buffer_reader_read_u64_le s data v).1 (Gen.CFun.carquet_buffer_reader_read_u64_le s data v).2.2.toNat =
      (step true (brAbs s data) .readU64).obs ∧
    ((Gen.CFun.carquet_buffer_reader_read_u64_le s data v).1 = 0#32 ∨ Gen.CFun.carquet_buffer_reader_read_u64_le s data v = (15#32, s, v)) := by
  have h0 : s.data = 0 := ((brInv_iff s data).mp h).1
  exact typed_link s data v 8 8#64 rfl (Gen.CFun.carquet_read_u64_le (List.drop (s.data + s.pos.toNat) data))
    (fun hle => by rw [h0, Nat.zero_add]; exact load64 data s.pos.toNat hle) h _ (by simp [Gen.CFun.carquet_buffer_reader_read_u64_le])

/-- every byte it reads is inside `data[0 .. size)` -/
theorem C08_cfun_buffer_reader_read_u64_le_defined (s : Gen.CFun.carquet_buffer_reader_t) (data : List UInt8) (v : BitVec 64)
    (h : brInv s data = true) : Gen.CFun.carquet_buffer_reader_read_u64_le_defined s data v = true := by
  have h0 : s.data = 0 := ((brInv_iff s data).mp h).1
  unfold Gen.CFun.carquet_buffer_reader_read_u64_le_defined
  refine typed_defined s data 8 8#64 rfl _ (fun hle => ?_) h
  simp [CSem.inb, h0, Gen.CFun.carquet_read_u64_le_defined]
  omega

example : Gen.CFun.carquet_buffer_reader_read_u64_le ⟨0, 9#64, 1#64⟩ [0, 1, 2, 3, 4, 5, 6, 7, 8] 0#64 =
      (0#32, ⟨0, 9#64, 9#64⟩, 0x0807060504030201#64) ∧
    step true ⟨[0, 1, 2, 3, 4, 5, 6, 7, 8], 1⟩ .readU64 =
      ⟨.val .ok 0x0807060504030201, ⟨[0, 1, 2, 3, 4, 5, 6, 7, 8], 9⟩, [⟨1, 8⟩]⟩ ∧
    Gen.CFun.carquet_buffer_reader_read_u64_le ⟨0, 9#64, 2#64⟩ [0, 1, 2, 3, 4, 5, 6, 7, 8] 5#64 = (15#32, ⟨0, 9#64, 2#64⟩, 5#64) ∧
    Gen.CFun.carquet_buffer_reader_read_u64_le_defined ⟨0, 10#64, 2#64⟩ [0, 1, 2, 3, 4, 5, 6, 7, 8] 0#64 = false := by decide +kernel

end Carquet.Properties.C08
end CFun3BufReader

/-! ## Bitunpack32 -/
section CFun3Bitunpack32
/-
C08 — stage-3 link theorem, safety half: `carquet_bitunpack_32` of src/core/bitpack.c as translated from the CURRENT C
source (Gen/CFun.lean).  `carquet_bitunpack_32_defined … = true` says that the C execution reaches no undefined behaviour
this layer knows about; the value half is Properties/C11/CFun3Bitunpack32.lean.
-/
namespace Carquet.Properties.C08
open Carquet Carquet.Impl Carquet.Proofs.CFun3.Bitunpack32

/-- **`carquet_bitunpack_32` reads only `input[0 .. bytes_consumed)` and writes only `values[0 .. count)`**: for a width
0..32, an input that holds the `bytes_consumed` bytes the model reports (`count / 8 * w + packed_size(count % 8, w)`) and
room for `count` values, every access of the translated function is in bounds — each group of 8 reads `w` bytes at
`input + 8g·w/8`, and the tail group touches only `packed_size(count % 8, w)` bytes of the caller's buffer (copied into
the zero-padded local `packed[32]`, fix F32: the pinned code read a whole group of `w` bytes there), whatever the
uninitialised local `temp` contained. -/
theorem C08_cfun_bitunpack_32_defined (input : List UInt8) (values temp_indet : List (BitVec 32)) (w count : Nat)
    (hw : w ≤ 32) (hc : count < 2 ^ 61) (hi : (Bitpack.unpack w input count).2 ≤ input.length)
    (hv : count ≤ values.length) (ht : temp_indet.length = 8) :
    Gen.CFun.carquet_bitunpack_32_defined input (BitVec.ofNat 64 count) (BitVec.ofNat 32 w) values temp_indet = true :=
  (bitunpack_32_spec input values temp_indet w count hw hc hi hv ht).2.2

-- the F32 instance: one value of width 32 from a 4-byte buffer is fine; from 3 bytes it is not
example : (Bitpack.unpack 32 [0xef, 0xbe, 0xad, 0xde] 1).2 = 4 ∧
    Gen.CFun.carquet_bitunpack_32_defined [0xef, 0xbe, 0xad, 0xde] 1#64 32#32 [0#32] (List.replicate 8 0x55#32) = true ∧
    Gen.CFun.carquet_bitunpack_32_defined [0xef, 0xbe, 0xad] 1#64 32#32 [0#32] (List.replicate 8 0x55#32) = false ∧
    Gen.CFun.carquet_bitunpack_32_defined [0xef, 0xbe, 0xad, 0xde] 1#64 32#32 [] (List.replicate 8 0x55#32) = false := by
  decide +kernel

end Carquet.Properties.C08
end CFun3Bitunpack32

/-! ## RleDec -/
section CFun3RleDec
/-
C08 — stage-3 link theorem, safety half: `fill_bitpack_buffer` of src/encoding/rle.c as translated from the CURRENT C
source (Gen/CFun.lean).  `fill_bitpack_buffer_defined … = true` says that the C execution reaches no undefined
behaviour this layer knows about.  Here, for a live decoder with status OK (`rleInv`: `data` field = start of the
buffer, `size` = its length, `pos ≤ size`, `0 ≤ bit_width ≤ 32`, eight group-buffer elements, …) and EVERY content of
the input buffer: the group is read from `data[pos .. pos + bit_width)` only after `pos + bit_width ≤ size` was tested
(and that sum does not wrap), so every byte `carquet_bitunpack8_32` reads lies inside `data[0 .. size)`; only
`bitpack_buffer[0 .. 8)` is written; no `int` overflow, no out-of-range shift, no exhausted loop fuel inside the unpacker.
The value half (and the preservation of `rleInv`) is `C11_cfun_fill_bitpack_buffer`, Properties/C11/CFun3.lean (section CFun3RleDec); the
same fact about the model is `C08_rle_reads_in_input`.
-/
namespace Carquet.Properties.C08
open Carquet Carquet.Impl Carquet.Impl.CFun3 Carquet.Proofs.CFun3.RleDec

theorem C08_cfun_fill_bitpack_buffer_defined (s : Gen.CFun.carquet_rle_decoder_t) (data : List UInt8)
    (h : rleInv s data = true) (h0 : s.status = 0#32) : Gen.CFun.fill_bitpack_buffer_defined s data = true :=
  (fill_eq false 0 s data h h0).2.2.2.2.2.2.2.2

-- width 17 with exactly 17 bytes left after the header; with 16 left the group is refused before any read; a decoder
-- whose `size` promises a byte the buffer does not have reads `data[17]`
example : rleInv ⟨0, 18#64, 1#64, 17#32, 0x1FFFF#32, 8#64, List.replicate 8 0#32, 0#32, 0#32, 0#32⟩
      (0x03 :: List.replicate 17 0xA5) = true ∧
    Gen.CFun.fill_bitpack_buffer_defined ⟨0, 18#64, 1#64, 17#32, 0x1FFFF#32, 8#64, List.replicate 8 0#32, 0#32, 0#32, 0#32⟩
      (0x03 :: List.replicate 17 0xA5) = true ∧
    Gen.CFun.fill_bitpack_buffer_defined ⟨0, 17#64, 1#64, 17#32, 0x1FFFF#32, 8#64, List.replicate 8 0#32, 0#32, 0#32, 0#32⟩
      (0x03 :: List.replicate 16 0xA5) = true ∧
    (Gen.CFun.fill_bitpack_buffer ⟨0, 17#64, 1#64, 17#32, 0x1FFFF#32, 8#64, List.replicate 8 0#32, 0#32, 0#32, 0#32⟩
      (0x03 :: List.replicate 16 0xA5)).2.status = 43#32 ∧
    rleInv ⟨0, 18#64, 1#64, 17#32, 0x1FFFF#32, 8#64, List.replicate 8 0#32, 0#32, 0#32, 0#32⟩
      (0x03 :: List.replicate 16 0xA5) = false ∧
    Gen.CFun.fill_bitpack_buffer_defined ⟨0, 18#64, 1#64, 17#32, 0x1FFFF#32, 8#64, List.replicate 8 0#32, 0#32, 0#32, 0#32⟩
      (0x03 :: List.replicate 16 0xA5) = false ∧
    -- a group buffer with fewer than 8 elements (not a `carquet_rle_decoder_t`): the write of `values[7]` is outside
    Gen.CFun.fill_bitpack_buffer_defined ⟨0, 18#64, 1#64, 17#32, 0x1FFFF#32, 8#64, List.replicate 7 0#32, 0#32, 0#32, 0#32⟩
      (0x03 :: List.replicate 17 0xA5) = false := by decide +kernel

end Carquet.Properties.C08
end CFun3RleDec
