import Carquet.Impl.RleAcc
import Carquet.Impl.RlePreFix
import Carquet.Proofs.RleAcc
/-
C08 — the RLE / bit-packed hybrid decoders of src/encoding/rle.c on ARBITRARY bytes, any declared bit
width (0..255 and beyond), any requested count: the streaming decoder (`init / get / get_batch / skip`),
the one-shot `carquet_rle_decode_all`, `carquet_rle_decode_levels`, `carquet_rle_decode_levels_prefixed`.

`Impl.Rle` represents `(data, size, pos)` by the unread suffix.  What "reads only within the input" means
for that representation is made explicit by the access-reporting twins of Impl/RleAcc.lean: they ARE the
decoders (first conjuncts below), and they list every read the C code makes as `(offset, length)` with
`offset = size − |unread suffix|` = the C variable `pos` at that moment.  The theorems are about the
repaired code (F80: widths above 32 are refused; F31, F33, F58 earlier).
-/
namespace Carquet.Properties.C08
open Carquet Carquet.Impl.Rle Carquet.Proofs.RleAcc

/-- **Reads stay inside the input.**  For every input, every declared width and every history of
`get` / `get_batch k` / `skip k` calls on a freshly initialised decoder: the twin is the decoder (same
observations); every access `(off, len)` it reports satisfies `off + len ≤ size`; the unread suffix of the
final state is a suffix of the input (so `pos = size − |rest| ≤ size`, and a read of `len` bytes at `pos`
delivers exactly `data[pos .. pos+len)`).  The one-shot decoder is the special case `[getBatch n]`; for
`decode_levels` and the length-prefixed variant the same holds, the prefixed accesses being expressed in
offsets of the caller's buffer (prefix at 0..4, the payload reads shifted by 4). -/
theorem C08_rle_reads_in_input (w : Nat) (data : List UInt8) (ops : List Op) (n : Nat) :
    (runOpsAcc data.length (Dec.init w data) ops).1 = runOps (Dec.init w data) ops ∧
    (∀ a ∈ (runOpsAcc data.length (Dec.init w data) ops).2.1, a.off + a.len ≤ data.length) ∧
    (runOpsAcc data.length (Dec.init w data) ops).2.2.rest <:+ data ∧
    ((decodeAllAcc w data n).1.1 = decodeAll w data n ∧
      (∀ a ∈ (decodeAllAcc w data n).2, a.off + a.len ≤ data.length) ∧
      (decodeAllAcc w data n).1.2.rest <:+ data) ∧
    ((decodeLevelsAcc w data n).1.1 = decodeLevels w data n ∧
      (∀ a ∈ (decodeLevelsAcc w data n).2, a.off + a.len ≤ data.length) ∧
      (decodeLevelsAcc w data n).1.2 ≤ data.length) ∧
    ((decodeLevelsPrefixedAcc w data n).1 = decodeLevelsPrefixed w data n ∧
      (∀ a ∈ (decodeLevelsPrefixedAcc w data n).2, a.off + a.len ≤ data.length)) := by
  obtain ⟨f1, a1⟩ := runOpsAcc_twin data.length ops (Dec.init w data) (Nat.le_refl _)
  obtain ⟨f2, a2⟩ := decodeAllAcc_twin w data n
  obtain ⟨f3, a3, p3⟩ := decodeLevelsAcc_spec w data n
  obtain ⟨f4, a4⟩ := decodeLevelsPrefixedAcc_spec w data n
  exact ⟨f1, fun a ha => (a1.2 a ha).2, a1.1, ⟨congrArg Prod.fst f2, fun a ha => (a2.2 a ha).2, a2.1⟩,
    ⟨f3, fun a ha => (a3 a ha).2, p3⟩, ⟨f4, fun a ha => (a4 a ha).2⟩⟩

/-- non-vacuity: a history over a stream with an empty RLE run, a bit-packed group and a truncated group;
the accesses reported are the ones the C code makes (header, value byte, header, group of 3 bytes, header) -/
example : runOpsAcc 9 (Dec.init 3 [0x00, 0x05, 0x03, 0x88, 0xC6, 0xFA, 0x03, 0x01, 0x02]) [.get, .skip 3, .getBatch 9] =
    ([.val 0, .skipped 3, .vals [4, 5, 6, 7]],
     [⟨0, 1⟩, ⟨1, 1⟩, ⟨2, 1⟩, ⟨3, 3⟩, ⟨6, 1⟩],
     ⟨3, [0x01, 0x02], false, 8, 5, [], .invalidRle⟩) := by decide +kernel

/-- **Writes stay inside the output.**  `get_batch` stores at most `count` values, `skip` reports at most
`count`, the one-shot decoder at most `max_values`, `decode_levels` and the prefixed variant at most
`max_values` levels — for every state / input / width, with no hypothesis. -/
theorem C08_rle_writes_le_count (w : Nat) (data : List UInt8) (d : Dec) (count : Nat) :
    (getBatch d count).1.length ≤ count ∧
    (skip d count).1 ≤ count ∧
    (decodeAll w data count).length ≤ count ∧
    (decodeLevels w data count).length ≤ count ∧
    (∀ ls c, decodeLevelsPrefixed w data count = .ok (ls, c) → ls.length ≤ count ∧ c ≤ data.length) := by
  refine ⟨Proofs.RleDecoder.getBatch_length_le _ _, Proofs.RleDecoder.skipLoop_le _ _ _ (Nat.le_refl _), Proofs.RleDecoder.getBatch_length_le _ _,
    decodeLevels_length_le _ _ _, ?_⟩
  intro ls c h
  unfold decodeLevelsPrefixed at h
  split at h
  · cases h
  · split at h
    · cases h
    · rename_i h4 hle
      simp only [Except.ok.injEq, Prod.mk.injEq] at h
      obtain ⟨rfl, rfl⟩ := h
      exact ⟨decodeLevels_length_le _ _ _, by omega⟩

example : (getBatch (Dec.init 1 [0x03, 0xFD]) 5).1 = [1, 0, 1, 1, 1] := by decide
example : decodeLevelsPrefixed 1 [0x02, 0, 0, 0, 0x03, 0x05, 0xEE] 3 = .ok ([1, 0, 1], 6) := rfl

/-- **Termination.**  The model's loops are structural recursions on a fuel argument; the fuel is never
what stops them: `start_new_run` gives the same result for every fuel above the number of unread bytes
(each level of its recursion consumes at least a header byte), `get_batch` / `skip` for every fuel ≥ the
requested count (after a successful `prep` every iteration moves at least one value), `decode_levels`
for every fuel above the input length.  So the C loops terminate within `size + 1` run headers and
`count` chunk moves, on every input. -/
theorem C08_rle_total (w : Nat) (d : Dec) (bs : List UInt8) (count f : Nat) :
    (d.rest.length < f → startNewRunF f d = startNewRun d) ∧
    (count ≤ f → batchLoop f d count = getBatch d count) ∧
    (count ≤ f → skipLoop f d count = skip d count) ∧
    (bs.length < f → levelsLoop w f bs count = levelsLoop w (bs.length + 1) bs count) ∧
    (∀ want, 0 < want → (prep d).1 = true → 0 < chunkLen (prep d).2 want) :=
  ⟨fun h => startNewRunF_fuel _ _ d h (Nat.lt_succ_self _),
   fun h => batchLoop_fuel _ _ d count h (Nat.le_refl _),
   fun h => skipLoop_fuel _ _ d count h (Nat.le_refl _),
   fun h => levelsLoop_fuel w _ _ bs count h (Nat.lt_succ_self _),
   fun want hw hp => Proofs.RleDecoder.prep_progress d want hw hp⟩

example : startNewRunF 100 (Dec.init 3 [0x00, 0x05, 0x00, 0x01, 0x03]) = startNewRun (Dec.init 3 [0x00, 0x05, 0x00, 0x01, 0x03]) := by
  decide +kernel

/-- **The length prefix is checked before it is used.**  An input shorter than the prefix, or a prefix
announcing more bytes than follow it, is answered with an error; the only bytes read are the four prefix
bytes (none when there are fewer than four); in particular no wrap-around value of the prefix (F33) makes
the decoder start.  And when the call succeeds, `bytes_consumed = 4 + prefix ≤ input_size`. -/
theorem C08_rle_levels_prefixed_rejects_bad_prefix (w : Nat) (data : List UInt8) (n : Nat) :
    (data.length < 4 → decodeLevelsPrefixedAcc w data n = (.error .tooShort, [])) ∧
    (4 ≤ data.length → data.length - 4 < Impl.Bitpack.leNat (data.take 4) →
      decodeLevelsPrefixedAcc w data n = (.error .lengthExceedsInput, [⟨0, 4⟩])) ∧
    (∀ ls c, decodeLevelsPrefixed w data n = .ok (ls, c) →
      c = 4 + Impl.Bitpack.leNat (data.take 4) ∧ c ≤ data.length) := by
  refine ⟨fun h => ?_, fun h4 h => ?_, fun ls c h => ?_⟩
  · unfold decodeLevelsPrefixedAcc; rw [if_pos h]
  · unfold decodeLevelsPrefixedAcc; rw [if_neg (by omega), if_pos h]
  · unfold decodeLevelsPrefixed at h
    split at h
    · cases h
    · split at h
      · cases h
      · simp only [Except.ok.injEq, Prod.mk.injEq] at h
        obtain ⟨_, rfl⟩ := h
        exact ⟨rfl, by omega⟩

example : (decodeLevelsPrefixedAcc 1 [0xFF, 0xFF, 0xFF, 0xFF, 0x02, 0x01] 5).2 = [⟨0, 4⟩] := by decide +kernel
example : (decodeLevelsPrefixedAcc 1 [0x03, 0, 0, 0, 0x02, 0x01] 5).2 = [⟨0, 4⟩] := by decide +kernel

/-- **Declared widths above 32** (the width byte of dictionary indices comes from the file).  The repaired
decoders refuse them without reading a byte: the streaming decoder is born in status INVALID_RLE and
delivers nothing, `decode_levels` returns 0 levels. -/
theorem C08_rle_wide_width_refused (w : Nat) (hw : 32 < w) (data : List UInt8) (ops : List Op) (n : Nat) :
    (Dec.init w data).status = .invalidRle ∧
    (runOpsAcc data.length (Dec.init w data) ops).2.1 = [] ∧
    decodeAll w data n = [] ∧ (decodeAllAcc w data n).2 = [] ∧
    decodeLevels w data n = [] ∧ (decodeLevelsAcc w data n).2 = [] := by
  have hnw : ¬ w ≤ maxWidth := by unfold maxWidth; omega
  have hs : (Dec.init w data).status = .invalidRle := by
    simp only [Dec.init]; rw [if_neg hnw]
  have hb : ∀ (f : Nat) (d : Dec) (k : Nat), d.status = .invalidRle → batchLoopAcc data.length f d k = (([], d), []) := by
    intro f d k hd
    cases f with
    | zero => rfl
    | succ f =>
      simp only [batchLoopAcc]
      split
      · rfl
      · rw [if_pos (by simp [hasNext, hd])]
  have hrun : ∀ (ops : List Op) (d : Dec), d.status = .invalidRle → (runOpsAcc data.length d ops).2.1 = [] := by
    intro ops
    induction ops with
    | nil => intro d _; rfl
    | cons op ops ih =>
      intro d hd
      have hstep : (stepAcc data.length d op).1.2 = d ∧ (stepAcc data.length d op).2 = [] := by
        cases op with
        | get => simp [stepAcc, getAcc, hd]
        | getBatch k => simp [stepAcc, getBatchAcc, hb k d k hd]
        | skip k => simp [stepAcc, skipAcc, skipLoopAcc_eq_batchLoopAcc, hb k d k hd]
      simp only [runOpsAcc, hstep.1, hstep.2, List.nil_append]
      exact ih d hd
  have hall : decodeAllAcc w data n = (([], Dec.init w data), []) := hb n _ n hs
  refine ⟨hs, hrun ops _ hs, ?_, by rw [hall], ?_, ?_⟩
  · exact (congrArg Prod.fst (decodeAllAcc_twin w data n).fst).symm.trans (by rw [hall])
  · simp only [decodeLevels]; rw [if_neg hnw]
  · simp only [decodeLevelsAcc]; rw [if_neg hnw]

example : (Dec.init 33 [0x10, 1, 2, 3, 4, 5]).status = .invalidRle ∧ decodeAll 33 [0x10, 1, 2, 3, 4, 5] 8 = [] := by decide

/-- F80 on the pinned code (before fixes/F80-rle-decoder-bit-width.patch): `carquet_rle_decoder_init`
accepted any width; at width 33 an RLE run carries five value bytes and the fifth is shifted by 32 bits
into the 32-bit accumulator — undefined behaviour (UBSan: `shift exponent 32 is too large for 32-bit type`,
replay `corpus/C08/F80-rle-wide-width.ops`); reachable from file bytes through the dictionary index
decoders of dictionary.c, which take the width from the first data byte.  The repaired decoder refuses. -/
theorem C08_regression_F80 :
    (Impl.RlePreFix.initPreF80 33 [0x10, 1, 2, 3, 4, 5]).status = .ok ∧
    Impl.RlePreFix.readRunValuePreF80 33 [1, 2, 3, 4, 5] = .error (.shiftTooLarge 32) ∧
    (Dec.init 33 [0x10, 1, 2, 3, 4, 5]).status = .invalidRle ∧
    decodeAll 33 [0x10, 1, 2, 3, 4, 5] 8 = [] ∧ decodeLevels 33 [0x10, 1, 2, 3, 4, 5] 8 = [] :=
  ⟨rfl, rfl, by decide, by decide, by decide⟩

end Carquet.Properties.C08
