import Carquet.Proofs.PlainFixed
import Carquet.Proofs.PlainBool
import Carquet.Proofs.PlainBytes
import Carquet.Proofs.Bss
import Carquet.Proofs.Dictionary
/-
C08 (PLAIN, BYTE_STREAM_SPLIT and dictionary-index parts) — the component decoders never read
outside the declared input, on arbitrary bytes and arbitrary declared counts.

The Impl decoders report an out-of-bounds read as the outcome `oob`; the theorems below say that
this outcome is impossible (so every read the C code makes is inside `[input, input + size)`),
that the reported consumed count is at most the input size, and that too-short inputs are
rejected.  `count * size < 2 ^ 64` (where it appears) says that the caller's output array of
`count` elements exists in the address space; the C code computes the product modulo 2^64.
-/
namespace Carquet.Properties.C08
open Carquet Carquet.Impl
open Carquet.Proofs.Plain Carquet.Proofs.Bss Carquet.Proofs.Dictionary

/-! ## PLAIN -/

/-- No PLAIN decoder reads outside its input, for any bytes and any declared count; a successful
decode reports at most `input.length` consumed bytes.  (INT96 is the only decoder whose element
loop is not covered by its wrapped size check: it needs `count * 12 < 2^64`.) -/
theorem C08_plain_reads_in_input (input : List UInt8) (count : Int) :
    (Plain.decodeBoolean input count ≠ .oob ∧
      ∀ v c, Plain.decodeBoolean input count = .ok v c → c ≤ input.length ∧ v.length = count.toNat) ∧
    (Plain.decodeInt32 input count ≠ .oob ∧
      ∀ v c, Plain.decodeInt32 input count = .ok v c → c ≤ input.length) ∧
    (Plain.decodeInt64 input count ≠ .oob ∧
      ∀ v c, Plain.decodeInt64 input count = .ok v c → c ≤ input.length) ∧
    (Plain.decodeFloat input count ≠ .oob ∧
      ∀ v c, Plain.decodeFloat input count = .ok v c → c ≤ input.length) ∧
    (Plain.decodeDouble input count ≠ .oob ∧
      ∀ v c, Plain.decodeDouble input count = .ok v c → c ≤ input.length) ∧
    (count * 12 < 2 ^ 64 → Plain.decodeInt96 input count ≠ .oob ∧
      ∀ v c, Plain.decodeInt96 input count = .ok v c → c ≤ input.length ∧ v.length = count.toNat) ∧
    (Plain.decodeByteArray input count ≠ .oob ∧
      ∀ v c, Plain.decodeByteArray input count = .ok v c → c ≤ input.length) ∧
    (∀ fixedLen, Plain.decodeFlba input count fixedLen ≠ .oob ∧
      ∀ v c, Plain.decodeFlba input count fixedLen = .ok v c → c ≤ input.length) := by
  refine ⟨?_, checked_copy_in_input _ _ _ _, checked_copy_in_input _ _ _ _, checked_copy_in_input _ _ _ _,
    checked_copy_in_input _ _ _ _, ?_, ?_, fun _ => checked_copy_in_input _ _ _ _⟩
  · -- boolean
    unfold Plain.decodeBoolean
    by_cases h0 : count < 0
    · simp [h0]
    · rw [if_neg h0]
      by_cases h1 : input.length < (count.toNat + 7) / 8
      · simp [h1]
      · rw [if_neg h1, boolLoop_eq input count.toNat (by omega)]
        refine ok_spec ⟨by omega, ?_⟩
        simp only [List.length_map, List.length_take, flatMap_byteBits, Spec.Delta.length_bitsOfBytes]
        omega
  · -- int96
    intro hsz
    unfold Plain.decodeInt96
    by_cases h0 : count < 0
    · simp [h0]
    · rw [if_neg h0]
      have hs : Plain.sizeMul count.toNat 12 = count.toNat * 12 := sizeMul_of_lt (by omega)
      rw [hs]
      by_cases h1 : input.length < count.toNat * 12
      · simp [h1]
      · rw [if_neg h1]
        obtain ⟨_, vs, _, hv, _, hl⟩ := loop96_take_spec count.toNat input (by omega)
        rw [hv]
        exact ok_spec ⟨by omega, hl⟩
  · -- byte array
    unfold Plain.decodeByteArray
    by_cases h0 : count < 0
    · simp [h0]
    · rw [if_neg h0]
      obtain ⟨r, hr, hp⟩ := baLoop_safe input count.toNat 0 (Nat.zero_le _)
      rw [hr]
      match r, hp with
      | none, _ => simp
      | some (sl, p), hp => exact ok_spec (P := fun _ c => c ≤ input.length) (hp sl p rfl).1

example : Plain.decodeInt32 [1, 2, 3] 1 = .err ∧ Plain.decodeBoolean [0xFF] 9 = .err ∧
    Plain.decodeInt96 [1, 2, 3, 4, 5, 6, 7, 8, 9, 10, 11] 1 = .err := by decide

/-- The hypothesis on INT96 is needed: with `count = 2^62` the wrapped size is 0, the check
passes on an empty input and the element loop reads past it.  (Not reachable with an output
array that exists; recorded as an observation, see NOTES_plain.md.) -/
theorem C08_plain_int96_wrap_witness : Plain.decodeInt96 [] (2 ^ 62) = .oob := by decide

/-- Inputs shorter than `count` values are rejected (fixed-width types; booleans: fewer than
`ceil(count/8)` bytes). -/
theorem C08_plain_rejects_short_input (input : List UInt8) (count : Nat) :
    (input.length < (count + 7) / 8 → Plain.decodeBoolean input count = .err) ∧
    (count * 4 < 2 ^ 64 → input.length < count * 4 →
      Plain.decodeInt32 input count = .err ∧ Plain.decodeFloat input count = .err) ∧
    (count * 8 < 2 ^ 64 → input.length < count * 8 →
      Plain.decodeInt64 input count = .err ∧ Plain.decodeDouble input count = .err) ∧
    (count * 12 < 2 ^ 64 → input.length < count * 12 → Plain.decodeInt96 input count = .err) ∧
    (∀ k : Nat, 0 < k → count * k < 2 ^ 64 → input.length < count * k →
      Plain.decodeFlba input count k = .err) := by
  refine ⟨?_, ?_, ?_, ?_, ?_⟩
  · intro h
    simp only [Plain.decodeBoolean, Int.toNat_natCast]
    rw [if_neg (by omega), if_pos h]
  · intro hs h
    simp only [Plain.decodeInt32, Plain.decodeFloat, Int.toNat_natCast, sizeMul_of_lt hs]
    rw [if_neg (by omega), if_pos h]; exact ⟨rfl, rfl⟩
  · intro hs h
    simp only [Plain.decodeInt64, Plain.decodeDouble, Int.toNat_natCast, sizeMul_of_lt hs]
    rw [if_neg (by omega), if_pos h]; exact ⟨rfl, rfl⟩
  · intro hs h
    simp only [Plain.decodeInt96, Int.toNat_natCast, sizeMul_of_lt hs]
    rw [if_neg (by omega), if_pos h]
  · intro k hk hs h
    simp only [Plain.decodeFlba, Int.toNat_natCast, sizeMul_of_lt hs]
    rw [if_neg (by omega), if_pos h]

/-- A negative count is rejected by every PLAIN decoder. -/
theorem C08_plain_rejects_negative_count (input : List UInt8) (count : Int) (h : count < 0) :
    Plain.decodeBoolean input count = .err ∧ Plain.decodeInt32 input count = .err ∧
    Plain.decodeInt64 input count = .err ∧ Plain.decodeInt96 input count = .err ∧
    Plain.decodeFloat input count = .err ∧ Plain.decodeDouble input count = .err ∧
    Plain.decodeByteArray input count = .err ∧ ∀ k, Plain.decodeFlba input count k = .err := by
  simp [Plain.decodeBoolean, Plain.decodeInt32, Plain.decodeInt64, Plain.decodeInt96, Plain.decodeFloat,
    Plain.decodeDouble, Plain.decodeByteArray, Plain.decodeFlba, h]

/-- BYTE_ARRAY decoding returns pointers into the input: every returned slice `(offset, length)`
lies inside the input, there are exactly `count` of them, and the consumed count is in range. -/
theorem C08_plain_byte_array_slices_in_input (input : List UInt8) (count : Int)
    (slices : List (Nat × Nat)) (consumed : Nat)
    (h : Plain.decodeByteArray input count = .ok slices consumed) :
    consumed ≤ input.length ∧ slices.length = count.toNat ∧
    ∀ s ∈ slices, s.1 + s.2 ≤ input.length := by
  unfold Plain.decodeByteArray at h
  by_cases h0 : count < 0
  · simp [h0] at h
  · rw [if_neg h0] at h
    obtain ⟨r, hr, hp⟩ := baLoop_safe input count.toNat 0 (Nat.zero_le _)
    rw [hr] at h
    match r, hr, hp, h with
    | some (sl, p), hr, hp, h =>
      simp only [Plain.Res.ok.injEq] at h
      obtain ⟨rfl, rfl⟩ := h
      exact ⟨(hp sl p rfl).1, (hp sl p rfl).2.2⟩

example : Plain.decodeByteArray [2, 0, 0, 0, 0x61, 0x62, 0, 0, 0, 0] 2 = .ok [(4, 2), (10, 0)] 10 := by decide

/-- A length prefix that is negative as `int32_t`, or that runs past the end of the input, or a
truncated prefix, makes the decoder return an error (first record; by `baLoop`'s recursion the same
test guards every record). -/
theorem C08_plain_byte_array_rejects_bad_length (input : List UInt8) (count : Nat) (hc : 0 < count) :
    (input.length < 4 → Plain.decodeByteArray input count = .err) ∧
    (∀ b0 b1 b2 b3 rest, input = b0 :: b1 :: b2 :: b3 :: rest →
      (Plain.toInt32 (Plain.loadU32 b0 b1 b2 b3) < 0 ∨
        (Plain.loadU32 b0 b1 b2 b3).toNat > rest.length) →
      Plain.decodeByteArray input count = .err) := by
  obtain ⟨n, rfl⟩ : ∃ n, count = n + 1 := ⟨count - 1, by omega⟩
  refine ⟨?_, ?_⟩
  · intro h
    simp only [Plain.decodeByteArray, Int.toNat_natCast]
    rw [if_neg (by omega), Plain.baLoop, if_pos (by omega)]
  · intro b0 b1 b2 b3 rest hin hbad
    subst hin
    simp only [Plain.decodeByteArray, Int.toNat_natCast]
    rw [if_neg (by omega), Plain.baLoop, if_neg (by simp)]
    simp only [List.drop_zero, Plain.readU32]
    rw [if_pos (by
      rcases hbad with h | h
      · exact Or.inl h
      · right; simp only [List.length_cons]; omega)]

example : Plain.decodeByteArray [0xFF, 0xFF, 0xFF, 0xFF, 1, 2, 3] 1 = .err ∧
    Plain.decodeByteArray [4, 0, 0, 0, 1, 2, 3] 1 = .err ∧
    Plain.decodeByteArray [3, 0, 0] 1 = .err := by decide

/-! ## BYTE_STREAM_SPLIT -/

/-- The three decoders never read outside `data`, for any bytes; a negative count reads nothing. -/
theorem C08_bss_reads_in_input (data : List UInt8) (count : Int) (k : Nat) (hk : 0 < k)
    (hsz : count < 0 ∨ count * k < 2 ^ 64) :
    Bss.decode data k count ≠ .oob ∧
    (k = 4 → Bss.decodeFloat data count ≠ .oob) ∧ (k = 8 → Bss.decodeDouble data count ≠ .oob) := by
  have main : ∀ k : Nat, 0 < k → (count < 0 ∨ count * k < 2 ^ 64) → Bss.decode data k count ≠ .oob := by
    intro k hk hsz
    unfold Bss.decode
    rw [if_neg (by omega), Int.toNat_natCast]
    by_cases hl : data.length < Bss.requiredSize count k
    · simp [hl]
    · rw [if_neg hl]
      by_cases hneg : count < 0
      · rw [show count.toNat = 0 by omega, gather_zero]; simp
      · obtain ⟨n, rfl⟩ : ∃ n : Nat, count = n := ⟨count.toNat, by omega⟩
        have hnk : n * k < 2 ^ 64 := by
          rcases hsz with h | h
          · omega
          · exact_mod_cast h
        rw [requiredSize_natCast hk hnk] at hl
        rw [Int.toNat_natCast, gather_eq_spec k n data (by rw [Nat.mul_comm]; omega)]; simp
  refine ⟨main k hk hsz, ?_, ?_⟩
  · intro h4; subst h4; rw [decodeFloat_eq]; exact main 4 hk hsz
  · intro h8; subst h8; rw [decodeDouble_eq]; exact main 8 hk hsz

theorem C08_bss_rejects_short_input (data : List UInt8) (n k : Nat) (hk : 0 < k)
    (hsz : n * k < 2 ^ 64) (h : data.length < n * k) :
    Bss.decode data k n = .error .decode := by
  simp only [Bss.decode, Int.toNat_natCast, requiredSize_natCast hk hsz]
  rw [if_neg (by omega), if_pos h]

example : Bss.decode [1, 2, 3, 4, 5] 2 3 = .error .decode ∧ Bss.decode [1, 2, 3, 4, 5, 6] 2 3 ≠ .oob := by
  decide

/-! ## Dictionary index decoders (defect F7) -/

/-- **F7, pinned code.**  The standalone decoders compare `(int32_t)indices[i] >= dict_count`, so
an index ≥ 2^31 passes: with a one-entry INT32 dictionary and an index stream that decodes to
`[0xFFFFFFFF]` (width 32) the C code reads `dict_data + 0xFFFFFFFF * 4`.  Replayed on the real code
by harness op `dict_dec` (SEGV under ASan). -/
theorem C08_regression_F7 :
    Dictionary.decodeFixedPreFix 4 (fun _ _ _ => some [4294967295]) [1, 2, 3, 4] 1
      [32, 2, 255, 255, 255, 255] 1 = .oob 17179869180 ∧
    Dictionary.decodeFixedPreFix 8 (fun _ _ _ => some [2147483648]) [1, 2, 3, 4, 5, 6, 7, 8] 1
      [32, 2, 0, 0, 0, 128] 1 = .oob 17179869184 ∧
    Dictionary.decodeFixed 4 (fun _ _ _ => some [4294967295]) [1, 2, 3, 4] 1
      [32, 2, 255, 255, 255, 255] 1 = .error := by
  decide

/-- **After fix F7** (index compared as unsigned): for every element size, every index decoder,
every dictionary, every declared `dict_count`, every index stream and every output count, the
look-up never reads outside the dictionary. -/
theorem C08_dict_index_in_range (sz : Nat) (idxDec : Nat → List UInt8 → Nat → Option (List Nat))
    (dict : List UInt8) (dictCount : Int) (indices : List UInt8) (outCount : Int) (off : Nat) :
    Dictionary.decodeFixed sz idxDec dict dictCount indices outCount ≠ .oob off ∧
    Dictionary.decode32 idxDec dict dictCount indices outCount ≠ .oob off ∧
    Dictionary.decode64 idxDec dict dictCount indices outCount ≠ .oob off := by
  have main : ∀ sz, Dictionary.decodeFixed sz idxDec dict dictCount indices outCount ≠ .oob off := by
    intro sz
    unfold Dictionary.decodeFixed Dictionary.decodeWith
    split
    · simp
    · split
      · simp
      · split
        · simp
        · rename_i hlen
          split
          · simp
          · split
            · simp
            · split
              · simp
              · exact lookupLoop_no_oob sz dict dictCount (by omega) _ off
  exact ⟨main sz, map_ne_oob _ (main 4), map_ne_oob _ (main 8)⟩

/-- Every index the repaired decoder accepts is below `dict_count`; conversely an index
`≥ dict_count` (as an unsigned number) makes it return an error. -/
theorem C08_dict_rejects_out_of_range (sz : Nat) (dict : List UInt8) (dictCount : Int)
    (idxs : List Nat) (i : Nat) (hi : i ∈ idxs) (hbad : (i : Int) ≥ dictCount)
    (hd : dictCount.toNat * sz ≤ dict.length) :
    Dictionary.lookupLoop sz dict dictCount idxs = .error := by
  induction idxs with
  | nil => simp at hi
  | cons j js ih =>
    rw [Dictionary.lookupLoop]
    by_cases hj : (j : Int) ≥ dictCount
    · rw [if_pos hj]
    · rw [if_neg hj]
      have hmem : i ∈ js := by
        rcases List.mem_cons.mp hi with e | e
        · subst e; exact absurd hbad hj
        · exact e
      have hlt : j + 1 ≤ dictCount.toNat := by omega
      have : j * sz + sz ≤ dict.length := by
        calc j * sz + sz = (j + 1) * sz := by rw [Nat.succ_mul]
          _ ≤ dictCount.toNat * sz := Nat.mul_le_mul_right sz hlt
          _ ≤ dict.length := hd
      simp only [Dictionary.readAt, if_pos this, ih hmem]

example : Dictionary.decode32 (fun _ _ _ => some [1, 0, 2]) [1, 0, 0, 0, 2, 0, 0, 0] 2 [2, 0] 3 = .error ∧
    Dictionary.decode32 (fun _ _ _ => some [1, 0, 1]) [1, 0, 0, 0, 2, 0, 0, 0] 2 [2, 0] 3 = .ok [2, 1, 2] := by
  decide

end Carquet.Properties.C08
