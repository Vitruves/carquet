import Carquet.Impl.BitpackAcc
import Carquet.Proofs.BitpackAcc
/-
C08 — raw bit unpacking (src/core/bitpack.c: `carquet_bitunpack8_32` with its eight specialised unpackers,
`carquet_bitunpack_32` with the padded final group).  `Impl.Bitpack` reads its input through total lookups;
the read footprint is stated in two forms: *intensionally* — the indices / accesses the C code touches, as
data (`unpack8Idx`, `unpackAccs`) — and *extensionally* — the result does not depend on any byte outside
the footprint (the decoder cannot even notice what lies behind it).
-/
namespace Carquet.Properties.C08
open Carquet Carquet.Impl.Bitpack

/-- **`carquet_bitunpack8_32(input, w, values)`**: every index of `input` it reads is below `w` (any declared
width), it stores exactly 8 values (any width), and for `w ≤ 32` (the documented domain) the values are a
function of `input[0 .. w)` alone. -/
theorem C08_bitunpack8_reads_in_input (w : Nat) (inp : List UInt8) :
    (∀ i ∈ unpack8Idx w inp, i < w) ∧
    (unpack8 w inp).length = 8 ∧
    (w ≤ 32 → unpack8 w inp = unpack8 w (inp.take w)) :=
  ⟨Proofs.BitpackAcc.unpack8Idx_lt w inp, Proofs.BitpackImpl.unpack8_length_any w inp,
   fun hw => Proofs.BitpackAcc.unpack8_take hw inp⟩

example : unpack8Idx 17 [] = [0, 1, 2, 2, 3, 4, 4, 5, 6, 6, 7, 8, 8, 9, 10, 10, 11, 12, 12, 13, 14, 14, 15, 16] := by decide

/-- **`carquet_bitunpack_32(input, count, w, values)`** for `w ≤ 32`: the accesses to `input` (one group of
`w` bytes per 8 values, then a `memcpy` of `packed_size(count mod 8, w)` bytes) all lie inside
`[0, packed_size(count, w))`; their lengths add up to `packed_size(count, w)`, which is the
`bytes_consumed` the function reports; exactly `count` values are stored; values and `bytes_consumed` are a
function of the first `packed_size(count, w)` bytes alone; the tail copy fits the local 32-byte buffer and
the unpacker reads at most 32 bytes of it. -/
theorem C08_bitunpack_reads_in_input (w : Nat) (hw : w ≤ 32) (inp : List UInt8) (count : Nat) :
    (∀ a ∈ unpackAccs w count, a.off + a.len ≤ packedSize count w) ∧
    ((unpackAccs w count).map (·.len)).sum = (unpack w inp count).2 ∧
    (unpack w inp count).2 = (if w = 0 then 0 else packedSize count w) ∧
    (unpack w inp count).1.length = count ∧
    unpack w inp count = unpack w (inp.take (packedSize count w)) count ∧
    packedSize (count % 8) w ≤ 32 := by
  have ha := Proofs.BitpackAcc.unpackAccs_in w count
  have hc : (unpack w inp count).2 = (if w = 0 then 0 else packedSize count w) := by
    by_cases h0 : w = 0
    · subst h0; simp [unpack]
    · rw [if_neg h0]; exact Proofs.BitpackTails.unpack_consumed h0 inp count
  have hl : (unpack w inp count).1.length = count := by
    by_cases h0 : w = 0
    · subst h0; simp [unpack]
    · rw [Proofs.BitpackTails.unpack_values hw h0]; simp
  refine ⟨ha.1, by rw [ha.2, hc], hc, hl, Proofs.BitpackAcc.unpack_take hw inp count, ?_⟩
  have := Proofs.BitpackTails.packedSize_le (count % 8) w (Nat.mod_lt _ (by decide))
  omega

example : unpackAccs 9 19 = [⟨0, 9⟩, ⟨9, 9⟩, ⟨18, 4⟩] ∧ packedSize 19 9 = 22 ∧
    unpack 9 (List.replicate 22 0xFF) 19 = (List.replicate 19 511, 22) := by decide +kernel

/-- F32 on the pinned code (before `11608da`): the final partial group was unpacked in place, reading a whole
group of `w` bytes where only `packed_size(rem, w)` belong to the input — 32 bytes read from a 4-byte buffer
for one value of width 32 (replayed by the harness line `c8_bu w=32 n=1`, ASan heap-buffer-overflow then). -/
theorem C08_regression_F32 :
    touchedPreFix 32 1 = 32 ∧ packedSize 1 32 = 4 ∧ unpackAccs 32 1 = [⟨0, 4⟩] := by decide

end Carquet.Properties.C08
