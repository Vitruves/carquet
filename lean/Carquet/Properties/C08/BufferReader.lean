import Carquet.Impl.BufferReader
import Carquet.Proofs.BufferReader
/-
C08 — the buffer read cursor of src/core/buffer.h / buffer.c (`carquet_buffer_reader_*`: the primitive
every Thrift read goes through), for EVERY history of calls with arbitrary `size_t` arguments on an
arbitrary buffer.  The model reports each access `(offset, length)` it makes to `data[0 .. size)`.
-/
namespace Carquet.Properties.C08
open Carquet Carquet.Impl.BufferReader

/-- **Reads stay inside `[0, size)`, for every call sequence** (repaired `has`, F83): whatever calls are
made with whatever arguments, the cursor never moves backwards, `pos ≤ size` holds after every history,
and every access lies inside the buffer — in fact between the position at the start and `size`. -/
theorem C08_bufreader_reads_in_input (data : List UInt8) (hsz : data.length < 2 ^ 64) (ops : List Op) :
    (run true (init data) ops).2.2.pos ≤ data.length ∧
    (run true (init data) ops).2.2.data = data ∧
    ∀ a ∈ (run true (init data) ops).2.1, a.off + a.len ≤ data.length := by
  obtain ⟨h1, h2, h3⟩ := Proofs.BufferReader.run_ok true ops (init data) (Nat.zero_le _) hsz
  exact ⟨h2, h1, fun a ha => ((h3 rfl).2 a ha).2⟩

example : (run true (init [1, 2, 3, 4, 5]) [.skip 1, .readU16, .read 3, .read 2, .readByte]) =
    ([.st .ok, .val .ok 0x0302, .bytes .truncated [], .bytes .ok [4, 5], .val .truncated 0],
     [⟨1, 2⟩, ⟨3, 2⟩], ⟨[1, 2, 3, 4, 5], 5⟩) := by decide

/-- **A failed call changes nothing**: when the status is not OK the cursor is where it was and no byte
was touched; when it is OK the cursor advanced by exactly the width, the single access is
`(old pos, width)` and the bytes delivered are `data[pos .. pos + width)` (repaired code, reachable states). -/
theorem C08_bufreader_failed_read_keeps_pos (r : Reader) (hp : r.pos ≤ r.data.length)
    (hsz : r.data.length < 2 ^ 64) (n : Nat) :
    (has true r n = false →
      step true r (.read n) = ⟨.bytes .truncated [], r, []⟩ ∧ step true r (.skip n) = ⟨.st .truncated, r, []⟩) ∧
    (has true r n = true →
      r.pos + n ≤ r.data.length ∧
      step true r (.read n) = ⟨.bytes .ok (bytesAt r.data r.pos n), { r with pos := r.pos + n }, [⟨r.pos, n⟩]⟩ ∧
      step true r (.skip n) = ⟨.st .ok, { r with pos := r.pos + n }, []⟩ ∧
      (bytesAt r.data r.pos n).length = n) ∧
    (∀ k, has true r k = false → readFixed true r k = ⟨.val .truncated 0, r, []⟩) := by
  refine ⟨fun h => ?_, fun h => ?_, fun k h => ?_⟩
  · simp only [step, h, if_true]
    exact ⟨trivial, trivial⟩
  · have hf : hasFixed r n = true := by simpa only [has, if_true] using h
    have hle := (Proofs.BufferReader.hasFixed_iff r n hp hsz).mp hf
    have ha := Proofs.BufferReader.addSz_of_le hle hsz
    refine ⟨hle, ?_, ?_, ?_⟩
    · simp only [step, h, Bool.true_eq_false, if_false, ha]
    · simp only [step, h, Bool.true_eq_false, if_false, ha]
    · simp only [bytesAt, List.length_take, List.length_drop]; omega
  · simp only [readFixed, h, if_true]

/-- `pos ≤ size` also survives every history on the PINNED code (the wrapped sum is both compared and
stored), which is why the wrap-around below stays invisible to a caller that only looks at `pos`. -/
theorem C08_bufreader_pos_le_size (fixed : Bool) (data : List UInt8) (hsz : data.length < 2 ^ 64) (ops : List Op) :
    (run fixed (init data) ops).2.2.pos ≤ data.length :=
  (Proofs.BufferReader.run_ok fixed ops (init data) (Nat.zero_le _) hsz).2.1

/-- F83 on the pinned code (before fixes/F83-buffer-reader-has-wraparound.patch): `has` computes
`pos + n <= size` in `size_t`.  With `pos = 4`, `n = 2^64 − 2` the sum wraps to 2: `has` answers true,
`skip` "succeeds" and moves the cursor BACKWARDS to 2, and `read` of `2^64 − 2` bytes is let through
(the access reported reaches far beyond the 16-byte buffer: `memcpy` of 2^64−2 bytes).  No caller inside
the library passes such an `n` (all go through 31-bit lengths); replay `corpus/C08/F83-bufreader-wrap.ops`.
The repaired test `n <= size − pos` refuses all three. -/
theorem C08_regression_F83 :
    (run false (init (List.replicate 16 0)) [.skip 4, .has 18446744073709551614, .skip 18446744073709551614]).1 =
      [.st .ok, .bool true, .st .ok] ∧
    (run false (init (List.replicate 16 0)) [.skip 4, .skip 18446744073709551614]).2.2.pos = 2 ∧
    (run false (init (List.replicate 16 0)) [.skip 4, .read 18446744073709551614]).2.1 = [⟨4, 18446744073709551614⟩] ∧
    (run true (init (List.replicate 16 0)) [.skip 4, .has 18446744073709551614, .skip 18446744073709551614,
        .read 18446744073709551614]).1 = [.st .ok, .bool false, .st .truncated, .bytes .truncated []] ∧
    (run true (init (List.replicate 16 0)) [.skip 4, .skip 18446744073709551614, .read 18446744073709551614]).2 =
      ([], ⟨List.replicate 16 0, 4⟩) := by
  decide +kernel

end Carquet.Properties.C08
