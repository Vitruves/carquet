import Carquet.Properties.C11.CFunB
/-
C08 — link theorems (component `cfun`, batch `cfunb`): for the decoders that are translated from the CURRENT C source, the
generated `_defined` predicate contains one conjunct `offset + n ≤ length` per memory access.  Proving `_defined = true` for
EVERY input (whatever its length, `data_size` / `input_size` being the true size of the input) says: under the function's own
length check no byte outside `[input, input + input_size)` is read and nothing is written outside the output — C08's
obligation, here about the code as it is now rather than about the hand-written model.
-/
namespace Carquet.Properties.C08
open Carquet Carquet.Impl Carquet.Proofs.CFunB

/-- `carquet_byte_stream_split_decode`: any input; an output of `count * type_length` bytes -/
theorem C08_cfun_byte_stream_split_decode_defined (data out : List UInt8) (n k : Nat) (hk0 : 0 < k) (hk : k < 2 ^ 30)
    (hd : data.length < 2 ^ 63) (ho : out.length = k * n) (hn : k * n + k + n < 2 ^ 63) :
    Gen.CFun.carquet_byte_stream_split_decode_defined data (BitVec.ofNat 64 data.length) (BitVec.ofNat 32 k) out
      (BitVec.ofNat 64 n) = true := by
  by_cases hs : data.length < n * k
  · exact (bss_decode_short data out n k hk0 hk (by rw [Nat.mul_comm]; omega) (by omega) hs).2.1
  · exact (bss_decode_ok data out n k hk0 hk (by rw [Nat.mul_comm]; omega) (by omega) ho hn).2

/-- and the status tells which: CARQUET_ERROR_DECODE (40) exactly when the input is shorter than `count * type_length` -/
theorem C08_cfun_byte_stream_split_decode (data out : List UInt8) (n k : Nat) (hk0 : 0 < k) (hk : k < 2 ^ 30)
    (hd : data.length < 2 ^ 63) (ho : out.length = k * n) (hn : k * n + k + n < 2 ^ 63) :
    (Gen.CFun.carquet_byte_stream_split_decode data (BitVec.ofNat 64 data.length) (BitVec.ofNat 32 k) out (BitVec.ofNat 64 n)).1 =
      (if data.length < n * k then 40#32 else 0#32) := by
  by_cases hs : data.length < n * k
  · rw [if_pos hs, (bss_decode_short data out n k hk0 hk (by rw [Nat.mul_comm]; omega) (by omega) hs).1]
  · obtain ⟨L, _, hL⟩ := (bss_decode_ok data out n k hk0 hk (by rw [Nat.mul_comm]; omega) (by omega) ho hn).1
    rw [if_neg hs, hL]

example : Gen.CFun.carquet_byte_stream_split_decode_defined [1, 2, 3, 4, 5] 5#64 3#32 [0, 0, 0, 0, 0, 0] 2#64 = true ∧
    -- a `data_size` that overstates the input: the check passes and the loop reads data[5]
    Gen.CFun.carquet_byte_stream_split_decode_defined [1, 2, 3, 4, 5] 6#64 3#32 [0, 0, 0, 0, 0, 0] 2#64 = false := by decide +kernel

/-- `carquet_decode_plain_fixed_byte_array`: any input, any `count`, any `fixed_len`; an output that holds what is copied -/
theorem C08_cfun_decode_plain_fixed_byte_array_defined (input output : List UInt8) (count : BitVec 64) (fl : BitVec 32)
    (hin : input.length < 2 ^ 64)
    (hout : ∀ vals consumed, Plain.decodeFlba input count.toInt fl.toInt = .ok vals consumed → consumed ≤ output.length) :
    Gen.CFun.carquet_decode_plain_fixed_byte_array_defined input (BitVec.ofNat 64 input.length) output count fl = true :=
  Carquet.Properties.C11.C11_cfun_decode_plain_fixed_byte_array_defined input output count fl hin hout

example : Gen.CFun.carquet_decode_plain_fixed_byte_array_defined [1, 2, 3] 3#64 [0, 0, 0, 0] 2#64 2#32 = true ∧
    Gen.CFun.carquet_decode_plain_fixed_byte_array_defined [1, 2, 3] 4#64 [0, 0, 0, 0] 2#64 2#32 = false := by decide +kernel

/-- `carquet_decode_plain_boolean`: any input, any non-negative `count` below 2^62 with `count` output slots: every one of the
`(count + 7) / 8` byte reads is inside the input, every store inside the output; the model never reports an out-of-bounds read
either -/
theorem C08_cfun_decode_plain_boolean_defined (input output : List UInt8) (hn : output.length < 2 ^ 62)
    (hin : input.length < 2 ^ 64) :
    Gen.CFun.carquet_decode_plain_boolean_defined input (BitVec.ofNat 64 input.length) output (BitVec.ofNat 64 output.length) = true ∧
    Plain.decodeBoolean input (output.length : Int) ≠ .oob :=
  ⟨(decode_plain_boolean_eq input output hn hin).2.2.2, (decode_plain_boolean_eq input output hn hin).2.2.1⟩

example : Gen.CFun.carquet_decode_plain_boolean_defined [0xA5] 1#64 [9, 9, 9, 9, 9, 9, 9, 9, 9] 9#64 = true ∧
    Gen.CFun.carquet_decode_plain_boolean_defined [0xA5, 1] 2#64 [9, 9, 9, 9, 9, 9, 9, 9] 9#64 = false := by decide +kernel

end Carquet.Properties.C08
