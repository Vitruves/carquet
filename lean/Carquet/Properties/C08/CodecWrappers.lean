import Carquet.Impl.CodecWrappers
import Carquet.Proofs.CodecWrappers
/-
C08 — the GZIP and ZSTD decompression wrappers (src/compression/gzip.c, zstd.c) on arbitrary input and
capacity.  The libraries are a parameter; of the library contract only the capacity clause is used here
(`dec_le_cap`: what the library reports as written fits the capacity it was given — zlib's `avail_out`
accounting, `ZSTD_decompressDCtx`'s `dstCapacity`).  That a failing call releases what it allocated
(`inflateEnd` on every path after `inflateInit2`; the cached ZSTD context is the only allocation that
outlives a call) is observed per call by the allocation-balance predicate of the harness (`p_bal`).
-/
namespace Carquet.Properties.C08
open Carquet Carquet.Impl.CodecWrappers

/-- **Any input, any capacity: an error or a size within the capacity.**  Whatever the bytes and the
capacity, `carquet_gzip_decompress` / `carquet_zstd_decompress` return either INVALID_COMPRESSED_DATA (the
only failure with non-NULL arguments) or a result of at most `dst_capacity` bytes. -/
theorem C08_codec_wrappers_error_or_le_capacity (L : Lib)
    (hL : ∀ (c y : List UInt8) (cap : Nat), L.decompress c cap = some y → y.length ≤ cap)
    (c : List UInt8) (cap : Nat) :
    (∀ y, gzipDecompress L c cap = .ok y → y.length ≤ cap) ∧
    (∀ e, gzipDecompress L c cap = .error e → e = .invalidData) ∧
    (∀ y, zstdDecompress L c cap = .ok y → y.length ≤ cap) ∧
    (∀ e, zstdDecompress L c cap = .error e → e = .invalidData) := by
  have key : (∀ y, gzipDecompress L c cap = .ok y → y.length ≤ cap) ∧
      (∀ e, gzipDecompress L c cap = .error e → e = .invalidData) := by
    rw [Proofs.CodecWrappers.gzipDecompress_eq]
    cases hd : L.decompress c cap with
    | none => exact ⟨nofun, fun e h => by cases h; rfl⟩
    | some z => exact ⟨fun y h => by cases h; exact hL _ _ _ hd, nofun⟩
  exact ⟨key.1, key.2, key.1, key.2⟩

/-- a library that copies (so that the hypothesis above is satisfiable and both outcomes occur) -/
example : ∃ L : Lib, (∀ c y cap, L.decompress c cap = some y → y.length ≤ cap) ∧
    gzipDecompress L [1, 2, 3] 3 = .ok [1, 2, 3] ∧ gzipDecompress L [1, 2, 3] 2 = .error .invalidData :=
  ⟨⟨fun _ _ _ => none, fun c cap => if c.length ≤ cap then some c else none, id⟩,
   by intro c y cap h; simp only at h; split at h <;> simp_all, by decide, by decide⟩

/-- **Argument checks come before the library call.**  With a NULL source, destination or size pointer all
four wrappers return INVALID_ARGUMENT whatever the library would have answered — the result does not depend
on `call`, i.e. the library is not consulted (and so nothing has been allocated yet). -/
theorem C08_codec_wrappers_args_checked_first (srcNull dstNull sizeNull : Bool)
    (h : (srcNull || dstNull || sizeNull) = true) (n cap : Nat) (level maxl : Int)
    (callD : Nat → Nat → Option (List UInt8)) (callC : Int → Nat → Nat → Option (List UInt8)) :
    gzipDecompressG srcNull dstNull sizeNull n cap callD = .error .invalidArgument ∧
    zstdDecompressG srcNull dstNull sizeNull n cap callD = .error .invalidArgument ∧
    gzipCompressG srcNull dstNull sizeNull n cap level callC = .error .invalidArgument ∧
    zstdCompressG srcNull dstNull sizeNull n cap level maxl callC = .error .invalidArgument := by
  simp only [gzipDecompressG, zstdDecompressG, gzipCompressG, zstdCompressG, h, if_true, and_self]

example : gzipDecompressG true false false 3 3 (fun _ _ => some [1]) = .error .invalidArgument := by decide

end Carquet.Properties.C08
