import Carquet.Properties.C11.Plain
/-
C12 (PLAIN, BYTE_STREAM_SPLIT and dictionary-page parts) — the bytes carquet's encoders emit
follow the Parquet encoding specification, in both directions.

Shape: for every type the encoder's bytes are **equal** to the bytes of the independent Spec
encoder (`C12_plain_impl_eq_spec`, `C12_bss_impl_eq_spec`).  PLAIN and BYTE_STREAM_SPLIT leave an
encoder no choice (the only freedom, the padding bits of the last boolean byte, is covered by
`C12_plain_boolean_decoder_eq_spec`), so both directions follow from that equality:
 * `..._impl_to_spec`: the independent Spec decoder recovers the values from carquet's bytes
   (equality + the Spec's own round trip);
 * `..._spec_to_impl`: carquet's decoder recovers the values from the Spec encoder's bytes
   (equality + C11).
-/
namespace Carquet.Properties.C12
open Carquet Carquet.Impl
open Carquet.Proofs.Plain Carquet.Proofs.Bss Carquet.Proofs.Dictionary
open Carquet.Properties.C11

/-! ## PLAIN: encoder bytes = Spec bytes -/

theorem C12_plain_boolean_impl_eq_spec (vs : List UInt8) :
    Plain.encodeBoolean vs = Spec.Plain.encodeBool (vs.map (fun v => v != 0)) := by
  rw [Plain.encodeBoolean, packBools_eq_spec]

theorem C12_plain_int32_impl_eq_spec (vs : List UInt32) :
    Plain.encodeInt32 vs = Spec.Plain.encodeFixed 4 (vs.map UInt32.toNat) := by
  simp only [Plain.encodeInt32, Spec.Plain.encodeFixed, List.flatMap_map]
  congr 1; funext v; exact memU32_eq_leBytes v

theorem C12_plain_int64_impl_eq_spec (vs : List UInt64) :
    Plain.encodeInt64 vs = Spec.Plain.encodeFixed 8 (vs.map UInt64.toNat) := by
  simp only [Plain.encodeInt64, Spec.Plain.encodeFixed, List.flatMap_map]
  congr 1; funext v; exact memU64_eq_leBytes v

theorem C12_plain_int96_impl_eq_spec (vs : List Plain.Int96) :
    Plain.encodeInt96 vs = Spec.Plain.encodeFixed 12 (vs.map Plain.int96ToNat) := by
  simp only [Plain.encodeInt96, Spec.Plain.encodeFixed, List.flatMap_map]
  congr 1; funext v; exact int96_eq_leBytes v

theorem C12_plain_float_impl_eq_spec (vs : List UInt32) :
    Plain.encodeFloat vs = Spec.Plain.encodeFixed 4 (vs.map UInt32.toNat) :=
  C12_plain_int32_impl_eq_spec vs

theorem C12_plain_double_impl_eq_spec (vs : List UInt64) :
    Plain.encodeDouble vs = Spec.Plain.encodeFixed 8 (vs.map UInt64.toNat) :=
  C12_plain_int64_impl_eq_spec vs

theorem C12_plain_byte_array_impl_eq_spec (vs : List (List UInt8)) (h : ∀ v ∈ vs, v.length < 2 ^ 31) :
    Plain.encodeByteArray vs = Spec.Plain.encodeByteArray vs :=
  encodeByteArray_eq_spec vs (fun v hv => Nat.lt_trans (h v hv) (by decide))

theorem C12_plain_fixed_len_byte_array_impl_eq_spec (k : Nat) (hk : 0 < k) (vs : List (List UInt8))
    (hv : ∀ v ∈ vs, v.length = k) (h : vs.length * k < 2 ^ 64) :
    Plain.encodeFlba vs.flatten vs.length k = .ok (Spec.Plain.encodeFlba vs) :=
  (C11_plain_fixed_len_byte_array_roundtrip k hk vs hv [] h).1

/-- All eight PLAIN encoders emit exactly the bytes of the specification encoder. -/
theorem C12_plain_impl_eq_spec :
    (∀ vs : List UInt8, Plain.encodeBoolean vs = Spec.Plain.encodeBool (vs.map (fun v => v != 0))) ∧
    (∀ vs : List UInt32, Plain.encodeInt32 vs = Spec.Plain.encodeFixed 4 (vs.map UInt32.toNat)) ∧
    (∀ vs : List UInt64, Plain.encodeInt64 vs = Spec.Plain.encodeFixed 8 (vs.map UInt64.toNat)) ∧
    (∀ vs : List Plain.Int96, Plain.encodeInt96 vs = Spec.Plain.encodeFixed 12 (vs.map Plain.int96ToNat)) ∧
    (∀ vs : List UInt32, Plain.encodeFloat vs = Spec.Plain.encodeFixed 4 (vs.map UInt32.toNat)) ∧
    (∀ vs : List UInt64, Plain.encodeDouble vs = Spec.Plain.encodeFixed 8 (vs.map UInt64.toNat)) ∧
    (∀ vs : List (List UInt8), (∀ v ∈ vs, v.length < 2 ^ 31) →
      Plain.encodeByteArray vs = Spec.Plain.encodeByteArray vs) ∧
    (∀ (k : Nat) (vs : List (List UInt8)), 0 < k → (∀ v ∈ vs, v.length = k) → vs.length * k < 2 ^ 64 →
      Plain.encodeFlba vs.flatten vs.length k = .ok (Spec.Plain.encodeFlba vs)) :=
  ⟨C12_plain_boolean_impl_eq_spec, C12_plain_int32_impl_eq_spec, C12_plain_int64_impl_eq_spec,
   C12_plain_int96_impl_eq_spec, C12_plain_float_impl_eq_spec, C12_plain_double_impl_eq_spec,
   C12_plain_byte_array_impl_eq_spec,
   fun k vs hk hv h => C12_plain_fixed_len_byte_array_impl_eq_spec k hk vs hv h⟩

example : Plain.encodeInt32 [0x12345678] = [0x78, 0x56, 0x34, 0x12] ∧
    Plain.encodeBoolean [1, 0, 1, 1, 0, 0, 0, 0, 1] = [0x0D, 0x01] ∧
    Plain.encodeByteArray [[0x61, 0x62], []] = [2, 0, 0, 0, 0x61, 0x62, 0, 0, 0, 0] := by decide

/-! ## PLAIN, direction 1: the Spec decoder reads carquet's bytes -/

theorem C12_plain_impl_to_spec :
    (∀ (vs extra : List UInt8),
      Spec.Plain.decodeBool (Plain.encodeBoolean vs ++ extra) vs.length = some (vs.map (fun v => v != 0))) ∧
    (∀ (vs : List UInt32) (extra : List UInt8),
      Spec.Plain.decodeFixed 4 vs.length (Plain.encodeInt32 vs ++ extra) = some (vs.map UInt32.toNat, extra)) ∧
    (∀ (vs : List UInt64) (extra : List UInt8),
      Spec.Plain.decodeFixed 8 vs.length (Plain.encodeInt64 vs ++ extra) = some (vs.map UInt64.toNat, extra)) ∧
    (∀ (vs : List Plain.Int96) (extra : List UInt8),
      Spec.Plain.decodeFixed 12 vs.length (Plain.encodeInt96 vs ++ extra)
        = some (vs.map Plain.int96ToNat, extra)) ∧
    (∀ (vs : List UInt32) (extra : List UInt8),
      Spec.Plain.decodeFixed 4 vs.length (Plain.encodeFloat vs ++ extra) = some (vs.map UInt32.toNat, extra)) ∧
    (∀ (vs : List UInt64) (extra : List UInt8),
      Spec.Plain.decodeFixed 8 vs.length (Plain.encodeDouble vs ++ extra) = some (vs.map UInt64.toNat, extra)) ∧
    (∀ (vs : List (List UInt8)) (extra : List UInt8), (∀ v ∈ vs, v.length < 2 ^ 31) →
      Spec.Plain.decodeByteArray vs.length (Plain.encodeByteArray vs ++ extra) = some (vs, extra)) ∧
    (∀ (k : Nat) (vs : List (List UInt8)) (extra : List UInt8), (∀ v ∈ vs, v.length = k) →
      Spec.Plain.decodeFlba k vs.length (vs.flatten ++ extra) = some (vs, extra)) := by
  have f32 : ∀ (vs : List UInt32) (extra : List UInt8),
      Spec.Plain.decodeFixed 4 vs.length (Plain.encodeInt32 vs ++ extra) = some (vs.map UInt32.toNat, extra) := by
    intro vs extra
    have := spec_decodeFixed_encode 4 (vs.map UInt32.toNat) extra (List.forall_mem_map.mpr fun v _ => v.toNat_lt)
    rwa [List.length_map, ← C12_plain_int32_impl_eq_spec] at this
  have f64 : ∀ (vs : List UInt64) (extra : List UInt8),
      Spec.Plain.decodeFixed 8 vs.length (Plain.encodeInt64 vs ++ extra) = some (vs.map UInt64.toNat, extra) := by
    intro vs extra
    have := spec_decodeFixed_encode 8 (vs.map UInt64.toNat) extra (List.forall_mem_map.mpr fun v _ => v.toNat_lt)
    rwa [List.length_map, ← C12_plain_int64_impl_eq_spec] at this
  refine ⟨?_, f32, f64, ?_, f32, f64, ?_, ?_⟩
  · intro vs extra
    have := spec_decodeBool_encode (vs.map (fun v => v != 0)) extra
    rwa [List.length_map, ← C12_plain_boolean_impl_eq_spec] at this
  · intro vs extra
    have := spec_decodeFixed_encode 12 (vs.map Plain.int96ToNat) extra (List.forall_mem_map.mpr fun v _ => int96ToNat_lt v)
    rwa [List.length_map, ← C12_plain_int96_impl_eq_spec] at this
  · intro vs extra h
    rw [C12_plain_byte_array_impl_eq_spec vs h]
    exact spec_decodeByteArray_encode vs extra (fun v hv => Nat.lt_trans (h v hv) (by decide))
  · intro k vs extra hv
    exact spec_decodeFlba_encode k vs hv extra

/-! ## PLAIN, direction 2: carquet's decoders read the Spec encoder's bytes -/

theorem C12_plain_spec_to_impl :
    (∀ (bs : List Bool) (extra : List UInt8),
      Plain.decodeBoolean (Spec.Plain.encodeBool bs ++ extra) bs.length
        = .ok (bs.map (fun b => if b then 1 else 0)) ((bs.length + 7) / 8)) ∧
    (∀ (vs : List UInt32) (extra : List UInt8), vs.length * 4 < 2 ^ 64 →
      Plain.decodeInt32 (Spec.Plain.encodeFixed 4 (vs.map UInt32.toNat) ++ extra) vs.length
        = .ok vs (vs.length * 4)) ∧
    (∀ (vs : List UInt64) (extra : List UInt8), vs.length * 8 < 2 ^ 64 →
      Plain.decodeInt64 (Spec.Plain.encodeFixed 8 (vs.map UInt64.toNat) ++ extra) vs.length
        = .ok vs (vs.length * 8)) ∧
    (∀ (vs : List Plain.Int96) (extra : List UInt8), vs.length * 12 < 2 ^ 64 →
      Plain.decodeInt96 (Spec.Plain.encodeFixed 12 (vs.map Plain.int96ToNat) ++ extra) vs.length
        = .ok vs (vs.length * 12)) ∧
    (∀ (vs : List UInt32) (extra : List UInt8), vs.length * 4 < 2 ^ 64 →
      Plain.decodeFloat (Spec.Plain.encodeFixed 4 (vs.map UInt32.toNat) ++ extra) vs.length
        = .ok vs (vs.length * 4)) ∧
    (∀ (vs : List UInt64) (extra : List UInt8), vs.length * 8 < 2 ^ 64 →
      Plain.decodeDouble (Spec.Plain.encodeFixed 8 (vs.map UInt64.toNat) ++ extra) vs.length
        = .ok vs (vs.length * 8)) ∧
    (∀ (vs : List (List UInt8)) (extra : List UInt8), (∀ v ∈ vs, v.length < 2 ^ 31) →
      ∃ slices, Plain.decodeByteArray (Spec.Plain.encodeByteArray vs ++ extra) vs.length
          = .ok slices (Spec.Plain.encodeByteArray vs).length ∧
        slices.map (Plain.slice (Spec.Plain.encodeByteArray vs ++ extra)) = vs) ∧
    (∀ (k : Nat) (vs : List (List UInt8)) (extra : List UInt8), 0 < k → (∀ v ∈ vs, v.length = k) →
      vs.length * k < 2 ^ 64 →
      Plain.decodeFlba (Spec.Plain.encodeFlba vs ++ extra) vs.length k
        = .ok vs.flatten (vs.length * k)) := by
  refine ⟨?_, ?_, ?_, ?_, ?_, ?_, ?_, ?_⟩
  · intro bs extra
    rw [decodeBoolean_eq_spec, spec_decodeBool_encode]; rfl
  · intro vs extra h
    rw [← C12_plain_int32_impl_eq_spec]; exact decodeInt32_encode vs extra h
  · intro vs extra h
    rw [← C12_plain_int64_impl_eq_spec]; exact decodeInt64_encode vs extra h
  · intro vs extra h
    rw [← C12_plain_int96_impl_eq_spec]; exact decodeInt96_encode vs extra h
  · intro vs extra h
    rw [← C12_plain_int32_impl_eq_spec]; exact decodeInt32_encode vs extra h
  · intro vs extra h
    rw [← C12_plain_int64_impl_eq_spec]; exact decodeInt64_encode vs extra h
  · intro vs extra h
    rw [← C12_plain_byte_array_impl_eq_spec vs h]
    exact C11_plain_byte_array_roundtrip vs extra h
  · intro k vs extra hk hv h
    have := (C11_plain_fixed_len_byte_array_roundtrip k hk vs hv extra h)
    rw [this.2.2] at this
    exact this.2.1

/-- Booleans are the one PLAIN type where valid streams differ (the padding bits of the last byte
are unspecified): on **every** input carquet's decoder returns exactly what the Spec decoder
returns, and rejects exactly when the Spec decoder rejects. -/
theorem C12_plain_boolean_decoder_eq_spec (input : List UInt8) (n : Nat) :
    Plain.decodeBoolean input (n : Int) =
      match Spec.Plain.decodeBool input n with
      | none => .err
      | some bits => .ok (bits.map (fun b => if b then 1 else 0)) ((n + 7) / 8) :=
  decodeBoolean_eq_spec input n

example : Plain.decodeBoolean [0xFD] 3 = .ok [1, 0, 1] 1 ∧ Spec.Plain.decodeBool [0xFD] 3 = some [true, false, true] := by
  decide

/-- INT32 / FLOAT / INT64 / DOUBLE: on **every** input the `memcpy` decoders accept exactly when the
Spec decoder accepts, and return the Spec's numbers (as 32/64-bit patterns). -/
theorem C12_plain_fixed_decoder_eq_spec (input : List UInt8) (n : Nat) :
    (n * 4 < 2 ^ 64 →
      Plain.decodeInt32 input n = (match Spec.Plain.decodeFixed 4 n input with
        | none => .err
        | some (ns, _) => .ok (ns.map UInt32.ofNat) (n * 4)) ∧
      Plain.decodeFloat input n = Plain.decodeInt32 input n) ∧
    (n * 8 < 2 ^ 64 →
      Plain.decodeInt64 input n = (match Spec.Plain.decodeFixed 8 n input with
        | none => .err
        | some (ns, _) => .ok (ns.map UInt64.ofNat) (n * 8)) ∧
      Plain.decodeDouble input n = Plain.decodeInt64 input n) := by
  refine ⟨fun h => ⟨?_, rfl⟩, fun h => ⟨?_, rfl⟩⟩
  · rw [Plain.decodeInt32, if_neg (by omega)]
    exact checked_copy_eq_spec load32s_flatten input n h
  · rw [Plain.decodeInt64, if_neg (by omega)]
    exact checked_copy_eq_spec load64s_flatten input n h

/-- BYTE_ARRAY: on **every** input shorter than 2 GiB (so that a length prefix ≥ 2^31, which
carquet reads as negative, cannot be satisfied anyway) carquet's decoder accepts exactly the
streams the Spec decoder accepts, consumes the same number of bytes, and its slices show the
Spec's values; in particular a negative, overrunning or truncated length prefix at *any* record
makes it return an error. -/
theorem C12_plain_byte_array_decoder_eq_spec (input : List UInt8) (n : Nat) (hlt : input.length < 2 ^ 31) :
    match Spec.Plain.decodeByteArray n input with
    | none => Plain.decodeByteArray input n = .err
    | some (vs, rest) => ∃ slices,
        Plain.decodeByteArray input n = .ok slices (input.length - rest.length) ∧
        slices.map (Plain.slice input) = vs := by
  cases hs : Spec.Plain.decodeByteArray n input with
  | none =>
    simp only [Plain.decodeByteArray, Int.toNat_natCast]
    rw [if_neg (by omega), baLoop_reject input n 0 (Nat.zero_le _) hs]
  | some q =>
    obtain ⟨vs, rest⟩ := q
    have hle := spec_decodeByteArray_length_le n input vs rest hs
    obtain ⟨h1, h2⟩ := baLoop_accept input n 0 vs rest (Nat.zero_le _) hs
      (fun v hv => Nat.lt_of_le_of_lt (hle v hv) hlt)
    refine ⟨_, ?_, h2⟩
    simp only [Plain.decodeByteArray, Int.toNat_natCast, h1]
    rw [if_neg (by omega)]

example : Spec.Plain.decodeByteArray 2 [1, 0, 0, 0, 7, 0xFF, 0xFF, 0xFF, 0xFF] = none ∧
    Plain.decodeByteArray [1, 0, 0, 0, 7, 0xFF, 0xFF, 0xFF, 0xFF] 2 = .err := by decide

/-- INT96: on **every** input the element loop of `carquet_decode_plain_int96` accepts exactly when
the Spec decoder (12-byte little-endian numbers) accepts, consumes `12·n` bytes, and the three
words of each returned `carquet_int96_t` hold the Spec's number (`int96ToNat` is injective:
`C12_plain_int96_words_determined`).  `n·12 < 2^64`: the size check uses the wrapped product
(`C08_plain_int96_wrap_witness`). -/
theorem C12_plain_int96_decoder_eq_spec (input : List UInt8) (n : Nat) (h : n * 12 < 2 ^ 64) :
    match Spec.Plain.decodeFixed 12 n input with
    | none => Plain.decodeInt96 input n = .err
    | some (ns, _) => ∃ vs, Plain.decodeInt96 input n = .ok vs (n * 12) ∧ vs.map Plain.int96ToNat = ns :=
  decodeInt96_eq_spec input n h

/-- the 96-bit number determines the three words -/
theorem C12_plain_int96_words_determined (a b : Plain.Int96) (h : Plain.int96ToNat a = Plain.int96ToNat b) :
    a = b := by
  obtain ⟨a0, a1, a2⟩ := a
  obtain ⟨b0, b1, b2⟩ := b
  have h0 := a0.toNat_lt; have h1 := a1.toNat_lt; have h2 := a2.toNat_lt
  have k0 := b0.toNat_lt; have k1 := b1.toNat_lt; have k2 := b2.toNat_lt
  simp only [Plain.int96ToNat] at h
  have e0 : a0.toNat = b0.toNat := by omega
  have e1 : a1.toNat = b1.toNat := by omega
  have e2 : a2.toNat = b2.toNat := by omega
  rw [UInt32.toNat_inj.mp e0, UInt32.toNat_inj.mp e1, UInt32.toNat_inj.mp e2]

example : Spec.Plain.decodeFixed 12 1 [1, 0, 0, 0, 2, 0, 0, 0, 3, 0, 0, 0, 9] = some ([1 + 2 * 2 ^ 32 + 3 * 2 ^ 64], [9]) ∧
    Plain.decodeInt96 [1, 0, 0, 0, 2, 0, 0, 0, 3, 0, 0, 0, 9] 1 = .ok [(1, 2, 3)] 12 ∧
    Spec.Plain.decodeFixed 12 2 [1, 0, 0, 0, 2, 0, 0, 0, 3, 0, 0, 0, 9] = none ∧
    Plain.decodeInt96 [1, 0, 0, 0, 2, 0, 0, 0, 3, 0, 0, 0, 9] 2 = .err := by decide

/-- FIXED_LEN_BYTE_ARRAY: on **every** input `carquet_decode_plain_fixed_byte_array` accepts
exactly when the Spec decoder accepts, and its flat output buffer holds the Spec's values back to
back (`n` values of `k` bytes each, `n·k` bytes consumed). -/
theorem C12_plain_flba_decoder_eq_spec (input : List UInt8) (n k : Nat) (hk : 0 < k) (h : n * k < 2 ^ 64) :
    Plain.decodeFlba input n k =
      (match Spec.Plain.decodeFlba k n input with
       | none => .err
       | some (vs, _) => .ok vs.flatten (n * k)) ∧
    (∀ vs rest, Spec.Plain.decodeFlba k n input = some (vs, rest) →
       vs.length = n ∧ (∀ v ∈ vs, v.length = k) ∧ rest = input.drop (n * k)) := by
  refine ⟨decodeFlba_eq_spec input n k hk h, ?_⟩
  intro vs rest hs
  by_cases hl : input.length < n * k
  · rw [spec_decodeFlba_none k n input hl] at hs; cases hs
  · obtain ⟨cs, h1, h2, _, h4, _⟩ := spec_decode_cut k n input (by omega)
    rw [h4] at hs
    simp only [Option.some.injEq, Prod.mk.injEq] at hs
    obtain ⟨rfl, rfl⟩ := hs
    exact ⟨h1, h2, rfl⟩

example : Spec.Plain.decodeFlba 3 2 [1, 2, 3, 4, 5, 6, 7] = some ([[1, 2, 3], [4, 5, 6]], [7]) ∧
    Plain.decodeFlba [1, 2, 3, 4, 5, 6, 7] 2 3 = .ok [1, 2, 3, 4, 5, 6] 6 ∧
    Spec.Plain.decodeFlba 3 3 [1, 2, 3, 4, 5, 6, 7] = none ∧ Plain.decodeFlba [1, 2, 3, 4, 5, 6, 7] 3 3 = .err := by
  decide

/-! ## BYTE_STREAM_SPLIT -/

/-- The generic encoder and the scalar float/double kernels write exactly the Spec's `k` streams. -/
theorem C12_bss_impl_eq_spec :
    (∀ (k n : Nat) (vals : List (List UInt8)) (cap : Nat), 0 < k → vals.length = n →
      (∀ v ∈ vals, v.length = k) → n * k < 2 ^ 64 → n * k ≤ cap →
      Bss.encode vals.flatten n k cap = .ok (Spec.Bss.encode k vals)) ∧
    (∀ (fs : List UInt32) (out0 : List UInt8), fs.length * 4 < 2 ^ 64 → fs.length * 4 ≤ out0.length →
      Bss.encodeFloatBuf (fs.flatMap Plain.memU32) fs.length out0
        = .ok (Spec.Bss.encode 4 (fs.map Plain.memU32) ++ out0.drop (fs.length * 4))) ∧
    (∀ (ds : List UInt64) (out0 : List UInt8), ds.length * 8 < 2 ^ 64 → ds.length * 8 ≤ out0.length →
      Bss.encodeDoubleBuf (ds.flatMap Plain.memU64) ds.length out0
        = .ok (Spec.Bss.encode 8 (ds.map Plain.memU64) ++ out0.drop (ds.length * 8))) := by
  refine ⟨fun k n vals cap hk hn hv hsz hcap => encode_flat hk ⟨hn, hv⟩ hsz hcap, ?_, ?_⟩
  · intro fs out0 hsz hcap
    rw [List.flatMap_def]
    exact scatterBuf_flat (by decide) (rect_mem32 fs) hsz out0 hcap
  · intro ds out0 hsz hcap
    rw [List.flatMap_def]
    exact scatterBuf_flat (by decide) (rect_mem64 ds) hsz out0 hcap

/-- Direction 1: the Spec decoder (cut into `k` streams, zip) recovers the values from the
encoder's bytes.  By `C12_bss_impl_eq_spec` these are carquet's bytes. -/
theorem C12_bss_impl_to_spec (k n : Nat) (vals : List (List UInt8)) (cap : Nat) (extra : List UInt8)
    (hk : 0 < k) (hn : vals.length = n) (hv : ∀ v ∈ vals, v.length = k) (hsz : n * k < 2 ^ 64)
    (hcap : n * k ≤ cap) :
    ∃ bytes, Bss.encode vals.flatten n k cap = .ok bytes ∧
      Spec.Bss.decode k n (bytes ++ extra) = some vals :=
  ⟨Spec.Bss.encode k vals, C12_bss_impl_eq_spec.1 k n vals cap hk hn hv hsz hcap,
    spec_decode_encode ⟨hn, hv⟩ extra⟩

/-- Direction 2: carquet's decoders (generic, and the scalar float/double kernels) recover the
values from the Spec encoder's bytes. -/
theorem C12_bss_spec_to_impl (k n : Nat) (vals : List (List UInt8)) (extra : List UInt8)
    (hk : 0 < k) (hn : vals.length = n) (hv : ∀ v ∈ vals, v.length = k) (hsz : n * k < 2 ^ 64) :
    Bss.decode (Spec.Bss.encode k vals ++ extra) k n = .ok vals.flatten ∧
    (k = 4 → Bss.decodeFloat (Spec.Bss.encode k vals ++ extra) n = .ok vals.flatten) ∧
    (k = 8 → Bss.decodeDouble (Spec.Bss.encode k vals ++ extra) n = .ok vals.flatten) := by
  have h := decode_encode hk ⟨hn, hv⟩ hsz extra
  refine ⟨h, ?_, ?_⟩
  · intro h4; subst h4; rw [decodeFloat_eq]; exact h
  · intro h8; subst h8; rw [decodeDouble_eq]; exact h

/-- On **every** input (any bytes, any trailing data) the generic decoder and the scalar
float/double kernels accept exactly when the Spec decoder accepts and return its values. -/
theorem C12_bss_decoder_eq_spec (data : List UInt8) (k n : Nat) (hk : 0 < k) (hsz : n * k < 2 ^ 64) :
    Bss.decode data k n = (match Spec.Bss.decode k n data with
      | none => .error .decode
      | some vals => .ok vals.flatten) ∧
    (k = 4 → Bss.decodeFloat data n = Bss.decode data k n) ∧
    (k = 8 → Bss.decodeDouble data n = Bss.decode data k n) := by
  have hreq := requiredSize_natCast hk hsz
  refine ⟨?_, ?_, ?_⟩
  · simp only [Bss.decode, Spec.Bss.decode, Int.toNat_natCast, hreq]
    rw [if_neg (by omega), Nat.mul_comm n k]
    by_cases hl : data.length < k * n
    · rw [if_pos hl, if_pos hl]
    · rw [if_neg hl, if_neg hl, gather_eq_spec k n data (by omega)]
  · intro h4; subst h4; exact decodeFloat_eq data n
  · intro h8; subst h8; exact decodeDouble_eq data n

example : Spec.Bss.decode 2 3 [1, 3, 5, 2, 4, 6] = some [[1, 2], [3, 4], [5, 6]] ∧
    Bss.decode [1, 3, 5, 2, 4, 6] 2 3 = .ok [1, 2, 3, 4, 5, 6] ∧
    Bss.encode [1, 2, 3, 4, 5, 6] 3 2 6 = .ok [1, 3, 5, 2, 4, 6] := by decide

/-! ## Dictionary page -/

theorem memU32_injective (a b : UInt32) (h : Plain.memU32 a = Plain.memU32 b) : a = b := by
  rw [← ofLe_memU32 a, h, ofLe_memU32]

theorem memU64_injective (a b : UInt64) (h : Plain.memU64 a = Plain.memU64 b) : a = b := by
  rw [← ofLe_memU64 a, h, ofLe_memU64]

/-- "Dictionary page format: the entries in the dictionary using the plain encoding": the page
carquet writes is the Spec's PLAIN encoding of the distinct values in order of first occurrence. -/
theorem C12_dictionary_page_is_plain (idxEnc : Nat → List Nat → List UInt8) :
    (∀ vs : List UInt32, vs.length < 2 ^ 31 → (Dictionary.encode32 idxEnc vs).dictPage
      = Spec.Plain.encodeFixed 4 ((Spec.Dictionary.firstOccurrences vs).map UInt32.toNat)) ∧
    (∀ vs : List UInt64, vs.length < 2 ^ 31 → (Dictionary.encode64 idxEnc vs).dictPage
      = Spec.Plain.encodeFixed 8 ((Spec.Dictionary.firstOccurrences vs).map UInt64.toNat)) ∧
    (∀ vs : List (List UInt8), vs.length < 2 ^ 31 → (∀ v ∈ vs, v.length < 2 ^ 31) →
      (Dictionary.encodeByteArray idxEnc vs).dictPage
        = Spec.Plain.encodeByteArray (Spec.Dictionary.firstOccurrences vs)) := by
  have hnb : 0 < Gen.dictNumBuckets := by decide
  refine ⟨?_, ?_, ?_⟩
  · intro vs hlen
    obtain ⟨he, _, _, hv⟩ := build_spec Dictionary.hashNat hnb false (vs.map Plain.memU32) (by simp; omega)
    simp only [Dictionary.encode32, Dictionary.finish, dictBytes_fixed _ hv, he,
      firstOccurrences_map Plain.memU32 memU32_injective, ← List.flatMap_def]
    exact C12_plain_int32_impl_eq_spec _
  · intro vs hlen
    obtain ⟨he, _, _, hv⟩ := build_spec Dictionary.hashNat hnb false (vs.map Plain.memU64) (by simp; omega)
    simp only [Dictionary.encode64, Dictionary.finish, dictBytes_fixed _ hv, he,
      firstOccurrences_map Plain.memU64 memU64_injective, ← List.flatMap_def]
    exact C12_plain_int64_impl_eq_spec _
  · intro vs hlen hv
    obtain ⟨he, _, _, hvar⟩ := build_spec Dictionary.hashNat hnb true vs (by omega)
    have hfo : ∀ v ∈ Spec.Dictionary.firstOccurrences vs, v.length < 2 ^ 32 := fun v hm =>
      Nat.lt_trans (hv v (mem_firstOccurrences.mp hm)) (by decide)
    simp only [Dictionary.encodeByteArray, Dictionary.finish, Dictionary.Builder.dictBytes, he, hvar]
    rw [← encodeByteArray_eq_spec _ hfo]
    simp only [Plain.encodeByteArray]
    congr 1
    funext v
    cases v <;> simp [Dictionary.record]

example : (Dictionary.encode32 (fun _ _ => []) [7, 9, 7, 1]).dictPage
    = [7, 0, 0, 0, 9, 0, 0, 0, 1, 0, 0, 0] := by
  rw [(C12_dictionary_page_is_plain _).1 _ (by decide)]; decide

end Carquet.Properties.C12
