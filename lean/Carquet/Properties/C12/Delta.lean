import Carquet.Proofs.DeltaTop
import Carquet.Proofs.DeltaBytes
import Carquet.Proofs.DeltaSpecEnc
import Carquet.Gen.DeltaConstants
import Carquet.Proofs.DeltaBytesCap
/-
C12 — encoded bytes follow the Parquet encoding specification: DELTA_BINARY_PACKED.
Property statements only; helper lemmas live in Carquet/Proofs/Delta*.lean.
`Spec.Delta` is the transcription of the format document (grammar `Stream`, reference decoder
`decode`); `Impl.Delta` models the repaired code (fixes/F13-…, fixes/F30-…); the `…PreFix`
functions model the code before F13.
-/
namespace Carquet.Properties.C12
open Carquet
open Carquet.Spec.Delta (Stream)

/-- The constants and guards the model relies on are the ones in the source now (re-extracted
from src/encoding/delta.c on every run): 128/4 geometry, the 40-byte header capacity check, the
`bit_width <= 64` branch (F13 repair) and the geometry validation (F30 repair). -/
theorem C12_delta_constants_tied :
    Gen.deltaBlockSize = Impl.Delta.blockSize ∧ Gen.deltaMiniBlocks = Impl.Delta.miniBlocks ∧
    Gen.deltaHeaderCapacity = 40 ∧ Gen.deltaWidthGuard64 = 1 ∧ Gen.deltaGeometryGuard = 1 := by decide

/-- carquet → specification, INT64: whatever `carquet_delta_encode_int64` writes for a non-empty
sequence — followed by any bytes — is decoded by the independent reference decoder to exactly
that sequence, and the decoder stops exactly at the end of what was written. -/
theorem C12_delta_impl_to_spec_int64 (vs : List (BitVec 64)) (cap : Nat) (bs tail : List UInt8)
    (hne : vs ≠ []) (hlen : vs.length ≤ 2147483647)
    (henc : Impl.Delta.encodeInt64 vs cap = .ok bs) :
    Spec.Delta.decode 64 (bs ++ tail) = .ok (vs.map BitVec.toInt, tail) :=
  Impl.Delta.int64_to_spec vs cap bs tail hne hlen henc

/-- carquet → specification, INT32. -/
theorem C12_delta_impl_to_spec_int32 (vs : List (BitVec 32)) (cap : Nat) (bs tail : List UInt8)
    (hne : vs ≠ []) (hlen : vs.length ≤ 2147483647)
    (henc : Impl.Delta.encodeInt32 vs cap = .ok bs) :
    Spec.Delta.decode 32 (bs ++ tail) = .ok (vs.map BitVec.toInt, tail) :=
  Impl.Delta.int32_to_spec vs cap bs tail hne hlen henc

/-- both column widths in one statement (the name used in DESIGN.md) -/
theorem C12_delta_impl_to_spec :
    (∀ (vs : List (BitVec 32)) (cap : Nat) (bs tail : List UInt8), vs ≠ [] → vs.length ≤ 2147483647 →
      Impl.Delta.encodeInt32 vs cap = .ok bs →
      Spec.Delta.decode 32 (bs ++ tail) = .ok (vs.map BitVec.toInt, tail)) ∧
    (∀ (vs : List (BitVec 64)) (cap : Nat) (bs tail : List UInt8), vs ≠ [] → vs.length ≤ 2147483647 →
      Impl.Delta.encodeInt64 vs cap = .ok bs →
      Spec.Delta.decode 64 (bs ++ tail) = .ok (vs.map BitVec.toInt, tail)) :=
  ⟨C12_delta_impl_to_spec_int32, C12_delta_impl_to_spec_int64⟩

example : ∃ bs, Impl.Delta.encodeInt32 [0x80000000#32, 0x7FFFFFFF#32, 0x80000000#32] 400 = .ok bs ∧
    Spec.Delta.decode 32 bs = .ok ([-2147483648, 2147483647, -2147483648], []) := by
  obtain ⟨bs, h, _⟩ := Impl.Delta.exists_ok (Impl.Delta.encodeInt32 [0x80000000#32, 0x7FFFFFFF#32, 0x80000000#32] 400)
    (fun _ => True) (by decide +kernel)
  exact ⟨bs, h, by simpa using C12_delta_impl_to_spec_int32 _ 400 bs [] (by decide) (by decide) h⟩

/-- specification → carquet, over the whole grammar: every well-formed stream `s` with geometry
128/4 — any frame of reference (well-formedness asks that every number of the stream fits a
64-bit varint), any widths 0..64 (wider than needed
included), any padding of the last miniblock, *any* bytes in the width slots of unneeded
miniblocks — whose count fits `int32_t`, followed by any bytes, is decoded by
`carquet_delta_decode_int64` to the values it denotes, and `bytes_consumed` is its length. -/
theorem C12_delta_spec_to_impl_int64 (s : Stream) (tail : List UInt8) (hwf : s.wf)
    (hg : s.geom = ⟨128, 4⟩) (hcount : s.count ≤ 2147483647) :
    Impl.Delta.decodeInt64 (s.bytes ++ tail) s.count =
      .ok ((s.values 64).map (BitVec.ofInt 64), s.bytes.length) :=
  Impl.Delta.stream_decodeInt64 s tail hwf hg hcount

/-- specification → carquet, INT32 column (values narrowed by `(int32_t)`). -/
theorem C12_delta_spec_to_impl_int32 (s : Stream) (tail : List UInt8) (hwf : s.wf)
    (hg : s.geom = ⟨128, 4⟩) (hcount : s.count ≤ 2147483647) :
    Impl.Delta.decodeInt32 (s.bytes ++ tail) s.count =
      .ok ((s.values 32).map (BitVec.ofInt 32), s.bytes.length) :=
  Impl.Delta.stream_decodeInt32 s tail hwf hg hcount

theorem C12_delta_spec_to_impl :
    (∀ (s : Stream) (tail : List UInt8), s.wf → s.geom = ⟨128, 4⟩ → s.count ≤ 2147483647 →
      Impl.Delta.decodeInt32 (s.bytes ++ tail) s.count = .ok ((s.values 32).map (BitVec.ofInt 32), s.bytes.length)) ∧
    (∀ (s : Stream) (tail : List UInt8), s.wf → s.geom = ⟨128, 4⟩ → s.count ≤ 2147483647 →
      Impl.Delta.decodeInt64 (s.bytes ++ tail) s.count = .ok ((s.values 64).map (BitVec.ofInt 64), s.bytes.length)) :=
  ⟨C12_delta_spec_to_impl_int32, C12_delta_spec_to_impl_int64⟩

/-- The same direction phrased with the steerable reference *encoder*: for every steering of
geometry 128/4 (frame of reference per block — `none` is the minimum the text prescribes —, extra
width per miniblock, junk width bytes, padding values) and every value sequence within the column
width, including the empty one, carquet's decoders return the sequence from the reference
encoder's bytes, and `bytes_consumed` is their number. -/
theorem C12_delta_spec_encoder_to_impl (p : Spec.Delta.Params) (hgeo : p.geom = ⟨128, 4⟩) (hp : p.ok)
    (vs : List Int) (hlen : vs.length ≤ 2147483647) (tail : List UInt8) :
    ((∀ v ∈ vs, Spec.Delta.wrap 64 v = v) →
      Impl.Delta.decodeInt64 (Spec.Delta.encode 64 p vs ++ tail) vs.length =
        .ok (vs.map (BitVec.ofInt 64), (Spec.Delta.encode 64 p vs).length)) ∧
    ((∀ v ∈ vs, Spec.Delta.wrap 32 v = v) →
      Impl.Delta.decodeInt32 (Spec.Delta.encode 32 p vs ++ tail) vs.length =
        .ok (vs.map (BitVec.ofInt 32), (Spec.Delta.encode 32 p vs).length)) := by
  have hleg : p.geom.legal := by rw [hgeo]; decide
  have hb : p.geom.blockSize < 2 ^ 64 := by rw [hgeo]; decide
  have hm : p.geom.miniblocks < 2 ^ 64 := by rw [hgeo]; decide
  have hcount : ∀ W, (Spec.Delta.encodeStream W p vs).count = vs.length := by
    intro W; cases vs <;> rfl
  have hgeom : ∀ W, (Spec.Delta.encodeStream W p vs).geom = ⟨128, 4⟩ := by
    intro W; cases vs <;> exact hgeo
  have hstream : ∀ W, W ≤ 64 → (∀ v ∈ vs, Spec.Delta.wrap W v = v) →
      (Spec.Delta.encodeStream W p vs).wf ∧ (Spec.Delta.encodeStream W p vs).values W = vs := fun W hW hv =>
    ⟨Spec.Delta.encodeStream_wf W hW p hleg hp hb hm vs (by omega) (Spec.Delta.headD_inI64 W hW vs hv),
      Spec.Delta.encodeStream_values W p hleg vs hv⟩
  constructor
  · intro hv
    obtain ⟨hwf, hval⟩ := hstream 64 (by decide) hv
    have := C12_delta_spec_to_impl_int64 _ tail hwf (hgeom 64) (by rw [hcount]; exact hlen)
    rwa [hcount, hval] at this
  · intro hv
    obtain ⟨hwf, hval⟩ := hstream 32 (by decide) hv
    have := C12_delta_spec_to_impl_int32 _ tail hwf (hgeom 32) (by rw [hcount]; exact hlen)
    rwa [hcount, hval] at this

/-- the Spec is self-consistent: its decoder inverts its steerable encoder for every legal
geometry (a statement about the transcription of the document, not about carquet) -/
theorem C12_delta_spec_self_consistent (W : Nat) (hW : W ≤ 64) (p : Spec.Delta.Params) (hg : p.geom.legal)
    (hp : p.ok) (hb : p.geom.blockSize < 2 ^ 64) (hm : p.geom.miniblocks < 2 ^ 64)
    (vs : List Int) (hlen : vs.length < 2 ^ 64) (hv : ∀ v ∈ vs, Spec.Delta.wrap W v = v) (tail : List UInt8) :
    Spec.Delta.decode W (Spec.Delta.encode W p vs ++ tail) = .ok (vs, tail) :=
  Spec.Delta.decode_encode W hW p hg hp hb hm vs hlen hv tail

example : (fun (_ : Nat) => ({ minDelta := some (-5), extraWidth := [3, 60], junk := [0xff], pad := [1, 2, 3] } : Spec.Delta.Choice)) 0
    = { minDelta := some (-5), extraWidth := [3, 60], junk := [0xff], pad := [1, 2, 3] } ∧
    Impl.Delta.decodeInt64 (Spec.Delta.encode 64 { choice := fun _ => { minDelta := some (-5), extraWidth := [3, 60], junk := [0xff, 77], pad := [1, 2, 3] } }
        [10, 20, 15, -9223372036854775808, 9223372036854775807]) 5 =
      .ok ([10, 20, 15, -9223372036854775808, 9223372036854775807].map (BitVec.ofInt 64),
           (Spec.Delta.encode 64 { choice := fun _ => { minDelta := some (-5), extraWidth := [3, 60], junk := [0xff, 77], pad := [1, 2, 3] } }
        [10, 20, 15, -9223372036854775808, 9223372036854775807]).length) := by
  have h := (C12_delta_spec_encoder_to_impl
    { choice := fun _ => { minDelta := some (-5), extraWidth := [3, 60], junk := [0xff, 77], pad := [1, 2, 3] } } rfl
    (by intro k x h; cases h; decide) [10, 20, 15, -9223372036854775808, 9223372036854775807] (by decide) []).1
    (by decide)
  rw [List.append_nil] at h
  exact ⟨rfl, h⟩

/-- non-vacuity: a stream carquet's own encoder never emits — frame of reference below the
minimum, a 40-bit and a 64-bit miniblock, non-zero padding, junk width bytes 0xff / 200 — is in
the grammar, and the kernel evaluates both decoders on it. -/
def sampleStream : Stream :=
  ⟨⟨128, 4⟩, 35, -7,
   [{ minDelta := -1000, widths := [40, 64, 0xff, 200],
      adj := (List.range 34).map (fun i => 1000 + i * 3), pad := (List.range 30).map (fun i => i + 1) }]⟩

example : sampleStream.wf ∧ sampleStream.geom = ⟨128, 4⟩ ∧
    Spec.Delta.decode 64 sampleStream.bytes = .ok (sampleStream.values 64, []) ∧
    Impl.Delta.decodeInt64 sampleStream.bytes 35 =
      .ok ((sampleStream.values 64).map (BitVec.ofInt 64), sampleStream.bytes.length) ∧
    (sampleStream.values 64).take 4 = [-7, -7, -4, 2] := by
  have hwf : sampleStream.wf := by
    refine ⟨by decide, ?_, Or.inl (by decide), by decide⟩
    refine ⟨by decide, by decide, by decide, by decide, by decide, ?_, by decide⟩
    simp only [Spec.Delta.fits]
    refine Or.inr ⟨by decide, by decide +kernel, Or.inr ⟨by decide, by decide +kernel, Or.inl (by decide +kernel)⟩⟩
  have hs := Spec.Delta.decode_stream 64 sampleStream [] hwf
  have hi := C12_delta_spec_to_impl_int64 sampleStream [] hwf rfl (by decide)
  rw [List.append_nil] at hs hi
  exact ⟨hwf, rfl, hs, hi, by decide +kernel⟩

/-- Geometries the format allows but carquet does not implement are answered with
`CARQUET_ERROR_DECODE` — an error, never values: whatever follows a header that declares a legal
geometry other than 128/4 (header numbers within the 64-bit varint range), both decoders fail. -/
theorem C12_delta_other_geometry_rejected (g : Spec.Delta.Geometry) (rest : List UInt8) (n : Nat)
    (hleg : g.legal) (hne : g ≠ ⟨128, 4⟩) (hb : g.blockSize < 2 ^ 64) (hm : g.miniblocks < 2 ^ 64) :
    Impl.Delta.decodeInt64 (Spec.Delta.ulebEncode g.blockSize ++ (Spec.Delta.ulebEncode g.miniblocks ++ rest)) n
      = .error .decode ∧
    Impl.Delta.decodeInt32 (Spec.Delta.ulebEncode g.blockSize ++ (Spec.Delta.ulebEncode g.miniblocks ++ rest)) n
      = .error .decode := by
  -- being allowed by the format plays no part: every geometry other than 128/4 is refused
  have _ := hleg
  have hinit := Impl.Delta.init_other_geometry g.blockSize g.miniblocks rest hb hm
    (fun h => hne (by rw [← h.1, ← h.2]))
  constructor
  · simp [Impl.Delta.decodeInt64, Impl.Delta.decodeV, hinit]
  · simp [Impl.Delta.decodeInt32, Impl.Delta.decodeV, hinit]

example : Spec.Delta.Geometry.legal ⟨256, 8⟩ ∧ (⟨256, 8⟩ : Spec.Delta.Geometry) ≠ ⟨128, 4⟩ ∧
    Spec.Delta.Geometry.legal ⟨128, 2⟩ := by decide

/-- F13, the defect the repair removes: before the fix a miniblock wider than 32 bits was written
as whole little-endian bytes per value.  Kernel-checked witness on the model of the old code:
for the INT64 input `0, 2^32, 1` (and for the INT32 input `INT32_MIN, INT32_MAX, INT32_MIN`) the
old encoder succeeds and declares width 33, its own old decoder reads the values back (so C11
held), but the reference decoder does not obtain the input. -/
theorem C12_regression_F13 :
    (∃ bs, Impl.Delta.encodeInt64PreFix [0#64, 0x100000000#64, 1#64] 400 = .ok bs ∧
       (Impl.Delta.decodeV true bs 3).map Prod.fst = .ok [0#64, 0x100000000#64, 1#64] ∧
       Spec.Delta.decode 64 bs ≠ .ok ([0, 4294967296, 1], [])) ∧
    (∃ bs, Impl.Delta.encodeInt32PreFix [0x80000000#32, 0x7FFFFFFF#32, 0x80000000#32] 400 = .ok bs ∧
       Spec.Delta.decode 32 bs ≠ .ok ([-2147483648, 2147483647, -2147483648], [])) := by
  exact ⟨Impl.Delta.exists_ok _ _ (by decide +kernel), Impl.Delta.exists_ok _ _ (by decide +kernel)⟩

/-- DELTA_LENGTH_BYTE_ARRAY, carquet → specification. -/
theorem C12_delta_length_impl_to_spec (vs : List (List UInt8)) (bs tail : List UInt8) (hne : vs ≠ [])
    (hlen : vs.length ≤ 2147483647) (hv : ∀ v ∈ vs, v.length < 2 ^ 31)
    (henc : Impl.DeltaLength.encode vs = .ok bs) :
    Spec.Delta.decodeLengthByteArray (bs ++ tail) = .ok (vs, tail) :=
  Impl.DeltaLength.to_spec vs bs tail hne hlen hv henc

/-- DELTA_LENGTH_BYTE_ARRAY, specification → carquet: the length stream is any grammar stream of
geometry 128/4 (every liberty of `C12_delta_spec_to_impl`), `rest` any bytes; whenever the
reference decoder accepts, carquet returns the same byte arrays and the same end of stream. -/
theorem C12_delta_length_spec_to_impl (s : Stream) (rest rest' : List UInt8) (vals : List (List UInt8))
    (hwf : s.wf) (hg : s.geom = ⟨128, 4⟩) (hcount : s.count ≤ 2147483647) (hc : 0 < s.count)
    (hspec : Spec.Delta.decodeLengthByteArray (s.bytes ++ rest) = .ok (vals, rest')) :
    Impl.DeltaLength.decode (s.bytes ++ rest) s.count =
      .ok (vals, s.bytes.length + rest.length - rest'.length) :=
  Impl.DeltaLength.from_spec s rest rest' vals hwf hg hcount hc hspec

/-- DELTA_BYTE_ARRAY, carquet → specification. -/
theorem C12_delta_strings_impl_to_spec (vs : List (List UInt8)) (bs tail : List UInt8) (hne : vs ≠ [])
    (hlen : vs.length ≤ 2147483647) (hv : ∀ v ∈ vs, v.length < 2 ^ 31)
    (henc : Impl.DeltaStrings.encode vs = .ok bs) :
    Spec.Delta.decodeByteArray (bs ++ tail) = .ok (vs, tail) :=
  Impl.DeltaStrings.to_spec vs bs tail hne hlen hv henc

/-- DELTA_BYTE_ARRAY, specification → carquet: prefix-length and suffix-length streams are any
grammar streams of geometry 128/4 with the same count (prefixes shorter than the shared prefix
included); whenever the reference decoder accepts, carquet returns the same byte arrays and the
same end of stream, provided the work buffer holds them and each is below 2 GiB. -/
theorem C12_delta_strings_spec_to_impl (sP sS : Stream) (rest rest' : List UInt8)
    (vals : List (List UInt8)) (work : Nat)
    (hwfP : sP.wf) (hgP : sP.geom = ⟨128, 4⟩) (hwfS : sS.wf) (hgS : sS.geom = ⟨128, 4⟩)
    (hcnt : sP.count = sS.count) (hc : 0 < sP.count) (hcount : sP.count ≤ 2147483647)
    (hspec : Spec.Delta.decodeByteArray (sP.bytes ++ (sS.bytes ++ rest)) = .ok (vals, rest'))
    (hwork : (vals.map List.length).sum ≤ work) (hsmall : ∀ v ∈ vals, v.length < 2 ^ 31) :
    Impl.DeltaStrings.decode (sP.bytes ++ (sS.bytes ++ rest)) sP.count work =
      .ok (vals, sP.bytes.length + sS.bytes.length + rest.length - rest'.length) :=
  Impl.DeltaStrings.from_spec sP sS rest rest' vals work hwfP hgP hwfS hgS hcnt hc hcount hspec hwork hsmall

/-- non-vacuity for the byte-array theorems: streams from the steerable Spec encoder (prefix
lengths capped at 1, so shorter than the shared prefix) are accepted by both decoders. -/
example : Spec.Delta.decodeByteArray (Spec.Delta.encodeByteArray {} {} (fun _ => 1) [[1, 2, 3], [1, 2, 4, 5], [], [1, 2]]) =
      .ok ([[1, 2, 3], [1, 2, 4, 5], [], [1, 2]], []) ∧
    Impl.DeltaStrings.decode (Spec.Delta.encodeByteArray {} {} (fun _ => 1) [[1, 2, 3], [1, 2, 4, 5], [], [1, 2]]) 4 9 =
      .ok ([[1, 2, 3], [1, 2, 4, 5], [], [1, 2]],
           (Spec.Delta.encodeByteArray {} {} (fun _ => 1) [[1, 2, 3], [1, 2, 4, 5], [], [1, 2]]).length) ∧
    Impl.DeltaLength.decode (Spec.Delta.encodeLengthByteArray {} [[7], [], [8, 9]]) 3 =
      .ok ([[7], [], [8, 9]], (Spec.Delta.encodeLengthByteArray {} [[7], [], [8, 9]]).length) := by
  decide +kernel

/-- carquet → specification for the byte-array encodings without a condition on the encoder's
status: for every non-empty list of byte arrays (each shorter than 2 GiB) both encoders succeed
(`C11_delta_bytes_encode_succeeds`) and the reference decoders recover exactly the input from what
they wrote, leaving what follows. -/
theorem C12_delta_bytes_impl_to_spec_total (vs : List (List UInt8)) (tail : List UInt8) (hne : vs ≠ [])
    (hlen : vs.length ≤ 2147483647) (hv : ∀ v ∈ vs, v.length < 2 ^ 31) :
    (∃ bs, Impl.DeltaLength.encode vs = .ok bs ∧
       Spec.Delta.decodeLengthByteArray (bs ++ tail) = .ok (vs, tail)) ∧
    (∃ bs, Impl.DeltaStrings.encode vs = .ok bs ∧
       Spec.Delta.decodeByteArray (bs ++ tail) = .ok (vs, tail)) := by
  obtain ⟨b1, h1⟩ := Impl.DeltaLength.encode_succeeds vs hne hlen
  obtain ⟨b2, h2⟩ := Impl.DeltaStrings.encode_succeeds vs hne hlen
  exact ⟨⟨b1, h1, Impl.DeltaLength.to_spec vs b1 tail hne hlen hv h1⟩,
         ⟨b2, h2, Impl.DeltaStrings.to_spec vs b2 tail hne hlen hv h2⟩⟩

example : ∃ bs, Impl.DeltaStrings.encode [[1, 2, 3], [1, 2, 4, 5], [], [1, 2]] = .ok bs ∧
    Spec.Delta.decodeByteArray bs = .ok ([[1, 2, 3], [1, 2, 4, 5], [], [1, 2]], []) := by
  simpa using (C12_delta_bytes_impl_to_spec_total [[1, 2, 3], [1, 2, 4, 5], [], [1, 2]] [] (by decide) (by decide)
    (by decide)).2

end Carquet.Properties.C12
