import Carquet.Impl.BitIO
import Carquet.Spec.BitPack
import Carquet.Proofs.BitIORoundtrip
import Carquet.Proofs.BitPackSpec
/-
C12 — the bit writer / reader of src/core/bitpack.c speak Parquet's raw bit packing (LSB first), as written
down independently in Spec/BitPack.lean.
-/
namespace Carquet.Properties.C12
open Carquet Carquet.Impl.BitIO Carquet.Proofs.BitIO

/-- **Bit order = the Spec's.**  Writing the values `vals` with `write_bits(v, w)` (`w ≤ 32`) and flushing
stores the first `cap` bytes of `Spec.BitPack.pack w vals` — all of them when the capacity is at least
`⌈|vals|·w / 8⌉`; and `n` calls of `read_bits(w)` on any byte string that holds `n` values return exactly
what `Spec.BitPack.unpack w bytes n` reads. -/
theorem C12_bitio_matches_spec_bitpack (w : Nat) (hw : w ≤ 32) (vals : List Nat) (cap : Nat)
    (bytes : List UInt8) (n : Nat) :
    (flush (wrun (Writer.init cap) (vals.map (fun v => WOp.bits v w)))).out = (Spec.BitPack.pack w vals).take cap ∧
    (n * w ≤ 8 * bytes.length →
      Spec.BitPack.unpack w bytes n =
        some (((rrun (Reader.init bytes) (List.replicate n (ROp.bits w))).1).filterMap
          (fun o => match o with | .val v => some v | _ => none))) := by
  obtain ⟨f1, f2, f3⟩ := fields_uniform w hw vals
  constructor
  · obtain ⟨h, _⟩ := flush_wrun cap _ f3
    rw [h, f1, f2, Proofs.BitPackSpec.pack_eq]
  · intro hlen
    obtain ⟨r1, _⟩ := rrun_spec (List.replicate n (ROp.bits w)) (Reader.init bytes) (RInv_init bytes)
    rw [r1, stream_init, avail_init, arun_uniform, Nat.min_eq_left hw, Proofs.BitPackSpec.unpack_eq w n bytes hlen]
    congr 1
    rw [List.filterMap_map]
    symm
    have : ((fun o => match o with | RObs.val v => some v | _ => none) ∘
        fun i => RObs.val (Proofs.BitpackImpl.nth w (Impl.Bitpack.leNat bytes) i)) =
        fun i => some (Proofs.BitpackImpl.nth w (Impl.Bitpack.leNat bytes) i) := by
      funext i; rfl
    rw [this]
    induction (List.range n) with
    | nil => rfl
    | cons a l ih => simp [ih]

/-- the example of the Parquet document: the numbers 0..7 at width 3 are the bytes 88 C6 FA -/
example : (flush (wrun (Writer.init 3) ([0, 1, 2, 3, 4, 5, 6, 7].map (fun v => WOp.bits v 3)))).out = [0x88, 0xC6, 0xFA] ∧
    (rrun (Reader.init [0x88, 0xC6, 0xFA]) (List.replicate 8 (ROp.bits 3))).1 =
      [.val 0, .val 1, .val 2, .val 3, .val 4, .val 5, .val 6, .val 7] := by decide +kernel

end Carquet.Properties.C12
