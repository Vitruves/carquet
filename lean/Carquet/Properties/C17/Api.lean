import Carquet.Proofs.SchemaApi
import Carquet.Proofs.ThriftExtendsDeep
import Carquet.Proofs.ThriftRoundtripTop
import Carquet.Proofs.ReaderOpen
import Carquet.Properties.C17.Schema
import Carquet.Gen.Api
/-
C17 (public accessors) — "element accessors (name, type, repetition, type length, logical type)
return what the file states", for the accessors and builder arguments no other part speaks of:
carquet_schema_get_element + carquet_schema_node_logical_type, the per-node
carquet_schema_node_max_def_level / _max_rep_level, and carquet_schema_add_column WITH a logical
type (incl. what a file written from such a schema reads back).
Statements only; lemmas in Proofs/SchemaApi.lean (the C13 lemmas for the Thrift step, `ReaderOpen.openFile_ok` for the
open step).
-/
namespace Carquet.Properties.C17
open Carquet Carquet.Spec.Schema Carquet.Spec.SchemaAnnot Carquet.Spec.Thrift Carquet.Spec.ParquetThrift
open Carquet.Impl.Thrift Carquet.Impl.ThriftParquet Carquet.Impl.SchemaApi Carquet.Impl.Reader
open Carquet.Proofs.SchemaApi Carquet.Proofs.Thrift

/-- **The logical-type accessor returns what the file states — for every element of every schema.**
Let the footer of a file be ANY compact-protocol encoding `bs` (short or long headers, unknown
fields of any wire type at any level) of a FileMetaData value `m`, and let the file open in any
I/O mode.  Then the reader's schema has exactly the elements of `m`, and for every index `i`
(`carquet_schema_get_element(schema, i)`, leaf or group, at any depth):
`carquet_schema_node_logical_type` returns the logical type the element's Thrift value states
(`Spec.SchemaAnnot.statedLogical`: the union member with its parameters — DECIMAL scale/precision,
TIME/TIMESTAMP unit and UTC flag, INTEGER width and sign — and NULL when the element has no
field 10), and the element's converted type is the stated field 6; outside `[0, n)`
`get_element` returns NULL. -/
theorem C17_logical_type_accessor (m : FileMetaData) (hm : m.wf = true) (v' : TVal)
    (hext : ExtD (schFileMeta 27) (fileMetaDataTV m) v') (bs : List UInt8) (henc : Encodes v' bs)
    (mode : Mode) (file : List UInt8) (hfile : footerBytes file = bs) (o : Opened) (ho : openFile mode file = .ok o) :
    o.md.schema.length = m.schema.length ∧
    (∀ (i : Nat) (s : SchemaElement), m.schema[i]? = some s →
      ∃ e, getElement o.md.schema (i : Int) = some e ∧
        nodeLogicalType e = statedLogical (schemaElementTV s) ∧
        e.convertedType = statedConverted (schemaElementTV s) ∧
        nodeMaxDefLevel e = nodeMaxDefLevel s ∧ nodeMaxRepLevel e = nodeMaxRepLevel s) ∧
    (∀ i : Int, i < 0 ∨ i ≥ m.schema.length → getElement o.md.schema i = none) := by
  have hp := accepts_filemetadata_deep m hm v' hext bs henc []
  rw [List.append_nil] at hp
  have hfoot := (Proofs.ReaderOpen.openFile_ok mode file o ho).2.2.2
  rw [hfile] at hfoot
  have hmd : o.md = m.norm := by
    unfold parseFooter Carquet.Impl.ThriftParquetReq.parseFileMetaDataReq parseFileMetaData at hfoot
    rw [hp] at hfoot
    simp only [ParseResult.toExcept] at hfoot
    split at hfoot
    · cases hfoot
    · cases hfoot; rfl
  have hs : o.md.schema = m.schema.map SchemaElement.norm := by rw [hmd]; rfl
  refine ⟨by rw [hs]; simp, ?_, ?_⟩
  · intro i s hi
    refine ⟨s.norm, ?_, ?_, ?_, ?_, ?_⟩
    · rw [getElement_nat, hs, List.getElem?_map, hi]; rfl
    · rw [statedLogical_TV]; rfl
    · rw [statedConverted_TV]; rfl
    · rfl
    · rfl
  · intro i hi
    unfold getElement
    rw [if_pos (by rw [hs]; simpa using hi)]

-- non-vacuity: a schema with a DECIMAL leaf, a LIST group, a TIMESTAMP leaf and an un-annotated leaf is a
-- well-formed FileMetaData; its own serialisation is one admissible encoding (ExtD is reflexive)
def exMeta : FileMetaData :=
  { version := 2, numRows := 0, rowGroups := [],
    schema := [{ name := some [0x72], numChildren := 3 },
               { name := some [0x61], type := some 7, typeLength := 9, repetition := some 1,
                 convertedType := some 5, scale := 2, precision := 20, logicalType := some (.decimal 2 20) },
               { name := some [0x67], repetition := some 2, numChildren := 2, convertedType := some 3, logicalType := some .list },
               { name := some [0x74], type := some 2, repetition := some 0, logicalType := some (.timestamp true .nanos) },
               { name := some [0x75], type := some 1, repetition := some 1 }] }
example : exMeta.wf = true ∧ ExtD (schFileMeta 27) (fileMetaDataTV exMeta) (fileMetaDataTV exMeta) ∧
    exMeta.schema.map (fun s => statedLogical (schemaElementTV s)) =
      [none, some (.decimal 2 20), some .list, some (.timestamp true .nanos), none] ∧
    exMeta.schema.map (fun s => statedConverted (schemaElementTV s)) = [none, some 5, some 3, none, none] :=
  ⟨by decide +kernel, extD_refl _ _, by decide +kernel, by decide +kernel⟩

/-- the accessor chain on a parsed element list, as a caller writes it -/
def logicalAt (sch : List SchemaElement) (i : Int) : Option (Option LogicalType) := (getElement sch i).map nodeLogicalType

-- an annotation carquet does not know (union member 16) and an empty union: present, id UNKNOWN (not NULL);
-- the Spec reading says the same
example :
    (parseSchemaElement Cfg.fixed (Dec.init [0x48, 0x01, 0x78, 0x6c, 0x0c, 0x20, 0x00, 0x00, 0x00])).1.logicalType = some .unknown ∧
    statedLogical (.struct [(4, .binary [0x78]), (10, .struct [(16, .struct [])])]) = some .unknown ∧
    statedLogical (.struct [(4, .binary [0x78]), (10, .struct [])]) = some .unknown ∧
    statedLogical (.struct [(4, .binary [0x78])]) = none := by decide +kernel

/-- **The two numberings of logical types are kept apart, as parquet.thrift and carquet's header
define them** (tables re-extracted from the source on every run, `Gen.Api`).  The LogicalType union
numbers its members 1–8, 10–15 (there is no member 9); `carquet_logical_type_id_t` is dense 0–14.
(a) every arm `case N: lt->id = CARQUET_LOGICAL_X` of `parse_logical_type` assigns the enum value of
the annotation that union member N denotes in parquet.thrift (`Spec.SchemaAnnot.memberOf`), and
every member has an arm; (b) the hand-written parser model makes the same assignment on each
member; (c) `write_logical_type` is the inverse table (as a set of arms: the order of the `case` arms of a
switch over a union does not matter); (d) the TimeUnit union (1 MILLIS, 2 MICROS,
3 NANOS) and the parameter field numbers (DECIMAL 1 scale 2 precision, TIME/TIMESTAMP 1
isAdjustedToUTC 2 unit, INTEGER 1 bitWidth 2 isSigned) are the format's; (e) the public enums have
the values the model's `logicalId` / `unitCode` use. -/
theorem C17_logical_member_table :
    Gen.Api.logicalParseArms.all (fun a => (memberOf (a.1, .struct [])).map logicalId == some a.2.toNat) = true ∧
    ([1, 2, 3, 4, 5, 6, 7, 8, 10, 11, 12, 13, 14, 15] : List Int).all (fun k => Gen.Api.logicalParseArms.any (fun a => a.1 == k)) = true ∧
    (Gen.Api.logicalParseArms.map (·.1)).Nodup ∧
    Gen.Api.logicalParseArms.all (fun a =>
      logicalId (logicalBody Cfg.fixed 12 a.1 (Dec.init [0]) (.unknown, false)).1.1 == a.2.toNat) = true ∧
    (Gen.Api.logicalWriteArms.map (fun a => (a.2, a.1))).all (Gen.Api.logicalParseArms.contains ·) = true ∧
    Gen.Api.logicalParseArms.all ((Gen.Api.logicalWriteArms.map (fun a => (a.2, a.1))).contains ·) = true ∧
    (Gen.Api.logicalWriteArms.map (·.1)).Nodup ∧
    Gen.Api.logicalParseUnits.all (fun u => unitCode (unitOf (some (.struct [(u.2.1, .struct [])]))) == u.2.2) = true ∧
    Gen.Api.logicalParseUnits.map (fun u => (u.1, u.2.1)) =
      [("time", 1), ("time", 2), ("time", 3), ("timestamp", 1), ("timestamp", 2), ("timestamp", 3)] ∧
    Gen.Api.logicalParseParams = [("decimal", "scale", 1), ("decimal", "precision", 2), ("time", "is_adjusted_to_utc", 1),
      ("timestamp", "is_adjusted_to_utc", 1), ("integer", "bit_width", 1), ("integer", "is_signed", 2)] ∧
    Gen.Api.logicalIds = [("CARQUET_LOGICAL_UNKNOWN", 0), ("CARQUET_LOGICAL_STRING", 1), ("CARQUET_LOGICAL_MAP", 2),
      ("CARQUET_LOGICAL_LIST", 3), ("CARQUET_LOGICAL_ENUM", 4), ("CARQUET_LOGICAL_DECIMAL", 5), ("CARQUET_LOGICAL_DATE", 6),
      ("CARQUET_LOGICAL_TIME", 7), ("CARQUET_LOGICAL_TIMESTAMP", 8), ("CARQUET_LOGICAL_INTEGER", 9), ("CARQUET_LOGICAL_NULL", 10),
      ("CARQUET_LOGICAL_JSON", 11), ("CARQUET_LOGICAL_BSON", 12), ("CARQUET_LOGICAL_UUID", 13), ("CARQUET_LOGICAL_FLOAT16", 14)] ∧
    Gen.Api.timeUnits = [("CARQUET_TIME_UNIT_MILLIS", 0), ("CARQUET_TIME_UNIT_MICROS", 1), ("CARQUET_TIME_UNIT_NANOS", 2)] := by
  decide +kernel

-- the members whose two numbers differ: union field 10 is INTEGER (enum 9), 11 NULL (10), …, 15 FLOAT16 (14)
example : ([10, 11, 12, 13, 14, 15] : List Int).map (fun k => (memberOf (k, .struct [])).map logicalId) =
    [some 9, some 10, some 11, some 12, some 13, some 14] ∧ memberOf (9, .struct []) = none := by decide +kernel

/-- **Per-node level accessors and the leaf levels.**  `carquet_schema_node_max_def_level` /
`_max_rep_level` return the node's OWN contribution (1 for OPTIONAL or REPEATED, resp. for REPEATED,
else 0) — not the column's level.  For every well-formed schema tree, stored as the element list
`sch`: the levels `build_schema` assigns to column k (those the column readers use,
`C17_traverse_eq_spec`) are the SUMS of the accessor values over the nodes on the path from below
the root to the k-th leaf, and the column's element is the last node of that path. -/
theorem C17_node_levels_sum_to_leaf_levels (root : Node) (h : WellFormed root) (sch : List SchemaElement)
    (hsch : sch.map toElement = flatten root) :
    Impl.Schema.build (sch.map toElement) =
      some ((paths root).map (fun p => (⟨p.getLastD 0, accSum sch nodeMaxDefLevel p, accSum sch nodeMaxRepLevel p⟩ : Leaf))) ∧
    (∀ e : SchemaElement, nodeMaxDefLevel e = defInc (toElement e).info.rep ∧ nodeMaxRepLevel e = repInc (toElement e).info.rep) := by
  refine ⟨?_, fun e => ⟨nodeMaxDef_eq e, nodeMaxRep_eq e⟩⟩
  rw [hsch, C17_traverse_eq_spec root h]
  cases root with
  | leaf _ => exact absurd h (by simp [WellFormed, wellFormedB])
  | group i cs =>
    rw [leaves_eq_paths i cs]
    congr 1
    apply List.map_congr_left
    intro p _
    simp only [leafOfPath, (accSum_eq sch p).1, (accSum_eq sch p).2, hsch]

-- the example tree of file_reader.c's comment: column "g" = element 7 under the REPEATED group "e" (element 5):
-- path [5, 7], accessor values 1+1 / 1+0
def exSch : List SchemaElement :=
  [{ name := some [0x73], numChildren := 3 },
   { name := some [0x61], type := some 1, repetition := some 1 },
   { name := some [0x62], repetition := some 1, numChildren := 2 },
   { name := some [0x63], type := some 1, repetition := some 0 }, { name := some [0x64], type := some 1, repetition := some 1 },
   { name := some [0x65], repetition := some 2, numChildren := 2 },
   { name := some [0x66], type := some 1, repetition := some 0 }, { name := some [0x67], type := some 1, repetition := some 1 }]
def exSchTree : Node :=
  .group ⟨"s", none, none, 0, none, none⟩ [
    .leaf ⟨"a", some .optional, some 1, 0, none, none⟩,
    .group ⟨"b", some .optional, none, 0, none, none⟩ [.leaf ⟨"c", some .required, some 1, 0, none, none⟩, .leaf ⟨"d", some .optional, some 1, 0, none, none⟩],
    .group ⟨"e", some .repeated, none, 0, none, none⟩ [.leaf ⟨"f", some .required, some 1, 0, none, none⟩, .leaf ⟨"g", some .optional, some 1, 0, none, none⟩]]
example : WellFormed exSchTree ∧ exSch.map toElement = flatten exSchTree ∧
    paths exSchTree = [[1], [2, 3], [2, 4], [5, 6], [5, 7]] ∧
    (paths exSchTree).map (fun p => (p.getLastD 0, accSum exSch nodeMaxDefLevel p, accSum exSch nodeMaxRepLevel p)) =
      [(1, 1, 0), (3, 1, 0), (4, 2, 0), (6, 1, 1), (7, 2, 1)] ∧
    exSch.map nodeMaxDefLevel = [0, 1, 1, 0, 1, 1, 0, 1] := by decide +kernel

/-- **Builder with logical types, and the written file.**  For ANY sequence of
`carquet_schema_add_column` calls WITH a `logical_type` argument (any union member with any
parameters, or NULL) and `carquet_schema_add_group` calls:
(a) element k+1 of the builder's schema is the k-th call's element, and
`carquet_schema_node_logical_type` on it returns exactly the argument passed (NULL for NULL and
for groups; a non-NULL `{UNKNOWN}` stays non-NULL);
(b) `carquet_writer_create` + `build_file_metadata` put the root and one element per COLUMN into
the footer, and reading that footer back (`parquet_write_file_metadata` then
`parquet_parse_file_metadata`) gives elements whose logical-type accessor returns the argument of
the j-th add_column call — with the one collapse the writer makes: `{UNKNOWN}` comes back as NULL
(`has_logical_type` is only set for `id != CARQUET_LOGICAL_UNKNOWN`). -/
theorem C17_builder_logical_types (calls : List Impl.SchemaApi.Call) :
    (∀ (k : Nat) (c : Impl.SchemaApi.Call), calls[k]? = some c →
      logicalAt (Builder.run calls).elements ((k : Nat) + 1 : Nat) = some c.logical) ∧
    (Builder.run calls).elements.length = calls.length + 1 ∧
    (∀ md : FileMetaData, md.schema = writerSchema (Builder.run calls) → md.wf = true →
      ∃ md', parseFileMetaData (writeFileMetaData md) = .ok md' ∧
        md'.schema.length = (calls.filter Impl.SchemaApi.Call.isColumn).length + 1 ∧
        ∀ (j : Nat) (c : Impl.SchemaApi.Call), (calls.filter Impl.SchemaApi.Call.isColumn)[j]? = some c →
          logicalAt md'.schema ((j : Nat) + 1 : Nat) = some (normLogical c.logical)) := by
  have hc := closed_run calls
  refine ⟨?_, by rw [hc.elements]; simp, ?_⟩
  · intro k c hk
    unfold logicalAt
    rw [getElement_nat, hc.elements]
    simp only [List.getElem?_cons_succ, List.getElem?_map, hk, Option.map_some]
    cases c <;> rfl
  · intro md hmd hwf
    obtain ⟨hp, _⟩ := roundtrip_filemetadata md hwf
    refine ⟨md.norm, ?_, ?_, ?_⟩
    · unfold parseFileMetaData; rw [hp]; rfl
    · show (md.schema.map SchemaElement.norm).length = _
      rw [hmd, writerSchema_run]; simp
    · intro j c hj
      unfold logicalAt
      rw [getElement_nat]
      show ((md.schema.map SchemaElement.norm)[j + 1]?).map nodeLogicalType = _
      rw [hmd, writerSchema_run]
      simp only [List.map_cons, List.getElem?_cons_succ, List.getElem?_map, hj, Option.map_some]
      rw [show nodeLogicalType (SchemaElement.norm (writerElement c.element)) = normLogical c.logical from
        norm_writerElement_logical c]

-- non-vacuity: DECIMAL(9,2) column, a group, a column with {UNKNOWN}, a TIME(MICROS, utc) column, a plain one
def exCalls : List Impl.SchemaApi.Call :=
  [.column [0x61] 1 (some (.decimal 2 9)) 0 0, .group [0x67] 1, .column [0x62] 6 (some .unknown) 1 0,
   .column [0x63] 2 (some (.time true .micros)) 2 0, .column [0x64] 5 none 0 0]
example :
    (List.range 7).map (fun i => logicalAt (Builder.run exCalls).elements (i : Nat)) =
      [some none, some (some (.decimal 2 9)), some none, some (some .unknown), some (some (.time true .micros)), some none, none] ∧
    (writerSchema (Builder.run exCalls)).map (·.logicalType) = [none, some (.decimal 2 9), none, some (.time true .micros), none] ∧
    FileMetaData.wf { version := 2, schema := writerSchema (Builder.run exCalls), numRows := 0, rowGroups := [] } = true := by
  decide +kernel

end Carquet.Properties.C17
