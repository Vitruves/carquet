import Carquet.Impl.Arena
import Carquet.Impl.AllocFlow
import Carquet.Impl.AllocExt
import Carquet.Proofs.AllocArenaSeq
import Carquet.Proofs.AllocFlow
import Carquet.Proofs.AllocExt
import Carquet.Proofs.AllocReader
import Carquet.Properties.C19.Alloc
/-
C19 — allocation failure gives a clean error or a correct result: second wave (partial).

* carquet_arena: n-ary pairwise disjointness of a whole allocation sequence.
* metadata builders that carquet's own writer/reader pair never reaches (Bloom filter, statistics builder, page
  index builders, index serialisers): a refused request surfaces as an error; the index builders, whose pointer
  fields are tracked as null / live / dangling with a count of live blocks, never touch a freed block and release
  every block, whatever request is refused.  `checked = false` mirrors the code before F20h / F20i / F20j; the
  kernel-checked counterexamples are `C19_regression_F20h … F20j`.
* column reader, page by page (dictionary pages, several pages per chunk, carquet_column_skip): a page load
  succeeds exactly when none of its requests is refused; the counts returned by carquet_column_read_batch and
  carquet_column_skip are the truth about `values_remaining`, whatever is refused; and a read delivers everything
  asked for unless a request was refused.
-/
namespace Carquet.Properties.C19
open Carquet Carquet.Impl.Alloc
open Carquet.Impl.Alloc.Flow
open Carquet.Impl.Alloc.Ext

/-! ## carquet_arena: a whole allocation sequence -/

/-- Any sequence of `carquet_arena_alloc_aligned` requests (hence also `_alloc`, `_calloc`, `_strdup`, `_strndup`,
`_memdup`, which reduce to it) on a well-formed arena, under any oracle — granted and refused requests in any mix:
the pointers handed out are pairwise disjoint (two pointers into the same block: the earlier one ends before the
later one starts), each lies inside its block of the final arena at an address aligned as requested and answers a
non-empty request, and the final arena is well formed. -/
theorem C19_arena_alloc_sequence_disjoint (reqs : List Arena.Req) (ar : Arena.Arena) (o : Oracle) (hinv : Arena.Inv ar) :
    List.Pairwise (fun a b : Arena.Grant => a.block = b.block → a.off + a.size ≤ b.off) (Arena.allocSeq reqs ar o).1 ∧
    (∀ g ∈ (Arena.allocSeq reqs ar o).1, 0 < g.size ∧
        ∃ b : Arena.Block, (Arena.allocSeq reqs ar o).2.1.blocks[g.block]? = some b ∧ g.off + g.size ≤ b.size ∧
          (b.base + g.off) % Arena.effAlign g.align = 0) ∧
    Arena.Inv (Arena.allocSeq reqs ar o).2.1 := by
  obtain ⟨h1, _, h3, h4⟩ := Arena.allocSeq_spec reqs ar o hinv
  exact ⟨h4, fun g hg => ⟨(h3 g hg).2.2.1, (h3 g hg).2.2.2⟩, h1⟩

/-- non-vacuity: five requests on a fresh 64 KiB arena, the third refused (it needs a second block and the allocator
says no), the fourth served by a new block: four pointers, in two blocks -/
example : (Arena.allocSeq [⟨100, 16, 8⟩, ⟨65000, 1, 8⟩, ⟨5000, 8, 8⟩, ⟨5000, 8, 8⟩, ⟨7, 0, 8⟩]
      ⟨[⟨8, 65536, 0⟩], 0, 65536, 0, 65536⟩ [false]).1 =
    [⟨0, 8, 100, 16⟩, ⟨0, 108, 65000, 1⟩, ⟨1, 0, 5000, 8⟩, ⟨1, 5000, 7, 0⟩] := by decide

/-! ## Bloom filter, statistics builder, index serialisers -/

/-- A refused request during carquet_bloom_filter_create / _from_data / _read, carquet_statistics_builder_create,
carquet_statistics_build (after F20h) or carquet_column_index_serialize / carquet_offset_index_serialize (after F20j)
makes the call report an error (never a crash); a call that reports success has the fault-free result. -/
theorem C19_metadata_builders_propagate (ar : Option Arena.Arena) (minLen maxLen : Nat) (out : Buffer.Buf)
    (chunks : List (List UInt8)) :
    Clean bloomCreate ∧ Clean statsBuilderCreate ∧ Clean (statisticsBuild true ar minLen maxLen) ∧
    Clean (indexSerialize true out chunks) :=
  ⟨run_bloomCreate.clean, Run.clean (Q := fun _ => True) run_req, (run_statisticsBuild ar minLen maxLen).clean,
    (run_indexSerialize out chunks).clean⟩

/-- … in the property's own words, for the builder's result and the serialised index: -/
theorem C19_statistics_build_ok_is_complete (ar : Option Arena.Arena) (minLen maxLen : Nat) (o o' : Oracle)
    (r : Option Arena.Arena × BuiltStats) (h : statisticsBuild true ar minLen maxLen o = (.ok r, o')) :
    r.2 = ⟨decide (minLen > 0), decide (maxLen > 0)⟩ ∧ Granted o o' := by
  obtain ⟨g, ⟨hg, hr⟩, hc⟩ := (run_statisticsBuild ar minLen maxLen).post h
  exact ⟨hr, hc hg⟩

theorem C19_index_serialize_ok_is_complete (out : Buffer.Buf) (chunks : List (List UInt8)) (o o' : Oracle) (b : Buffer.Buf)
    (h : indexSerialize true out chunks o = (.ok b, o')) : b.data = out.data ++ chunks.flatten := by
  simp only [indexSerialize, if_true, encodeChecked] at h
  by_cases hs : ((Enc.init out).putAll chunks o).1.status = .ok
  · simp only [hs, if_true] at h
    have hb : b = ((Enc.init out).putAll chunks o).1.buf := by
      have := congrArg Prod.fst h; simp only [Except.ok.injEq] at this; exact this.symm
    rw [hb]
    exact (C19_thrift_latch (Enc.init out) chunks o).2.2 hs
  · simp [hs] at h

example : ∃ b, (indexSerialize true Buffer.init [[1], [2, 3]] [true]).1 = .ok b ∧ b.data = [1, 2, 3] := ⟨_, rfl, by decide⟩

/-- F20h regression: before the repair a refused copy of the maximum was silently left out and the build reported OK
(first line: the result has a minimum but no maximum); the repaired build reports OUT_OF_MEMORY. -/
theorem C19_regression_F20h :
    (match (statisticsBuild false none 8 8 (oneFail 2)).1 with | .ok r => r.2 == ⟨true, false⟩ | .error _ => false) = true ∧
    (match (statisticsBuild true none 8 8 (oneFail 2)).1 with | .ok _ => false | .error e => e == .oom) = true ∧
    (match (statisticsBuild true none 8 8 []).1 with | .ok r => r.2 == ⟨true, true⟩ | .error _ => false) = true := by
  decide

/-- F20j regression: before the repair the serialisers returned OK whatever happened to the encoder: with the first
append refused the index comes out without its first byte; the repaired serialiser reports the failure. -/
theorem C19_regression_F20j :
    (match (indexSerialize false Buffer.init [[0x19], [0x2c], [1, 2]] [false]).1 with
      | .ok b => b.data == [0x2c, 1, 2] | .error _ => false) = true ∧
    (match (indexSerialize true Buffer.init [[0x19], [0x2c], [1, 2]] [false]).1 with | .ok _ => false | .error e => e == .oom) = true := by
  decide

/-! ## page index builders: no freed block is touched, nothing is leaked -/

/-- The column index builder after F20i, for every sequence of pages, every oracle and every number `base` of blocks
that belong to someone else: `carquet_column_index_builder_create` yields NULL with nothing left allocated, or a
builder; adding pages until a call fails and then destroying the builder touches no freed block (`crashed = false`)
and releases every block (`liveBlocks = base`); a failing `add_page` leaves the pages as they were, a succeeding
one adds exactly one. -/
theorem C19_column_index_builder_safe (base : Nat) (o : Oracle) :
    (match colIdxCreate ⟨base, false⟩ o with
     | (some b, m, _) =>
        (∀ pgs o2, (colIdxSession true pgs b m o2).2.1 = ⟨base, false⟩) ∧
        (∀ hasMin hasMax o2,
          ((colIdxAddPage true b hasMin hasMax m o2).1 ≠ .ok → (colIdxAddPage true b hasMin hasMax m o2).2.1.pages = b.pages) ∧
          ((colIdxAddPage true b hasMin hasMax m o2).1 = .ok →
              (colIdxAddPage true b hasMin hasMax m o2).2.1.pages.length = b.pages.length + 1))
     | (none, m, _) => m = ⟨base, false⟩) := by
  have h := colIdxCreate_spec base o
  generalize colIdxCreate ⟨base, false⟩ o = r at h
  obtain ⟨ob, m, o'⟩ := r
  cases ob with
  | none => exact h
  | some b =>
    simp only at h ⊢
    exact ⟨fun pgs o2 => colIdxSession_safe pgs b m o2 base h.1,
           fun hasMin hasMax o2 => (colIdxAddPage_owned b hasMin hasMax m o2 base h.1).2⟩

/-- the same for the offset index builder (with and without the uncompressed sizes) -/
theorem C19_offset_index_builder_safe (track : Bool) (base : Nat) (o : Oracle) :
    (match offIdxCreate track ⟨base, false⟩ o with
     | (some b, m, _) => ∀ n o2, (offIdxSession true n b m o2).2.1 = ⟨base, false⟩
     | (none, m, _) => m = ⟨base, false⟩) := by
  have h := offIdxCreate_spec track base o
  generalize offIdxCreate track ⟨base, false⟩ o = r at h
  obtain ⟨ob, m, o'⟩ := r
  cases ob with
  | none => exact h
  | some b =>
    simp only at h ⊢
    exact fun n o2 => offIdxSession_safe n b m o2 base h.1

/-- non-vacuity, and the growth path is reached: 18 pages (the capacity is 16) with the second array of the growth
refused — the 17th add_page reports OUT_OF_MEMORY, and after destroy nothing is live and nothing was touched twice -/
example : (match colIdxCreate ⟨0, false⟩ [] with
    | (some b, m, _) =>
      (colIdxSession true (List.replicate 18 (true, true)) b m (failSet [34] 64)).1.length == 17 &&
      (colIdxSession true (List.replicate 18 (true, true)) b m (failSet [34] 64)).1.getLast? == some Status.oom &&
      (colIdxSession true (List.replicate 18 (true, true)) b m (failSet [34] 64)).2.1 == ⟨0, false⟩
    | _ => false) = true := by decide +kernel

/-- F20i regression: before the repair the same history — one refused realloc while the six arrays grow — leaves the
builder pointing at a block that realloc has already released: destroy frees it a second time (`crashed`), and the
blocks realloc had handed out are never released (five blocks stay live).  Offset index builder: the same (two blocks). -/
theorem C19_regression_F20i :
    (match colIdxCreate ⟨0, false⟩ [] with
     | (some b, m, _) => (colIdxSession false (List.replicate 18 (true, true)) b m (failSet [34] 64)).2.1 == ⟨5, true⟩
     | _ => false) = true ∧
    (match colIdxCreate ⟨0, false⟩ [] with
     | (some b, m, _) => (colIdxSession true (List.replicate 18 (true, true)) b m (failSet [34] 64)).2.1 == ⟨0, false⟩
     | _ => false) = true ∧
    (match offIdxCreate true ⟨0, false⟩ [] with
     | (some b, m, _) => (offIdxSession false 18 b m (failSet [2] 8)).2.1 == ⟨2, true⟩
     | _ => false) = true ∧
    (match offIdxCreate true ⟨0, false⟩ [] with
     | (some b, m, _) => (offIdxSession true 18 b m (failSet [2] 8)).2.1 == ⟨0, false⟩
     | _ => false) = true := by
  decide +kernel

/-! ## the column reader, page by page -/

/-- Loading a page (dictionary page first if the chunk has one — fixed width or BYTE_ARRAY, found through
dictionary_page_offset or at data_page_offset —, header window, compressed / decompressed copies, decode buffers,
dictionary indices, retired-page list; fread, mmap and buffer modes; zero-copy and standard branch): the load consumes
a prefix of the oracle and succeeds **iff** nothing in that prefix was refused; it never changes `values_remaining`;
and after a successful load the page is there with all its rows. -/
theorem C19_page_load_propagates (c : ChunkD) (p : PageD) (s : CR) (o : Oracle) :
    (loadPageD c p s o).2.1.remaining = s.remaining ∧
    (∃ pre : List Bool, o = pre ++ (loadPageD c p s o).2.2 ∧ ((loadPageD c p s o).1 = .ok ↔ ∀ b ∈ pre, b = true)) ∧
    ((loadPageD c p s o).1 = .ok →
        (loadPageD c p s o).2.1.loaded = true ∧ (loadPageD c p s o).2.1.pageRows = p.rows ∧ (loadPageD c p s o).2.1.pageRead = 0) :=
  ⟨(spec_loadPageD c p s o).1, (spec_loadPageD c p s o).2, post_loadPageD c p s o⟩

/-- a BYTE_ARRAY dictionary chunk read through fread: header window, compressed copy, dictionary copy, offset table,
page copy, three decode buffers, indices = 9 requests; refusing the 4th (the offset table) fails the load -/
example : (loadPageD ⟨.fread, false, false, true, true, false⟩ ⟨10, 7, true⟩ (CR.fresh 10) (List.replicate 12 true)).1 = .ok ∧
    (loadPageD ⟨.fread, false, false, true, true, false⟩ ⟨10, 7, true⟩ (CR.fresh 10) (List.replicate 12 true)).2.2.length = 3 ∧
    (loadPageD ⟨.fread, false, false, true, true, false⟩ ⟨10, 7, true⟩ (CR.fresh 10) (failSet [4] 12)).1 = .oom := by decide

/-- carquet_column_read_batch and carquet_column_skip over any number of pages, under every oracle — pages loaded, a
load refused after partial progress, an error before anything was delivered, the temporary buffer of skip refused:
the count returned (−1 counting as nothing) is exactly the amount by which `values_remaining` went down.  The reader
therefore stands where the caller was told it stands. -/
theorem C19_column_read_counts_are_true (c : ChunkD) (pages : List PageD) (s : CR) (n : Nat) (o : Oracle) :
    delivered (readBatch c pages s n o).1 + (readBatch c pages s n o).2.1.remaining = s.remaining ∧
    (skip c pages s n o).1 + (skip c pages s n o).2.1.remaining = s.remaining :=
  ⟨readBatch_conserves c pages s n o, skip_conserves c pages s n o⟩

/-- Partial progress only under refusal: if the loaded page and the pages to come hold exactly the values the chunk
still owes (`Covers`, true of a fresh reader of a well-formed chunk) and no request made during the call was refused,
carquet_column_read_batch delivers everything that was asked for (or everything that is left). -/
theorem C19_column_read_full_unless_refused (c : ChunkD) (pages : List PageD) (s : CR) (max : Nat) (o : Oracle)
    (hc : Covers pages s) :
    ∃ pre : List Bool, o = pre ++ (readBatch c pages s max o).2.2.2 ∧
      ((∀ b ∈ pre, b = true) → (readBatch c pages s max o).1 = some (min max s.remaining)) :=
  readBatch_full c pages s max o hc

/-- non-vacuity: a fresh reader of a three-page chunk is covered; a read of 25 rows across the pages delivers 25 when
nothing is refused, and 10 (the first page) when a request of the second page's load is refused -/
example : Covers [⟨10, 10, false⟩, ⟨10, 10, false⟩, ⟨10, 10, false⟩] (CR.fresh 30) ∧
    (readBatch ⟨.mmap, true, false, false, false, false⟩ [⟨10, 10, false⟩, ⟨10, 10, false⟩, ⟨10, 10, false⟩] (CR.fresh 30) 25 []).1 = some 25 ∧
    (readBatch ⟨.mmap, true, false, false, false, false⟩ [⟨10, 10, false⟩, ⟨10, 10, false⟩, ⟨10, 10, false⟩] (CR.fresh 30) 25 (oneFail 5)).1 = some 10 ∧
    (skip ⟨.mmap, true, false, false, false, false⟩ [⟨10, 10, false⟩, ⟨10, 10, false⟩, ⟨10, 10, false⟩] (CR.fresh 30) 25 (oneFail 1)).1 = 0 := by
  refine ⟨by unfold Covers; decide, by decide +kernel, by decide +kernel, by decide +kernel⟩

end Carquet.Properties.C19
