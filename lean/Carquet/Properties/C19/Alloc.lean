import Carquet.Impl.Buffer
import Carquet.Impl.Arena
import Carquet.Impl.AllocFlow
import Carquet.Proofs.AllocBuffer
import Carquet.Proofs.AllocArena
import Carquet.Proofs.AllocFlow
import Carquet.Proofs.AllocSchema
import Carquet.Proofs.AllocFlowClean
/-
C19 — allocation failure gives a clean error or a correct result (partial).

Property theorems about the Impl models of the allocation-bearing components, under an explicit
allocator oracle (`List Bool`, k-th request granted or refused; `[]` is the fault-free allocator).
What is proved is the propagation algebra of the modelled components: a refused request surfaces as
an error status, and a call that reports success has the effect of the fault-free run.  Crash-,
leak- and use-after-free-freedom of the whole C API under every single failure is *explored* by
fault enumeration in the correspondence harness (harness/ops_alloc.c), not proved here.

`…PreFix` / `checked = false` models mirror the code before the F20 repairs (fixes/F20*.patch); their
kernel-checked counterexamples are the `C19_regression_F20*` theorems.
-/
namespace Carquet.Properties.C19
open Carquet Carquet.Impl.Alloc
open Carquet.Impl.Alloc.Buffer (Buf)
open Carquet.Impl.Alloc.Flow

/-! ## carquet_buffer -/

/-- `size ≤ capacity` always: it holds for a fresh, a wrapped and a destroyed buffer and is preserved by
every operation sequence under every oracle. -/
theorem C19_buffer_inv :
    Buffer.Inv Buffer.init ∧ (∀ bytes nn, Buffer.Inv (Buffer.initWrap bytes nn)) ∧
    ∀ (ops : List Buffer.Op) (b : Buf) (o : Oracle), Buffer.Inv b → Buffer.Inv (Buffer.run ops b o).2.1 :=
  ⟨by decide, fun _ _ => Nat.le_refl _, fun ops b o h => Buffer.run_inv ops b o h⟩

example : (Buffer.run [.append [1, 2, 3], .reserve 5000, .shrink, .resize 7] Buffer.init [true, false, true]).2.1.size = 7 := by decide

/-- A failed reserve / append / advance / resize returns OUT_OF_MEMORY and leaves contents, size,
capacity and ownership exactly as they were. -/
theorem C19_buffer_failed_append_unchanged (b : Buf) (bytes : List UInt8) (n : Nat) (o : Oracle) :
    ((Buffer.append b bytes o).1 ≠ .ok → (Buffer.append b bytes o).1 = .oom ∧ (Buffer.append b bytes o).2.1 = b) ∧
    ((Buffer.reserve b n o).1 ≠ .ok → (Buffer.reserve b n o).1 = .oom ∧ (Buffer.reserve b n o).2.1 = b) ∧
    ((Buffer.advance b bytes o).1 ≠ .ok → (Buffer.advance b bytes o).1 = .oom ∧ (Buffer.advance b bytes o).2.1 = b) ∧
    ((Buffer.resize b n o).1 ≠ .ok → (Buffer.resize b n o).1 = .oom ∧ (Buffer.resize b n o).2.1 = b) := by
  refine ⟨?_, ?_, ?_, ?_⟩
  · intro h; rcases Buffer.append_spec b bytes o with ⟨h1, _⟩ | h1
    · exact absurd h1 h
    · exact h1
  · intro h; rcases Buffer.ensureCapacity_spec b n o with ⟨h1, _⟩ | h1
    · exact absurd h1 h
    · exact h1
  · intro h; rcases Buffer.advance_spec b bytes o with ⟨h1, _⟩ | h1
    · exact absurd h1 h
    · exact h1
  · intro h; rcases Buffer.resize_spec b n o with ⟨h1, _⟩ | h1
    · exact absurd h1 h
    · exact h1

example : (Buffer.append Buffer.init [1, 2, 3] [false]).1 = .oom ∧ (Buffer.append Buffer.init [1, 2, 3] [false]).2.1 = Buffer.init := by decide

/-- A successful append adds exactly the bytes at the end, never shrinks the capacity and keeps `size ≤ capacity`. -/
theorem C19_buffer_append_ok_content (b : Buf) (bytes : List UInt8) (o : Oracle)
    (h : (Buffer.append b bytes o).1 = .ok) :
    (Buffer.append b bytes o).2.1.data = b.data ++ bytes ∧
    b.capacity ≤ (Buffer.append b bytes o).2.1.capacity ∧
    (Buffer.Inv b → Buffer.Inv (Buffer.append b bytes o).2.1) := by
  rcases Buffer.append_spec b bytes o with ⟨_, h2, h3, h4⟩ | ⟨h1, _⟩
  · exact ⟨h2, h3, h4⟩
  · rw [h1] at h; cases h

example : (Buffer.append (Buffer.append Buffer.init [1, 2] []).2.1 [3] []).2.1.data = [1, 2, 3] := by decide

/-! ## carquet_arena -/

/-- Two successive successful allocations on a well-formed arena: each lies inside its block, is
aligned as requested (absolute address), and if both come from the same block they do not overlap
(the second starts at or after the end of the first).  The block geometry (base, size) is unchanged. -/
theorem C19_arena_alloc_disjoint_in_block (ar : Arena.Arena) (hinv : Arena.Inv ar)
    (s1 a1 nb1 s2 a2 nb2 : Nat) (o : Oracle) (i off1 j off2 : Nat) (ar1 ar2 : Arena.Arena) (o1 o2 : Oracle)
    (h1 : Arena.allocAligned ar s1 a1 nb1 o = (some (i, off1), ar1, o1))
    (h2 : Arena.allocAligned ar1 s2 a2 nb2 o1 = (some (j, off2), ar2, o2)) :
    (i = j → off1 + s1 ≤ off2) ∧
    (∃ b : Arena.Block, ar2.blocks[i]? = some b ∧ off1 + s1 ≤ b.size ∧ (b.base + off1) % Arena.effAlign a1 = 0) ∧
    (∃ b : Arena.Block, ar2.blocks[j]? = some b ∧ off2 + s2 ≤ b.size ∧ (b.base + off2) % Arena.effAlign a2 = 0) ∧
    0 < s1 ∧ 0 < s2 ∧ Arena.Inv ar2 := by
  have sp1 := Arena.allocAligned_spec ar s1 a1 nb1 o hinv
  rw [h1] at sp1
  obtain ⟨hs1, ok1⟩ := sp1
  have sp2 := Arena.allocAligned_spec ar1 s2 a2 nb2 o1 ok1.inv
  rw [h2] at sp2
  obtain ⟨hs2, ok2⟩ := sp2
  refine ⟨?_, ?_, ok2.inBlock, hs1, hs2, ok2.inv⟩
  · intro hij; subst hij
    have := ok2.lower; rw [ok1.upper] at this; exact this
  · obtain ⟨b1, hb1, hsz, hal⟩ := ok1.inBlock
    obtain ⟨b2, hb2, hbase, hsize⟩ := ok2.geometry i b1 hb1
    exact ⟨b2, hb2, by rw [hsize]; exact hsz, by rw [hbase]; exact hal⟩

example : ∃ ar o, Arena.initSize 4096 8 [] = (some ar, o) ∧ Arena.Inv ar ∧
    (Arena.allocAligned ar 10 16 8 o).1 = some (0, 8) ∧
    (Arena.allocAligned (Arena.allocAligned ar 10 16 8 o).2.1 5 1 8 o).1 = some (0, 18) := by
  refine ⟨_, _, rfl, ?_, by decide, by decide⟩
  exact ⟨by decide, by decide⟩

/-- A failed arena allocation (NULL) leaves the arena exactly as it was. -/
theorem C19_arena_failed_alloc_unchanged (ar : Arena.Arena) (hinv : Arena.Inv ar) (size align nb : Nat) (o : Oracle)
    (h : (Arena.allocAligned ar size align nb o).1 = none) : (Arena.allocAligned ar size align nb o).2.1 = ar :=
  Arena.alloc_none_unchanged ar size align nb o hinv h

example : (Arena.allocAligned ⟨[⟨8, 65536, 65530⟩], 0, 65536, 65530, 65536⟩ 100 16 8 [false]).1 = none := by decide

/-! ## schema builder -/

/-- carquet_schema_add_column under every oracle, on a schema satisfying the builder's invariant:
the invariant is kept; a failing call reports OUT_OF_MEMORY and leaves elements and leaves as they
were (the capacity may have grown); a succeeding call appends exactly one element and one leaf entry
and keeps everything before it — and, in the repaired code, the new element carries its name. -/
theorem C19_schema_growth_preserves (checked : Bool) (s : Schema) (name : List UInt8) (rep : Nat) (o : Oracle)
    (hinv : SchemaInv s) :
    SchemaInv (schemaAddColumnS checked s name rep o).2.1 ∧
    ((schemaAddColumnS checked s name rep o).1 ≠ .ok →
        (schemaAddColumnS checked s name rep o).1 = .oom ∧
        (schemaAddColumnS checked s name rep o).2.1.elems = s.elems ∧
        (schemaAddColumnS checked s name rep o).2.1.leaves = s.leaves ∧
        s.capacity ≤ (schemaAddColumnS checked s name rep o).2.1.capacity) ∧
    ((schemaAddColumnS checked s name rep o).1 = .ok →
        ∃ nm, (schemaAddColumnS checked s name rep o).2.1.elems = s.elems ++ [⟨nm, rep⟩] ∧
          (schemaAddColumnS checked s name rep o).2.1.leaves = s.leaves ++ [(s.elems.length, maxDefOf rep, maxRepOf rep)] ∧
          (checked = true → nm = some name)) :=
  addColumnS_spec checked s name rep o hinv

/-- a fresh schema (what carquet_schema_create returns) satisfies the invariant, and growth is reachable:
the 64th added column makes the four arrays double -/
example : ∃ s o, schemaCreate true [] = (.ok s, o) ∧ SchemaInv s := ⟨_, _, rfl, by decide⟩

/-! ## Thrift encoder latch -/

/-- Any failed append → the encoder's final status is not OK (and an encoder that starts in error stays in error);
conversely the status is OK only if every single append succeeded. -/
theorem C19_thrift_latch (e : Enc) (chunks : List (List UInt8)) (o : Oracle) :
    ((∃ s ∈ (e.putAll chunks o).2.2, s ≠ .ok) → (e.putAll chunks o).1.status ≠ .ok) ∧
    (e.status ≠ .ok → (e.putAll chunks o).1.status ≠ .ok) ∧
    ((e.putAll chunks o).1.status = .ok → (e.putAll chunks o).1.buf.data = e.buf.data ++ chunks.flatten) := by
  refine ⟨?_, ?_, ?_⟩
  · rintro ⟨s, hs, hne⟩ hok
    exact hne (((putAll_status e chunks o).mp hok).2 s hs)
  · intro hne hok
    exact hne ((putAll_status e chunks o).mp hok).1
  · intro hok
    induction chunks generalizing e o with
    | nil => simp [Enc.putAll]
    | cons c cs ih =>
      have hst := (putAll_status e (c :: cs) o).mp hok
      rw [putAll_cons] at hok hst ⊢
      simp only at hok hst ⊢
      have hput : (Buffer.append e.buf c o).1 = .ok := hst.2 _ List.mem_cons_self
      rw [ih (e.put c o).1 (e.put c o).2.1 hok]
      have : (e.put c o).1.buf.data = e.buf.data ++ c := (C19_buffer_append_ok_content e.buf c o hput).1
      simp [this]

example : ((Enc.init Buffer.init).putAll [[1], [2, 3], [4]] [false]).1.status = .oom ∧
    ((Enc.init Buffer.init).putAll [[1], [2, 3], [4]] [false]).1.buf.data = [2, 3, 4] := by decide

/-! ## page builder -/

/-- Any refused request (= failed append or failed malloc) during add_values / encode_levels / finalize of
the repaired page builder → the call's status is an error (and not a crash). -/
theorem C19_page_builder_propagates (P : Payload) (w : PageWriter) (o o' : Oracle) :
    (∀ rows d r vc res, pageAddValues w rows d r vc o = (res, o') → Refused o o' → ∃ e, res = .error e ∧ e ≠ .crash) ∧
    (∀ raw maxLevel out res, encodeLevels P raw maxLevel out o = (res, o') → Refused o o' → ∃ e, res = .error e ∧ e ≠ .crash) ∧
    (∀ res, pageFinalize P w o = (res, o') → Refused o o' → ∃ e, res = .error e ∧ e ≠ .crash) :=
  ⟨fun rows d r vc _ h hr => (run_pageAddValues w rows d r vc).clean.refused h hr,
   fun raw ml out _ h hr => (run_encodeLevels P raw ml out).clean.refused h hr,
   fun _ h hr => (run_pageFinalize P w).clean.refused h hr⟩

/-- a small concrete page builder used by the examples and regression witnesses -/
def demoPayload : Payload where
  rle := fun _ raw => [[UInt8.ofNat raw.length], [0xAA]]
  packBool := fun b => b
  compress := fun _ b => b
  bound := fun _ n => n
  header := fun unc cmp _ => [[0x15], [UInt8.ofNat unc], [0x15], [UInt8.ofNat cmp], [0]]

def demoWriter : PageWriter :=
  ⟨⟨[1, 2, 3, 4], 4096, true, true⟩, ⟨[1, 0, 0, 0], 4096, true, true⟩, Buffer.init, Buffer.init, 1, 0, false, 0, 2⟩

def okPage (r : Except Fault (PageWriter × List UInt8) × Oracle) : Option (List UInt8) :=
  match r.1 with
  | .ok x => some x.2
  | .error _ => none

def outcome (r : Except Fault α) : Nat :=
  match r with
  | .ok _ => 0
  | .error .oom => 1
  | .error .other => 2
  | .error .crash => 3

/-- non-vacuity: the third request of this finalize is refused, and the repaired finalize reports OOM -/
example : outcome (pageFinalize demoPayload demoWriter [true, true, false]).1 = 1 ∧
    Refused [true, true, false] (pageFinalize demoPayload demoWriter [true, true, false]).2 := by
  refine ⟨by decide, [true, true, false], by decide, by decide⟩

/-- F20b/F20c regression: before the repair a refused request inside encode_levels is swallowed — finalize
reports OK and hands out a page whose level block lost its first RLE byte (2nd request refused) or its 4-byte
length prefix (3rd request refused); the fault-free page is the last one. -/
theorem C19_regression_F20b :
    okPage (pageFinalizePreFix demoPayload demoWriter (oneFail 2)) =
      some [0x15, 9, 0x15, 9, 0, 1, 0, 0, 0, 0xAA, 1, 2, 3, 4] ∧
    okPage (pageFinalizePreFix demoPayload demoWriter (oneFail 3)) =
      some [0x15, 6, 0x15, 6, 0, 4, 0xAA, 1, 2, 3, 4] ∧
    okPage (pageFinalizePreFix demoPayload demoWriter []) =
      some [0x15, 10, 0x15, 10, 0, 2, 0, 0, 0, 4, 0xAA, 1, 2, 3, 4] ∧
    okPage (pageFinalize demoPayload demoWriter []) = okPage (pageFinalizePreFix demoPayload demoWriter []) ∧
    outcome (pageFinalize demoPayload demoWriter (oneFail 2)).1 = 1 ∧
    outcome (pageFinalize demoPayload demoWriter (oneFail 3)).1 = 1 := by
  decide +kernel

/-- F20b regression, header latch: a refused request while the Thrift page header is written used to be ignored
(the page came out without its first header byte); the repaired finalize returns OOM for the same oracle. -/
theorem C19_regression_F20b_header :
    okPage (pageFinalizePreFix demoPayload demoWriter (oneFail 5)) =
      some [10, 0x15, 10, 0, 2, 0, 0, 0, 4, 0xAA, 1, 2, 3, 4] ∧
    outcome (pageFinalize demoPayload demoWriter (oneFail 5)).1 = 1 := by
  decide +kernel

/-! ## success means same effect -/

/-- Every repaired flow, under every oracle (in particular under `oneFail k` for every k): a run that reports
success has exactly the result of the fault-free run, and no run dereferences NULL.
Flows: schema build; add_values / finalize of the page builder; the whole write path
create → write_batch… → new_row_group → close; open (+ metadata parse, schema build) in every I/O mode;
get_column; page load and column read; one batch of the batch reader. -/
theorem C19_success_means_same_effect
    (P : Payload) (S : Sizes) (footer : FileMeta → List (List UInt8)) :
    (∀ cols, SameEffect (schemaBuild true cols) ∧ NoCrash (schemaBuild true cols)) ∧
    (∀ w rows d r vc, SameEffect (pageAddValues w rows d r vc)) ∧
    (∀ w, SameEffect (pageFinalize P w) ∧ NoCrash (pageFinalize P w)) ∧
    (∀ codec target cols groups,
        SameEffect (writeFile true pageFinalize P S footer codec target cols groups) ∧
        NoCrash (writeFile true pageFinalize P S footer codec target cols groups)) ∧
    (∀ want f leaves,
        (∀ o r o', readerOpen true S want f leaves o = (.ok r, o') → r.md = fullMeta f) ∧
        NoCrash (readerOpen true S want f leaves)) ∧
    (∀ mode cr p (vals : List UInt8), SameEffect (readColumn true mode cr p vals) ∧ NoCrash (readColumn true mode cr p vals)) ∧
    (∀ mode (cols : List (Bool × PageShape × List UInt8)),
        (∀ o outs o', batchNext true mode cols o = (.ok outs, o') → outs = cols.map (fun c => ⟨c.2.2, true, c.1⟩)) ∧
        NoCrash (batchNext true mode cols)) := by
  have same : ∀ {α} {m : M α} {Q : α → Prop}, Strict m Q → SameEffect m ∧ NoCrash m :=
    fun h => ⟨h.clean.faithful.sameEffect, h.2⟩
  refine ⟨fun cols => same (run_schemaBuild cols), fun w rows d r vc => (same (run_pageAddValues w rows d r vc)).1,
    fun w => same (run_pageFinalize P w), fun codec target cols groups => same (run_writeFile run_pageFinalize ..),
    fun want f leaves => ⟨fun o r o' h => ?_, (run_readerOpen S want f leaves).2⟩,
    fun mode cr p vals => same (run_readColumn mode cr p vals),
    fun mode cols => ⟨fun o outs o' h => ?_, (run_batchNext mode cols).2⟩⟩
  · obtain ⟨_, hq, -⟩ := (run_readerOpen S want f leaves).post h; exact hq.1
  · obtain ⟨_, hq, -⟩ := (run_batchNext mode cols).post h; exact hq

/-- The same in the property's own words for a single failure: if the k-th request is the only one refused and
the write path still reports OK, the file is the fault-free file. -/
theorem C19_success_means_same_effect_single_failure
    (P : Payload) (S : Sizes) (footer : FileMeta → List (List UInt8)) (codec target : Nat) (cols : List ColDef)
    (groups : List (List Batch)) (k : Nat) (out out0 : List UInt8 × FileMeta) (o' o0 : Oracle)
    (hk : writeFile true pageFinalize P S footer codec target cols groups (oneFail k) = (.ok out, o'))
    (h0 : writeFile true pageFinalize P S footer codec target cols groups [] = (.ok out0, o0)) : out = out0 :=
  (C19_success_means_same_effect P S footer).2.2.2.1 codec target cols groups |>.1 _ _ _ hk _ _ h0

/-- In the write path a refused request is never absorbed: it always surfaces as an error status. -/
theorem C19_write_path_propagates
    (P : Payload) (S : Sizes) (footer : FileMeta → List (List UInt8)) (codec target : Nat) (cols : List ColDef)
    (groups : List (List Batch)) (o o' : Oracle) (res : Except Fault (List UInt8 × FileMeta))
    (h : writeFile true pageFinalize P S footer codec target cols groups o = (res, o')) (hr : Refused o o') :
    ∃ e, res = .error e ∧ e ≠ .crash :=
  (run_writeFile (fin := pageFinalize) run_pageFinalize P S footer codec target cols groups).clean.refused h hr

/-- non-vacuity of the write path: a one-column, one-batch file is written (fault-free run succeeds), and
failing its 7th request makes the run report OOM. -/
def demoCols : List ColDef := [⟨[99], 0, 0, false⟩]
def demoGroups : List (List Batch) := [[⟨1, .absent [0, 0] 1, .absent [0, 0] 1, [[7, 0, 0, 0]]⟩]]
def demoFooter : FileMeta → List (List UInt8) := fun m => [[UInt8.ofNat m.rowGroups.length]]

example : outcome (writeFile true pageFinalize demoPayload {} demoFooter 0 1048576 demoCols demoGroups []).1 = 0 ∧
    outcome (writeFile true pageFinalize demoPayload {} demoFooter 0 1048576 demoCols demoGroups (oneFail 7)).1 = 1 := by
  decide +kernel

/-! ## regression witnesses for the other F20 sites (code before the repair) -/

/-- an arena whose only block has 6 bytes left -/
def fullArena : Arena.Arena := ⟨[⟨8, 65536, 65530⟩], 0, 65536, 65530, 65536⟩

def demoFooterShape : FooterShape := ⟨[[115], [99]], [[⟨2, [[99]]⟩]], some [67]⟩

/-- F20a: parsing a footer when the arena needs a new block and malloc refuses: the unchecked list allocation is
dereferenced (crash); the repaired parser returns OUT_OF_MEMORY. -/
theorem C19_regression_F20a :
    outcome (parseFileMetadata false {} fullArena demoFooterShape [false]).1 = 3 ∧
    outcome (parseFileMetadata true {} fullArena demoFooterShape [false]).1 = 1 := by decide

/-- F20a (strings): a failed name copy used to yield a NULL name with status OK. -/
theorem C19_regression_F20a_strings :
    (match (strAlloc false fullArena [1, 2, 3, 4, 5, 6, 7, 8] [false]).1 with | .ok r => r.2 == none | .error _ => false) = true ∧
    outcome (strAlloc true fullArena [1, 2, 3, 4, 5, 6, 7, 8] [false]).1 = 1 := by decide

/-- F20c: the RLE encoder dropped the status of its appends: first chunk lost, result OK. -/
theorem C19_regression_F20c :
    (match (rleEncodeAllPreFix [[3], [0xAA]] [false]).1 with | .ok b => b.data == [0xAA] | .error _ => false) = true ∧
    outcome (rleEncodeAll [[3], [0xAA]] [false]).1 = 1 := by decide

/-- F20d: zero-copy page load, level buffers unchecked: memset through NULL. -/
theorem C19_regression_F20d :
    outcome (loadPage false .mmap ⟨0, false⟩ ⟨10, false, true, false⟩ [false]).1 = 3 ∧
    outcome (loadPage true .mmap ⟨0, false⟩ ⟨10, false, true, false⟩ [false]).1 = 1 := by decide

/-- F20e: batch reader — a refused def_levels malloc used to produce a batch that reports OK with the nulls lost
(and a refused bitmap calloc one without a bitmap); the repaired code fails the batch. -/
theorem C19_regression_F20e :
    (match (batchColumn false .fread true [] (⟨0, false⟩, ⟨10, false, false, false⟩, [1, 2, 3]) (oneFail 7)).1 with
      | .ok outs => outs == [⟨[1, 2, 3], true, false⟩] | .error _ => false) = true ∧
    (match (batchColumn false .fread true [] (⟨0, false⟩, ⟨10, false, false, false⟩, [1, 2, 3]) (oneFail 6)).1 with
      | .ok outs => outs == [⟨[1, 2, 3], false, false⟩] | .error _ => false) = true ∧
    outcome (batchColumn true .fread true ([] : List (ColumnOut (List UInt8))) (⟨0, false⟩, ⟨10, false, false, false⟩, [1, 2, 3]) (oneFail 7)).1 = 2 ∧
    outcome (batchColumn true .fread true ([] : List (ColumnOut (List UInt8))) (⟨0, false⟩, ⟨10, false, false, false⟩, [1, 2, 3]) (oneFail 6)).1 = 2 ∧
    -- a refused request during the ignored prefetch is absorbed: the batch still succeeds, with the right content
    (match (batchColumn true .fread true [] (⟨0, false⟩, ⟨10, false, false, false⟩, [1, 2, 3]) (oneFail 2)).1 with
      | .ok outs => outs == [⟨[1, 2, 3], true, true⟩] | .error _ => false) = true := by
  decide +kernel

/-- F20f: schema builder — a refused name copy used to leave a NULL name with status OK. -/
theorem C19_regression_F20f :
    ((schemaAddColumnS false ⟨fullArena, [⟨some rootName, 0⟩], [], 64, 64, 64, 64, 64⟩ [1, 2, 3, 4, 5, 6, 7, 8] 0 [false]).1 = .ok ∧
     (schemaAddColumnS false ⟨fullArena, [⟨some rootName, 0⟩], [], 64, 64, 64, 64, 64⟩ [1, 2, 3, 4, 5, 6, 7, 8] 0 [false]).2.1.elems =
        [⟨some rootName, 0⟩, ⟨none, 0⟩]) ∧
    (schemaAddColumnS true ⟨fullArena, [⟨some rootName, 0⟩], [], 64, 64, 64, 64, 64⟩ [1, 2, 3, 4, 5, 6, 7, 8] 0 [false]).1 = .oom := by
  decide +kernel

/-- F20g: writer metadata — a refused `encodings` allocation in flush_row_group used to be stored as NULL and
dereferenced when the footer is serialised (crash at close); the repaired close returns OUT_OF_MEMORY. -/
theorem C19_regression_F20g :
    (match (chunkMeta false {} (fullArena, []) (some [99], 10) [false]).1 with
      | .ok r => r.2 == [⟨some [99], false, 10⟩] | .error _ => false) = true ∧
    outcome (chunkMeta true {} (fullArena, []) (some [99], 10) [false]).1 = 1 ∧
    footerDerefOk ⟨true, [], [[⟨some [99], false, 10⟩]]⟩ = false := by decide +kernel

end Carquet.Properties.C19
