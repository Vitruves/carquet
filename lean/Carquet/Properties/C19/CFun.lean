import Carquet.Impl.CSem
import Carquet.Impl.Buffer
import Carquet.Impl.Arena
import Carquet.Gen.CFun
import Carquet.Proofs.CFun.C19
import Carquet.Proofs.CFun.Basic
/-
C19 — link theorems between the size helpers of src/core/buffer.c and src/core/arena.c as translated from the
CURRENT source (`Carquet.Gen.CFun`, regenerated on every run) and the models the C19 theorems are about
(`Impl.Alloc.Buffer.nextPow2`, `Impl.Alloc.Arena.alignUp`).  Both models are on unbounded `Nat`; the hypotheses say
exactly where the 64-bit C arithmetic does not wrap (Impl/Buffer.lean states the same assumption: sizes below 2^63).
-/
namespace Carquet.Properties.C19
open Carquet Carquet.Impl

/-- `next_power_of_two(n)` is the model's `nextPow2 n` for every `n ≤ 2^63`.  (For larger `n` the C function
returns 0 — the `+ 1` wraps — while the model returns 2^64: see the example below.) -/
theorem C19_cfun_next_power_of_two (n : BitVec 64) (h : n.toNat ≤ 2 ^ 63) :
    (Gen.CFun.next_power_of_two n).toNat = Impl.Alloc.Buffer.nextPow2 n.toNat := by
  obtain ⟨x, hx, e⟩ := Proofs.CFun.C19.next_power_of_two_smear n
  rw [e, Impl.Alloc.Buffer.nextPow2]
  by_cases h0 : n = 0#64
  · subst h0; rfl
  · have hn : n.toNat ≠ 0 := fun h' => h0 (BitVec.eq_of_toNat_eq h')
    have h1 : (n - 1#64).toNat = n.toNat - 1 := Proofs.CFun.toNat_sub_one (w := 63) n h0
    have h2 := Proofs.CFun.C19.smear_lt (n.toNat - 1) 63 (by omega)
    simp only [beq_iff_eq, h0, if_false, hn, BitVec.toNat_add, hx, h1]
    simp only [BitVec.toNat_ofNat]
    omega

theorem C19_cfun_next_power_of_two_defined (n : BitVec 64) : Gen.CFun.next_power_of_two_defined n = true := by
  simp [Gen.CFun.next_power_of_two_defined]

example : (1000#64).toNat ≤ 2 ^ 63 ∧ (Gen.CFun.next_power_of_two 1000#64).toNat = 1024 ∧
    Impl.Alloc.Buffer.nextPow2 1000 = 1024 := by decide

/-- outside the hypothesis the two differ: the C function wraps to 0 -/
example : (Gen.CFun.next_power_of_two (BitVec.ofNat 64 (2 ^ 63 + 1))).toNat = 0 ∧
    Impl.Alloc.Buffer.nextPow2 (2 ^ 63 + 1) = 2 ^ 64 := by decide

/-- `align_up(value, alignment)` is the model's `alignUp` for every power-of-two alignment `2^k`, `k < 64`, as long
as `value + alignment - 1` fits a `size_t` (the only call site passes `CARQUET_ARENA_DEFAULT_BLOCK_SIZE`). -/
theorem C19_cfun_align_up (value : BitVec 64) (k : Nat) (hk : k < 64) (h : value.toNat + 2 ^ k - 1 < 2 ^ 64) :
    (Gen.CFun.align_up value (BitVec.ofNat 64 (2 ^ k))).toNat = Impl.Alloc.Arena.alignUp value.toNat (2 ^ k) := by
  have hpos : 0 < 2 ^ k := Nat.two_pow_pos k
  rw [Gen.CFun.align_up, Impl.Alloc.Arena.alignUp, Proofs.CFun.C19.and_not_low _ k hk, BitVec.sub_eq_add_neg,
    BitVec.add_assoc, ← BitVec.sub_eq_add_neg, BitVec.toNat_add, Proofs.CFun.C19.pow_sub_one_toNat k hk, ← Nat.add_sub_assoc hpos, Nat.mod_eq_of_lt h]

theorem C19_cfun_align_up_defined (value alignment : BitVec 64) :
    Gen.CFun.align_up_defined value alignment = true := by
  simp [Gen.CFun.align_up_defined]

example : (16 : Nat) < 64 ∧ (70000#64).toNat + 2 ^ 16 - 1 < 2 ^ 64 ∧
    (Gen.CFun.align_up 70000#64 (BitVec.ofNat 64 (2 ^ 16))).toNat = 131072 ∧
    Impl.Alloc.Arena.alignUp 70000 (2 ^ 16) = 131072 := by decide

end Carquet.Properties.C19
