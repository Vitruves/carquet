import Carquet.Properties.C06.SpecFileFull
import Carquet.Proofs.SpecFileLogical
/-
C06 — the REFERENCE WRITER states logical types: `Spec.File.write` emits, for every schema element whose
`Info.logicalType` is set, SchemaElement field 10 = the LogicalType union value that states the annotation
(`Spec.File.annotationTV`: one member, every REQUIRED field of DecimalType / TimeType / TimestampType /
IntType), and `C06_reference_selfconsistent` — unchanged in its statement — says the independent reader reads
the table back, schema annotations included (`Table` equality covers `Info.logicalType`).  This file gives the
instance with a DECIMAL(9, 0) and a TIMESTAMP column; nothing else is needed.  Statements only.
-/
namespace Carquet.Properties.C06
open Carquet.Spec Carquet.Spec.File Carquet.Spec.Thrift

/-- **The LogicalType union round-trips**: the union value that states an annotation (what the reference writer
puts into field 10) is complete per parquet.thrift, and the independent reader reads exactly that annotation
from it — for every annotation, any scale / precision / bit width. -/
theorem C06_logical_type_roundtrip (a : Schema.Annotation) :
    ∃ fs, annotationTV a = .struct fs ∧ logicalTypeOf fs = .ok (some a) ∧ logicalTypeComplete fs = true := by
  obtain ⟨fs, h1, h2⟩ := Carquet.Proofs.SpecFile.logicalTypeOf_TV a
  obtain ⟨fs', h1', h3⟩ := Carquet.Proofs.SpecFile.annotationTV_complete a
  rw [h1] at h1'
  cases h1'
  exact ⟨fs, h1, h2, h3⟩

/-- **A schema element round-trips with its annotation**, also with unknown fields merged in: the SchemaElement
value the reference writer emits for `e` (name, repetition, type, type length, children, converted type AND logical
type) is read back as `e`. -/
theorem C06_schema_element_roundtrip (e : Schema.Element) (extra : Fields)
    (h : extrasOk Spec.ParquetThrift.schemaElement extra = true) :
    (match schemaElementTV e extra with
     | .struct fs => schemaElementOf fs
     | _ => .error .footerNotThrift) = .ok e := by
  show schemaElementOf (withExtras (Carquet.Proofs.SpecFile.seFields e) extra) = _
  rw [Carquet.Proofs.SpecFile.schemaElementOf_we _ _ h, Carquet.Proofs.SpecFile.schemaElementOf_seFields]

namespace LgEx

/-- optional INT32 `price` DECIMAL(scale 0, precision 9), with a null; required INT64 `ts` TIMESTAMP(UTC, MICROS);
an optional group `g` annotated LIST around a repeated BYTE_ARRAY `tags` annotated STRING -/
def schema : Schema.Node :=
  .group ⟨"schema", none, none, 0, none, none⟩
    [.leaf ⟨"price", some .optional, some 1, 0, none, some (.decimal 0 9)⟩,
     .leaf ⟨"ts", some .required, some 2, 0, none, some (.timestamp true .micros)⟩,
     .group ⟨"g", some .optional, none, 0, some 3, some .list⟩ [.leaf ⟨"tags", some .repeated, some 6, 0, none, some .string⟩]]

def table : Table :=
  ⟨schema, [⟨[[⟨0, 1, some [1, 0, 0, 0]⟩, ⟨0, 0, none⟩], [⟨0, 0, some [1, 0, 0, 0, 0, 0, 0, 0]⟩, ⟨0, 0, some [2, 0, 0, 0, 0, 0, 0, 0]⟩],
             [⟨0, 2, some [0x61]⟩, ⟨1, 2, some []⟩, ⟨0, 0, none⟩]]⟩]⟩

def layout : Layout :=
  { rowGroups := [[{ pages := [{ count := 2, defRuns := [.rle 1 1, .rle 1 0], stats := { nullCount := true, minMaxValue := true } }] },
                   { pages := [{ count := 2, crc := true }] },
                   { pages := [{ count := 3, repRuns := [.rle 1 0, .rle 1 1, .rle 1 0], defRuns := [.rle 2 2, .rle 1 0] }] }]],
    form := { fieldForm := 2, listForm := 1 }, createdBy := some [0x4c], schemaExtra := [(25, .i16 7)] }

end LgEx

/-- every hypothesis of `C06_reference_selfconsistent` holds of the instance (evaluated by the kernel) -/
theorem C06_logical_instance_hyp : selfConsistencyHyp LgEx.table LgEx.layout = true := by decide +kernel

/-- the theorem applied: the independent reader reads the reference-written file back — the table, with the
DECIMAL, TIMESTAMP, LIST and STRING annotations (and the converted type LIST of the group) in its schema -/
example : Spec.File.read (write LgEx.table LgEx.layout) (oracle := writeOracle LgEx.table LgEx.layout) = .ok LgEx.table :=
  C06_reference_selfconsistent_checked LgEx.table LgEx.layout C06_logical_instance_hyp

/-- the annotations of the columns, in column order -/
example : (Schema.leafInfos LgEx.table.schema).map (·.logicalType) =
    [some (.decimal 0 9), some (.timestamp true .micros), some .string] := by decide

/-- field 10 of the SchemaElement the reference writer emits for `price`: member 5 with scale and precision -/
example : field? (match schemaElementTV ⟨⟨"price", some .optional, some 1, 0, none, some (.decimal 0 9)⟩, 0⟩ [] with
                  | .struct fs => fs | _ => []) 10 = some (.struct [(5, .struct [(1, .i32 0), (2, .i32 9)])]) := by rfl

/-- `C06_schema_element_roundtrip` on the annotated group element of the instance, with its unknown field -/
example : (match schemaElementTV ⟨⟨"g", some .optional, none, 0, some 3, some .list⟩, 1⟩ [(25, .i16 7)] with
           | .struct fs => schemaElementOf fs
           | _ => .error .footerNotThrift) = .ok ⟨⟨"g", some .optional, none, 0, some 3, some .list⟩, 1⟩ :=
  C06_schema_element_roundtrip _ _ (by decide)

end Carquet.Properties.C06
