import Carquet.Spec.File
import Carquet.Spec.File.Write
import Carquet.Proofs.SpecFileEnvelope
import Carquet.Proofs.SpecFileThrift
import Carquet.Proofs.SpecFilePage
import Carquet.Proofs.SpecFilePlain
/-
C06 (oracle part) — the reference writer `Spec.File.write` and the independent reader
`Spec.File.read` are coherent.  Statements only; lemmas in Proofs/SpecFile*.lean.

The full statement is

    theorem C06_reference_selfconsistent (t : Table) (l : Layout) (hs : l.sound = true)
        (ha : Admissible t l) (hsize : (write t l).length < 2 ^ 31) :
        Spec.File.read (write t l) (oracle := writeOracle t l) = .ok t

It is proved here in layers — envelope; Thrift values in every header form (footer, page
headers); footer value → metadata structures; schema tree from its element list; level streams for
every run plan; PLAIN values of every physical type; entries from levels and values; a whole v1
page; page chaining through a chunk; a whole chunk; chunks located by the footer's offsets; row
groups — and assembled to the WHOLE FILE for the PLAIN class of layouts
(`C06_reference_selfconsistent_partial`): every chunk without dictionary page, pages stored
uncompressed with PLAIN values, no unknown Thrift fields; FREE in that class: the table (any
schema tree whose groups have children, all eight physical types, any nesting), number of row
groups, page split, run plans of both level streams, Thrift header form of the footer and of every
page header, CRC per page, page statistics (null_count, min/max in the new and the deprecated
fields — accepted because `minOf`/`maxOf` are bounds in the statistics order), gaps between
chunks, version, created_by.
The full statement, for every admissible layout (dictionary pages and dictionary-encoded data pages,
compressed page bodies, chunk statistics, unknown fields), is Properties/C06/SpecFileFull.lean; the
PLAIN class is its special case (Proofs/SpecFilePlain.lean): such a layout is admissible, nothing of it
goes through the oracle, and the uncompressed size of every chunk is its length.  The whole-file
equation for ALL layouts is also *evaluated* for every generated file (`selfcheck` in Driver/Gen/RefFiles,
judged by Driver/Ops/RefRead; 0 failures on 3874 files of the thorough tier), and a concrete nested
instance of the theorem's hypotheses is checked by the kernel below.
-/
namespace Carquet.Properties.C06
open Carquet.Spec Carquet.Spec.File Carquet.Spec.Thrift Carquet.Proofs.SpecFile

/-- envelope: `PAR1 ++ data ++ footer ++ le32 |footer| ++ PAR1` is split into its parts -/
theorem C06_envelope_roundtrip (data footer : Bytes) (h : footer.length < 2 ^ 32) :
    splitFile (fileOfParts data footer) = .ok (4 + data.length, footer) :=
  splitFile_fileOfParts data footer h

example : splitFile (fileOfParts [1, 2, 3] [9, 9]) = .ok (7, [9, 9]) := by decide

/-- Thrift: whatever header form the reference writer uses (short / long field headers, short /
long list headers, either spelling of bool elements), the Spec decoder reads the value back and
stops at its end -/
theorem C06_thrift_forms_roundtrip (F : ThriftForm) (v : TVal) (h : v.wf = true) (rest : Bytes) :
    decode v.ty (encodeValF F v ++ rest) = some (v, rest) :=
  decode_encodeValF F v h rest

example : (TVal.struct [(1, .i32 7), (2, .list .bool [.bool true, .bool false]), (40, .binary [1, 2])]).wf = true := by decide

/-- footer bytes → footer value, for every form and any unknown fields (`extra`) -/
theorem C06_footer_thrift_roundtrip (F : ThriftForm) (version : Int) (schema rgs : List TVal) (numRows : Nat)
    (createdBy : Option Bytes) (extra : Fields)
    (h : (fileMetaTV version schema numRows rgs createdBy extra).wf = true) :
    decodeStruct (encodeValF F (fileMetaTV version schema numRows rgs createdBy extra)) =
      some (fileMetaTV version schema numRows rgs createdBy extra) := by
  unfold fileMetaTV at h ⊢
  exact decodeStruct_encodeValF F _ h

example : (fileMetaTV 1 [schemaElementTV ⟨⟨"schema", none, none, 0, none, none⟩, 1⟩ [], schemaElementTV ⟨⟨"a", some .optional, some 1, 0, none, none⟩, 0⟩ []]
    0 [] none [(100, .map [])]).wf = true := by decide +kernel

/-- unknown Thrift fields: fields whose ids are not in the struct's table of parquet.thrift, merged
anywhere into a struct value, change neither the reader's required-field / field-type check of the
struct nor any lookup of a field the table names (so whatever is extracted from the struct is the
same with and without them) -/
theorem C06_unknown_fields_ignored (s : ParquetThrift.StructSpec) (known extra : Fields)
    (havoid : ∀ f ∈ extra, s.find f.1 = none) :
    checkStruct s (withExtras known extra) = checkStruct s known ∧
    ∀ k, s.find k ≠ none → field? (withExtras known extra) k = field? known k :=
  unknown_fields_ignored s known extra havoid

example : ∀ f ∈ ([(-2, .bool true), (20, .list .bool [.bool false]), (1000, .map [])] : Fields),
    ParquetThrift.pageHeader.find f.1 = none := by decide

/-- level streams: any run plan the Spec encoder accepts (RLE runs, multi-group bit-packed runs,
zero-length runs, padded last group, over-long headers) is read back, up to the end of the stream -/
theorem C06_levels_roundtrip (maxLevel : Nat) (runs : List RleHybrid.Choice) (ls : List Nat) (bs rest : Bytes)
    (hb : levelBytes maxLevel runs ls = some bs) (hle : ∀ l ∈ ls, l ≤ maxLevel) (hlen : bs.length < 2 ^ 32) :
    readLevels maxLevel ls.length ((if maxLevel = 0 then [] else prefixed bs) ++ rest) = .ok (ls, rest) :=
  readLevels_written maxLevel runs ls bs rest hb hle hlen

example : levelBytes 2 [.emptyRle 1 0, .rle 2 1, .packed 1 [0, 0, 0, 0, 0] 0] [2, 2, 0, 1, 2] =
    some [0x00, 0x01, 0x84, 0x00, 0x02, 0x03, 0x24, 0x00] := by decide

/-- PLAIN values of every physical type are read back (values are bit patterns) -/
theorem C06_plain_values_roundtrip (leaf : LeafInfo) (vs : List Bytes) (hv : ∀ v ∈ vs, validValue leaf v = true)
    (rest : Bytes) (hrest : leaf.ptype = .boolean → rest = []) :
    plainValues leaf vs.length (plainEncode leaf vs ++ rest) = some (vs, rest) :=
  plainValues_written leaf vs hv rest hrest

example : ∀ v ∈ [[1, 2, 3, 4, 5, 6, 7, 8, 9, 10, 11, 12], [0, 0, 0, 0, 0, 0, 0, 0, 0, 0, 0, 0xff]],
    validValue ⟨1, 0, .int96, 0, ["t"]⟩ v = true := by decide

/-- entries are re-assembled from repetition levels, definition levels and dense values -/
theorem C06_assemble_roundtrip (leaf : LeafInfo) (es : List Entry) (h : ∀ e ∈ es, wellFormedEntry leaf e = true) :
    assemble leaf.maxDef (es.map (·.rep)) (es.map (·.dl)) (es.filterMap (·.val)) = es :=
  assemble_written leaf es h

/-- one v1 data page body: nested levels in any run plan + PLAIN values → the entries -/
theorem C06_page_roundtrip (leaf : LeafInfo) (dict : Option (List Bytes)) (es : List Entry)
    (repRuns defRuns : List RleHybrid.Choice) (repB defB : Bytes)
    (hr : levelBytes leaf.maxRep repRuns (es.map (·.rep)) = some repB)
    (hd : levelBytes leaf.maxDef defRuns (es.map (·.dl)) = some defB)
    (hwf : ∀ e ∈ es, wellFormedEntry leaf e = true) (hlr : repB.length < 2 ^ 32) (hld : defB.length < 2 ^ 32) :
    decodeDataPage leaf dict ⟨es.length, 0, 3, 3, none⟩
      (v1Body leaf .v1 es repB defB (plainEncode leaf (es.filterMap (·.val)))) = .ok es :=
  decodeDataPage_written leaf dict es repRuns defRuns repB defB {} .plain _ hr hd hwf hlr hld rfl rfl

/-- page chaining: pages written back to back are read page by page (header in any form, CRC
checked when present, sizes checked), each ending exactly where the next begins -/
theorem C06_page_chaining (cfg : Config) (leaf : LeafInfo) (dict : Option (List Bytes)) (encodings : List Int)
    (pls : List PageLayout) (henc : pls ≠ [] → encodings.contains 0 = true) (es : List Entry) (w : Written) (fuel : Nat)
    (hpl : ∀ pl ∈ pls, PlainLayout pl) (hw : writeDataPages leaf dict pls es = some w)
    (hwf : ∀ e ∈ es, wellFormedEntry leaf e = true) (hlen : w.bytes.length < 2 ^ 31) (hes : es.length < 2 ^ 31)
    (hf : pls.length < fuel) :
    readDataPages cfg 0 leaf encodings dict fuel w.bytes = .ok es :=
  readDataPages_written_plain cfg leaf dict encodings pls es w fuel henc hpl hw hwf hlen hes hf

/-- the layers assembled up to one column chunk: for a column of any physical type and any
nesting (any max definition / repetition level), entries well-formed for that column, any split
into pages, any admissible run plans for both level streams, any Thrift header form per page,
CRC per page on or off: the bytes the reference writer lays out are read back by the independent
reader's chunk stage to exactly the entries written, under any chunk metadata that is true of
them. -/
theorem C06_chunk_roundtrip (cfg : Config) (leaf : LeafInfo) (pls : List PageLayout) (es : List Entry)
    (w : Written) (m : ColumnMeta) (start : Nat)
    (hpl : ∀ pl ∈ pls, PlainLayout pl) (hw : writeDataPages leaf none pls es = some w)
    (hwf : wellFormedChunk leaf es = true) (hlen : w.bytes.length < 2 ^ 31) (hes : es.length < 2 ^ 31)
    (hcodec : m.codec = 0) (hlegal : m.encodings.all legalEncoding = true)
    (hplain : pls ≠ [] → m.encodings.contains 0 = true)
    (hnum : m.numValues = es.length) (hdict : m.dictionaryPageOffset = none) :
    readChunk cfg leaf m start w.bytes = .ok es :=
  readChunk_written_plain cfg leaf pls es w m start hpl hw hwf hlen hes hcodec hlegal hplain hnum hdict

/-- **whole file, PLAIN class of layouts** (see the header for the class and for what the full
statement `C06_reference_selfconsistent` still lacks): what the reference writer writes, the
independent reader accepts and reads back as exactly the table written.
Hypotheses: the layout is in the class and fits the table (`writeFull … = some`), every group of
the schema has a child, the footer value is a well-formed Thrift value (numbers in their integer
ranges, lists and strings below 2^31), the file is below 2 GiB and no chunk has 2^31 entries. -/
theorem C06_reference_selfconsistent_partial (t : Table) (l : Layout) (file : Bytes) (oracle : Oracle)
    (hpf : PlainFile l) (hw : writeFull t l = some (file, oracle))
    (hne : Schema.groupsNonEmpty t.schema = true)
    (hwf : ∀ v, footerValue t l = some v → v.wf = true)
    (hlen : file.length < 2 ^ 31)
    (hsmall : ∀ g ∈ t.rowGroups, ∀ es ∈ g.chunks, es.length < 2 ^ 31) :
    Spec.File.read file = .ok t :=
  read_write_plain t l file oracle hpf hw hwf hlen hsmall

/-! ### non-vacuity: a concrete nested column (optional group ∋ repeated INT32: max def 2, max rep 1),
two pages, mixed run plans, one long-form header, one CRC, statistics in both headers -/

def exLeaf : LeafInfo := ⟨2, 1, .int32, 0, ["g", "xs"]⟩

def exEntries : List Entry :=
  [⟨0, 2, some [1, 0, 0, 0]⟩, ⟨1, 2, some [2, 0, 0, 0]⟩, ⟨0, 0, none⟩, ⟨0, 1, none⟩, ⟨0, 2, some [0xff, 0xff, 0xff, 0x7f]⟩]

def exPages : List PageLayout :=
  [{ count := 3, repRuns := [.packed 1 [0, 0, 0, 0, 0] 0], defRuns := [.rle 2 0, .emptyRle 3 0, .rle 1 1],
     form := { fieldForm := 1, listForm := 1 }, crc := true, stats := { nullCount := true, minMaxOld := true } },
   { count := 2, repRuns := [.rle 2 0], defRuns := [.rle 1 0, .rle 1 0], stats := { minMaxValue := true } }]

example : ∀ pl ∈ exPages, PlainLayout pl := by
  intro pl h
  simp only [exPages, List.mem_cons, List.mem_nil_iff, or_false] at h
  rcases h with rfl | rfl <;> exact ⟨rfl, rfl, rfl, rfl, rfl, rfl, rfl⟩

example : wellFormedChunk exLeaf exEntries = true := by decide
example : (writeDataPages exLeaf none exPages exEntries).isSome = true := by decide +kernel
/-- the chunk stage on the concrete bytes (kernel evaluation of the reader itself) -/
example : (writeDataPages exLeaf none exPages exEntries).map
    (fun w => readChunk {} exLeaf ⟨1, [0, 3], [], 0, 5, 0, 0, 4, none⟩ 4 w.bytes == .ok exEntries) = some true := by
  decide +kernel

/-! ### non-vacuity of the whole-file theorem: a nested table (optional group ∋ repeated INT32, plus a
required BYTE_ARRAY column), two row groups' worth of features in one: a gap before the first chunk,
two pages with mixed run plans / long-form header / CRC, mixed-form footer -/

def exSchema : Schema.Node :=
  .group ⟨"schema", none, none, 0, none, none⟩
    [.group ⟨"g", some .optional, none, 0, none, none⟩ [.leaf ⟨"xs", some .repeated, some 1, 0, none, none⟩],
     .leaf ⟨"k", some .required, some 6, 0, none, none⟩]

def exTable : Table :=
  ⟨exSchema, [⟨[exEntries, [⟨0, 0, some [0x61]⟩, ⟨0, 0, some []⟩, ⟨0, 0, some [0x62, 0x63]⟩, ⟨0, 0, some [0x61]⟩]]⟩]⟩

def exLayout : Layout :=
  { rowGroups := [[{ pages := exPages, gapBefore := [0xAA] }, { pages := [{ count := 4, crc := true, stats := { nullCount := true, minMaxValue := true, minMaxOld := true } }] }]],
    form := { fieldForm := 2, listForm := 1 }, createdBy := some [0x4c] }

theorem exLayout_plain : PlainFile exLayout := by
  refine ⟨?_, rfl, rfl, rfl⟩
  intro g hg cl hcl
  simp only [exLayout, List.mem_cons, List.mem_nil_iff, or_false] at hg
  subst hg
  simp only [List.mem_cons, List.mem_nil_iff, or_false] at hcl
  rcases hcl with rfl | rfl
  · refine ⟨rfl, rfl, rfl, ?_, rfl, rfl, rfl⟩
    intro pl h
    simp only [exPages, List.mem_cons, List.mem_nil_iff, or_false] at h
    rcases h with rfl | rfl <;> exact ⟨rfl, rfl, rfl, rfl, rfl, rfl, rfl⟩
  · refine ⟨rfl, rfl, rfl, ?_, rfl, rfl, rfl⟩
    intro pl h
    simp only [List.mem_cons, List.mem_nil_iff, or_false] at h
    subst h
    exact ⟨rfl, rfl, rfl, rfl, rfl, rfl, rfl⟩

/-- every decidable hypothesis of the whole-file theorems on this instance, evaluated once by the kernel -/
theorem exHyp : selfConsistencyHyp exTable exLayout = true := by decide +kernel

/-- the independent reader reads this reference-written file back (via the theorem; its decidable
hypotheses are evaluated by the kernel) -/
example : Spec.File.read (write exTable exLayout) = .ok exTable := by
  obtain ⟨hw, -, hwf, hlen, hsmall⟩ := selfConsistencyHyp_parts exHyp
  exact C06_reference_selfconsistent_partial exTable exLayout _ _ exLayout_plain hw (by decide) (fun v hv => (hwf v hv).1)
    hlen hsmall

end Carquet.Properties.C06
