import Carquet.Spec.File
import Carquet.Spec.File.Write
import Carquet.Proofs.SpecFileWholeFull
import Carquet.Proofs.SpecFileOracle
/-
C06 (oracle part), full strength — the reference writer `Spec.File.write` and the independent reader
`Spec.File.read` are coherent on EVERY admissible layout:

    theorem C06_reference_selfconsistent (t : Table) (l : Layout) (file : Bytes) (oracle : Oracle)
        (hw : writeFull t l = some (file, oracle)) (hadm : layoutAdm l = true)
        (hwf : ∀ v, footerTV t l = some v → v.wf = true ∧ footerUsizeOk v = true)
        (hlen : file.length < 2 ^ 31) (hsmall : ∀ g ∈ t.rowGroups, ∀ es ∈ g.chunks, es.length < 2 ^ 31) :
        Spec.File.read file (oracle := oracle) = .ok t

`layoutAdm` (Spec/File/Admissible.lean, a `Bool`) says the layout stays inside what the independent
reader decodes and that unknown fields are unknown: data page v1; no deliberate damage; value encoding
PLAIN or dictionary indices under tag 2 / 8; an LZ4 plan under tag 5 or 7; a GZIP plan's FNAME without
zero byte (it is zero-terminated); the codec tag written is the plans' codec; a dictionary page in PLAIN
(tag 0 or 2) with fewer than 2^31 entries; every `…Extra` field list carries only ids outside the
struct's table of parquet.thrift (the page-level ones are well-formed Thrift values; the footer-level
ones are covered by the footer hypothesis).  FREE: everything else — the table (any schema tree, all
eight physical types, any nesting), row groups, page split, run plans of level AND index streams, index
width ≤ 32 (the writer refuses more), dictionary order / duplicates / unused entries, dictionary offset
present or absent, `is_sorted`, PLAIN pages before or after dictionary-encoded pages, compression plan
per page (UNCOMPRESSED / SNAPPY any op list / LZ4, LZ4_RAW any sequence list / GZIP stored blocks / ZSTD
raw and RLE blocks), CRC per page, page statistics in any selection, chunk statistics, header form of the
footer and of every page header, unknown fields of any wire type in footer, schema elements, row
groups, column chunks, column metadata, page headers, data / dictionary page headers and statistics,
gaps between chunks, version, created_by.

Size hypotheses (explicit, decidable): the footer value (`footerTV`) is a well-formed Thrift value and
announces `total_uncompressed_size < 2^31` for every chunk (page headers carry sizes as i32); the file
is below 2 GiB; no chunk has 2^31 entries.  All hypotheses together are the `Bool`
`selfConsistencyHyp t l` (`C06_reference_selfconsistent_checked`), which the generator evaluates for
every file it emits.

The oracle: `oracleLookup` takes the first pair found under a stored body, so the table must be a
function on its keys (`oracleCoherent`).  That is PROVED of the table the writer emits
(`C06_writer_oracle_coherent`: stored-block GZIP members and raw / RLE-block ZSTD frames are decodable,
Proofs/SpecFileGzip.lean, SpecFileZstd.lean); `C06_reference_selfconsistent_oracle` is the variant for a
foreign table in which every stored body is found with its contents (one filled by zlib / libzstd).

The classes of the task (dictionary; compressed bodies; unknown fields; chunk statistics) are all
instances of this one theorem; their stage lemmas are stated separately below.  The PLAIN-class theorem
`C06_reference_selfconsistent_partial` (Properties/C06/SpecFile.lean) is kept.
-/
namespace Carquet.Properties.C06
open Carquet.Spec Carquet.Spec.File Carquet.Spec.Thrift Carquet.Proofs.SpecFile

/-- value section in both claimed encodings: PLAIN, or one width byte (≤ 32) and an RLE-hybrid index
stream in any run plan over a dictionary that may hold duplicates and unused entries -/
theorem C06_values_roundtrip (leaf : LeafInfo) (dict : Option (List Bytes)) (enc : ValueEnc) (vals : List Bytes)
    (valB : Bytes) (hv : valueBytes leaf dict enc vals = some valB) (hok : valuesOk enc = true)
    (hvalid : ∀ v ∈ vals, validValue leaf v = true) :
    readValues leaf dict (valueEncTag enc) vals.length valB = .ok vals :=
  readValues_written leaf dict enc vals valB hv hok hvalid

example : valueBytes ⟨0, 0, .int32, 0, ["a"]⟩ (some [[9, 0, 0, 0], [7, 0, 0, 0], [7, 0, 0, 0], [1, 1, 1, 1]])
    (.dict 8 17 [.rle 2 1, .packed 1 [0, 0, 0, 0, 0, 0, 0] 0]) [[7, 0, 0, 0], [7, 0, 0, 0], [9, 0, 0, 0]] =
    some [17, 0x84, 0x00, 1, 0, 0, 0x03, 0, 0, 0, 0, 0, 0, 0, 0, 0, 0, 0, 0, 0, 0, 0, 0, 0] := by decide +kernel

/-- compressed bodies: what `compressWith` stores under any plan, `decompress` gives back under the
plan's codec tag (SNAPPY, LZ4 / LZ4_RAW: Spec encoders and decoders; GZIP / ZSTD: the oracle pair) -/
theorem C06_compressed_body_roundtrip (o : Oracle) (plan : CompPlan) (body comp : Bytes)
    (hc : compressWith plan body = some comp) (hp : planOk plan = true)
    (ho : ∀ e ∈ oracleEntry plan comp body, oracleLookup o e.1 = some e.2) :
    decompress o plan.codec comp body.length = .ok body :=
  decompress_compressWith o plan body comp hc hp ho

example : compressWith (.snappy [.literal [7, 0, 0, 0] .inTag, .copy 4 4 .c1, .literal [5] (.ext 2)]) [7, 0, 0, 0, 7, 0, 0, 0, 5] =
    some [9, 12, 7, 0, 0, 0, 0x01, 4, 0xF4, 0, 0, 5] := by decide +kernel
example : compressWith (.lz4 7 [⟨[1, 2], 2, 6⟩] [9, 9, 9, 9, 9]) [1, 2, 1, 2, 1, 2, 1, 2, 9, 9, 9, 9, 9] =
    some [0x22, 1, 2, 2, 0, 0x50, 9, 9, 9, 9, 9] := by decide +kernel

/-- unknown Thrift fields threaded through every structure the reader extracts: with ids outside the
struct's table merged in anywhere, each extraction function returns what it returns without them -/
theorem C06_unknown_fields_threaded (known extra : Fields) :
    (extrasOk ParquetThrift.fileMetaData extra = true → fileMetaOf (withExtras known extra) = fileMetaOf known) ∧
    (extrasOk ParquetThrift.schemaElement extra = true → schemaElementOf (withExtras known extra) = schemaElementOf known) ∧
    (extrasOk ParquetThrift.rowGroup extra = true → rowGroupOf (withExtras known extra) = rowGroupOf known) ∧
    (extrasOk ParquetThrift.columnChunk extra = true → columnChunkOf (withExtras known extra) = columnChunkOf known) ∧
    (extrasOk ParquetThrift.columnMetaData extra = true → columnMetaOf (withExtras known extra) = columnMetaOf known) ∧
    (extrasOk ParquetThrift.pageHeader extra = true → pageHdrOf (withExtras known extra) = pageHdrOf known) ∧
    (extrasOk ParquetThrift.dataPageHeader extra = true → dataHdrOf (withExtras known extra) = dataHdrOf known) ∧
    (extrasOk ParquetThrift.dictionaryPageHeader extra = true → dictHdrOf (withExtras known extra) = dictHdrOf known) ∧
    (extrasOk ParquetThrift.statistics extra = true → statsOf (withExtras known extra) = statsOf known) :=
  ⟨fileMetaOf_we known extra, schemaElementOf_we known extra, rowGroupOf_we known extra, columnChunkOf_we known extra,
   columnMetaOf_we known extra, pageHdrOf_we known extra, dataHdrOf_we known extra, dictHdrOf_we known extra,
   statsOf_we known extra⟩

example : extrasOk ParquetThrift.columnMetaData [(-2, .bool true), (20, .list .bool [.bool false]), (32767, .map [])] = true := by
  decide

/-- page chaining over admissible pages (either value encoding, any compression plan of the chunk's
codec, unknown fields, CRC, statistics) -/
theorem C06_page_chaining_full (cfg : Config) (codec : Nat) (leaf : LeafInfo) (dict : Option (List Bytes))
    (encodings : List Int) (hdv : ∀ d, dict = some d → ∀ v ∈ d, v.length < 2 ^ 31)
    (pls : List PageLayout) (es : List Entry) (w : Written) (fuel : Nat)
    (henc : ∀ pl ∈ pls, encodings.contains (valueEncTag pl.values) = true)
    (hpl : ∀ pl ∈ pls, pageAdm pl = true ∧ pl.comp.codec = codec) (hw : writeDataPages leaf dict pls es = some w)
    (hwf : ∀ e ∈ es, wellFormedEntry leaf e = true) (hlen : w.bytes.length < 2 ^ 31) (hus : w.usize < 2 ^ 31)
    (hes : es.length < 2 ^ 31) (ho : ∀ e ∈ w.oracle, oracleLookup cfg.oracle e.1 = some e.2) (hf : pls.length < fuel) :
    readDataPages cfg codec leaf encodings dict fuel w.bytes = .ok es :=
  readDataPages_written cfg codec leaf dict encodings pls es w fuel
    ⟨fun pl h => ⟨pageAdm_iff (hpl pl h).1, (hpl pl h).2⟩, hw, hwf, hlen, hus, hes, Or.inr hdv, ho⟩ henc hf

/-- one column chunk that starts with a dictionary page (`dictionary_page_offset` present or absent),
under any chunk metadata that is true of it -/
theorem C06_chunk_roundtrip_dictionary (cfg : Config) (leaf : LeafInfo) (dl : DictLayout) (pls : List PageLayout)
    (es : List Entry) (dp w : Written) (m : ColumnMeta) (start : Nat)
    (hd : dictAdm dl = true) (hdc : dl.comp.codec = m.codec) (hdw : writeDictPage leaf dl = some dp)
    (hvalid : ∀ v ∈ dl.values, validValue leaf v = true)
    (hpl : ∀ pl ∈ pls, pageAdm pl = true ∧ pl.comp.codec = m.codec)
    (hw : writeDataPages leaf (some dl.values) pls es = some w)
    (hwf : wellFormedChunk leaf es = true) (hlen : dp.bytes.length + w.bytes.length < 2 ^ 31)
    (hus : dp.usize + w.usize < 2 ^ 31) (hes : es.length < 2 ^ 31)
    (hlegal : m.encodings.all legalEncoding = true)
    (henc : ∀ pl ∈ pls, m.encodings.contains (valueEncTag pl.values) = true)
    (hnum : m.numValues = es.length)
    (hoff : m.dictionaryPageOffset.isSome = true → m.dataPageOffset = start + dp.bytes.length)
    (ho : ∀ e ∈ dp.oracle ++ w.oracle, oracleLookup cfg.oracle e.1 = some e.2) :
    readChunk cfg leaf m start (dp.bytes ++ w.bytes) = .ok es :=
  (readChunk_written_dict cfg leaf dl pls es dp w m start (dictAdm_iff hd) hdc hdw hvalid
    (fun pl h => ⟨pageAdm_iff (hpl pl h).1, (hpl pl h).2⟩) hw (wellFormedChunk_iff hwf).1 hlen hus hes henc
    ⟨hlegal, hnum, (wellFormedChunk_iff hwf).2⟩ hoff ho).1

/-- **whole file, every admissible layout**: what the reference writer writes, the independent
reader — given the oracle table the writer emitted for its GZIP / ZSTD page bodies — accepts and reads
back as exactly the table written.  See the header for `layoutAdm` and the size hypotheses. -/
theorem C06_reference_selfconsistent (t : Table) (l : Layout) (file : Bytes) (oracle : Oracle)
    (hw : writeFull t l = some (file, oracle)) (hadm : layoutAdm l = true)
    (hwf : ∀ v, footerTV t l = some v → v.wf = true ∧ footerUsizeOk v = true)
    (hlen : file.length < 2 ^ 31)
    (hsmall : ∀ g ∈ t.rowGroups, ∀ es ∈ g.chunks, es.length < 2 ^ 31) :
    Spec.File.read file (oracle := oracle) = .ok t :=
  read_write_full' t l file oracle hadm hw hwf hlen hsmall

/-- the same for a FOREIGN oracle table `o` (e.g. one filled by zlib / libzstd): it suffices that every
GZIP / ZSTD body the writer stored is found in `o` with its contents -/
theorem C06_reference_selfconsistent_oracle (t : Table) (l : Layout) (file : Bytes) (oracle o : Oracle)
    (hw : writeFull t l = some (file, oracle)) (hadm : layoutAdm l = true)
    (hwf : ∀ v, footerTV t l = some v → v.wf = true ∧ footerUsizeOk v = true)
    (hlen : file.length < 2 ^ 31)
    (hsmall : ∀ g ∈ t.rowGroups, ∀ es ∈ g.chunks, es.length < 2 ^ 31)
    (ho : ∀ e ∈ oracle, oracleLookup o e.1 = some e.2) :
    Spec.File.read file (oracle := o) = .ok t :=
  read_write_adm t l file oracle (layoutAdm_iff hadm) hw hwf hlen hsmall o ho

/-- the table of GZIP / ZSTD bodies the reference writer emits for an admissible layout is a function on
its keys (equal containers hold equal contents: both container formats are decodable) -/
theorem C06_writer_oracle_coherent (t : Table) (l : Layout) (file : Bytes) (oracle : Oracle)
    (hw : writeFull t l = some (file, oracle)) (hadm : layoutAdm l = true) : oracleCoherent oracle = true :=
  writeFull_oracle_coherent t l file oracle hadm hw

example : gzipStored 2 (some [0x61]) [1, 2, 3] ≠ gzipStored 3 none [1, 2, 3] := by decide +kernel

/-- the same in terms of `write` / `writeOracle` / `Admissible` (DESIGN §3 C06) -/
theorem C06_reference_selfconsistent_write (t : Table) (l : Layout) (ha : Admissible t l) (hadm : layoutAdm l = true)
    (hwf : ∀ v, footerTV t l = some v → v.wf = true ∧ footerUsizeOk v = true)
    (hlen : (write t l).length < 2 ^ 31)
    (hsmall : ∀ g ∈ t.rowGroups, ∀ es ∈ g.chunks, es.length < 2 ^ 31) :
    Spec.File.read (write t l) (oracle := writeOracle t l) = .ok t :=
  C06_reference_selfconsistent t l _ _ (writeFull_eq ha) hadm hwf hlen hsmall

/-- **one decidable hypothesis**: `selfConsistencyHyp t l` (Spec/File/Admissible.lean) is the
conjunction of all hypotheses above as a `Bool`; the generator evaluates it for every file it emits
(`hyp=` in the `refread` lines: 1 for every supported file, 0 for every unsupported / damaged one) -/
theorem C06_reference_selfconsistent_checked (t : Table) (l : Layout) (h : selfConsistencyHyp t l = true) :
    Spec.File.read (write t l) (oracle := writeOracle t l) = .ok t := by
  obtain ⟨hw, hadm, hwf, hlen, hsmall⟩ := selfConsistencyHyp_parts h
  exact C06_reference_selfconsistent t l _ _ hw hadm hwf hlen hsmall

/-- an admissible layout carries no deliberate damage -/
theorem C06_admissible_sound (l : Layout) (hadm : layoutAdm l = true) : l.sound = true := by
  have h := layoutAdm_iff hadm
  unfold Layout.sound
  rw [List.all_eq_true]
  intro g hg
  rw [List.all_eq_true]
  intro c hc
  have hca := h.chunks g hg c hc
  simp only [Bool.and_eq_true, List.all_eq_true]
  refine ⟨fun p hp => by simp [(hca.pages p hp).damage], ?_⟩
  cases hd : c.dict with
  | none => rfl
  | some d => simp [(hca.dict d hd).damage]

/-! ### non-vacuity: one file with every class at once

schema: optional group g ∋ repeated INT32 xs (max def 2, max rep 1); required BYTE_ARRAY k.
row group 1: xs — SNAPPY (literal and copy ops), dictionary page (PLAIN_DICTIONARY tag 2, offset present,
  is_sorted, CRC, duplicate and unused entries, unknown fields), an RLE_DICTIONARY page at width 3 in a mixed run
  plan and a PLAIN fallback page, chunk statistics, unknown fields in chunk and column metadata;
  k — GZIP (stored blocks of 7 bytes, FNAME), dictionary offset ABSENT, PLAIN_DICTIONARY page at width 17, gap.
row group 2: xs — LZ4_RAW, a PLAIN page BEFORE the dictionary-encoded page; k — ZSTD (raw + RLE blocks), PLAIN.
footer: mixed-form headers, unknown fields in footer, schema elements and row groups. -/

namespace Ex

def leafXs : LeafInfo := ⟨2, 1, .int32, 0, ["g", "xs"]⟩
def leafK : LeafInfo := ⟨0, 0, .byteArray, 0, ["k"]⟩

def schema : Schema.Node :=
  .group ⟨"schema", none, none, 0, none, none⟩
    [.group ⟨"g", some .optional, none, 0, none, none⟩ [.leaf ⟨"xs", some .repeated, some 1, 0, none, none⟩],
     .leaf ⟨"k", some .required, some 6, 0, none, none⟩]

def xs1 : List Entry :=
  [⟨0, 2, some [1, 0, 0, 0]⟩, ⟨1, 2, some [2, 0, 0, 0]⟩, ⟨0, 0, none⟩, ⟨0, 1, none⟩, ⟨0, 2, some [0xff, 0xff, 0xff, 0x7f]⟩]
def k1 : List Entry := [⟨0, 0, some [0x61]⟩, ⟨0, 0, some []⟩, ⟨0, 0, some [0x62, 0x63]⟩, ⟨0, 0, some [0x61]⟩]
def xs2 : List Entry := [⟨0, 2, some [2, 0, 0, 0]⟩, ⟨0, 1, none⟩, ⟨0, 2, some [2, 0, 0, 0]⟩, ⟨1, 2, some [1, 0, 0, 0]⟩]
def k2 : List Entry := [⟨0, 0, some [0x7a, 0x7a, 0x7a, 0x7a, 0x7a, 0x7a]⟩, ⟨0, 0, some [0x61]⟩, ⟨0, 0, some []⟩]

def table : Table := ⟨schema, [⟨[xs1, k1]⟩, ⟨[xs2, k2]⟩]⟩

/-- the uncompressed body of a page (what the compression plan has to reproduce) -/
def bodyOf (leaf : LeafInfo) (dict : Option (List Bytes)) (pl : PageLayout) (es : List Entry) : Bytes :=
  v1Body leaf .v1 es ((levelBytes leaf.maxRep pl.repRuns (es.map (·.rep))).getD [])
    ((levelBytes leaf.maxDef pl.defRuns (es.map (·.dl))).getD []) ((valueBytes leaf dict pl.values (es.filterMap (·.val))).getD [])

def dictXs : List Bytes := [[0xff, 0xff, 0xff, 0x7f], [2, 0, 0, 0], [1, 0, 0, 0], [2, 0, 0, 0], [9, 9, 9, 9]]
def dictK : List Bytes := [[0x62, 0x63], [], [0x61]]

def unk : Fields := [(-2, .bool true), (20, .list .bool [.bool false, .bool true]), (1000, .struct [(1, .i64 (-5)), (300, .map [])])]

-- row group 1, xs: SNAPPY
def p11 : PageLayout :=
  { count := 3, repRuns := [.packed 1 [0, 0, 0, 0, 0] 0], defRuns := [.rle 2 0, .emptyRle 3 0, .rle 1 1],
    values := .dict 8 3 [.emptyRle 5 1, .packed 1 [0, 0, 0, 0, 0, 0] 0],
    form := { fieldForm := 1, listForm := 1 }, crc := true, stats := { nullCount := true, minMaxOld := true },
    hdrExtra := unk, memberExtra := [(33, .uuid [0, 1, 2, 3, 4, 5, 6, 7, 8, 9, 10, 11, 12, 13, 14, 15])],
    statsExtra := [(100, .double 7)] }
def p12 : PageLayout :=
  { count := 2, repRuns := [.rle 2 0], defRuns := [.rle 1 0, .rle 1 0], stats := { minMaxValue := true } }
def c11 : ChunkLayout :=
  { codec := 1,
    dict := some { values := dictXs, encoding := 2, sorted := some false, crc := true,
                   comp := .snappy [.literal [0xff, 0xff, 0xff, 0x7f, 2, 0, 0, 0, 1, 0, 0, 0] .inTag, .copy 8 4 .c1,
                                    .literal [9] (.ext 2), .copy 1 3 .c2],
                   hdrExtra := [(21, .i8 (-3))], memberExtra := unk },
    pages := [{ p11 with comp := .snappy [.literal (bodyOf leafXs (some dictXs) p11 (xs1.take 3)) (.ext 1)] },
              { p12 with comp := .snappy [.literal (bodyOf leafXs (some dictXs) p12 (xs1.drop 3)) .inTag] }],
    chunkStats := true, metaExtra := unk, chunkExtra := [(40, .binary [1, 2, 3])] }

-- row group 1, k: GZIP, dictionary offset absent
def p21 : PageLayout :=
  { count := 4, values := .dict 2 17 [.rle 1 0, .rle 1 2, .rle 1 0, .rle 1 0], comp := .gzip 7 (some [0x61, 0x2e, 0x62]),
    crc := true, stats := { nullCount := true, minMaxValue := true, minMaxOld := true } }
def c12 : ChunkLayout :=
  { codec := 2, dict := some { values := dictK, offsetPresent := false, comp := .gzip 65535 none },
    pages := [p21], gapBefore := [0xAA, 0xBB] }

-- row group 2, xs: LZ4_RAW, PLAIN page before the dictionary-encoded one
def p31 : PageLayout := { count := 1, repRuns := [.rle 1 0], defRuns := [.rle 1 0] }
def p32 : PageLayout :=
  { count := 3, repRuns := [.rle 2 0, .rle 1 0], defRuns := [.packed 1 [0, 0, 0, 0, 0] 2],
    values := .dict 2 2 [.rle 1 0, .rle 1 0], stats := { nullCount := true } }
def c21 : ChunkLayout :=
  { codec := 7, dict := some { values := [[1, 0, 0, 0], [2, 0, 0, 0]], comp := .lz4 7 [] [1, 0, 0, 0, 2, 0, 0, 0] },
    pages := [{ p31 with comp := .lz4 7 [] (bodyOf leafXs (some [[1, 0, 0, 0], [2, 0, 0, 0]]) p31 (xs2.take 1)) },
              { p32 with comp := .lz4 7 [] (bodyOf leafXs (some [[1, 0, 0, 0], [2, 0, 0, 0]]) p32 (xs2.drop 1)) }],
    chunkStats := true }

-- row group 2, k: ZSTD raw and RLE blocks
def c22 : ChunkLayout :=
  { codec := 6, pages := [{ count := 3, comp := .zstd 0 [.raw 4, .rle 6], crc := true, stats := { minMaxValue := true } }] }

def layout : Layout :=
  { rowGroups := [[c11, c12], [c21, c22]], form := { fieldForm := 2, listForm := 1, boolAlt := true },
    createdBy := some [0x4c], version := 2,
    footerExtra := unk, schemaExtra := [(25, .i16 7)], rowGroupExtra := [(32767, .set .i64 [.i64 1, .i64 2])] }

end Ex

/-- all hypotheses of the theorem on this instance, evaluated once by the kernel -/
theorem Ex.hyp : selfConsistencyHyp Ex.table Ex.layout = true := by decide +kernel

/-- every decidable hypothesis of the theorem is evaluated by the kernel on this instance; the
conclusion then follows from the theorem (not from evaluating the reader) -/
example : Spec.File.read (write Ex.table Ex.layout) (oracle := writeOracle Ex.table Ex.layout) = .ok Ex.table :=
  C06_reference_selfconsistent_checked Ex.table Ex.layout Ex.hyp

/-- the hypotheses of the stage theorems `C06_page_chaining_full` / `C06_chunk_roundtrip_dictionary` on the
first chunk of the instance (SNAPPY, dictionary page + dictionary-encoded page + PLAIN page) -/
example : (match Ex.c11.dict with | some d => dictAdm d | none => false) = true ∧ Ex.c11.pages.all pageAdm = true ∧
    Ex.c11.pages.all (fun p => p.comp.codec == 1) = true ∧
    (Ex.c11.dict.bind (writeDictPage Ex.leafXs)).isSome = true ∧
    (writeDataPages Ex.leafXs (some Ex.dictXs) Ex.c11.pages Ex.xs1).isSome = true ∧
    wellFormedChunk Ex.leafXs Ex.xs1 = true := by decide +kernel

/-- the same through the single decidable hypothesis -/
example : selfConsistencyHyp Ex.table Ex.layout = true := Ex.hyp

/-- the instance really exercises the classes: two GZIP and one ZSTD body went through the oracle -/
example : (writeOracle Ex.table Ex.layout).length = 3 := by decide +kernel

end Carquet.Properties.C06
