import Carquet.Impl.CSem
import Carquet.Impl.Reader
import Carquet.Gen.CFun
import Carquet.Proofs.CFun.Basic
import Carquet.Proofs.CFun.Loops
/-
C06 — link theorems between the per-type value sizes and the level bit width the page decoder uses
(src/reader/page_reader.c `get_value_size`, `bit_width_for_max`; src/reader/batch_reader.c `get_type_size`) as
translated from the CURRENT source (`Carquet.Gen.CFun`, regenerated on every run) and the reader model the C06
theorems are about (`Impl.Reader.valueSize`, `Impl.Reader.bitWidthForMax`).
-/
namespace Carquet.Properties.C06
open Carquet Carquet.Impl

/-- page_reader.c `get_value_size(type, type_length)` is the model's `valueSize`, for every value of the enum and every
`int32_t type_length`, except FIXED_LEN_BYTE_ARRAY with a NEGATIVE type_length: there the C function returns the huge
`(size_t)type_length` while the model says `typeLength.toNat = 0` (see the example below; the model is only applied to
schemas whose FLBA length is positive). -/
theorem C06_cfun_get_value_size (t tl : BitVec 32) (h : t = 7#32 → 0 ≤ tl.toInt) :
    (Gen.CFun.page_reader_get_value_size t tl).toNat = Impl.Reader.valueSize t.toNat tl.toInt := by
  rcases Nat.lt_or_ge t.toNat 8 with h8 | h8
  · -- one of the eight enumerators: both sides evaluate
    obtain ⟨n, h8, rfl⟩ := Proofs.CFun.eq_ofNat_of_lt t h8
    match n, h8 with
    | 0, _ | 1, _ | 2, _ | 3, _ | 4, _ | 5, _ | 6, _ => rfl
    | 7, _ => exact Proofs.CSem.sext_of_nonneg (u := 64) tl (h rfl) (by decide)
    | n + 8, h8 => exact absurd h8 (by omega)
  · -- above them: every test fails, on both sides
    simp (disch := decide) only [Gen.CFun.page_reader_get_value_size, Proofs.CFun.beq_ofNat_of_lt t h8, Bool.false_eq_true,
      ↓reduceIte]
    simp (disch := omega) only [Impl.Reader.valueSize, if_neg]
    rfl

theorem C06_cfun_get_value_size_defined (t tl : BitVec 32) :
    Gen.CFun.page_reader_get_value_size_defined t tl = true := by
  simp [Gen.CFun.page_reader_get_value_size_defined]

example : ((7#32 : BitVec 32) = 7#32 → 0 ≤ (12#32 : BitVec 32).toInt) ∧
    (Gen.CFun.page_reader_get_value_size 7#32 12#32).toNat = 12 ∧ Impl.Reader.valueSize 7 12 = 12 ∧
    (Gen.CFun.page_reader_get_value_size 6#32 0#32).toNat = 16 := by decide

/-- where the hypothesis fails, code and model differ -/
example : (Gen.CFun.page_reader_get_value_size 7#32 (BitVec.ofInt 32 (-1))).toNat = 2 ^ 64 - 1 ∧
    Impl.Reader.valueSize 7 (-1) = 0 := by decide

/-- the value size the batch reader allocates for: `get_type_size` of batch_reader.c (no model function: the model
`Impl.BatchReader` carries the result as the field `valueSize`, "0 = unknown type / bad type_length") -/
def typeSize (ptype : Nat) (typeLength : Int) : Nat :=
  if ptype = 0 then 1
  else if ptype = 1 ∨ ptype = 4 then 4
  else if ptype = 2 ∨ ptype = 5 then 8
  else if ptype = 3 then 12
  else if ptype = 7 then (if typeLength ≤ 0 ∨ 16 * 1024 * 1024 < typeLength then 0 else typeLength.toNat)
  else if ptype = 6 then 16
  else 0

/-- batch_reader.c `get_type_size(type, type_length)` is `typeSize`, for every enum value and every `int32_t` length -/
theorem C06_cfun_get_type_size (t tl : BitVec 32) :
    (Gen.CFun.get_type_size t tl).toNat = typeSize t.toNat tl.toInt := by
  rcases Nat.lt_or_ge t.toNat 8 with h8 | h8
  · obtain ⟨n, h8, rfl⟩ := Proofs.CFun.eq_ofNat_of_lt t h8
    match n, h8 with
    | 0, _ | 1, _ | 2, _ | 3, _ | 4, _ | 5, _ | 6, _ => rfl
    | 7, _ =>
      -- FIXED_LEN_BYTE_ARRAY: the length, unless it is not positive or above 16 MiB
      show (if BitVec.sle tl 0#32 || BitVec.slt ((16#32 * 1024#32) * 1024#32) tl then 0#64
          else BitVec.signExtend 64 tl).toNat =
        if tl.toInt ≤ 0 ∨ 16 * 1024 * 1024 < tl.toInt then 0 else tl.toInt.toNat
      rw [BitVec.sle_eq_decide, BitVec.slt_eq_decide, show (0#32).toInt = 0 from rfl,
        show ((16#32 * 1024#32) * 1024#32 : BitVec 32).toInt = 16 * 1024 * 1024 from rfl, ← Bool.decide_or]
      by_cases hbad : tl.toInt ≤ 0 ∨ 16 * 1024 * 1024 < tl.toInt
      · rw [decide_eq_true hbad, if_pos rfl, if_pos hbad]; rfl
      · rw [decide_eq_false hbad, if_neg Bool.false_ne_true, if_neg hbad,
          Proofs.CSem.sext_of_nonneg (u := 64) tl (by omega) (by decide)]
    | n + 8, h8 => exact absurd h8 (by omega)
  · simp (disch := decide) only [Gen.CFun.get_type_size, Proofs.CFun.beq_ofNat_of_lt t h8, Bool.false_eq_true, ↓reduceIte]
    simp (disch := omega) only [typeSize, if_neg]
    rfl

theorem C06_cfun_get_type_size_defined (t tl : BitVec 32) : Gen.CFun.get_type_size_defined t tl = true := by
  have h1 : CSem.sMulOk 16#32 1024#32 = true := by decide
  have h2 : CSem.sMulOk (16#32 * 1024#32) 1024#32 = true := by decide
  simp only [Gen.CFun.get_type_size_defined, h1, h2]
  simp

example : (Gen.CFun.get_type_size 7#32 12#32).toNat = 12 ∧ typeSize 7 12 = 12 ∧
    (Gen.CFun.get_type_size 7#32 (BitVec.ofInt 32 (-1))).toNat = 0 ∧
    (Gen.CFun.get_type_size 7#32 (BitVec.ofNat 32 (16 * 1024 * 1024 + 1))).toNat = 0 ∧
    (Gen.CFun.get_type_size 6#32 0#32).toNat = 16 := by decide

/-- page_reader.c `bit_width_for_max(max_val)` is the model's `bitWidthForMax` for every non-negative `int` (the
maximum definition / repetition level), and the fuel of the translated loop suffices -/
theorem C06_cfun_bit_width_for_max (m : BitVec 32) (h : 0 ≤ m.toInt) :
    (Gen.CFun.page_reader_bit_width_for_max m).toNat = Impl.Reader.bitWidthForMax m.toInt.toNat := by
  rw [← Proofs.CSem.toNat_of_nonneg m h]
  exact (Proofs.CFun.page_reader_bit_width_for_max_eq m h).1

theorem C06_cfun_bit_width_for_max_defined (m : BitVec 32) (h : 0 ≤ m.toInt) :
    Gen.CFun.page_reader_bit_width_for_max_defined m = true :=
  (Proofs.CFun.page_reader_bit_width_for_max_eq m h).2

example : (0 : Int) ≤ (5#32 : BitVec 32).toInt ∧ (Gen.CFun.page_reader_bit_width_for_max 5#32).toNat = 3 ∧
    Impl.Reader.bitWidthForMax 5 = 3 ∧ (Gen.CFun.page_reader_bit_width_for_max 2147483647#32).toNat = 31 ∧
    Gen.CFun.page_reader_bit_width_for_max_defined 2147483647#32 = true := by decide

/-- a negative maximum gives width 0 (the loop is not entered) -/
example : (Gen.CFun.page_reader_bit_width_for_max (BitVec.ofInt 32 (-3))).toNat = 0 := by decide

end Carquet.Properties.C06
