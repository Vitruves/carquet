import Carquet.Proofs.ImplReadsWhole
import Carquet.Proofs.ImplReadsOracle
import Carquet.Proofs.ImplReadsReject
import Carquet.Proofs.ImplReadsRejectV2
import Carquet.Proofs.SpecFileGzip
import Carquet.Proofs.SpecFileZstd
import Carquet.Properties.C06.SpecFile
import Carquet.Properties.C06.SpecFileFull
/-
C06, implementation half — **carquet's reader reads what a specification-following writer wrote**:

    theorem C06_impl_reads_reference (t : Table) (l : Layout) (file : Bytes) (oracle : Oracle)
        (hw : writeFull t l = some (file, oracle)) (hadm : layoutAdm l = true)
        (hwf : ∀ v, footerTV t l = some v → v.wf = true ∧ footerUsizeOk v = true)
        (hlen : file.length < 2 ^ 31) (hsmall : ∀ g ∈ t.rowGroups, ∀ es ∈ g.chunks, es.length < 2 ^ 31)
        (mode : Mode) (hclaim : fileClaimed (decide (mode = .fread)) t l = true)
        (verify : Bool) (L : Libs) (hL : LibsDecode L oracle) :
        Impl.Reader.readAll Fixes.all L verify mode file = .ok (readerTableOfSpec t)

`Spec.File.writeFull t l` is the reference writer (Spec/File/Write.lean: every choice the format leaves
open is steered by the layout `l`); `Impl.Reader.readAll` is the model of carquet's reader (open in one
of the three I/O modes, `get_column` for every cell, one complete `carquet_column_read_batch` per chunk),
tied to the C code value-exactly on every generated file; `readerTableOfSpec t` (Impl/ReaderTableSpec.lean)
renders the table the way carquet hands it out — per row group, per leaf column, the definition level of
every entry and the dense values of the entries that carry one (and `num_rows`); the repetition levels of
the same reads are `C06_impl_reads_reference_levels`.

Hypotheses.  The first five are those of the Spec-side theorem `C06_reference_selfconsistent` (the layout
fits the table and is admissible: data page v1, PLAIN / PLAIN_DICTIONARY / RLE_DICTIONARY, any compression
plan, unknown fields really unknown; the Thrift integers fit; file < 2 GiB).  `fileClaimed` (decidable,
Impl/ReaderClaim.lean) adds what CARQUET bounds: nesting depth of unknown fields (THRIFT_MAX_NESTING = 32
counted from the top-level struct), list lengths (10000 schema elements / columns, 100000 row groups, 100
encodings / path elements), no BOOLEAN dictionary (NOT_IMPLEMENTED), levels within int16, and — fread mode
only — every page header lies within the largest window `read_page_header_fread` tries, 2^24 bytes.  (Data
pages WITHOUT values — at the head, in the middle, at the end of a chunk, several in a row — are inside the
claim since repair F63: `C06_regression_F63`.)  (That the growing window never accepts a header cut short is a THEOREM since fix F62:
`parsePageHeaderC_mono`, Proofs/ImplReadsPrefix.lean — carquet's page-header parser is prefix-monotone; before the
fix it was false, `C06_regression_F62`.)  `LibsDecode L oracle`: zlib and
libzstd (parameters of the model, in the trusted base) inflate the GZIP members / ZSTD frames of the file.

FREE in the theorem: the table (any schema tree, flat or nested to any depth the levels allow, all eight
physical types, any number of row groups incl. none and empty ones), page split, run plans of the level
(pages without values included) AND index streams (any mix of RLE and bit-packed runs, zero-length runs,
over-long headers, padded final group), index width ≤ 32, dictionary order / duplicates / unused entries, `dictionary_page_offset` present
or absent (fix F52s), PLAIN pages before / after dictionary-encoded ones, SNAPPY op lists, LZ4 / LZ4_RAW
sequence lists, GZIP stored blocks, ZSTD raw / RLE blocks, CRC per page (verified or not), page and chunk
statistics, Thrift header form of footer and every page header, unknown fields of every wire type at all
ten places, gaps, version, created_by; the I/O mode (fread / mmap / buffer) and `verify_checksums`.

Delivered in CLASSES (each a theorem with the class as a decidable hypothesis on the layout), then the
union; the negative half `C06_unsupported_rejected`; the defects found on the way, `C06_regression_F62`
and `C06_regression_F63`.
-/
namespace Carquet.Properties.C06
open Carquet.Spec Carquet.Spec.File Carquet.Spec.Thrift
open Carquet.Impl
open Carquet.Impl.Reader hiding Bytes
open Carquet.Impl.Reader.Claim
open Carquet.Proofs.ImplReads

/-! ## the union -/

/-- **C06, implementation half** (see the header comment) -/
theorem C06_impl_reads_reference (t : File.Table) (l : Layout) (file : Bytes) (oracle : Oracle)
    (hw : writeFull t l = some (file, oracle)) (hadm : layoutAdm l = true)
    (hwf : ∀ v, footerTV t l = some v → v.wf = true ∧ footerUsizeOk v = true)
    (hlen : file.length < 2 ^ 31) (hsmall : ∀ g ∈ t.rowGroups, ∀ es ∈ g.chunks, es.length < 2 ^ 31)
    (mode : Mode) (hclaim : fileClaimed (decide (mode = .fread)) t l = true)
    (verify : Bool) (L : Libs) (hL : LibsDecode L oracle) :
    readAll Fixes.all L verify mode file = .ok (readerTableOfSpec t) :=
  readAll_reference t l file oracle hw hadm hwf hlen hsmall mode hclaim verify L hL

/-- the same with ALL hypotheses about the file decidable: `selfConsistencyHyp` (Spec side) and `fileClaimed`
(carquet's limits), evaluated by the generator for every file it emits -/
theorem C06_impl_reads_reference_checked (t : File.Table) (l : Layout) (hyp : selfConsistencyHyp t l = true)
    (mode : Mode) (hclaim : fileClaimed (decide (mode = .fread)) t l = true)
    (verify : Bool) (L : Libs) (hL : LibsDecode L (writeOracle t l)) :
    readAll Fixes.all L verify mode (write t l) = .ok (readerTableOfSpec t) := by
  obtain ⟨hw, h2, h3, h4, h5⟩ := Carquet.Proofs.SpecFile.selfConsistencyHyp_parts hyp
  exact C06_impl_reads_reference t l _ _ hw h2 h3 h4 h5 mode hclaim verify L hL

/-- the three I/O modes, both checksum settings and all libraries that honour the contract read the same -/
theorem C06_impl_reads_modes_agree (t : File.Table) (l : Layout) (hyp : selfConsistencyHyp t l = true)
    (hclaim : fileClaimed true t l = true) (m1 m2 : Mode) (v1 v2 : Bool) (L1 L2 : Libs)
    (h1 : LibsDecode L1 (writeOracle t l)) (h2 : LibsDecode L2 (writeOracle t l)) :
    readAll Fixes.all L1 v1 m1 (write t l) = readAll Fixes.all L2 v2 m2 (write t l) := by
  have hc : ∀ m : Mode, fileClaimed (decide (m = .fread)) t l = true := fileClaimed_any_mode hclaim
  rw [C06_impl_reads_reference_checked t l hyp m1 (hc m1) v1 L1 h1, C06_impl_reads_reference_checked t l hyp m2 (hc m2) v2 L2 h2]

/-! ## levels: the same reads with all three arrays -/

theorem fill_full {β : Type} (xs : List β) : Carquet.Proofs.Cursor.fill xs xs.length = xs.map some := by
  simp [Carquet.Proofs.Cursor.fill]

/-- **repetition levels, definition levels and values**: for every cell of the table, `get_column` succeeds
and ONE `carquet_column_read_batch(cr, values, num_values, def_levels, rep_levels)` returns the number of
entries, fills `def_levels` and `rep_levels` with the stored levels of every entry, and `values` (dense)
with the values of the entries that carry one, leaving its other slots untouched -/
theorem C06_impl_reads_reference_levels (t : File.Table) (l : Layout) (file : Bytes) (oracle : Oracle)
    (hw : writeFull t l = some (file, oracle)) (hadm : layoutAdm l = true)
    (hwf : ∀ v, footerTV t l = some v → v.wf = true ∧ footerUsizeOk v = true)
    (hlen : file.length < 2 ^ 31) (hsmall : ∀ g ∈ t.rowGroups, ∀ es ∈ g.chunks, es.length < 2 ^ 31)
    (mode : Mode) (hclaim : fileClaimed (decide (mode = .fread)) t l = true)
    (verify : Bool) (L : Libs) (hL : LibsDecode L oracle) :
    ∃ o, openFile mode file = .ok o ∧ o.numRowGroups = t.rowGroups.length ∧
      ∀ (i j : Nat) (g : RowGroup) (es : Chunk), t.rowGroups[i]? = some g → g.chunks[j]? = some es →
        ∃ c, getColumn o (i : Int) (j : Int) = .ok c ∧ c.cm.numValues = (es.length : Int) ∧
          (ColumnReader.readBatch ColumnReader.Fixes.all (ColumnReader.getColumn (chunkOf Fixes.all L verify mode file c))
              c.cm.numValues true true).2.count = (es.length : Int) ∧
          (ColumnReader.readBatch ColumnReader.Fixes.all (ColumnReader.getColumn (chunkOf Fixes.all L verify mode file c))
              c.cm.numValues true true).2.defs = (es.map (·.dl)).map some ∧
          (ColumnReader.readBatch ColumnReader.Fixes.all (ColumnReader.getColumn (chunkOf Fixes.all L verify mode file c))
              c.cm.numValues true true).2.reps = (es.map (·.rep)).map some ∧
          (ColumnReader.readBatch ColumnReader.Fixes.all (ColumnReader.getColumn (chunkOf Fixes.all L verify mode file c))
              c.cm.numValues true true).2.vals =
            (es.filterMap (·.val)).map some ++ List.replicate (es.length - (es.filterMap (·.val)).length) none := by
  obtain ⟨o, leaves, _, hopen, hop, _⟩ := opening_reference t l file oracle hw hadm hwf hlen hsmall mode hclaim verify L hL
  refine ⟨o, hopen, hop.numRowGroups, ?_⟩
  intro i j g es hg hes
  obtain ⟨leaf, cm, hgc, hread⟩ := hop.cell i j g es hg hes
  obtain ⟨rows, hres, hd, hr, hv, hlen', hnv, _⟩ := hread true true
  refine ⟨colOfLeaf leaf cm, hgc, hnv, ?_, ?_, ?_, ?_⟩
  · rw [hres.count, hlen']
  · rw [hres.defs, hd]
    have := fill_full (es.map (·.dl))
    simp only [List.length_map] at this
    simp only [if_true, this]
  · rw [hres.reps, hr]
    have := fill_full (es.map (·.rep))
    simp only [List.length_map] at this
    simp only [if_true, this]
  · rw [hres.vals, hv]
    rfl

/-! ## the classes -/

/-- **class 1 — PLAIN**: flat and nested schemas, PLAIN values, uncompressed, any page split, any run plan of
the level streams, any Thrift header form, CRCs on / off, statistics present — for ANY behaviour of the
GZIP / ZSTD libraries -/
theorem C06_impl_reads_plain_class (t : File.Table) (l : Layout) (hclass : plainClass l = true)
    (hyp : selfConsistencyHyp t l = true) (mode : Mode) (hclaim : fileClaimed (decide (mode = .fread)) t l = true)
    (verify : Bool) (L : Libs) :
    readAll Fixes.all L verify mode (write t l) = .ok (readerTableOfSpec t) := by
  unfold plainClass at hclass
  simp only [Bool.and_eq_true] at hclass
  exact C06_impl_reads_reference_checked t l hyp mode hclaim verify L
    (libsDecode_noLib t (Carquet.Proofs.SpecFile.selfConsistencyHyp_parts hyp).2.1 (layoutUncompressed_noLib hclass.1.2) L)

/-- **class 2 — dictionary**: dictionary pages + dictionary-encoded data pages (PLAIN_DICTIONARY and
RLE_DICTIONARY tags, any index run plan, width ≤ 32, dictionary offset present or absent, PLAIN pages before /
after dictionary-encoded pages), uncompressed — for ANY behaviour of the libraries -/
theorem C06_impl_reads_dictionary_class (t : File.Table) (l : Layout) (hclass : dictClass l = true)
    (hyp : selfConsistencyHyp t l = true) (mode : Mode) (hclaim : fileClaimed (decide (mode = .fread)) t l = true)
    (verify : Bool) (L : Libs) :
    readAll Fixes.all L verify mode (write t l) = .ok (readerTableOfSpec t) := by
  unfold dictClass at hclass
  simp only [Bool.and_eq_true] at hclass
  exact C06_impl_reads_reference_checked t l hyp mode hclaim verify L
    (libsDecode_noLib t (Carquet.Proofs.SpecFile.selfConsistencyHyp_parts hyp).2.1 (layoutUncompressed_noLib hclass.1) L)

/-- **class 3a — SNAPPY / LZ4 / LZ4_RAW** (via C10: carquet's decompressors accept every stream of the Spec
grammars, which is all the reference encoders emit): any op list / sequence list — for ANY behaviour of the
GZIP / ZSTD libraries -/
theorem C06_impl_reads_codec_class (t : File.Table) (l : Layout) (hclass : codecClass l = true)
    (hyp : selfConsistencyHyp t l = true) (mode : Mode) (hclaim : fileClaimed (decide (mode = .fread)) t l = true)
    (verify : Bool) (L : Libs) :
    readAll Fixes.all L verify mode (write t l) = .ok (readerTableOfSpec t) := by
  unfold codecClass at hclass
  simp only [Bool.and_eq_true] at hclass
  exact C06_impl_reads_reference_checked t l hyp mode hclaim verify L
    (libsDecode_noLib t (Carquet.Proofs.SpecFile.selfConsistencyHyp_parts hyp).2.1 hclass.1 L)

/-- **class 3b — GZIP / ZSTD too**, by the library contract: zlib inflates the stored-block members and
libzstd the raw / RLE-block frames of the file (`LibsDecode`) -/
theorem C06_impl_reads_lib_codec_class (t : File.Table) (l : Layout) (_hclass : libCodecClass l = true)
    (hyp : selfConsistencyHyp t l = true) (mode : Mode) (hclaim : fileClaimed (decide (mode = .fread)) t l = true)
    (verify : Bool) (L : Libs) (hL : LibsDecode L (writeOracle t l)) :
    readAll Fixes.all L verify mode (write t l) = .ok (readerTableOfSpec t) :=
  C06_impl_reads_reference_checked t l hyp mode hclaim verify L hL

/-- **class 4 — unknown Thrift fields everywhere** (via C13: the parsers skip every field they do not know,
in any wire type and header form, nested up to the depth `thrift_skip` allows): footer, schema elements, row
groups, column chunks, column metadata, page headers, data / dictionary page headers, statistics.  This is
the union: nothing else is restricted. -/
theorem C06_impl_reads_unknown_fields_class (t : File.Table) (l : Layout)
    (hyp : selfConsistencyHyp t l = true) (mode : Mode) (hclaim : fileClaimed (decide (mode = .fread)) t l = true)
    (verify : Bool) (L : Libs) (hL : LibsDecode L (writeOracle t l)) :
    readAll Fixes.all L verify mode (write t l) = .ok (readerTableOfSpec t) :=
  C06_impl_reads_reference_checked t l hyp mode hclaim verify L hL

/-! ## the negative half -/

/-- **Unsupported features are rejected with an error, never decoded** — as far as the reader decides it by
inspection of a header field.  For every file `b`, column reader `c`, reader state, I/O mode and library
behaviour:

1. DATA_PAGE_V2: once `load_next_page` has found a page header of type 3, it returns NOT_IMPLEMENTED
   (`finishDataPage`; `C06_v2_page_rejected` below is the same from the bytes of the file);
2. a value encoding outside {PLAIN = 0, PLAIN_DICTIONARY = 2, RLE_DICTIONARY = 8} in the data page header:
   the load returns an error (INVALID_ENCODING from `carquet_read_data_page_v1`, or an earlier one) — or, since
   repair F63, the header says `num_values = 0` and the page is stepped over undecoded: it is loaded as a
   page without levels and without values;
3. a codec tag outside {0, 1, 2, 5, 6, 7} in the column metadata: every data-page load of the chunk returns
   an error (UNSUPPORTED_CODEC from `decompress_page`, or an earlier one) or (F63) steps over a page without
   values (`NothingDecoded`) — hence every page the column reader ever gets of such a chunk is `none` or a page
   without rows: no level and no value of the chunk is decoded;
4. a dictionary page for a BOOLEAN column: `load_dictionary_page_*` returns an error whatever the page holds
   (NOT_IMPLEMENTED, fix F54, or an earlier one), hence so does the first `load_next_page` of a chunk that
   announces a dictionary;
5. whenever `load_next_page` returns an error with values outstanding, the page iteration ends there
   (`chunkPages = [none]`): the column reader gets no page, so no level and no value of the offending page is
   delivered (`carquet_column_read_batch` returns the entries it had copied from earlier pages, or -1).

BIT_PACKED level encoding is not decided by a header field: the reader ignores the level-encoding fields and
decodes RLE; the refread check observes an error (never wrong values) on every such generated file. -/
theorem C06_unsupported_rejected (fx : Fixes) (L : Libs) (verify : Bool) (mode : Mode) (b : Bytes) (c : Col) (st : PState) :
    (∀ hr : ThriftParquetReq.PageHdr × Nat, hr.1.type = 3 →
      (finishDataPage fx L verify mode b c st hr).result = .error .notImplemented) ∧
    (∀ hr : ThriftParquetReq.PageHdr × Nat, encodingKnown hr.1.word4 = false →
      (∃ e, (finishDataPage fx L verify mode b c st hr).result = .error e) ∨
        (hr.1.word0 = 0 ∧ ∃ p, (finishDataPage fx L verify mode b c st hr).result = .ok p ∧ p.page = ⟨[], [], []⟩)) ∧
    (codecKnown c.cm.codec = false → NothingDecoded (loadPage fx L verify mode b c st).result ∧
      ∀ fuel, ∀ x ∈ chunkPages fx L verify mode b c fuel st, x = none ∨ x = some ⟨[], [], []⟩) ∧
    (c.ptype = 0 → (∀ off, ∃ e, (loadDictionary fx L verify mode b c off).result = .error e) ∧
      (∀ doff, c.cm.dictionaryPageOffset = some doff → st.dict = none →
        ∃ e, (loadPage fx L verify mode b c st).result = .error e)) ∧
    (∀ e fuel, 0 < st.valuesRemaining → (loadPage fx L verify mode b c st).result = .error e →
      chunkPages fx L verify mode b c (fuel + 1) st = [none]) :=
  ⟨fun hr h3 => finishDataPage_v2 fx L verify mode b c st hr h3,
   fun hr he => finishDataPage_encoding fx L verify mode b c st hr he,
   fun hc => ⟨loadPage_codec fx L verify mode b c st hc, fun fuel => chunkPages_codec fx L verify mode b c hc fuel st⟩,
   fun hb => ⟨fun off => loadDictionary_boolean fx L verify mode b c off hb,
              fun doff hd hn => loadPage_boolean_dictionary fx L verify mode b c st hb doff hd hn⟩,
   fun e fuel hrem h => chunkPages_of_load_error fx L verify mode b c st fuel hrem e h⟩

/-- DATA_PAGE_V2 from the bytes of the file: a page whose header — in any Thrift form, with anything the
parser accepts — announces type 3, at the offset the column reader points at, makes `load_next_page` return
NOT_IMPLEMENTED in every mode -/
theorem C06_v2_page_rejected (L : Libs) (verify : Bool) (mode : Mode) (pre post : Bytes) (c : Col) (p : RPage) (st : PState)
    (hp : p.Parses mode) (h3 : p.hdr.type = 3)
    (hsettled : c.cm.dictionaryPageOffset = none ∨ st.dict.isSome = true)
    (hoff : st.dataStart + st.currentPage = (pre.length : Int)) (hpost : 8 ≤ post.length) :
    (loadPage Fixes.all L verify mode (pre ++ p.bytes ++ post) c st).result = .error .notImplemented :=
  loadPage_v2 L verify mode pre post c p st hp h3 hsettled hoff hpost

/-- **DATA_PAGE_V2 of the reference writer is refused.**  A page the reference writer lays out with
`PageKind.v2` (page type 3, member struct 8, levels outside the compressed part) — in any Thrift header form,
with unknown fields in the page header and in the v2 member struct (ids outside the parquet.thrift tables,
nesting ≤ 29 / 28), header value well-formed — placed where the (settled) column reader points: the header is
found (fread mode: by the growing window), read as type 3, and `load_next_page` returns NOT_IMPLEMENTED in every
mode; by clause 5 of `C06_unsupported_rejected` the page iteration ends there and nothing of the page is handed out. -/
theorem C06_v2_layout_rejected (L : Libs) (verify : Bool) (mode : Mode) (leaf : LeafInfo) (dict : Option (List Bytes))
    (pl : PageLayout) (es : List Entry) (a : Written) (hk : pl.kind = .v2) (hw : writeDataPage leaf dict pl es = some a)
    (hhx : extrasOk ParquetThrift.pageHeader pl.hdrExtra = true) (hhd : extrasDepth 29 pl.hdrExtra = true)
    (hmx : extrasOk ParquetThrift.dataPageHeaderV2 pl.memberExtra = true) (hmd : extrasDepth 28 pl.memberExtra = true)
    (hwf : ∀ usize crc n nulls rows dlen rlen (body : Bytes),
      a.bytes = encodeValF pl.form (v2PageHdrTV pl usize body.length crc n nulls rows dlen rlen) ++ body →
      (v2PageHdrTV pl usize body.length crc n nulls rows dlen rlen).wf = true ∧
      (mode = .fread → WindowOk (encodeValF pl.form (v2PageHdrTV pl usize body.length crc n nulls rows dlen rlen))))
    (pre post : Bytes) (c : Col) (st : PState)
    (hsettled : c.cm.dictionaryPageOffset = none ∨ st.dict.isSome = true)
    (hoff : st.dataStart + st.currentPage = (pre.length : Int)) (hpost : 8 ≤ post.length) :
    (loadPage Fixes.all L verify mode (pre ++ a.bytes ++ post) c st).result = .error .notImplemented := by
  obtain ⟨usize, crc, n, nulls, rows, dlen, rlen, body, hb⟩ := writeDataPage_v2 hk hw
  obtain ⟨h1, h2⟩ := hwf usize crc n nulls rows dlen rlen body hb
  rw [hb]
  exact loadPage_v2_layout L verify mode pre post body c st pl usize crc n nulls rows dlen rlen hhx hhd hmx hmd h1 h2
    hsettled hoff hpost

/-! ## the defect found on the way: F62 -/

/-- the header of the witness page (corpus/C06/fixed-F62.ops): 259 bytes — known fields, an unknown BINARY
field of 230 bytes and an unknown DOUBLE field 0.0 whose eight bytes straddle byte 256 -/
def hdrF62 : Bytes :=
  encodeValF {} (pageHdrTV 0 24 24 none 5 (dataHdrTV ⟨6, 0, 3, 3, none⟩ [] [])
    [(20, .binary (List.replicate 230 0x41)), (21, .double 0)])

/-- **F62** (found by this component; fix `fixes/F62-thrift-skip-truncated-fixed-width-value.patch`).  Before
the fix `thrift_skip` ignored the result of `carquet_buffer_reader_skip` for BYTE / DOUBLE / UUID values: with
fewer than 8 bytes left, the decoder stayed where it was, status OK, and read the first byte of the DOUBLE
(0x00) as the STOP of the page header.  The first window (256 bytes) of `read_page_header_fread` — which is
doubled only when the parse FAILS — was therefore accepted as a complete header of 251 bytes although the
header is 259 bytes long: the page body was read 8 bytes too early (fread mode: values shifted, status OK;
mmap / buffer modes parse from everything behind the offset and were right).  After the fix the cut window is
THRIFT_TRUNCATED, the window is doubled, and the header parses to its full length. -/
theorem C06_regression_F62 :
    hdrF62.length = 259 ∧
    (ThriftParquetReq.parsePageHeaderCXPreF62 (hdrF62.take 256)).status = none ∧
    (ThriftParquetReq.parsePageHeaderCXPreF62 (hdrF62.take 256)).consumed = 251 ∧
    ThriftParquetReq.parsePageHeaderC (hdrF62.take 256) = .error .truncated ∧
    ThriftParquetReq.parsePageHeaderC hdrF62 = .ok (⟨0, 24, 24, none, 6, 0⟩, 259) ∧
    windowOk hdrF62 = true := by
  decide +kernel

/-! ## non-vacuity: kernel-checked instances -/

/-- libraries that honour the contract on the containers the reference writer emits: a stored-block
inflater and a raw / RLE-block zstd decoder (Proofs/SpecFileGzip.lean, SpecFileZstd.lean) -/
def exLibs : Libs :=
  ⟨⟨fun _ _ _ => none, fun c _ => Carquet.Proofs.SpecFile.gunzipStored c, id⟩,
   ⟨fun _ _ _ => none, fun c _ => Carquet.Proofs.SpecFile.unzstdRaw c, id⟩⟩

theorem Ex.claimed : fileClaimed true Ex.table Ex.layout = true := by decide +kernel

theorem Ex.libsDecode : LibsDecode exLibs (writeOracle Ex.table Ex.layout) := libsDecode_of_check (by decide +kernel)

/-- **the union**, on the instance of Properties/C06/SpecFileFull.lean (nested schema: optional group ∋ repeated
INT32 + required BYTE_ARRAY; two row groups; SNAPPY with literal and copy ops, GZIP with FNAME, LZ4_RAW, ZSTD raw +
RLE blocks; dictionary with duplicate and unused entries, offset present and absent, RLE_DICTIONARY at width 3 with
an over-long zero-length run, PLAIN_DICTIONARY at width 17, PLAIN pages after and before dictionary pages; CRCs;
page and chunk statistics; unknown fields of 11 wire types at all ten places; mixed header forms), read in FREAD
mode with checksum verification: every hypothesis is evaluated by the kernel, the conclusion follows from the
theorem -/
example : readAll Fixes.all exLibs true .fread (write Ex.table Ex.layout) = .ok (readerTableOfSpec Ex.table) :=
  C06_impl_reads_reference_checked Ex.table Ex.layout Ex.hyp .fread (fileClaimed_any_mode Ex.claimed .fread) true exLibs
    Ex.libsDecode

/-- … and in the mapped modes, without verification -/
example : readAll Fixes.all exLibs false .mmap (write Ex.table Ex.layout) = .ok (readerTableOfSpec Ex.table) ∧
    readAll Fixes.all exLibs false .buffer (write Ex.table Ex.layout) = .ok (readerTableOfSpec Ex.table) :=
  ⟨C06_impl_reads_reference_checked Ex.table Ex.layout Ex.hyp .mmap (fileClaimed_any_mode Ex.claimed .mmap) false exLibs
     Ex.libsDecode,
   C06_impl_reads_reference_checked Ex.table Ex.layout Ex.hyp .buffer (fileClaimed_any_mode Ex.claimed .buffer) false exLibs
     Ex.libsDecode⟩

/-- what carquet hands out for it: 7 rows (the repeated column has 9 entries); the nested column with its definition
and repetition levels -/
example : (readerTableOfSpec Ex.table).numRows = 7 ∧
    ((readerTableOfSpec Ex.table).rowGroups.map (fun g => g.map (·.defs))) = [[[2, 2, 0, 1, 2], [0, 0, 0, 0]], [[2, 1, 2, 2], [0, 0, 0]]] ∧
    readerRepsOfSpec Ex.table = [[[0, 1, 0, 0, 0], [0, 0, 0, 0]], [[0, 0, 0, 1], [0, 0, 0]]] := by
  decide +kernel

/-- **class 1 (PLAIN)** on the instance of Properties/C06/SpecFile.lean (nested table — optional group ∋ repeated
INT32 + required BYTE_ARRAY —, gap, two pages with mixed run plans, long-form page header, CRC, statistics,
mixed-form footer): any libraries -/
example (L : Libs) : readAll Fixes.all L true .fread (write exTable exLayout) = .ok (readerTableOfSpec exTable) :=
  C06_impl_reads_plain_class exTable exLayout (by decide) exHyp .fread (by decide +kernel) true L

namespace Ex2
/-- one flat OPTIONAL INT32 column, one row group -/
def schema : Schema.Node := .group ⟨"schema", none, none, 0, none, none⟩ [.leaf ⟨"a", some .optional, some 1, 0, none, none⟩]
def leaf : LeafInfo := ⟨1, 0, .int32, 0, ["a"]⟩
def es : List Entry := [⟨0, 1, some [7, 0, 0, 0]⟩, ⟨0, 0, none⟩, ⟨0, 1, some [9, 0, 0, 0]⟩, ⟨0, 1, some [7, 0, 0, 0]⟩]
def table : File.Table := ⟨schema, [⟨[es]⟩]⟩
def dict : List Bytes := [[9, 0, 0, 0], [7, 0, 0, 0], [1, 1, 1, 1]]
def pDict : PageLayout :=
  { count := 3, defRuns := [.rle 1 1, .rle 1 0, .rle 1 1], values := .dict 8 2 [.packed 1 [0, 0, 0, 0, 0, 0] 0], crc := true,
    stats := { nullCount := true, minMaxValue := true }, form := { fieldForm := 1 } }
def pPlain : PageLayout := { count := 1, defRuns := [.packed 1 [0, 0, 0, 0, 0, 0, 0] 1] }
/-- class 2: dictionary page without `dictionary_page_offset`, an RLE_DICTIONARY page, a PLAIN page behind it -/
def layoutDict : Layout :=
  { rowGroups := [[{ dict := some { values := dict, offsetPresent := false, sorted := some false }, pages := [pDict, pPlain] }]] }
/-- class 3a: the same under SNAPPY (literal ops) with the offset present -/
def layoutSnappy : Layout :=
  { rowGroups := [[{
      dict := some { values := dict, comp := .snappy [.literal (plainEncode leaf dict) (.ext 1)] },
      codec := (1 : Nat),
      pages := [{ pDict with comp := .snappy [.literal (Ex.bodyOf leaf (some dict) pDict (es.take 3)) .inTag] },
                { pPlain with comp := .snappy [.literal (Ex.bodyOf leaf (some dict) pPlain (es.drop 3)) (.ext 2)] }] }]] }
end Ex2

/-- **class 2 (dictionary)**: any libraries -/
example (L : Libs) : readAll Fixes.all L true .fread (write Ex2.table Ex2.layoutDict) = .ok (readerTableOfSpec Ex2.table) :=
  C06_impl_reads_dictionary_class Ex2.table Ex2.layoutDict (by decide +kernel) (by decide +kernel) .fread (by decide +kernel) true L

/-- **class 3a (SNAPPY)**: any libraries -/
example (L : Libs) : readAll Fixes.all L true .buffer (write Ex2.table Ex2.layoutSnappy) = .ok (readerTableOfSpec Ex2.table) :=
  C06_impl_reads_codec_class Ex2.table Ex2.layoutSnappy (by decide +kernel) (by decide +kernel) .buffer (by decide +kernel) true L

/-! ## the defect found on the way: F63 (empty data pages) -/

namespace F63
/-- the table of `Ex2` (one OPTIONAL INT32 column, entries 7, null, 9, 7) in data pages of 3, 0 and 1 entries -/
def p3 : PageLayout := { Ex2.pPlain with count := 3, defRuns := [.rle 1 1, .rle 1 0, .rle 1 1] }
def layout : Layout := { rowGroups := [[{ pages := [p3, { count := 0 }, Ex2.pPlain] }]] }
def file : Bytes := write Ex2.table layout
/-- the column reader `carquet_reader_get_column(reader, 0, 0)` creates on that file (the chunk's metadata as the
footer records them: INT32, UNCOMPRESSED, 4 values, first page at offset 4; max_def_level 1) -/
def col : Col := ⟨{ type := 1, codec := 0, numValues := 4, dataPageOffset := 4 }, 1, 0, 1, 0⟩
/-- empty pages at the head, two in a row in the middle, at the end; PLAIN and dictionary-encoded pages -/
def layoutMany : Layout :=
  { rowGroups := [[{
      dict := some { values := Ex2.dict, offsetPresent := false, sorted := some false },
      pages := [{ count := 0 }, Ex2.pDict, { count := 0, crc := true }, { count := 0 }, Ex2.pPlain, { count := 0 }] }]] }
end F63

/-- **F63** (found by `c06impl`; fix `fixes/F63-empty-data-page-read-short.patch`).  A data page whose header
says `num_values = 0` is legal Parquet.  The witness is the reference writer's file for four entries in pages of
3, 0 and 1 entries: admissible for the Spec reader, inside every limit of `fileClaimed` (and outside the conjunct
`pagesNonEmpty` the claim carried until the repair).  The page loaders decode it to the pages `[3 rows, no rows,
1 row]` (evaluated on the bytes of the file, mapped and fread path).  Before the repair
`carquet_read_next_page` loaded the empty page, copied nothing, and `carquet_column_read_batch` left its loop at
`values_read == 0`: the read of all 4 entries returned 3; read 3 at a time, the second call returned 0 with
`has_next` true and one entry outstanding — a caller that takes 0 for the end of the chunk loses the rest.  The
repaired loop steps over the page: 4 entries, then 3 + 1; and the whole file is read back
(`C06_impl_reads_reference`, whose hypothesis `fileClaimed` no longer excludes empty pages). -/
theorem C06_regression_F63 :
    (selfConsistencyHyp Ex2.table F63.layout = true ∧ fileClaimed true Ex2.table F63.layout = true ∧
      (F63.layout.rowGroups.all (fun g => g.all pagesNonEmpty)) = false) ∧
    ((chunkOf Fixes.all exLibs false .mmap F63.file F63.col).pages =
        [some ⟨[1, 0, 1], [0, 0, 0], [[7, 0, 0, 0], [9, 0, 0, 0]]⟩, some ⟨[], [], []⟩, some ⟨[1], [0], [[7, 0, 0, 0]]⟩] ∧
     (chunkOf Fixes.all exLibs true .fread F63.file F63.col).pages =
        [some ⟨[1, 0, 1], [0, 0, 0], [[7, 0, 0, 0], [9, 0, 0, 0]]⟩, some ⟨[], [], []⟩, some ⟨[1], [0], [[7, 0, 0, 0]]⟩]) ∧
    -- before the repair
    ((ColumnReader.readBatch ColumnReader.Fixes.preF63
        (ColumnReader.getColumn (chunkOf Fixes.all exLibs false .mmap F63.file F63.col)) 4 true false).2.count = 3 ∧
     (ColumnReader.readBatch ColumnReader.Fixes.preF63
        (ColumnReader.readBatch ColumnReader.Fixes.preF63
          (ColumnReader.getColumn (chunkOf Fixes.all exLibs false .mmap F63.file F63.col)) 3 true false).1 3 true false).2.count = 0 ∧
     ColumnReader.hasNext (ColumnReader.readBatch ColumnReader.Fixes.preF63
        (ColumnReader.readBatch ColumnReader.Fixes.preF63
          (ColumnReader.getColumn (chunkOf Fixes.all exLibs false .mmap F63.file F63.col)) 3 true false).1 3 true false).1 = true) ∧
    -- after it
    ((ColumnReader.readBatch ColumnReader.Fixes.all
        (ColumnReader.getColumn (chunkOf Fixes.all exLibs false .mmap F63.file F63.col)) 4 true false).2.count = 4 ∧
     (ColumnReader.readBatch ColumnReader.Fixes.all
        (ColumnReader.readBatch ColumnReader.Fixes.all
          (ColumnReader.getColumn (chunkOf Fixes.all exLibs false .mmap F63.file F63.col)) 3 true false).1 3 true false).2.count = 1 ∧
     ∀ (mode : Mode) (verify : Bool) (L : Libs),
       readAll Fixes.all L verify mode F63.file = .ok (readerTableOfSpec Ex2.table)) := by
  have hyp : selfConsistencyHyp Ex2.table F63.layout = true := by decide +kernel
  have hcl : fileClaimed true Ex2.table F63.layout = true := by decide +kernel
  -- the chunk the mapped path loads, evaluated once for the six reads below
  have hchunk : chunkOf Fixes.all exLibs false .mmap F63.file F63.col =
      ⟨[some ⟨[1, 0, 1], [0, 0, 0], [[7, 0, 0, 0], [9, 0, 0, 0]]⟩, some ⟨[], [], []⟩, some ⟨[1], [0], [[7, 0, 0, 0]]⟩],
        4, 1, false, false⟩ := by decide +kernel
  rw [hchunk]
  refine ⟨⟨hyp, hcl, by decide⟩, ⟨rfl, by decide +kernel⟩, by decide, by decide, by decide, ?_⟩
  intro mode verify L
  exact C06_impl_reads_plain_class Ex2.table F63.layout (by decide) hyp mode (fileClaimed_any_mode hcl mode) verify L

/-- empty pages everywhere — at the head of the chunk (behind the dictionary page), two in a row in the middle
(one with a CRC), at the end — between an RLE_DICTIONARY page and a PLAIN page: inside the theorem, any libraries,
every mode -/
example (L : Libs) (mode : Mode) (verify : Bool) :
    readAll Fixes.all L verify mode (write Ex2.table F63.layoutMany) = .ok (readerTableOfSpec Ex2.table) :=
  C06_impl_reads_dictionary_class Ex2.table F63.layoutMany (by decide +kernel) (by decide +kernel) mode
    (fileClaimed_any_mode (by decide +kernel) mode) verify L

end Carquet.Properties.C06
