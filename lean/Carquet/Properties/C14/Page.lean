import Carquet.Proofs.ReaderCrc
import Carquet.Proofs.ReaderExamples
import Carquet.Properties.C14.Crc
/-
C14 (page part) — with checksum verification on, damage to a stored page body is reported; an
undamaged page is never reported as damaged.  Statements only; lemmas in Proofs/ReaderCrc.lean;
the checksum fact used is C14_burst_detected (Properties/C14/Crc.lean).

`load_next_page_*` is `prepStage` (find the data page's header `hr`, loading dictionaries on the
way; `loadDataPage_of_prep`) followed by `finishDataPage` on that header.
`storedDataPage mode b st hr = some body` says: the data page whose header `hr` the loader found
in state `st` passes the loader's header tests and its stored body `body` (`hr.1.compressed`
bytes behind the header) lies in the file.  Damage to the header is outside the statement (as in
the property); the theorems talk about the file as it is stored.
-/
namespace Carquet.Properties.C14
open Carquet.Impl Carquet.Impl.Reader
open Carquet.Proofs.ReaderBounds Carquet.Proofs.ReaderCrc Carquet.Proofs.ReaderExamples

/-- **Damage is reported.**  Verification on; the page header carries a checksum, namely that of
the body `orig` the page was written with; what is stored now is `body`, a copy of `orig` damaged
inside one window of `w ≤ 32` bits (a flipped bit, a changed byte, any burst — `BurstDamage`).
Then the load returns CARQUET_ERROR_CRC_MISMATCH — `finishDataPage` on that header, hence
`load_next_page_*` from every state in which `prepStage` finds that header — in every mode, for
every codec, before anything is decompressed or decoded. -/
theorem C14_page_damage_reported (fx : Fixes) (L : Libs) (mode : Mode) (b : Reader.Bytes) (c : Col) (st : PState)
    (hr : ThriftParquetReq.PageHdr × Nat) (body orig : Reader.Bytes) (crc : Int) (w : Nat)
    (hst : storedDataPage mode b st hr = some body)
    (hcrc : hr.1.crc = some crc) (horig : (crc % 4294967296).toNat = (Crc32.crc32 orig).toNat)
    (hw : w ≤ 32) (hdmg : Carquet.Spec.Crc32.BurstDamage w orig body) :
    (finishDataPage fx L true mode b c st hr).result = .error .crcMismatch ∧
    ∀ st0, (prepStage fx L true mode b c st0).result = .ok (st, hr) →
      (loadDataPage fx L true mode b c st0).result = .error .crcMismatch := by
  have h := finishDataPage_crcBad fx L true mode b c st hr body hst
    (by rw [hcrc]; exact crcBad_of_burst crc orig body w hw horig hdmg)
  exact ⟨h, fun st0 hp => by rw [loadDataPage_of_prep fx L true mode b c st0 (st, hr) hp]; exact h⟩

/-- the same for a dictionary page -/
theorem C14_dictionary_damage_reported (fx : Fixes) (L : Libs) (mode : Mode) (b : Reader.Bytes) (c : Col) (off : Int)
    (h : ThriftParquetReq.PageHdr) (hs : Nat) (body orig : Reader.Bytes) (crc : Int) (w : Nat)
    (hst : storedDictPage mode b off = some (h, hs, body))
    (hcrc : h.crc = some crc) (horig : (crc % 4294967296).toNat = (Crc32.crc32 orig).toNat)
    (hw : w ≤ 32) (hdmg : Carquet.Spec.Crc32.BurstDamage w orig body) :
    (loadDictionary fx L true mode b c off).result = .error .crcMismatch :=
  loadDictionary_crcBad fx L true mode b c off h hs body hst (by rw [hcrc]; exact crcBad_of_burst crc orig body w hw horig hdmg)

/-- the two-page example file with bit 0 of the first page body's third byte flipped (42 + 2 = byte 44) -/
def twoPageDamaged : Reader.Bytes := twoPage.take 44 ++ [0x01] ++ twoPage.drop 45

-- non-vacuity: the hypotheses hold for that damage (stored checksum 58791804 = crc32 of the
-- original body), and the load indeed reports CRC_MISMATCH in all three modes
example :
    (prepStage Fixes.all noLibs true .fread twoPageDamaged twoPageCol (PState.init twoPageCol)).result =
      .ok (PState.init twoPageCol, (⟨0, 8, 8, some 58791804, 2, 0⟩, 38)) ∧
    storedDataPage .fread twoPageDamaged (PState.init twoPageCol) (⟨0, 8, 8, some 58791804, 2, 0⟩, 38) =
      some [1, 0, 1, 0, 2, 0, 0, 0] ∧
    (58791804 % 4294967296 : Int).toNat = (Crc32.crc32 [1, 0, 0, 0, 2, 0, 0, 0]).toNat ∧
    Carquet.Spec.Crc32.BurstDamage 1 [1, 0, 0, 0, 2, 0, 0, 0] [1, 0, 1, 0, 2, 0, 0, 0] ∧
    (loadDataPage Fixes.all noLibs true .fread twoPageDamaged twoPageCol (PState.init twoPageCol)).result = .error .crcMismatch ∧
    (loadDataPage Fixes.all noLibs true .mmap twoPageDamaged twoPageCol (PState.init twoPageCol)).result = .error .crcMismatch ∧
    (loadDataPage Fixes.all noLibs true .buffer twoPageDamaged twoPageCol (PState.init twoPageCol)).result = .error .crcMismatch := by
  decide +kernel

/-- **A clean page is accepted.**  If the stored body has the checksum the header carries (or the
header carries none, or verification is off), the checksum test passes and the load never reports
CRC_MISMATCH: whatever it returns comes from decompression and decoding. -/
theorem C14_clean_page_accepted (fx : Fixes) (L : Libs) (verify : Bool) (mode : Mode) (b : Reader.Bytes) (c : Col) (st : PState)
    (hr : ThriftParquetReq.PageHdr × Nat) (body : Reader.Bytes)
    (hst : storedDataPage mode b st hr = some body)
    (hclean : verify = false ∨ hr.1.crc = none ∨ ∃ crc, hr.1.crc = some crc ∧ (crc % 4294967296).toNat = (Crc32.crc32 body).toNat) :
    crcBad verify hr.1.crc body = false ∧ (finishDataPage fx L verify mode b c st hr).result ≠ .error .crcMismatch := by
  have hok : crcBad verify hr.1.crc body = false := by
    rcases hclean with hv | hn | ⟨crc, hc, he⟩
    · rw [hv]; exact crcBad_off _ _
    · rw [hn]; exact crcBad_none _ _
    · rw [hc]; exact crcBad_clean verify crc body he
  exact ⟨hok, finishDataPage_clean fx L verify mode b c st hr body hst hok⟩

-- non-vacuity: the undamaged first page of the two-page file is stored with its checksum and loads
example :
    storedDataPage .mmap twoPage (PState.init twoPageCol) (⟨0, 8, 8, some 58791804, 2, 0⟩, 38) = some [1, 0, 0, 0, 2, 0, 0, 0] ∧
    (58791804 % 4294967296 : Int).toNat = (Crc32.crc32 [1, 0, 0, 0, 2, 0, 0, 0]).toNat ∧
    (match (loadDataPage Fixes.all noLibs true .mmap twoPage twoPageCol (PState.init twoPageCol)).result with
     | .ok _ => true | .error _ => false) = true := by
  decide +kernel

-- with verification off the damaged page is decoded (no checksum error; the value is simply wrong)
example : (okPage (loadDataPage Fixes.all noLibs false .fread twoPageDamaged twoPageCol (PState.init twoPageCol)).result).map (·.page.vals)
    = some [[1, 0, 1, 0], [2, 0, 0, 0]] := by
  decide +kernel

end Carquet.Properties.C14
