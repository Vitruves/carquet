import Carquet.Proofs.CFun2.Crc32
/-
C14 — stage-2 link theorems: src/util/crc32.c as translated from the CURRENT C source by translate/gen_cfun.py.
The run-time table `crc32_tables[8][256]` and its flag are STATE of the translated functions (implicit parameters and
results): `crc32_init_tables` is translated as it is (two loop nests), and proved to produce the table of the model
`Impl.Crc32.table`; `crc32_slicing_by_8`, `carquet_crc32`, `carquet_crc32_update` are proved equal to the model on
every state the program can be in (`CrcState`: table not yet built, or built).  `C14_impl_eq_spec` then rests on
regenerated code.
-/
namespace Carquet.Properties.C14
open Carquet Carquet.Impl Carquet.Proofs.CFun2

/-- `crc32_init_tables()` on the not-yet-initialised state: every one of the 2048 entries is written — entry `[k][i]` is
the model's `table k i` —, the flag is set, no undefined behaviour (indices inside `[8][256]`, loop fuel 257/9/8/257
sufficient); the previous content of the memory does not matter. -/
theorem C14_cfun_crc32_init_tables (T0 : List (BitVec 32)) (h0 : T0.length = 2048) :
    IsCrcTable (Gen.CFun.crc32_init_tables T0 0#32).1 ∧ (Gen.CFun.crc32_init_tables T0 0#32).2 = 1#32 ∧
    Gen.CFun.crc32_init_tables_defined T0 0#32 = true := by
  have h := init_tables_eq T0 h0
  rw [h.1]
  exact ⟨isCrcTable_F T0 h0, rfl, h.2⟩

/-- on the initialised state it returns at once -/
theorem C14_cfun_crc32_init_tables_idem (T : List (BitVec 32)) (fl : BitVec 32) (h : fl ≠ 0#32) :
    Gen.CFun.crc32_init_tables T fl = (T, fl) := by
  have : (fl != 0#32) = true := by simpa using h
  simp [Gen.CFun.crc32_init_tables, this]

/-- a table memory of the wrong size is outside the function's domain (non-vacuity of the shape obligation) -/
example : ∀ T : List (BitVec 32), T.length = 2047 → Gen.CFun.crc32_init_tables_defined T 0#32 = false := by
  intro T hT
  simp [Gen.CFun.crc32_init_tables_defined, hT]

/-- `crc32_slicing_by_8(crc, data, length)`: for every byte string, every start value and every reachable state of the
table, the result is the model's, the state afterwards is "built", and nothing undefined happens: the two 4-byte loads of
the main loop and the byte loads of the tail stay inside `data[0 .. length)`, every table index is inside its row. -/
theorem C14_cfun_crc32_slicing_by_8 (T : List (BitVec 32)) (fl crc : BitVec 32) (data : List UInt8)
    (hlen : data.length < 2 ^ 64) (hst : CrcState T fl) :
    (Gen.CFun.crc32_slicing_by_8 T fl crc data (BitVec.ofNat 64 data.length)).1 = Crc32.slicingBy8 crc data ∧
    CrcState (Gen.CFun.crc32_slicing_by_8 T fl crc data (BitVec.ofNat 64 data.length)).2.1
      (Gen.CFun.crc32_slicing_by_8 T fl crc data (BitVec.ofNat 64 data.length)).2.2 ∧
    Gen.CFun.crc32_slicing_by_8_defined T fl crc data (BitVec.ofNat 64 data.length) = true := by
  obtain ⟨T', fl', hT', hfl', e, hd⟩ :=
    slicing_eq T fl crc data (BitVec.ofNat 64 data.length) (Proofs.CSem.toNat_ofNat _ hlen) hst
  rw [e]
  exact ⟨rfl, Or.inr ⟨hfl', hT'⟩, hd⟩

/-- `carquet_crc32_update(crc, data, length)` is `Impl.Crc32.update` -/
theorem C14_cfun_crc32_update (T : List (BitVec 32)) (fl crc : BitVec 32) (data : List UInt8)
    (hlen : data.length < 2 ^ 64) (hst : CrcState T fl) :
    (Gen.CFun.carquet_crc32_update T fl crc data (BitVec.ofNat 64 data.length)).1 = Crc32.update crc data ∧
    Gen.CFun.carquet_crc32_update_defined T fl crc data (BitVec.ofNat 64 data.length) = true := by
  obtain ⟨T', fl', _, _, e, hd⟩ := slicing_eq T fl crc data (BitVec.ofNat 64 data.length) (Proofs.CSem.toNat_ofNat _ hlen) hst
  rw [Gen.CFun.carquet_crc32_update, Gen.CFun.carquet_crc32_update_defined, e, hd, hst.length]
  exact ⟨rfl, rfl⟩

/-- `carquet_crc32(data, length)` is `Impl.Crc32.crc32` -/
theorem C14_cfun_crc32 (T : List (BitVec 32)) (fl : BitVec 32) (data : List UInt8)
    (hlen : data.length < 2 ^ 64) (hst : CrcState T fl) :
    (Gen.CFun.carquet_crc32 T fl data (BitVec.ofNat 64 data.length)).1 = Crc32.crc32 data ∧
    Gen.CFun.carquet_crc32_defined T fl data (BitVec.ofNat 64 data.length) = true := by
  obtain ⟨T', fl', _, _, e, hd⟩ := slicing_eq T fl 0#32 data (BitVec.ofNat 64 data.length) (Proofs.CSem.toNat_ofNat _ hlen) hst
  rw [Gen.CFun.carquet_crc32, Gen.CFun.carquet_crc32_defined, e, hd, hst.length]
  exact ⟨rfl, rfl⟩

/-- the initial state of the program (static storage: all zero) is a `CrcState` -/
example : CrcState (List.replicate 2048 0#32) 0#32 := Or.inl ⟨rfl, List.length_replicate ..⟩

/-- a `length` one larger than the buffer: the tail loop reads `data[1]` of a 1-byte buffer, and `_defined` says so
(evaluated on an already built table so that the kernel need not build it) -/
example : ∀ T : List (BitVec 32), T.length = 2048 →
    Gen.CFun.crc32_slicing_by_8_defined T 1#32 0#32 [7] 2#64 = false := by
  intro T hT
  simp [Gen.CFun.crc32_slicing_by_8_defined, Gen.CFun.crc32_slicing_by_8_k1_defined,
    Gen.CFun.crc32_slicing_by_8_loop1_defined, Gen.CFun.crc32_slicing_by_8_loop2_defined, hT, Impl.CSem.inb]

end Carquet.Properties.C14
