import Carquet.Spec.Thrift
import Carquet.Spec.ParquetThrift
import Carquet.Spec.ParquetThriftPageIndex
import Carquet.Impl.ThriftPageIndex
import Carquet.Gen.ThriftSchema
import Carquet.Proofs.ThriftPageIndex
/-
C13 for the page-index serialisers of metadata/page_index.c (ColumnIndex, OffsetIndex).  carquet
has writers only for these two structures, so "round trip" is through the independent Spec
decoder.  Property statements only; helper lemmas in Carquet/Proofs/ThriftPageIndex.lean.
-/
namespace Carquet.Properties.C13
open Carquet Carquet.Spec.Thrift Carquet.Spec.ParquetThrift
open Carquet.Impl.Thrift Carquet.Impl.ThriftParquet Carquet.Impl.ThriftPageIndex
open Carquet.Proofs.Thrift

/-! ## Tables re-extracted from page_index.c against parquet.thrift -/

def specOfPageIndexFrame (frame : String) : Option (StructSpec × List (Int × TType)) :=
  match frame with
  | "carquet_column_index_serialize" => some (columnIndex, columnIndexElems)
  | "carquet_offset_index_serialize" => some (offsetIndex, offsetIndexElems)
  | "carquet_offset_index_serialize.1" => some (pageLocation, [])
  | _ => none

/-- every (id, wire type) a frame of the two serialisers emits is a member of its parquet.thrift
struct with that wire type -/
def pageIndexFrameMatches (fr : String × List (Int × Nat)) : Bool :=
  match specOfPageIndexFrame fr.1 with
  | none => false
  | some (s, _) => fr.2.all (fun f => match s.find f.1 with
      | some fs => fieldWireCode fs.ty == f.2
      | none => false)

/-- every list-valued field is written with the element type parquet.thrift gives it (a bool list
may be announced with type nibble 1 or 2) -/
def pageIndexElemsMatch (fr : String × List (Int × Nat)) : Bool :=
  match specOfPageIndexFrame fr.1 with
  | none => false
  | some (_, el) => fr.2.all (fun f => match el.lookup f.1 with
      | some t => f.2 == t.code || (t == .bool && f.2 == 1)
      | none => false)

/-- Field ids, wire types and list element types of everything the two page-index serialisers
emit, re-extracted from page_index.c on every run, agree with parquet.thrift; all required
members are written. -/
theorem C13_pageindex_tables_match_spec :
    Gen.ThriftSchema.pageIndexWriters.all pageIndexFrameMatches = true ∧
    Gen.ThriftSchema.pageIndexListElems.all pageIndexElemsMatch = true ∧
    (Gen.ThriftSchema.pageIndexWriters.map (·.1)) =
      ["carquet_column_index_serialize", "carquet_offset_index_serialize", "carquet_offset_index_serialize.1"] ∧
    Gen.ThriftSchema.pageIndexWriters.all (fun fr => match specOfPageIndexFrame fr.1 with
      | some (s, _) => s.fields.all (fun fsp => !fsp.required || fr.2.any (·.1 == fsp.id))
      | none => false) = true := by
  decide +kernel

/-! ## The bytes are genuine compact protocol -/

/-- **ColumnIndex.**  For every builder state the C types allow (any number of pages < 2^31, any
bounds, null counts, null-page flags, boundary order), `carquet_column_index_serialize` returns OK
and appends an encoding the compact protocol admits of the ColumnIndex value parquet.thrift
assigns (fields 1-5; the only non-canonical spelling is 0 for a false `null_pages` element), so
the independent Spec decoder reads exactly that value from the bytes, consuming all of them; the
value has only members of parquet.thrift's ColumnIndex, with their types, and all required ones. -/
theorem C13_columnindex_is_compact (b : ColumnIndexB) (h : b.wf = true) :
    writeColumnIndexStatus b = none ∧
    Encodes (columnIndexTV b) (writeColumnIndex b) ∧
    decodeStruct (writeColumnIndex b) = some (columnIndexTV b) ∧
    (∃ fs, columnIndexTV b = .struct fs ∧ columnIndex.admits fs = true ∧ columnIndex.complete fs = true) := by
  obtain ⟨henc, hs⟩ := writeColumnIndex_encodes b h
  refine ⟨hs, henc, ?_, _, rfl, by rfl, by rfl⟩
  have := decode_of_encodes (columnIndexTV b) (writeColumnIndex b) [] henc
  rw [List.append_nil] at this
  unfold decodeStruct
  rw [show (columnIndexTV b).ty = TType.struct from rfl] at this
  rw [this]

def exampleCI : ColumnIndexB :=
  { boundaryOrder := 1, pages := [{ nullCount := 0, minV := some [1], maxV := some [9] }, { nullCount := 4, nullPage := true }] }

example : writeColumnIndex exampleCI
    = [0x19, 0x21, 0x00, 0x01, 0x19, 0x28, 0x01, 0x01, 0x00, 0x19, 0x28, 0x01, 0x09, 0x00, 0x15, 0x02, 0x19, 0x26, 0x00, 0x08, 0x00] := by
  decide +kernel

/-- **OffsetIndex** (repaired code).  For every builder state, whether or not it tracks
uncompressed sizes, `carquet_offset_index_serialize` returns OK and appends the canonical
compact-protocol encoding of the OffsetIndex value parquet.thrift assigns (the page locations);
the Spec decoder reads that value back. -/
theorem C13_offsetindex_is_compact (b : OffsetIndexB) (h : b.wf = true) :
    writeOffsetIndexStatus b = none ∧
    writeOffsetIndex b = encode (offsetIndexTV b) ∧
    decodeStruct (writeOffsetIndex b) = some (offsetIndexTV b) ∧
    (∃ fs, offsetIndexTV b = .struct fs ∧ offsetIndex.admits fs = true ∧ offsetIndex.complete fs = true) := by
  have hl := offsetIndex_pages_lt h
  obtain ⟨hw, hs⟩ := writeOffsetIndex_eq b hl
  refine ⟨hs, hw, ?_, _, rfl, by rfl, by rfl⟩
  have := decode_encode (offsetIndexTV b) (offsetIndexTV_wf b h) []
  rw [List.append_nil] at this
  unfold decodeStruct
  rw [hw, show (offsetIndexTV b).ty = TType.struct from rfl] at *
  rw [this]

def exampleOI : OffsetIndexB :=
  { trackUncompressed := true, pages := [{ offset := 4, compressedSize := 100, firstRowIndex := 0, uncompressedSize := 300 }] }

example : writeOffsetIndex exampleOI
    = [0x19, 0x1C, 0x16, 0x08, 0x15, 0xC8, 0x01, 0x16, 0x00, 0x00, 0x00] := by
  decide +kernel

/-- F70 (before `fix: offset index serialises parquet.thrift's OffsetIndex only`): a builder that
tracks uncompressed page sizes wrote them as a second field — id 2, `list<i32>` — although
parquet.thrift's OffsetIndex has no such member: its field 2 is
`list<i64> unencoded_byte_array_data_bytes`, so a conforming reader takes the page sizes for
something else.  The bytes are the canonical encoding of a struct whose field 2 has element type
i32 where the format says i64. -/
theorem C13_regression_F70 :
    (∀ b : OffsetIndexB, b.wf = true → writeOffsetIndexPreFix b = encode (offsetIndexWrittenTV b)) ∧
    (decodeStruct (writeOffsetIndexPreFix exampleOI)).map (TVal.beq
      (.struct [(1, .list .struct [.struct [(1, .i64 4), (2, .i32 100), (3, .i64 0)]]), (2, .list .i32 [.i32 300])]))
      = some true ∧
    offsetIndexElems.lookup 2 = some .i64 := by
  refine ⟨fun b h => ?_, by decide +kernel, by decide⟩
  have hl := offsetIndex_pages_lt h
  exact writeOffsetIndexPreFix_eq b hl

end Carquet.Properties.C13
