import Carquet.Spec.Thrift
import Carquet.Spec.ParquetThrift
import Carquet.Spec.ParquetThriftValue
import Carquet.Impl.Thrift
import Carquet.Impl.ThriftParquet
import Carquet.Gen.Constants
import Carquet.Gen.ThriftSchema
import Carquet.Proofs.ThriftUnknown
import Carquet.Proofs.ThriftExtendsDeep
/-
C13 — Thrift metadata round-trips and is genuine compact protocol.
Property statements only; helper lemmas live in Carquet/Proofs/Thrift*.lean.
-/
namespace Carquet.Properties.C13
open Carquet Carquet.Spec.Thrift Carquet.Spec.ParquetThrift

/-! ## The tables carquet's source currently contains, against parquet.thrift -/

/-- which parquet.thrift struct each struct frame of a carquet writer / parser is
(frame names as produced by translate/gen_thrift.py: function, then the ids of the enclosing
fields) -/
def specOfFrame (frame : String) : Option StructSpec :=
  match frame with
  | "write_statistics" | "parse_statistics" => some statistics
  | "write_logical_type" | "parse_logical_type" => some logicalType
  | "write_logical_type.5" | "parse_logical_type.5" => some decimalType
  | "write_logical_type.7" | "parse_logical_type.7" => some timeType
  | "write_logical_type.8" | "parse_logical_type.8" => some timeType
  | "write_logical_type.7.2" | "parse_logical_type.7.2" => some timeUnit
  | "write_logical_type.8.2" | "parse_logical_type.8.2" => some timeUnit
  | "write_logical_type.10" | "parse_logical_type.10" => some intType
  | "write_logical_type.1" | "write_logical_type.2" | "write_logical_type.3" | "write_logical_type.4"
  | "write_logical_type.6" | "write_logical_type.11" | "write_logical_type.12" | "write_logical_type.13"
  | "write_logical_type.14" | "write_logical_type.15" | "write_logical_type.7.2.3"
  | "write_logical_type.8.2.3" => some emptyStruct
  | "write_schema_element" | "parse_schema_element" => some schemaElement
  | "write_column_metadata" | "parse_column_metadata" => some columnMetaData
  | "parse_column_metadata.8" => some keyValue
  | "parse_column_metadata.13" => some pageEncodingStats
  | "write_column_chunk" | "parse_column_chunk" => some columnChunk
  | "write_row_group" | "parse_row_group" => some rowGroup
  | "parquet_write_file_metadata" | "parquet_parse_file_metadata" => some fileMetaData
  | "parquet_write_file_metadata.5" | "parquet_parse_file_metadata.5" => some keyValue
  | "parquet_write_page_header" | "parquet_parse_page_header" => some pageHeader
  | "parquet_write_page_header.5" | "parquet_parse_page_header.5" => some dataPageHeader
  | "parquet_write_page_header.7" | "parquet_parse_page_header.7" => some dictionaryPageHeader
  | "parquet_write_page_header.8" | "parquet_parse_page_header.8" => some dataPageHeaderV2
  | _ => none

/-- every (id, wire type) a writer frame emits is a field of its parquet.thrift struct with that
wire type -/
def writerFrameMatches (fr : String × List (Int × Nat)) : Bool :=
  match specOfFrame fr.1 with
  | none => false
  | some s => fr.2.all (fun f => match s.find f.1 with
      | some fs => fieldWireCode fs.ty == f.2
      | none => false)

/-- every id a parser frame dispatches on is a field of its parquet.thrift struct -/
def parserFrameMatches (fr : String × List Int) : Bool :=
  match specOfFrame fr.1 with
  | none => false
  | some s => fr.2.all (fun id => (s.find id).isSome)

def strictlyIncreasing : List Int → Bool
  | a :: b :: r => decide (a < b) && strictlyIncreasing (b :: r)
  | _ => true

/-- The conjuncts of the two table theorems below that resolve frame names (`specOfFrame`, the `lookup`s): string
comparisons in the kernel, which are nearly all of their cost.  As one term each name is resolved once, not four times. -/
private theorem frames_resolved :
    Gen.ThriftSchema.writers.all writerFrameMatches = true ∧
    Gen.ThriftSchema.parsers.all parserFrameMatches = true ∧
    (Gen.ThriftSchema.writers.filter (fun fr => fr.1 ≠ "parquet_write_page_header" &&
        (match specOfFrame fr.1 with | some s => !s.isUnion | none => true))).all
      (fun fr => strictlyIncreasing (fr.2.map (·.1))) = true ∧
    Gen.ThriftSchema.writers.all (fun fr =>
      fr.2.isEmpty ||
      match (Gen.ThriftSchema.writerParser.lookup fr.1).bind (fun n => Gen.ThriftSchema.parsers.lookup n) with
      | some ids => fr.2.all (fun f => ids.contains f.1)
      | none => false) = true := by
  decide +kernel

/-- Field ids and wire types of everything carquet's writers emit, and every field id its parsers
dispatch on, re-extracted from parquet_types.c on every run, agree with parquet.thrift. -/
theorem C13_tables_match_spec :
    Gen.ThriftSchema.writers.all writerFrameMatches = true ∧
    Gen.ThriftSchema.parsers.all parserFrameMatches = true ∧
    Gen.ThriftSchema.typeCodes.map (·.2) = [0, 1, 2, 3, 4, 5, 6, 7, 8, 9, 10, 11, 12, 13] ∧
    [TType.bool, .i8, .i16, .i32, .i64, .double, .binary, .list, .set, .map, .struct, .uuid].map TType.code
      = [2, 3, 4, 5, 6, 7, 8, 9, 10, 11, 12, 13] :=
  ⟨frames_resolved.1, frames_resolved.2.1, by decide, by decide⟩

/-- The extracted tables are well formed: within a frame no id is dispatched twice, ids are
positive 16-bit, struct (non-union: the frame of a `switch` over a union lists alternatives, whose order in the
source does not matter) writers emit ids in strictly increasing order (so every
header they write is the short form), every parser frame handles every id its writer frame
emits, and the model uses the limits and nesting bound the source defines. -/
theorem C13_tables_wellformed :
    Gen.ThriftSchema.parsers.all (fun fr => fr.2.Nodup && fr.2.all (fun id => decide (0 < id ∧ id < 32768))) = true ∧
    Gen.ThriftSchema.writers.all (fun fr => (fr.2.map (·.1)).Nodup && fr.2.all (fun f => decide (0 < f.1 ∧ f.1 < 32768))) = true ∧
    (Gen.ThriftSchema.writers.filter (fun fr => fr.1 ≠ "parquet_write_page_header" &&
        (match specOfFrame fr.1 with | some s => !s.isUnion | none => true))).all
      (fun fr => strictlyIncreasing (fr.2.map (·.1))) = true ∧
    Gen.ThriftSchema.writers.all (fun fr =>
      fr.2.isEmpty ||
      match (Gen.ThriftSchema.writerParser.lookup fr.1).bind (fun n => Gen.ThriftSchema.parsers.lookup n) with
      | some ids => fr.2.all (fun f => ids.contains f.1)
      | none => false) = true ∧
    Gen.ThriftSchema.limits.map (·.2) =
      [Impl.ThriftParquet.maxSchemaElements, Impl.ThriftParquet.maxRowGroups, Impl.ThriftParquet.maxColumnsPerRg,
       Impl.ThriftParquet.maxKeyValuePairs, Impl.ThriftParquet.maxEncodings, Impl.ThriftParquet.maxPathElements,
       Impl.ThriftParquet.maxEncodingStats] ∧
    Gen.ThriftSchema.countGuards.map (·.2) =
      ["CARQUET_MAX_ENCODINGS", "CARQUET_MAX_PATH_ELEMENTS", "CARQUET_MAX_KEY_VALUE_PAIRS", "CARQUET_MAX_ENCODING_STATS",
       "CARQUET_MAX_COLUMNS_PER_RG", "CARQUET_MAX_SCHEMA_ELEMENTS", "CARQUET_MAX_ROW_GROUPS", "CARQUET_MAX_KEY_VALUE_PAIRS"] ∧
    Gen.thriftMaxNesting = Impl.Thrift.maxNesting ∧
    Gen.ThriftSchema.pageHeaderParsesStatistics = Impl.Thrift.Cfg.fixed.pageStats :=
  ⟨by decide +kernel, by decide +kernel, frames_resolved.2.2.1, frames_resolved.2.2.2, by decide, by decide +kernel, by decide,
    by decide⟩

example : writerFrameMatches ("write_statistics", [(1, 8), (3, 6)]) = true ∧
          writerFrameMatches ("write_statistics", [(1, 6)]) = false ∧
          parserFrameMatches ("parse_row_group", [9]) = false := by decide +kernel

/-! ## Varints and zigzag -/

open Carquet.Impl.Thrift Carquet.Impl.ThriftParquet Carquet.Proofs.Thrift

/-- Every `uint64` written by `thrift_write_varint` and every `int64` written by
`thrift_write_zigzag` (also through `thrift_write_i16/i32`, extremes included) is the Spec's
ULEB128 / zigzag encoding and is read back exactly by `thrift_read_varint` /
`thrift_read_zigzag` / `thrift_read_i16` / `thrift_read_i32`, which consume exactly the bytes
written and leave no error. -/
theorem C13_varint_zigzag_roundtrip :
    (∀ (n : Nat) (rest : List UInt8), n < 2 ^ 64 →
      (writeVarint Enc.init n).out = uleb n ∧
      readVarint (Dec.init ((writeVarint Enc.init n).out ++ rest))
        = (n, (Dec.init ((writeVarint Enc.init n).out ++ rest)).at rest (writeVarint Enc.init n).out.length)) ∧
    (∀ (v : Int) (rest : List UInt8), inI64 v →
      (writeZigzag Enc.init v).out = uleb (zigzag v) ∧
      readZigzag (Dec.init ((writeZigzag Enc.init v).out ++ rest))
        = (v, (Dec.init ((writeZigzag Enc.init v).out ++ rest)).at rest (writeZigzag Enc.init v).out.length)) ∧
    (∀ (v : Int) (rest : List UInt8), inI32 v →
      (readI32 (Dec.init ((writeI Enc.init v).out ++ rest))).1 = v) ∧
    (∀ (v : Int) (rest : List UInt8), inI16 v →
      (readI16 (Dec.init ((writeI Enc.init v).out ++ rest))).1 = v) ∧
    (∀ v : Int, unzigzag (zigzag v) = v) := by
  have hv : ∀ n, (writeVarint Enc.init n).out = uleb n := by
    intro n; simp [writeVarint, varintBytes_eq, Enc.init, Enc.out, Enc.append, List.reverseAux_eq]
  have hz : ∀ v, (writeZigzag Enc.init v).out = uleb (zigzag v) := by
    intro v; simp [writeZigzag, hv, zigzagEnc_eq]
  refine ⟨?_, ?_, ?_, ?_, unzigzag_zigzag⟩
  · intro n rest hn
    refine ⟨hv n, ?_⟩
    rw [hv, readVarint_uleb n hn (Dec.init (uleb n ++ rest)) rest rfl]
    simp [Dec.init]
  · intro v rest hvv
    refine ⟨hz v, ?_⟩
    rw [hz, readZigzag_zigzag v hvv (Dec.init (uleb (zigzag v) ++ rest)) rest rfl]
    simp [Dec.init]
  · intro v rest hvv
    have : (writeI Enc.init v).out = uleb (zigzag v) := hz v
    rw [this]
    unfold readI32
    rw [readZigzag_zigzag v (inI64_of_inI32 hvv) (Dec.init (uleb (zigzag v) ++ rest)) rest rfl]
    exact toI32_id v hvv
  · intro v rest hvv
    have : (writeI Enc.init v).out = uleb (zigzag v) := hz v
    rw [this]
    unfold readI16
    rw [readZigzag_zigzag v (inI64_of_inI16 hvv) (Dec.init (uleb (zigzag v) ++ rest)) rest rfl]
    exact toI16_id v hvv

-- the extremes, as concrete instances (tests of the statement's reach)
example : (writeZigzag Enc.init (-9223372036854775808)).out = [0xFF, 0xFF, 0xFF, 0xFF, 0xFF, 0xFF, 0xFF, 0xFF, 0xFF, 0x01] ∧
    (readZigzag (Dec.init [0xFF, 0xFF, 0xFF, 0xFF, 0xFF, 0xFF, 0xFF, 0xFF, 0xFF, 0x01])).1 = -9223372036854775808 ∧
    (readZigzag (Dec.init [0xFE, 0xFF, 0xFF, 0xFF, 0xFF, 0xFF, 0xFF, 0xFF, 0xFF, 0x01])).1 = 9223372036854775807 ∧
    (readI32 (Dec.init [0xFF, 0xFF, 0xFF, 0xFF, 0x0F])).1 = -2147483648 ∧
    (readI16 (Dec.init [0xFF, 0xFF, 0x03])).1 = -32768 ∧
    inI64 (-9223372036854775808) ∧ inI64 9223372036854775807 := by decide +kernel

/-! ## Round trips -/

/-- **FileMetaData round trip.**  For every FileMetaData value in the explicit domain
`FileMetaData.wf` (C integer ranges, NUL-free strings, list lengths within the parser's
VALIDATE_COUNT limits), writing succeeds, parsing the written bytes succeeds, returns the value
restricted to the serialised members (`FileMetaData.norm`), no C-union overlay occurs, and the
parser has consumed exactly the bytes produced. -/
theorem C13_roundtrip_filemetadata (m : FileMetaData) (h : m.wf = true) :
    writeFileMetaDataStatus m = none ∧
    parseFileMetaData (writeFileMetaData m) = .ok m.norm ∧
    (parseFileMetaDataX Cfg.fixed (writeFileMetaData m)).consumed = (writeFileMetaData m).length ∧
    (parseFileMetaDataX Cfg.fixed (writeFileMetaData m)).overlay = false := by
  obtain ⟨hp, hs⟩ := roundtrip_filemetadata m h
  refine ⟨hs, ?_, ?_, ?_⟩
  · unfold parseFileMetaData ParseResult.toExcept; rw [hp]
  · rw [hp]
  · rw [hp]

example : FileMetaData.wf
    { version := 2, schema := [{ name := some [0x72], numChildren := 1 },
                               { type := some 1, repetition := some 1, name := some [0xC3, 0xA9], logicalType := some (.integer 32 true) }],
      numRows := -9223372036854775808,
      rowGroups := [
        { columns := [
            { fileOffset := 4,
              metaData := some
                { type := 1, encodings := [0, 3], pathInSchema := [[0x61]],
                  statistics := some { nullCount := some 7, maxValue := [0xFF, 0x00] } } }],
          totalByteSize := 9223372036854775807, numRows := 3, ordinal := some (-32768) }],
      keyValueMetadata := [{ key := some [], value := none }] } = true := by decide +kernel

/-- **PageHeader round trip** (also with bytes following the header, as in a file): status OK,
the value restricted to the member `type` selects, `*bytes_read` = number of bytes produced. -/
theorem C13_roundtrip_pageheader (h : PageHeader) (hw : h.wf = true) (rest : List UInt8) :
    writePageHeaderStatus h = none ∧
    parsePageHeader (writePageHeader h ++ rest) = .ok (h.norm, (writePageHeader h).length) ∧
    (parsePageHeaderX Cfg.fixed (writePageHeader h ++ rest)).overlay = false := by
  obtain ⟨hp, hs⟩ := roundtrip_pageheader h hw rest
  refine ⟨hs, ?_, ?_⟩
  · unfold parsePageHeader; rw [hp]
  · rw [hp]

example : PageHeader.wf
    { type := 0, uncompressedPageSize := 2147483647, compressedPageSize := -2147483648, crc := some (-1),
      dataPageHeader := { numValues := 5, encoding := 8, statistics := some { nullCount := some 7, minValue := [0, 255] } } } = true := by
  decide +kernel

/-! ## Carquet's bytes are genuine compact protocol -/

/-- The independent Spec decoder reads from the bytes carquet writes exactly the Thrift value
parquet.thrift assigns to the structure (field ids, wire types, values), consuming all bytes;
indeed the bytes are the canonical encoding. -/
theorem C13_impl_output_is_compact :
    (∀ m : FileMetaData, m.wf = true →
      writeFileMetaData m = encode (fileMetaDataTV m) ∧ decodeStruct (writeFileMetaData m) = some (fileMetaDataTV m)) ∧
    (∀ h : PageHeader, h.wf = true →
      writePageHeader h = encode (pageHeaderTV h) ∧ decodeStruct (writePageHeader h) = some (pageHeaderTV h)) := by
  constructor
  · intro m h
    have hw := (writeFileMetaData_eq m (lensOk_of_wf m h)).1
    refine ⟨hw, ?_⟩
    have := decode_encode (fileMetaDataTV m) (fm_wf m h) []
    rw [List.append_nil] at this
    unfold decodeStruct
    rw [hw, show (fileMetaDataTV m).ty = TType.struct from rfl] at *
    rw [this]
  · intro h hwf
    have hw := (writePageHeader_eq h).1
    refine ⟨hw, ?_⟩
    have := decode_encode (pageHeaderTV h) (ph_wf h hwf) []
    rw [List.append_nil] at this
    unfold decodeStruct
    rw [hw, show (pageHeaderTV h).ty = TType.struct from rfl] at *
    rw [this]

/-- the generic codec facts behind it: the Spec decoder inverts the canonical encoder and reads
every encoding the relation admits (long-form headers, either bool spelling) -/
theorem C13_spec_decode_encode :
    (∀ (v : TVal) (rest : List UInt8), v.wf = true → decode v.ty (encode v ++ rest) = some (v, rest)) ∧
    (∀ (v : TVal) (bs rest : List UInt8), Encodes v bs → decode v.ty (bs ++ rest) = some (v, rest)) :=
  ⟨fun v rest h => decode_encode v h rest, fun v bs rest h => decode_of_encodes v bs rest h⟩

/-! ## Carquet reads other writers' encodings -/

/-- **Any encoding is accepted, with unknown fields at EVERY nesting level.**
`ExtD sch v v'` (Proofs.ThriftExtendsDeep, *ExtendsDeep*) is syntactic: `v'` is `v` with further
fields inserted into any struct the schema reaches — the top-level struct, schema elements and
their logical types (and the time / decimal / integer members of those), row groups, column
chunks, column metadata, statistics, key/value and encoding-stats entries; for a page header its
three member headers and their statistics — each inserted field with an id the parser of *that*
struct does not know, of *every* wire type, nested up to `R + 4 − (depth of the struct)` levels
(31 at the top of a FileMetaData, 29 at the top of a PageHeader, 27 in the innermost structs),
and nothing else changed.  `schFileMeta`, `schPageHeader` are parquet.thrift as carquet parses
it.  Let `bs` be *any* encoding of such a `v'` the compact protocol admits (short or long field
headers, short or long list headers, bool elements as 1/2/0, at every level).  Then carquet's
parser returns OK, the structure, and has consumed exactly `bs`.
The earlier form (unknown fields at the top level only, `Extends`) is a special case. -/
theorem C13_accepts_any_encoding :
    (∀ (m : FileMetaData) (v' : TVal) (bs rest : List UInt8), m.wf = true →
      ExtD (schFileMeta 27) (fileMetaDataTV m) v' → Encodes v' bs →
      parseFileMetaDataX Cfg.fixed (bs ++ rest) = ⟨none, m.norm, bs.length, false⟩) ∧
    (∀ (h : PageHeader) (v' : TVal) (bs rest : List UInt8),
      ExtD (schPageHeader 27) (pageHeaderTV h) v' → Encodes v' bs →
      parsePageHeaderX Cfg.fixed (bs ++ rest) = ⟨none, h.norm, bs.length, false⟩) ∧
    (∀ (m : FileMetaData) (fs : Fields), Extends fileMetaKnown 31 (fmFields m) fs →
      ExtD (schFileMeta 27) (fileMetaDataTV m) (.struct fs)) ∧
    (∀ (h : PageHeader) (fs : Fields), Extends pageHeaderKnown 29 (phFields h) fs →
      ExtD (schPageHeader 27) (pageHeaderTV h) (.struct fs)) ∧
    (∀ m : FileMetaData, fileMetaDataTV m = .struct (fmFields m)) ∧ (∀ h : PageHeader, pageHeaderTV h = .struct (phFields h)) :=
  ⟨fun m v' bs rest h hext henc => accepts_filemetadata_deep m h v' hext bs henc rest,
   fun h v' bs rest hext henc => accepts_pageheader_deep h v' hext bs henc rest,
   extD_of_extends_filemeta, extD_of_extends_pageheader,
   fileMetaDataTV_eq, pageHeaderTV_eq⟩

/-- a dictionary page header with an unknown list<bool> field at the top and, INSIDE the nested
DictionaryPageHeader struct, an unknown map field and an unknown struct field -/
example : ExtD (schPageHeader 27)
    (pageHeaderTV { type := 2, uncompressedPageSize := 10, compressedPageSize := 10,
                    dictionaryPageHeader := { numValues := 3, encoding := 0, isSorted := true } })
    (.struct [(100, .list .bool [.bool true, .bool false]), (1, .i32 2), (2, .i32 10), (3, .i32 10),
      (7, .struct [(1, .i32 3), (9, .map [(.i8 1, .bool false)]), (2, .i32 0), (3, .bool true), (-5, .struct [(1, .binary [7])])])]) := by
  rw [schPageHeader, ExtD]
  refine Or.inr ⟨_, _, rfl, rfl, ?_⟩
  refine .add (by decide) (by decide) (.keep ?_ (.keep ?_ (.keep ?_ (.keep ?_ .nil))))
  · exact extD_refl _ _
  · exact extD_refl _ _
  · exact extD_refl _ _
  · show ExtD (schDictPage 27) _ _
    rw [schDictPage, ExtD]
    refine Or.inr ⟨_, _, rfl, rfl, ?_⟩
    exact .keep (extD_refl _ _) (.add (by decide) (by decide) (.keep (extD_refl _ _) (.keep (extD_refl _ _)
      (.add (by decide) (by decide) .nil))))

/-- the general form (unknown fields at *every* level, members carquet parses but never writes):
whatever struct value `fs` is encoded, if its fields are acceptable to the parser tables
(`okFields`: known ids carry their parquet.thrift type, unknown ids are nested at most 31 deep,
lists within the count limits, unions with one member) and the four required fields are
present, the parser returns what the tables make of it. -/
theorem C13_parses_acceptable_encodings (fs : Fields) (bs rest : List UInt8) (henc : Encodes (.struct fs) bs)
    (hok : okFields (tblFileMeta 27) 31 fs) (hreq : (ofFileMetaFields 27 fs).2.all = true) :
    parseFileMetaDataX Cfg.fixed (bs ++ rest) = ⟨none, (ofFileMetaFields 27 fs).1, bs.length, false⟩ :=
  parseFileMetaData_reads 27 (by simp [maxNesting]) fs bs henc hok hreq rest

-- a page header with an unknown list<bool> field (the F9 shape) and an unknown nested struct, long-form headers
example : Extends pageHeaderKnown 29
    (phFields
      { type := 2, uncompressedPageSize := 10, compressedPageSize := 10,
        dictionaryPageHeader := { numValues := 3, encoding := 0, isSorted := true } })
    [(100, .list .bool [.bool true, .bool false]), (1, .i32 2), (2, .i32 10), (3, .i32 10),
     (-5, .struct [(1, .map [(.i8 1, .bool false)])]),
     (7, dictionaryPageHeaderTV { numValues := 3, encoding := 0, isSorted := true })] := by
  refine .add (by decide) (by decide) (.keep (.keep (.keep (.add (by decide) (by decide) (.keep .nil)))))

/-! ## thrift_skip -/

/-- **`thrift_skip` consumes exactly one value.**  For every value `v` of every non-bool wire
type (bool fields have no bytes), every admitted encoding `bs` of `v`, at any position of any
input, with no pending error and at least `v.depth` nesting levels left, `thrift_skip` returns
without error having advanced the reader exactly over `bs`; nothing else of the decoder state
changes (`bool_value`, dead while no bool is pending, aside). -/
theorem C13_skip_consumes_value (v : TVal) (hnb : v.ty ≠ .bool) (bs rest : List UInt8) (henc : Encodes v bs)
    (d : Dec) (hrest : d.rest = bs ++ rest) (hs : d.status = none) (hp : d.boolPending = false)
    (hroom : d.lastId.length + v.depth ≤ maxNesting) (hbud : d.rest.length < d.budget) :
    ∃ bv, skipField Cfg.fixed v.ty.code d = d.atb rest (d.pos + bs.length) bv := by
  have hd : v.depth < stackBudget := by unfold maxNesting at hroom; unfold stackBudget; omega
  obtain ⟨bv, h⟩ := skip_consumes v hnb bs henc stackBudget hd d rest ⟨hrest, hs, hp, hroom, hbud⟩
  exact ⟨bv, by simpa [skipField] using h⟩

example : Encodes (.list .bool [.bool true, .bool false, .bool false]) [0x31, 1, 2, 0] := by
  have h : Enc (.elems [.bool true, .bool false, .bool false]) ([1] ++ ([2] ++ ([0] ++ []))) :=
    .elemsCons .boolT (.elemsCons .boolF (.elemsCons .boolF0 .elemsNil))
  exact Enc.list (hdr := [0x31]) (by decide) (by simp [TVal.ty]) ⟨1, Or.inr ⟨rfl, rfl⟩, Or.inl ⟨by decide, rfl⟩⟩ h

/-! ## The defects, on the model of the code before the repairs -/

/-- F9 (before `fix: thrift_skip consumes one byte per bool element…`): skipping the two-element
list<bool> `21 02 02` consumed one byte instead of three; an unknown list<bool> field therefore
made the page-header parser read the bool bytes as field headers (here: wrong `type`, wrong
size).  The repaired model consumes three and parses the header. -/
theorem C13_regression_F9 :
    (skipField Cfg.preFix 9 (Dec.init [0x21, 0x02, 0x02, 0x3a])).pos = 1 ∧
    (skipField Cfg.fixed 9 (Dec.init [0x21, 0x02, 0x02, 0x3a])).pos = 3 ∧
    (decode .list [0x21, 0x02, 0x02, 0x3a]).map (·.2) = some [0x3a] ∧
    (parsePageHeaderX Cfg.fixed [0x09, 0xC8, 0x01, 0x21, 0x01, 0x02, 0x05, 0x02, 0x02, 0x15, 0x14, 0x15, 0x14, 0x00]).val.type = 1 ∧
    (parsePageHeaderX Cfg.fixed [0x09, 0xC8, 0x01, 0x21, 0x01, 0x02, 0x05, 0x02, 0x02, 0x15, 0x14, 0x15, 0x14, 0x00]).status = none ∧
    (parsePageHeaderX Cfg.preFix [0x09, 0xC8, 0x01, 0x21, 0x01, 0x02, 0x05, 0x02, 0x02, 0x15, 0x14, 0x15, 0x14, 0x00]).status ≠ none := by
  decide +kernel

/-- F8 (before `fix: thrift_skip counts nested containers…`): the recursion of `thrift_skip` over
nested lists was bounded by nothing but the C stack: with room for `n` frames, `n` nested lists
exhaust it (`Err.stack` = the process dies).  The repaired code refuses the 33rd level with
THRIFT_DECODE and never needs more than 34 frames on this input. -/
theorem C13_regression_F8 :
    (skip Cfg.preFix 40 9 (Dec.init (List.replicate 40 0x19 ++ [0x03]))).status = some .stack ∧
    (skip Cfg.fixed 40 9 (Dec.init (List.replicate 40 0x19 ++ [0x03]))).status = some .decode ∧
    (skip Cfg.fixed 34 9 (Dec.init (List.replicate 40 0x19 ++ [0x03]))).status = some .decode ∧
    (skip Cfg.fixed 34 9 (Dec.init (List.replicate 31 0x19 ++ [0x03]))).status = none := by
  decide +kernel

/-- F24 (before `fix: parse page-header statistics…`): the statistics a data page header was
written with (null_count 7) came back as an empty Statistics. -/
theorem C13_regression_F24 :
    (parsePageHeaderX Cfg.preFix (writePageHeader
      { type := 0, dataPageHeader := { numValues := 1, statistics := some { nullCount := some 7, maxValue := [1] } } })).val.dataPageHeader.statistics
      = some {} ∧
    (parsePageHeaderX Cfg.fixed (writePageHeader
      { type := 0, dataPageHeader := { numValues := 1, statistics := some { nullCount := some 7, maxValue := [1] } } })).val.dataPageHeader.statistics
      = some { nullCount := some 7, maxValue := [1] } := by
  decide +kernel

end Carquet.Properties.C13
