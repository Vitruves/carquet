import Carquet.Proofs.CFun3.BufReader
import Carquet.Proofs.CFun.Thrift
import Carquet.Proofs.CFun3.ThriftDecC
/-
C13 — stage 3 of the C -> Lean function translator (translate/gen_cfun.py, notes/NOTES_cfun3.md): link theorems between the
definitions REGENERATED FROM THE C SOURCE on every check run (Gen/CFun.lean: functions that read and write a struct through
a pointer) and the hand-written Impl models the property theorems of C13 are about.  Only `C13_cfun_<function>` (value
side) and `C13_cfun_<function>_defined` (no undefined behaviour under the documented precondition), each followed by a
non-vacuity example.  The abstraction functions / invariants are executable (Impl/CFun3/*.lean) and are evaluated by the
driver on every self-check line (`modelLink3`).
-/

/-! ## BufReader -/
section CFun3BufReader
/-
C13 — stage-3 link theorems for the buffer read cursor the Thrift decoder sits on (`thrift_decoder_t.reader`):
`carquet_buffer_reader_init_data / _read_byte / _skip` of src/core/buffer.c as translated from the CURRENT C source
(`Carquet.Gen.CFun`), restated in the Thrift model's view of the cursor (`Impl.Thrift.Dec`: `rest` = the bytes from
`reader.pos` to `reader.size`, `pos` = `reader.pos`): `read_byte` is `Impl.Thrift.readByteRaw` (head of `rest`),
`skip n` is `Dec.advance n` exactly when `Dec.has n`.  The precondition is the cursor invariant `brInv` (pointer at the
start of the array, `size` its length, `pos ≤ size`), which `init_data` establishes and both functions preserve.
-/
namespace Carquet.Properties.C13
open Carquet Carquet.Impl Carquet.Impl.CFun3 Carquet.Proofs.CFun3.BufReader

/-- `carquet_buffer_reader_init_data(reader, data, size)` with `size` the length of the array (what
`thrift_decoder_init` does): the cursor of `Impl.Thrift.Dec.init data` — all of `data` is unread, position 0 -/
theorem C13_cfun_buffer_reader_init_data (s : Gen.CFun.carquet_buffer_reader_t) (data : List UInt8) (size : BitVec 64)
    (h : brInitPre data size = true) :
    brInv (Gen.CFun.carquet_buffer_reader_init_data s data size) data = true ∧
    data.drop (Gen.CFun.carquet_buffer_reader_init_data s data size).pos.toNat = (Impl.Thrift.Dec.init data).rest ∧
    (Gen.CFun.carquet_buffer_reader_init_data s data size).pos.toNat = (Impl.Thrift.Dec.init data).pos := by
  have hs : size.toNat = data.length := by simpa [brInitPre] using h
  refine ⟨?_, rfl, rfl⟩
  rw [brInv_iff]
  simp [Gen.CFun.carquet_buffer_reader_init_data, hs]

example : brInitPre [0x15, 0x02] 2#64 = true ∧
    Gen.CFun.carquet_buffer_reader_init_data ⟨3, 1#64, 1#64⟩ [0x15, 0x02] 2#64 = ⟨0, 2#64, 0#64⟩ ∧
    (Impl.Thrift.Dec.init [0x15, 0x02]).rest = [0x15, 0x02] ∧ (Impl.Thrift.Dec.init [0x15, 0x02]).pos = 0 := by decide +kernel

/-- `carquet_buffer_reader_read_byte(reader, &value)` on the unread bytes `rest = data[pos ..]`: status 0, the head of
`rest` in `*value` and `pos + 1` (the unread bytes are then the tail) when `rest` is not empty; status 15 with the cursor
and `*value` untouched when it is.  In terms of the Thrift model: for every decoder state `d` that sees this cursor
(`d.rest = rest`, `d.pos = pos`) and `*value` preset to 0 as `read_byte_raw` does, `*value` is the byte
`Impl.Thrift.readByteRaw d` returns, the status is 0 exactly when `d.has 1`, and the cursor afterwards is the one of
`(readByteRaw d).2`. -/
theorem C13_cfun_buffer_reader_read_byte (s : Gen.CFun.carquet_buffer_reader_t) (data : List UInt8) (v : BitVec 8)
    (h : brInv s data = true) :
    Gen.CFun.carquet_buffer_reader_read_byte s data v =
      (match data.drop s.pos.toNat with
       | [] => (15#32, s, v)
       | b :: _ => (0#32, { s with pos := s.pos + 1#64 }, b.toBitVec)) ∧
    brInv (Gen.CFun.carquet_buffer_reader_read_byte s data v).2.1 data = true ∧
    (∀ b r, data.drop s.pos.toNat = b :: r → data.drop (s.pos + 1#64).toNat = r) ∧
    (∀ d : Impl.Thrift.Dec, d.rest = data.drop s.pos.toNat → d.pos = s.pos.toNat →
      ((Gen.CFun.carquet_buffer_reader_read_byte s data 0#8).1 = 0#32 ↔ d.has 1 = true) ∧
      (Gen.CFun.carquet_buffer_reader_read_byte s data 0#8).2.2 = (Impl.Thrift.readByteRaw d).1.toBitVec ∧
      (Impl.Thrift.readByteRaw d).2.rest = data.drop (Gen.CFun.carquet_buffer_reader_read_byte s data 0#8).2.1.pos.toNat ∧
      (Impl.Thrift.readByteRaw d).2.pos = (Gen.CFun.carquet_buffer_reader_read_byte s data 0#8).2.1.pos.toNat) := by
  simp only [read_byte_eq s data _ h]
  by_cases hlt : s.pos.toNat < data.length
  · obtain ⟨hi, ha⟩ := advance_inv s data 1#64 h hlt
    have hc := List.drop_eq_getElem_cons hlt
    simp only [if_pos hlt, hc, rd8_lt data _ hlt]
    refine ⟨trivial, hi, fun b r e => by rw [ha]; exact (List.cons.inj e).2, fun d hd hdp => ?_⟩
    have hs : Sees d data s.pos.toNat := ⟨hd.trans hc.symm, hdp⟩
    rw [hs.readByteRaw hlt, hs.has]
    exact ⟨by simp; omega, rfl, by rw [ha]; rfl, by rw [ha]; rfl⟩
  · have hn : data.drop s.pos.toNat = [] := List.drop_eq_nil_of_le (by omega)
    simp only [if_neg hlt, hn]
    refine ⟨trivial, h, nofun, fun d hd hdp => ?_⟩
    have hs : Sees d data s.pos.toNat := ⟨hd.trans hn.symm, hdp⟩
    have hse : (d.setError .truncated).rest = d.rest ∧ (d.setError .truncated).pos = d.pos := by
      unfold Impl.Thrift.Dec.setError; cases d.status <;> exact ⟨rfl, rfl⟩
    rw [hs.readByteRaw_end hlt, hs.has]
    exact ⟨by simp; omega, rfl, hse.1.trans hd, hse.2.trans hdp⟩

/-- the byte read is inside `data[0 .. size)` -/
theorem C13_cfun_buffer_reader_read_byte_defined (s : Gen.CFun.carquet_buffer_reader_t) (data : List UInt8) (v : BitVec 8)
    (h : brInv s data = true) : Gen.CFun.carquet_buffer_reader_read_byte_defined s data v = true :=
  read_byte_defined s data v h

example : brInv ⟨0, 3#64, 1#64⟩ [0x15, 0x02, 0x00] = true ∧
    Gen.CFun.carquet_buffer_reader_read_byte ⟨0, 3#64, 1#64⟩ [0x15, 0x02, 0x00] 0#8 = (0#32, ⟨0, 3#64, 2#64⟩, 0x02#8) ∧
    (Impl.Thrift.readByteRaw { Impl.Thrift.Dec.init [0x15, 0x02, 0x00] with rest := [0x02, 0x00], pos := 1 }).1 = 0x02 ∧
    Gen.CFun.carquet_buffer_reader_read_byte ⟨0, 3#64, 3#64⟩ [0x15, 0x02, 0x00] 0#8 = (15#32, ⟨0, 3#64, 3#64⟩, 0#8) ∧
    (Impl.Thrift.readByteRaw { Impl.Thrift.Dec.init [0x15, 0x02, 0x00] with rest := [], pos := 3 }).2.status =
      some .truncated ∧
    -- outside the invariant (`size` = 4 for 3 bytes): the read of `data[3]` is out of bounds
    brInv ⟨0, 4#64, 3#64⟩ [0x15, 0x02, 0x00] = false ∧
    Gen.CFun.carquet_buffer_reader_read_byte_defined ⟨0, 4#64, 3#64⟩ [0x15, 0x02, 0x00] 0#8 = false := by decide +kernel

/-- `carquet_buffer_reader_skip(reader, n)` on the unread bytes `rest = data[pos ..]`, for EVERY `size_t n`: it advances by
`n` (status 0, the unread bytes are then `rest.drop n`) iff `n ≤ rest.length`, and otherwise returns 15 and leaves the
cursor alone.  For a decoder state `d` that sees this cursor: status 0 iff `d.has n`, and the cursor afterwards is the one
of `d.readerSkip n` (`d.advance n` when `d.has n`, else `d`). -/
theorem C13_cfun_buffer_reader_skip (s : Gen.CFun.carquet_buffer_reader_t) (data : List UInt8) (n : BitVec 64)
    (h : brInv s data = true) :
    Gen.CFun.carquet_buffer_reader_skip s n =
      (if n.toNat ≤ (data.drop s.pos.toNat).length then (0#32, { s with pos := s.pos + n }) else (15#32, s)) ∧
    brInv (Gen.CFun.carquet_buffer_reader_skip s n).2 data = true ∧
    (n.toNat ≤ (data.drop s.pos.toNat).length → data.drop (s.pos + n).toNat = (data.drop s.pos.toNat).drop n.toNat) ∧
    (∀ d : Impl.Thrift.Dec, d.rest = data.drop s.pos.toNat → d.pos = s.pos.toNat →
      ((Gen.CFun.carquet_buffer_reader_skip s n).1 = 0#32 ↔ d.has n.toNat = true) ∧
      (d.readerSkip n.toNat).rest = data.drop (Gen.CFun.carquet_buffer_reader_skip s n).2.pos.toNat ∧
      (d.readerSkip n.toNat).pos = (Gen.CFun.carquet_buffer_reader_skip s n).2.pos.toNat) := by
  have hp : s.pos.toNat ≤ data.length := by
    obtain ⟨_, hs, hp⟩ := (brInv_iff s data).mp h; omega
  rw [skip_eq s data n h, List.length_drop]
  by_cases hle : s.pos.toNat + n.toNat ≤ data.length
  · obtain ⟨hi, ha⟩ := advance_inv s data n h hle
    rw [if_pos hle, if_pos (show n.toNat ≤ data.length - s.pos.toNat by omega)]
    refine ⟨rfl, hi, fun _ => by rw [ha, List.drop_drop], fun d hd hdp => ?_⟩
    have hh : d.has n.toNat = true := by rw [(Sees.mk hd hdp).has, decide_eq_true_eq]; omega
    simp only [Impl.Thrift.Dec.readerSkip, hh, if_true, Impl.Thrift.Dec.advance, hd, hdp, ha, List.drop_drop]
    exact ⟨trivial, trivial, trivial⟩
  · rw [if_neg hle, if_neg (show ¬ n.toNat ≤ data.length - s.pos.toNat by omega)]
    refine ⟨rfl, h, fun hc => absurd hc (by omega), fun d hd hdp => ?_⟩
    have hh : d.has n.toNat = false := by rw [(Sees.mk hd hdp).has, decide_eq_false_iff_not]; omega
    simp [Impl.Thrift.Dec.readerSkip, hh, hd, hdp]

theorem C13_cfun_buffer_reader_skip_defined (s : Gen.CFun.carquet_buffer_reader_t) (n : BitVec 64) :
    Gen.CFun.carquet_buffer_reader_skip_defined s n = true := by
  simp [Gen.CFun.carquet_buffer_reader_skip_defined, Gen.CFun.carquet_buffer_reader_has_defined]

example : brInv ⟨0, 5#64, 1#64⟩ [1, 2, 3, 4, 5] = true ∧
    Gen.CFun.carquet_buffer_reader_skip ⟨0, 5#64, 1#64⟩ 4#64 = (0#32, ⟨0, 5#64, 5#64⟩) ∧
    Gen.CFun.carquet_buffer_reader_skip ⟨0, 5#64, 1#64⟩ 5#64 = (15#32, ⟨0, 5#64, 1#64⟩) ∧
    ({ Impl.Thrift.Dec.init [1, 2, 3, 4, 5] with rest := [2, 3, 4, 5], pos := 1 } : Impl.Thrift.Dec).has 4 = true ∧
    ({ Impl.Thrift.Dec.init [1, 2, 3, 4, 5] with rest := [2, 3, 4, 5], pos := 1 } : Impl.Thrift.Dec).has 5 = false ∧
    -- a length that would wrap `pos + n` (F83): refused
    Gen.CFun.carquet_buffer_reader_skip ⟨0, 5#64, 1#64⟩ (BitVec.allOnes 64) = (15#32, ⟨0, 5#64, 1#64⟩) := by decide +kernel

end Carquet.Properties.C13
end CFun3BufReader

/-! ## Thrift -/
section CFun3Thrift
/-
C13 — stage-3 link theorems: the primitive readers of the Thrift compact decoder (src/thrift/thrift_decode.c: `set_error`,
`read_byte_raw`, `thrift_read_varint / _zigzag / _byte / _i16 / _i32 / _i64 / _bool`, `thrift_read_struct_begin / _end`,
`thrift_read_list_begin`, `thrift_read_field_begin`) as translated from the CURRENT C source (`Carquet.Gen.CFun`, struct
`thrift_decoder_t` by pointer = generated structure in, new structure out) against the decoder model of the C13 / C04
theorems (`Impl.Thrift.Dec`, `readByteRaw`, `readVarint`, …, `readFieldBegin`).

`Impl.CFun3.decAbs ov bd s data` is the model state the C struct `s` over the bytes `data` stands for (`ov`, `bd`: the
model's two ghost fields, arbitrary), `Impl.CFun3.decInv s data` the invariant (reader = exactly `data`, `0 ≤ pos ≤ size`,
`0 ≤ nesting_level ≤ 32`, 32 cells of `last_field_id`, a status code of the Thrift layer).  Every theorem: the abstraction
of the new struct is the model's new state, the returned value (read with the C type's signedness) is the model's value,
the invariant is preserved, `reader.size` / `reader.data` are unchanged; `…_defined`: no undefined behaviour for EVERY
content of `data`.
-/
namespace Carquet.Properties.C13
open Carquet Carquet.Impl Carquet.Impl.CFun3 Carquet.Proofs.CFun3.ThriftDec

/-- `set_error(dec, status, msg)`: the first error sticks, as in the model — for every model error `e` whose code exists
in the C enum (`errIsC`: all but the model artefacts `stack`, `fuel`) -/
theorem C13_cfun_set_error (ov : Bool) (bd : Nat) (s : Gen.CFun.thrift_decoder_t) (data : List UInt8) (e : Thrift.Err)
    (he : errIsC e = true) (h : decInv s data = true) :
    decAbs ov bd (Gen.CFun.set_error s (BitVec.ofNat 32 e.code)) data = (decAbs ov bd s data).setError e ∧
    decInv (Gen.CFun.set_error s (BitVec.ofNat 32 e.code)) data = true ∧
    (Gen.CFun.set_error s (BitVec.ofNat 32 e.code)).reader = s.reader ∧
    (Gen.CFun.set_error s (BitVec.ofNat 32 e.code)).last_field_id = s.last_field_id ∧
    (Gen.CFun.set_error s (BitVec.ofNat 32 e.code)).nesting_level = s.nesting_level := by
  have l := link_set_error ov bd s data e he ((decInv_iff _ _).mp h)
  exact ⟨l.abs, (decInv_iff _ _).mpr l.inv, rfl, rfl, rfl⟩

theorem C13_cfun_set_error_defined (s : Gen.CFun.thrift_decoder_t) (c : BitVec 32) :
    Gen.CFun.set_error_defined s c = true := rfl

example :
    let s : Gen.CFun.thrift_decoder_t :=
      { reader := { data := 0, size := 2#64, pos := 1#64 },
        last_field_id := List.replicate 32 0#16, nesting_level := 0#32, bool_pending := false, bool_value := false,
        status := 0#32 }
    decInv s [7, 8] = true ∧
    (Gen.CFun.set_error s 33#32).status = 33#32 ∧
    (Gen.CFun.set_error (Gen.CFun.set_error s 33#32) 30#32).status = 33#32 ∧
    (decAbs false 0 (Gen.CFun.set_error (Gen.CFun.set_error s 33#32) 30#32) [7, 8]).status = some .truncated ∧
    (((decAbs false 0 s [7, 8]).setError .truncated).setError .decode).status = some .truncated ∧
    -- a status the Thrift layer never stores is outside the invariant
    decInv { s with status := 15#32 } [7, 8] = false ∧ errIsC .stack = false := by decide +kernel

/-- `read_byte_raw(dec)`: the byte at `pos` (or 0 and THRIFT_TRUNCATED at the end of the buffer) -/
theorem C13_cfun_read_byte_raw (ov : Bool) (bd : Nat) (s : Gen.CFun.thrift_decoder_t) (data : List UInt8)
    (h : decInv s data = true) :
    decAbs ov bd (Gen.CFun.read_byte_raw s data).2 data = (Thrift.readByteRaw (decAbs ov bd s data)).2 ∧
    (Gen.CFun.read_byte_raw s data).1.toNat = (Thrift.readByteRaw (decAbs ov bd s data)).1.toNat ∧
    decInv (Gen.CFun.read_byte_raw s data).2 data = true ∧
    (Gen.CFun.read_byte_raw s data).2.reader.size = s.reader.size ∧
    (Gen.CFun.read_byte_raw s data).2.reader.data = s.reader.data :=
  Rep.pack ((decInv_iff _ _).mp h) (read_byte_raw_abs ov bd s data ((decInv_iff _ _).mp h))

/-- `read_byte_raw` reads `data[pos]` only when `pos < size` — whatever the bytes -/
theorem C13_cfun_read_byte_raw_defined (s : Gen.CFun.thrift_decoder_t) (data : List UInt8) (h : decInv s data = true) :
    Gen.CFun.read_byte_raw_defined s data = true := read_byte_raw_defined s data ((decInv_iff _ _).mp h)

example :
    let s : Gen.CFun.thrift_decoder_t :=
      { reader := { data := 0, size := 2#64, pos := 1#64 },
        last_field_id := List.replicate 32 0#16, nesting_level := 0#32, bool_pending := false, bool_value := false,
        status := 0#32 }
    decInv s [7, 200] = true ∧
    (Gen.CFun.read_byte_raw s [7, 200]).1 = 200#8 ∧ (Gen.CFun.read_byte_raw s [7, 200]).2.reader.pos = 2#64 ∧
    (Thrift.readByteRaw (decAbs false 0 s [7, 200])).1 = 200 ∧
    -- truncated stream: 0 and THRIFT_TRUNCATED, position unchanged
    (Gen.CFun.read_byte_raw (Gen.CFun.read_byte_raw s [7, 200]).2 [7, 200]).1 = 0#8 ∧
    (Gen.CFun.read_byte_raw (Gen.CFun.read_byte_raw s [7, 200]).2 [7, 200]).2.status = 33#32 ∧
    (Gen.CFun.read_byte_raw (Gen.CFun.read_byte_raw s [7, 200]).2 [7, 200]).2.reader.pos = 2#64 ∧
    -- outside the invariant (the list is shorter than `reader.size`): the read is out of bounds
    decInv s [7] = false ∧ Gen.CFun.read_byte_raw_defined s [7] = false := by decide +kernel

/-- `thrift_read_varint(dec)`: at most ten bytes, bits shifted past bit 63 are lost, THRIFT_TRUNCATED at the end of the
buffer, THRIFT_DECODE after ten continuation bytes -/
theorem C13_cfun_thrift_read_varint (ov : Bool) (bd : Nat) (s : Gen.CFun.thrift_decoder_t) (data : List UInt8)
    (h : decInv s data = true) :
    decAbs ov bd (Gen.CFun.thrift_read_varint s data).2 data = (Thrift.readVarint (decAbs ov bd s data)).2 ∧
    (Gen.CFun.thrift_read_varint s data).1.toNat = (Thrift.readVarint (decAbs ov bd s data)).1 ∧
    decInv (Gen.CFun.thrift_read_varint s data).2 data = true ∧
    (Gen.CFun.thrift_read_varint s data).2.reader.size = s.reader.size ∧
    (Gen.CFun.thrift_read_varint s data).2.reader.data = s.reader.data :=
  Rep.pack ((decInv_iff _ _).mp h) (varint_abs ov bd s data ((decInv_iff _ _).mp h))

/-- no undefined behaviour in `thrift_read_varint`, whatever the bytes: every read is inside the buffer, the shift count
is one of 0, 7, …, 63, `shift += 7` does not overflow, eleven tests of the loop condition suffice -/
theorem C13_cfun_thrift_read_varint_defined (s : Gen.CFun.thrift_decoder_t) (data : List UInt8)
    (h : decInv s data = true) : Gen.CFun.thrift_read_varint_defined s data = true :=
  varint_defined s data ((decInv_iff _ _).mp h)

example :
    let s : Gen.CFun.thrift_decoder_t :=
      { reader := { data := 0, size := 3#64, pos := 0#64 },
        last_field_id := List.replicate 32 0#16, nesting_level := 0#32, bool_pending := false, bool_value := false,
        status := 0#32 }
    decInv s [0xAC, 0x02, 0x15] = true ∧
    -- a 2-byte varint
    (Gen.CFun.thrift_read_varint s [0xAC, 0x02, 0x15]).1 = 300#64 ∧
    (Gen.CFun.thrift_read_varint s [0xAC, 0x02, 0x15]).2.reader.pos = 2#64 ∧
    (Thrift.readVarint (decAbs false 0 s [0xAC, 0x02, 0x15])).1 = 300 ∧
    -- a truncated one
    (Gen.CFun.thrift_read_varint s [0xAC, 0x82, 0x95]).1 = 0#64 ∧
    (Gen.CFun.thrift_read_varint s [0xAC, 0x82, 0x95]).2.status = 33#32 ∧
    (Thrift.readVarint (decAbs false 0 s [0xAC, 0x82, 0x95])).2.status = some .truncated := by decide +kernel

example :
    let s : Gen.CFun.thrift_decoder_t :=
      { reader := { data := 0, size := 11#64, pos := 0#64 },
        last_field_id := List.replicate 32 0#16, nesting_level := 0#32, bool_pending := false, bool_value := false,
        status := 0#32 }
    -- ten continuation bytes: THRIFT_DECODE after the tenth, the eleventh byte is not read
    decInv s [0xFF, 0xFF, 0xFF, 0xFF, 0xFF, 0xFF, 0xFF, 0xFF, 0xFF, 0x81, 0x01] = true ∧
    Gen.CFun.thrift_read_varint_defined s [0xFF, 0xFF, 0xFF, 0xFF, 0xFF, 0xFF, 0xFF, 0xFF, 0xFF, 0x81, 0x01] = true ∧
    (Gen.CFun.thrift_read_varint s [0xFF, 0xFF, 0xFF, 0xFF, 0xFF, 0xFF, 0xFF, 0xFF, 0xFF, 0x81, 0x01]).1 = 0#64 ∧
    (Gen.CFun.thrift_read_varint s [0xFF, 0xFF, 0xFF, 0xFF, 0xFF, 0xFF, 0xFF, 0xFF, 0xFF, 0x81, 0x01]).2.status =
      30#32 ∧
    (Gen.CFun.thrift_read_varint s [0xFF, 0xFF, 0xFF, 0xFF, 0xFF, 0xFF, 0xFF, 0xFF, 0xFF, 0x81, 0x01]).2.reader.pos =
      10#64 ∧
    (Thrift.readVarint (decAbs false 0 s [0xFF, 0xFF, 0xFF, 0xFF, 0xFF, 0xFF, 0xFF, 0xFF, 0xFF, 0x81, 0x01])).2.status =
      some .decode ∧
    -- the tenth byte's bits above bit 63 are lost: 0x7F at shift 63 contributes one bit
    (Gen.CFun.thrift_read_varint s [0x80, 0x80, 0x80, 0x80, 0x80, 0x80, 0x80, 0x80, 0x80, 0x7F, 0x01]).1 =
      9223372036854775808#64 ∧
    (Thrift.readVarint (decAbs false 0 s [0x80, 0x80, 0x80, 0x80, 0x80, 0x80, 0x80, 0x80, 0x80, 0x7F, 0x01])).1 =
      9223372036854775808 := by decide +kernel

/-- `thrift_read_zigzag(dec)`, read as an `int64_t` -/
theorem C13_cfun_thrift_read_zigzag (ov : Bool) (bd : Nat) (s : Gen.CFun.thrift_decoder_t) (data : List UInt8)
    (h : decInv s data = true) :
    decAbs ov bd (Gen.CFun.thrift_read_zigzag s data).2 data = (Thrift.readZigzag (decAbs ov bd s data)).2 ∧
    (Gen.CFun.thrift_read_zigzag s data).1.toInt = (Thrift.readZigzag (decAbs ov bd s data)).1 ∧
    decInv (Gen.CFun.thrift_read_zigzag s data).2 data = true ∧
    (Gen.CFun.thrift_read_zigzag s data).2.reader.size = s.reader.size ∧
    (Gen.CFun.thrift_read_zigzag s data).2.reader.data = s.reader.data :=
  Rep.pack ((decInv_iff _ _).mp h) (zigzag_abs ov bd s data ((decInv_iff _ _).mp h))

theorem C13_cfun_thrift_read_zigzag_defined (s : Gen.CFun.thrift_decoder_t) (data : List UInt8)
    (h : decInv s data = true) : Gen.CFun.thrift_read_zigzag_defined s data = true :=
  zigzag_defined s data ((decInv_iff _ _).mp h)

example :
    let s : Gen.CFun.thrift_decoder_t :=
      { reader := { data := 0, size := 2#64, pos := 0#64 },
        last_field_id := List.replicate 32 0#16, nesting_level := 0#32, bool_pending := false, bool_value := false,
        status := 0#32 }
    decInv s [0xD7, 0x04] = true ∧
    (Gen.CFun.thrift_read_zigzag s [0xD7, 0x04]).1.toInt = -300 ∧
    (Thrift.readZigzag (decAbs false 0 s [0xD7, 0x04])).1 = -300 := by decide +kernel

/-- `thrift_read_byte(dec)`, read as an `int8_t` -/
theorem C13_cfun_thrift_read_byte (ov : Bool) (bd : Nat) (s : Gen.CFun.thrift_decoder_t) (data : List UInt8)
    (h : decInv s data = true) :
    decAbs ov bd (Gen.CFun.thrift_read_byte s data).2 data = (Thrift.readI8 (decAbs ov bd s data)).2 ∧
    (Gen.CFun.thrift_read_byte s data).1.toInt = (Thrift.readI8 (decAbs ov bd s data)).1 ∧
    decInv (Gen.CFun.thrift_read_byte s data).2 data = true ∧
    (Gen.CFun.thrift_read_byte s data).2.reader.size = s.reader.size ∧
    (Gen.CFun.thrift_read_byte s data).2.reader.data = s.reader.data :=
  Rep.pack ((decInv_iff _ _).mp h) (byte_abs ov bd s data ((decInv_iff _ _).mp h))

theorem C13_cfun_thrift_read_byte_defined (s : Gen.CFun.thrift_decoder_t) (data : List UInt8)
    (h : decInv s data = true) : Gen.CFun.thrift_read_byte_defined s data = true :=
  read_byte_raw_defined s data ((decInv_iff _ _).mp h)

example :
    let s : Gen.CFun.thrift_decoder_t :=
      { reader := { data := 0, size := 1#64, pos := 0#64 },
        last_field_id := List.replicate 32 0#16, nesting_level := 0#32, bool_pending := false, bool_value := false,
        status := 0#32 }
    decInv s [0xFE] = true ∧ (Gen.CFun.thrift_read_byte s [0xFE]).1.toInt = -2 ∧
    (Thrift.readI8 (decAbs false 0 s [0xFE])).1 = -2 := by decide +kernel

/-- `thrift_read_i16(dec)`: the zigzag value truncated to `int16_t` -/
theorem C13_cfun_thrift_read_i16 (ov : Bool) (bd : Nat) (s : Gen.CFun.thrift_decoder_t) (data : List UInt8)
    (h : decInv s data = true) :
    decAbs ov bd (Gen.CFun.thrift_read_i16 s data).2 data = (Thrift.readI16 (decAbs ov bd s data)).2 ∧
    (Gen.CFun.thrift_read_i16 s data).1.toInt = (Thrift.readI16 (decAbs ov bd s data)).1 ∧
    decInv (Gen.CFun.thrift_read_i16 s data).2 data = true ∧
    (Gen.CFun.thrift_read_i16 s data).2.reader.size = s.reader.size ∧
    (Gen.CFun.thrift_read_i16 s data).2.reader.data = s.reader.data :=
  Rep.pack ((decInv_iff _ _).mp h) (i16_abs ov bd s data ((decInv_iff _ _).mp h))

theorem C13_cfun_thrift_read_i16_defined (s : Gen.CFun.thrift_decoder_t) (data : List UInt8)
    (h : decInv s data = true) : Gen.CFun.thrift_read_i16_defined s data = true :=
  zigzag_defined s data ((decInv_iff _ _).mp h)

example :
    let s : Gen.CFun.thrift_decoder_t :=
      { reader := { data := 0, size := 3#64, pos := 0#64 },
        last_field_id := List.replicate 32 0#16, nesting_level := 0#32, bool_pending := false, bool_value := false,
        status := 0#32 }
    -- zigzag 65536 (varint 131072 = 80 80 08) does not fit an int16_t: the cast keeps the low 16 bits
    decInv s [0x80, 0x80, 0x08] = true ∧ (Gen.CFun.thrift_read_i16 s [0x80, 0x80, 0x08]).1.toInt = 0 ∧
    (Thrift.readI16 (decAbs false 0 s [0x80, 0x80, 0x08])).1 = 0 ∧
    (Gen.CFun.thrift_read_i16 s [0xD7, 0x04, 0x00]).1.toInt = -300 ∧
    (Thrift.readI16 (decAbs false 0 s [0xD7, 0x04, 0x00])).1 = -300 := by decide +kernel

/-- `thrift_read_i32(dec)`: the zigzag value truncated to `int32_t` -/
theorem C13_cfun_thrift_read_i32 (ov : Bool) (bd : Nat) (s : Gen.CFun.thrift_decoder_t) (data : List UInt8)
    (h : decInv s data = true) :
    decAbs ov bd (Gen.CFun.thrift_read_i32 s data).2 data = (Thrift.readI32 (decAbs ov bd s data)).2 ∧
    (Gen.CFun.thrift_read_i32 s data).1.toInt = (Thrift.readI32 (decAbs ov bd s data)).1 ∧
    decInv (Gen.CFun.thrift_read_i32 s data).2 data = true ∧
    (Gen.CFun.thrift_read_i32 s data).2.reader.size = s.reader.size ∧
    (Gen.CFun.thrift_read_i32 s data).2.reader.data = s.reader.data :=
  Rep.pack ((decInv_iff _ _).mp h) (i32_abs ov bd s data ((decInv_iff _ _).mp h))

theorem C13_cfun_thrift_read_i32_defined (s : Gen.CFun.thrift_decoder_t) (data : List UInt8)
    (h : decInv s data = true) : Gen.CFun.thrift_read_i32_defined s data = true :=
  zigzag_defined s data ((decInv_iff _ _).mp h)

example :
    let s : Gen.CFun.thrift_decoder_t :=
      { reader := { data := 0, size := 5#64, pos := 0#64 },
        last_field_id := List.replicate 32 0#16, nesting_level := 0#32, bool_pending := false, bool_value := false,
        status := 0#32 }
    -- varint 2^32 + 3 = zigzag -(2^31 + 2), truncated to int32_t: 2^31 - 2
    decInv s [0x83, 0x80, 0x80, 0x80, 0x10] = true ∧
    (Gen.CFun.thrift_read_i32 s [0x83, 0x80, 0x80, 0x80, 0x10]).1.toInt = 2147483646 ∧
    (Thrift.readI32 (decAbs false 0 s [0x83, 0x80, 0x80, 0x80, 0x10])).1 = 2147483646 := by decide +kernel

/-- `thrift_read_i64(dec)` -/
theorem C13_cfun_thrift_read_i64 (ov : Bool) (bd : Nat) (s : Gen.CFun.thrift_decoder_t) (data : List UInt8)
    (h : decInv s data = true) :
    decAbs ov bd (Gen.CFun.thrift_read_i64 s data).2 data = (Thrift.readI64 (decAbs ov bd s data)).2 ∧
    (Gen.CFun.thrift_read_i64 s data).1.toInt = (Thrift.readI64 (decAbs ov bd s data)).1 ∧
    decInv (Gen.CFun.thrift_read_i64 s data).2 data = true ∧
    (Gen.CFun.thrift_read_i64 s data).2.reader.size = s.reader.size ∧
    (Gen.CFun.thrift_read_i64 s data).2.reader.data = s.reader.data :=
  Rep.pack ((decInv_iff _ _).mp h) (i64_abs ov bd s data ((decInv_iff _ _).mp h))

theorem C13_cfun_thrift_read_i64_defined (s : Gen.CFun.thrift_decoder_t) (data : List UInt8)
    (h : decInv s data = true) : Gen.CFun.thrift_read_i64_defined s data = true :=
  zigzag_defined s data ((decInv_iff _ _).mp h)

example :
    let s : Gen.CFun.thrift_decoder_t :=
      { reader := { data := 0, size := 10#64, pos := 0#64 },
        last_field_id := List.replicate 32 0#16, nesting_level := 0#32, bool_pending := false, bool_value := false,
        status := 0#32 }
    -- INT64_MIN: varint 2^64 - 1
    decInv s [0xFF, 0xFF, 0xFF, 0xFF, 0xFF, 0xFF, 0xFF, 0xFF, 0xFF, 0x01] = true ∧
    (Gen.CFun.thrift_read_i64 s [0xFF, 0xFF, 0xFF, 0xFF, 0xFF, 0xFF, 0xFF, 0xFF, 0xFF, 0x01]).1.toInt =
      -9223372036854775808 ∧
    (Thrift.readI64 (decAbs false 0 s [0xFF, 0xFF, 0xFF, 0xFF, 0xFF, 0xFF, 0xFF, 0xFF, 0xFF, 0x01])).1 =
      -9223372036854775808 := by decide +kernel

/-- `thrift_read_bool(dec)`: the value pending from the last field header, else one byte (`== 1`) -/
theorem C13_cfun_thrift_read_bool (ov : Bool) (bd : Nat) (s : Gen.CFun.thrift_decoder_t) (data : List UInt8)
    (h : decInv s data = true) :
    decAbs ov bd (Gen.CFun.thrift_read_bool s data).2 data = (Thrift.readBool (decAbs ov bd s data)).2 ∧
    (Gen.CFun.thrift_read_bool s data).1 = (Thrift.readBool (decAbs ov bd s data)).1 ∧
    decInv (Gen.CFun.thrift_read_bool s data).2 data = true ∧
    (Gen.CFun.thrift_read_bool s data).2.reader.size = s.reader.size ∧
    (Gen.CFun.thrift_read_bool s data).2.reader.data = s.reader.data := by
  rw [decInv_iff] at h
  exact Rep.pack h (bool_abs ov bd s data h)

theorem C13_cfun_thrift_read_bool_defined (s : Gen.CFun.thrift_decoder_t) (data : List UInt8)
    (h : decInv s data = true) : Gen.CFun.thrift_read_bool_defined s data = true :=
  bool_defined s data ((decInv_iff _ _).mp h)

example :
    let s : Gen.CFun.thrift_decoder_t :=
      { reader := { data := 0, size := 2#64, pos := 0#64 },
        last_field_id := List.replicate 32 0#16, nesting_level := 0#32, bool_pending := true, bool_value := true,
        status := 0#32 }
    decInv s [2, 1] = true ∧
    -- pending value: no byte consumed
    Gen.CFun.thrift_read_bool s [2, 1] = (true, { s with bool_pending := false }) ∧
    (Thrift.readBool (decAbs false 0 s [2, 1])).1 = true ∧
    -- then bytes: 2 is false, 1 is true
    (Gen.CFun.thrift_read_bool (Gen.CFun.thrift_read_bool s [2, 1]).2 [2, 1]).1 = false ∧
    (Gen.CFun.thrift_read_bool (Gen.CFun.thrift_read_bool (Gen.CFun.thrift_read_bool s [2, 1]).2 [2, 1]).2 [2, 1]).1 =
      true := by decide +kernel

/-- `thrift_read_struct_begin(dec)`: push field id 0, or THRIFT_DECODE at THRIFT_MAX_NESTING (= 32) -/
theorem C13_cfun_thrift_read_struct_begin (ov : Bool) (bd : Nat) (s : Gen.CFun.thrift_decoder_t) (data : List UInt8)
    (h : decInv s data = true) :
    decAbs ov bd (Gen.CFun.thrift_read_struct_begin s) data = Thrift.structBegin (decAbs ov bd s data) ∧
    decInv (Gen.CFun.thrift_read_struct_begin s) data = true ∧
    (Gen.CFun.thrift_read_struct_begin s).reader = s.reader := by
  rw [decInv_iff] at h
  obtain ⟨v1, v2, v3⟩ := struct_begin_abs ov bd s data h
  exact ⟨v1, (decInv_iff _ _).mpr v2, v3⟩

/-- `last_field_id[nesting_level]` is written only for `0 ≤ nesting_level < 32`; `nesting_level++` does not overflow -/
theorem C13_cfun_thrift_read_struct_begin_defined (s : Gen.CFun.thrift_decoder_t) (data : List UInt8)
    (h : decInv s data = true) : Gen.CFun.thrift_read_struct_begin_defined s = true :=
  struct_begin_defined s data ((decInv_iff _ _).mp h)

example :
    let s : Gen.CFun.thrift_decoder_t :=
      { reader := { data := 0, size := 0#64, pos := 0#64 },
        last_field_id := List.replicate 32 5#16, nesting_level := 1#32, bool_pending := false, bool_value := false,
        status := 0#32 }
    decInv s [] = true ∧
    (Gen.CFun.thrift_read_struct_begin s).nesting_level = 2#32 ∧
    (Gen.CFun.thrift_read_struct_begin s).last_field_id.take 3 = [5#16, 0#16, 5#16] ∧
    (decAbs false 0 (Gen.CFun.thrift_read_struct_begin s) []).lastId = [0, 5] ∧
    (Thrift.structBegin (decAbs false 0 s [])).lastId = [0, 5] ∧
    -- at the limit: THRIFT_DECODE, nothing written
    (Gen.CFun.thrift_read_struct_begin { s with nesting_level := 32#32 }).status = 30#32 ∧
    (Gen.CFun.thrift_read_struct_begin { s with nesting_level := 32#32 }).last_field_id = s.last_field_id ∧
    (Thrift.structBegin (decAbs false 0 { s with nesting_level := 32#32 } [])).status = some .decode := by decide +kernel

/-- `thrift_read_struct_end(dec)`: pop (nothing at level 0) -/
theorem C13_cfun_thrift_read_struct_end (ov : Bool) (bd : Nat) (s : Gen.CFun.thrift_decoder_t) (data : List UInt8)
    (h : decInv s data = true) :
    decAbs ov bd (Gen.CFun.thrift_read_struct_end s) data = Thrift.structEnd (decAbs ov bd s data) ∧
    decInv (Gen.CFun.thrift_read_struct_end s) data = true ∧
    (Gen.CFun.thrift_read_struct_end s).reader = s.reader ∧
    (Gen.CFun.thrift_read_struct_end s).last_field_id = s.last_field_id := by
  rw [decInv_iff] at h
  obtain ⟨v1, v2, v3, v4⟩ := struct_end_abs ov bd s data h
  exact ⟨v1, (decInv_iff _ _).mpr v2, v3, v4⟩

theorem C13_cfun_thrift_read_struct_end_defined (s : Gen.CFun.thrift_decoder_t) (data : List UInt8)
    (h : decInv s data = true) : Gen.CFun.thrift_read_struct_end_defined s = true :=
  struct_end_defined s data ((decInv_iff _ _).mp h)

example :
    let s : Gen.CFun.thrift_decoder_t :=
      { reader := { data := 0, size := 0#64, pos := 0#64 },
        last_field_id := [7#16, 9#16] ++ List.replicate 30 0#16, nesting_level := 2#32, bool_pending := false,
        bool_value := false, status := 0#32 }
    decInv s [] = true ∧ (decAbs false 0 s []).lastId = [9, 7] ∧
    (Gen.CFun.thrift_read_struct_end s).nesting_level = 1#32 ∧
    (decAbs false 0 (Gen.CFun.thrift_read_struct_end s) []).lastId = [7] ∧
    (Gen.CFun.thrift_read_struct_end { s with nesting_level := 0#32 }).nesting_level = 0#32 ∧
    -- INT_MIN as nesting level is outside the invariant; `nesting_level--` is not reached (the test is `> 0`)
    decInv { s with nesting_level := 2147483648#32 } [] = false := by decide +kernel

/-- `thrift_read_list_begin(dec, &elem_type, &count)`: header byte, long form (size nibble 15) with a varint count
truncated to `int32_t`; a negative count or one that exceeds the remaining bytes is THRIFT_DECODE with `*count = 0` -/
theorem C13_cfun_thrift_read_list_begin (ov : Bool) (bd : Nat) (s : Gen.CFun.thrift_decoder_t) (data : List UInt8)
    (elem_type count : BitVec 32) (h : decInv s data = true) :
    decAbs ov bd (Gen.CFun.thrift_read_list_begin s data elem_type count).1 data =
      (Thrift.readListBegin (decAbs ov bd s data)).dec ∧
    (Gen.CFun.thrift_read_list_begin s data elem_type count).2.1.toNat =
      (Thrift.readListBegin (decAbs ov bd s data)).elemTy ∧
    (Gen.CFun.thrift_read_list_begin s data elem_type count).2.2.toInt =
      (Thrift.readListBegin (decAbs ov bd s data)).count ∧
    decInv (Gen.CFun.thrift_read_list_begin s data elem_type count).1 data = true ∧
    (Gen.CFun.thrift_read_list_begin s data elem_type count).1.reader.size = s.reader.size ∧
    (Gen.CFun.thrift_read_list_begin s data elem_type count).1.reader.data = s.reader.data := by
  obtain ⟨v1, v2, l⟩ := list_begin_abs ov bd s data ((decInv_iff _ _).mp h) elem_type count
  have hs := ((decInv_iff _ _).mp h).same l.inv
  exact ⟨l.abs, v1, v2, (decInv_iff _ _).mpr l.inv, hs.1, hs.2⟩

theorem C13_cfun_thrift_read_list_begin_defined (s : Gen.CFun.thrift_decoder_t) (data : List UInt8)
    (elem_type count : BitVec 32) (h : decInv s data = true) :
    Gen.CFun.thrift_read_list_begin_defined s data elem_type count = true :=
  list_begin_defined s data ((decInv_iff _ _).mp h) elem_type count

example :
    let s : Gen.CFun.thrift_decoder_t :=
      { reader := { data := 0, size := 4#64, pos := 0#64 },
        last_field_id := List.replicate 32 0#16, nesting_level := 0#32, bool_pending := false, bool_value := false,
        status := 0#32 }
    decInv s [0xF5, 0x02, 7, 8] = true ∧
    -- long form: element type 5, count = varint 2
    (Gen.CFun.thrift_read_list_begin s [0xF5, 0x02, 7, 8] 99#32 99#32).2 = (5#32, 2#32) ∧
    (Gen.CFun.thrift_read_list_begin s [0xF5, 0x02, 7, 8] 99#32 99#32).1.reader.pos = 2#64 ∧
    (Thrift.readListBegin (decAbs false 0 s [0xF5, 0x02, 7, 8])).count = 2 ∧
    -- count 3 exceeds the 2 remaining bytes: THRIFT_DECODE, *count = 0
    (Gen.CFun.thrift_read_list_begin s [0xF5, 0x03, 7, 8] 99#32 99#32).2 = (5#32, 0#32) ∧
    (Gen.CFun.thrift_read_list_begin s [0xF5, 0x03, 7, 8] 99#32 99#32).1.status = 30#32 ∧
    (Thrift.readListBegin (decAbs false 0 s [0xF5, 0x03, 7, 8])).dec.status = some .decode ∧
    -- short form: 3 elements of type 8
    (Gen.CFun.thrift_read_list_begin s [0x38, 1, 2, 3] 99#32 99#32).2 = (8#32, 3#32) ∧
    (Thrift.readListBegin (decAbs false 0 s [0x38, 1, 2, 3])).count = 3 := by decide +kernel

example :
    let s : Gen.CFun.thrift_decoder_t :=
      { reader := { data := 0, size := 6#64, pos := 0#64 },
        last_field_id := List.replicate 32 0#16, nesting_level := 0#32, bool_pending := false, bool_value := false,
        status := 0#32 }
    -- count varint 0xFFFFFFFF: negative as an int32_t
    decInv s [0xF5, 0xFF, 0xFF, 0xFF, 0xFF, 0x0F] = true ∧
    (Gen.CFun.thrift_read_list_begin s [0xF5, 0xFF, 0xFF, 0xFF, 0xFF, 0x0F] 99#32 99#32).2 = (5#32, 0#32) ∧
    (Gen.CFun.thrift_read_list_begin s [0xF5, 0xFF, 0xFF, 0xFF, 0xFF, 0x0F] 99#32 99#32).1.status = 30#32 ∧
    (Thrift.readListBegin (decAbs false 0 s [0xF5, 0xFF, 0xFF, 0xFF, 0xFF, 0x0F])).dec.status = some .decode :=
  by decide +kernel

/-- `thrift_read_field_begin(dec, &type, &field_id)`: nothing when an error is latched; STOP (or a failed read) returns
false with `*type = 0`, `*field_id = 0`; short form: `prev_field_id + delta` (in `int`, converted to `int16_t`); long form
(delta 0): a zigzag `i16`; the top of `last_field_id` is updated when `nesting_level > 0`; types 1 / 2 leave a pending
boolean -/
theorem C13_cfun_thrift_read_field_begin (ov : Bool) (bd : Nat) (s : Gen.CFun.thrift_decoder_t) (data : List UInt8)
    (type : BitVec 32) (field_id : BitVec 16) (h : decInv s data = true) :
    decAbs ov bd (Gen.CFun.thrift_read_field_begin s data type field_id).2.1 data =
      (Thrift.readFieldBegin (decAbs ov bd s data)).dec ∧
    (Gen.CFun.thrift_read_field_begin s data type field_id).1 = (Thrift.readFieldBegin (decAbs ov bd s data)).more ∧
    (Gen.CFun.thrift_read_field_begin s data type field_id).2.2.1.toNat =
      (Thrift.readFieldBegin (decAbs ov bd s data)).ty ∧
    (Gen.CFun.thrift_read_field_begin s data type field_id).2.2.2.toInt =
      (Thrift.readFieldBegin (decAbs ov bd s data)).fid ∧
    decInv (Gen.CFun.thrift_read_field_begin s data type field_id).2.1 data = true ∧
    (Gen.CFun.thrift_read_field_begin s data type field_id).2.1.reader.size = s.reader.size ∧
    (Gen.CFun.thrift_read_field_begin s data type field_id).2.1.reader.data = s.reader.data := by
  rw [decInv_iff] at h
  obtain ⟨v1, v2, v3, l⟩ := field_begin_abs ov bd s data h type field_id
  exact ⟨l.abs, v1, v2, v3, (decInv_iff _ _).mpr l.inv, (h.same l.inv).1, (h.same l.inv).2⟩

/-- no undefined behaviour in `thrift_read_field_begin`, whatever the bytes: `nesting_level - 1` does not overflow and
indexes `last_field_id[0..32)`, `prev_field_id + delta` is computed in `int` without overflow, and the readers it calls
are defined -/
theorem C13_cfun_thrift_read_field_begin_defined (s : Gen.CFun.thrift_decoder_t) (data : List UInt8)
    (type : BitVec 32) (field_id : BitVec 16) (h : decInv s data = true) :
    Gen.CFun.thrift_read_field_begin_defined s data type field_id = true :=
  field_begin_defined s data ((decInv_iff _ _).mp h) type field_id

example :
    let s : Gen.CFun.thrift_decoder_t :=
      { reader := { data := 0, size := 3#64, pos := 0#64 },
        last_field_id := [4#16] ++ List.replicate 31 0#16, nesting_level := 1#32, bool_pending := false,
        bool_value := false, status := 0#32 }
    decInv s [0x35, 0x00, 0x00] = true ∧
    -- short form at nesting level 1: delta 3 from field 4, type 5
    (Gen.CFun.thrift_read_field_begin s [0x35, 0x00, 0x00] 99#32 99#16).1 = true ∧
    (Gen.CFun.thrift_read_field_begin s [0x35, 0x00, 0x00] 99#32 99#16).2.2 = (5#32, 7#16) ∧
    (Gen.CFun.thrift_read_field_begin s [0x35, 0x00, 0x00] 99#32 99#16).2.1.last_field_id.take 2 = [7#16, 0#16] ∧
    (Thrift.readFieldBegin (decAbs false 0 s [0x35, 0x00, 0x00])).fid = 7 ∧
    (Thrift.readFieldBegin (decAbs false 0 s [0x35, 0x00, 0x00])).dec.lastId = [7] ∧
    -- long form: type 2 (FALSE, a pending boolean), field id zigzag(0xD7 0x04) = -300
    (Gen.CFun.thrift_read_field_begin s [0x02, 0xD7, 0x04] 99#32 99#16).2.2.1 = 2#32 ∧
    (Gen.CFun.thrift_read_field_begin s [0x02, 0xD7, 0x04] 99#32 99#16).2.2.2.toInt = -300 ∧
    (Gen.CFun.thrift_read_field_begin s [0x02, 0xD7, 0x04] 99#32 99#16).2.1.bool_pending = true ∧
    (Gen.CFun.thrift_read_field_begin s [0x02, 0xD7, 0x04] 99#32 99#16).2.1.bool_value = false ∧
    (Gen.CFun.thrift_read_field_begin s [0x02, 0xD7, 0x04] 99#32 99#16).2.1.reader.pos = 3#64 ∧
    (Thrift.readFieldBegin (decAbs false 0 s [0x02, 0xD7, 0x04])).fid = -300 ∧
    (Thrift.readFieldBegin (decAbs false 0 s [0x02, 0xD7, 0x04])).dec.lastId = [-300] ∧
    -- STOP
    (Gen.CFun.thrift_read_field_begin s [0x00, 0x00, 0x00] 99#32 99#16).1 = false ∧
    (Gen.CFun.thrift_read_field_begin s [0x00, 0x00, 0x00] 99#32 99#16).2.2 = (0#32, 0#16) ∧
    -- a latched error: nothing is read
    (Gen.CFun.thrift_read_field_begin { s with status := 33#32 } [0x35, 0x00, 0x00] 99#32 99#16) =
      (false, { s with status := 33#32 }, 0#32, 0#16) := by decide +kernel

example :
    let s : Gen.CFun.thrift_decoder_t :=
      { reader := { data := 0, size := 1#64, pos := 0#64 },
        last_field_id := [32767#16] ++ List.replicate 31 0#16, nesting_level := 1#32, bool_pending := false,
        bool_value := false, status := 0#32 }
    -- `prev_field_id + delta` = 32767 + 15 is computed in `int` (no overflow) and wraps in the conversion to int16_t
    decInv s [0xF6] = true ∧ Gen.CFun.thrift_read_field_begin_defined s [0xF6] 0#32 0#16 = true ∧
    (Gen.CFun.thrift_read_field_begin s [0xF6] 0#32 0#16).2.2.2.toInt = -32754 ∧
    (Thrift.readFieldBegin (decAbs false 0 s [0xF6])).fid = -32754 ∧
    -- truncated: the stream ends before the header
    (Gen.CFun.thrift_read_field_begin { s with reader := { s.reader with pos := 1#64 } } [0xF6] 0#32 0#16).1 = false ∧
    (Gen.CFun.thrift_read_field_begin { s with reader := { s.reader with pos := 1#64 } } [0xF6] 0#32 0#16).2.1.status =
      33#32 ∧
    -- nesting level 33 is outside the invariant: `last_field_id[32]` would be read
    decInv { s with nesting_level := 33#32 } [0xF6] = false ∧
    Gen.CFun.thrift_read_field_begin_defined { s with nesting_level := 33#32 } [0xF6] 0#32 0#16 = false := by
  decide +kernel

end Carquet.Properties.C13
end CFun3Thrift
