import Carquet.Impl.CSem
import Carquet.Impl.Thrift
import Carquet.Impl.Varint
import Carquet.Gen.CFun
import Carquet.Proofs.Zigzag
import Carquet.Proofs.CFun.Basic
import Carquet.Proofs.CFun.Thrift
/-
C13 — link theorems between the scalar helpers of the Thrift codec (src/core/endian.h `carquet_zigzag_encode64 /
carquet_zigzag_decode64`, src/core/buffer.h `carquet_buffer_reader_has / _remaining`, src/thrift/thrift_decode.c
`has_bytes`) as translated from the CURRENT source (`Carquet.Gen.CFun`, regenerated on every run) and the Thrift model
the C13 (and C04) theorems are about (`Impl.Thrift.zigzagEnc / zigzagDec`, `Impl.Thrift.Dec.has`).
-/
namespace Carquet.Properties.C13
open Carquet Carquet.Impl

/-- `carquet_zigzag_encode64(v)` is the model's `zigzagEnc` of the `int64_t` value, for every `v` -/
theorem C13_cfun_zigzag_encode64 (v : BitVec 64) :
    (Gen.CFun.carquet_zigzag_encode64 v).toNat = Impl.Thrift.zigzagEnc v.toInt := by
  show (Impl.Varint.zigzagEncode64 v).toNat = _
  rw [Proofs.Zigzag.enc64_toNat, BitVec.toInt_eq_toNat_cond]
  have hv := v.isLt
  unfold Impl.Thrift.zigzagEnc
  by_cases h : v.toNat < 2 ^ 63
  · rw [if_pos h, if_pos (by omega), if_pos (by omega)]; omega
  · rw [if_neg h, if_neg (by omega), if_neg (by omega)]; omega

theorem C13_cfun_zigzag_encode64_defined (v : BitVec 64) : Gen.CFun.carquet_zigzag_encode64_defined v = true := rfl

/-- `carquet_zigzag_decode64(n)`, read as an `int64_t`, is the model's `zigzagDec`, for every `n` -/
theorem C13_cfun_zigzag_decode64 (n : BitVec 64) :
    (Gen.CFun.carquet_zigzag_decode64 n).toInt = Impl.Thrift.zigzagDec n.toNat := by
  have e : Gen.CFun.carquet_zigzag_decode64 n = Impl.Varint.zigzagDecode64 n := rfl
  rw [e, BitVec.toInt_eq_toNat_cond, Proofs.Zigzag.dec64_toNat]
  have hn := n.isLt
  unfold Impl.Thrift.zigzagDec
  by_cases h : n.toNat % 2 = 0
  · rw [if_pos h, if_pos h, if_pos (by omega)]
  · rw [if_neg h, if_neg h, if_neg (by omega)]; omega

example : (Gen.CFun.carquet_zigzag_encode64 (BitVec.ofInt 64 (-3))).toNat = 5 ∧ Impl.Thrift.zigzagEnc (-3) = 5 ∧
    (Gen.CFun.carquet_zigzag_decode64 5#64).toInt = -3 ∧ Impl.Thrift.zigzagDec 5 = -3 := by decide

/-- `carquet_buffer_reader_remaining(reader)` for a reader whose position is inside its buffer -/
theorem C13_cfun_buffer_reader_remaining (pos size : BitVec 64) (h : pos.toNat ≤ size.toNat) :
    (Gen.CFun.carquet_buffer_reader_remaining pos size).toNat = size.toNat - pos.toNat :=
  BitVec.toNat_sub_of_le (show pos ≤ size from h)

/-- `carquet_buffer_reader_has(reader, n)` — and `has_bytes(dec, n)`, which only forwards to it — is the model's
`Dec.has`: for a decoder state `d` whose unread bytes are the `size - pos` bytes of the C reader (`0 ≤ pos ≤ size`)
and EVERY `size_t n`.  (Since /repo f656688 the C test is `n <= size - pos`; the earlier spelling `pos + n <= size`
wrapped for `n ≥ 2^64 - pos` and this theorem then needed the extra hypothesis `pos + n < 2^64`.) -/
theorem C13_cfun_buffer_reader_has (d : Impl.Thrift.Dec) (pos size n : BitVec 64)
    (hp : pos.toNat ≤ size.toNat) (hd : d.rest.length = size.toNat - pos.toNat) :
    Gen.CFun.carquet_buffer_reader_has pos size n = d.has n.toNat := by
  rw [Gen.CFun.carquet_buffer_reader_has, Impl.Thrift.Dec.has, Proofs.CFun.lengthGe_eq, hd]
  exact decide_eq_decide.mpr (by rw [BitVec.le_def, BitVec.toNat_sub_of_le (show pos ≤ size from hp)])

theorem C13_cfun_has_bytes (d : Impl.Thrift.Dec) (pos size n : BitVec 64)
    (hp : pos.toNat ≤ size.toNat) (hd : d.rest.length = size.toNat - pos.toNat) :
    Gen.CFun.has_bytes pos size n = d.has n.toNat := by
  unfold Gen.CFun.has_bytes
  exact C13_cfun_buffer_reader_has d pos size n hp hd

theorem C13_cfun_buffer_reader_remaining_defined (pos size : BitVec 64) :
    Gen.CFun.carquet_buffer_reader_remaining_defined pos size = true := rfl

theorem C13_cfun_buffer_reader_has_defined (pos size n : BitVec 64) :
    Gen.CFun.carquet_buffer_reader_has_defined pos size n = true := rfl

theorem C13_cfun_has_bytes_defined (pos size n : BitVec 64) : Gen.CFun.has_bytes_defined pos size n = true := by
  simp [Gen.CFun.has_bytes_defined, Gen.CFun.carquet_buffer_reader_has_defined]

example : Gen.CFun.has_bytes 2#64 5#64 3#64 = true ∧ Gen.CFun.has_bytes 2#64 5#64 4#64 = false ∧
    (2#64 : BitVec 64).toNat ≤ (5#64 : BitVec 64).toNat ∧
    Gen.CFun.has_bytes 2#64 5#64 (BitVec.allOnes 64) = false := by
  decide

end Carquet.Properties.C13
