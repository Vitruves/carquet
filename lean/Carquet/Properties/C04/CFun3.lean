import Carquet.Proofs.CFun3.ThriftDecC
/-
C04 — stage 3 of the C -> Lean function translator (translate/gen_cfun.py, notes/NOTES_cfun3.md): link theorems between the
definitions REGENERATED FROM THE C SOURCE on every check run (Gen/CFun.lean: functions that read and write a struct through
a pointer) and the hand-written Impl models the property theorems of C04 are about.  Only `C04_cfun_<function>` (value
side) and `C04_cfun_<function>_defined` (no undefined behaviour under the documented precondition), each followed by a
non-vacuity example.  The abstraction functions / invariants are executable (Impl/CFun3/*.lean) and are evaluated by the
driver on every self-check line (`modelLink3`).
-/

/-! ## Thrift -/
section CFun3Thrift
/-
C04 — the safety reading of the stage-3 link for the Thrift decoder's primitive readers (src/thrift/thrift_decode.c, as
translated from the CURRENT source in `Carquet.Gen.CFun`): whatever the file bytes are, under the decoder invariant
`Impl.CFun3.decInv` (reader = exactly the list `data`, `0 ≤ pos ≤ size`, `0 ≤ nesting_level ≤ 32`, 32 cells of
`last_field_id`) these readers touch only `data[0 .. size)` and `last_field_id[0 .. 32)`, shift by less than 64 and
overflow no `int`: the generated `…_defined` (false on an out-of-bounds access, a signed overflow, a bad shift count, an
exhausted loop fuel) is `true` for EVERY content of `data`.  The value side is Properties/C13/CFun3.lean (section CFun3Thrift).
-/
namespace Carquet.Properties.C04
open Carquet Carquet.Impl Carquet.Impl.CFun3 Carquet.Proofs.CFun3.ThriftDec

/-- `read_byte_raw` reads `data[pos]` only when `pos < size` -/
theorem C04_cfun_read_byte_raw_defined (s : Gen.CFun.thrift_decoder_t) (data : List UInt8) (h : decInv s data = true) :
    Gen.CFun.read_byte_raw_defined s data = true := read_byte_raw_defined s data ((decInv_iff _ _).mp h)

example :
    let s : Gen.CFun.thrift_decoder_t :=
      { reader := { data := 0, size := 5#64, pos := 4#64 },
        last_field_id := List.replicate 32 0#16, nesting_level := 0#32, bool_pending := false, bool_value := false,
        status := 0#32 }
    decInv s [1, 2, 3, 4, 5] = true ∧ Gen.CFun.read_byte_raw_defined s [1, 2, 3, 4, 5] = true ∧
    -- at the end of the buffer nothing is read
    Gen.CFun.read_byte_raw_defined { s with reader := { s.reader with pos := 5#64 } } [1, 2, 3, 4, 5] = true ∧
    (Gen.CFun.read_byte_raw { s with reader := { s.reader with pos := 5#64 } } [1, 2, 3, 4, 5]).2.status = 33#32 ∧
    -- outside the invariant, a data list shorter than `reader.size`: `data[4]` is out of bounds
    decInv s [1, 2, 3] = false ∧ Gen.CFun.read_byte_raw_defined s [1, 2, 3] = false ∧
    -- outside the invariant, `pos > size`: `size - pos` wraps and the guard lets the read through
    decInv { s with reader := { s.reader with pos := 6#64 } } [1, 2, 3, 4, 5] = false ∧
    Gen.CFun.read_byte_raw_defined { s with reader := { s.reader with pos := 6#64 } } [1, 2, 3, 4, 5] = false := by
  decide +kernel

/-- `thrift_read_varint`: every read inside the buffer, shift counts 0, 7, …, 63 only, no overflow of `shift += 7`, at
most ten iterations -/
theorem C04_cfun_thrift_read_varint_defined (s : Gen.CFun.thrift_decoder_t) (data : List UInt8)
    (h : decInv s data = true) : Gen.CFun.thrift_read_varint_defined s data = true :=
  varint_defined s data ((decInv_iff _ _).mp h)

example :
    let s : Gen.CFun.thrift_decoder_t :=
      { reader := { data := 0, size := 12#64, pos := 0#64 },
        last_field_id := List.replicate 32 0#16, nesting_level := 0#32, bool_pending := false, bool_value := false,
        status := 0#32 }
    -- twelve continuation bytes: the loop stops after ten (shift = 70 is never used as a shift count)
    decInv s (List.replicate 12 0xFF) = true ∧
    Gen.CFun.thrift_read_varint_defined s (List.replicate 12 0xFF) = true ∧
    (Gen.CFun.thrift_read_varint s (List.replicate 12 0xFF)).2.reader.pos = 10#64 ∧
    (Gen.CFun.thrift_read_varint s (List.replicate 12 0xFF)).2.status = 30#32 ∧
    -- continuation bytes up to the end of the buffer: THRIFT_TRUNCATED, no read past the end
    Gen.CFun.thrift_read_varint_defined { s with reader := { s.reader with pos := 9#64 } } (List.replicate 12 0xFF) =
      true ∧
    (Gen.CFun.thrift_read_varint { s with reader := { s.reader with pos := 9#64 } } (List.replicate 12 0xFF)).2.status =
      33#32 ∧
    -- outside the invariant (list shorter than `reader.size`): the fourth read is out of bounds
    decInv s (List.replicate 3 0xFF) = false ∧
    Gen.CFun.thrift_read_varint_defined s (List.replicate 3 0xFF) = false := by decide +kernel

/-- `thrift_read_field_begin`: `last_field_id[nesting_level - 1]` is read / written only for `1 ≤ nesting_level ≤ 32`,
`prev_field_id + delta` does not overflow `int`, the header and the long-form field id are read inside the buffer -/
theorem C04_cfun_thrift_read_field_begin_defined (s : Gen.CFun.thrift_decoder_t) (data : List UInt8)
    (type : BitVec 32) (field_id : BitVec 16) (h : decInv s data = true) :
    Gen.CFun.thrift_read_field_begin_defined s data type field_id = true :=
  field_begin_defined s data ((decInv_iff _ _).mp h) type field_id

example :
    let s : Gen.CFun.thrift_decoder_t :=
      { reader := { data := 0, size := 2#64, pos := 0#64 },
        last_field_id := List.replicate 31 0#16 ++ [100#16], nesting_level := 32#32, bool_pending := false,
        bool_value := false, status := 0#32 }
    -- at the deepest level the cell used is `last_field_id[31]`
    decInv s [0x25, 0x00] = true ∧ Gen.CFun.thrift_read_field_begin_defined s [0x25, 0x00] 0#32 0#16 = true ∧
    (Gen.CFun.thrift_read_field_begin s [0x25, 0x00] 0#32 0#16).2.2 = (5#32, 102#16) ∧
    (Gen.CFun.thrift_read_field_begin s [0x25, 0x00] 0#32 0#16).2.1.last_field_id.drop 31 = [102#16] ∧
    -- long form whose field id runs into the end of the buffer
    Gen.CFun.thrift_read_field_begin_defined s [0x05, 0x80] 0#32 0#16 = true ∧
    (Gen.CFun.thrift_read_field_begin s [0x05, 0x80] 0#32 0#16).2.1.status = 33#32 ∧
    -- nesting level 33 is outside the invariant: `last_field_id[32]` would be accessed
    decInv { s with nesting_level := 33#32 } [0x25, 0x00] = false ∧
    Gen.CFun.thrift_read_field_begin_defined { s with nesting_level := 33#32 } [0x25, 0x00] 0#32 0#16 = false := by
  decide +kernel

/-- `thrift_read_list_begin`: header and count varint are read inside the buffer; the comparison of the count with the
remaining bytes involves no signed arithmetic -/
theorem C04_cfun_thrift_read_list_begin_defined (s : Gen.CFun.thrift_decoder_t) (data : List UInt8)
    (elem_type count : BitVec 32) (h : decInv s data = true) :
    Gen.CFun.thrift_read_list_begin_defined s data elem_type count = true :=
  list_begin_defined s data ((decInv_iff _ _).mp h) elem_type count

example :
    let s : Gen.CFun.thrift_decoder_t :=
      { reader := { data := 0, size := 3#64, pos := 0#64 },
        last_field_id := List.replicate 32 0#16, nesting_level := 0#32, bool_pending := false, bool_value := false,
        status := 0#32 }
    -- a count varint cut by the end of the buffer: THRIFT_TRUNCATED, `*count = 0`
    decInv s [0xF8, 0x80, 0x80] = true ∧ Gen.CFun.thrift_read_list_begin_defined s [0xF8, 0x80, 0x80] 0#32 0#32 = true ∧
    (Gen.CFun.thrift_read_list_begin s [0xF8, 0x80, 0x80] 0#32 0#32).2 = (8#32, 0#32) ∧
    (Gen.CFun.thrift_read_list_begin s [0xF8, 0x80, 0x80] 0#32 0#32).1.status = 33#32 ∧
    -- an empty buffer: header 0 after the failed read
    Gen.CFun.thrift_read_list_begin_defined { s with reader := { s.reader with pos := 3#64 } } [0xF8, 0x80, 0x80]
      0#32 0#32 = true ∧
    -- outside the invariant (list shorter than `reader.size`): the count varint is read past the end of the list
    decInv s [0xF8] = false ∧ Gen.CFun.thrift_read_list_begin_defined s [0xF8] 0#32 0#32 = false := by
  decide +kernel

/-- `thrift_read_struct_begin`: `last_field_id[nesting_level]` is written only for `0 ≤ nesting_level < 32`
(THRIFT_MAX_NESTING), `nesting_level++` does not overflow -/
theorem C04_cfun_thrift_read_struct_begin_defined (s : Gen.CFun.thrift_decoder_t) (data : List UInt8)
    (h : decInv s data = true) : Gen.CFun.thrift_read_struct_begin_defined s = true :=
  struct_begin_defined s data ((decInv_iff _ _).mp h)

example :
    let s : Gen.CFun.thrift_decoder_t :=
      { reader := { data := 0, size := 0#64, pos := 0#64 },
        last_field_id := List.replicate 32 9#16, nesting_level := 32#32, bool_pending := false, bool_value := false,
        status := 0#32 }
    -- a decoder at nesting level 32: THRIFT_DECODE is latched, `last_field_id[32]` is not written, the level stays 32
    decInv s [] = true ∧ Gen.CFun.thrift_read_struct_begin_defined s = true ∧
    (Gen.CFun.thrift_read_struct_begin s).status = 30#32 ∧
    (Gen.CFun.thrift_read_struct_begin s).last_field_id = s.last_field_id ∧
    (Gen.CFun.thrift_read_struct_begin s).nesting_level = 32#32 ∧
    -- level 31: the last cell is written
    Gen.CFun.thrift_read_struct_begin_defined { s with nesting_level := 31#32 } = true ∧
    (Gen.CFun.thrift_read_struct_begin { s with nesting_level := 31#32 }).last_field_id.drop 30 = [9#16, 0#16] ∧
    -- outside the invariant: a negative level indexes before the array
    decInv { s with nesting_level := BitVec.ofInt 32 (-1) } [] = false ∧
    Gen.CFun.thrift_read_struct_begin_defined { s with nesting_level := BitVec.ofInt 32 (-1) } = false ∧
    -- (level 33, also outside the invariant, takes the error branch: nothing is written)
    Gen.CFun.thrift_read_struct_begin_defined { s with nesting_level := 33#32 } = true := by decide +kernel

end Carquet.Properties.C04
end CFun3Thrift
