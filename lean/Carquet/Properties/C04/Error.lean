import Carquet.Proofs.ErrorApi
/-
C04 (error-reporting half) — "reports an error … with a non-OK code and a NUL-terminated message
when an error struct is supplied": the functions of src/core/error.c every error path goes through.
Statements, and the lemmas about `cString` (defined here) by which the generated tables are checked row by row;
all other lemmas in Proofs/ErrorApi.lean.  `Engine` is the C library's `vsnprintf`; the
theorems that speak of memory safety hold for every engine that keeps the ISO C contract
(`Engine.Contract`), the exact ones for the standard's rule `Engine.std`.
-/
namespace Carquet.Properties.C04
open Carquet Carquet.Impl.ErrorApi Carquet.Proofs.ErrorApi

/-- error structs a caller can hold: any struct (whatever bytes its message array held, e.g. an
uninitialised local) after `carquet_error_init` / `carquet_error_clear` or after ANY
`carquet_error_set` (any code, any format result of any length, or a NULL format), then any
number of further `set`, `init`, `set_context` and `copy` calls -/
inductive Reach (E : Engine) : ErrorT → Prop where
  | init (e : ErrorT) (h : e.message.length = cap) : Reach E (errorInit e)
  | set (e : ErrorT) (h : e.message.length = cap) (code : Int) (file : Option Nat) (line : Int) (fn : Option Nat)
      (text : Option Bytes) : Reach E (errorSet E e code file line fn text)
  | context (e : ErrorT) (h : Reach E e) (o r c : Int) : Reach E (errorSetContext e o r c)
  | copy (dest src : ErrorT) (h : Reach E src) : Reach E (errorCopy dest src)

/-- **The message is always a C string.**  Whatever the formatting produces — a text longer than
the array (truncation), an empty one, a NULL format — and whatever the array held before, after
`carquet_error_set` the message array still has its 256 bytes (nothing was stored outside it) and
one of them is a NUL; the same after `init`; `set_context` and `copy` keep it.  With the standard's
`vsnprintf` the string is exactly the text cut to 255 bytes. -/
theorem C04_error_message_terminated (E : Engine) (hE : E.Contract) :
    (∀ e : ErrorT, Reach E e → e.message.length = cap ∧ (0 : UInt8) ∈ e.message) ∧
    (∀ (old text : Bytes), (0 : UInt8) ∉ text →
      cstr (setMessage Engine.std old (some text)) = text.take (cap - 1)) := by
  refine ⟨?_, fun old text h => cstr_setMessage_std old text h⟩
  intro e h
  induction h with
  | init e h =>
    refine ⟨?_, mem_store _ _ _ _ (by simp)⟩
    simp only [errorInit]
    rw [store_length _ _ _ (by have := cap_pos; simp; omega)]; exact h
  | set e h code file line fn text => exact setMessage_ok E hE e.message h text
  | context e _ o r c ih => exact ih
  | copy dest src _ ih => exact ih

-- non-vacuity: a 300-byte text into an array full of 0xAA: 255 bytes of it, then the NUL, nothing else touched
example : (errorSet Engine.std ⟨7, List.replicate 256 0xAA, none, 0, none, 5, 6, 7⟩ 21 (some 1) 99 (some 2)
      (some (List.replicate 300 65))).message = List.replicate 255 65 ++ [0] ∧
    (errorSet Engine.std ⟨7, List.replicate 256 0xAA, none, 0, none, 5, 6, 7⟩ 21 (some 1) 99 (some 2) (some [72, 105])).message
      = [72, 105, 0] ++ List.replicate 253 0xAA ∧
    (errorSet Engine.std ⟨7, List.replicate 256 0xAA, none, 0, none, 5, 6, 7⟩ 21 (some 1) 99 (some 2) none).offset = 5 := by
  decide +kernel

/-- **`carquet_error_format` stays inside the caller's buffer.**  For a buffer of ANY size
(0, 1, smaller than the text, larger), any error struct and any conforming `snprintf`: every
store lies inside `[0, buffer_size)`, the buffer keeps its size, with `buffer_size > 0` and a
non-NULL error it ends up holding a NUL, the value returned is −1 (only if the engine reports a
conversion error on the first call) or in `[0, buffer_size)`; with `buffer_size = 0` nothing is
stored and 0 is returned.  For the error structs of `C04_error_message_terminated` the call never
reads past the message array (no `unterminated` outcome). -/
theorem C04_error_format_in_bounds (E : Engine) (hE : E.Contract) (e : Option ErrorT) (b : Bytes) (size : Nat)
    (hb : b.length = size) :
    (∀ out, errorFormat E e (some b) size = .ok out →
      out.buf.length = size ∧ (∀ w ∈ out.writes, w.1 + w.2 ≤ size) ∧ -1 ≤ out.ret ∧
      (0 < size → out.ret < size) ∧ (size = 0 → out = ⟨b, 0, []⟩) ∧
      (0 < size → e.isSome → (0 : UInt8) ∈ out.buf)) ∧
    (∀ e', e = some e' → (0 : UInt8) ∈ e'.message → ∃ out, errorFormat E e (some b) size = .ok out) := by
  constructor
  · intro out h
    cases e with
    | none =>
      simp only [errorFormat] at h
      cases h
      exact ⟨hb, by simp, by simp, by intro h; simpa using h, fun _ => rfl, by simp⟩
    | some e =>
      simp only [errorFormat] at h
      by_cases hs : size = 0
      · rw [if_pos hs] at h
        cases h
        exact ⟨hb, by simp, by simp, by omega, fun _ => rfl, by omega⟩
      · rw [if_neg hs] at h
        have hpos : 0 < size := by omega
        obtain ⟨hl, hw, hn⟩ := headOut_facts E hE b size hb hpos e
        split at h
        · cases h
        · split at h
          · cases h
            exact ⟨hl, hw, by simp, by simp; omega, by omega, fun _ _ => hn⟩
          · split at h
            · cases h
              exact ⟨hl, hw, by simp; omega, by intro _; simp only; omega, by omega, fun _ _ => hn⟩
            · cases h
              rename_i h1 h2
              have hg : Good size (headOut E b size e) := ⟨hl, by omega, by omega, hw, hn⟩
              have := tailPieces_good E hE size e _ hg
              exact ⟨this.len, this.writes, by have := this.lo; omega, fun _ => this.hi, by omega, fun _ _ => this.nul⟩
  · intro e' he hm
    subst he
    simp only [errorFormat]
    by_cases hs : size = 0
    · exact ⟨_, by rw [if_pos hs]⟩
    · rw [if_neg hs, if_neg (by simpa using hm)]
      split
      · exact ⟨_, rfl⟩
      · split <;> exact ⟨_, rfl⟩

/-- **The length rule (standard `snprintf`).**  `fullText e` is "[status] message" followed by the
context pieces that are set and the hint.  (a) If it fits (`|fullText| < buffer_size`) the buffer
holds exactly that text and its NUL, the bytes behind are untouched, and the length is returned.
(b) If already "[status] message" does not fit, the buffer holds its first `buffer_size − 1`
bytes and a NUL, and `buffer_size − 1` is returned.  (When a later piece does not fit, the value
returned counts the pieces that fitted — `C04_error_format_in_bounds` still bounds it.) -/
theorem C04_error_format_length_rule (e : ErrorT) (b : Bytes) (size : Nat) (hm : (0 : UInt8) ∈ e.message) :
    ((fullText e).length < size →
      ∃ out, errorFormat Engine.std (some e) (some b) size = .ok out ∧
        out.buf = store b 0 (fullText e ++ [0]) ∧ out.ret = ((fullText e).length : Nat)) ∧
    (0 < size → size ≤ (headText e).length →
      ∃ out, errorFormat Engine.std (some e) (some b) size = .ok out ∧
        out.buf = store b 0 ((headText e).take (size - 1) ++ [0]) ∧ out.ret = (size : Int) - 1) := by
  constructor
  · intro hfit
    have hpos : 0 < size := by omega
    obtain ⟨h1, h2⟩ := headOut_std b size hpos e
    have hhead : (headText e).length < size := by
      simp only [fullText, List.length_append] at hfit; omega
    simp only [errorFormat, if_neg (Nat.ne_of_gt hpos), if_neg (by simpa using hm : ¬ (0 : UInt8) ∉ e.message)]
    rw [if_neg (by rw [h2]; omega), if_neg (by rw [h2]; omega)]
    have hs : Shape b (headText e) (headOut Engine.std b size e) := by
      refine ⟨?_, h2⟩
      rw [h1, List.take_of_length_le (by omega)]
    obtain ⟨h3, h4⟩ := tailPieces_shape size e b _ hs hfit
    exact ⟨_, rfl, h3, h4⟩
  · intro hpos hbig
    obtain ⟨h1, h2⟩ := headOut_std b size hpos e
    simp only [errorFormat, if_neg (Nat.ne_of_gt hpos), if_neg (by simpa using hm : ¬ (0 : UInt8) ∉ e.message)]
    rw [if_neg (by rw [h2]; omega), if_pos (by rw [h2]; omega)]
    exact ⟨_, rfl, h1, rfl⟩

-- non-vacuity: INVALID_MAGIC (20) with message "bad", offset 4096, row group 0, no column; buffers of 200, 12, 1, 0 bytes
example :
    (errorFormat Engine.std (some ⟨20, [98, 97, 100, 0] ++ List.replicate 252 1, none, 0, none, 4096, -1, 0⟩)
        (some (List.replicate 200 0xEE)) 200).toOption.map (fun o => (cstr o.buf, o.ret)) =
      some (str "[Invalid magic bytes] bad (file offset: 4096) (row group: 0)\n  Hint: Ensure the file is a valid Parquet file (should start with 'PAR1')", 135) ∧
    (errorFormat Engine.std (some ⟨20, [98, 97, 100, 0] ++ List.replicate 252 1, none, 0, none, 4096, -1, 0⟩)
        (some (List.replicate 12 0xEE)) 12).toOption.map (fun o => (o.buf, o.ret)) = some (str "[Invalid ma" ++ [0], 11) ∧
    (errorFormat Engine.std (some ⟨20, [98, 97, 100, 0] ++ List.replicate 252 1, none, 0, none, 4096, -1, 0⟩)
        (some [0xEE]) 1).toOption.map (fun o => (o.buf, o.ret)) = some ([0], 0) ∧
    (errorFormat Engine.std (some ⟨20, [98, 97, 100, 0] ++ List.replicate 252 1, none, 0, none, 4096, -1, 0⟩)
        (some []) 0).toOption.map (fun o => (o.buf, o.ret, o.writes)) = some ([], 0, []) ∧
    -- the last piece does not fit: 70 bytes hold the head, the offset and the cut hint; 60 is returned
    (errorFormat Engine.std (some ⟨20, [98, 97, 100, 0] ++ List.replicate 252 1, none, 0, none, 4096, -1, 0⟩)
        (some (List.replicate 70 0xEE)) 70).toOption.map (fun o => (o.ret, (cstr o.buf).length)) = some (60, 69) := by
  decide +kernel

/-- strings the library returns as `const char*`: non-empty, without a NUL inside -/
def cString (s : Bytes) : Bool := !s.isEmpty && s.all (· ≠ 0)

theorem cString_str_ofList (l : List Char) (h : IsAsciiText l = true) : cString (str (String.ofList l)) = true := by
  obtain ⟨h0, hz⟩ := str_asciiText l h
  simp only [cString, Bool.and_eq_true, Bool.not_eq_true', List.isEmpty_eq_false_iff, List.all_eq_true,
    decide_eq_true_eq]
  exact ⟨h0, hz⟩

/-- One `case k: return "…";` row of a table extracted from error.c: if the characters of the row's text are ASCII
and not NUL (`IsAsciiText`) and every later row returns a proper C string, so does every row from this one on.  Walking a
table of literals with it (`tables_cString`) shows that whatever `case` is taken the function returns a non-empty string
without a NUL inside.  A literal is `String.ofList` of its characters by definition and the unifier finds them, so only
`IsAsciiText` of each row is evaluated; the byte-array functions behind `str`, which the kernel runs in quadratic time,
are never run. -/
theorem all_cons_text {α : Type} (k : α) (l : List Char) (tl : List (α × String)) (h : IsAsciiText l = true)
    (ht : tl.all (fun p => cString (str p.2)) = true) :
    ((k, String.ofList l) :: tl).all (fun p => cString (str p.2)) = true := by
  rw [List.all_cons, ht, cString_str_ofList l h]; rfl

/-- A `switch` that returns `NULL` in some cases (`carquet_error_recovery_hint`): it returns `NULL` or a proper C
string in every case as soon as the rows that have a text return proper C strings, which `all_cons_text` checks row by
row. -/
theorem all_hints (tbl : List (Int × Option String))
    (h : (tbl.filterMap (fun p => p.2.map (Prod.mk p.1))).all (fun p => cString (str p.2)) = true) :
    tbl.all (fun p => match p.2 with | none => true | some t => cString (str t)) = true := by
  induction tbl with
  | nil => rfl
  | cons p tl ih =>
    obtain ⟨k, _ | t⟩ := p
    · exact ih h
    · have h : (cString (str t) && _) = true := h
      rw [Bool.and_eq_true] at h
      rw [List.all_cons, ih h.2]; exact (Bool.and_true _).trans h.1

theorem tables_cString :
    (Gen.Api.statusStrings.all (fun p => cString (str p.2)) = true ∧ cString (str Gen.Api.statusStringsDefault) = true) ∧
    (Gen.Api.physicalTypeNames.all (fun p => cString (str p.2)) = true ∧
      cString (str Gen.Api.physicalTypeNamesDefault) = true) ∧
    (Gen.Api.compressionNames.all (fun p => cString (str p.2)) = true ∧
      cString (str Gen.Api.compressionNamesDefault) = true) ∧
    (Gen.Api.encodingNames.all (fun p => cString (str p.2)) = true ∧ cString (str Gen.Api.encodingNamesDefault) = true) ∧
    Gen.Api.recoveryHints.all (fun p => match p.2 with | none => true | some t => cString (str t)) = true := by
  refine ⟨⟨?_, cString_str_ofList _ (by decide +kernel)⟩, ⟨?_, cString_str_ofList _ (by decide +kernel)⟩,
    ⟨?_, cString_str_ofList _ (by decide +kernel)⟩, ⟨?_, cString_str_ofList _ (by decide +kernel)⟩, all_hints _ ?_⟩
  all_goals
    repeat' apply all_cons_text _ _ _ (by decide +kernel)
    rfl

/-- **`carquet_status_string` is total**: for every `int` — the enum's values, the gaps between
them, negative and huge ones — it returns a proper C string; outside the `case` labels that is the
`default` string; every constant of `carquet_status_t` has its own `case` and no two share a text. -/
theorem C04_status_string_total :
    (∀ status : Int, cString (statusString status) = true) ∧
    (∀ status : Int, status ∉ Gen.Api.statusStrings.map (·.1) → statusString status = str Gen.Api.statusStringsDefault) ∧
    Gen.Api.statusCodes.all (fun c => Gen.Api.statusStrings.any (fun p => p.1 == c.2)) = true ∧
    (Gen.Api.statusStrings.map (·.2)).Nodup ∧ Gen.Api.statusStringsDefault ∉ Gen.Api.statusStrings.map (·.2) := by
  -- the three facts about the table are one evaluation: the kernel turns each literal into bytes once
  refine ⟨?_, ?_, by decide +kernel⟩
  · intro status
    exact lookup_all (fun s => cString (str s)) _ _ tables_cString.1.2 tables_cString.1.1 status
  · exact fun status h => congrArg str (lookup_default _ _ _ h)

example : statusString 21 = str "Invalid file footer" ∧ statusString 5 = str "Unknown error" ∧
    statusString (-50) = str "Unknown error" ∧ statusString 4294967296 = str "Unknown error" := ⟨rfl, rfl, rfl, rfl⟩

/-- **The `*_name` functions, the hint and the recoverability test are total** on every `int`
(no table indexed by the argument): a proper C string each (`NULL` or a proper C string for the
hint), the `default` result outside the `case` labels, every enum constant with its own `case`. -/
theorem C04_names_total :
    (∀ v : Int, cString (physicalTypeName v) = true ∧ cString (compressionName v) = true ∧
                cString (encodingName v) = true ∧ (∀ h, recoveryHint v = some h → cString h = true)) ∧
    (∀ v : Int, (v ∉ Gen.Api.physicalTypeNames.map (·.1) → physicalTypeName v = str Gen.Api.physicalTypeNamesDefault) ∧
                (v ∉ Gen.Api.compressionNames.map (·.1) → compressionName v = str Gen.Api.compressionNamesDefault) ∧
                (v ∉ Gen.Api.encodingNames.map (·.1) → encodingName v = str Gen.Api.encodingNamesDefault) ∧
                (v ∉ Gen.Api.recoveryHints.map (·.1) → recoveryHint v = Gen.Api.recoveryHintsDefault.map str) ∧
                (v ∉ Gen.Api.recoverable.map (·.1) → isRecoverable v = Gen.Api.recoverableDefault)) ∧
    Gen.Api.physicalTypes.all (fun c => Gen.Api.physicalTypeNames.any (fun p => p.1 == c.2)) = true ∧
    Gen.Api.compressionCodecs.all (fun c => Gen.Api.compressionNames.any (fun p => p.1 == c.2)) = true ∧
    Gen.Api.encodings.all (fun c => Gen.Api.encodingNames.any (fun p => p.1 == c.2)) = true := by
  refine ⟨?_, ?_, by decide +kernel, by decide +kernel, by decide +kernel⟩
  · intro v
    obtain ⟨_, ⟨hp, hpd⟩, ⟨hc, hcd⟩, ⟨he, hed⟩, hh⟩ := tables_cString
    refine ⟨lookup_all (fun s => cString (str s)) _ _ hpd hp v, lookup_all (fun s => cString (str s)) _ _ hcd hc v,
            lookup_all (fun s => cString (str s)) _ _ hed he v, ?_⟩
    intro h hv
    have := lookup_all (fun s : Option String => match s with | none => true | some t => cString (str t))
      Gen.Api.recoveryHints Gen.Api.recoveryHintsDefault rfl hh v
    unfold recoveryHint at hv
    cases hl : lookup Gen.Api.recoveryHints Gen.Api.recoveryHintsDefault v with
    | none => rw [hl] at hv; cases hv
    | some t =>
      rw [hl] at hv this
      cases hv; exact this
  · exact fun v => ⟨fun h => congrArg str (lookup_default _ _ _ h), fun h => congrArg str (lookup_default _ _ _ h),
      fun h => congrArg str (lookup_default _ _ _ h), fun h => congrArg (Option.map str) (lookup_default _ _ _ h),
      fun h => lookup_default _ _ _ h⟩

example : physicalTypeName 7 = str "FIXED_LEN_BYTE_ARRAY" ∧ physicalTypeName 8 = str "UNKNOWN" ∧
    compressionName (-1) = str "UNKNOWN" ∧ encodingName 1 = str "UNKNOWN" ∧ encodingName 9 = str "BYTE_STREAM_SPLIT" ∧
    recoveryHint 1 = none ∧ isRecoverable 12 = true ∧ isRecoverable 1000 = false := ⟨rfl, rfl, rfl, rfl, rfl, rfl, rfl, rfl⟩

end Carquet.Properties.C04
