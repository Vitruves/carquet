import Carquet.Impl.BatchReader
/-
C04 ("every subsequent sequence of valid API calls … never crashes"), batch reader part: calling
`carquet_batch_reader_next` AGAIN after a call that failed is a valid call.  F96: in the pinned code a failed
`open_row_group_readers` left `current_row_group >= 0` with every `col_readers[i] == NULL`, and the next call
evaluated `carquet_column_has_next(col_readers[0])` on the NULL pointer (model status `ub`).  The repaired code
tests the pointer and takes the row-group increment back, so the next call tries the same row group again.
-/
namespace Carquet.Properties.C04
open Carquet.Impl.BatchReader Carquet.Impl.ColumnReader

theorem openReaders_length {α : Type} (mode : IOMode) (f : File α) (g : Int) :
    ∀ (proj : List Int) (rs : List (Reader α)), openReaders mode f g proj = .ok rs → rs.length = proj.length
  | [], rs, h => by simp [openReaders] at h; subst h; rfl
  | c :: cs, rs, h => by
    simp only [openReaders] at h
    cases hc : getColumn mode f g c with
    | error e => simp [hc] at h
    | ok r =>
      cases hr : openReaders mode f g cs with
      | error e => simp [hc, hr] at h
      | ok rs' =>
        simp only [hc, hr, Except.ok.injEq] at h
        subst h
        simp [openReaders_length mode f g cs rs' hr]

theorem getColumn_error {α : Type} (mode : IOMode) (f : File α) (g c : Int) (e : Status)
    (h : Impl.BatchReader.getColumn mode f g c = .error e) : e = .rowGroupNotFound ∨ e = .columnNotFound := by
  unfold Impl.BatchReader.getColumn at h
  split at h
  · cases h; exact Or.inl rfl
  · split at h
    · cases h; exact Or.inr rfl
    · split at h
      · split at h <;> cases h
        exact Or.inr rfl
      · cases h; exact Or.inr rfl

theorem openReaders_error {α : Type} (mode : IOMode) (f : File α) (g : Int) :
    ∀ (proj : List Int) (e : Status), openReaders mode f g proj = .error e → e = .rowGroupNotFound ∨ e = .columnNotFound
  | [], _, h => nomatch h
  | c :: cs, e, h => by
    simp only [openReaders] at h
    split at h
    · cases h; exact getColumn_error mode f g c _ ‹_›
    · split at h
      · cases h; exact openReaders_error mode f g cs _ ‹_›
      · cases h

theorem advanceRowGroup_spec {α : Type} (b : BatchReader α) (hb : b.projected ≠ []) :
    (advanceRowGroup b).2 ≠ .ub ∧
    ((advanceRowGroup b).2 = .ok → (advanceRowGroup b).1.colReaders ≠ []) := by
  unfold advanceRowGroup
  by_cases hend : b.currentRowGroup + 1 ≥ (b.file.rowGroups.length : Int)
  · simp [hend]
  · simp only [hend, if_false]
    cases ho : openReaders b.mode b.file (b.currentRowGroup + 1) b.projected with
    | error e => rcases openReaders_error _ _ _ _ _ ho with rfl | rfl <;> exact ⟨nofun, nofun⟩
    | ok rs =>
      refine ⟨nofun, fun _ hnil => ?_⟩
      have hl := openReaders_length b.mode b.file (b.currentRowGroup + 1) b.projected rs ho
      cases (show rs = [] from hnil)
      exact hb (List.eq_nil_of_length_eq_zero hl.symm)

theorem readBatchRows_no_ub {α : Type} (fx : Fixes) (b : BatchReader α) (r0 : Reader α) :
    (readBatchRows fx b r0).2.1 ≠ .ub := by
  unfold readBatchRows
  split
  · simp
  · split <;> simp

theorem afterAdvance_no_ub {α : Type} (fx : Fixes) (b : BatchReader α) (hb : b.projected ≠ []) :
    (afterAdvance fx b).2.1 ≠ .ub := by
  obtain ⟨h1, h2⟩ := advanceRowGroup_spec b hb
  unfold afterAdvance
  cases hadv : advanceRowGroup b with
  | mk b' st =>
    rw [hadv] at h1 h2
    simp only at h1 h2
    cases st with
    | ok =>
      simp only
      cases hr : b'.colReaders with
      | nil => exact absurd hr (h2 rfl)
      | cons r0 rest => simpa using readBatchRows_no_ub fx b' r0
    | ub => exact absurd rfl h1
    | endOfData => simp
    | rowGroupNotFound => simp
    | columnNotFound => simp
    | decode => simp

/-- **No call of the repaired `carquet_batch_reader_next` dereferences a missing column reader**: for EVERY state of a
batch reader with at least one projected column - in particular the state a failed call leaves behind - the status is
never `ub`.  (`ub` remains reachable only for a batch reader without projected columns, which `create` never
builds from a file with columns.) -/
theorem C04_batch_next_never_ub {α : Type} (fx : Fixes) (br : BatchReader α) (hp : br.projected ≠ []) :
    (next fx br).2.1 ≠ .ub := by
  unfold next
  split
  · exact afterAdvance_no_ub fx br hp
  · split
    · exact afterAdvance_no_ub fx br hp
    · split
      · exact readBatchRows_no_ub fx br _
      · exact afterAdvance_no_ub fx br hp

/-- the state a failed call leaves behind, and a second call on it -/
def exFileF96 : File Nat := { columns := [⟨"v", 0, 0, 4, true, false⟩], rowGroups := [[], []] }
def exBrF96 : BatchReader Nat := ⟨.fread, exFileF96, 7, [0], -1, []⟩

-- non-vacuity: the hypothesis of `C04_batch_next_never_ub` holds of the example, whose first call FAILS
example : exBrF96.projected ≠ [] ∧ (next Fixes.all exBrF96).2.1 = .columnNotFound := by decide

/-- **F96.**  A file whose first row group lacks the projected column chunk: the first call fails with
COLUMN_NOT_FOUND in both versions.  Pinned code: the second call dereferences the NULL `col_readers[0]` (`ub`: a
SEGV on the real code, witness replayed by the C04 check).  Repaired code: the second and third calls report the
same error again and the reader stays in front of the row group. -/
theorem C04_regression_F96 :
    (nextPreFixF96 Fixes.all exBrF96).2.1 = .columnNotFound ∧
    (nextPreFixF96 Fixes.all (nextPreFixF96 Fixes.all exBrF96).1).2.1 = .ub ∧
    (next Fixes.all exBrF96).2.1 = .columnNotFound ∧
    (next Fixes.all (next Fixes.all exBrF96).1).2.1 = .columnNotFound ∧
    (next Fixes.all (next Fixes.all (next Fixes.all exBrF96).1).1).2.1 = .columnNotFound ∧
    (next Fixes.all (next Fixes.all exBrF96).1).1.currentRowGroup = -1 := by decide

end Carquet.Properties.C04
