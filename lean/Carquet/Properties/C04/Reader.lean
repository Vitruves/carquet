import Carquet.Proofs.ReaderBounds
import Carquet.Proofs.ReaderSteps
import Carquet.Proofs.ReaderOpen
import Carquet.Proofs.ReaderExamples
/-
C04 (reader part) — no input file makes the reader read outside the file, and page iteration
makes progress.  Statements only; lemmas in Proofs/Reader*.lean.

The theorems are about `Impl.Reader` = the combined repair series (fixes/SERIES_combined.txt),
in particular F51 (zero-copy view bounded by the page body) and F12 (dictionary page must hold its
entries) — `Fixes.all`; without these two (`Fixes.head`) the property is refuted by the two
kernel-checked witnesses at the end, which the harness replays
on the real code (corpus/C04/F51-F12-F26-F52-page-extents-and-counts.ops: heap-buffer-overflow under ASan).
Heap discipline (leaks, double free) and the decoders' accesses inside a page buffer are not the
subject here (C19, C08).
-/
namespace Carquet.Properties.C04
open Carquet.Impl Carquet.Impl.Reader
open Carquet.Proofs.ReaderBounds Carquet.Proofs.ReaderSteps Carquet.Proofs.ReaderOpen Carquet.Proofs.ReaderExamples

/-- **Every read lies inside the file.**  For every byte string, every way of opening it, every
GZIP/ZSTD library behaviour, verification on or off, and every sequence of
`carquet_reader_get_column` calls and page loads on the column readers obtained: each read of the
file the reader makes (offset, length) ends at or before the end of the file, and each read of a
heap copy of a page stays inside that copy. -/
theorem C04_accesses_in_bounds (L : Libs) (verify : Bool) (mode : Mode) (b : Reader.Bytes) (calls : List Call) :
    (∀ a ∈ (apiRun Fixes.all L verify mode b calls).accesses, a.1 + a.2 ≤ b.length) ∧
    (∀ r ∈ (apiRun Fixes.all L verify mode b calls).heapReads, r.2 ≤ r.1) :=
  apiRun_inb Fixes.all rfl rfl L verify mode b calls

/-- the same for a single page load in an ARBITRARY column reader state (offsets, sizes and
counts are whatever the metadata and earlier pages made them) -/
theorem C04_load_in_bounds (L : Libs) (verify : Bool) (mode : Mode) (b : Reader.Bytes) (c : Col) (st : PState) :
    ∀ a ∈ (loadPage Fixes.all L verify mode b c st).accesses, a.1 + a.2 ≤ b.length :=
  (loadPage_safe Fixes.all rfl rfl L verify mode b c st).file

-- non-vacuity: a page load on a two-page file does read the file (header window, then the body)
example : (loadPage Fixes.all noLibs true .fread twoPage twoPageCol (PState.init twoPageCol)).accesses = [(4, 175), (42, 8)] := by
  decide +kernel
-- … and in mapped mode the zero-copy view is the third access
example : (loadPage Fixes.all noLibs true .mmap twoPage twoPageCol (PState.init twoPageCol)).accesses =
    [(4, 175), (42, 8), (42, 8)] := by decide +kernel

/-- **Bad indices are rejected.**  `carquet_reader_get_column` returns a column reader only for a
row-group index and a column index inside the file's metadata (and a chunk the row group has);
everything else is ROW_GROUP_NOT_FOUND / COLUMN_NOT_FOUND — no access is made either way. -/
theorem C04_bad_indices_rejected (o : Opened) (rg col : Int) :
    ((rg < 0 ∨ rg ≥ o.numRowGroups) → getColumn o rg col = .error .rowGroupNotFound) ∧
    ((0 ≤ rg ∧ rg < o.numRowGroups) → (col < 0 ∨ col ≥ o.numColumns) → getColumn o rg col = .error .columnNotFound) ∧
    (∀ c, getColumn o rg col = .ok c →
      0 ≤ rg ∧ rg < o.numRowGroups ∧ 0 ≤ col ∧ col < o.numColumns ∧
      ∀ g, o.md.rowGroups[rg.toNat]? = some g → col < g.columns.length) := by
  refine ⟨?_, ?_, ?_⟩
  · intro h
    unfold getColumn Opened.numRowGroups at *
    rw [if_pos h]
  · intro h1 h2
    unfold getColumn Opened.numRowGroups Opened.numColumns at *
    rw [if_neg (by omega), if_pos h2]
  · intro c hc
    have := getColumn_ok o rg col c hc
    exact ⟨this.1, this.2.1, this.2.2.1, this.2.2.2.1, this.2.2.2.2.1⟩

example : getColumn ⟨{ rowGroups := [{}] }, [⟨0, 0, 0⟩]⟩ 1 0 = .error .rowGroupNotFound ∧
    getColumn ⟨{ rowGroups := [{}] }, [⟨0, 0, 0⟩]⟩ 0 (-1) = .error .columnNotFound ∧
    getColumn ⟨{ rowGroups := [{}] }, [⟨0, 0, 0⟩]⟩ 0 0 = .error .columnNotFound := by decide

/-- **Page iteration makes progress.**  Take any column reader state (with a `current_page` that
is not negative — it starts at 0 and only grows) and any number `n` of
consecutive page-load attempts on it (each one the "load a new page" branch of
`carquet_read_next_page`: step over the loaded page, load the next).  The file offsets of the loads
that SUCCEED increase strictly, each lies inside the file with at least 8 bytes behind it — so at
most `|file| − 7` loads can ever succeed on one column reader, however many are attempted, whatever
the file says about sizes and counts; a failed attempt costs one bounded load (a header read of
at most 17 windows, at most two dictionary pages, one body) and never moves `current_page`. -/
theorem C04_steps_linear (fx : Fixes) (L : Libs) (verify : Bool) (mode : Mode) (b : Reader.Bytes) (c : Col)
    (n : Nat) (k : Cursor) (hk : 0 ≤ k.pre.currentPage) :
    (okOffsets fx L verify mode b c n k).Pairwise (· < ·) ∧
    (∀ o ∈ okOffsets fx L verify mode b c n k, 0 ≤ o ∧ o.toNat + 8 ≤ b.length) ∧
    (okOffsets fx L verify mode b c n k).length ≤ b.length - 7 := by
  have h := okOffsets_increasing fx L verify mode b c n k (Or.inl hk)
  refine ⟨h.2, fun o ho => (h.1 o ho).2, ?_⟩
  have := increasing_length _ 0 ((b.length : Int) - 7) h.2 (by
    intro o ho
    have := (h.1 o ho).2
    omega)
  omega

-- non-vacuity: five attempts on the two-page file load the pages at offsets 4 and 50, then fail
example : 0 ≤ (Cursor.init twoPageCol).pre.currentPage := by decide
example : okOffsets Fixes.all noLibs true .mmap twoPage twoPageCol 5 (Cursor.init twoPageCol) = [4, 50] := by
  decide +kernel

/-- a page header that parses occupies at least one byte (what makes the offsets increase) -/
theorem C04_header_size_positive (w : List UInt8) (r : ThriftParquetReq.PageHdr × Nat)
    (h : ThriftParquetReq.parsePageHeaderC w = .ok r) : 1 ≤ r.2 :=
  parsePageHeaderC_size w r h

/-! ### the code at /repo HEAD does not have the property (before F51 / F12) -/

/-- F51: with a page header that claims 100000 INT32 values over a 4-byte body, the zero-copy
branch of `load_next_page_mmap` hands out a 400000-byte view of a 104-byte file; the repaired code
sends the page through the standard path, which reports DECODE. -/
theorem C04_regression_F51 :
    (23, 400000) ∈ (loadPage Fixes.head noLibs true .buffer f51 col51 (PState.init col51)).accesses ∧
    ¬ (23 + 400000 ≤ f51.length) ∧
    (loadPage Fixes.all noLibs true .buffer f51 col51 (PState.init col51)).result = .error .decode := by
  refine ⟨by decide +kernel, by decide +kernel, ?_⟩
  -- The stages up to the stored body are evaluated.  The copying path is not, and no step may leave the
  -- kernel a closed `match readDataPageV1 …` to reduce: it would count out the 100000 levels of a
  -- REQUIRED column before PLAIN refuses 100000 INT32 values in 4 bytes.
  have hhdr : (loadHeader .buffer f51 ((PState.init col51).dataStart + (PState.init col51).currentPage)).result =
      .ok (⟨0, 4, 4, none, 100000, 0⟩, 19) := by decide +kernel
  have hbody : (bodyBytes .buffer f51 ((PState.init col51).dataStart + (PState.init col51).currentPage).toNat 19
      (4 : Int).toNat).1 = .ok [1, 0, 0, 0] := by decide +kernel
  have hplain : decodeValues Fixes.all col51 (PState.init col51).dict 0 [1, 0, 0, 0] (100000 : Int).toNat = .error .decode := by
    decide +kernel
  have hread : readDataPageV1 Fixes.all col51 (PState.init col51).dict [1, 0, 0, 0] (100000 : Int).toNat 0 = .error .decode := by
    rw [Carquet.Proofs.ReaderModes.readDataPageV1_flat _ _ _ _ _ _ rfl rfl, hplain]
    rfl
  rw [(loadPage_of_header _ _ _ _ _ _ _ _ (Or.inl rfl) hhdr (by decide)).1,
    finishDataPage_of_body _ _ _ _ _ _ _ _ _ (by decide) hbody, afterBody_result,
    if_neg (by decide), if_neg (by decide), if_neg (by decide)]
  exact copyPage_read_error (pageData_codec0 _ _ _) hread

/-- F12: a dictionary page whose header claims 1000 INT32 entries over a 4-byte body makes
`carquet_read_dictionary_page` copy 4000 bytes out of a 4-byte page buffer (fread mode: heap
buffer; mapped mode: 4000 bytes at offset 19 of a 115-byte file); the repaired code reports DECODE. -/
theorem C04_regression_F12 :
    (4, 4000) ∈ (loadPage Fixes.head noLibs true .fread f12 col12 (PState.init col12)).heapReads ∧
    (19, 4000) ∈ (loadPage Fixes.head noLibs true .buffer f12 col12 (PState.init col12)).accesses ∧
    ¬ (19 + 4000 ≤ f12.length) ∧
    (loadPage Fixes.all noLibs true .fread f12 col12 (PState.init col12)).result = .error .decode := by
  decide +kernel

end Carquet.Properties.C04
