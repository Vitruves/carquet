import Carquet.Impl.Thrift
import Carquet.Impl.ThriftParquet
import Carquet.Impl.ThriftCost
import Carquet.Gen.Constants
import Carquet.Proofs.ThriftSafeParquet
import Carquet.Proofs.ThriftCost
import Carquet.Proofs.ThriftCostParquet
/-
C04 / C08 for the metadata parser — safety of the Thrift compact decoder on ARBITRARY bytes.
Property statements only; helper lemmas live in Carquet/Proofs/ThriftSafe*.lean, ThriftCost*.lean.

The model (Impl.Thrift, Impl.ThriftParquet; fidelity exact, tied by harness/ops_thrift.c) makes the
three runtime notions data:
  * a `while (thrift_read_field_begin)` loop runs on a budget of `size + 1` iterations and reports
    `Err.fuel` when it runs out — "terminates" is "`Err.fuel` is unreachable";
  * `thrift_skip` runs on a grant of `stk` C stack frames and reports `Err.stack` when it needs
    more — "bounded recursion" is "`Err.stack` is unreachable with `maxNesting + 1` frames";
  * `pos` counts the bytes consumed and `rest` is what is left — "no read outside the buffer" is
    "`rest` stays a suffix of the input and `pos + |rest|` stays `size`";
and Impl.ThriftCost counts steps along the same control flow.
-/
namespace Carquet.Properties.C04
open Carquet Carquet.Impl.Thrift Carquet.Impl.ThriftParquet
open Carquet.Proofs.ThriftSafe

/-! ## (a) (b) (c) The two top-level parsers, on every byte string -/

/-- `parquet_parse_file_metadata` (repaired code), for EVERY byte string `bs`:
(a) no field loop exhausts its budget of `|bs| + 1` iterations (`Err.fuel` unreachable);
(c) `thrift_skip` never needs more than the frames it is granted (`Err.stack` unreachable; see
    `C04_thrift_skip_stack_bound` for the number: `maxNesting + 1`);
(b) the position reported never exceeds `|bs|`;
(d) none of the three top-level arrays (schema, row_groups, key_value_metadata) it allocates has
    more cells than `bs` has bytes. -/
theorem C04_thrift_file_metadata_safe (bs : List UInt8) :
    (parseFileMetaDataX Cfg.fixed bs).status ≠ some .fuel ∧
    (parseFileMetaDataX Cfg.fixed bs).status ≠ some .stack ∧
    (parseFileMetaDataX Cfg.fixed bs).consumed ≤ bs.length ∧
    (parseFileMetaDataX Cfg.fixed bs).val.schema.length ≤ bs.length ∧
    (parseFileMetaDataX Cfg.fixed bs).val.rowGroups.length ≤ bs.length ∧
    (parseFileMetaDataX Cfg.fixed bs).val.keyValueMetadata.length ≤ bs.length :=
  parseFileMetaDataX_safe bs

/-- a malformed footer: schema list announcing 127 elements in a 3-byte input is refused by the
count check of `thrift_read_list_begin`, not by running out of anything -/
example : (parseFileMetaDataX Cfg.fixed [0x29, 0xFC, 0x7F]).status = some .decode ∧
    (parseFileMetaDataX Cfg.fixed [0x29, 0xFC, 0x7F]).consumed = 3 := by decide +kernel

/-- `parquet_parse_page_header` (repaired code), for EVERY byte string: (a), (c), (b) as above. -/
theorem C04_thrift_page_header_safe (bs : List UInt8) :
    (parsePageHeaderX Cfg.fixed bs).status ≠ some .fuel ∧
    (parsePageHeaderX Cfg.fixed bs).status ≠ some .stack ∧
    (parsePageHeaderX Cfg.fixed bs).consumed ≤ bs.length :=
  parsePageHeaderX_safe bs

/-- a page header cut in the middle of a varint: TRUNCATED, position at the end -/
example : (parsePageHeaderX Cfg.fixed [0x15, 0x00, 0x15, 0x80]).status = some .truncated ∧
    (parsePageHeaderX Cfg.fixed [0x15, 0x00, 0x15, 0x80]).consumed = 4 := by decide +kernel

/-! ## `thrift_skip`, every wire type, from every decoder state -/

/-- `thrift_skip(dec, ty)` as the parsers call it, for EVERY wire type `ty` (0..15 and beyond) and
EVERY decoder state `d` without error whose loop budget exceeds the bytes left (as it does
throughout a parse: the budget is `size + 1`): the result `d'`
(a) is not `Err.fuel`, (c) is not `Err.stack`,
(b) has consumed a prefix of what was left — `d'.rest` is a suffix of `d.rest` and `pos` has
    advanced by exactly the number of bytes dropped —
and, when it ends without error, is back at the nesting level it started at and (unless `ty` is
one of the two bool codes, whose value sits in the field header) has consumed at least one byte;
a BYTE / DOUBLE / UUID that the stream ends inside is reported as THRIFT_TRUNCATED (fix F62). -/
theorem C04_thrift_skip_safe (ty : Nat) (d : Dec) (hb : d.rest.length < d.budget) (hs : d.status = none) :
    (skipField Cfg.fixed ty d).status ≠ some .fuel ∧
    (skipField Cfg.fixed ty d).status ≠ some .stack ∧
    (skipField Cfg.fixed ty d).rest <:+ d.rest ∧
    (skipField Cfg.fixed ty d).pos + (skipField Cfg.fixed ty d).rest.length = d.pos + d.rest.length ∧
    ((skipField Cfg.fixed ty d).status = none → (skipField Cfg.fixed ty d).lastId.length = d.lastId.length) ∧
    ((skipField Cfg.fixed ty d).status = none → ¬(ty = 1 ∨ ty = 2) →
      (skipField Cfg.fixed ty d).rest.length + 1 ≤ d.rest.length) ∧
    (d.rest.length < fixedWidth ty → (skipField Cfg.fixed ty d).status = some .truncated) := by
  have hg : Good d := ⟨hb, by rw [hs]; simp, by rw [hs]; simp⟩
  have ha := skipField_adv ty d hg
  have hg' := ha.good hg
  obtain ⟨pre, hr, _⟩ := ha.rest
  exact ⟨hg'.nofuel, hg'.nostack, ⟨pre, hr.symm⟩, ha.pos_len, ha.depth,
    fun hok hnb => skipField_progress ty d hg hs hnb hok, skipField_short ty d hs⟩

/-- the same from the start of a buffer: the position stays inside `bs` and what is left is
`bs` from that position on -/
theorem C04_thrift_skip_in_buffer (ty : Nat) (bs : List UInt8) :
    (skipField Cfg.fixed ty (Dec.init bs)).pos ≤ bs.length ∧
    (skipField Cfg.fixed ty (Dec.init bs)).rest = bs.drop (skipField Cfg.fixed ty (Dec.init bs)).pos ∧
    (skipField Cfg.fixed ty (Dec.init bs)).status ≠ some .fuel ∧
    (skipField Cfg.fixed ty (Dec.init bs)).status ≠ some .stack ∧
    (bs.length < fixedWidth ty → (skipField Cfg.fixed ty (Dec.init bs)).status = some .truncated) := by
  have hshort := skipField_short ty (Dec.init bs) rfl
  have hg := init_good bs
  have ha := skipField_adv ty (Dec.init bs) hg
  have hg' := ha.good hg
  obtain ⟨pre, hr, hp⟩ := ha.rest
  have hr' : bs = pre ++ (skipField Cfg.fixed ty (Dec.init bs)).rest := hr
  have hp' : (skipField Cfg.fixed ty (Dec.init bs)).pos = 0 + pre.length := hp
  generalize skipField Cfg.fixed ty (Dec.init bs) = d' at *
  refine ⟨?_, ?_, hg'.nofuel, hg'.nostack, hshort⟩
  · rw [hp', hr', List.length_append]; omega
  · rw [hp', Nat.zero_add]
    conv => rhs; rw [hr']
    simp

/-- a struct whose only field is a list of 3 doubles of which only one is there: the skip stops
at the second double with THRIFT_TRUNCATED, inside the buffer (before fix F62 the failed
`carquet_buffer_reader_skip` was ignored and the skip ended without error behind the STOP byte);
with one double announced it ends OK behind the STOP byte -/
example : (skipField Cfg.fixed 12 (Dec.init [0x19, 0x37, 1, 2, 3, 4, 5, 6, 7, 8, 0])).pos = 10 ∧
    (skipField Cfg.fixed 12 (Dec.init [0x19, 0x37, 1, 2, 3, 4, 5, 6, 7, 8, 0])).status = some .truncated ∧
    (skipField Cfg.preFix 12 (Dec.init [0x19, 0x37, 1, 2, 3, 4, 5, 6, 7, 8, 0])).pos = 11 ∧
    (skipField Cfg.preFix 12 (Dec.init [0x19, 0x37, 1, 2, 3, 4, 5, 6, 7, 8, 0])).status = none ∧
    (skipField Cfg.fixed 12 (Dec.init [0x19, 0x17, 1, 2, 3, 4, 5, 6, 7, 8, 0])).pos = 11 ∧
    (skipField Cfg.fixed 12 (Dec.init [0x19, 0x17, 1, 2, 3, 4, 5, 6, 7, 8, 0])).status = none := by
  decide +kernel

/-! ## (c) Recursion depth -/

/-- **`thrift_skip` needs at most `THRIFT_MAX_NESTING + 1` frames** (the F8 repair), for EVERY
input: started at nesting level `L` with at least one frame and at least `maxNesting + 1 − L`
frames granted, it never asks for another one.  (The struct parsers of parquet_types.c are not
recursive: their depth is their static nesting, at most 6 frames above `thrift_skip`.) -/
theorem C04_thrift_skip_stack_bound (stk ty : Nat) (d : Dec) (hb : d.rest.length < d.budget) (hs : d.status = none)
    (h1 : 1 ≤ stk) (hstk : maxNesting + 1 ≤ stk + d.lastId.length) :
    (skip Cfg.fixed stk ty d).status ≠ some .stack := by
  have hg : Good d := ⟨hb, by rw [hs]; simp, by rw [hs]; simp⟩
  exact ((skip_adv stk ty d hg (fun _ => ⟨h1, hstk⟩)).good hg).nostack

/-- `maxNesting` is the value of `THRIFT_MAX_NESTING` in the current source -/
example : maxNesting = Gen.thriftMaxNesting := by decide

/-- the bound is sharp: 32 nested one-element lists need the 33rd frame (which then refuses the
33rd nesting level with THRIFT_DECODE), and 32 frames are one too few -/
example :
    (skip Cfg.fixed 33 9 (Dec.init (List.replicate 32 0x19 ++ [0x13, 0x00]))).status = some .decode ∧
    (skip Cfg.fixed 32 9 (Dec.init (List.replicate 32 0x19 ++ [0x13, 0x00]))).status = some .stack := by
  decide +kernel

/-- before the F8 repair no number of frames sufficed: `n` nested lists exhaust `n` frames -/
example : (skip Cfg.preFix 40 9 (Dec.init (List.replicate 40 0x19 ++ [0x03]))).status = some .stack := by
  decide +kernel

/-! ## (a) Linear time -/

/-- **`thrift_skip` takes at most `36·(bytes consumed) + 36` steps**, for EVERY wire type and
EVERY input (a step = one `thrift_skip` invocation, one bool element, or one
`thrift_read_field_begin`; Impl.ThriftCost).  In particular at most `36·|remaining| + 36`. -/
theorem C04_thrift_skip_linear (ty : Nat) (d : Dec) (hb : d.rest.length < d.budget) (hs : d.status = none) :
    skipFieldSteps Cfg.fixed ty d + 36 * (skipField Cfg.fixed ty d).rest.length ≤ 36 * d.rest.length + 36 := by
  have hg : Good d := ⟨hb, by rw [hs]; simp, by rw [hs]; simp⟩
  exact skipSteps_le stackBudget ty d hg hs (stackBudget_ok d)

/-- a list announcing 14 doubles with 14 bytes left: one element is skipped, the second is
THRIFT_TRUNCATED (3 steps; before fix F62 the 13 short elements were 13 more steps that consumed
nothing and reported nothing — the case the constant 36 was made for); a struct with a
one-double list takes 5 steps -/
example : skipFieldSteps Cfg.fixed 9 (Dec.init [0xF7, 14, 1, 2, 3, 4, 5, 6, 7, 8, 9, 10, 11, 12, 13, 14]) = 3 ∧
    (skipField Cfg.fixed 9 (Dec.init [0xF7, 14, 1, 2, 3, 4, 5, 6, 7, 8, 9, 10, 11, 12, 13, 14])).pos = 10 ∧
    (skipField Cfg.fixed 9 (Dec.init [0xF7, 14, 1, 2, 3, 4, 5, 6, 7, 8, 9, 10, 11, 12, 13, 14])).status = some .truncated ∧
    skipFieldSteps Cfg.preFix 9 (Dec.init [0xF7, 14, 1, 2, 3, 4, 5, 6, 7, 8, 9, 10, 11, 12, 13, 14]) = 15 ∧
    skipFieldSteps Cfg.fixed 12 (Dec.init [0x19, 0x17, 1, 2, 3, 4, 5, 6, 7, 8, 0]) = 5 := by
  decide +kernel

/-- **`parquet_parse_file_metadata` takes at most `44·|bs| + 5` steps, and
`parquet_parse_page_header` at most `38·|bs| + 3`, for EVERY byte string `bs`** (repaired code).
A step is a `thrift_read_field_begin`, a `thrift_skip` invocation, a skipped bool element, or one
cell of an array allocated for a list (Impl.ThriftCost follows the parsers' control flow function
by function) — so the first bound is also a bound on the total number of array cells
`parquet_parse_file_metadata` allocates, repeated list fields and the cells visited after an
error included (the element loops of parquet_types.c are not guarded by the decoder status). -/
theorem C04_thrift_parsers_linear (bs : List UInt8) :
    parseFileMetaDataSteps Cfg.fixed bs ≤ 44 * bs.length + 5 ∧
    parsePageHeaderSteps Cfg.fixed bs ≤ 38 * bs.length + 3 :=
  ⟨parseFileMetaDataSteps_le bs, parsePageHeaderSteps_le bs⟩

/-- a well-formed 55-byte footer (2 schema elements, 1 row group, 1 column chunk with 2 encodings
and a 1-element path) takes 35 steps; a 12-byte input whose row-group list announces 10 elements
and fails inside the first one takes 24 (the loop still visits the 9 other cells) -/
example :
    parseFileMetaDataSteps Cfg.fixed (writeFileMetaData
      { version := 2, numRows := 3,
        schema := [{ name := some [0x72], numChildren := 1 }, { type := some 1, name := some [0x61], repetition := some 0 }],
        rowGroups := [{ totalByteSize := 10, numRows := 3,
                        columns := [{ fileOffset := 4, metaData := some { type := 1, encodings := [0, 3],
                                                                          pathInSchema := [[0x61]], numValues := 3 } }] }] })
      = 35 ∧
    parseFileMetaDataSteps Cfg.fixed [0x49, 0xAC, 0xFF, 1, 2, 3, 4, 5, 6, 7, 8, 9] = 24 ∧
    parsePageHeaderSteps Cfg.fixed [21, 0, 21, 20, 21, 20, 44, 21, 2, 21, 0, 21, 0, 21, 0, 28, 54, 14, 40, 1, 1, 0, 0, 0] = 14 := by
  decide +kernel

/-! ## (d) Counts and lengths read from the wire are bounded by what is left -/

/-- The count handed out by `thrift_read_list_begin` / `thrift_read_set_begin` is non-negative and
at most the number of bytes left behind the header; the one of `thrift_read_map_begin` at most
that number plus one (the key/value type byte); the bytes returned by `thrift_read_binary` are a
prefix of what is left behind the length varint — for EVERY decoder state. -/
theorem C04_thrift_counts_bounded (d : Dec) :
    (0 ≤ (readListBegin d).count ∧ (readListBegin d).count.toNat ≤ (readListBegin d).dec.rest.length) ∧
    (0 ≤ (readMapBegin d).count ∧ (readMapBegin d).count.toNat ≤ (readMapBegin d).dec.rest.length + 1) ∧
    (∀ b, (readBinary d).1 = some b →
      b.length ≤ (readVarint d).2.rest.length ∧ b = (readVarint d).2.rest.take b.length) :=
  ⟨readListBegin_count d, readMapBegin_count d, readBinary_slice d⟩

/-- `thrift_read_list_begin; VALIDATE_COUNT; calloc(count, sizeof T); for …` (every list member of
parquet_types.c below the top level): the list that is stored has at most `max` cells and at most
as many cells as bytes were left in front of the list header, whatever the element parser does. -/
theorem C04_thrift_list_alloc_bounded {α : Type} (max : Int) (elem : Dec → α × Dec) (d : Dec) (xs : List α)
    (h : (parseListOf max elem d).1 = some xs) : xs.length ≤ d.rest.length ∧ (xs.length : Int) ≤ max :=
  parseListOf_len max elem d xs h

/-- a list header announcing 2^31−1 elements in front of 4 bytes: `thrift_read_list_begin` sets
THRIFT_DECODE and hands out count 0, so an empty array is stored; four elements in front of five
bytes are read -/
example : (parseListOf maxEncodings readI32 (Dec.init [0xF5, 0xFF, 0xFF, 0xFF, 0xFF, 0x07, 1, 2, 3, 4])).1 = some [] ∧
    (parseListOf maxEncodings readI32 (Dec.init [0xF5, 0xFF, 0xFF, 0xFF, 0xFF, 0x07, 1, 2, 3, 4])).2.status = some .decode ∧
    (parseListOf maxEncodings readI32 (Dec.init [0x45, 2, 4, 6, 8, 9])).1 = some [1, 2, 3, 4] := by
  decide +kernel

end Carquet.Properties.C04
