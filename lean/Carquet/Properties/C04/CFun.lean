import Carquet.Impl.CSem
import Carquet.Impl.Reader
import Carquet.Gen.CFun
import Carquet.Proofs.CFun.Basic
/-
C04 — link theorems between the page-bounds guards of src/reader/page_reader.c (`page_header_sizes_valid`,
`mmap_header_window`, `mmap_body_in_file`) as translated from the CURRENT source (`Carquet.Gen.CFun`, regenerated on
every run) and the guards of the reader model the C04 theorems are about (`Impl.Reader.sizesValid`, the mapped
branches of `Impl.Reader.loadHeader` and `Impl.Reader.bodyBytes`).  Dropping or weakening one of these checks in the C
code changes the generated definition and the theorem here stops checking.
-/
namespace Carquet.Properties.C04
open Carquet Carquet.Impl
open Carquet.Impl.Reader (Bytes Mode Load slice access loadHeader bodyBytes parseWindow sizesValid)
open Carquet.Impl.ThriftParquetReq (PageHdr)

/-- `page_header_sizes_valid(h)` is the model's `sizesValid`, for every pair of `int32_t` sizes -/
theorem C04_cfun_page_header_sizes_valid (h : PageHdr) (c u : BitVec 32)
    (hc : c.toInt = h.compressed) (hu : u.toInt = h.uncompressed) :
    Gen.CFun.page_header_sizes_valid c u = sizesValid h := by
  simp only [Gen.CFun.page_header_sizes_valid, sizesValid, ← hc, ← hu, BitVec.sle_eq_decide]
  rfl

theorem C04_cfun_page_header_sizes_valid_defined (c u : BitVec 32) :
    Gen.CFun.page_header_sizes_valid_defined c u = true := by
  simp [Gen.CFun.page_header_sizes_valid_defined]

example : Gen.CFun.page_header_sizes_valid 10#32 (BitVec.ofInt 32 (-1)) = false ∧
    sizesValid { type := 0, uncompressed := -1, compressed := 10, crc := none, word0 := 0, word4 := 0 } = false ∧
    Gen.CFun.page_header_sizes_valid 10#32 20#32 = true := by decide

/-- bytes available to the page-header parser at offset `off` of a mapped file of `len` bytes (0: outside) -/
def headerWindow (len : Nat) (off : Int) : Nat := if off < 0 ∨ off ≥ len then 0 else len - off.toNat

/-- `mmap_header_window(file_reader, offset)` is `headerWindow file_size offset`, for every `size_t` file size and
every `int64_t` offset -/
theorem C04_cfun_mmap_header_window (fileSize offset : BitVec 64) :
    (Gen.CFun.mmap_header_window fileSize offset).toNat = headerWindow fileSize.toNat offset.toInt := by
  rw [Gen.CFun.mmap_header_window, headerWindow, BitVec.slt_eq_decide, show (0#64).toInt = 0 from rfl]
  by_cases hneg : offset.toInt < 0
  · rw [decide_eq_true hneg, Bool.true_or, if_pos rfl, if_pos (Or.inl hneg)]; rfl
  · have hn := Proofs.CSem.toNat_of_nonneg offset (Int.not_lt.mp hneg)
    rw [decide_eq_false hneg, Bool.false_or, ← hn]
    by_cases hge : fileSize ≤ offset
    · rw [decide_eq_true hge, if_pos rfl, if_pos (Or.inr (by rw [BitVec.le_def] at hge; omega))]; rfl
    · rw [decide_eq_false hge, if_neg Bool.false_ne_true, if_neg (by rw [BitVec.le_def] at hge; omega),
        BitVec.toNat_sub_of_le (BitVec.le_of_lt (BitVec.not_le.mp hge))]

theorem C04_cfun_mmap_header_window_defined (fileSize offset : BitVec 64) :
    Gen.CFun.mmap_header_window_defined fileSize offset = true := by
  simp [Gen.CFun.mmap_header_window_defined]

example : (Gen.CFun.mmap_header_window 100#64 40#64).toNat = 60 ∧ headerWindow 100 40 = 60 ∧
    (Gen.CFun.mmap_header_window 100#64 100#64).toNat = 0 ∧
    (Gen.CFun.mmap_header_window 100#64 (BitVec.ofInt 64 (-1))).toNat = 0 := by decide

/-- The mapped branch of the model's `loadHeader` is the C call sequence `header_avail = mmap_header_window(…);
if (header_avail < 8) INVALID_PAGE; parse(header_ptr, header_avail)` with `headerWindow` for the C function. -/
theorem C04_cfun_loadHeader_window (mode : Mode) (hm : mode.mapped = true) (b : Bytes) (off : Int) :
    loadHeader mode b off =
      if headerWindow b.length off < 8 then Load.pure (.error .invalidPage)
      else ⟨parseWindow (slice b off.toNat (headerWindow b.length off)), [(off.toNat, headerWindow b.length off)], []⟩ := by
  unfold loadHeader headerWindow
  simp only [hm, if_true]
  by_cases h : off < 0 ∨ off ≥ (b.length : Int)
  · simp [h]
  · simp only [h, if_false]

/-- … and therefore with the translated C function itself, for every file below 2^64 bytes and every `int64_t`
offset: the model's header load is decided by the value the current C `mmap_header_window` returns. -/
theorem C04_cfun_loadHeader_uses_mmap_header_window (mode : Mode) (hm : mode.mapped = true) (b : Bytes)
    (offset : BitVec 64) (hb : b.length < 2 ^ 64) :
    loadHeader mode b offset.toInt =
      if (Gen.CFun.mmap_header_window (BitVec.ofNat 64 b.length) offset).toNat < 8 then Load.pure (.error .invalidPage)
      else ⟨parseWindow (slice b offset.toInt.toNat (Gen.CFun.mmap_header_window (BitVec.ofNat 64 b.length) offset).toNat),
            [(offset.toInt.toNat, (Gen.CFun.mmap_header_window (BitVec.ofNat 64 b.length) offset).toNat)], []⟩ := by
  rw [C04_cfun_mmap_header_window, C04_cfun_loadHeader_window mode hm]
  simp [Nat.mod_eq_of_lt hb]

example : (Mode.mmap).mapped = true ∧ ([1, 2, 3] : Bytes).length < 2 ^ 64 := by decide

/-- does the page body `[off + hsize, off + hsize + comp)` lie inside a mapped file of `len` bytes (`off ≤ len`) -/
def bodyInFile (len off hsize : Nat) (comp : Int) : Bool :=
  decide (0 ≤ comp) && decide (hsize ≤ len - off) && decide (comp.toNat ≤ len - off - hsize)

/-- `mmap_body_in_file(file_reader, offset, header_size, compressed_size)` is `bodyInFile`, for every file size,
header size and `int32_t` compressed size, under the function's documented precondition "offset checked by
mmap_header_window", i.e. `0 ≤ offset ≤ file_size`.  (Without it the C subtraction `file_size - offset` wraps and the
function accepts ranges outside the file — see the example below; every call site checks the offset first.) -/
theorem C04_cfun_mmap_body_in_file (fileSize offset hsize : BitVec 64) (comp : BitVec 32)
    (hoff : 0 ≤ offset.toInt ∧ offset.toInt ≤ fileSize.toNat) :
    Gen.CFun.mmap_body_in_file fileSize offset hsize comp =
      bodyInFile fileSize.toNat offset.toInt.toNat hsize.toNat comp.toInt := by
  have hn : offset.toNat = offset.toInt.toNat := Proofs.CSem.toNat_of_nonneg offset hoff.1
  have hav : (fileSize - offset).toNat = fileSize.toNat - offset.toInt.toNat := by
    rw [BitVec.toNat_sub_of_le (by rw [BitVec.le_def]; omega), hn]
  rw [Gen.CFun.mmap_body_in_file, bodyInFile, BitVec.slt_eq_decide, show (0#32).toInt = 0 from rfl]
  by_cases hneg : comp.toInt < 0
  · rw [decide_eq_true hneg, if_pos rfl, decide_eq_false (Int.not_le.mpr hneg)]; rfl
  · have h2 : 0 ≤ comp.toInt := Int.not_lt.mp hneg
    rw [decide_eq_false hneg, if_neg Bool.false_ne_true, decide_eq_true h2, Bool.true_and]
    by_cases h3 : hsize ≤ fileSize - offset
    · have h3' : hsize.toNat ≤ fileSize.toNat - offset.toInt.toNat := by rwa [BitVec.le_def, hav] at h3
      rw [decide_eq_true h3, decide_eq_true h3', Bool.true_and, Bool.true_and]
      exact decide_eq_decide.mpr (by
        rw [BitVec.le_def, BitVec.toNat_sub_of_le h3, hav, Proofs.CSem.sext_of_nonneg (u := 64) comp h2 (by decide)])
    · have h3' : ¬ hsize.toNat ≤ fileSize.toNat - offset.toInt.toNat := by rwa [BitVec.le_def, hav] at h3
      rw [decide_eq_false h3, decide_eq_false h3']; rfl

theorem C04_cfun_mmap_body_in_file_defined (fileSize offset hsize : BitVec 64) (comp : BitVec 32) :
    Gen.CFun.mmap_body_in_file_defined fileSize offset hsize comp = true := by
  simp [Gen.CFun.mmap_body_in_file_defined]

example : (0 : Int) ≤ (40#64).toInt ∧ (40#64).toInt ≤ (100#64).toNat ∧
    Gen.CFun.mmap_body_in_file 100#64 40#64 20#64 40#32 = true ∧
    Gen.CFun.mmap_body_in_file 100#64 40#64 20#64 41#32 = false ∧
    Gen.CFun.mmap_body_in_file 100#64 40#64 61#64 0#32 = false := by decide

/-- outside the precondition the C function is NOT a bounds check: with `offset > file_size` the available size wraps
around and a body far outside the file is accepted (the model's `Nat` subtraction would reject it) -/
example : Gen.CFun.mmap_body_in_file 100#64 101#64 20#64 40#32 = true ∧ bodyInFile 100 101 20 40 = false := by decide

/-- The mapped branch of the model's `bodyBytes` is `if (!mmap_body_in_file(…)) INVALID_PAGE` with `bodyInFile`
for the C function (`comp` is the non-negative compressed size `page_header_sizes_valid` let through). -/
theorem C04_cfun_bodyBytes_guard (mode : Mode) (hm : mode.mapped = true) (b : Bytes) (off hsize comp : Nat) :
    bodyBytes mode b off hsize comp =
      if bodyInFile b.length off hsize comp then (.ok (slice b (off + hsize) comp), access (off + hsize) comp)
      else (.error .invalidPage, []) := by
  unfold bodyBytes bodyInFile
  simp only [hm, if_true]
  by_cases h1 : hsize ≤ b.length - off <;> by_cases h2 : comp ≤ b.length - off - hsize <;> simp [h1, h2]

example : bodyInFile 100 40 20 40 = true ∧ bodyInFile 100 40 20 41 = false := by decide

/-- `carquet_page_is_zero_copy_eligible(codec, encoding, type)` (src/reader/mmap_reader.c, little-endian branch) is the
model's `zeroCopyEligible`, for every value of the three enums -/
theorem C04_cfun_zero_copy_eligible (codec encoding type : BitVec 32) :
    Gen.CFun.carquet_page_is_zero_copy_eligible codec encoding type =
      Impl.Reader.zeroCopyEligible codec.toNat encoding.toNat type.toNat := by
  simp (disch := decide) only [Gen.CFun.carquet_page_is_zero_copy_eligible, Impl.Reader.zeroCopyEligible,
    Impl.Reader.fixedWidth, bne, Proofs.CFun.beq_lit32, Bool.decide_or]
  cases decide ((codec.toNat : Int) = 0) <;> cases decide ((encoding.toNat : Int) = 0) <;> simp [Bool.or_assoc]

theorem C04_cfun_zero_copy_eligible_defined (codec encoding type : BitVec 32) :
    Gen.CFun.carquet_page_is_zero_copy_eligible_defined codec encoding type = true := by
  simp [Gen.CFun.carquet_page_is_zero_copy_eligible_defined]

example : Gen.CFun.carquet_page_is_zero_copy_eligible 0#32 0#32 7#32 = true ∧
    Impl.Reader.zeroCopyEligible 0 0 7 = true ∧
    Gen.CFun.carquet_page_is_zero_copy_eligible 0#32 0#32 6#32 = false ∧
    Gen.CFun.carquet_page_is_zero_copy_eligible 1#32 0#32 1#32 = false := by decide

end Carquet.Properties.C04
