import Carquet.Impl.ParDict
import Carquet.Proofs.ParDict
import Carquet.Properties.C07.Par
/-
C07, second part: dictionary-encoded column chunks under parallel reading, the critical-section
structure of recorded traces, and the cold-start batch read as ONE theorem (see
`Properties/C07/ParCold.lean`).

As in the first part every theorem quantifies over ALL interleavings of the MODEL.  New in the
model (`Impl/ParDict.lean`): every stdio access of the fread path is a `file_read_at` = one critical
section `[seek f o; read f n]`; a page load is one or more header reads (`read_page_header_fread`:
windows 256, 512, ..) and a body read; a chunk is [a probe header read] + the dictionary page load +
the data page loads.
-/
namespace Carquet.Properties.C07
open Carquet.Impl.Par Carquet.Proofs.Par

/-- Workers that perform ANY lists of reads through `file_read_at` on ONE shared stream `f`
(`rss[w]` = the `(offset, size)` pairs of worker `w`): under every interleaving every worker
obtains exactly the bytes at its own offsets — the sequential result. -/
theorem C07_fread_reads_schedule_independent (f : Nat) (rss : List (List (Nat × Nat)))
    (s : List (Worker × Action)) (hm : IsMerge (rss.map (readsFread f)) s) (st : State) (w : Worker) :
    (exec s st).pr w = (exec (sequential (rss.map (readsFread f))) st).pr w ∧
    (exec s st).pr w = st.pr w ++ readsBytes st.sh.file (rss.getD w []) := by
  have hat : ∀ l ∈ rss.map (readsFread f), ∀ a ∈ l, a.atomicIO = true := by
    intro l hl a ha
    obtain ⟨rs, _, rfl⟩ := List.mem_map.1 hl
    exact atomicIO_readsFread f rs a ha
  have h := C07_fread_atomic_sections _ hat s hm st w
  refine ⟨h.1, ?_⟩
  rw [h.2, getD_map (readsFread f) rss w [] [] rfl]
  exact solo_readsFread w f _ st

/-- Dictionary-encoded chunks, fread mode (all column readers on the reader's one `FILE*` `f`):
worker `w` loads the chunk `cols[w]` — [probe header read,] dictionary page (header read(s), body
read), then its data pages (header read(s), body read each), every read a `file_read_at`.  Under
every interleaving each column reader obtains exactly the bytes of its own pages. -/
theorem C07_fread_dict_chunks_schedule_independent (f : Nat) (cols : List ChunkLoc)
    (s : List (Worker × Action)) (hm : IsMerge (cols.map (chunkFreadD f)) s) (st : State) (w : Worker) :
    (exec s st).pr w = (exec (sequential (cols.map (chunkFreadD f))) st).pr w ∧
    (exec s st).pr w = st.pr w ++ readsBytes st.sh.file (chunkReads (cols.getD w {})) := by
  have e : cols.map (chunkFreadD f) = (cols.map chunkReads).map (readsFread f) := by
    simp [chunkFreadD]
  rw [e] at hm ⊢
  have h := C07_fread_reads_schedule_independent f (cols.map chunkReads) s hm st w
  refine ⟨h.1, ?_⟩
  rw [h.2, getD_map chunkReads cols w {} [] rfl]

/-- The actions of `chunkFreadD` in the shape of the C code: [probe] + `load_dictionary_page_fread`
+ the page loads of `load_next_page_fread`. -/
theorem C07_chunkFreadD_shape (f : Nat) (c : ChunkLoc) :
    chunkFreadD f c =
      (match c.dict with
       | none => []
       | some d => (if c.probed then headerReadFread f d else []) ++ pageLoadFreadW f d) ++
      c.pages.flatMap (pageLoadFreadW f) :=
  chunkFreadD_shape f c

/-- The same chunks through mmap / the caller's buffer: reads of immutable bytes; every
interleaving gives every column reader its own bytes and leaves the shared store unchanged. -/
theorem C07_mmap_dict_chunks_schedule_independent (cols : List ChunkLoc)
    (s : List (Worker × Action)) (hm : IsMerge (cols.map chunkMmapD) s) (st : State) (w : Worker) :
    (exec s st).sh = st.sh ∧
    (exec s st).pr w = (exec (sequential (cols.map chunkMmapD)) st).pr w ∧
    (exec s st).pr w = st.pr w ++ readsBytes st.sh.file (chunkReadsMmap (cols.getD w {})) := by
  have hro : ∀ l ∈ cols.map chunkMmapD, ∀ a ∈ l, ∀ sh p, (runSP a.prims sh p).1 = sh := by
    intro l hl a ha
    obtain ⟨c, _, rfl⟩ := List.mem_map.1 hl
    exact readonly_readsMmap _ a ha
  have h := C07_private_commute _ hro s hm st
  refine ⟨h.1, (h.2 w).1, ?_⟩
  rw [(h.2 w).2, getD_map chunkMmapD cols w {} [] rfl]
  exact solo_readsMmap w _ st

/-- fread = mmap: a chunk none of whose headers needed a second read window is read with the same
`(offset, size)` pairs in both modes, so (by the two theorems above) every column reader obtains the
same bytes in fread mode under any schedule as in mmap / buffer mode under any schedule. -/
theorem C07_dict_modes_agree (c : ChunkLoc) (hd : ∀ d, c.dict = some d → d.k = 0)
    (hp : ∀ p ∈ c.pages, p.k = 0) : chunkReads c = chunkReadsMmap c :=
  chunkReads_eq_mmap c hd hp

/-! #### the 16-byte example file: two chunks, each a dictionary page and a data page -/

/-- column A: dictionary page at 0 (header 2 bytes, body 2), data page at 4 (header 2, body 2);
column B: dictionary page at 8 (header 3, body 1), found by probing, data page at 12 (header 2, body 2) -/
def dictChunkA : ChunkLoc := { dict := some ⟨0, 2, 2, 0⟩, pages := [⟨4, 2, 2, 0⟩] }
def dictChunkB : ChunkLoc := { dict := some ⟨8, 3, 1, 0⟩, probed := true, pages := [⟨12, 2, 2, 0⟩] }

-- non-vacuity: the two chunk readers; 6 + 8 sections give 3003 interleavings, one is shown
example : chunkFreadD 0 dictChunkA =
    [.crit [.seek 0 0, .read 0 256], .crit [.seek 0 2, .read 0 2],
     .crit [.seek 0 4, .read 0 256], .crit [.seek 0 6, .read 0 2]] := by decide

example : chunkFreadD 0 dictChunkB =
    [.crit [.seek 0 8, .read 0 256], .crit [.seek 0 8, .read 0 256], .crit [.seek 0 11, .read 0 1],
     .crit [.seek 0 12, .read 0 256], .crit [.seek 0 14, .read 0 2]] := by decide

example : IsMerge ([dictChunkA, dictChunkB].map (chunkFreadD 0))
    [(0, .crit [.seek 0 0, .read 0 256]), (1, .crit [.seek 0 8, .read 0 256]),
     (1, .crit [.seek 0 8, .read 0 256]), (0, .crit [.seek 0 2, .read 0 2]),
     (1, .crit [.seek 0 11, .read 0 1]), (0, .crit [.seek 0 4, .read 0 256]),
     (1, .crit [.seek 0 12, .read 0 256]), (1, .crit [.seek 0 14, .read 0 2]),
     (0, .crit [.seek 0 6, .read 0 2])] := by
  rw [← isMerge_iff]; decide +kernel

-- a page whose header needs three windows
example : pageLoadFreadW 3 ⟨100, 700, 40, 2⟩ =
    [.crit [.seek 3 100, .read 3 256], .crit [.seek 3 100, .read 3 512],
     .crit [.seek 3 100, .read 3 1024], .crit [.seek 3 800, .read 3 40]] := by decide

/-! #### the seeded change C07b-2: the dictionary body read split into two critical sections -/

def splitWorkers : List (List Action) := [chunkFreadDSplit 0 dictChunkA, chunkFreadDSplit 0 dictChunkB]

/-- worker 0 reads its dictionary header and seeks to the dictionary body; worker 1's probe header
read comes in between; worker 0's body read then starts where worker 1's read ended (end of file) -/
def splitSchedule : List (Worker × Action) :=
  [(0, .crit [.seek 0 0, .read 0 256]), (0, .crit [.seek 0 2]),
   (1, .crit [.seek 0 8, .read 0 256]),
   (0, .crit [.read 0 2]),
   (0, .crit [.seek 0 4, .read 0 256]), (0, .crit [.seek 0 6, .read 0 2]),
   (1, .crit [.seek 0 8, .read 0 256]), (1, .crit [.seek 0 11]), (1, .crit [.read 0 1]),
   (1, .crit [.seek 0 12, .read 0 256]), (1, .crit [.seek 0 14, .read 0 2])]

/-- Kernel-checked: the split dictionary load (`critical { fseek }` + `critical { fread }`, every
stdio call still under the lock) violates the footprint condition `atomicIO` — the section holding
the `fread` does not start with a seek — while the load of the current code satisfies it; and there
is an interleaving of two such column readers on one `FILE*` in which worker 0's dictionary body
read returns nothing (sequentially: the bytes `[2, 3]`), so the conclusion of
`C07_fread_dict_chunks_schedule_independent` is false for the split loads. -/
theorem C07_dict_body_split_violates_footprint :
    (chunkFreadDSplit 0 dictChunkA).all Action.atomicIO = false ∧
    (Action.crit [.read 0 2]).atomicIO = false ∧
    (chunkFreadD 0 dictChunkA).all Action.atomicIO = true ∧
    IsMerge splitWorkers splitSchedule ∧
    (exec splitSchedule (initState f21File 0)).pr 0 =
      [.bytes [0,1,2,3,4,5,6,7, 100,101,102,103,104,105,106,107], .bytes [],
       .bytes [4,5,6,7, 100,101,102,103,104,105,106,107], .bytes [6,7]] ∧
    (exec (sequential splitWorkers) (initState f21File 0)).pr 0 =
      [.bytes [0,1,2,3,4,5,6,7, 100,101,102,103,104,105,106,107], .bytes [2,3],
       .bytes [4,5,6,7, 100,101,102,103,104,105,106,107], .bytes [6,7]] ∧
    ¬ (∀ (s : List (Worker × Action)), IsMerge splitWorkers s → ∀ w,
        (exec s (initState f21File 0)).pr w =
          (exec (sequential splitWorkers) (initState f21File 0)).pr w) := by
  have hm : IsMerge splitWorkers splitSchedule := by rw [← isMerge_iff]; decide +kernel
  have h1 : (exec splitSchedule (initState f21File 0)).pr 0 =
      [.bytes [0,1,2,3,4,5,6,7, 100,101,102,103,104,105,106,107], .bytes [],
       .bytes [4,5,6,7, 100,101,102,103,104,105,106,107], .bytes [6,7]] := by decide +kernel
  have h2 : (exec (sequential splitWorkers) (initState f21File 0)).pr 0 =
      [.bytes [0,1,2,3,4,5,6,7, 100,101,102,103,104,105,106,107], .bytes [2,3],
       .bytes [4,5,6,7, 100,101,102,103,104,105,106,107], .bytes [6,7]] := by decide +kernel
  refine ⟨by decide +kernel, by decide +kernel, by decide +kernel, hm, h1, h2, ?_⟩
  intro h
  have := h splitSchedule hm 0
  rw [h1, h2] at this
  exact absurd this (by decide)

/-- with the load of the current code the same order of turns gives worker 0 its own bytes -/
example : (exec [(0, .crit [.seek 0 0, .read 0 256]), (1, .crit [.seek 0 8, .read 0 256]),
                 (0, .crit [.seek 0 2, .read 0 2])] (initState f21File 0)).pr 0 =
    [.bytes [0,1,2,3,4,5,6,7, 100,101,102,103,104,105,106,107], .bytes [2,3]] := by decide +kernel

/-! #### data-dependent offsets: the adaptive chunk reader -/

/-- Column readers whose every offset comes out of the bytes read before (`chunkProg`: header read at
the current offset; the parsed header gives the body offset and size; the next page starts behind
the body — this is how the dictionary page determines `data_start_offset` and every page the
next one): after ANY schedule of turns worker `w` holds what it holds after the same number of
turns taken alone, and any two schedules in which `w` has finished agree.  `parse` is arbitrary. -/
theorem C07_adaptive_chunk_readers (parse : List UInt8 → Option (Nat × Nat)) (f : Nat)
    (chunk : Worker → Nat × Nat) (st : State) (w : Worker) :
    (∀ s : List Worker,
        (execTurns (fun w => chunkProg f (chunk w).1 (chunk w).2 parse) s st).pr w =
        (execTurns (fun w => chunkProg f (chunk w).1 (chunk w).2 parse) (List.replicate (s.count w) w) st).pr w) ∧
    (∀ s₁ s₂ : List Worker,
        chunkProg f (chunk w).1 (chunk w).2 parse
          ((execTurns (fun w => chunkProg f (chunk w).1 (chunk w).2 parse) s₁ st).pr w) = none →
        chunkProg f (chunk w).1 (chunk w).2 parse
          ((execTurns (fun w => chunkProg f (chunk w).1 (chunk w).2 parse) s₂ st).pr w) = none →
        (execTurns (fun w => chunkProg f (chunk w).1 (chunk w).2 parse) s₁ st).pr w =
        (execTurns (fun w => chunkProg f (chunk w).1 (chunk w).2 parse) s₂ st).pr w) :=
  C07_adaptive_atomic_sections _
    (fun w p a h => chunkProg_atomic f (chunk w).1 (chunk w).2 parse p a h) st w

/-- a toy header format: byte 0 = header size, byte 1 = body size -/
def toyParse : List UInt8 → Option (Nat × Nat)
  | h :: c :: _ => some (h.toNat, c.toNat)
  | _ => none

-- non-vacuity: a chunk of two pages (2-byte headers; bodies of 3 and 1 bytes) read by worker 0 while
-- worker 1 reads the second page as a chunk of its own
example : (execTurns (fun w => chunkProg 0 (if w = 0 then 0 else 5) (if w = 0 then 2 else 1) toyParse)
    [0, 1, 0, 1, 0, 0, 1] (initState [2, 3, 10, 11, 12, 2, 1, 20] 0)).pr 0 =
    [.bytes [2, 3, 10, 11, 12, 2, 1, 20], .bytes [10, 11, 12], .bytes [2, 1, 20], .bytes [20]] := by decide +kernel

/-! #### recorded traces with critical-section boundaries -/

/-- Tie of a recorded trace to the action model.  If the footprint check the driver runs on a trace
passes (`critFootprint`: the seek/read/section events are well bracketed, sections do not overlap,
every section is `[seek f o; read f n]`), then the trace IS the flattening of an action-level
schedule `s` of atomic sections: replaying the recorded seeks and reads one by one (`execPrims`) is
executing `s`, every action of `s` satisfies the hypothesis `atomicIO` of
`C07_fread_atomic_sections`, and so every thread obtained what it obtains when its own sections run
alone. -/
theorem C07_trace_is_atomic_section_schedule (es : List Ev) (h : critFootprint es = true) :
    ∃ s : List (Worker × Action),
      schedOfTrace es = some s ∧ flat s = primsOfTrace es ∧ (∀ e ∈ s, e.2.atomicIO = true) ∧
      ∀ (st : State) (w : Worker),
        execPrims (primsOfTrace es) st = exec s st ∧
        (exec s st).pr w = (exec (solo w (proj w s)) st).pr w := by
  obtain ⟨s, hs, hat⟩ := critFootprint_atomic es h
  have hf := schedOfTrace_flat es s hs
  refine ⟨s, hs, hf, hat, fun st w => ⟨?_, atomic_schedule_solo s hat st w⟩⟩
  rw [← hf]; rfl

/-- a recorded trace: thread 1 and thread 2 each perform one `file_read_at` -/
def traceGood : List Ev :=
  [⟨1, 5, 9, 0, 0⟩, ⟨1, 1, 1, 40, 0⟩, ⟨1, 2, 1, 256, 40⟩, ⟨1, 6, 9, 0, 0⟩,
   ⟨2, 5, 9, 0, 0⟩, ⟨2, 1, 1, 8, 296⟩, ⟨2, 2, 1, 256, 8⟩, ⟨2, 6, 9, 0, 0⟩]

/-- the trace the split body read leaves: the seek and the read of thread 1 in two sections, another
thread's section in between -/
def traceSplit : List Ev :=
  [⟨1, 5, 9, 0, 0⟩, ⟨1, 1, 1, 40, 0⟩, ⟨1, 6, 9, 0, 0⟩,
   ⟨2, 5, 9, 0, 0⟩, ⟨2, 1, 1, 8, 40⟩, ⟨2, 2, 1, 256, 8⟩, ⟨2, 6, 9, 0, 0⟩,
   ⟨1, 5, 9, 0, 0⟩, ⟨1, 2, 1, 30, 264⟩, ⟨1, 6, 9, 0, 0⟩]

-- non-vacuity, and the check rejects the split trace although its sections are well bracketed
example : critFootprint traceGood = true := by decide
example : schedOfTrace traceGood =
    some [(1, .crit [.seek 1 40, .read 1 256]), (2, .crit [.seek 1 8, .read 1 256])] := by decide
example : (schedOfTrace traceSplit).isSome = true ∧ critFootprint traceSplit = false := by decide

end Carquet.Properties.C07
