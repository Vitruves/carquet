import Carquet.Impl.Par
import Carquet.Proofs.Par
import Carquet.Proofs.ParIO
import Carquet.Proofs.ParLazy
import Carquet.Proofs.ParAdaptive
/-
C07 — parallel reading is independent of thread count and schedule (partial by nature).

Every theorem below quantifies over ALL interleavings (`IsMerge`: all order-preserving merges of
the workers' action lists; `Proofs/Par.lean: isMerge_iff` shows it is exactly that set), for ANY
number of workers and ANY action lists — of the MODEL `Impl.Par`.  That the model's shared
footprint is complete (no other state shared between the OpenMP workers of
`carquet_batch_reader_next`, every seek/read of the fread path inside a critical section) is
validated on the real code by hook traces and ThreadSanitizer, not proved.

Memory-model assumption of the model (recorded in tools/parts/par.py): a schedule is a sequence of
atomic primitive steps, i.e. sequential consistency for the steps modelled.  For the stdio steps
this is given by the stream lock / the critical section; for the lazily initialised tables it
needs (a) aligned word stores are single-copy atomic and (b) stores become visible to other
threads in program order and loads are not reordered with older loads (x86-TSO gives both; the
compiler must not move the table stores past the flag store — the flag is `volatile` in crc32.c
and detect.c, a plain `int` in dispatch.c).
-/
namespace Carquet.Properties.C07
open Carquet.Impl.Par Carquet.Proofs.Par

/-- If every action of every worker leaves the shared store as it found it (it touches only its
private store and reads shared state), then every interleaving leaves the shared store unchanged
and gives every worker the private store of the sequential execution (worker 0, then 1, ...),
which is also what the worker gets when it runs alone. -/
theorem C07_private_commute (ls : List (List Action))
    (hro : ∀ l ∈ ls, ∀ a ∈ l, ∀ sh p, (runSP a.prims sh p).1 = sh)
    (s : List (Worker × Action)) (hm : IsMerge ls s) (st : State) :
    (exec s st).sh = st.sh ∧
    ∀ w, (exec s st).pr w = (exec (sequential ls) st).pr w ∧
         (exec s st).pr w = (exec (solo w (ls.getD w [])) st).pr w := by
  have hA : ∀ w, ∀ a ∈ ls.getD w [], OwnDet (fun _ sh => sh) id w a :=
    fun w a _ => ownDet_of_readonly w a
  have hB : ∀ w, ∀ a ∈ ls.getD w [], OthersKept (fun _ sh => sh) w a := by
    intro w a ha
    obtain ⟨l, hl, hal⟩ := mem_getD_mem ha
    exact othersKept_of_readonly w a (hro l hl a hal)
  refine ⟨?_, fun w => ?_⟩
  · apply exec_sh_of_readonly
    intro e he
    obtain ⟨l, hl, hal⟩ := mem_getD_mem (isMerge_mem hm e he)
    exact hro l hl e.2 hal
  · exact merges_agree_seq _ ls hA hB s hm st w

-- non-vacuity: two workers reading (overlapping) immutable bytes
example : IsMerge [[Action.prim (.load 0 2)], [Action.prim (.load 1 2), Action.prim .useTable]]
    [(1, .prim (.load 1 2)), (0, .prim (.load 0 2)), (1, .prim .useTable)] := by
  rw [← isMerge_iff]; decide

/-- mmap and buffer modes: the page loads of the columns (worker `w` loads the pages `cols[w]`,
each `(offset, header size, compressed size)`) are reads of immutable bytes; under every
interleaving each column reader obtains exactly its own pages' bytes — the sequential result. -/
theorem C07_mmap_schedule_independent (cols : List (List (Nat × Nat × Nat)))
    (s : List (Worker × Action)) (hm : IsMerge (cols.map chunkMmap) s) (st : State) (w : Worker) :
    (exec s st).pr w = (exec (sequential (cols.map chunkMmap)) st).pr w ∧
    (exec s st).pr w = st.pr w ++ chunkBytes st.sh.file (cols.getD w []) := by
  have hro : ∀ l ∈ cols.map chunkMmap, ∀ a ∈ l, ∀ sh p, (runSP a.prims sh p).1 = sh := by
    intro l hl a ha
    obtain ⟨pages, _, rfl⟩ := List.mem_map.1 hl
    exact readonly_chunkMmap pages a ha
  have h := (C07_private_commute _ hro s hm st).2 w
  refine ⟨h.1, ?_⟩
  rw [h.2]
  rw [getD_map chunkMmap cols w [] [] rfl]
  exact solo_chunkMmap w _ st

/-- The repaired fread mode, in general form: if every action on the shared stream is an atomic
section that starts with an absolute seek on the stream it then reads (or is a read of immutable
bytes), then every interleaving gives every worker the private store of the sequential execution,
which is also what it gets when it runs alone. -/
theorem C07_fread_atomic_sections (ls : List (List Action))
    (hat : ∀ l ∈ ls, ∀ a ∈ l, a.atomicIO = true)
    (s : List (Worker × Action)) (hm : IsMerge ls s) (st : State) (w : Worker) :
    (exec s st).pr w = (exec (sequential ls) st).pr w ∧
    (exec s st).pr w = (exec (solo w (ls.getD w [])) st).pr w := by
  have hA : ∀ w, ∀ a ∈ ls.getD w [], OwnDet (fun _ sh => sh.file) id w a := by
    intro w a ha
    obtain ⟨l, hl, hal⟩ := mem_getD_mem ha
    exact ownDet_of_atomicIO w a (hat l hl a hal)
  have hB : ∀ w, ∀ a ∈ ls.getD w [], OthersKept (fun _ sh => sh.file) w a :=
    fun w a _ => othersKept_file w a
  exact merges_agree_seq _ ls hA hB s hm st w

/-- Instance for the page loads of `load_next_page_fread` after the repair (all columns on the one
shared stream `f`): under every interleaving each column reader obtains exactly its own pages'
bytes — the same bytes the mmap path delivers. -/
theorem C07_fread_pages_schedule_independent (f : Nat) (cols : List (List (Nat × Nat × Nat)))
    (s : List (Worker × Action)) (hm : IsMerge (cols.map (chunkFread f)) s) (st : State) (w : Worker) :
    (exec s st).pr w = (exec (sequential (cols.map (chunkFread f))) st).pr w ∧
    (exec s st).pr w = st.pr w ++ chunkBytes st.sh.file (cols.getD w []) := by
  have hat : ∀ l ∈ cols.map (chunkFread f), ∀ a ∈ l, a.atomicIO = true := by
    intro l hl a ha
    obtain ⟨pages, _, rfl⟩ := List.mem_map.1 hl
    exact atomicIO_chunkFread f pages a ha
  have h := C07_fread_atomic_sections _ hat s hm st w
  refine ⟨h.1, ?_⟩
  rw [h.2]
  rw [getD_map (chunkFread f) cols w [] [] rfl]
  exact solo_chunkFread w f _ st

-- non-vacuity: two columns, one page each, on one stream; 6 interleavings, one shown
example : IsMerge ([[(0, 2, 4)], [(8, 3, 4)]].map (chunkFread 0))
    [(0, .crit [.seek 0 0, .read 0 256]), (1, .crit [.seek 0 8, .read 0 256]),
     (1, .crit [.seek 0 11, .read 0 4]), (0, .crit [.seek 0 2, .read 0 4])] := by
  rw [← isMerge_iff]; decide +kernel

example : (interleavings ([[(0, 2, 4)], [(8, 3, 4)]].map (chunkFread 0))).length = 6 := by decide +kernel

/-- Adaptive form (the next action of a worker is a function of the bytes it has obtained so far,
as in the C code, where the header just read determines the next seek offset and read size).  If
every action a worker can ever emit is an atomic section / immutable read, then after ANY schedule
of turns worker `w` holds what it holds after the same number of turns taken alone; hence any two
schedules in which `w` has finished give it the same private store — in particular the sequential
one.  No assumption on the other workers' progress, none on the number of workers. -/
theorem C07_adaptive_atomic_sections (progs : Worker → Prog)
    (hat : ∀ w p a, progs w p = some a → a.atomicIO = true) (st : State) (w : Worker) :
    (∀ s : List Worker, (execTurns progs s st).pr w =
        (execTurns progs (List.replicate (s.count w) w) st).pr w) ∧
    (∀ s₁ s₂ : List Worker,
        progs w ((execTurns progs s₁ st).pr w) = none →
        progs w ((execTurns progs s₂ st).pr w) = none →
        (execTurns progs s₁ st).pr w = (execTurns progs s₂ st).pr w) := by
  have hA : ∀ w p a, progs w p = some a → OwnDet (fun _ sh => sh.file) id w a :=
    fun w p a h => ownDet_of_atomicIO w a (hat w p a h)
  have hB : ∀ w p a, progs w p = some a → OthersKept (fun _ sh => sh.file) w a :=
    fun w _ a _ => othersKept_file w a
  have hsolo := fun s => (turns_noninterference (fun _ sh => sh.file) progs hA hB s st w).1
  refine ⟨hsolo, ?_⟩
  intro s₁ s₂ h1 h2
  rw [hsolo s₁] at h1 ⊢
  rw [hsolo s₂] at h2 ⊢
  rcases Nat.le_total (s₁.count w) (s₂.count w) with hle | hle
  · rw [solo_turns_mono progs w _ _ hle st h1]
  · rw [solo_turns_mono progs w _ _ hle st h2]

/-- a reader whose second read size is the first byte it read (a one-byte "header") -/
def headerDrivenProg : Worker → Prog := fun _ p =>
  match p with
  | [] => some (Action.crit [.seek 0 0, .read 0 1])
  | [.bytes [n]] => some (Action.crit [.seek 0 1, .read 0 n.toNat])
  | _ => none

-- non-vacuity of the adaptive theorem
example : ∀ w p a, headerDrivenProg w p = some a → a.atomicIO = true := by
  intro w p a h
  unfold headerDrivenProg at h
  split at h
  · cases h; rfl
  · cases h; rfl
  · cases h

example : (execTurns headerDrivenProg [1, 0, 1, 0, 0] (initState [3, 10, 11, 12, 13] 0)).pr 0 =
    [.bytes [3], .bytes [10, 11, 12]] := by decide

/-! #### F21: the pinned (unsynchronised) fread path -/

/-- 16-byte file; column A = bytes 0..7 (page at 0, header 2 bytes, body 4), column B = bytes
8..15 (page at 8, header 3 bytes, body 4). -/
def f21File : List UInt8 := [0,1,2,3,4,5,6,7, 100,101,102,103,104,105,106,107]

def f21Workers : List (List Action) :=
  [chunkFreadPreFix 0 [(0, 2, 4)], chunkFreadPreFix 0 [(8, 3, 4)]]

/-- worker 0 seeks to its page, worker 1 seeks to its own page, then worker 0 reads -/
def f21Schedule : List (Worker × Action) :=
  [(0, .prim (.seek 0 0)), (1, .prim (.seek 0 8)), (0, .prim (.read 0 256)),
   (1, .prim (.read 0 256)), (1, .prim (.seek 0 11)), (1, .prim (.read 0 4)),
   (0, .prim (.seek 0 2)), (0, .prim (.read 0 4))]

/-- Negative witness (F21, kernel-checked): an interleaving of the un-synchronised
`[seek; read; seek; read]` page loads of two columns sharing one `FILE*` in which worker 0's header
read returns column B's bytes (and worker 1's returns nothing), whereas sequentially — and under
the repaired, atomic page loads — each worker reads its own column. -/
theorem C07_fread_unsynchronised_counterexample :
    IsMerge f21Workers f21Schedule ∧
    (exec f21Schedule (initState f21File 0)).pr 0 =
      [.bytes [100,101,102,103,104,105,106,107], .bytes [2,3,4,5]] ∧
    (exec (sequential f21Workers) (initState f21File 0)).pr 0 =
      [.bytes [0,1,2,3,4,5,6,7, 100,101,102,103,104,105,106,107], .bytes [2,3,4,5]] ∧
    (exec f21Schedule (initState f21File 0)).pr 1 ≠
      (exec (sequential f21Workers) (initState f21File 0)).pr 1 := by
  refine ⟨?_, ?_, ?_, ?_⟩
  · rw [← isMerge_iff]; decide +kernel
  · decide +kernel
  · decide +kernel
  · decide +kernel

/-- `C07_regression_F21`: the conclusion of `C07_fread_atomic_sections` is false for the pre-fix
page loads (so the hypothesis `atomicIO` cannot be dropped). -/
theorem C07_regression_F21 :
    ¬ (∀ (s : List (Worker × Action)), IsMerge f21Workers s → ∀ w,
        (exec s (initState f21File 0)).pr w = (exec (sequential f21Workers) (initState f21File 0)).pr w) := by
  intro h
  have := h f21Schedule C07_fread_unsynchronised_counterexample.1 0
  rw [C07_fread_unsynchronised_counterexample.2.1, C07_fread_unsynchronised_counterexample.2.2.1] at this
  exact absurd this (by decide)

/-! #### N independent reader handles -/

/-- Independent reader handles (each with its own `FILE*`: worker `w` uses stream `w` only; or
its own mapping / the same immutable buffer), used concurrently: under every interleaving each
reader obtains what it obtains when used alone, which is also the sequential result. -/
theorem C07_independent_readers (ls : List (List Action))
    (hown : ∀ w, ∀ a ∈ ls.getD w [], a.onStream w = true)
    (s : List (Worker × Action)) (hm : IsMerge ls s) (st : State) (w : Worker) :
    (exec s st).pr w = (exec (solo w (ls.getD w [])) st).pr w ∧
    (exec s st).pr w = (exec (sequential ls) st).pr w := by
  have hA : ∀ w, ∀ a ∈ ls.getD w [], OwnDet streamView id w a :=
    fun w a ha => ownDet_of_onStream w a (hown w a ha)
  have hB : ∀ w, ∀ a ∈ ls.getD w [], OthersKept streamView w a :=
    fun w a ha => othersKept_of_onStream w a (hown w a ha)
  exact (merges_agree_seq _ ls hA hB s hm st w).symm

-- non-vacuity: two readers, each with the *unsynchronised* page load on its own stream
example : ∀ w, ∀ a ∈ [chunkFreadPreFix 0 [(0, 2, 4)], chunkFreadPreFix 1 [(0, 2, 4)]].getD w [],
    a.onStream w = true := by
  intro w a ha
  match w with
  | 0 => revert a; decide
  | 1 => revert a; decide
  | w + 2 => simp at ha

/-! #### lazy initialisation at first use -/

/-- Concurrent lazy initialisation (`crc32_init_tables`, and with `final` read as "the value every
initialiser computes for cell `i`" also `carquet_init`'s detected bits).  Let every worker follow
the initialiser discipline for the table `final`: it stores into cell `i` only the value
`final[i]`, and stores the flag only after having stored every cell itself.  Then in EVERY state
reachable by ANY schedule `s` (any number of initialisers and readers, any interleaving, any
prefix of it):
 * every cell is either still unwritten or holds its final value (initialisers write only values
   equal to the final ones);
 * if the flag is set the table is complete and final — a reader that observes "initialised"
   sees the final table;
 * every cell a worker has itself stored holds its final value afterwards, so a reader that
   observed "not initialised" and ran the initialiser sees the final table too;
 * every (flag, table) snapshot logged by a reader satisfies the same two statements. -/
theorem C07_lazy_init_idempotent (final : List Nat) (file : List UInt8)
    (s : List (Worker × Action))
    (hd : ∀ w, InitDiscipline final.length (fun i v => final[i]? = some v)
                 ((proj w s).flatMap Action.prims)) :
    (∀ i, i < final.length →
        (exec s (initState file final.length)).sh.table[i]? = some none ∨
        (exec s (initState file final.length)).sh.table[i]? = some final[i]?) ∧
    ((exec s (initState file final.length)).sh.flag = true →
        (exec s (initState file final.length)).sh.table = final.map some) ∧
    (∀ w i v, Prim.initCell i v ∈ (proj w s).flatMap Action.prims →
        (exec s (initState file final.length)).sh.table[i]? = some (some v) ∧ final[i]? = some v) ∧
    (∀ w fl cells, Obs.table fl cells ∈ (exec s (initState file final.length)).pr w →
        (∀ i, i < final.length → cells[i]? = some none ∨ cells[i]? = some final[i]?) ∧
        (fl = true → cells = final.map some)) := by
  have inv := lazyInv_exec (n := final.length) (good := fun i v => final[i]? = some v)
    (flat s) [] _ (lazyInv_init file final.length _)
    (by intro w; simpa [proj_flat] using hd w)
  simp only [List.nil_append] at inv
  have key := fun fl cells => tableOK_final final fl cells
  refine ⟨(key _ _ inv.table).1, (key _ _ inv.table).2, fun w i v hm => ?_, fun w fl cells ho => key _ _ (inv.obs w _ ho)⟩
  obtain ⟨v', hv'⟩ := inv.own w i v (by rw [proj_flat]; exact hm)
  have h1 : final[i]? = some v := ((hd w).1 i v hm).2
  obtain rfl : v' = v := Option.some.inj ((inv.table.2.1 i v' hv').symm.trans h1)
  exact ⟨hv', h1⟩

/-- The dispatch table variant (`carquet_simd_dispatch_init` stores the scalar kernel into every
slot first and then overrides slots with the SSE4.2 / AVX2 / AVX-512 kernels, so concurrent
initialisers do NOT write only final values): whatever value a slot is observed to hold was stored
by some initialiser, hence satisfies `good` (to be read as: "is a kernel extensionally equal to
the scalar one" — property C15), and a set flag means no slot is empty. -/
theorem C07_lazy_init_dispatch (n : Nat) (good : Nat → Nat → Prop) (file : List UInt8)
    (s : List (Worker × Action))
    (hd : ∀ w, InitDiscipline n good ((proj w s).flatMap Action.prims)) :
    TableOK n good (exec s (initState file n)).sh.flag (exec s (initState file n)).sh.table ∧
    ∀ w, ∀ o ∈ (exec s (initState file n)).pr w, ObsOK n good o := by
  have inv := lazyInv_exec (n := n) (good := good) (flat s) [] _ (lazyInv_init file n _)
    (by intro w; simpa [proj_flat] using hd w)
  exact ⟨inv.table, inv.obs⟩

/-- The C initialisers follow the discipline.  General form: an initialiser that stores only
acceptable values, stores every cell at least once (possibly several times: scalar kernel first,
SIMD override later) and stores the flag last — and every prefix of it (an initialiser that has
not finished yet). -/
theorem C07_initialiser_discipline (writes : List (Nat × Nat)) (n : Nat) (good : Nat → Nat → Prop)
    (hgood : ∀ iv ∈ writes, iv.1 < n ∧ good iv.1 iv.2)
    (hcover : ∀ i, i < n → ∃ v, (i, v) ∈ writes) (k : Nat) :
    InitDiscipline n good (((initialiser writes).take k).flatMap Action.prims) :=
  initialiser_discipline writes n good hgood hcover k

/-- `crc32_init_tables`-shaped initialisers (cell `i` gets `vals[i]`, once, in index order, then
the flag) and their prefixes follow the idempotent discipline. -/
theorem C07_tableInitialiser_discipline (vals : List Nat) (k : Nat) :
    InitDiscipline vals.length (fun i v => vals[i]? = some v)
      (((tableInitialiser vals).take k).flatMap Action.prims) :=
  tableInitialiser_discipline vals k

/-- instance: `crc32_init_tables` itself (2048 cells, cell `256·k + i` = `crc32_tables[k][i]` as
computed by the model of the CRC component) -/
theorem C07_crc_init_discipline (k : Nat) :
    InitDiscipline crcTableValues.length (fun i v => crcTableValues[i]? = some v)
      ((crcInitialiser.take k).flatMap Action.prims) :=
  C07_tableInitialiser_discipline crcTableValues k

-- non-vacuity of the lazy-init theorem: three concurrent initialisers of a 2-cell table and a
-- reader, stopped at an arbitrary point
example : ∀ w, InitDiscipline [7, 9].length (fun i v => [7, 9][i]? = some v)
    ((proj w ([(0, Action.prim (.initCell 0 7)), (1, .prim (.initCell 0 7)), (3, .prim .useTable),
               (0, .prim (.initCell 1 9)), (0, .prim .setFlag), (3, .prim .useTable),
               (1, .prim (.initCell 1 9))] : List (Worker × Action))).flatMap Action.prims) := by
  intro w
  match w with
  | 0 => exact C07_tableInitialiser_discipline [7, 9] 3
  | 1 => exact C07_tableInitialiser_discipline [7, 9] 2
  | 2 => exact C07_tableInitialiser_discipline [7, 9] 0
  | 3 =>
    refine ⟨?_, ?_⟩
    · intro i v hm
      have : Prim.initCell i v ∈ [Prim.useTable, Prim.useTable] := hm
      simp at this
    intro pre post e
    have : Prim.setFlag ∈ [Prim.useTable, Prim.useTable] := by
      have e' : [Prim.useTable, Prim.useTable] = pre ++ Prim.setFlag :: post := e
      rw [e']; simp
    simp at this
  | w + 4 => exact C07_tableInitialiser_discipline [7, 9] 0

/-- `carquet_init` (src/simd/detect.c) does NOT follow the idempotent discipline: it clears
`g_cpu_info` (`memset`) before storing the detected bits.  Kernel-checked witness: initialiser 0
completes and sets the flag, initialiser 1 (which saw the flag clear earlier) then clears cell 0; a
reader that observes "initialised" sees the value 0 instead of the final value 1. -/
theorem C07_cpu_info_memset_not_idempotent :
    (exec [(0, Action.prim (.initCell 0 0)), (0, .prim (.initCell 0 1)), (0, .prim .setFlag),
           (1, .prim (.initCell 0 0)), (2, .prim .useTable)]
      (initState [] 1)).pr 2 = [.table true [some 0]] := by
  decide +kernel

end Carquet.Properties.C07
