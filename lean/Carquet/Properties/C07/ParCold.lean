import Carquet.Impl.ParDict
import Carquet.Proofs.ParCold
import Carquet.Properties.C07.Par
import Carquet.Properties.C07.ParDict
/-
C07, third part: the cold-start batch read as ONE theorem, obtained FROM the separate ones
(`C07_fread_atomic_schedule` for the stdio sections, `C07_lazy_init_idempotent` for the lazily built
CRC table) and the observation that stdio sections and table steps do not interact.

Model (`Impl/ParDict.lean`): a worker's program is a list of `file_read_at`s and CRC calls
(`Instr.io`, `Instr.crcCall`); a CRC call is the flag check, then — if the flag was seen clear —
the whole initialiser store by store (`initAt k`), then the table use (`carquet_crc32`:
`if (!crc32_tables_initialized) crc32_init_tables();` + look-ups).  A schedule is the order in which
workers take turns (one action of the model per turn); the sequential order `seqTurns` is
`num_threads = 1`.  The RESULT of a worker (`coldResult`) is what its private computation depends
on: the bytes it obtained and the (flag, table) pairs its CRC computations looked up.  What a flag
CHECK saw is not part of the result: that is exactly the schedule-dependent part (who initialises).
-/
namespace Carquet.Properties.C07
open Carquet.Impl.Par Carquet.Proofs.Par

/-- `C07_fread_atomic_sections` for an arbitrary schedule, not only a merge of given lists: if every
scheduled action is an atomic section / immutable read, every worker holds what it holds after running
its own actions of the schedule alone. -/
theorem C07_fread_atomic_schedule (s : List (Worker × Action)) (hat : ∀ e ∈ s, e.2.atomicIO = true)
    (st : State) (w : Worker) :
    (exec s st).pr w = (exec (solo w (proj w s)) st).pr w :=
  atomic_schedule_solo s hat st w

/-- Stdio sections and table steps do not interact.  In ANY schedule made of atomic stdio sections
and table steps (initialiser stores, flag store, flag/table reads), the bytes a worker obtains are
the bytes it obtains when its own actions run alone — equivalently, when only its stdio sections
run, alone. -/
theorem C07_mixed_schedule_bytes (s : List (Worker × Action))
    (hcls : ∀ e ∈ s, e.2.atomicIO = true ∨ e.2.isTable = true) (st : State) (w : Worker) :
    bytesOf ((exec s st).pr w) = bytesOf ((exec (solo w (proj w s)) st).pr w) ∧
    bytesOf ((exec s st).pr w) =
      bytesOf ((exec (solo w ((proj w s).filter (fun a => a.atomicIO))) st).pr w) :=
  mixed_schedule_bytes s hcls st w

/-- **Cold-start batch read = sequential read.**  Workers run programs of `file_read_at`s and CRC
calls (any number of workers, any programs, any streams) in a process whose table `vals` has not
been built yet (`coldInit`: flag clear, no cell written).  For ANY schedule of turns in which worker
`w` gets enough turns (`coldFuel`: a fairness bound, nothing else is assumed about the schedule or
about the other workers' progress):
 * `w` finishes;
 * the bytes it obtained are the bytes at its own offsets, and EVERY CRC computation of `w` looked up
   the complete final table with the flag set — no matter whether `w` built the table itself, saw
   another worker's flag, or raced with other initialisers;
 * hence its result equals its result under the sequential schedule (worker 0 to completion, then
   worker 1, ...: `num_threads = 1`). -/
theorem C07_cold_start_batch_read (vals : List Nat) (file : List UInt8) (progs : List (List Instr))
    (huser : ∀ l ∈ progs, ∀ i ∈ l, i.isUser = true) (turns : List Worker) (w : Worker)
    (hfair : coldFuel (tableInitialiser vals).length (progs.getD w []) ≤ turns.count w) :
    (execCold (tableInitialiser vals) turns (coldInit file vals.length progs)).1.todo w = [] ∧
    coldResult ((execCold (tableInitialiser vals) turns (coldInit file vals.length progs)).1.st.pr w) =
      (instrBytes file (progs.getD w []),
       List.replicate (instrCalls (progs.getD w [])) (Obs.table true (vals.map some))) ∧
    ∀ fuel, coldFuel (tableInitialiser vals).length (progs.getD w []) ≤ fuel → w < progs.length →
      coldResult ((execCold (tableInitialiser vals) turns (coldInit file vals.length progs)).1.st.pr w) =
      coldResult ((execCold (tableInitialiser vals) (seqTurns progs.length fuel)
        (coldInit file vals.length progs)).1.st.pr w) := by
  have hlazy : LazySound vals file := by
    intro s hd hf
    exact (C07_lazy_init_idempotent vals file s hd).2.1 hf
  have hu : ∀ l ∈ progs, userList l = true := by
    intro l hl
    simp only [userList, List.all_eq_true]
    exact huser l hl
  have hfin := cold_finishes (tableInitialiser vals) turns w (coldInit file vals.length progs) hfair
  have hres := cold_result hlazy hu turns w hfin
  refine ⟨hfin, hres, ?_⟩
  intro fuel hfuel hw
  have hfin' := cold_finishes (tableInitialiser vals) (seqTurns progs.length fuel) w
    (coldInit file vals.length progs) (by rw [count_seqTurns, if_pos hw]; exact hfuel)
  rw [hres, cold_result hlazy hu _ w hfin']

/-- Instance for the batch reader with checksum verification on the real CRC table: column `w`
loads its pages `cols[w]` (header read, body read, `carquet_crc32` of the body) on the shared
stream `f`.  Under every fair schedule each column reader obtains exactly its own pages' bytes
(`chunkBytes`, what the mmap path and the sequential run deliver) and every one of its CRC
computations uses the complete table of `crc32_init_tables` (`crcTableValues`, the values of the CRC
component's model). -/
theorem C07_cold_start_columns (file : List UInt8) (f : Nat) (cols : List (List (Nat × Nat × Nat)))
    (turns : List Worker) (w : Worker)
    (hfair : coldFuel crcInitialiser.length (coldColumn f (cols.getD w [])) ≤ turns.count w) :
    coldResult ((execCold crcInitialiser turns
        (coldInit file crcTableValues.length (cols.map (coldColumn f)))).1.st.pr w) =
      (chunkBytes file (cols.getD w []),
       List.replicate (cols.getD w []).length (Obs.table true (crcTableValues.map some))) := by
  have huser : ∀ l ∈ cols.map (coldColumn f), ∀ i ∈ l, i.isUser = true := by
    intro l hl i hi
    obtain ⟨pages, _, rfl⟩ := List.mem_map.1 hl
    simp only [coldColumn, List.mem_flatMap] at hi
    obtain ⟨p, _, hi⟩ := hi
    simp at hi
    rcases hi with rfl | rfl | rfl <;> rfl
  have hg : (cols.map (coldColumn f)).getD w [] = coldColumn f (cols.getD w []) :=
    getD_map (coldColumn f) cols w [] [] rfl
  have h := (C07_cold_start_batch_read crcTableValues file (cols.map (coldColumn f)) huser turns w
    (by rw [hg]; exact hfair)).2.1
  rw [hg] at h
  have hb : ∀ pages : List (Nat × Nat × Nat), instrBytes file (coldColumn f pages) = chunkBytes file pages := by
    intro pages
    induction pages with
    | nil => rfl
    | cons p ps ih =>
      simp only [coldColumn, chunkBytes, List.flatMap_cons] at ih ⊢
      simp [instrBytes, ih]
  have hc : ∀ pages : List (Nat × Nat × Nat), instrCalls (coldColumn f pages) = pages.length := by
    intro pages
    induction pages with
    | nil => rfl
    | cons p ps ih =>
      simp only [coldColumn, List.flatMap_cons] at ih ⊢
      simp [instrCalls, ih]
  rw [hb, hc] at h
  exact h

/-! non-vacuity: two columns of one page each on a 16-byte file, a 2-cell table, three schedules -/

def coldProgs : List (List Instr) := [coldColumn 0 [(0, 2, 4)], coldColumn 0 [(8, 3, 4)]]

-- fairness bound for these programs: 2 reads + one CRC call (flag check, 3 initialiser steps, use)
example : coldFuel (tableInitialiser [7, 9]).length (coldProgs.getD 0 []) = 8 := by decide

/-- worker 1 sees the flag clear and starts building the table, worker 0 too; worker 0 finishes first and
sets the flag; both go on -/
def coldRace : List Worker := [0, 1, 0, 1, 0, 1, 0, 1, 0, 0, 1, 0, 1, 1, 0, 1, 0, 1, 0, 1]

example : coldFuel (tableInitialiser [7, 9]).length (coldProgs.getD 0 []) ≤ coldRace.count 0 ∧
          coldFuel (tableInitialiser [7, 9]).length (coldProgs.getD 1 []) ≤ coldRace.count 1 := by decide

-- both workers ran the initialiser in this schedule (each scheduled 3 initialiser stores) ...
example : ((execCold (tableInitialiser [7, 9]) coldRace (coldInit f21File 2 coldProgs)).2.filter
    (fun e => e.2 == Action.prim .setFlag)).length = 2 := by decide +kernel

-- ... and worker 1's log shows it: its flag check saw "not initialised", its use saw the final table
example : (execCold (tableInitialiser [7, 9]) coldRace (coldInit f21File 2 coldProgs)).1.st.pr 1 =
    [.bytes [100,101,102,103,104,105,106,107], .bytes [103,104,105,106],
     .table false [none, none], .table true [some 7, some 9]] := by decide +kernel

-- sequentially worker 1 sees the flag worker 0 set: different log, same result
example : (execCold (tableInitialiser [7, 9]) (seqTurns 2 8) (coldInit f21File 2 coldProgs)).1.st.pr 1 =
    [.bytes [100,101,102,103,104,105,106,107], .bytes [103,104,105,106],
     .table true [some 7, some 9], .table true [some 7, some 9]] := by decide +kernel

example : coldResult ((execCold (tableInitialiser [7, 9]) coldRace (coldInit f21File 2 coldProgs)).1.st.pr 1) =
    coldResult ((execCold (tableInitialiser [7, 9]) (seqTurns 2 8) (coldInit f21File 2 coldProgs)).1.st.pr 1) :=
  (C07_cold_start_batch_read [7, 9] f21File coldProgs (by decide) coldRace 1 (by decide)).2.2 8 (by decide) (by decide)

/-- The hypothesis "the table use comes after the flag check / the initialiser" cannot be dropped: a
worker that looks the table up WITHOUT `carquet_crc32`'s check (here: a bare table read while another
worker is still initialising) can see an incomplete table.  Kernel-checked. -/
theorem C07_cold_unguarded_use_counterexample :
    (exec [(0, Action.prim .useTable), (0, .prim (.initCell 0 7)), (1, .prim .useTable)]
      (initState [] 2)).pr 1 = [.table false [some 7, none]] := by
  decide +kernel

end Carquet.Properties.C07
