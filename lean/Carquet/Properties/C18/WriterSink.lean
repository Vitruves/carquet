import Carquet.Proofs.WriterSink
import Carquet.Properties.C05.Writer
/-
C18 (second half) composed with the writer: `carquet_writer_*` of file_writer.c on a stream
that may fail at any operation (Impl/WriterSink.lean), for EVERY schema, option set and write
history, EVERY environment — buffering policy of stdio and fault schedule of the sink, fixed or
adaptive (`Env`) — owned or borrowed stream.  Statements only; lemmas in Proofs/WriterSink.lean.

`sessionS D E e owns cols codec pageSize createdBy ops` is the whole session: `.1.s.delivered`
are the bytes the sink holds, `.1.s.pending` what stdio still buffers, `.1.log` the outcomes of
all stream operations, `.2` the statuses of all calls with close last.
-/
namespace Carquet.Properties.C18
open Carquet.Impl.Writer Carquet.Impl.WriterSink Carquet.Proofs.WriterSink
open Carquet.Proofs.Writer (fileOf_eq stepStatuses init)
open Carquet.Impl.Sink (Outcome)
open Carquet.Proofs.WriterLayout (stateAfter GroupsAt groupsSize)

/-- **The faulty-stream writer is the writer** (`stepS_healthy`): in an environment that never
makes a stream operation fail, one call on a state in which nothing has failed (`Good`: error
indicator clear, the stream holds exactly the writer's `out`) leaves such a state again, and writer state and status are those of the healthy
model `Impl.Writer.step`; a whole session returns the statuses of `fileOf`. -/
theorem C18_writer_healthy_stream {ε : Type} (D : Deps) (E : Env ε) (hE : Quiet E) :
    (∀ (x : SW ε) (op : Op), Good x →
      Good (stepS D E x op).1 ∧ (stepS D E x op).1.w = (step D x.w op).1 ∧ (stepS D E x op).2 = (step D x.w op).2) ∧
    (∀ (e : ε) (owns : Bool) (cols : List Col) (codec pageSize : Nat) (createdBy : String) (ops : List Op),
      (sessionS D E e owns cols codec pageSize createdBy ops).2 = (fileOf D cols codec pageSize createdBy ops).2) :=
  ⟨fun x op g => (ran_step D E x op).good g ((ran_step D E x op).quiet hE g.err),
   fun e owns cols codec pageSize createdBy ops =>
     runS_quiet D E hE owns ops _ [] (good_init e cols codec pageSize createdBy)⟩

example : Quiet (Env.ofOracle quietOracle) ∧ Good (initS 0 toyCols 0 0 "x" : SW Nat) :=
  ⟨fun _ _ _ => rfl, good_init 0 toyCols 0 0 "x"⟩

/-- **(a) OK from close implies the file.**  If `carquet_writer_close` returns OK then
* the sink holds exactly the bytes the healthy writer produces for the same history
  (`fileOf … ops`), nothing is left in the buffer,
* every call returned what the healthy writer returns for it (so a non-OK status of an earlier
  call can only be a refused argument or a codec failure, never a stream failure),
* no stream operation of the whole session failed, and the error indicator is clear. -/
theorem C18_writer_close_ok_implies_file {ε : Type} (D : Deps) (E : Env ε) (e : ε) (owns : Bool)
    (cols : List Col) (codec pageSize : Nat) (createdBy : String) (ops : List Op)
    (hok : (sessionS D E e owns cols codec pageSize createdBy ops).2.getLast? = some .ok) :
    (sessionS D E e owns cols codec pageSize createdBy ops).1.s.delivered =
      (fileOf D cols codec pageSize createdBy ops).1 ∧
    (sessionS D E e owns cols codec pageSize createdBy ops).1.s.pending = [] ∧
    (sessionS D E e owns cols codec pageSize createdBy ops).2 = (fileOf D cols codec pageSize createdBy ops).2 ∧
    (∀ oc ∈ (sessionS D E e owns cols codec pageSize createdBy ops).1.log, oc.isFail = false) ∧
    (sessionS D E e owns cols codec pageSize createdBy ops).1.s.err = false :=
  (runS_ok D E owns ops _ [] hok).2 (good_init e cols codec pageSize createdBy)

/- non-vacuity: a session on a healthy stream ends with OK and the sink holds the 34-byte file -/
example : (sessionS toyDeps (Env.ofOracle quietOracle) 0 true toyCols 0 0 "x" toyOps).2 = [.ok, .ok, .ok, .ok] ∧
    (sessionS toyDeps (Env.ofOracle quietOracle) 0 true toyCols 0 0 "x" toyOps).1.s.delivered =
      [0x50, 0x41, 0x52, 0x31, 8, 8, 2, 1, 0, 0, 0, 2, 0, 0, 0, 4, 4, 1, 3, 0, 0, 0, 3, 2, 11, 4, 7, 15, 6, 0, 0, 0, 0x50, 0x41, 0x52, 0x31] := by
  decide +kernel

/-- **(a), which file.**  If close returns OK and no call failed inside the codec (status
`other`), the bytes the sink holds are the file of the sub-history `okCalls ops statuses` of the
calls that returned OK (the other calls were refused for their arguments and left the writer
untouched) — a history in which every call and the close return OK, so that `C05_written_table`
applies to it.  (A call that failed on the stream is not among them: by the theorem below close
would not have returned OK.  With the `ferror` check there is no "written by the next call"
case to describe: a row group whose write failed IS written again by the next call —
`flushRowGroupS` keeps it current — but close then reports FILE_WRITE.) -/
theorem C18_writer_close_ok_file_of_ok_calls {ε : Type} (D : Deps) (E : Env ε) (e : ε) (owns : Bool)
    (cols : List Col) (codec pageSize : Nat) (createdBy : String) (ops : List Op)
    (hok : (sessionS D E e owns cols codec pageSize createdBy ops).2.getLast? = some .ok)
    (hcodec : ∀ st ∈ (sessionS D E e owns cols codec pageSize createdBy ops).2, st ≠ .other) :
    (sessionS D E e owns cols codec pageSize createdBy ops).1.s.delivered =
      (fileOf D cols codec pageSize createdBy
        (okCalls ops (sessionS D E e owns cols codec pageSize createdBy ops).2)).1 ∧
    ∀ st ∈ (fileOf D cols codec pageSize createdBy
        (okCalls ops (sessionS D E e owns cols codec pageSize createdBy ops).2)).2, st = .ok := by
  obtain ⟨h1, _, h3, _, _⟩ := C18_writer_close_ok_implies_file D E e owns cols codec pageSize createdBy ops hok
  rw [h3] at hcodec hok ⊢
  rw [h1]
  simp only [fileOf_eq] at hcodec hok ⊢
  generalize init cols codec pageSize createdBy = w0 at *
  have hsteps : ∀ st ∈ stepStatuses D w0 ops, st ≠ .other := fun st hm => hcodec st (by simp [hm])
  obtain ⟨s1, s2⟩ := okCalls_state D ops w0 [(close D (stateAfter D w0 ops)).2] hsteps
  have hclose : (close D (stateAfter D w0 ops)).2 = .ok := by simpa using hok
  refine ⟨by rw [s1], fun st hm => ?_⟩
  simp only [List.mem_append, List.mem_singleton] at hm
  rcases hm with hm | hm
  · exact s2 st hm
  · rw [hm, s1]; exact hclose

/- non-vacuity: a history with a refused call (column 5 does not exist); close returns OK, no status is `other`,
and the sub-history of the OK calls is the history without that call -/
example : (sessionS toyDeps (Env.ofOracle quietOracle) 0 false toyCols 0 0 "x"
      (toyOps ++ [.batch ⟨5, 1, none, [[9, 0, 0, 0]], none⟩])).2 = [.ok, .ok, .ok, .invalidArgument, .ok] ∧
    okCalls (toyOps ++ [.batch ⟨5, 1, none, [[9, 0, 0, 0]], none⟩]) [.ok, .ok, .ok, .invalidArgument, .ok] = toyOps := by
  decide +kernel

/-- **(a), structurally valid.**  If close returns OK the sink holds a file with the Parquet
envelope whose footer metadata tile the data region (`C05_chunks_tile`): `PAR1`, the row groups'
chunks back to back from offset 4, the footer, its length, `PAR1`. -/
theorem C18_writer_close_ok_structurally_valid {ε : Type} (D : Deps) (E : Env ε) (e : ε) (owns : Bool)
    (cols : List Col) (codec pageSize : Nat) (createdBy : String) (ops : List Op)
    (hok : (sessionS D E e owns cols codec pageSize createdBy ops).2.getLast? = some .ok) :
    ∃ (data : Bytes) (md : FooterData),
      (sessionS D E e owns cols codec pageSize createdBy ops).1.s.delivered =
        magic ++ data ++ D.footer md ++ le32 (D.footer md).length ++ magic ∧
      md.cols = cols ∧ md.createdBy = createdBy ∧
      data.length = groupsSize md.rowGroups ∧ GroupsAt md.rowGroups 4 ∧
      md.numRows = (md.rowGroups.map (·.numRows)).sum := by
  obtain ⟨h1, _, h3, _, _⟩ := C18_writer_close_ok_implies_file D E e owns cols codec pageSize createdBy ops hok
  rw [h3] at hok
  rw [h1]
  exact Carquet.Properties.C05.C05_chunks_tile D cols codec pageSize createdBy ops hok

/-- **(b) A failed stream operation surfaces.**  If any stream operation of the session failed —
an `fwrite` of any call, the `fflush` or the `fclose` of close, in whatever way the environment
chose (short write, error, bytes kept or lost) — then `carquet_writer_close` does not return OK. -/
theorem C18_writer_failure_surfaces {ε : Type} (D : Deps) (E : Env ε) (e : ε) (owns : Bool)
    (cols : List Col) (codec pageSize : Nat) (createdBy : String) (ops : List Op)
    (oc : Outcome) (hmem : oc ∈ (sessionS D E e owns cols codec pageSize createdBy ops).1.log)
    (hfail : oc.isFail = true) :
    (sessionS D E e owns cols codec pageSize createdBy ops).2.getLast? ≠ some .ok := by
  intro hok
  have := (C18_writer_close_ok_implies_file D E e owns cols codec pageSize createdBy ops hok).2.2.2.1 oc hmem
  rw [this] at hfail
  cases hfail

/- non-vacuity: a transient fault in the row-group write of `new_row_group`; the caller carries on, every later
operation succeeds, the row group is written again by close — and close reports FILE_WRITE -/
example : (sessionS toyDeps (Env.ofOracle transientOracle) 0 true toyCols 0 0 "x" toyOps).2 = [.ok, .fileWrite, .ok, .fileWrite] ∧
    (.drop 3 0) ∈ (sessionS toyDeps (Env.ofOracle transientOracle) 0 true toyCols 0 0 "x" toyOps).1.log := by
  decide +kernel

/-- **(c) The caller may carry on or retry after a failed call.**  Whatever the caller does after
a call that returned FILE_WRITE — go on writing batches into the row group that is still current,
call `new_row_group` again (the row group is finalised and written again, the header magic is
retried by every call), or close — and even if every later stream operation succeeds (a transient
fault): close does not return OK; so OK from close still implies (a).  This is what the sticky
error indicator consulted at close (fix F42) buys, and what seeded change C05b-2 removes. -/
theorem C18_writer_failed_call_poisons_close {ε : Type} (D : Deps) (E : Env ε) (e : ε) (owns : Bool)
    (cols : List Col) (codec pageSize : Nat) (createdBy : String) (ops : List Op)
    (hfw : Status.fileWrite ∈ (sessionS D E e owns cols codec pageSize createdBy ops).2) :
    (sessionS D E e owns cols codec pageSize createdBy ops).2.getLast? ≠ some .ok := by
  rcases runS_fw D E owns ops _ [] hfw with h | h
  · cases h
  · exact h

/-- a call reports FILE_WRITE only with the error indicator set; a `write_batch` that reports it
(it can only have failed on the header magic) leaves the writer exactly as it was, so the next
call writes the magic again.  (Until fix F23 the state also had a `carry` component — what failed
finalisations had left in the row-group writer's `total_byte_size` — and the statement said it is
unchanged as well; `carquet_row_group_writer_finalize` now starts from 0, the component is gone.) -/
theorem C18_writer_failed_call_state {ε : Type} (D : Deps) (E : Env ε) (x : SW ε) :
    (∀ op, (stepS D E x op).2 = .fileWrite → (stepS D E x op).1.s.err = true) ∧
    (∀ b, (stepS D E x (.batch b)).2 = .fileWrite →
      (stepS D E x (.batch b)).1.w = x.w) := by
  refine ⟨fun op h => (ran_step D E x op).fw h, fun b h => ?_⟩
  simp only [stepS, writeBatchS] at h ⊢
  split
  · rfl
  · rename_i c hc
    simp only [hc] at h
    by_cases ho : (ensureHeaderS E x).2 = .ok
    · simp only [ho, if_true] at h
      exact absurd h (writeBatch_ne_fw D x.w b)
    · simp only [ho, if_false]
      exact ensureHeaderS_retry E x ho

/-- **Regression F42 / seeded change C05b-2**: the close that does not consult the error
indicator (`closeSNoFerror`, the tree before fix F42).  A transient fault cuts the row-group write
of `new_row_group` short after 3 bytes (the call reports FILE_WRITE), the caller carries on, every
later stream operation succeeds: that close returns OK although the sink holds the 3 stray bytes,
both batches merged into one row group written at the second attempt — not the file of the
history, nor of its OK calls.  (Before fix F23 the footer's `total_byte_size` also counted the first
attempt.)  The close of the current tree reports FILE_WRITE on the same session. -/
theorem C18_regression_F42 :
    (closeSNoFerror toyDeps (Env.ofOracle transientOracle) true
      ((toyOps.foldl (fun x op => (stepS toyDeps (Env.ofOracle transientOracle) x op).1) (initS 0 toyCols 0 0 "x")))).2 = .ok ∧
    (closeSNoFerror toyDeps (Env.ofOracle transientOracle) true
      ((toyOps.foldl (fun x op => (stepS toyDeps (Env.ofOracle transientOracle) x op).1) (initS 0 toyCols 0 0 "x")))).1.s.delivered
      ≠ (fileOf toyDeps toyCols 0 0 "x" toyOps).1 ∧
    (closeSNoFerror toyDeps (Env.ofOracle transientOracle) true
      ((toyOps.foldl (fun x op => (stepS toyDeps (Env.ofOracle transientOracle) x op).1) (initS 0 toyCols 0 0 "x")))).1.s.delivered
      ≠ (fileOf toyDeps toyCols 0 0 "x" [toyOps[0], toyOps[2]]).1 ∧
    (closeS toyDeps (Env.ofOracle transientOracle) true
      ((toyOps.foldl (fun x op => (stepS toyDeps (Env.ofOracle transientOracle) x op).1) (initS 0 toyCols 0 0 "x")))).2 = .fileWrite := by
  decide +kernel

end Carquet.Properties.C18
