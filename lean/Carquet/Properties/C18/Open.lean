import Carquet.Proofs.ReaderOpen
import Carquet.Proofs.ReaderExamples
import Carquet.Properties.C05.Writer
import Carquet.Spec.FileEnvelope
/-
C18 (first half) — truncated files are rejected.  Statements only; lemmas in
Proofs/ReaderOpen.lean.  (Second half, failing sinks: Properties/C18/Sink.lean.)

`Complete p` (Proofs/ReaderOpen) is the envelope + footer predicate on the model side: both
magics, a footer length that fits, and a footer that `parquet_parse_file_metadata` accepts — after
fix 28d9213 (F29) that includes the presence of the four required FileMetaData fields — and whose
schema `build_schema` accepts.  The driver evaluates the independent Spec-level predicate
`Spec.FileEnvelope.completeFile` on every prefix the REAL code accepted (op `trunc`).
-/
namespace Carquet.Properties.C18
open Carquet.Impl Carquet.Impl.Reader
open Carquet.Proofs.ReaderOpen Carquet.Proofs.ReaderExamples

/-- **Truncated files are rejected — or are complete files themselves.**  For every file the
writer reports complete (any schema, codec, page size and write history; `close` returned OK),
every proper prefix, and each of the three ways of opening: the open fails, or the prefix is
itself `Complete`: it starts and ends with the magic, the length before the trailing magic fits,
and the bytes it designates are a FileMetaData that the parser accepts with all its required
fields and a usable schema. -/
theorem C18_prefix_rejected (cols : List Writer.Col) (codec pageSize : Nat) (ops : List Writer.Op)
    (hok : (Writer.fileOf (FileReal.deps []) cols codec pageSize "Carquet" ops).2.getLast? = some .ok)
    (k : Nat) (_hk : k < (Writer.fileOf (FileReal.deps []) cols codec pageSize "Carquet" ops).1.length) (mode : Mode) :
    (∃ e, openFile mode ((Writer.fileOf (FileReal.deps []) cols codec pageSize "Carquet" ops).1.take k) = .error e) ∨
    Complete ((Writer.fileOf (FileReal.deps []) cols codec pageSize "Carquet" ops).1.take k) := by
  obtain ⟨data, ftr, hf⟩ := Carquet.Properties.C05.C05_envelope_real cols codec pageSize ops hok
  apply prefix_rejected_or_complete
  rw [hf]
  simp [Writer.magic, magic]

/-- **When the exception cannot occur.**  For ANY byte string `f` (not only writer output): if
"PAR1" does not occur strictly inside `f` — at no length `12 ≤ k < |f|` does the prefix of length `k`
end in the magic (`noInnerMagic`, decidable) — then every proper prefix is refused by all three
open paths.  So a proper prefix can only open when the file's own bytes spell the magic in the
middle: user-controlled content (values, names) or a coincidence in checksums / compressed bytes. -/
theorem C18_prefix_rejected_no_inner_magic (f : Reader.Bytes) (hn : noInnerMagic f = true) (k : Nat) (hk : k < f.length)
    (mode : Mode) : ∃ e, openFile mode (f.take k) = .error e :=
  prefix_rejected_of_noInnerMagic f hn k hk mode

-- non-vacuity: the two-page INT32 file and the SNAPPY file have no inner magic — all their proper
-- prefixes are refused
example : noInnerMagic twoPage = true ∧ noInnerMagic optSnappy = true := by
  rw [noInnerMagic_eq, noInnerMagic_eq]
  decide +kernel

/-- what an accepted open establishes, in every mode (the structural core: a prefix that lacks the
trailing magic, a fitting length, or a footer that parses with its required fields, is refused) -/
theorem C18_open_ok_structure (mode : Mode) (p : Reader.Bytes) (o : Opened) (h : openFile mode p = .ok o) :
    12 ≤ p.length ∧ slice p (p.length - 4) 4 = magic ∧ footerLen p ≤ p.length - 8 ∧
    parseFooter (footerBytes p) = .ok o ∧
    ∃ md, ThriftParquetReq.parseFileMetaDataReq (footerBytes p) = .ok md := by
  have := openFile_ok mode p o h
  refine ⟨this.1, this.2.1, this.2.2.1, this.2.2.2, ?_⟩
  have hp := this.2.2.2
  unfold parseFooter at hp
  split at hp
  · cases hp
  · rename_i md hmd; exact ⟨md, hmd⟩

/-- **The exception is real, and it takes crafted content.**  The file `fakeFooter` is what the
writer produces for a REQUIRED BYTE_ARRAY column holding the value
`<FileMetaData{version, schema=[a], num_rows=0, row_groups=[]}> 0d 00 00 00 "PAR1"` (and `hi`).  Its
52-byte prefix — which ends with that value — opens in all three modes as a 0-row table with one
column, and it IS a complete Parquet file by the independent Spec predicate; the inner magic is what
`noInnerMagic` detects; every other proper prefix of the file is refused. -/
theorem C18_exception_needs_crafted_content :
    noInnerMagic fakeFooter = false ∧
    (match openFile .fread (fakeFooter.take 52) with | .ok o => o.md.numRows == 0 && o.md.rowGroups.isEmpty | .error _ => false) = true ∧
    (match openFile .mmap (fakeFooter.take 52) with | .ok _ => true | .error _ => false) = true ∧
    (match openFile .buffer (fakeFooter.take 52) with | .ok _ => true | .error _ => false) = true ∧
    Carquet.Spec.FileEnvelope.completeFile (fakeFooter.take 52) = true ∧
    ((List.range fakeFooter.length).all (fun k => k == 52 ||
      (match openFile .fread (fakeFooter.take k) with | .ok _ => false | .error _ => true))) = true := by
  have hfread : (match openFile .fread (fakeFooter.take 52) with
      | .ok o => o.md.numRows == 0 && o.md.rowGroups.isEmpty | .error _ => false) = true := by decide +kernel
  -- the three open paths agree on a file that starts with the magic
  obtain ⟨hfm, hmb⟩ := Carquet.Proofs.ReaderModes.openFile_modes (fakeFooter.take 52) (by decide +kernel)
  have hmmap : (match openFile .mmap (fakeFooter.take 52) with | .ok _ => true | .error _ => false) = true := by
    rw [← hfm]
    cases h : openFile .fread (fakeFooter.take 52) with
    | ok o => rfl
    | error e => rw [h] at hfread; exact hfread
  refine ⟨by rw [noInnerMagic_eq]; decide +kernel, hfread, hmmap, by rw [← hmb]; exact hmmap, by decide +kernel, ?_⟩
  -- no other prefix ends in the magic: none before byte 52, none of the longer ones
  have hlow : noInnerMagic (fakeFooter.take 52) = true := by rw [noInnerMagic_eq]; decide +kernel
  have hhigh := (noMagicFrom_iff fakeFooter (fakeFooter.drop 49) 49 rfl).mp (by decide +kernel)
  rw [List.all_eq_true]
  intro k hk
  have hk := List.mem_range.mp hk
  rw [Bool.or_eq_true]
  by_cases h52 : k = 52
  · left; rw [h52]; rfl
  right
  cases hres : openFile .fread (fakeFooter.take k) with
  | error e => rfl
  | ok o =>
    exfalso
    by_cases hlt : k < 52
    · obtain ⟨e, he⟩ := prefix_rejected_of_noInnerMagic (fakeFooter.take 52) hlow k (by simp; omega) .fread
      rw [List.take_take, Nat.min_eq_left (by omega), hres] at he
      cases he
    · have hm := openFile_take_ok fakeFooter k (by omega) .fread o hres
      rcases hhigh k (by omega) hk with h | h
      · omega
      · exact h hm.2

/-- Before fix 28d9213 (F29) the parser accepted a FileMetaData without its required fields, so a
prefix ending in `<struct with version and schema only> <len> PAR1` opened although it is no
complete file (the witness the harness plants, harness/ops_c18.c `plant_fake_footer` v1). -/
theorem C18_regression_F29 :
    (match ThriftParquetReq.parseFileMetaDataPreF29 [0x15, 0x02, 0x19, 0x1C, 0x48, 0x01, 0x61, 0x00, 0x00] with
     | .ok md => md.schema.length == 1 && md.rowGroups.isEmpty | .error _ => false) = true ∧
    ThriftParquetReq.parseFileMetaDataReq [0x15, 0x02, 0x19, 0x1C, 0x48, 0x01, 0x61, 0x00, 0x00] = .error .invalidMetadata ∧
    Carquet.Spec.FileEnvelope.completeFile
      ([0x50, 0x41, 0x52, 0x31] ++ [0x15, 0x02, 0x19, 0x1C, 0x48, 0x01, 0x61, 0x00, 0x00] ++ [0x09, 0, 0, 0, 0x50, 0x41, 0x52, 0x31]) = false := by
  decide +kernel

end Carquet.Properties.C18
