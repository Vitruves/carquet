import Carquet.Proofs.Sink
/-
C18 (second half) — failed writes are never reported OK.
The writer's stream calls over an abstract `FILE*` whose sink may fail at any operation, for
every buffering policy (oracle).  Statements only; lemmas in Proofs/Sink.lean.
-/
namespace Carquet.Properties.C18
open Carquet.Impl.Sink Carquet.Proofs.Sink

/-- OK from close implies every byte of every call reached the sink, in order, nothing is left
in the buffer, and every earlier call had returned OK — for every history of calls, every
oracle (buffering policy and failure points), owned or borrowed stream. -/
theorem C18_ok_implies_all_bytes (o : Oracle) (owns : Bool) (closeWrites : List Bytes)
    (calls : List (List Bytes)) :
    (session o owns closeWrites {} 0 calls).2.2 = .ok →
    (session o owns closeWrites {} 0 calls).1.delivered = calls.flatten.flatten ++ closeWrites.flatten ∧
    (session o owns closeWrites {} 0 calls).1.pending = [] ∧
    ∀ st ∈ (session o owns closeWrites {} 0 calls).2.1, st = .ok := by
  intro h
  obtain ⟨_, b, c, d, _⟩ := session_ok o owns closeWrites calls {} 0 h
  exact ⟨by simpa using d, c, b⟩

example : (session (fun _ => .push 1) true [[1], [2, 3]] {} 0 [[[9]], [[8, 7], [6]]]).2.2 = .ok ∧
    (session (fun _ => .push 1) true [[1], [2, 3]] {} 0 [[[9]], [[8, 7], [6]]]).1.delivered = [9, 8, 7, 6, 1, 2, 3] := by
  decide +kernel

/-- If the sink fails at any stream operation of the session (any write, the flush, or the
close), `carquet_writer_close` does not return OK. -/
theorem C18_sink_failure_surfaces (o : Oracle) (owns : Bool) (closeWrites : List Bytes)
    (calls : List (List Bytes)) (k : Nat)
    (hk : k < totalOps calls + closeWrites.length + tailOps owns) (hfail : (o k).isFail = true) :
    (session o owns closeWrites {} 0 calls).2.2 ≠ .ok := by
  intro h
  obtain ⟨_, _, _, _, e⟩ := session_ok o owns closeWrites calls {} 0 h
  have := e k (Nat.zero_le _) (by omega)
  rw [this] at hfail
  exact absurd hfail (by simp)

example : (session (fun i => if i = 5 then .fail 3 0 else .push 100) true [[1], [2, 3]] {} 0
    [[[9]], [[8, 7], [6]]]).2.2 = .fileWrite := by decide

/-- Before the fixes F17/F42 close ignored the results of `fflush`/`fclose` and the error
indicator: a failing flush of buffered bytes was reported OK (the negative witness that the
harness replays with a buffered `fopencookie` stream and with `/dev/full`). -/
def closeCallPreFix (o : Oracle) (s : Stream) (i : Nat) (ws : List Bytes) : Stream × Status :=
  match writes o s i ws with
  | (s1, .ok, j) => ((fflush s1 (o j)).1, .ok)
  | (s1, _, _) => (s1, .fileWrite)

theorem C18_regression_F17 :
    (closeCallPreFix (fun i => if i = 2 then .fail 5 0 else .push 0) {} 0 [[1, 2], [3]]).2 = .ok ∧
    (closeCallPreFix (fun i => if i = 2 then .fail 5 0 else .push 0) {} 0 [[1, 2], [3]]).1.delivered = [] ∧
    (closeCall (fun i => if i = 2 then .fail 5 0 else .push 0) {} 0 false [[1, 2], [3]]).2 = .fileWrite := by
  decide +kernel

end Carquet.Properties.C18
