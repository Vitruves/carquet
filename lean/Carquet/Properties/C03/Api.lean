import Carquet.Proofs.ReaderApi
import Carquet.Proofs.ReaderExamples
/-
C03 (public accessors) — "identical metadata" across fread / mmap / buffer, and the predicate that
announces the zero-copy shortcut: carquet_reader_num_rows / _num_row_groups / _num_columns,
carquet_reader_row_group_metadata, the schema accessors, carquet_reader_is_mmap,
carquet_reader_can_zero_copy.  Statements only; lemmas in Proofs/ReaderApi.lean.
-/
namespace Carquet.Properties.C03
open Carquet.Impl Carquet.Impl.Reader Carquet.Impl.ReaderApi Carquet.Proofs.ReaderApi
open Carquet.Proofs.ReaderExamples

/-- **Every metadata accessor returns the same in the three modes.**  For every byte string that
all three of `carquet_reader_open` (fread), `carquet_reader_open` with `use_mmap` and
`carquet_reader_open_buffer` accept, the three readers hold the same metadata and schema; hence
`num_rows`, `num_row_groups`, `num_columns`, `row_group_metadata` for EVERY index (in range: the
same three numbers; out of range: the same ROW_GROUP_NOT_FOUND), every schema element with
everything its accessors return (name, type, repetition, type length, logical type, per-node
levels), `get_element` out of range, and the leaf arrays coincide.  (No hypothesis on the leading
magic: a file the mapped paths accept starts with it.)  `is_mmap` and `can_zero_copy` describe the
mode itself and are the subject of `C03_can_zero_copy_sound`. -/
theorem C03_metadata_accessors_modes_agree (b : List UInt8) (o1 o2 o3 : Opened)
    (h1 : openFile .fread b = .ok o1) (h2 : openFile .mmap b = .ok o2) (h3 : openFile .buffer b = .ok o3) :
    metaView o1 = metaView o2 ∧ metaView o2 = metaView o3 ∧
    (∀ rg : Int, rowGroupMetadata o1 rg = rowGroupMetadata o2 rg ∧ rowGroupMetadata o2 rg = rowGroupMetadata o3 rg) ∧
    (∀ i : Int, SchemaApi.getElement o1.md.schema i = SchemaApi.getElement o2.md.schema i ∧
                SchemaApi.getElement o2.md.schema i = SchemaApi.getElement o3.md.schema i) ∧
    (∀ rg col : Int, canZeroCopy true .mmap o2 rg col = canZeroCopy true .buffer o3 rg col) := by
  obtain ⟨e1, e2⟩ := opened_same b o1 o2 o3 h1 h2 h3
  subst e1 e2
  exact ⟨rfl, rfl, fun _ => ⟨rfl, rfl⟩, fun _ => ⟨rfl, rfl⟩, fun _ _ => rfl⟩

-- non-vacuity: the two-page example file opens in fread mode and starts with the magic (so the mapped paths return the
-- same, `C03_footer_modes_agree`); its row group metadata through the accessor model
example : twoPage.take 4 = magic ∧ (match openFile .fread twoPage with | .ok _ => true | .error _ => false) = true := by
  decide +kernel
example : rowGroupMetadata ⟨{ numRows := 5, rowGroups := [{ numRows := 5, totalByteSize := 100, totalCompressedSize := some 60 },
                                                          { numRows := 0, totalByteSize := 7 }] }, []⟩ 0 = .ok ⟨5, 100, 60⟩ ∧
    rowGroupMetadata ⟨{ numRows := 5, rowGroups := [{ numRows := 5, totalByteSize := 100, totalCompressedSize := some 60 },
                                                    { numRows := 0, totalByteSize := 7 }] }, []⟩ 1 = .ok ⟨0, 7, 7⟩ ∧
    rowGroupMetadata ⟨{ numRows := 5, rowGroups := [{ numRows := 5, totalByteSize := 100, totalCompressedSize := some 60 },
                                                    { numRows := 0, totalByteSize := 7 }] }, []⟩ 2 = .error .rowGroupNotFound ∧
    rowGroupMetadata ⟨{ numRows := 5, rowGroups := [] }, []⟩ (-1) = .error .rowGroupNotFound := by decide +kernel

/-- **`can_zero_copy` over-approximates the zero-copy branches** (repaired predicate, F90).
(a) Page loader: whenever `load_next_page` takes the view branch for a page of column `col` of row
group `rg` (any page header, any mode, pinned or repaired view bound), `can_zero_copy(rg, col)` is
true; the pinned predicate has this only in mmap mode.
(b) It is false in fread mode for every argument, and (c) false for every out-of-range index.
(d) Batch reader: the column readers of a batch reader only ever carry the VIEW flag when their
chunk takes views (`VI` is kept by `get_column`, `read_batch`, the prefetch and each column step), and
whenever `carquet_batch_reader_next` hands out a column as a VIEW (zero-copy branch), the
predicate is true of that column.  The converse does not hold and is not claimed: the predicate
does not look at the page encoding (a dictionary page is copied), at the page/batch alignment
(F5) or at the view bound (F51). -/
theorem C03_can_zero_copy_sound :
    (∀ (fx : Reader.Fixes) (mode : Mode) (o : Opened) (rg col : Int) (c : Col) (hdr : ThriftParquetReq.PageHdr),
      getColumn o rg col = .ok c → takesView fx mode c hdr = true →
      canZeroCopy true mode o rg col = true ∧ (mode = .mmap → canZeroCopy false mode o rg col = true)) ∧
    (∀ (fix90 : Bool) (o : Opened) (rg col : Int), canZeroCopy fix90 .fread o rg col = false) ∧
    (∀ (fix90 : Bool) (mode : Mode) (o : Opened) (rg col : Int),
      rg < 0 ∨ rg ≥ o.md.rowGroups.length ∨ col < 0 ∨ col ≥ o.leaves.length → canZeroCopy fix90 mode o rg col = false) ∧
    (∀ {α : Type} (fx : ColumnReader.Fixes) (mode : BatchReader.IOMode) (col : BatchReader.Column)
       (cd : BatchReader.ChunkData α) (ch : ColumnReader.Chunk α) (r : ColumnReader.Reader α) (rows : Int),
      ch.view = BatchReader.chunkIsView mode col cd → VI ch r →
      VI ch (BatchReader.prefetch fx r) ∧ VI ch (BatchReader.readColumn fx mode col r rows).1 ∧
      (∀ out, (BatchReader.readColumn fx mode col r rows).2 = some out → out.view = true →
        canZeroCopyB true mode col cd = true ∧ (mode = .mmap → canZeroCopyB false mode col cd = true))) := by
  refine ⟨?_, fun f o rg col => canZeroCopy_fread f o rg col, fun f m o rg col h => canZeroCopy_out_of_range f m o rg col h, ?_⟩
  · intro fx mode o rg col c hdr hc hv
    have hm : mode.mapped = true := ((Carquet.Proofs.ReaderBounds.takesView_iff fx mode c hdr).mp hv).1
    refine ⟨canZeroCopy_of_takesView fx true mode o rg col c hdr hc hv (by simp [zeroCopySource, hm]), ?_⟩
    intro hmm
    subst hmm
    exact canZeroCopy_of_takesView fx false .mmap o rg col c hdr hc hv (by simp [zeroCopySource, hasMmapInfo])
  · intro α fx mode col cd ch r rows hview hvi
    have hpre : VI ch (BatchReader.prefetch fx r) := by
      unfold BatchReader.prefetch
      split
      · exact vi_readBatch fx ch r 0 false false hvi
      · exact hvi
    have htry : VI ch (BatchReader.tryZeroCopy fx mode col r) := by
      unfold BatchReader.tryZeroCopy
      split
      · exact vi_readBatch fx ch r 0 false false hvi
      · exact hvi
    refine ⟨hpre, ?_, ?_⟩
    · unfold BatchReader.readColumn
      split
      · exact ⟨htry.1, htry.2⟩
      · unfold BatchReader.standardCol
        split; · exact htry
        split; · exact htry
        have := vi_readBatch fx ch (BatchReader.tryZeroCopy fx mode col r) rows (decide (col.maxDef > 0)) false htry
        cases hq : ColumnReader.readBatch fx (BatchReader.tryZeroCopy fx mode col r) rows (decide (col.maxDef > 0)) false with
        | mk r' res =>
          rw [hq] at this
          simp only
          split <;> exact this
    · intro out hout hov
      unfold BatchReader.readColumn at hout
      split at hout
      · rename_i huse
        unfold BatchReader.useZeroCopy at huse
        simp only [Bool.and_eq_true, decide_eq_true_eq] at huse
        obtain ⟨⟨⟨⟨_, hown⟩, _⟩, _⟩, hdef⟩ := huse
        have hcv : BatchReader.chunkIsView mode col cd = true := by rw [← hview]; exact htry.2 hown
        unfold BatchReader.chunkIsView at hcv
        simp only [Bool.and_eq_true, decide_eq_true_eq] at hcv
        obtain ⟨⟨⟨⟨hmap, hunc⟩, hfw⟩, hd0⟩, _⟩ := hcv
        refine ⟨?_, ?_⟩
        · unfold canZeroCopyB zeroCopySource
          cases mode <;> simp_all [modeOfIO, Mode.mapped, BatchReader.IOMode.mapped]
        · intro hmm
          subst hmm
          unfold canZeroCopyB zeroCopySource
          simp [modeOfIO, hasMmapInfo, hunc, hfw, hd0]
      · exfalso
        unfold BatchReader.standardCol at hout
        split at hout; · cases hout
        split at hout; · cases hout
        cases hq : ColumnReader.readBatch fx (BatchReader.tryZeroCopy fx mode col r) rows (decide (col.maxDef > 0)) false with
        | mk r' res =>
          rw [hq] at hout
          simp only at hout
          split at hout
          · cases hout
          · cases hout
            simp at hov

-- non-vacuity of (a): on the two-page INT32 file the mapped paths take the view branch for the first page
example : (loadPage Fixes.all noLibs true .mmap twoPage twoPageCol (PState.init twoPageCol)).result.toOption.map (·.view) = some true ∧
    (loadPage Fixes.all noLibs true .buffer twoPage twoPageCol (PState.init twoPageCol)).result.toOption.map (·.view) = some true ∧
    (loadPage Fixes.all noLibs true .fread twoPage twoPageCol (PState.init twoPageCol)).result.toOption.map (·.view) = some false := by
  decide +kernel

/-- a REQUIRED INT32 column, one uncompressed page of three rows -/
def exColumn : BatchReader.Column := ⟨"a", 0, 0, 4, true, false⟩
def exChunk : BatchReader.ChunkData Nat := ⟨[some ⟨[0, 0, 0], [0, 0, 0], [7, 8, 9]⟩], 3, true⟩
def exFile : BatchReader.File Nat := ⟨[exColumn], [[exChunk]]⟩

/-- **F90 (pinned code).**  A reader opened with `carquet_reader_open_buffer` takes the zero-copy
branches — the page loader hands out a VIEW into the caller's buffer, the batch reader passes it on
as the column's data — while the pinned `carquet_reader_can_zero_copy` answers false for every
column of every buffer reader (it tested `mmap_info`, which only `use_mmap` sets).  The repaired
predicate tests what the loaders test (`mmap_data`). -/
theorem C03_regression_F90 :
    (∀ (o : Opened) (rg col : Int), canZeroCopy false .buffer o rg col = false) ∧
    (loadPage Fixes.all noLibs true .buffer twoPage twoPageCol (PState.init twoPageCol)).result.toOption.map (·.view) = some true ∧
    ((BatchReader.create .buffer exFile ⟨3, [0], []⟩).map (fun br =>
        (BatchReader.next ColumnReader.Fixes.all br).2.2.map (fun b => b.cols.map (·.view)))) = some (some [true]) ∧
    canZeroCopyB false .buffer exColumn exChunk = false ∧ canZeroCopyB true .buffer exColumn exChunk = true := by
  refine ⟨?_, by decide +kernel, by decide +kernel, by decide +kernel, by decide +kernel⟩
  intro o rg col
  simp [canZeroCopy, zeroCopySource, hasMmapInfo]

end Carquet.Properties.C03
