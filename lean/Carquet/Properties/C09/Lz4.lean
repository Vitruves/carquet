import Carquet.Spec.Lz4
import Carquet.Impl.Lz4
import Carquet.Impl.CodecWrappers
import Carquet.Gen.Lz4Consts
import Carquet.Proofs.Lz4Spec
import Carquet.Proofs.Lz4Decomp
import Carquet.Proofs.Lz4Comp
import Carquet.Proofs.CodecWrappers
import Carquet.Proofs.Lz4Fuel
/-
C09 (LZ4, GZIP, ZSTD part) — codecs round-trip and honour their bounds.
Property statements only; helper lemmas live in Carquet/Proofs/Lz4*.lean and CodecWrappers.lean.
`Impl.Lz4.compress x cap` / `decompress bs cap` model the calls on buffers of exactly `cap` bytes;
`.error .oobRead / .oobWrite` stand for a memory error (see Impl/Lz4.lean).
-/
namespace Carquet.Properties.C09
open Carquet
open Carquet.Impl.Lz4 (compress decompress bound)

/-- The constants the Impl model uses as literals are the ones the source defines now
(re-extracted on every run). -/
theorem C09_lz4_constants :
    Gen.Lz4.minMatch = 4 ∧ Gen.Lz4.hashLog = 12 ∧ Gen.Lz4.minLength = 13 ∧ Gen.Lz4.lastLiterals = 12 ∧
    Gen.Lz4.hashMul = 2654435761 ∧ 2 ^ (32 - Gen.Lz4.hashLog) = 1048576 ∧
    2 ^ Gen.Lz4.hashLog = Impl.Lz4.emptyTable.size ∧ 2 ^ Gen.Lz4.tableEntryBits = UInt16.size ∧
    Gen.Lz4.maxDistance = 65535 ∧ Gen.Lz4.boundDiv = 255 ∧ Gen.Lz4.boundAdd = 16 ∧
    Gen.Lz4.wideCopyMinOffset = 8 ∧
    Gen.Lz4.gzipLevelMin = 1 ∧ Gen.Lz4.gzipLevelMax = 9 ∧ Gen.Lz4.gzipBoundExtra = 18 ∧
    Gen.Lz4.zstdLevelMin = 1 ∧ Gen.Lz4.gzipWindowBits = 31 := by
  rw [show Impl.Lz4.emptyTable.size = 4096 from Array.size_replicate]
  decide

/-- **Copy validity, independent of the hash function and of the table contents.**  Whatever the
position table holds (stale, aliased modulo 65536, or arbitrary), a sequence emitted at `ip` has
`0 < off ≤ ip`, `off ≤ 65535`, leaves at least 12 trailing bytes, and copies bytes that are equal:
`src[ip + i] = src[ip − off + i]` for all `i < mlen`. -/
theorem C09_lz4_copy_valid (src : Impl.Lz4.Bytes) (n ip : Nat) (tbl : Array UInt16) (off mlen : Nat)
    (h : Impl.Lz4.probe src n ip tbl = some (off, mlen)) :
    0 < off ∧ off ≤ ip ∧ off ≤ 65535 ∧ 4 ≤ mlen ∧ ip + mlen + 12 ≤ n ∧
    ∀ i, i < mlen → Impl.Lz4.byteAt src (ip + i) = Impl.Lz4.byteAt src (ip - off + i) := by
  have := Proofs.Lz4Comp.probe_ok tbl h
  exact ⟨this.off_pos, this.off_le, this.off_le_max, this.mlen_ge, this.end_le, this.agree⟩

example : Impl.Lz4.probe (List.replicate 40 7).toArray 40 1 Impl.Lz4.emptyTable = some (1, 27) :=
  Proofs.Lz4Comp.probe_replicate_40

/-- Whatever the compressor returns as `OK`, its own decompressor turns back into `x`, in a
destination of exactly `|x|` bytes. -/
theorem C09_lz4_roundtrip (x : List UInt8) (cap : Nat) (out : List UInt8)
    (h : compress x cap = .ok out) : decompress out x.length = .ok x := by
  obtain ⟨seqs, last, rfl, h2, _⟩ := Proofs.Lz4Comp.compress_ok h
  rw [Proofs.Lz4Decomp.decompress_eq_spec,
    Proofs.Lz4Spec.decode_complete (Proofs.Lz4Spec.encode_block h2) (Nat.le_refl _)]

/-- With the advertised bound (or more) as capacity the compressor succeeds and reports a length
within the bound (hence within the capacity); in particular no per-sequence space test fires and
no store goes past the end of the destination. -/
theorem C09_lz4_fits_bound (x : List UInt8) (cap : Nat) (h : x.length + x.length / 255 + 16 ≤ cap) :
    ∃ out, compress x cap = .ok out ∧ out.length ≤ bound x.length ∧ out.length ≤ cap := by
  obtain ⟨seqs, last, h1, _, _, h4⟩ := Proofs.Lz4Comp.compress_spec x cap h
  exact ⟨_, h1, h4, by unfold bound at h4; omega⟩

/-- both together, for every byte string -/
theorem C09_lz4_roundtrip_at_bound (x : List UInt8) :
    ∃ out, compress x (bound x.length) = .ok out ∧ out.length ≤ bound x.length ∧
      decompress out x.length = .ok x := by
  obtain ⟨out, h1, h2, _⟩ := C09_lz4_fits_bound x (bound x.length) (Nat.le_refl _)
  exact ⟨out, h1, h2, C09_lz4_roundtrip x _ out h1⟩

example : compress (List.replicate 40 7) (bound 40) = .ok [0x1f, 7, 1, 0, 8, 0xc0, 7, 7, 7, 7, 7, 7, 7, 7, 7, 7, 7, 7] :=
  Proofs.Lz4Comp.compress_replicate_40

/-- A destination smaller than the bound is refused (status `CARQUET_ERROR_COMPRESSION`), before
anything is written; and for every capacity the call either reports that error or returns at
most `cap` bytes — it never stores outside the destination. -/
theorem C09_lz4_small_dst_refused_or_safe (x : List UInt8) (cap : Nat) :
    (cap < bound x.length → compress x cap = .error .compression) ∧
    (compress x cap = .error .compression ∨ ∃ out, compress x cap = .ok out ∧ out.length ≤ cap) := by
  by_cases hc : bound x.length ≤ cap
  · refine ⟨by omega, Or.inr ?_⟩
    obtain ⟨out, h1, _, h3⟩ := C09_lz4_fits_bound x cap hc
    exact ⟨out, h1, h3⟩
  · have := Proofs.Lz4Comp.compress_refused x cap (by omega)
    exact ⟨fun _ => this, Or.inl this⟩

example : compress [1, 2, 3] 18 = .error .compression ∧ compress [1, 2, 3] 19 = .ok [0x30, 1, 2, 3] := by
  decide +kernel

/-- The loops of the compressor model are started with enough fuel: more fuel gives the same
match list and the same match lengths, and the inner `while (*p == *match)` of `lz4_count` (no
bound test in C) is entered only when a difference lies within the 8 bytes compared. -/
theorem C09_lz4_fuel_adequate (src : Impl.Lz4.Bytes) :
    (∀ (k : Nat) (tbl : Array UInt16) (acc : List Impl.Lz4.Seq),
      Impl.Lz4.findLoop src src.size (src.size + k) 0 0 tbl acc = Impl.Lz4.findLoop src src.size src.size 0 0 tbl acc) ∧
    (∀ p m limit k : Nat, Impl.Lz4.countFast src limit (limit - p + 1 + k) p m 0 = Impl.Lz4.count src p m limit) ∧
    (∀ p m acc : Nat, ¬ Impl.Lz4.eq8 src p m = true →
      Impl.Lz4.firstDiff src (8 + 1) p m acc = Impl.Lz4.firstDiff src 8 p m acc) :=
  ⟨fun k tbl acc => Proofs.Lz4Fuel.findLoop_fuel_add src src.size tbl acc k,
   fun p m limit k => Proofs.Lz4Fuel.count_fuel_add src p m limit k,
   fun p m acc h => Proofs.Lz4Fuel.countFast_firstDiff_fuel src p m acc h⟩

/-! ## gzip / zstd wrappers, under the library contract -/

open Carquet.Impl.CodecWrappers

/-- `carquet_zstd_compress` / `_decompress`, `maxCLevel = ZSTD_maxCLevel() ≥ 1`. -/
theorem C09_zstd_wrapper (L : Lib) (maxCLevel : Int) (hmax : 1 ≤ maxCLevel) (hL : L.Contract 1 maxCLevel)
    (x : List UInt8) (level : Int) :
    (∀ cap, L.bound x.length ≤ cap →
      ∃ c, zstdCompress L maxCLevel x cap level = .ok c ∧ c.length ≤ cap ∧ c.length ≤ L.bound x.length ∧
        zstdDecompress L c x.length = .ok x) ∧
    (∀ cap c, zstdCompress L maxCLevel x cap level = .ok c →
      c.length ≤ cap ∧ zstdDecompress L c x.length = .ok x) ∧
    (∀ cap, zstdCompress L maxCLevel x cap level = .error .compression ∨
      ∃ c, zstdCompress L maxCLevel x cap level = .ok c) := by
  obtain ⟨hlo, hhi⟩ := Proofs.CodecWrappers.clamp_range 1 maxCLevel level hmax
  have hdec : ∀ cap c, L.compress (clamp 1 maxCLevel level) x cap = some c → zstdDecompress L c x.length = .ok x := by
    intro cap c hc
    rw [Proofs.CodecWrappers.zstdDecompress_eq, Proofs.CodecWrappers.gzipDecompress_eq,
      hL.roundtrip _ _ _ _ _ hlo hhi hc (Nat.le_refl _)]
  simp only [zstdCompress, zstdCompressG, Bool.or_self, Bool.false_eq_true, if_false, List.take_length]
  refine ⟨fun cap hcap => ?_, fun cap c h => ?_, fun cap => ?_⟩
  · obtain ⟨c, hc⟩ := hL.fits _ x cap hlo hhi hcap
    exact ⟨c, by rw [hc], hL.le_cap _ _ _ _ hc, hL.le_bound _ _ _ _ hlo hhi hc, hdec cap c hc⟩
  · cases hc : L.compress (clamp 1 maxCLevel level) x cap with
    | none => rw [hc] at h; cases h
    | some c' => rw [hc] at h; cases h; exact ⟨hL.le_cap _ _ _ _ hc, hdec cap _ hc⟩
  · cases L.compress (clamp 1 maxCLevel level) x cap with
    | none => exact Or.inl rfl
    | some c => exact Or.inr ⟨c, rfl⟩

example : (Proofs.CodecWrappers.storeLib).Contract 1 22 := Proofs.CodecWrappers.storeLib_contract 1 22

/-- `carquet_gzip_compress` / `_decompress` (after fix F41) over a library satisfying the contract,
at any requested level: into the advertised bound the compression succeeds, fits, and
decompresses into exactly `|x|` bytes to `x`; for any capacity the call is either refused with
`CARQUET_ERROR_COMPRESSION` or returns at most `cap` bytes that decompress to `x`. -/
theorem C09_gzip_wrapper (L : Lib) (hL : L.Contract 1 9) (x : List UInt8) (level : Int) :
    (∀ cap, gzipBound L.bound x.length ≤ cap →
      ∃ c, gzipCompress L x cap level = .ok c ∧ c.length ≤ cap ∧ c.length ≤ gzipBound L.bound x.length ∧
        gzipDecompress L c x.length = .ok x) ∧
    (∀ cap c, gzipCompress L x cap level = .ok c → c.length ≤ cap ∧ gzipDecompress L c x.length = .ok x) ∧
    (∀ cap, gzipCompress L x cap level = .error .compression ∨ ∃ c, gzipCompress L x cap level = .ok c) := by
  simp only [Proofs.CodecWrappers.gzipCompress_eq, ← Proofs.CodecWrappers.zstdDecompress_eq]
  obtain ⟨h1, h2, h3⟩ := C09_zstd_wrapper L 9 (by omega) hL x level
  refine ⟨fun cap hcap => ?_, h2, h3⟩
  obtain ⟨c, g1, g2, g3, g4⟩ := h1 cap (by unfold gzipBound at hcap; omega)
  exact ⟨c, g1, g2, by unfold gzipBound; omega, g4⟩

example : (Proofs.CodecWrappers.storeLib).Contract 1 9 := Proofs.CodecWrappers.storeLib_contract 1 9

/-- Levels outside the library's range are clamped, inside they are passed through. -/
theorem C09_wrapper_level_clamp (lo hi level : Int) (h : lo ≤ hi) :
    lo ≤ clamp lo hi level ∧ clamp lo hi level ≤ hi ∧ (lo ≤ level → level ≤ hi → clamp lo hi level = level) :=
  ⟨(Proofs.CodecWrappers.clamp_range lo hi level h).1, (Proofs.CodecWrappers.clamp_range lo hi level h).2,
   Proofs.CodecWrappers.clamp_id lo hi level⟩

/-- F41, the pinned `carquet_gzip_compress`: with a source of 2^32 + 5 bytes the `(uInt)` cast hands
zlib `avail_in = 5`; the call reports OK for a stream that encodes the first five bytes only.
(Kernel-checked on the call level; `C09_regression_F41_roundtrip` lifts it to a library that
satisfies the contract.) -/
theorem C09_regression_F41 :
    gzipCompressPreFixG false false false 4294967301 64 6
      (fun _ k c => if k = 5 ∧ c = 64 then some [0x1f, 0x8b] else none) = .ok [0x1f, 0x8b] ∧
    gzipCompressG false false false 4294967301 64 6
      (fun _ k c => if k = 5 ∧ c = 64 then some [0x1f, 0x8b] else none) = .error .compression := by
  decide

theorem C09_regression_F41_roundtrip :
    ∃ (L : Lib), L.Contract 1 9 ∧ ∀ x : List UInt8, x.length = 4294967301 →
      ∃ c, gzipCompressPreFix L x 64 6 = .ok c ∧ L.decompress c x.length ≠ some x := by
  refine ⟨Proofs.CodecWrappers.storeLib, Proofs.CodecWrappers.storeLib_contract 1 9, ?_⟩
  intro x hx
  refine ⟨x.take 5, ?_, ?_⟩
  · simp only [gzipCompressPreFix, gzipCompressPreFixG, toUInt, hx, Proofs.CodecWrappers.storeLib,
      Bool.or_self, Bool.false_eq_true, if_false]
    rw [if_pos (by simp; omega)]
  · simp only [Proofs.CodecWrappers.storeLib]
    rw [if_pos (by simp; omega)]
    intro h
    have := congrArg List.length (Option.some.inj h)
    simp [hx] at this

end Carquet.Properties.C09
