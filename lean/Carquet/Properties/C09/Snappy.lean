import Carquet.Spec.Snappy
import Carquet.Impl.Snappy
import Carquet.Gen.SnappyConstants
import Carquet.Proofs.SnappySpec
import Carquet.Proofs.SnappyDecomp
import Carquet.Proofs.SnappyComp
/-
C09 (Snappy part) — the codec round-trips and honours its bound.
Property statements only; proofs are in Carquet/Proofs/Snappy*.lean.

`Impl.Snappy.compress x` is everything `carquet_snappy_compress` writes into a destination of the
advertised bound; `Impl.Snappy.decompress bs cap` is the repaired `carquet_snappy_decompress`
(fixes/F6, F25, F25b) called with `dst_capacity = cap`.

The only hypothesis is `x.length < 2^32`: a raw Snappy block cannot declare more (the format's
limit), and the C code writes `(uint32_t)src_size` without checking — `C09_snappy_needs_32bit`
shows the round trip is indeed lost beyond that.
-/
namespace Carquet.Properties.C09
open Carquet

/-- The implementation-chosen numbers the Impl model uses are the ones the source defines now. -/
theorem C09_snappy_constants :
    Gen.snappyHashLog = Impl.Snappy.hashLog ∧ Gen.snappyHashSize = Impl.Snappy.hashSize ∧
    Gen.snappyMaxOffset = Impl.Snappy.maxOffset ∧ Gen.snappyHashMul = Impl.Snappy.hashMul ∧
    Gen.snappySmallInput = 15 ∧ Gen.snappyLimitMargin = 15 ∧ Gen.snappyTableEntryBits = 16 ∧
    (∀ n, Impl.Snappy.compressBound n = Gen.snappyBoundBase + n + n / Gen.snappyBoundDiv) := by
  refine ⟨by decide, by decide, by decide, by decide, by decide, by decide, by decide, fun n => rfl⟩

/-- Key lemma, independent of the hash function and of the table's contents (so it holds with the
16-bit truncated entries that alias beyond 64 KiB): started from ANY table, every copy `(off, len)`
the match finder emits stands at an input position `p` (= the lengths of the operations before it)
with `0 < off ≤ p`, stays inside the input, and repeats exactly the bytes `off` back:
`x[p+i] = x[p-off+i]` for all `i < len`.  Proved from the 4-byte comparison and the extension loop only
(`Proofs.Snappy.match_copyValid`; the general loop-head form is `Proofs.Snappy.mainLoop_inv`). -/
theorem C09_snappy_copies_valid (x : List UInt8) (tbl : Impl.Snappy.Table) (a b : List Impl.Snappy.Op)
    (off len : Nat)
    (h : (Impl.Snappy.mainLoop x.toArray tbl 0 0 #[]).toList = a ++ .copy off len :: b) :
    0 < off ∧ off ≤ Proofs.Snappy.opsLen a ∧ Proofs.Snappy.opsLen a + len ≤ x.length ∧ 4 ≤ len ∧
      ∀ i, i < len → x[Proofs.Snappy.opsLen a + i]? = x[Proofs.Snappy.opsLen a + i - off]? := by
  have hinv := (Proofs.Snappy.mainLoop_inv x.toArray tbl 0 0 #[]
    ⟨by simp [Proofs.Snappy.Tiles], by simp [Impl.Snappy.serialize]⟩ (Nat.le_refl _) (Nat.zero_le _)).1
  rw [h] at hinv
  obtain ⟨⟨h0, h1, h2, h3⟩, _, h4⟩ := Proofs.Snappy.tiles_copy hinv
  refine ⟨h0, h1, by simpa using h2, h4, ?_⟩
  intro i hi
  simpa using h3 i hi

-- non-vacuity: a 20-byte input whose operations are a literal and one overlapping copy
example : (Impl.Snappy.mainLoop (List.replicate 20 (0x61 : UInt8)).toArray (Vector.replicate 16384 0) 0 0 #[]).toList
    = [.literal 0 1] ++ .copy 1 19 :: [] := by
  -- The zeroed table proposes position 0 everywhere (inserting position 0 leaves it zeroed): no
  -- candidate before position 0; at position 1 "aaaa" matches and `extend` runs to the end.
  have he : Impl.Snappy.extend (List.replicate 20 (0x61 : UInt8)).toArray 1 5 = 20 := by decide +kernel
  rw [Impl.Snappy.mainLoop, dif_pos (by decide)]
  simp only [Proofs.Snappy.cand_zeroed, Proofs.Snappy.tblIns_zeroed]
  rw [if_neg (by decide), Impl.Snappy.mainLoop, dif_pos (by decide)]
  simp only [Proofs.Snappy.cand_zeroed, he]
  rw [if_pos (by decide), Impl.Snappy.mainLoop, dif_neg (by decide)]
  decide

/-- Round trip: decompressing carquet's output into a buffer of exactly `len(x)` bytes returns `x`
(for every input: empty, tiny, beyond 64 KiB where table entries alias, repetitive, incompressible). -/
theorem C09_snappy_roundtrip (x : List UInt8) (h : x.length < 2 ^ 32) :
    Impl.Snappy.decompress (Impl.Snappy.compress x) x.length = .ok x := by
  rw [Proofs.Snappy.decompress_eq_spec, Proofs.Snappy.decode_of_stream (Proofs.Snappy.compress_stream x h)]
  exact if_pos (Nat.le_refl _)

example : ([1, 2, 3] : List UInt8).length < 2 ^ 32 := by decide
example : Impl.Snappy.decompress (Impl.Snappy.compress (List.replicate 20 0x61)) 20 = .ok (List.replicate 20 0x61) :=
  C09_snappy_roundtrip (List.replicate 20 0x61) (by simp)

/-- The compressed length never exceeds the advertised bound (no hypothesis on `x`), so a
destination of the bound is never overrun and the reported length is the true one. -/
theorem C09_snappy_le_bound (x : List UInt8) :
    (Impl.Snappy.compress x).length ≤ 32 + x.length + x.length / 6 :=
  Proofs.Snappy.compress_le_bound x

/-- Into a destination of at least the bound the call succeeds and reports exactly those bytes. -/
theorem C09_snappy_fits_bound (x : List UInt8) (cap : Nat) (h : 32 + x.length + x.length / 6 ≤ cap) :
    Impl.Snappy.compressCap x cap = .ok (Impl.Snappy.compress x) := by
  have hb : ¬ cap < Impl.Snappy.compressBound x.length := by
    simp only [Impl.Snappy.compressBound]; omega
  simp only [Impl.Snappy.compressCap, hb, if_false, Impl.Snappy.compress]

example : 32 + ([1, 2, 3] : List UInt8).length + ([1, 2, 3] : List UInt8).length / 6 ≤ 35 := by decide

/-- A destination smaller than the bound is refused up front (status COMPRESSION), before anything
is written. -/
theorem C09_snappy_small_dst_refused (x : List UInt8) (cap : Nat) (h : cap < 32 + x.length + x.length / 6) :
    Impl.Snappy.compressCap x cap = .error .compression := by
  have hb : cap < Impl.Snappy.compressBound x.length := by
    simp only [Impl.Snappy.compressBound]; omega
  simp only [Impl.Snappy.compressCap, hb, if_true]

example : (34 : Nat) < 32 + ([1, 2, 3] : List UInt8).length + ([1, 2, 3] : List UInt8).length / 6 := by decide

/-- Why `x.length < 2^32` is needed: the preamble holds `(uint32_t)src_size`, so for longer inputs the
repaired decompressor cannot return `x` (it returns an error or 2^32·k fewer bytes).  The compressor
does not refuse such inputs (finding, not repaired here: cannot be exercised with buffers that exist
in the harness; see NOTES_snappy.md). -/
theorem C09_snappy_needs_32bit (x : List UInt8) (h : 2 ^ 32 ≤ x.length) :
    Impl.Snappy.decompress (Impl.Snappy.compress x) x.length ≠ .ok x := by
  intro hok
  have := Proofs.Snappy.Stream.length_lt (Proofs.Snappy.stream_of_decode (Proofs.Snappy.decode_of_decompress hok).1)
  omega

end Carquet.Properties.C09
