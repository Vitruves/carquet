import Carquet.Proofs.CFunB.Snappy
import Carquet.Proofs.CFunB.Enc
import Carquet.Proofs.CFunB.Lz4
/-
C09 — link theorems (component `cfun`, batch `cfunb`): the encoder helpers of src/compression/snappy.c and the 32-bit loads of
both codecs, as translated from the CURRENT C source by translate/gen_cfun.py on every check run, are the byte-level
definitions the Snappy / LZ4 compressor models are built from (`Impl.Snappy.writeVarint`, `literalHeader`, `copyBytes`,
`read32`, `Impl.Lz4.read32`): `C09_snappy_roundtrip`, `C09_snappy_le_bound` and the C10 grammar theorems are about
`Impl.Snappy.compressBytes = writeVarint … ++ serialize …`, whose pieces are exactly these.
A pointer result (`snappy_emit_literal`, `snappy_emit_copy` return `op`) is the offset of the returned pointer in the output
array; the second component is the output array after the call.
-/
namespace Carquet.Properties.C09
open Carquet Carquet.Impl Carquet.Proofs.CFunB

/-- `snappy_write_varint(p, value)` (the stream header carrying the uncompressed length) on a buffer with room for it:
number of bytes written and the buffer afterwards -/
theorem C09_cfun_snappy_write_varint (p : List UInt8) (v : BitVec 32) (h : (Snappy.writeVarint 4 v.toNat).length ≤ p.length) :
    Gen.CFun.snappy_write_varint p v =
      (BitVec.ofNat 64 (Snappy.writeVarint 4 v.toNat).length,
       Snappy.writeVarint 4 v.toNat ++ p.drop (Snappy.writeVarint 4 v.toNat).length) := (snappy_write_varint_eq p v h).1
theorem C09_cfun_snappy_write_varint_defined (p : List UInt8) (v : BitVec 32)
    (h : (Snappy.writeVarint 4 v.toNat).length ≤ p.length) :
    Gen.CFun.snappy_write_varint_defined p v = true := (snappy_write_varint_eq p v h).2

example : Gen.CFun.snappy_write_varint [9, 9, 9] 300#32 = (2#64, [0xAC, 0x02, 9]) ∧
    -- 4 MiB + 1 (bit 21 clear, bit 22 set): four bytes
    Gen.CFun.snappy_write_varint [9, 9, 9, 9, 9] 4194305#32 = (4#64, [0x81, 0x80, 0x80, 0x02, 9]) ∧
    Gen.CFun.snappy_write_varint_defined [9] 300#32 = false := by decide +kernel

/-- `snappy_emit_literal(op, literal, len)` for `len > 0`: tag byte with the length class (≤ 60 inline, then 1..4 length
bytes), the literal bytes; result = offset of the returned pointer and the output buffer -/
theorem C09_cfun_snappy_emit_literal (op lit : List UInt8) (len : Nat) (h0 : 0 < len) (hl : len < 2 ^ 64)
    (hlit : len ≤ lit.length) (hop : (Snappy.literalHeader len).length + len ≤ op.length) :
    Gen.CFun.snappy_emit_literal op lit (BitVec.ofNat 64 len) =
      ((Snappy.literalHeader len).length + len,
       Snappy.literalHeader len ++ lit.take len ++ op.drop ((Snappy.literalHeader len).length + len)) :=
  (snappy_emit_literal_eq op lit len h0 hl hlit hop).1
theorem C09_cfun_snappy_emit_literal_defined (op lit : List UInt8) (len : Nat) (h0 : 0 < len) (hl : len < 2 ^ 64)
    (hlit : len ≤ lit.length) (hop : (Snappy.literalHeader len).length + len ≤ op.length) :
    Gen.CFun.snappy_emit_literal_defined op lit (BitVec.ofNat 64 len) = true :=
  (snappy_emit_literal_eq op lit len h0 hl hlit hop).2

example : Gen.CFun.snappy_emit_literal [0, 0, 0, 0, 7] [0x61, 0x62, 0x63] 3#64 = (4, [0x08, 0x61, 0x62, 0x63, 7]) ∧
    -- the class boundary: 60 bytes inline, 61 bytes need a length byte
    (Snappy.literalHeader 60 = [0xEC] ∧ Snappy.literalHeader 61 = [0xF0, 60]) ∧
    (Gen.CFun.snappy_emit_literal (List.replicate 70 0) (List.replicate 61 1) 61#64).1 = 63 ∧
    Gen.CFun.snappy_emit_literal_defined [0, 0, 0] [0x61, 0x62, 0x63] 3#64 = false := by decide +kernel

/-- `snappy_emit_copy(op, offset, len)` for `len >= 4`: 64-byte copies while `len >= 68`, one 60-byte copy when more than 64
remain, then a COPY_1 (`len < 12` and `offset < 2048`) or COPY_2 element -/
theorem C09_cfun_snappy_emit_copy (op : List UInt8) (off len : Nat) (hoff : off < 2 ^ 64) (h4 : 4 ≤ len) (hl : len < 2 ^ 61)
    (hop : (Snappy.copyBytes off len).length ≤ op.length) :
    Gen.CFun.snappy_emit_copy op (BitVec.ofNat 64 off) (BitVec.ofNat 64 len) =
      ((Snappy.copyBytes off len).length, Snappy.copyBytes off len ++ op.drop (Snappy.copyBytes off len).length) :=
  (snappy_emit_copy_eq op off len hoff h4 hl hop).1
theorem C09_cfun_snappy_emit_copy_defined (op : List UInt8) (off len : Nat) (hoff : off < 2 ^ 64) (h4 : 4 ≤ len)
    (hl : len < 2 ^ 61) (hop : (Snappy.copyBytes off len).length ≤ op.length) :
    Gen.CFun.snappy_emit_copy_defined op (BitVec.ofNat 64 off) (BitVec.ofNat 64 len) = true :=
  (snappy_emit_copy_eq op off len hoff h4 hl hop).2

example : Gen.CFun.snappy_emit_copy [0, 0, 9] 5#64 7#64 = (2, [0x0D, 0x05, 9]) ∧
    -- offset 2048: the one-byte form no longer fits
    Gen.CFun.snappy_emit_copy [0, 0, 0] 2048#64 7#64 = (3, [0x1A, 0x00, 0x08]) ∧
    -- 70 = 64 + 6: one 64-byte COPY_2, then a COPY_1 of 6
    Gen.CFun.snappy_emit_copy [0, 0, 0, 0, 0, 0] 300#64 70#64 = (5, [0xFE, 0x2C, 0x01, 0x29, 0x2C, 0]) ∧
    Gen.CFun.snappy_emit_copy_defined [0] 5#64 7#64 = false := by decide +kernel

/-- `snappy_read32(p)` / `lz4_read32(p)`: `memcpy(&v, p, 4)` on the little-endian host -/
theorem C09_cfun_snappy_read32 (p : List UInt8) (h : 4 ≤ p.length) :
    (Gen.CFun.snappy_read32 p).toNat = Snappy.read32 p.toArray 0 (by simp; omega) := (snappy_read32_eq p h).1
theorem C09_cfun_snappy_read32_defined (p : List UInt8) (h : 4 ≤ p.length) : Gen.CFun.snappy_read32_defined p = true :=
  (snappy_read32_eq p h).2
theorem C09_cfun_lz4_read32 (p : List UInt8) (h : 4 ≤ p.length) : (Gen.CFun.lz4_read32 p).toNat = Lz4.read32 p.toArray 0 :=
  (lz4_read32_eq p h).1
theorem C09_cfun_lz4_read32_defined (p : List UInt8) (h : 4 ≤ p.length) : Gen.CFun.lz4_read32_defined p = true :=
  (lz4_read32_eq p h).2

example : Gen.CFun.snappy_read32 [0x78, 0x56, 0x34, 0x12, 0xFF] = 0x12345678#32 ∧ Gen.CFun.lz4_read32_defined [1, 2, 3] = false := by
  decide +kernel

/-- `lz4_count(p, match, limit)` (match length of the LZ4 compressor): `match` = the start of the buffer, `p = match + off`,
`limit` an offset inside the buffer, at least 7 (the code forms `limit - 7`).  Eight bytes at a time through two `uint64_t`
loads, the first differing byte by a byte loop, then byte by byte -/
theorem C09_cfun_lz4_count (buf : List UInt8) (off limit : Nat) (ho : off ≤ limit) (hl : limit ≤ buf.length) (h7 : 7 ≤ limit) :
    Gen.CFun.lz4_count off buf limit = BitVec.ofNat 64 (Lz4.count buf.toArray off 0 limit) := (lz4_count_eq buf off limit ho hl h7).1
/-- every 8-byte load and every byte load is inside the buffer; the inner byte loop stops within 8 steps -/
theorem C09_cfun_lz4_count_defined (buf : List UInt8) (off limit : Nat) (ho : off ≤ limit) (hl : limit ≤ buf.length)
    (h7 : 7 ≤ limit) : Gen.CFun.lz4_count_defined off buf limit = true := (lz4_count_eq buf off limit ho hl h7).2

example : Gen.CFun.lz4_count 3 [1, 2, 3, 1, 2, 3, 1, 2, 3, 1, 2, 3, 1, 2, 9, 1, 2, 3, 1, 2, 3] 21 = 11#64 ∧
    Lz4.count [1, 2, 3, 1, 2, 3, 1, 2, 3, 1, 2, 3, 1, 2, 9, 1, 2, 3, 1, 2, 3].toArray 3 0 21 = 11 ∧
    -- a `limit` beyond the buffer
    Gen.CFun.lz4_count_defined 3 [1, 2, 3, 1, 2, 3, 1, 2, 3, 1, 2, 3] 13 = false ∧
    -- `limit - 7` would point before the buffer
    Gen.CFun.lz4_count_defined 1 [1, 1, 1, 1, 1] 5 = false := by decide +kernel

end Carquet.Properties.C09
