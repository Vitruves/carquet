import Carquet.Spec.Lz4
import Carquet.Impl.Lz4
import Carquet.Proofs.Lz4Spec
import Carquet.Proofs.Lz4Decomp
import Carquet.Proofs.Lz4Comp
/-
C10 (LZ4 part) — the built-in LZ4 codec speaks the LZ4 block format.
`Spec.Lz4` is the independent reading of the format: grammar `Block`, executable `decode`,
reference encoder `encode`, end-of-block rules `EndRules`.  Property statements only.
-/
namespace Carquet.Properties.C10
open Carquet
open Carquet.Impl.Lz4 (compress decompress decompressPreFix)

/-- The independent decoder and the grammar define the same set of blocks (coherence of the Spec:
makes the two theorems below statements about the grammar as well). -/
theorem C10_lz4_spec_decode_iff_block (bs out : List UInt8) (cap : Nat) :
    Spec.Lz4.decode bs cap = .ok out ↔ Spec.Lz4.Block bs out ∧ out.length ≤ cap :=
  ⟨Proofs.Lz4Spec.decode_inv,
   fun h => Proofs.Lz4Spec.decode_complete h.1 h.2⟩

/-- Every stream the compressor produces is a valid LZ4 block for `x` — the independent decoder
recovers `x` in exactly `|x|` bytes — and respects the end-of-block rules for encoders (last 5
bytes literal, last match starts at least 12 bytes before the end). -/
theorem C10_lz4_output_valid (x : List UInt8) (cap : Nat) (out : List UInt8) (h : compress x cap = .ok out) :
    Spec.Lz4.decode out x.length = .ok x ∧ Spec.Lz4.EndRulesOk out := by
  obtain ⟨seqs, last, rfl, h2, h3⟩ := Proofs.Lz4Comp.compress_ok h
  exact ⟨Proofs.Lz4Spec.decode_complete (Proofs.Lz4Spec.encode_block h2) (Nat.le_refl _), seqs, last, rfl, h3⟩

example : compress (List.replicate 40 7) 56 = .ok [0x1f, 7, 1, 0, 8, 0xc0, 7, 7, 7, 7, 7, 7, 7, 7, 7, 7, 7, 7] ∧
    Spec.Lz4.endRulesCheck [0x1f, 7, 1, 0, 8, 0xc0, 7, 7, 7, 7, 7, 7, 7, 7, 7, 7, 7, 7] = true :=
  ⟨Proofs.Lz4Comp.compress_replicate_40, by decide +kernel⟩

/-- carquet's decompressor accepts every valid block — whatever encoder produced it: every token
kind, 255-chains, any offset from 1 to the amount produced so far, overlapping copies — and
returns the encoded bytes, given a destination of exactly their size (or larger). -/
theorem C10_lz4_accepts_valid (bs out : List UInt8) (h : Spec.Lz4.Block bs out) (cap : Nat)
    (hc : out.length ≤ cap) : decompress bs cap = .ok out := by
  rw [Proofs.Lz4Decomp.decompress_eq_spec, Proofs.Lz4Spec.decode_complete h hc]

/-- a block with a 255-chain literal length, an overlapping offset-1 run and a maximal offset -/
example : Spec.Lz4.Block [0x10, 0x41, 0x01, 0x00, 0x00] [0x41, 0x41, 0x41, 0x41, 0x41] :=
  Proofs.Lz4Spec.decode_sound (cap := 5) (by decide +kernel)

/-- …and rejects everything the format defines as invalid: whenever the independent decoder
reports an error (input ends inside a sequence or before the final literal-only sequence,
offset 0, offset reaching before the start of the output, more output than `cap`), carquet
returns `CARQUET_ERROR_INVALID_COMPRESSED_DATA`. -/
theorem C10_lz4_rejects_invalid (bs : List UInt8) (cap : Nat) (e : Spec.Lz4.Err)
    (h : Spec.Lz4.decode bs cap = .error e) : decompress bs cap = .error .invalidData := by
  rw [Proofs.Lz4Decomp.decompress_eq_spec, h]

/-- the same in terms of the grammar: no block of at most `cap` bytes → rejected -/
theorem C10_lz4_rejects_nonblocks (bs : List UInt8) (cap : Nat)
    (h : ¬ ∃ out, Spec.Lz4.Block bs out ∧ out.length ≤ cap) : decompress bs cap = .error .invalidData := by
  cases hd : Spec.Lz4.decode bs cap with
  | error e => exact C10_lz4_rejects_invalid bs cap e hd
  | ok out => exact absurd ⟨out, (C10_lz4_spec_decode_iff_block bs out cap).mp hd⟩ h

example : Spec.Lz4.decode [0x10, 0x41, 0x00, 0x00, 0x00] 5 = .error .offsetZero := by decide +kernel

/-- carquet's decompressor is the Spec decoder (all Spec errors being one status). -/
theorem C10_lz4_decompress_eq_spec (bs : List UInt8) (cap : Nat) :
    decompress bs cap =
      (match Spec.Lz4.decode bs cap with
       | .ok o => .ok o
       | .error _ => .error .invalidData) :=
  Proofs.Lz4Decomp.decompress_eq_spec bs cap

/-- F40: the pinned decompressor (`while (ip < iend)`) accepts input without the final
literal-only sequence — the empty input, and a block cut right after a match — and reports OK
with the bytes produced so far; the format (and the repaired code) reject both. -/
theorem C10_regression_F40 :
    decompressPreFix [] 0 = .ok [] ∧ Spec.Lz4.decode [] 0 = .error .truncated ∧
    decompress [] 0 = .error .invalidData ∧
    decompressPreFix [0x10, 0x41, 0x01, 0x00] 5 = .ok [0x41, 0x41, 0x41, 0x41, 0x41] ∧
    Spec.Lz4.decode [0x10, 0x41, 0x01, 0x00] 5 = .error .truncated ∧
    decompress [0x10, 0x41, 0x01, 0x00] 5 = .error .invalidData := by
  decide +kernel

end Carquet.Properties.C10
