import Carquet.Spec.Snappy
import Carquet.Impl.Snappy
import Carquet.Gen.SnappyConstants
import Carquet.Proofs.SnappySpec
import Carquet.Proofs.SnappyDecomp
import Carquet.Proofs.SnappyComp
/-
C10 (Snappy part) — carquet's built-in Snappy speaks the raw Snappy block format.
Property statements only; proofs are in Carquet/Proofs/Snappy*.lean.

The independent side is `Spec.Snappy` (decoder `decode`, grammar `Stream bs out`, written from the
format description).  `Impl.Snappy.decompress bs cap` is the repaired `carquet_snappy_decompress`
called with `src = bs` and `dst_capacity = cap` (the C API takes the destination capacity; the
declared length is read from the stream and must not exceed it — carquet's page reader passes the
page's `uncompressed_page_size`).
-/
namespace Carquet.Properties.C10
open Carquet

/-- The tag kinds the source defines are the format's. -/
theorem C10_snappy_tag_kinds :
    Gen.snappyTagLiteral = 0 ∧ Gen.snappyTagCopy1 = 1 ∧ Gen.snappyTagCopy2 = 2 ∧ Gen.snappyTagCopy4 = 3 := by
  decide

/-- Every stream carquet's compressor produces is a valid raw Snappy block for its input, in the
grammar … -/
theorem C10_snappy_output_in_grammar (x : List UInt8) (h : x.length < 2 ^ 32) :
    Spec.Snappy.Stream (Impl.Snappy.compress x) x :=
  Proofs.Snappy.compress_stream x h

/-- … and the independent decoder recovers the input from it. -/
theorem C10_snappy_output_valid (x : List UInt8) (h : x.length < 2 ^ 32) :
    Spec.Snappy.decode (Impl.Snappy.compress x) = .ok x :=
  Proofs.Snappy.decode_of_stream (Proofs.Snappy.compress_stream x h)

example : ([7, 7, 7] : List UInt8).length < 2 ^ 32 := by decide
example : Spec.Snappy.decode (Impl.Snappy.compress (List.replicate 20 0x61)) = .ok (List.replicate 20 0x61) :=
  C10_snappy_output_valid _ (by simp)

/-- The decompressor accepts every valid stream — all tag kinds (copy-4 and the 1..4-byte literal
lengths included), every offset, overlapping copies, non-minimal length encodings — whenever the
destination can hold the content (in particular `cap = out.length`), and returns the encoded bytes. -/
theorem C10_snappy_accepts_valid (bs out : List UInt8) (cap : Nat)
    (h : Spec.Snappy.Stream bs out) (hcap : out.length ≤ cap) :
    Impl.Snappy.decompress bs cap = .ok out := by
  rw [Proofs.Snappy.decompress_eq_spec, Proofs.Snappy.decode_of_stream h]
  exact if_pos hcap

-- non-vacuity: a stream using a 4-byte literal length, copy-1 (overlapping), copy-2 and copy-4
example : Spec.Snappy.decode [9, 0xfc, 0, 0, 0, 0, 7, 0x01, 0x01, 0x06, 0x02, 0x00, 0x07, 0x01, 0, 0, 0] =
    .ok [7, 7, 7, 7, 7, 7, 7, 7, 7] := by decide +kernel
example : Impl.Snappy.decompress [9, 0xfc, 0, 0, 0, 0, 7, 0x01, 0x01, 0x06, 0x02, 0x00, 0x07, 0x01, 0, 0, 0] 9 =
    .ok [7, 7, 7, 7, 7, 7, 7, 7, 7] := by decide +kernel

/-- The same, phrased with the independent encoder: whatever the steerable reference encoder
(`Spec.Snappy.encode`, any mix of literal-length forms and copy kinds) produces from a list of ops is
accepted by the decompressor, given a destination of exactly the content's length, and decodes to the
bytes the ops describe. -/
theorem C10_snappy_accepts_reference_encoder (ops : List Spec.Snappy.Op) (bs : List UInt8)
    (h : Spec.Snappy.encode ops = some bs) :
    ∃ out, Spec.Snappy.runOps ops [] = some out ∧ Impl.Snappy.decompress bs out.length = .ok out := by
  obtain ⟨out, h1, h2⟩ := Proofs.Snappy.encode_stream h
  exact ⟨out, h1, C10_snappy_accepts_valid bs out out.length h2 (Nat.le_refl _)⟩

example : (Spec.Snappy.encode [.literal [1, 2, 3] .inTag, .copy 3 5 .c1, .copy 2 1 .c2, .copy 8 11 .c4,
    .literal [9] (.ext 1), .literal [9, 9] (.ext 4)]).isSome = true := by decide +kernel

/-- Whatever the decompressor accepts is a valid stream for exactly the bytes it returns (so nothing
outside the format is accepted, for any capacity). -/
theorem C10_snappy_accepts_only_valid (bs out : List UInt8) (cap : Nat)
    (h : Impl.Snappy.decompress bs cap = .ok out) :
    Spec.Snappy.Stream bs out ∧ Spec.Snappy.decode bs = .ok out := by
  have hd := (Proofs.Snappy.decode_of_decompress h).1
  exact ⟨Proofs.Snappy.stream_of_decode hd, hd⟩

/-- Streams the format defines as invalid (offset 0, offset before the start, an element running
past the input, elements after the declared length is reached, declared length not produced, a
preamble that is truncated, longer than five bytes or ≥ 2^32) are rejected with
INVALID_COMPRESSED_DATA, whatever capacity the caller passes. -/
theorem C10_snappy_rejects_invalid (bs : List UInt8) (cap : Nat) (e : Spec.Snappy.Err)
    (h : Spec.Snappy.decode bs = .error e) :
    Impl.Snappy.decompress bs cap = .error .invalidData := by
  rw [Proofs.Snappy.decompress_eq_spec, h]

example : Spec.Snappy.decode [0x00, 0x00, 0x41] = .error .lengthMismatch := by decide +kernel
example : Spec.Snappy.decode [0x05, 0x00, 0x41, 0x01, 0x02] = .error .badOffset := by decide +kernel

/-- F25 on the pinned code (before fixes/F25-snappy-trailing-input.patch): bytes after the point where
the declared length has been produced are accepted — `00 aa` decodes to the empty string and
`01 00 41 00 42` (two literals, declared length 1) and `01 00 41 ff` to "A" — although the format (and the Spec decoder) rejects them. -/
theorem C10_regression_F25 :
    Impl.Snappy.decompressPreFix [0x00, 0xaa] 0 = .ok [] ∧
    Spec.Snappy.decode [0x00, 0xaa] = .error .truncated ∧
    Impl.Snappy.decompressPreFix [0x01, 0x00, 0x41, 0x00, 0x42] 1 = .ok [0x41] ∧
    Spec.Snappy.decode [0x01, 0x00, 0x41, 0x00, 0x42] = .error .lengthMismatch ∧
    Impl.Snappy.decompressPreFix [0x01, 0x00, 0x41, 0xff] 1 = .ok [0x41] ∧
    Spec.Snappy.decode [0x01, 0x00, 0x41, 0xff] = .error .truncated ∧
    Impl.Snappy.decompress [0x00, 0xaa] 0 = .error .invalidData ∧
    Impl.Snappy.decompress [0x01, 0x00, 0x41, 0xff] 1 = .error .invalidData := by
  decide +kernel

/-- F25b on the pinned code (before fixes/F25b-snappy-varint-overflow.patch): the fifth preamble byte
is shifted into a `uint32_t`, so a declared length of 2^32 is read as 0 and accepted as an empty block. -/
theorem C10_regression_F25b :
    Impl.Snappy.decompressPreFix [0x80, 0x80, 0x80, 0x80, 0x10] 0 = .ok [] ∧
    Spec.Snappy.decode [0x80, 0x80, 0x80, 0x80, 0x10] = .error .badPreamble ∧
    Impl.Snappy.decompress [0x80, 0x80, 0x80, 0x80, 0x10] 0 = .error .invalidData := by
  decide +kernel

end Carquet.Properties.C10
