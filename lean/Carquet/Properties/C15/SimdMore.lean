import Carquet.Spec.Kernels
import Carquet.Impl.Simd
import Carquet.Impl.SimdMore
import Carquet.Impl.SimdBitunpack
import Carquet.Impl.SimdRegistry
import Carquet.Impl.Dispatch
import Carquet.Gen.Dispatch
import Carquet.Proofs.SimdCrc
import Carquet.Proofs.SimdGather
import Carquet.Proofs.SimdScalar
import Carquet.Proofs.SimdMatch
import Carquet.Proofs.SimdMem
import Carquet.Proofs.SimdBitunpack
import Carquet.Proofs.SimdRegistry
import Carquet.Properties.C15.Simd
/-
C15, second part — the kernels that were compared only: dictionary gathers (with the address
arithmetic of `vpgatherdd/dq`), the scalar fallbacks of dispatch.c, BYTE_STREAM_SPLIT for doubles,
the LZ77 match helpers, memset / memcpy, the ten bit unpackers; the table step of `scalar_crc32c`;
and the dispatcher theorem over the extracted table: whatever the CPU flags, every slot holds a
kernel whose model is proved equal to the slot's scalar definition.
Property statements only; helper lemmas live in `Carquet/Proofs/Simd*.lean`.
-/
namespace Carquet.Properties.C15
open Carquet Carquet.Impl.Simd
open Carquet.Proofs

/-! ## 1. Dictionary gathers

`mem : Int → Option α` is the memory seen from the `dict` pointer (signed element offsets, `none`
outside the dictionary object); `memOf d` is a dictionary of `d.length` elements.  The scalar loop
and the SSE kernels index with the zero-extended `uint32_t`; the AVX2 / AVX-512 kernels use
`vpgatherdd/dq`, which sign-extend it. -/

/-- the scalar fallback over a dictionary is the Spec's gather (`none` iff an index is outside) -/
theorem C15_scalar_gather_eq_spec {α : Type} (d : List α) (idx : List (BitVec 32)) :
    scalarGather (memOf d) idx = Spec.Kernels.gather d (idx.map (·.toNat)) := SimdGather.scalarGather_spec d idx

/-- SSE (scalar loads packed by `_mm_set_epi32`; 8, then 4, then 1 at a time): any memory, any indices -/
theorem C15_sse_gather32_eq_scalar {α : Type} (mem : DictMem α) (idx : List (BitVec 32)) :
    sseGather32 mem idx = scalarGather mem idx := SimdGather.sseGather32_eq mem idx
theorem C15_sse_gather64_eq_scalar {α : Type} (mem : DictMem α) (idx : List (BitVec 32)) :
    sseGather64 mem idx = scalarGather mem idx := SimdGather.sseGather64_eq mem idx

/-- block lemma of the hardware gathers: a vector of indices whose sign-extended and zero-extended
addresses hold the same thing is gathered like the scalar loop does -/
theorem C15_hw_gather_block {α : Type} (mem : DictMem α) (b : List (BitVec 32))
    (h : ∀ i ∈ b, mem i.toInt = mem (Int.ofNat i.toNat)) : i32gather mem b = gatherTail mem b :=
  SimdGather.i32gather_blk mem b h

/-- an index below 2^31 is the same address either way (any memory) -/
theorem C15_gather_index_below_2p31 {α : Type} (mem : DictMem α) (i : BitVec 32) (h : i.toNat < 2 ^ 31) :
    mem i.toInt = mem (Int.ofNat i.toNat) := SimdGather.laneAgrees_of_lt mem i h

/-- a dictionary of at most 2^31 elements: every index agrees (one with the top bit set is outside
the dictionary zero-extended, and before it sign-extended) -/
theorem C15_gather_small_dictionary {α : Type} (d : List α) (hd : d.length ≤ 2 ^ 31) (i : BitVec 32) :
    memOf d i.toInt = memOf d (Int.ofNat i.toNat) := SimdGather.laneAgrees_memOf d hd i

/-- AVX2 / AVX-512 gathers = scalar loop, for every count, on indices whose lanes agree -/
theorem C15_avx2_gather32_eq_scalar {α : Type} (mem : DictMem α) (idx : List (BitVec 32))
    (h : ∀ i ∈ idx, mem i.toInt = mem (Int.ofNat i.toNat)) : avx2Gather32 mem idx = scalarGather mem idx :=
  SimdGather.avx2Gather32_eq mem idx h
theorem C15_avx2_gather64_eq_scalar {α : Type} (mem : DictMem α) (idx : List (BitVec 32))
    (h : ∀ i ∈ idx, mem i.toInt = mem (Int.ofNat i.toNat)) : avx2Gather64 mem idx = scalarGather mem idx :=
  SimdGather.avx2Gather64_eq mem idx h
theorem C15_avx512_gather32_eq_scalar {α : Type} (mem : DictMem α) (idx : List (BitVec 32))
    (h : ∀ i ∈ idx, mem i.toInt = mem (Int.ofNat i.toNat)) : avx512Gather32 mem idx = scalarGather mem idx :=
  SimdGather.avx512Gather32_eq mem idx h
theorem C15_avx512_gather64_eq_scalar {α : Type} (mem : DictMem α) (idx : List (BitVec 32))
    (h : ∀ i ∈ idx, mem i.toInt = mem (Int.ofNat i.toNat)) : avx512Gather64 mem idx = scalarGather mem idx :=
  SimdGather.avx512Gather64_eq mem idx h

/-
Full statement (FALSE of the code, see `C15_hw_gather_sign_extension`):
  ∀ d idx, avx2Gather32 (memOf d) idx = Spec.Kernels.gather d (idx.map (·.toNat))
Proved under `d.length ≤ 2^31`, which the only caller guarantees (`dictionary_count` is an
`int32_t` checked `>= 0`, and every index is checked `< dictionary_count` before the gather).
-/
theorem C15_avx2_gather32_eq_spec_partial {α : Type} (d : List α) (hd : d.length ≤ 2 ^ 31) (idx : List (BitVec 32)) :
    avx2Gather32 (memOf d) idx = Spec.Kernels.gather d (idx.map (·.toNat)) := SimdGather.avx2_32_spec d hd idx
theorem C15_avx2_gather64_eq_spec_partial {α : Type} (d : List α) (hd : d.length ≤ 2 ^ 31) (idx : List (BitVec 32)) :
    avx2Gather64 (memOf d) idx = Spec.Kernels.gather d (idx.map (·.toNat)) := SimdGather.avx2_64_spec d hd idx
theorem C15_avx512_gather32_eq_spec_partial {α : Type} (d : List α) (hd : d.length ≤ 2 ^ 31) (idx : List (BitVec 32)) :
    avx512Gather32 (memOf d) idx = Spec.Kernels.gather d (idx.map (·.toNat)) := SimdGather.avx512_32_spec d hd idx
theorem C15_avx512_gather64_eq_spec_partial {α : Type} (d : List α) (hd : d.length ≤ 2 ^ 31) (idx : List (BitVec 32)) :
    avx512Gather64 (memOf d) idx = Spec.Kernels.gather d (idx.map (·.toNat)) := SimdGather.avx512_64_spec d hd idx
theorem C15_sse_gather32_eq_spec {α : Type} (d : List α) (idx : List (BitVec 32)) :
    sseGather32 (memOf d) idx = Spec.Kernels.gather d (idx.map (·.toNat)) := SimdGather.sse32_spec d idx
theorem C15_sse_gather64_eq_spec {α : Type} (d : List α) (idx : List (BitVec 32)) :
    sseGather64 (memOf d) idx = Spec.Kernels.gather d (idx.map (·.toNat)) := SimdGather.sse64_spec d idx

/-- FS4 (why the hypothesis is needed): one full vector block of `W` indices, all inside the
dictionary, one of them `≥ 2^31` (so the dictionary has more than 2^31 elements): the scalar
definition is defined, a hardware-gather kernel of block width `W` reads *before* the dictionary
(`W = 8`: `carquet_avx2_gather_i32/float`, `carquet_avx512_gather_i64/double`; `W = 4`:
`carquet_avx2_gather_i64/double`; `W = 16`: `carquet_avx512_gather_i32/float`) -/
theorem C15_hw_gather_sign_extension {α : Type} (W : Nat) (hW : 0 < W) (d : List α)
    (tail : List (BitVec 32) → List (Option α)) (idx : List (BitVec 32)) (hl : idx.length = W)
    (hin : ∀ i ∈ idx, i.toNat < d.length) (i : BitVec 32) (hi : i ∈ idx) (hbig : 2 ^ 31 ≤ i.toNat) :
    allLoaded (blockedMap W (i32gather (memOf d)) tail idx) = none ∧
    (Spec.Kernels.gather d (idx.map (·.toNat))).isSome = true :=
  SimdGather.hwGather_diverges W hW d tail idx hl hin i hi hbig

/-- the concrete instance: a dictionary of 2^31 + 1 entries, eight times the index 2^31 -/
theorem C15_regression_FS4 :
    avx2Gather32 (memOf (List.replicate (2 ^ 31 + 1) 7#32)) (List.replicate 8 0x80000000#32) = none ∧
    (Spec.Kernels.gather (List.replicate (2 ^ 31 + 1) 7#32) ((List.replicate 8 0x80000000#32).map (·.toNat))).isSome
      = true := by
  have h := C15_hw_gather_sign_extension 8 (by decide) (List.replicate (2 ^ 31 + 1) 7#32)
    (gatherTail (memOf (List.replicate (2 ^ 31 + 1) 7#32))) (List.replicate 8 0x80000000#32) (by simp)
    (by intro i hi; rw [List.eq_of_mem_replicate hi, List.length_replicate]; decide)
    0x80000000#32 (by simp) (by decide)
  exact h

-- non-vacuity: a 3-entry dictionary, 9 indices (1 AVX2 block + remainder 1; 2 SSE blocks of 4 + 1)
example : avx2Gather32 (memOf [10#32, 20#32, 30#32]) [0#32, 1#32, 2#32, 2#32, 1#32, 0#32, 0#32, 2#32, 1#32] =
    some [10#32, 20#32, 30#32, 30#32, 20#32, 10#32, 10#32, 30#32, 20#32] := by decide
example : sseGather32 (memOf [10#32, 20#32, 30#32]) [0#32, 1#32, 2#32, 2#32, 1#32, 0#32, 0#32, 2#32, 1#32] =
    Spec.Kernels.gather [10#32, 20#32, 30#32] [0, 1, 2, 2, 1, 0, 0, 2, 1] := C15_sse_gather32_eq_spec _ _
-- an index outside the dictionary is `none` for all of them
example : avx512Gather64 (memOf [10#64, 20#64]) [0#32, 1#32, 2#32] = none ∧
    Spec.Kernels.gather [10#64, 20#64] [0, 1, 2] = none := by decide
-- the two address computations on an index with the top bit set
example : (0x80000000#32).toInt = -2147483648 ∧ (0x80000000#32).toNat = 2147483648 := by decide

/-! ## 2. `scalar_crc32c`: the table step is the bit-serial (LFSR) step -/

/-- one iteration `crc = table[(crc ^ b) & 0xFF] ^ (crc >> 8)` with the extracted table equals
eight shifts of the Castagnoli LFSR applied to `crc ^ b` -/
theorem C15_scalar_crc32c_step (c : BitVec 32) (b : UInt8) :
    SimdCrc.tableStep Gen.Dispatch.crc32cTable c b = Spec.Kernels.crcByte c b :=
  SimdCrc.tableStep_eq_crcByte _ SimdCrc.crcTable_ok c b

theorem C15_scalar_crc32c_eq_spec (crc : BitVec 32) (data : List UInt8) :
    scalarCrc32c Gen.Dispatch.crc32cTable crc data = Spec.Kernels.crc32c crc data :=
  SimdCrc.scalarCrc32c_eq _ SimdCrc.crcTable_ok crc data

/-- the identity behind it (GF(2)-linearity of the LFSR step) -/
theorem C15_crc32c_step8_split (c : BitVec 32) :
    Spec.Kernels.crcStep8 c = Spec.Kernels.crcStep8 (c &&& 0xFF#32) ^^^ (c >>> 8) := SimdCrc.step8_split c

example : scalarCrc32c Gen.Dispatch.crc32cTable 0 [0x31, 0x32, 0x33, 0x34, 0x35, 0x36, 0x37, 0x38, 0x39] =
    0xE3069283#32 := by decide +kernel

/-! ## 3. The scalar fallbacks of dispatch.c (as loops) equal the Spec definitions -/

theorem C15_scalar_prefix_sum_eq_spec {w : Nat} (init : BitVec w) (vals : List (BitVec w)) :
    scalarPrefixSum init vals = Spec.Kernels.prefixSum init vals := SimdScalar.scalar_prefix init vals
theorem C15_scalar_bss_encode_float_eq_spec (vals : List (BitVec 32)) :
    scalarBssEncodeFloat vals = Spec.Kernels.bssEncode (k := 4) vals := SimdScalar.scalar_bss_enc_float vals
theorem C15_scalar_bss_encode_double_eq_spec (vals : List (BitVec 64)) :
    scalarBssEncodeDouble vals = Spec.Kernels.bssEncode (k := 8) vals := SimdScalar.scalar_bss_enc_double vals
/-- the plain decode loop (`scalar_byte_split_decode_float/_double`, and the SSE / AVX2 double
decoders, which are the same loop), any value width `k` -/
theorem C15_scalar_bss_decode_eq_spec (k n : Nat) (data : List UInt8) (h : data.length = k * n) :
    scalarBssDecode k n data = Spec.Kernels.bssDecode k n data := SimdScalar.scalar_bss_dec k n data h
theorem C15_scalar_unpack_bools_eq_spec (bytes : List UInt8) (count : Nat) :
    scalarUnpackBools bytes count = Spec.Kernels.unpackBools bytes count := SimdScalar.scalar_unpack bytes count
theorem C15_scalar_pack_bools_eq_spec (xs : List UInt8) :
    scalarPackBools xs = Spec.Kernels.packBools xs := rfl
theorem C15_scalar_find_run_length_eq_spec (vals : List (BitVec 32)) :
    scalarFindRunLength vals = Spec.Kernels.findRunLength vals := SimdScalar.scalar_find_run vals
theorem C15_scalar_count_non_nulls_eq_spec (levels : List (BitVec 16)) (mx : BitVec 16) :
    scalarCountNonNulls levels mx = Spec.Kernels.countNonNulls levels mx := SimdScalar.scalar_count levels mx
theorem C15_scalar_fill_def_levels_eq_spec (old : List (BitVec 16)) (v : BitVec 16) :
    scalarFillDefLevels old v = Spec.Kernels.fillDefLevels old.length v := SimdScalar.scalar_fill old v
/-- 8-byte `memcpy` blocks (offset ≥ 8) or byte by byte: the overlapping copy -/
theorem C15_scalar_match_copy_eq_spec (window : List UInt8) (h : 0 < window.length) (len : Nat) :
    scalarMatchCopy window len = Spec.Kernels.matchCopy window len := SimdMatch.scalar_match_copy window h len
theorem C15_scalar_match_length_eq_spec (buf : List UInt8) (off : Nat) :
    scalarMatchLength buf off = Spec.Kernels.matchLength buf off := SimdMatch.scalar_match_length buf off

example : scalarUnpackBools [0xA5, 0x01] 9 = some [1, 0, 1, 0, 0, 1, 0, 1, 1] := by decide
example : scalarUnpackBools [0xA5] 9 = none := by decide
example : scalarMatchCopy [1, 2, 3, 4, 5, 6, 7, 8, 9] 11 = [1, 2, 3, 4, 5, 6, 7, 8, 9, 1, 2] := by decide
example : scalarBssDecode 8 1 [1, 2, 3, 4, 5, 6, 7, 8] = some [0x0807060504030201#64] := by decide

/-! ## 4. BYTE_STREAM_SPLIT for doubles -/

theorem C15_sse_bss_encode_double_block : ∀ b : List (BitVec 64), b.length = 2 →
    sseBssEncDoubleBlk b = bssEncRows 8 b := SimdScalar.sse_enc_double_block
theorem C15_sse_bss_encode_double_eq_scalar (vals : List (BitVec 64)) :
    sseBssEncodeDouble vals = Spec.Kernels.bssEncode (k := 8) vals := SimdScalar.sse_bss_enc_double vals
theorem C15_avx2_bss_encode_double_block : ∀ b : List (BitVec 64), b.length = 4 →
    avx2BssEncDoubleBlk b = bssEncRows 8 b := SimdScalar.avx2_enc_double_block
theorem C15_avx2_bss_encode_double_eq_scalar (vals : List (BitVec 64)) :
    avx2BssEncodeDouble vals = Spec.Kernels.bssEncode (k := 8) vals := SimdScalar.avx2_bss_enc_double vals
theorem C15_sse_bss_decode_double_eq_scalar (n : Nat) (data : List UInt8) (h : data.length = 8 * n) :
    sseBssDecodeDouble n data = Spec.Kernels.bssDecode 8 n data := SimdScalar.scalar_bss_dec 8 n data h
theorem C15_avx2_bss_decode_double_eq_scalar (n : Nat) (data : List UInt8) (h : data.length = 8 * n) :
    avx2BssDecodeDouble n data = Spec.Kernels.bssDecode 8 n data := SimdScalar.scalar_bss_dec 8 n data h

example : sseBssEncodeDouble [0x0807060504030201#64, 0x1817161514131211#64, 0x2827262524232221#64] =
    [0x01, 0x11, 0x21, 0x02, 0x12, 0x22, 0x03, 0x13, 0x23, 0x04, 0x14, 0x24, 0x05, 0x15, 0x25,
     0x06, 0x16, 0x26, 0x07, 0x17, 0x27, 0x08, 0x18, 0x28] := by decide

/-! ## 5. LZ77 match helpers -/

/-- block lemma of the copies: a `W`-byte load/store with `W ≤ offset` is `W` single-byte copies -/
theorem C15_match_copy_block (W offset : Nat) (ho : 0 < offset) (hW : W ≤ offset) (hist : List UInt8)
    (hle : offset ≤ hist.length) : copyBlock W offset hist = copyBytes offset W hist :=
  SimdMatch.copyBlock_eq W offset ho hW hist hle

/-- all five cases of `carquet_sse_match_copy` (offset ≥ 16: 16-byte copies + one 8-byte copy;
offset 1, 2, 4: pattern fills; else bytes), every offset ≥ 1 and every length -/
theorem C15_sse_match_copy_eq_scalar (window : List UInt8) (h : 0 < window.length) (len : Nat) :
    sseMatchCopy window len = Spec.Kernels.matchCopy window len := SimdMatch.sse_match_copy window h len

theorem C15_sse_match_length_block : ∀ b : List (UInt8 × UInt8), b.length = 16 →
    sseMatchBlk b = if firstIdx (fun pm => pm.1 != pm.2) b < 16 then some (firstIdx (fun pm => pm.1 != pm.2) b)
                    else none := SimdMatch.sse_match_block
theorem C15_sse_match_length_eq_scalar (buf : List UInt8) (off : Nat) :
    sseMatchLength buf off = Spec.Kernels.matchLength buf off := SimdMatch.sse_match_length buf off

example : sseMatchCopy [0xAB, 0xCD, 0xEF, 0x01] 22 =
    [0xAB, 0xCD, 0xEF, 0x01, 0xAB, 0xCD, 0xEF, 0x01, 0xAB, 0xCD, 0xEF, 0x01, 0xAB, 0xCD, 0xEF, 0x01,
     0xAB, 0xCD, 0xEF, 0x01, 0xAB, 0xCD] := by decide +kernel
example : sseMatchLength [1, 2, 3, 4, 5, 6, 7, 8, 9, 1, 2, 3, 4, 5, 6, 7, 8, 9, 1, 2, 3, 4, 5, 6, 7, 8, 9, 1, 0] 9 = 19 := by
  decide

/-! ## 6. memset / memcpy helpers (not in the table) -/

theorem C15_sse_memset_eq_scalar (old : List UInt8) (v : UInt8) :
    sseMemset old v = Spec.Kernels.memset old.length v := SimdMem.sse_memset old v
theorem C15_avx2_memset_eq_scalar (old : List UInt8) (v : UInt8) :
    avx2Memset old v = Spec.Kernels.memset old.length v := SimdMem.avx2_memset old v
theorem C15_avx512_memset_eq_scalar (old : List UInt8) (v : UInt8) :
    avx512Memset old v = Spec.Kernels.memset old.length v := SimdMem.avx512_memset old v
theorem C15_sse_memcpy_eq_scalar (src : List UInt8) : sseMemcpy src = Spec.Kernels.memcpy src := SimdMem.sse_memcpy src
theorem C15_avx2_memcpy_eq_scalar (src : List UInt8) : avx2Memcpy src = Spec.Kernels.memcpy src := SimdMem.avx2_memcpy src
theorem C15_avx512_memcpy_eq_scalar (src : List UInt8) : avx512Memcpy src = Spec.Kernels.memcpy src :=
  SimdMem.avx512_memcpy src

example : sseMemset (List.replicate 83 0) 7 = List.replicate 83 7 := C15_sse_memset_eq_scalar _ 7

/-! ## 7. The ten fixed-width bit unpackers (not in the table) -/

theorem C15_sse_bitunpack32_1bit_eq_scalar (input : List UInt8) (h : input.length = 4) :
    some ((sseBitunpack32x1 input).map (·.toNat)) = Spec.Kernels.bitUnpack 1 32 input := SimdBitunpack.sse_32x1 input h
theorem C15_sse_bitunpack8_4bit_eq_scalar (input : List UInt8) (h : input.length = 4) :
    some ((sseBitunpack8x4 input).map (·.toNat)) = Spec.Kernels.bitUnpack 4 8 input := SimdBitunpack.sse_8x4 input h
theorem C15_sse_bitunpack8_8bit_eq_scalar (input : List UInt8) (h : input.length = 8) :
    some ((sseBitunpack8x8 input).map (·.toNat)) = Spec.Kernels.bitUnpack 8 8 input := SimdBitunpack.sse_8x8 input h
theorem C15_avx2_bitunpack64_1bit_eq_scalar (input : List UInt8) (h : input.length = 8) :
    some ((avx2Bitunpack64x1 input).map (·.toNat)) = Spec.Kernels.bitUnpack 1 64 input := SimdBitunpack.avx2_64x1 input h
theorem C15_avx2_bitunpack16_4bit_eq_scalar (input : List UInt8) (h : input.length = 8) :
    some ((avx2Bitunpack16x4 input).map (·.toNat)) = Spec.Kernels.bitUnpack 4 16 input := SimdBitunpack.avx2_16x4 input h
theorem C15_avx2_bitunpack16_8bit_eq_scalar (input : List UInt8) (h : input.length = 16) :
    some ((avx2Bitunpack16x8 input).map (·.toNat)) = Spec.Kernels.bitUnpack 8 16 input := SimdBitunpack.avx2_16x8 input h
theorem C15_avx2_bitunpack8_16bit_eq_scalar (input : List UInt8) (h : input.length = 16) :
    some ((avx2Bitunpack8x16 input).map (·.toNat)) = Spec.Kernels.bitUnpack 16 8 input := SimdBitunpack.avx2_8x16 input h
theorem C15_avx512_bitunpack32_8bit_eq_scalar (input : List UInt8) (h : input.length = 32) :
    some ((avx512Bitunpack32x8 input).map (·.toNat)) = Spec.Kernels.bitUnpack 8 32 input :=
  SimdBitunpack.avx512_32x8 input h
theorem C15_avx512_bitunpack16_16bit_eq_scalar (input : List UInt8) (h : input.length = 32) :
    some ((avx512Bitunpack16x16 input).map (·.toNat)) = Spec.Kernels.bitUnpack 16 16 input :=
  SimdBitunpack.avx512_16x16 input h
theorem C15_avx512_bitunpack32_4bit_eq_scalar (input : List UInt8) (h : input.length = 16) :
    some ((avx512Bitunpack32x4 input).map (·.toNat)) = Spec.Kernels.bitUnpack 4 32 input :=
  SimdBitunpack.avx512_32x4 input h

example : (sseBitunpack8x4 [0x21, 0x43, 0x65, 0x87]).map (·.toNat) = [1, 2, 3, 4, 5, 6, 7, 8] := by decide
example : (avx2Bitunpack8x16 [0x34, 0x12, 0, 0x80, 1, 0, 0xFF, 0xFF, 0, 0, 0, 0, 0, 0, 0, 0]).map (·.toNat) =
    [0x1234, 0x8000, 1, 0xFFFF, 0, 0, 0, 0] := by decide

/-! ## 8. The dispatcher over the extracted table -/

open Carquet.Impl.Dispatch in
/-- every registry entry (60 kernels: 19 scalar fallbacks, 19 SSE, 11 AVX2, 11 AVX-512) computes
its slot's scalar definition on every input satisfying the slot's contract -/
theorem C15_registry_certified : ∀ k ∈ registry, k.EqScalar := SimdRegistry.registry_certified

open Carquet.Impl.Dispatch in
/-- the hand-written `Slot` enumeration is, in order, the slot list extracted from
`carquet_simd_dispatch_t` (so `Slot.spec` assigns a scalar definition to every extracted slot) -/
theorem C15_slots_enumerated :
    [Slot.prefixSumI32, .prefixSumI64, .gatherI32, .gatherI64, .gatherFloat, .gatherDouble, .bssEncFloat,
     .bssDecFloat, .bssEncDouble, .bssDecDouble, .unpackBools, .packBools, .findRunLength, .crc32c, .matchCopy,
     .matchLength, .countNonNulls, .buildNullBitmap, .fillDefLevels].map Slot.name = Gen.Dispatch.slots :=
  SimdRegistry.slots_enumerated

open Carquet.Impl.Dispatch Carquet.Gen.Dispatch in
/-- For every capability mask (any `Nat` bit set over `Gen.Dispatch.features`) and every slot of the
table extracted from dispatch.c: the slot holds a kernel (`select`), the kernel's C name in the
extracted table is the name of a registry entry filed under the extracted slot name, and that
entry's model equals the slot's scalar definition (`Slot.spec`, from `Spec.Kernels`) on every input
satisfying the slot's contract (`Slot.dom`).  The coverage of the table by the registry
(`tableCovered`) is decided by evaluation on the regenerated table: a kernel added to dispatch.c
without a model and a proof makes this theorem fail to build. -/
theorem C15_dispatch_kernels_eq_scalar :
    ∀ mask slot : Nat, slot < slots.length →
      ∃ k kn sn, select mask slot = some k ∧ kernels[k]? = some kn ∧ slots[slot]? = some sn ∧
        ∃ m ∈ registry, m.name = kn ∧ m.slot.name = sn ∧
          ∀ x, m.slot.dom x → m.run x = m.slot.spec x := by
  intro mask slot hs
  have hcov : tableCovered = true := SimdRegistry.tableCovered_true
  obtain ⟨k, kreq, hsel, _, _⟩ := C15_dispatch_sound mask slot hs
  have hmem := SimdRegistry.select_mem_pairs blocks scalarInit mask slot k hsel
  have hc : covered (slot, k) = true := List.all_eq_true.mp hcov (slot, k) hmem
  obtain ⟨sn, kn, h1, h2, m, hm, hn, hsn⟩ := SimdRegistry.covered_entry (slot, k) hc
  exact ⟨k, kn, sn, hsel, h2, h1, m, hm, hn, hsn, SimdRegistry.registry_certified m hm⟩

-- non-vacuity: under the full capability set slot 2 (gather_i32) holds the AVX-512 gather, under
-- {sse2, sse4.1, sse4.2} the SSE one, under no flags the scalar fallback; all three are registry entries
example : (Impl.Dispatch.select 511 2).bind (Gen.Dispatch.kernels[·]?) = some "carquet_avx512_gather_i32" ∧
    (Impl.Dispatch.select 7 2).bind (Gen.Dispatch.kernels[·]?) = some "carquet_sse_gather_i32" ∧
    (Impl.Dispatch.select 0 2).bind (Gen.Dispatch.kernels[·]?) = some "scalar_gather_i32" := ⟨rfl, rfl, rfl⟩
example : Impl.Dispatch.registry.length = 60 ∧ Impl.Dispatch.tablePairs.length = 60 := by decide

end Carquet.Properties.C15
