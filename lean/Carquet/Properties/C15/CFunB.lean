import Carquet.Proofs.CFunB.Simd
import Carquet.Proofs.CFunB.Simd2
import Carquet.Proofs.CFunB.Bools
import Carquet.Proofs.CFunB.NullBitmap
import Carquet.Proofs.CFunB.Bss
import Carquet.Proofs.CFunB.Match
/-
C15 — link theorems (component `cfun`, batch `cfunb`): the SCALAR REFERENCE KERNELS of src/simd/dispatch.c, as translated
from the CURRENT C source by translate/gen_cfun.py on every check run (`Gen.CFun.scalar_*`), are the definitions the C15
theorems take as what every SIMD kernel must equal (`Impl.Simd.scalar*`, lean/Carquet/Impl/Simd*.lean).  Until now that
reference side was tied to the source by correspondence runs only.

Every function has a value theorem `C15_cfun_<function>` and a `C15_cfun_<function>_defined` theorem (no read or write
outside the arrays, no signed overflow, no undefined shift, enough loop fuel), under the function's contract stated as
explicit hypotheses: every array has exactly the length the contract says (`count` elements, `(count + 7) / 8` bitmap bytes,
`k * count` bytes), counts are below 2^63 (they are `int64_t`).  Each is followed by a non-vacuity example; several examples
also show an input just outside the contract on which `_defined` is false.
-/
namespace Carquet.Properties.C15
open Carquet Carquet.Impl Carquet.Impl.Simd Carquet.Proofs.CFunB

/-! ### prefix sums -/

/-- `scalar_prefix_sum_i32(values, count, initial)`: in place, wrapping -/
theorem C15_cfun_scalar_prefix_sum_i32 (vals : List (BitVec 32)) (init : BitVec 32) (h : vals.length < 2 ^ 63) :
    Gen.CFun.scalar_prefix_sum_i32 vals (BitVec.ofNat 64 vals.length) init = scalarPrefixSum init vals :=
  (scalar_prefix_sum_i32_eq vals init h).1
theorem C15_cfun_scalar_prefix_sum_i32_defined (vals : List (BitVec 32)) (init : BitVec 32) (h : vals.length < 2 ^ 63) :
    Gen.CFun.scalar_prefix_sum_i32_defined vals (BitVec.ofNat 64 vals.length) init = true :=
  (scalar_prefix_sum_i32_eq vals init h).2

example : Gen.CFun.scalar_prefix_sum_i32 [1#32, 2#32, 0xFFFFFFFF#32] 3#64 5#32 = [6#32, 8#32, 7#32] ∧
    Gen.CFun.scalar_prefix_sum_i32_defined [1#32, 2#32, 0xFFFFFFFF#32] 3#64 5#32 = true ∧
    -- a count one larger than the array: the read of values[3] is outside
    Gen.CFun.scalar_prefix_sum_i32_defined [1#32, 2#32, 0xFFFFFFFF#32] 4#64 5#32 = false := by decide +kernel

theorem C15_cfun_scalar_prefix_sum_i64 (vals : List (BitVec 64)) (init : BitVec 64) (h : vals.length < 2 ^ 63) :
    Gen.CFun.scalar_prefix_sum_i64 vals (BitVec.ofNat 64 vals.length) init = scalarPrefixSum init vals :=
  (scalar_prefix_sum_i64_eq vals init h).1
theorem C15_cfun_scalar_prefix_sum_i64_defined (vals : List (BitVec 64)) (init : BitVec 64) (h : vals.length < 2 ^ 63) :
    Gen.CFun.scalar_prefix_sum_i64_defined vals (BitVec.ofNat 64 vals.length) init = true :=
  (scalar_prefix_sum_i64_eq vals init h).2

example : Gen.CFun.scalar_prefix_sum_i64 [1#64, 0xFFFFFFFFFFFFFFFF#64] 2#64 5#64 = [6#64, 5#64] ∧
    Gen.CFun.scalar_prefix_sum_i64_defined [1#64, 0xFFFFFFFFFFFFFFFF#64] 2#64 5#64 = true := by decide +kernel

/-! ### dictionary gathers (`float` / `double` elements are moved as 32 / 64-bit words) -/

/-- `scalar_gather_i32(dict, indices, count, output)`: the model's result when every index is inside the dictionary -/
theorem C15_cfun_scalar_gather_i32 (dict : List (BitVec 32)) (idx : List (BitVec 32)) (out : List (BitVec 32))
    (ho : out.length = idx.length) (h : idx.length < 2 ^ 63) (r : List (BitVec 32))
    (hr : scalarGather (memOf dict) idx = some r) :
    Gen.CFun.scalar_gather_i32 dict idx (BitVec.ofNat 64 idx.length) out = r :=
  (scalar_gather_i32_eq dict idx out ho h).1 r hr
/-- no undefined behaviour exactly when the model accepts: an index outside the dictionary is a read outside `dict` -/
theorem C15_cfun_scalar_gather_i32_defined (dict : List (BitVec 32)) (idx : List (BitVec 32)) (out : List (BitVec 32))
    (ho : out.length = idx.length) (h : idx.length < 2 ^ 63) :
    Gen.CFun.scalar_gather_i32_defined dict idx (BitVec.ofNat 64 idx.length) out = (scalarGather (memOf dict) idx).isSome :=
  (scalar_gather_i32_eq dict idx out ho h).2

example : Gen.CFun.scalar_gather_i32 [10#32, 20#32, 30#32] [2#32, 0#32] 2#64 [0#32, 0#32] = [30#32, 10#32] ∧
    scalarGather (memOf [10#32, 20#32, 30#32]) [2#32, 0#32] = some [30#32, 10#32] ∧
    Gen.CFun.scalar_gather_i32_defined [10#32, 20#32, 30#32] [2#32, 3#32] 2#64 [0#32, 0#32] = false := by decide +kernel

theorem C15_cfun_scalar_gather_i64 (dict : List (BitVec 64)) (idx : List (BitVec 32)) (out : List (BitVec 64))
    (ho : out.length = idx.length) (h : idx.length < 2 ^ 63) (r : List (BitVec 64))
    (hr : scalarGather (memOf dict) idx = some r) :
    Gen.CFun.scalar_gather_i64 dict idx (BitVec.ofNat 64 idx.length) out = r :=
  (scalar_gather_i64_eq dict idx out ho h).1 r hr
theorem C15_cfun_scalar_gather_i64_defined (dict : List (BitVec 64)) (idx : List (BitVec 32)) (out : List (BitVec 64))
    (ho : out.length = idx.length) (h : idx.length < 2 ^ 63) :
    Gen.CFun.scalar_gather_i64_defined dict idx (BitVec.ofNat 64 idx.length) out = (scalarGather (memOf dict) idx).isSome :=
  (scalar_gather_i64_eq dict idx out ho h).2

example : Gen.CFun.scalar_gather_i64 [10#64, 20#64] [1#32, 1#32, 0#32] 3#64 [0#64, 0#64, 0#64] = [20#64, 20#64, 10#64] ∧
    Gen.CFun.scalar_gather_i64_defined [10#64, 20#64] [1#32, 1#32, 0#32] 3#64 [0#64, 0#64, 0#64] = true := by decide +kernel

theorem C15_cfun_scalar_gather_float (dict : List (BitVec 32)) (idx : List (BitVec 32)) (out : List (BitVec 32))
    (ho : out.length = idx.length) (h : idx.length < 2 ^ 63) (r : List (BitVec 32))
    (hr : scalarGather (memOf dict) idx = some r) :
    Gen.CFun.scalar_gather_float dict idx (BitVec.ofNat 64 idx.length) out = r :=
  (scalar_gather_float_eq dict idx out ho h).1 r hr
theorem C15_cfun_scalar_gather_float_defined (dict : List (BitVec 32)) (idx : List (BitVec 32)) (out : List (BitVec 32))
    (ho : out.length = idx.length) (h : idx.length < 2 ^ 63) :
    Gen.CFun.scalar_gather_float_defined dict idx (BitVec.ofNat 64 idx.length) out = (scalarGather (memOf dict) idx).isSome :=
  (scalar_gather_float_eq dict idx out ho h).2

/-- a signalling NaN (0x7F800001) comes through bit for bit -/
example : Gen.CFun.scalar_gather_float [0x7F800001#32, 0x3F800000#32] [0#32, 1#32] 2#64 [0#32, 0#32] =
    [0x7F800001#32, 0x3F800000#32] := by decide +kernel

theorem C15_cfun_scalar_gather_double (dict : List (BitVec 64)) (idx : List (BitVec 32)) (out : List (BitVec 64))
    (ho : out.length = idx.length) (h : idx.length < 2 ^ 63) (r : List (BitVec 64))
    (hr : scalarGather (memOf dict) idx = some r) :
    Gen.CFun.scalar_gather_double dict idx (BitVec.ofNat 64 idx.length) out = r :=
  (scalar_gather_double_eq dict idx out ho h).1 r hr
theorem C15_cfun_scalar_gather_double_defined (dict : List (BitVec 64)) (idx : List (BitVec 32)) (out : List (BitVec 64))
    (ho : out.length = idx.length) (h : idx.length < 2 ^ 63) :
    Gen.CFun.scalar_gather_double_defined dict idx (BitVec.ofNat 64 idx.length) out = (scalarGather (memOf dict) idx).isSome :=
  (scalar_gather_double_eq dict idx out ho h).2

example : Gen.CFun.scalar_gather_double [7#64] [0#32] 1#64 [0#64] = [7#64] ∧
    Gen.CFun.scalar_gather_double_defined [7#64] [0#32] 1#64 [] = false := by decide +kernel

/-! ### BYTE_STREAM_SPLIT (the value arrays are seen as bytes, as the C code does through `(const uint8_t*)values`) -/

/-- `scalar_byte_split_encode_float(values, count, output)`; `values` = the little-endian bytes of the `count` floats -/
theorem C15_cfun_scalar_byte_split_encode_float (vals : List (BitVec 32)) (out : List UInt8)
    (ho : out.length = 4 * vals.length) (hn : 4 * vals.length + 8 < 2 ^ 63) :
    Gen.CFun.scalar_byte_split_encode_float (vals.flatMap bytesLE32) (BitVec.ofNat 64 vals.length) out =
      scalarBssEncodeFloat vals := (scalar_bss_encode_float_eq vals out ho hn).1
theorem C15_cfun_scalar_byte_split_encode_float_defined (vals : List (BitVec 32)) (out : List UInt8)
    (ho : out.length = 4 * vals.length) (hn : 4 * vals.length + 8 < 2 ^ 63) :
    Gen.CFun.scalar_byte_split_encode_float_defined (vals.flatMap bytesLE32) (BitVec.ofNat 64 vals.length) out = true :=
  (scalar_bss_encode_float_eq vals out ho hn).2

example : Gen.CFun.scalar_byte_split_encode_float [1, 2, 3, 4, 0x0A, 0x0B, 0x0C, 0x0D] 2#64 [0, 0, 0, 0, 0, 0, 0, 0] =
      [1, 0x0A, 2, 0x0B, 3, 0x0C, 4, 0x0D] ∧
    Gen.CFun.scalar_byte_split_encode_float_defined [1, 2, 3, 4, 0x0A, 0x0B, 0x0C, 0x0D] 2#64 [0, 0, 0, 0, 0, 0, 0] = false := by
  decide +kernel

theorem C15_cfun_scalar_byte_split_encode_double (vals : List (BitVec 64)) (out : List UInt8)
    (ho : out.length = 8 * vals.length) (hn : 8 * vals.length + 8 < 2 ^ 63) :
    Gen.CFun.scalar_byte_split_encode_double (vals.flatMap (bytesLE 8)) (BitVec.ofNat 64 vals.length) out =
      scalarBssEncodeDouble vals := (scalar_bss_encode_double_eq vals out ho hn).1
theorem C15_cfun_scalar_byte_split_encode_double_defined (vals : List (BitVec 64)) (out : List UInt8)
    (ho : out.length = 8 * vals.length) (hn : 8 * vals.length + 8 < 2 ^ 63) :
    Gen.CFun.scalar_byte_split_encode_double_defined (vals.flatMap (bytesLE 8)) (BitVec.ofNat 64 vals.length) out = true :=
  (scalar_bss_encode_double_eq vals out ho hn).2

example : Gen.CFun.scalar_byte_split_encode_double [1, 2, 3, 4, 5, 6, 7, 8] 1#64 [0, 0, 0, 0, 0, 0, 0, 0] =
    [1, 2, 3, 4, 5, 6, 7, 8] := by decide +kernel

/-- `scalar_byte_split_decode_float(data, count, values)`: the `count` little-endian values the output array holds afterwards
(`valuesOf`) are the model's -/
theorem C15_cfun_scalar_byte_split_decode_float (data out : List UInt8) (n : Nat) (hd : data.length = 4 * n)
    (ho : out.length = 4 * n) (hn : 4 * n + 8 < 2 ^ 63) :
    scalarBssDecodeFloat n data = some (valuesOf 4 n (Gen.CFun.scalar_byte_split_decode_float data (BitVec.ofNat 64 n) out)) :=
  (scalar_bss_decode_float_eq data out n hd ho hn).1
theorem C15_cfun_scalar_byte_split_decode_float_defined (data out : List UInt8) (n : Nat) (hd : data.length = 4 * n)
    (ho : out.length = 4 * n) (hn : 4 * n + 8 < 2 ^ 63) :
    Gen.CFun.scalar_byte_split_decode_float_defined data (BitVec.ofNat 64 n) out = true :=
  (scalar_bss_decode_float_eq data out n hd ho hn).2

example : Gen.CFun.scalar_byte_split_decode_float [1, 0x0A, 2, 0x0B, 3, 0x0C, 4, 0x0D] 2#64 [0, 0, 0, 0, 0, 0, 0, 0] =
      [1, 2, 3, 4, 0x0A, 0x0B, 0x0C, 0x0D] ∧
    valuesOf 4 2 [1, 2, 3, 4, 0x0A, 0x0B, 0x0C, 0x0D] = [0x04030201#32, 0x0D0C0B0A#32] ∧
    Gen.CFun.scalar_byte_split_decode_float_defined [1, 0x0A, 2, 0x0B, 3, 0x0C, 4] 2#64 [0, 0, 0, 0, 0, 0, 0, 0] = false := by
  decide +kernel

theorem C15_cfun_scalar_byte_split_decode_double (data out : List UInt8) (n : Nat) (hd : data.length = 8 * n)
    (ho : out.length = 8 * n) (hn : 8 * n + 8 < 2 ^ 63) :
    scalarBssDecodeDouble n data = some (valuesOf 8 n (Gen.CFun.scalar_byte_split_decode_double data (BitVec.ofNat 64 n) out)) :=
  (scalar_bss_decode_double_eq data out n hd ho hn).1
theorem C15_cfun_scalar_byte_split_decode_double_defined (data out : List UInt8) (n : Nat) (hd : data.length = 8 * n)
    (ho : out.length = 8 * n) (hn : 8 * n + 8 < 2 ^ 63) :
    Gen.CFun.scalar_byte_split_decode_double_defined data (BitVec.ofNat 64 n) out = true :=
  (scalar_bss_decode_double_eq data out n hd ho hn).2

example : Gen.CFun.scalar_byte_split_decode_double [1, 2, 3, 4, 5, 6, 7, 8] 1#64 [0, 0, 0, 0, 0, 0, 0, 0] =
    [1, 2, 3, 4, 5, 6, 7, 8] := by decide +kernel

/-! ### booleans -/

/-- `scalar_unpack_bools(input, output, count)`; fewer than 2^34 flags (`int byte_idx = (int)(i / 8)`) -/
theorem C15_cfun_scalar_unpack_bools (bytes out : List UInt8) (h : out.length < 2 ^ 34) (r : List UInt8)
    (hr : scalarUnpackBools bytes out.length = some r) :
    Gen.CFun.scalar_unpack_bools bytes out (BitVec.ofNat 64 out.length) = r := (scalar_unpack_bools_eq bytes out h).1 r hr
/-- defined exactly when the input holds `count` bits -/
theorem C15_cfun_scalar_unpack_bools_defined (bytes out : List UInt8) (h : out.length < 2 ^ 34) :
    Gen.CFun.scalar_unpack_bools_defined bytes out (BitVec.ofNat 64 out.length) = (scalarUnpackBools bytes out.length).isSome :=
  (scalar_unpack_bools_eq bytes out h).2

example : Gen.CFun.scalar_unpack_bools [0xA5, 0x01] [9, 9, 9, 9, 9, 9, 9, 9, 9] 9#64 = [1, 0, 1, 0, 0, 1, 0, 1, 1] ∧
    Gen.CFun.scalar_unpack_bools_defined [0xA5] [9, 9, 9, 9, 9, 9, 9, 9, 9] 9#64 = false := by decide +kernel

/-- `scalar_pack_bools(input, output, count)` with `(count + 7) / 8` output bytes -/
theorem C15_cfun_scalar_pack_bools (xs out : List UInt8) (ho : out.length = (xs.length + 7) / 8) (h : xs.length + 8 < 2 ^ 63) :
    Gen.CFun.scalar_pack_bools xs out (BitVec.ofNat 64 xs.length) = scalarPackBools xs := (scalar_pack_bools_eq xs out ho h).1
theorem C15_cfun_scalar_pack_bools_defined (xs out : List UInt8) (ho : out.length = (xs.length + 7) / 8)
    (h : xs.length + 8 < 2 ^ 63) :
    Gen.CFun.scalar_pack_bools_defined xs out (BitVec.ofNat 64 xs.length) = true := (scalar_pack_bools_eq xs out ho h).2

example : Gen.CFun.scalar_pack_bools [1, 0, 1, 1, 0, 0, 0, 0, 7] [0xEE, 0xEE] 9#64 = [0x0D, 0x01] ∧
    Gen.CFun.scalar_pack_bools_defined [1, 0, 1, 1, 0, 0, 0, 0, 7] [0xEE] 9#64 = false := by decide +kernel

/-! ### run length, CRC-32C -/

theorem C15_cfun_scalar_find_run_length_i32 (vals : List (BitVec 32)) (h : vals.length < 2 ^ 63) :
    Gen.CFun.scalar_find_run_length_i32 vals (BitVec.ofNat 64 vals.length) = BitVec.ofNat 64 (scalarFindRunLength vals) :=
  (scalar_find_run_length_i32_eq vals h).1
theorem C15_cfun_scalar_find_run_length_i32_defined (vals : List (BitVec 32)) (h : vals.length < 2 ^ 63) :
    Gen.CFun.scalar_find_run_length_i32_defined vals (BitVec.ofNat 64 vals.length) = true :=
  (scalar_find_run_length_i32_eq vals h).2

example : Gen.CFun.scalar_find_run_length_i32 [7#32, 7#32, 7#32, 8#32, 7#32] 5#64 = 3#64 ∧
    Gen.CFun.scalar_find_run_length_i32 [7#32, 7#32] 2#64 = 2#64 ∧
    Gen.CFun.scalar_find_run_length_i32_defined [7#32, 7#32] 3#64 = false := by decide +kernel

/-- the table in the C source (read from its initialiser in the AST) is the table the regex translator extracted -/
theorem C15_cfun_crc32c_table : Gen.CFun.dispatch_crc32c_table = Gen.Dispatch.crc32cTable.map (BitVec.ofNat 32) :=
  crc32c_table_eq

theorem C15_cfun_scalar_crc32c (crc : BitVec 32) (data : List UInt8) (h : data.length < 2 ^ 64) :
    Gen.CFun.scalar_crc32c crc data (BitVec.ofNat 64 data.length) = scalarCrc32c Gen.Dispatch.crc32cTable crc data :=
  (scalar_crc32c_eq crc data h).1
theorem C15_cfun_scalar_crc32c_defined (crc : BitVec 32) (data : List UInt8) (h : data.length < 2 ^ 64) :
    Gen.CFun.scalar_crc32c_defined crc data (BitVec.ofNat 64 data.length) = true := (scalar_crc32c_eq crc data h).2

example : Gen.CFun.scalar_crc32c 0#32 [0x31, 0x32, 0x33, 0x34, 0x35, 0x36, 0x37, 0x38, 0x39] 9#64 = 0xE3069283#32 ∧
    Gen.CFun.scalar_crc32c_defined 0#32 [0x31] 2#64 = false := by decide +kernel

/-! ### LZ77 helpers -/

/-- `scalar_match_copy(dst, src, len, offset)` with `src = dst - offset`: `window` = the `offset` bytes before `dst`, `t1` = the
`len` bytes overwritten, `t2` = what follows -/
theorem C15_cfun_scalar_match_copy (window t1 t2 : List UInt8) (ho : 0 < window.length) (hlen : t1.length < 2 ^ 64)
    (hoff : window.length < 2 ^ 64) :
    Gen.CFun.scalar_match_copy window.length (window ++ t1 ++ t2) (BitVec.ofNat 64 t1.length) (BitVec.ofNat 64 window.length) =
      window ++ scalarMatchCopy window t1.length ++ t2 := (scalar_match_copy_eq window t1 t2 ho hlen hoff).1
/-- in particular the 8-byte `memcpy` blocks never overlap and never leave the buffer -/
theorem C15_cfun_scalar_match_copy_defined (window t1 t2 : List UInt8) (ho : 0 < window.length) (hlen : t1.length < 2 ^ 64)
    (hoff : window.length < 2 ^ 64) :
    Gen.CFun.scalar_match_copy_defined window.length (window ++ t1 ++ t2) (BitVec.ofNat 64 t1.length)
      (BitVec.ofNat 64 window.length) = true := (scalar_match_copy_eq window t1 t2 ho hlen hoff).2

example : Gen.CFun.scalar_match_copy 2 [0x61, 0x62, 0, 0, 0, 0, 0, 9] 5#64 2#64 = [0x61, 0x62, 0x61, 0x62, 0x61, 0x62, 0x61, 9] ∧
    -- an `offset` of 9 although `src` is only 2 bytes behind `dst`: the 8-byte copies would overlap
    Gen.CFun.scalar_match_copy_defined 2 [1, 2, 3, 4, 5, 6, 7, 8, 9, 10, 11, 12] 8#64 9#64 = false ∧
    -- one byte more than the buffer holds
    Gen.CFun.scalar_match_copy_defined 2 [0x61, 0x62, 0, 0, 0] 4#64 2#64 = false := by decide +kernel

/-- `scalar_match_length(p, match, limit)` with `match` the start of the buffer, `p = match + off`, `limit` its end -/
theorem C15_cfun_scalar_match_length (buf : List UInt8) (off : Nat) (ho : off ≤ buf.length) (hL : buf.length < 2 ^ 63) :
    Gen.CFun.scalar_match_length off buf buf.length = BitVec.ofNat 64 (scalarMatchLength buf off) :=
  (scalar_match_length_eq buf off ho).1
theorem C15_cfun_scalar_match_length_defined (buf : List UInt8) (off : Nat) (ho : off ≤ buf.length) (hL : buf.length < 2 ^ 63) :
    Gen.CFun.scalar_match_length_defined off buf buf.length = true := (scalar_match_length_eq buf off ho).2

example : Gen.CFun.scalar_match_length 3 [1, 2, 3, 1, 2, 4] 6 = 2#64 ∧
    -- a `limit` beyond the buffer: a match that runs to the end reads `*p` outside
    Gen.CFun.scalar_match_length_defined 3 [1, 2, 3, 1, 2, 3] 7 = false := by decide +kernel

/-! ### definition levels -/

theorem C15_cfun_scalar_count_non_nulls (levels : List (BitVec 16)) (mx : BitVec 16) (h : levels.length < 2 ^ 63) :
    Gen.CFun.scalar_count_non_nulls levels (BitVec.ofNat 64 levels.length) mx =
      BitVec.ofNat 64 (scalarCountNonNulls levels mx) := (scalar_count_non_nulls_eq levels mx h).1
theorem C15_cfun_scalar_count_non_nulls_defined (levels : List (BitVec 16)) (mx : BitVec 16) (h : levels.length < 2 ^ 63) :
    Gen.CFun.scalar_count_non_nulls_defined levels (BitVec.ofNat 64 levels.length) mx = true :=
  (scalar_count_non_nulls_eq levels mx h).2

example : Gen.CFun.scalar_count_non_nulls [1#16, 0#16, 1#16, 0xFFFF#16] 4#64 1#16 = 2#64 := by decide +kernel

/-- `scalar_build_null_bitmap(def_levels, count, max_def_level, null_bitmap)` with `(count + 7) / 8` bitmap bytes: whatever
the bitmap held before (FS1) -/
theorem C15_cfun_scalar_build_null_bitmap (levels : List (BitVec 16)) (mx : BitVec 16) (bm : List UInt8)
    (hb : bm.length = (levels.length + 7) / 8) (hn : levels.length + 8 < 2 ^ 63) :
    Gen.CFun.scalar_build_null_bitmap levels (BitVec.ofNat 64 levels.length) mx bm = scalarBuildNullBitmap levels mx :=
  (scalar_build_null_bitmap_eq levels mx bm hb hn).1
theorem C15_cfun_scalar_build_null_bitmap_defined (levels : List (BitVec 16)) (mx : BitVec 16) (bm : List UInt8)
    (hb : bm.length = (levels.length + 7) / 8) (hn : levels.length + 8 < 2 ^ 63) :
    Gen.CFun.scalar_build_null_bitmap_defined levels (BitVec.ofNat 64 levels.length) mx bm = true :=
  (scalar_build_null_bitmap_eq levels mx bm hb hn).2

example : Gen.CFun.scalar_build_null_bitmap [1#16, 0#16, 1#16] 3#64 1#16 [0xFF] = [0x02] ∧
    Gen.CFun.scalar_build_null_bitmap [0#16, 0#16, 0#16, 0#16, 0#16, 0#16, 0#16, 0#16, 1#16, 0#16] 10#64 1#16 [0xAA, 0xFF] =
      [0xFF, 0x02] ∧
    Gen.CFun.scalar_build_null_bitmap_defined [1#16, 0#16, 1#16] 3#64 1#16 [] = false := by decide +kernel

theorem C15_cfun_scalar_fill_def_levels (old : List (BitVec 16)) (value : BitVec 16) (h : old.length < 2 ^ 63) :
    Gen.CFun.scalar_fill_def_levels old (BitVec.ofNat 64 old.length) value = scalarFillDefLevels old value :=
  (scalar_fill_def_levels_eq old value h).1
theorem C15_cfun_scalar_fill_def_levels_defined (old : List (BitVec 16)) (value : BitVec 16) (h : old.length < 2 ^ 63) :
    Gen.CFun.scalar_fill_def_levels_defined old (BitVec.ofNat 64 old.length) value = true :=
  (scalar_fill_def_levels_eq old value h).2

example : Gen.CFun.scalar_fill_def_levels [0#16, 5#16, 9#16] 3#64 2#16 = [2#16, 2#16, 2#16] ∧
    Gen.CFun.scalar_fill_def_levels_defined [0#16, 5#16, 9#16] 4#64 2#16 = false := by decide +kernel

end Carquet.Properties.C15
