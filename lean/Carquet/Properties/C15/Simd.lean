import Carquet.Spec.Kernels
import Carquet.Impl.Simd
import Carquet.Impl.Dispatch
import Carquet.Gen.Dispatch
import Carquet.Proofs.SimdBlocked
import Carquet.Proofs.SimdPrefix
import Carquet.Proofs.SimdBss
import Carquet.Proofs.SimdBools
import Carquet.Proofs.SimdCrc
import Carquet.Proofs.SimdLevels
import Carquet.Proofs.SimdKernels
import Carquet.Proofs.SimdDispatch
/-
C15 — SIMD kernels equal their scalar definitions (partial by nature: the theorems are about the
lane-level models of `Impl/Simd.lean`; the kernels not modelled with intrinsics are tied to
`Spec.Kernels` by the correspondence run only).  Property statements only; helper lemmas live in
`Carquet/Proofs/Simd*.lean`.
-/
namespace Carquet.Properties.C15
open Carquet Carquet.Impl.Simd
open Carquet.Proofs

/-! ## 1. The blocked loop: vector loop over full blocks + scalar remainder = scalar loop,
for every count (0 and every remainder included), touching only elements below the count -/

/-- map shape (gather, byte-stream split, bool pack/unpack, null bitmap, fill, memcpy).
`scalar` may work at any granularity (e.g. 8 flags -> 1 byte) as long as it splits at block
boundaries (`hhom`). -/
theorem C15_blocked_eq_scalar_map {α β : Type} (W : Nat) (hW : 0 < W) (blk tail scalar : List α → List β)
    (hblk : ∀ b, b.length = W → blk b = scalar b)
    (htail : ∀ t, t.length < W → tail t = scalar t)
    (hhom : ∀ a r, a.length = W → scalar (a ++ r) = scalar a ++ scalar r) :
    ∀ xs : List α, blockedMap W blk tail xs = scalar xs ∧
      (∀ a ∈ accesses W xs.length, a.1 + a.2 ≤ xs.length) ∧
      ((accesses W xs.length).map (·.2)).sum = xs.length :=
  fun xs => ⟨SimdBlocked.blockedMap_eq W hW blk tail scalar hblk htail hhom xs,
             SimdBlocked.accesses_in_bounds W xs.length, SimdBlocked.accesses_cover W xs.length⟩

/-- map shape restricted to a domain `P` of element values (pack_bools: bytes 0/1) -/
theorem C15_blocked_eq_scalar_map_dom {α β : Type} (P : α → Prop) (W : Nat) (hW : 0 < W)
    (blk tail scalar : List α → List β)
    (hblk : ∀ b, b.length = W → (∀ x ∈ b, P x) → blk b = scalar b)
    (htail : ∀ t, t.length < W → (∀ x ∈ t, P x) → tail t = scalar t)
    (hhom : ∀ a r, a.length = W → scalar (a ++ r) = scalar a ++ scalar r) :
    ∀ xs : List α, (∀ x ∈ xs, P x) → blockedMap W blk tail xs = scalar xs :=
  fun xs hP => SimdBlocked.blockedMap_eq_dom P W hW blk tail scalar hblk htail hhom xs hP

/-- scan shape (prefix sums): a carry runs through the blocks -/
theorem C15_blocked_eq_scalar_scan {σ α β : Type} (W : Nat) (blk : σ → List α → List β × σ)
    (step : σ → α → β × σ)
    (hblk : ∀ c b, b.length = W → blk c b = scalarScan step c b) :
    ∀ (c : σ) (xs : List α), blockedScan W blk step c xs = scalarScan step c xs ∧
      (∀ a ∈ accesses W xs.length, a.1 + a.2 ≤ xs.length) :=
  fun c xs => ⟨SimdBlocked.blockedScan_eq W blk step hblk c xs, SimdBlocked.accesses_in_bounds W xs.length⟩

/-- reduce shape (count_non_nulls, crc32c) -/
theorem C15_blocked_eq_scalar_reduce {σ α : Type} (W : Nat) (hW : 0 < W) (blk tail : σ → List α → σ)
    (step : σ → α → σ)
    (hblk : ∀ c b, b.length = W → blk c b = b.foldl step c)
    (htail : ∀ c t, t.length < W → tail c t = t.foldl step c) :
    ∀ (c : σ) (xs : List α), blockedFold W blk tail c xs = xs.foldl step c ∧
      (∀ a ∈ accesses W xs.length, a.1 + a.2 ≤ xs.length) :=
  fun c xs => ⟨SimdBlocked.blockedFold_eq W hW blk tail step hblk htail c xs,
               SimdBlocked.accesses_in_bounds W xs.length⟩

/-- search shape (find_run_length, match_length): the result is the index of the first hit (the
count if there is none); a search stopping in block `j < count / W` touches blocks `0..j` only -/
theorem C15_blocked_eq_scalar_search {α : Type} (W : Nat) (blk : List α → Option Nat) (p : α → Bool)
    (hblk : ∀ b, b.length = W → blk b = if firstIdx p b < W then some (firstIdx p b) else none) :
    ∀ xs : List α, blockedSearch W blk p xs = firstIdx p xs ∧ firstIdx p xs ≤ xs.length ∧
      (∀ s, (∀ j, s = some j → j < xs.length / W) → ∀ a ∈ searchAccesses W xs.length s, a.1 + a.2 ≤ xs.length) :=
  fun xs => ⟨SimdBlocked.blockedSearch_eq W blk p hblk xs, SimdBlocked.firstIdx_le p xs,
             fun s hs => SimdBlocked.searchAccesses_in_bounds W xs.length s hs⟩

-- non-vacuity: the SSE prefix-sum block step satisfies `hblk` of the scan theorem (W = 4), and
-- the count 7 = 1 block + remainder 3 touches [0,4), 4, 5, 6.
example : ∀ c b, b.length = 4 → ssePrefixSumI32Blk c b = scalarScan psStep c b := SimdPrefix.sse_i32_block
example : accesses 4 7 = [(0, 4), (4, 1), (5, 1), (6, 1)] := by decide
example : accesses 4 0 = [] := by decide

/-! ## 2. Kernels modelled with intrinsics: block lemma (all inputs) and corollary (all counts) -/

/-! ### prefix sums -/

theorem C15_sse_prefix_sum_i32_block : ∀ (c : BitVec 32) (b : List (BitVec 32)), b.length = 4 →
    ssePrefixSumI32Blk c b = scalarScan psStep c b := SimdPrefix.sse_i32_block
theorem C15_sse_prefix_sum_i32_eq_scalar (init : BitVec 32) (vals : List (BitVec 32)) :
    ssePrefixSumI32 init vals = Spec.Kernels.prefixSum init vals := SimdKernels.prefix_of_block 4 _ SimdPrefix.sse_i32_block init vals

theorem C15_sse_prefix_sum_i64_block : ∀ (c : BitVec 64) (b : List (BitVec 64)), b.length = 2 →
    ssePrefixSumI64Blk c b = scalarScan psStep c b := SimdPrefix.sse_i64_block
theorem C15_sse_prefix_sum_i64_eq_scalar (init : BitVec 64) (vals : List (BitVec 64)) :
    ssePrefixSumI64 init vals = Spec.Kernels.prefixSum init vals := SimdKernels.prefix_of_block 2 _ SimdPrefix.sse_i64_block init vals

/-- includes the cross-lane fix-up (`_mm256_slli_si256` shifts inside each 128-bit half) -/
theorem C15_avx2_prefix_sum_i32_block : ∀ (c : BitVec 32) (b : List (BitVec 32)), b.length = 8 →
    avx2PrefixSumI32Blk c b = scalarScan psStep c b := SimdPrefix.avx2_i32_block
theorem C15_avx2_prefix_sum_i32_eq_scalar (init : BitVec 32) (vals : List (BitVec 32)) :
    avx2PrefixSumI32 init vals = Spec.Kernels.prefixSum init vals := SimdKernels.prefix_of_block 8 _ SimdPrefix.avx2_i32_block init vals

theorem C15_avx2_prefix_sum_i64_block : ∀ (c : BitVec 64) (b : List (BitVec 64)), b.length = 4 →
    avx2PrefixSumI64Blk c b = scalarScan psStep c b := SimdPrefix.avx2_i64_block
theorem C15_avx2_prefix_sum_i64_eq_scalar (init : BitVec 64) (vals : List (BitVec 64)) :
    avx2PrefixSumI64 init vals = Spec.Kernels.prefixSum init vals := SimdKernels.prefix_of_block 4 _ SimdPrefix.avx2_i64_block init vals

/-- the `_mm512_maskz_alignr_epi32` ladder (shifts by 1, 2, 4, 8 lanes) -/
theorem C15_avx512_prefix_sum_i32_block : ∀ (c : BitVec 32) (b : List (BitVec 32)), b.length = 16 →
    avx512PrefixSumI32Blk c b = scalarScan psStep c b := SimdPrefix.avx512_i32_block
theorem C15_avx512_prefix_sum_i32_eq_scalar (init : BitVec 32) (vals : List (BitVec 32)) :
    avx512PrefixSumI32 init vals = Spec.Kernels.prefixSum init vals := SimdKernels.prefix_of_block 16 _ SimdPrefix.avx512_i32_block init vals

theorem C15_avx512_prefix_sum_i64_block : ∀ (c : BitVec 64) (b : List (BitVec 64)), b.length = 8 →
    avx512PrefixSumI64Blk c b = scalarScan psStep c b := SimdPrefix.avx512_i64_block
theorem C15_avx512_prefix_sum_i64_eq_scalar (init : BitVec 64) (vals : List (BitVec 64)) :
    avx512PrefixSumI64 init vals = Spec.Kernels.prefixSum init vals := SimdKernels.prefix_of_block 8 _ SimdPrefix.avx512_i64_block init vals

-- wrap-around instance: 9 elements = 2 SSE blocks + remainder 1 / 1 AVX2 block + remainder 1
example : ssePrefixSumI32 0x7FFFFFFF#32 [1#32, 2#32, 3#32, 4#32, 5#32, 6#32, 7#32, 8#32, 0x80000000#32] =
    [0x80000000#32, 0x80000002#32, 0x80000005#32, 0x80000009#32, 0x8000000E#32, 0x80000014#32,
     0x8000001B#32, 0x80000023#32, 0x00000023#32] := by decide
example : avx2PrefixSumI32 0x7FFFFFFF#32 [1#32, 2#32, 3#32, 4#32, 5#32, 6#32, 7#32, 8#32, 0x80000000#32] =
    Spec.Kernels.prefixSum 0x7FFFFFFF#32 [1#32, 2#32, 3#32, 4#32, 5#32, 6#32, 7#32, 8#32, 0x80000000#32] :=
  C15_avx2_prefix_sum_i32_eq_scalar _ _

/-! ### BYTE_STREAM_SPLIT, float -/

theorem C15_sse_bss_encode_float_block : ∀ b : List (BitVec 32), b.length = 4 → sseBssEncBlk b = bssEncScalar b :=
  SimdBss.sse_enc_block
theorem C15_sse_bss_encode_float_eq_scalar (vals : List (BitVec 32)) :
    sseBssEncodeFloat vals = Spec.Kernels.bssEncode (k := 4) vals := SimdKernels.bss_enc 4 (by decide) _ SimdBss.sse_enc_block vals

theorem C15_avx2_bss_encode_float_block : ∀ b : List (BitVec 32), b.length = 8 → avx2BssEncBlk b = bssEncScalar b :=
  SimdBss.avx2_enc_block
theorem C15_avx2_bss_encode_float_eq_scalar (vals : List (BitVec 32)) :
    avx2BssEncodeFloat vals = Spec.Kernels.bssEncode (k := 4) vals := SimdKernels.bss_enc 8 (by decide) _ SimdBss.avx2_enc_block vals

theorem C15_avx512_bss_encode_float_block : ∀ b : List (BitVec 32), b.length = 16 →
    avx512BssEncBlk b = bssEncScalar b := SimdBss.avx512_enc_block
theorem C15_avx512_bss_encode_float_eq_scalar (vals : List (BitVec 32)) :
    avx512BssEncodeFloat vals = Spec.Kernels.bssEncode (k := 4) vals := SimdKernels.bss_enc 16 (by decide) _ SimdBss.avx512_enc_block vals

theorem C15_sse_bss_decode_float_block : ∀ b : List T4, b.length = 4 → sseBssDecBlk b = bssDecScalar b :=
  SimdBss.sse_dec_block
theorem C15_avx2_bss_decode_float_block : ∀ b : List T4, b.length = 8 → avx2BssDecBlk b = bssDecScalar b :=
  SimdBss.avx2_dec_block
theorem C15_avx512_bss_decode_float_block : ∀ b : List T4, b.length = 16 → avx512BssDecBlk b = bssDecScalar b :=
  SimdBss.avx512_dec_block

theorem C15_sse_bss_decode_float_eq_scalar (n : Nat) (data : List UInt8) (h : data.length = 4 * n) :
    some (sseBssDecodeFloat (zipStreams n data)) = Spec.Kernels.bssDecode 4 n data :=
  SimdKernels.bss_dec 4 (by decide) sseBssDecBlk SimdBss.sse_dec_block n data h
theorem C15_avx2_bss_decode_float_eq_scalar (n : Nat) (data : List UInt8) (h : data.length = 4 * n) :
    some (avx2BssDecodeFloat (zipStreams n data)) = Spec.Kernels.bssDecode 4 n data :=
  SimdKernels.bss_dec 8 (by decide) avx2BssDecBlk SimdBss.avx2_dec_block n data h
theorem C15_avx512_bss_decode_float_eq_scalar (n : Nat) (data : List UInt8) (h : data.length = 4 * n) :
    some (avx512BssDecodeFloat (zipStreams n data)) = Spec.Kernels.bssDecode 4 n data :=
  SimdKernels.bss_dec 16 (by decide) avx512BssDecBlk SimdBss.avx512_dec_block n data h

example : sseBssEncodeFloat [0x04030201#32, 0x14131211#32, 0x24232221#32, 0x34333231#32, 0x44434241#32] =
    [0x01, 0x11, 0x21, 0x31, 0x41, 0x02, 0x12, 0x22, 0x32, 0x42, 0x03, 0x13, 0x23, 0x33, 0x43,
     0x04, 0x14, 0x24, 0x34, 0x44] := by decide
example : (4 : Nat) * 2 = [1, 2, 3, 4, 5, 6, 7, (8 : UInt8)].length := rfl

/-! ### booleans -/

theorem C15_sse_unpack_bools_block : ∀ b : List UInt8, b.length = 2 → sseUnpackBlk b = unpackScalar b :=
  SimdBools.sse_unpack_block
theorem C15_sse_unpack_bools_eq_scalar (bytes : List UInt8) (count : Nat) (h : count ≤ 8 * bytes.length) :
    some (sseUnpackBools bytes count) = Spec.Kernels.unpackBools bytes count :=
  SimdBools.unpack_eq 16 2 rfl (by decide) _ SimdBools.sse_unpack_block bytes count h

theorem C15_avx2_unpack_bools_block : ∀ b : List UInt8, b.length = 4 → avx2UnpackBlk b = unpackScalar b :=
  SimdBools.avx2_unpack_block
theorem C15_avx2_unpack_bools_eq_scalar (bytes : List UInt8) (count : Nat) (h : count ≤ 8 * bytes.length) :
    some (avx2UnpackBools bytes count) = Spec.Kernels.unpackBools bytes count :=
  SimdBools.unpack_eq 32 4 rfl (by decide) _ SimdBools.avx2_unpack_block bytes count h

theorem C15_avx512_unpack_bools_block : ∀ b : List UInt8, b.length = 8 → avx512UnpackBlk b = unpackScalar b :=
  fun b _ => SimdBools.avx512_unpack_block b
theorem C15_avx512_unpack_bools_eq_scalar (bytes : List UInt8) (count : Nat) (h : count ≤ 8 * bytes.length) :
    some (avx512UnpackBools bytes count) = Spec.Kernels.unpackBools bytes count :=
  SimdBools.unpack_eq 64 8 rfl (by decide) _ (fun b _ => SimdBools.avx512_unpack_block b) bytes count h

example : (19 : Nat) ≤ 8 * [0xA5, 0x0F, (0x07 : UInt8)].length := by decide
example : sseUnpackBools [0xA5, 0x0F, 0x07] 19 = [1,0,1,0,0,1,0,1, 1,1,1,1,0,0,0,0, 1,1,1] := by decide

/-- SSE and AVX2 look at bit 0 / multiply by the byte: equal to the scalar definition on the
documented domain (every byte 0 or 1) -/
theorem C15_sse_pack_bools_block : ∀ b : List UInt8, b.length = 8 → (∀ x ∈ b, x = 0 ∨ x = 1) →
    ssePackBlk b = packScalar b := SimdBools.sse_pack_block
theorem C15_sse_pack_bools_eq_scalar (xs : List UInt8) (hd : ∀ x ∈ xs, x = 0 ∨ x = 1) :
    ssePackBools xs = Spec.Kernels.packBools xs := SimdKernels.pack_of_block _ SimdBools.sse_pack_block xs hd

theorem C15_avx2_pack_bools_block : ∀ b : List UInt8, b.length = 8 → (∀ x ∈ b, x = 0 ∨ x = 1) →
    avx2PackBlk b = packScalar b := SimdBools.avx2_pack_block
theorem C15_avx2_pack_bools_eq_scalar (xs : List UInt8) (hd : ∀ x ∈ xs, x = 0 ∨ x = 1) :
    avx2PackBools xs = Spec.Kernels.packBools xs := SimdKernels.pack_of_block _ SimdBools.avx2_pack_block xs hd

/-- AVX-512 tests for non-zero like the scalar loop: all inputs; the remainder (masked load,
`(r+7)/8` bytes stored) is modelled too -/
theorem C15_avx512_pack_bools_block : ∀ b : List UInt8, b.length = 64 → avx512PackBlk b = packScalar b :=
  fun b _ => SimdBools.avx512_pack_block b
theorem C15_avx512_pack_bools_eq_scalar (xs : List UInt8) :
    avx512PackBools xs = Spec.Kernels.packBools xs := SimdKernels.avx512_pack xs

example : ssePackBools [1, 0, 1, 1, 0, 0, 0, 0, 1, 1] = [0x0D, 0x03] := by decide
-- outside the domain the three implementations are three different functions (recorded, not a defect:
-- the C comment says "Input bytes should be 0 or 1")
example : ssePackBools [2, 0, 0, 0, 0, 0, 0, 0] = [0] ∧ avx2PackBools [2, 0, 0, 0, 0, 0, 0, 0] = [2] ∧
    Spec.Kernels.packBools [2, 0, 0, 0, 0, 0, 0, 0] = [1] := by decide

/-! ### definition levels -/

theorem C15_sse_count_non_nulls_block : ∀ (mx : BitVec 16) (c : Nat) (b : List (BitVec 16)), b.length = 8 →
    sseCountNonNullsBlk mx c b = b.foldl (cnnStep mx) c := fun mx c b _ => SimdLevels.sse_count_block mx c b
theorem C15_sse_count_non_nulls_eq_scalar (levels : List (BitVec 16)) (mx : BitVec 16) :
    sseCountNonNulls levels mx = Spec.Kernels.countNonNulls levels mx := SimdKernels.sse_count levels mx

theorem C15_sse_build_null_bitmap_block : ∀ (mx : BitVec 16) (b : List (BitVec 16)), b.length = 8 →
    sseNullBitmapBlk mx b = nullBitmapScalar mx b := SimdLevels.sse_null_bitmap_block
theorem C15_sse_build_null_bitmap_eq_scalar (levels : List (BitVec 16)) (mx : BitVec 16) :
    sseBuildNullBitmap levels mx = Spec.Kernels.buildNullBitmap levels mx := SimdKernels.sse_null_bitmap levels mx

/-- the repaired scalar fallback (FS1) -/
theorem C15_scalar_build_null_bitmap_eq_spec (levels : List (BitVec 16)) (mx : BitVec 16) :
    scalarBuildNullBitmap levels mx = Spec.Kernels.buildNullBitmap levels mx := SimdKernels.scalar_null_bitmap levels mx

theorem C15_sse_fill_def_levels_block : ∀ (v : BitVec 16) (b : List (BitVec 16)), b.length = 8 →
    sseFillBlk v b = b.map fun _ => v := fun v b _ => SimdLevels.sse_fill_block v b
theorem C15_sse_fill_def_levels_eq_scalar (old : List (BitVec 16)) (v : BitVec 16) :
    sseFillDefLevels old v = Spec.Kernels.fillDefLevels old.length v := SimdKernels.sse_fill old v

example : sseCountNonNulls [1#16, 0#16, 1#16, 1#16, 0#16, 1#16, 1#16, 1#16, 0#16, 1#16] 1#16 = 7 := by decide
example : sseBuildNullBitmap [1#16, 0#16, 1#16, 1#16, 0#16, 1#16, 1#16, 1#16, 0#16, 1#16] 1#16 = [0x12, 0x01] := by decide

/-! ### run-length search -/

theorem C15_sse_find_run_length_block : ∀ (first : BitVec 32) (b : List (BitVec 32)), b.length = 4 →
    sseRunBlk first b = if firstIdx (· != first) b < 4 then some (firstIdx (· != first) b) else none :=
  SimdLevels.sse_run_block
theorem C15_sse_find_run_length_eq_scalar (vals : List (BitVec 32)) :
    sseFindRunLength vals = Spec.Kernels.findRunLength vals :=
  SimdKernels.find_run 4 sseRunBlk SimdLevels.sse_run_block vals

theorem C15_avx2_find_run_length_block : ∀ (first : BitVec 32) (b : List (BitVec 32)), b.length = 8 →
    avx2RunBlk first b = if firstIdx (· != first) b < 8 then some (firstIdx (· != first) b) else none :=
  SimdLevels.avx2_run_block
theorem C15_avx2_find_run_length_eq_scalar (vals : List (BitVec 32)) :
    avx2FindRunLength vals = Spec.Kernels.findRunLength vals :=
  SimdKernels.find_run 8 avx2RunBlk SimdLevels.avx2_run_block vals

theorem C15_avx512_find_run_length_block : ∀ (first : BitVec 32) (b : List (BitVec 32)), b.length = 16 →
    avx512RunBlk first b = if firstIdx (· != first) b < 16 then some (firstIdx (· != first) b) else none :=
  SimdLevels.avx512_run_block
theorem C15_avx512_find_run_length_eq_scalar (vals : List (BitVec 32)) :
    avx512FindRunLength vals = Spec.Kernels.findRunLength vals :=
  SimdKernels.find_run 16 avx512RunBlk SimdLevels.avx512_run_block vals

example : sseFindRunLength [7#32, 7#32, 7#32, 7#32, 7#32, 7#32, 9#32, 7#32, 7#32] = 6 := by decide

/-! ### CRC-32C -/

/-- test vector: the check value of CRC-32C (a test of the Spec's transcription, not a proof) -/
theorem C15_crc32c_spec :
    Spec.Kernels.crc32c 0 [0x31, 0x32, 0x33, 0x34, 0x35, 0x36, 0x37, 0x38, 0x39] = 0xE3069283#32 := by
  decide +kernel

/-- every entry of the table the scalar fallback uses (`crc32c_table[256]`, re-extracted on every
run) is eight shifts of the Castagnoli LFSR applied to its index -/
theorem C15_crc32c_table :
    ∀ i : Fin 256, Gen.Dispatch.crc32cTable[i.val]? = some (Spec.Kernels.crcStep8 (BitVec.ofNat 32 i.val)).toNat :=
  SimdCrc.crcTable_ok

/-- the hardware CRC32 loops (8, 4, 2, 1 bytes) with the repaired pre/post conditioning (F15) -/
theorem C15_sse_crc32c_eq_scalar (crc : BitVec 32) (data : List UInt8) :
    sseCrc32c crc data = Spec.Kernels.crc32c crc data := SimdCrc.sse_crc crc data

/-- F15 (pinned tree): `carquet_sse_crc32c` without `~crc` before and after returns 58e3fa20 for
"123456789", the scalar definition e3069283 -/
theorem C15_regression_F15 :
    sseCrc32cPreFix 0 [0x31, 0x32, 0x33, 0x34, 0x35, 0x36, 0x37, 0x38, 0x39] = 0x58E3FA20#32 ∧
    sseCrc32cPreFix 0 [0x31, 0x32, 0x33, 0x34, 0x35, 0x36, 0x37, 0x38, 0x39] ≠
      Spec.Kernels.crc32c 0 [0x31, 0x32, 0x33, 0x34, 0x35, 0x36, 0x37, 0x38, 0x39] := by
  decide +kernel

/-- FS1 (pinned tree): the scalar fallback or-s the partial last bitmap byte into what the
buffer held: levels [1,1,1], max 1 (no nulls) over a byte 0xCD leave 0xCD; the definition and the
SSE variant give 0x00 -/
theorem C15_regression_FS1 :
    scalarBuildNullBitmapPreFix [1#16, 1#16, 1#16] 1#16 [0xCD] = [0xCD] ∧
    Spec.Kernels.buildNullBitmap [1#16, 1#16, 1#16] 1#16 = [0x00] ∧
    sseBuildNullBitmap [1#16, 1#16, 1#16] 1#16 = [0x00] := by
  decide

/-! ## 3. The dispatcher (table re-extracted from dispatch.c / CMakeLists.txt on every run) -/

open Carquet.Impl.Dispatch Carquet.Gen.Dispatch in
/-- for every capability mask (any `Nat` bit set over `Gen.Dispatch.features`) and every slot, the
installed kernel needs only features of the mask (`requiredFeatures` = the `-m` flags its file is
compiled with).  Proved from a static check of the regenerated table (`tableOK`, by `decide`: every
kernel a block installs needs only what the block's own `if` tests) and a lemma about the fold. -/
theorem C15_dispatch_sound :
    ∀ mask slot : Nat, slot < slots.length →
      ∃ k r, select mask slot = some k ∧ requiredFeatures k = some r ∧ subset r mask = true := by
  intro mask slot hs
  have hok : tableOK blocks scalarInit kernelReq = true := by decide +kernel
  have hlen : slots.length = scalarInit.length := by decide
  have := SimdDispatch.sound_of_tableOK blocks scalarInit kernelReq hok mask slot (hlen ▸ hs)
  unfold soundIn at this
  unfold select requiredFeatures
  cases hsel : selectIn blocks scalarInit mask slot with
  | none => rw [hsel] at this; simp at this
  | some k =>
    rw [hsel] at this
    cases hr : requiredFeaturesIn kernelReq k with
    | none => simp [hr] at this
    | some r => exact ⟨k, r, rfl, hr, by simpa [hr] using this⟩

open Carquet.Impl.Dispatch Carquet.Gen.Dispatch in
/-- scalar < SSE4.2 < AVX2 < AVX-512: the blocks appear in ascending order, and whatever subset of
the blocks is enabled, every slot ends up with a kernel of the highest-ranked enabled block that
lists it (scalar if none) -/
theorem C15_dispatch_order :
    blockRank = [1, 2, 3] ∧
    ∀ mask slot : Nat, slot < slots.length →
      selectedRank mask slot = some (bestEnabledRank mask slot) := by
  refine ⟨by decide, ?_⟩
  have h : ∀ en ∈ allBools blocks.length, ∀ slot : Fin slots.length,
      rankE en slot.val = some (bestRankE en slot.val) := by decide +kernel
  intro mask slot hs
  have hm := SimdDispatch.mem_allBools (blocks.map (enabled mask))
  rw [List.length_map] at hm
  exact h _ hm ⟨slot, hs⟩

open Carquet.Impl.Dispatch in
/-- F16 (pinned tree): capability {sse2, sse4.1, sse4.2, avx, avx2, bmi2, avx512f} without
avx512bw/vl: slot 0 (prefix_sum_i32) gets the AVX-512 kernel, compiled with -mavx512bw -mavx512vl -/
theorem C15_regression_F16 :
    selectIn blocksPreFix scalarInitPreFix (63 + 512) 0 = some 49 ∧
    requiredFeaturesIn kernelReqPreFix 49 = some 224 ∧ subset 224 (63 + 512) = false ∧
    soundPreFix (63 + 512) 0 = false := by
  decide

open Carquet.Impl.Dispatch in
/-- FS2 (pinned tree): capability {…, avx2} without bmi2: slot 11 (pack_bools) gets the AVX2 kernel,
whose file is compiled with -mbmi2 (the pinned build's pack_bools contains `shlx`) -/
theorem C15_regression_FS2 :
    selectIn blocksPreFix scalarInitPreFix 31 11 = some 47 ∧
    requiredFeaturesIn kernelReqPreFix 47 = some 528 ∧ subset 528 31 = false ∧
    soundPreFix 31 11 = false := by
  decide

-- the current table under the full capability set: slot 0 holds an AVX-512 kernel, slot 13 (crc32c) the SSE one
example : Impl.Dispatch.selectedRank 511 0 = some 3 ∧ Impl.Dispatch.selectedRank 511 13 = some 1 ∧
    Impl.Dispatch.selectedRank 0 0 = some 0 := by decide +kernel

end Carquet.Properties.C15
