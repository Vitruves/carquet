import Carquet.Proofs.CFun2.Stats
/-
C16 — stage-2 link theorems: the typed comparators of src/metadata/statistics.c and src/reader/statistics.c
(`*(const int32_t*)a`, the `const uint32_t*` view of an INT96) as translated from the CURRENT C source, against
Impl.Stats.cmpBool / cmpI32 / cmpI64 / cmpI96.  compare_float / compare_double are not translated (floating point is outside
the subset).  The loads through pointer casts are little-endian loads of `sizeof(T)` bytes at the operand's address; their
`_defined` conjuncts say that these bytes exist (and that the offset is a multiple of the size, which is all the translator
can say about alignment: the operand itself must be suitably aligned).
-/
namespace Carquet.Properties.C16
open Carquet Carquet.Impl Carquet.Proofs.CFun2

theorem C16_cfun_compare_boolean (a b : List UInt8) : (Gen.CFun.stats_compare_boolean a b).toInt = Stats.cmpBool a b :=
  compare_boolean_eq a b
theorem C16_cfun_compare_int32 (a b : List UInt8) : (Gen.CFun.stats_compare_int32 a b).toInt = Stats.cmpI32 a b :=
  compare_int32_eq a b
theorem C16_cfun_compare_int64 (a b : List UInt8) (ha : 8 ≤ a.length) (hb : 8 ≤ b.length) :
    (Gen.CFun.stats_compare_int64 a b).toInt = Stats.cmpI64 a b := compare_int64_eq a b
theorem C16_cfun_compare_int96 (a b : List UInt8) : (Gen.CFun.stats_compare_int96 a b).toInt = Stats.cmpI96 a b :=
  compare_int96_eq a b

/-- each comparator reads exactly its width from both operands: 1, 4, 8 bytes … -/
theorem C16_cfun_compare_defined (a b : List UInt8) :
    Gen.CFun.stats_compare_boolean_defined a b = decide (1 ≤ a.length ∧ 1 ≤ b.length) ∧
    Gen.CFun.stats_compare_int32_defined a b = decide (4 ≤ a.length ∧ 4 ≤ b.length) ∧
    Gen.CFun.stats_compare_int64_defined a b = decide (8 ≤ a.length ∧ 8 ≤ b.length) :=
  ⟨compare_boolean_defined a b, compare_int32_defined a b, compare_int64_defined a b⟩

/-- … and 12 bytes for INT96 (three words, from the highest down; fuel 4 suffices) -/
theorem C16_cfun_compare_int96_defined (a b : List UInt8) (ha : 12 ≤ a.length) (hb : 12 ≤ b.length) :
    Gen.CFun.stats_compare_int96_defined a b = true := compare_int96_defined a b ha hb

example : (Gen.CFun.stats_compare_int32 [0xFF, 0xFF, 0xFF, 0xFF] [1, 0, 0, 0]).toInt = -1 ∧
    Gen.CFun.stats_compare_int32_defined [1, 2, 3] [1, 2, 3, 4] = false ∧
    (Gen.CFun.stats_compare_int96 [0, 0, 0, 0, 0, 0, 0, 0, 1, 0, 0, 0] [9, 9, 9, 9, 9, 9, 9, 9, 0, 0, 0, 0]).toInt = 1 ∧
    Gen.CFun.stats_compare_int96_defined [0, 0, 0, 0, 0, 0, 0, 0, 1, 0, 0] [9, 9, 9, 9, 9, 9, 9, 9, 0, 0, 0, 0] = false := by
  decide

/-- the comparators of src/reader/statistics.c are, definition for definition, those of src/metadata/statistics.c -/
theorem C16_cfun_reader_comparators :
    Gen.CFun.rstats_compare_boolean = Gen.CFun.stats_compare_boolean ∧
    Gen.CFun.rstats_compare_int32 = Gen.CFun.stats_compare_int32 ∧
    Gen.CFun.rstats_compare_int64 = Gen.CFun.stats_compare_int64 ∧
    (∀ a b, Gen.CFun.rstats_compare_int96 a b = Gen.CFun.stats_compare_int96 a b) ∧
    Gen.CFun.rstats_compare_boolean_defined = Gen.CFun.stats_compare_boolean_defined ∧
    Gen.CFun.rstats_compare_int32_defined = Gen.CFun.stats_compare_int32_defined ∧
    Gen.CFun.rstats_compare_int64_defined = Gen.CFun.stats_compare_int64_defined ∧
    (∀ a b, Gen.CFun.rstats_compare_int96_defined a b = Gen.CFun.stats_compare_int96_defined a b) := by
  refine ⟨rfl, rfl, rfl, ?_, rfl, rfl, rfl, ?_⟩
  · intro a b
    simp only [Gen.CFun.rstats_compare_int96, Gen.CFun.rstats_compare_int96_loop1, Gen.CFun.stats_compare_int96,
      Gen.CFun.stats_compare_int96_loop1]
  · intro a b
    simp only [Gen.CFun.rstats_compare_int96_defined, Gen.CFun.rstats_compare_int96_loop1_defined,
      Gen.CFun.stats_compare_int96_defined, Gen.CFun.stats_compare_int96_loop1_defined]

end Carquet.Properties.C16
