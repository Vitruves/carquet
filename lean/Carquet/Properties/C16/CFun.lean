import Carquet.Impl.CSem
import Carquet.Impl.Stats
import Carquet.Gen.Constants
import Carquet.Gen.CFun
import Carquet.Proofs.CFun.Basic
/-
C16 — link theorems between the per-type width helpers of src/metadata/statistics.c (`get_value_size`),
src/reader/statistics.c (`get_compare_width`) and src/metadata/page_index.c (`fixed_width`) as translated from the
CURRENT source (`Carquet.Gen.CFun`, regenerated on every run) and the models the C16 theorems are about
(`Impl.Stats.valueSize`, `Impl.Stats.cmpWidth`, `Impl.Stats.fixedWidth`).
-/
namespace Carquet.Properties.C16
open Carquet Carquet.Impl
open Carquet.Spec.Order (PType)

/-- the `carquet_physical_type_t` enumerator of a physical type, as the 32-bit value the C functions switch on -/
def ptypeCode : PType → BitVec 32
  | .boolean => 0#32 | .int32 => 1#32 | .int64 => 2#32 | .int96 => 3#32
  | .float => 4#32 | .double => 5#32 | .byteArray => 6#32 | .flba => 7#32

/-- `ptypeCode` is the enumeration the current `include/carquet/types.h` declares (re-extracted on every run) -/
theorem C16_cfun_ptype_codes :
    Gen.physicalTypes =
      [("CARQUET_PHYSICAL_BOOLEAN", ((ptypeCode .boolean).toNat : Int)), ("CARQUET_PHYSICAL_INT32", ((ptypeCode .int32).toNat : Int)),
       ("CARQUET_PHYSICAL_INT64", ((ptypeCode .int64).toNat : Int)), ("CARQUET_PHYSICAL_INT96", ((ptypeCode .int96).toNat : Int)),
       ("CARQUET_PHYSICAL_FLOAT", ((ptypeCode .float).toNat : Int)), ("CARQUET_PHYSICAL_DOUBLE", ((ptypeCode .double).toNat : Int)),
       ("CARQUET_PHYSICAL_BYTE_ARRAY", ((ptypeCode .byteArray).toNat : Int)),
       ("CARQUET_PHYSICAL_FIXED_LEN_BYTE_ARRAY", ((ptypeCode .flba).toNat : Int))] := rfl

/-- statistics.c `get_value_size(type, type_length)` is the model's `valueSize` for every physical type and every
`int32_t type_length` (negative lengths included: both give the huge `size_t` the conversion produces). -/
theorem C16_cfun_get_value_size (t : PType) (tl : BitVec 32) :
    (Gen.CFun.statistics_get_value_size (ptypeCode t) tl).toNat = Impl.Stats.valueSize t tl.toInt := by
  cases t
  case flba => exact Proofs.CFun.toNat_signExtend_32_64 tl  -- `(size_t)type_length`
  all_goals rfl

/-- a type code outside the enumeration has value size 0 -/
theorem C16_cfun_get_value_size_unknown (c tl : BitVec 32) (h : 7 < c.toNat) :
    Gen.CFun.statistics_get_value_size c tl = 0#64 := by
  simp (disch := decide) only [Gen.CFun.statistics_get_value_size, Proofs.CFun.beq_ofNat_of_lt c h, Bool.false_eq_true,
    ↓reduceIte]

theorem C16_cfun_get_value_size_defined (c tl : BitVec 32) :
    Gen.CFun.statistics_get_value_size_defined c tl = true := by
  simp [Gen.CFun.statistics_get_value_size_defined]

example : (Gen.CFun.statistics_get_value_size (ptypeCode .flba) 12#32).toNat = 12 ∧
    Impl.Stats.valueSize .flba 12 = 12 ∧
    (Gen.CFun.statistics_get_value_size (ptypeCode .flba) (BitVec.ofInt 32 (-1))).toNat = 2 ^ 64 - 1 := by decide

/-- reader/statistics.c `get_compare_width(type)` is the width the model's typed comparison reads (0 = none) -/
theorem C16_cfun_get_compare_width (t : PType) :
    (Gen.CFun.get_compare_width (ptypeCode t)).toNat = (Impl.Stats.cmpWidth t).getD 0 := by
  cases t <;> decide

theorem C16_cfun_get_compare_width_unknown (c : BitVec 32) (h : 5 < c.toNat) :
    Gen.CFun.get_compare_width c = 0#32 := by
  simp (disch := decide) only [Gen.CFun.get_compare_width, Proofs.CFun.beq_ofNat_of_lt c h, Bool.false_eq_true, ↓reduceIte]

theorem C16_cfun_get_compare_width_defined (c : BitVec 32) : Gen.CFun.get_compare_width_defined c = true := by
  simp [Gen.CFun.get_compare_width_defined]

example : (Gen.CFun.get_compare_width (ptypeCode .int96)).toNat = 12 ∧ Impl.Stats.cmpWidth .int96 = some 12 := by
  decide

/-- page_index.c `fixed_width(type)` is the model's `fixedWidth` -/
theorem C16_cfun_fixed_width (t : PType) :
    (Gen.CFun.fixed_width (ptypeCode t)).toNat = Impl.Stats.fixedWidth t := by
  cases t <;> decide

theorem C16_cfun_fixed_width_unknown (c : BitVec 32) (h : 5 < c.toNat) : Gen.CFun.fixed_width c = 0#32 := by
  simp (disch := decide) only [Gen.CFun.fixed_width, Proofs.CFun.beq_ofNat_of_lt c h, Bool.false_eq_true, ↓reduceIte]

theorem C16_cfun_fixed_width_defined (c : BitVec 32) : Gen.CFun.fixed_width_defined c = true := by
  simp [Gen.CFun.fixed_width_defined]

example : (Gen.CFun.fixed_width (ptypeCode .double)).toNat = 8 ∧ Impl.Stats.fixedWidth .double = 8 := by decide

end Carquet.Properties.C16
