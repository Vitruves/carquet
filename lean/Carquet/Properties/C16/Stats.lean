import Carquet.Spec.Order
import Carquet.Impl.Stats
import Carquet.Gen.StatsConstants
import Carquet.Proofs.StatsOrder
import Carquet.Proofs.StatsCmp
import Carquet.Proofs.StatsBuilder
import Carquet.Proofs.StatsPage
import Carquet.Proofs.StatsPrune
/-
C16 — statistics are true bounds; pruning has no false negatives.
Property statements only (about the Impl models of the code after fixes F18a–e, F19a–c);
helper lemmas live in Carquet/Proofs/Stats*.lean.  `C16_regression_*` are the kernel-checked
counterexamples for the code before each fix.
-/
namespace Carquet.Properties.C16
open Carquet Carquet.Spec.Order Carquet.Impl.Stats
open Carquet.Proofs.StatsOrder Carquet.Proofs.StatsCmp Carquet.Proofs.StatsBuilder Carquet.Proofs.StatsPage
open Carquet.Proofs.StatsPrune

/-- a reader over one leaf column of type `t` whose row groups carry the given chunk statistics -/
def readerOf (t : PType) (groups : List (Int × Option PStats)) : Reader :=
  { rowGroups := groups.map (fun g => { columns := [{ metaData := some { numValues := g.1, statistics := g.2 } }] }),
    leaves := [some t] }

/-- Constants of the source (re-extracted on every run) the models rely on. -/
theorem C16_constants :
    Gen.builderValueCap = Impl.Stats.cap ∧
    Gen.compareOps.map (·.2) = [0, 1, 2, 3, 4, 5] ∧
    8 ≤ Gen.pageWriterValueCap := by decide

/-! ## Statistics builder -/

/-- For every physical type, type length and history of builder calls (null counts not negative):
what `carquet_statistics_build` emits is true of the rows the accepted calls described —
emitted min ≤ every non-null value ≤ emitted max in the type's statistics order, emitted
null_count = number of nulls — and an emitted bound is one of the values (the `exact` flags). -/
theorem C16_builder_bounds (t : PType) (tl : Int) (ops : List BOp) (hw : ∀ o ∈ ops, WfOp o) :
    TrueBounds t (toStats (build (runOps (create t tl) ops))) (rowsOf (create t tl) ops) ∧
    (∀ lo, (build (runOps (create t tl) ops)).minValue = some lo → some lo ∈ rowsOf (create t tl) ops) ∧
    (∀ hi, (build (runOps (create t tl) ops)).maxValue = some hi → some hi ∈ rowsOf (create t tl) ops) := by
  have h := binv_runOps t tl ops (create t tl) [] hw (binv_create t tl)
  simpa using binv_build t tl _ _ h

-- non-vacuity: FLOAT {NaN, 5, -3} plus two nulls: min -3, max NaN, null_count 2
example :
    toStats (build (runOps (create .float 0)
      [.values [0,0,0xc0,0x7f, 0,0,0xa0,0x40, 0,0,0x40,0xc0] 3, .nulls 2])) =
      { min := some [0,0,0x40,0xc0], max := some [0,0,0xc0,0x7f], nullCount := some 2 } := by decide +kernel
example : ∀ o ∈ [BOp.values [0,0,0xc0,0x7f, 0,0,0xa0,0x40, 0,0,0x40,0xc0] 3, BOp.nulls 2], WfOp o := by
  intro o ho; simp at ho; rcases ho with rfl | rfl <;> simp [WfOp]

/-! ## Page writer -/

/-- For every type, max definition level and history of batches (one definition level per row
when levels are given): the statistics the page writer hands out, which are the ones it writes
into the data page header, are true of the rows written. -/
theorem C16_page_stats_bounds (t : PType) (md : Int) (bs : List Batch) (hw : ∀ b ∈ bs, WfBatch b) :
    TrueBounds t (pwStats (pwRun { type := t, maxDef := md } bs)) (pwRows { type := t, maxDef := md } bs) ∧
    (∀ p, pwHeaderStats (pwRun { type := t, maxDef := md } bs) = some p →
      toStats p = pwStats (pwRun { type := t, maxDef := md } bs)) := by
  have h0 : PInv t md ({ type := t, maxDef := md } : PageW) [] :=
    ⟨rfl, rfl, rfl, fun _ => MM.inv_empty t [] [], fun _ => rfl⟩
  have h := pinv_run t md bs _ [] hw h0
  refine ⟨by simpa using pinv_stats t md _ _ h, ?_⟩
  intro p hp
  unfold pwHeaderStats at hp
  split at hp
  · rename_i hc
    cases hp
    simp [toStats, pwStats, pwGetStatistics, hc.2]
  · cases hp

-- non-vacuity: the F18 witness {NaN, 5, -3} now gives min -3, max NaN; one null counted
example :
    pwStats (pwRun { type := .float, maxDef := 1 }
      [{ data := [0,0,0xc0,0x7f, 0,0,0xa0,0x40, 0,0,0x40,0xc0], numValues := 4, defs := some [1, 1, 0, 1] }]) =
      { min := some [0,0,0x40,0xc0], max := some [0,0,0xc0,0x7f], nullCount := some 1 } := by decide +kernel

/-! ## Row-group pruning -/

/-- No false negative: if the statistics the reader finds for the chunk (new fields, else the
deprecated pair) are true bounds of the rows of that row group, and some row satisfies
`row op probe`, then `carquet_reader_row_group_matches` sets might_match — for all six
operators, every physical type, any probe bytes, any indices (on an error it is set too). -/
theorem C16_prune_sound (r : Reader) (rg col : Int) (op : Op) (probe : List UInt8) (rows : List Row)
    (hb : ∀ st, columnStatistics r rg col = (.ok, st) → st.hasMinMax = true →
      TrueBounds (leafType r col) { min := some st.minValue, max := some st.maxValue } rows)
    (hm : ∃ v, some v ∈ rows ∧ sat (leafType r col) op v probe = true) :
    (rowGroupMatches r rg col op probe).2 = true := by
  obtain ⟨v, hv, hs⟩ := hm
  unfold rowGroupMatches
  rcases hcs : columnStatistics r rg col with ⟨s, st⟩
  cases s
  case ok =>
    by_cases hh : st.hasMinMax = false
    · simp [hh]
    · have hh' : st.hasMinMax = true := by cases h : st.hasMinMax <;> simp_all
      simp only [hh]
      have tb := hb st hcs hh'
      exact decideMatch_sound _ op probe st v (tb.1 _ rfl v hv) (tb.2.1 _ rfl v hv) hs
  all_goals rfl

-- non-vacuity: a FLOAT group {1.0, NaN} with the builder's statistics [1.0, NaN]; `x > 0.0`
example :
    (rowGroupMatches
      (readerOf .float [(2, some { minValue := some [0,0,0x80,0x3f], maxValue := some [0,0,0xc0,0x7f] })])
      0 0 .gt [0,0,0,0]).2 = true := by decide +kernel
example : TrueBounds .float { min := some [0,0,0x80,0x3f], max := some [0,0,0xc0,0x7f] }
    [some [0,0,0x80,0x3f], some [0,0,0xc0,0x7f]] := by
  refine ⟨?_, ?_, by simp⟩ <;> intro b hb x hx <;> cases hb <;> simp at hx <;> rcases hx with rfl | rfl <;> decide +kernel

/-- Absent statistics (no chunk metadata, no Statistics struct, neither the new nor the
deprecated pair complete) and every error always mean "might match". -/
theorem C16_absent_stats_match (r : Reader) (rg col : Int) (op : Op) (probe : List UInt8)
    (h : (columnStatistics r rg col).1 ≠ .ok ∨ (columnStatistics r rg col).2.hasMinMax = false) :
    rowGroupMatches r rg col op probe = ((columnStatistics r rg col).1, true) := by
  unfold rowGroupMatches
  rcases hcs : columnStatistics r rg col with ⟨s, st⟩
  rw [hcs] at h
  cases s <;> simp_all

example : (columnStatistics (readerOf .int32 [(2, some { minValue := some [1,0,0,0] })]) 0 0).2.hasMinMax = false := by
  decide +kernel

/-- `groupPred` is "matches or undecidable". -/
theorem C16_groupPred_iff (r : Reader) (col : Int) (op : Op) (value : List UInt8) (i : Nat) :
    groupPred r col op value i = true ↔
      ((rowGroupMatches r (i : Int) col op value).1 ≠ .ok ∨ (rowGroupMatches r (i : Int) col op value).2 = true) := by
  unfold groupPred
  rcases rowGroupMatches r (i : Int) col op value with ⟨s, b⟩
  cases s <;> simp

/-- `carquet_reader_filter_row_groups` returns −1 and writes nothing when `max_indices ≤ 0`;
otherwise it writes exactly the first `max_indices` of the ascending list of row groups that
match or are undecidable, and returns how many it wrote. -/
theorem C16_filter_exact (r : Reader) (col : Int) (op : Op) (value : List UInt8) (maxIdx : Int) :
    filterRowGroups r col op value maxIdx =
      if maxIdx ≤ 0 then ((-1 : Int), [])
      else
        ((((((List.range r.rowGroups.length).filter (groupPred r col op value)).take maxIdx.toNat).length : Nat) : Int),
         ((List.range r.rowGroups.length).filter (groupPred r col op value)).take maxIdx.toNat) := by
  unfold filterRowGroups
  by_cases h : maxIdx ≤ 0
  · simp [h]
  · simp only [h, if_false]
    rw [filterLoop_spec _ _ _ [] (by simp)]
    simp

/-- the list written is strictly ascending -/
theorem C16_filter_ascending (r : Reader) (col : Int) (op : Op) (value : List UInt8) (maxIdx : Int) :
    List.Pairwise (· < ·) (filterRowGroups r col op value maxIdx).2 := by
  rw [C16_filter_exact]
  split
  · exact List.Pairwise.nil
  · exact (List.Pairwise.filter _ List.pairwise_lt_range).take

example : filterRowGroups
    (readerOf .int32 [(1, some { minValue := some [1,0,0,0], maxValue := some [5,0,0,0] }),
                      (1, some { minValue := some [7,0,0,0], maxValue := some [9,0,0,0] }),
                      (1, none),
                      (1, some { minValue := some [2,0,0,0], maxValue := some [3,0,0,0] })])
    0 .le [4,0,0,0] 2 = (2, [0, 2]) := by decide +kernel

/-! ## Helpers -/

/-- `carquet_statistics_compare`, `carquet_statistics_range_overlaps` and
`carquet_column_index_page_might_match` have no false negatives: with true bounds, a row equal
to the value gives "in range" (0); a row inside the query range gives "overlaps" /
"might match".  (BOOLEAN is compared bytewise by `range_overlaps`, so there the query values
and bounds must be one byte long, i.e. `Valid`.) -/
theorem C16_helpers_sound :
    (∀ (s : PStats) (t : PType) (value : List UInt8) (rows : List Row),
      TrueBounds t { min := present s.minValue, max := present s.maxValue } rows →
      (∃ v, some v ∈ rows ∧ sat t .eq v value = true) → (statsCompare s t value).2 = 0) ∧
    (∀ (s : PStats) (t : PType) (qmin qmax : Option (List UInt8)) (rows : List Row),
      (∀ q, qmin = some q → Valid t q) → (∀ q, qmax = some q → Valid t q) →
      (∀ b, present s.minValue = some b → Valid t b) → (∀ b, present s.maxValue = some b → Valid t b) →
      TrueBounds t { min := present s.minValue, max := present s.maxValue } rows →
      (∃ v, some v ∈ rows ∧ inRange t qmin qmax v = true) → (rangeOverlaps s t qmin qmax).2 = true) ∧
    (∀ (ci : ColumnIndex) (idx : Nat) (p : PageEntry) (qmin qmax : Option (List UInt8)) (rows : List Row),
      ci.pages[idx]? = some p →
      (p.nullPage = true → ∀ x, some x ∉ rows) →
      TrueBounds ci.type { min := p.minV, max := p.maxV } rows →
      (∃ v, some v ∈ rows ∧ inRange ci.type qmin qmax v = true) →
      pageMightMatch ci (idx : Int) qmin qmax = (.ok, true)) := by
  refine ⟨statsCompare_sound, ?_, ?_⟩
  · intro s t qmin qmax rows v1 v2 v3 v4 hb hm
    exact rangeOverlapsWith_sound cmpRange s t qmin qmax rows
      (fun q lo hq hl => cmpRange_eq t q lo (v2 q hq) (v3 lo hl))
      (fun q hi hq hh => cmpRange_eq t q hi (v1 q hq) (v4 hi hh)) hb hm
  · intro ci idx p qmin qmax rows hp hnull hb hm
    have hlt : idx < ci.pages.length := by
      rcases Nat.lt_or_ge idx ci.pages.length with h | h
      · exact h
      · rw [List.getElem?_eq_none h] at hp; cases hp
    unfold pageMightMatch
    have h1 : ¬ ((idx : Int) < 0 ∨ (idx : Int) ≥ (ci.pages.length : Int)) := by omega
    simp only [h1, if_false, Int.toNat_natCast, hp]
    rw [pageDecide_sound ci.type p qmin qmax rows hnull hb hm]

-- non-vacuity: the F18 witness, page [1, 1000] of INT32 against x ≤ 256, now might match
example : pageMightMatch { type := .int32, typeLength := 0, pages :=
      [{ nullCount := 0, minV := some [1,0,0,0], maxV := some [0xe8,3,0,0], nullPage := false }] }
    0 none (some [0,1,0,0]) = (.ok, true) := by decide +kernel

/-! ## Counterexamples for the code before the fixes (kept as regressions) -/

/-- F18a: before the fix a leading NaN froze the page writer's FLOAT statistics:
{NaN, 5, −3} gave min = max = NaN, which does not bound 5 (NaN is above 5, so min ≤ 5 fails). -/
theorem C16_regression_F18a :
    pwStats (pwRunPreFix { type := .float, maxDef := 0 }
      [{ data := [0,0,0xc0,0x7f, 0,0,0xa0,0x40, 0,0,0x40,0xc0], numValues := 3, defs := none }]) =
      { min := some [0,0,0xc0,0x7f], max := some [0,0,0xc0,0x7f], nullCount := some 0 } ∧
    ¬ tle .float [0,0,0xc0,0x7f] [0,0,0xa0,0x40] := by
  decide +kernel

/-- F18b: before the fix a byte array longer than 256 bytes was skipped silently: "b" and
300 × "a" gave min "b" flagged exact, although 300 × "a" < "b". -/
theorem C16_regression_F18b :
    (buildPreFix (addByteArraysPreFix (create .byteArray 0) [[0x62], List.replicate 300 0x61]).2).minValue = some [0x62] ∧
    (buildPreFix (addByteArraysPreFix (create .byteArray 0) [[0x62], List.replicate 300 0x61]).2).isMinValueExact = some true ∧
    ¬ tle .byteArray [0x62] (List.replicate 300 0x61) ∧
    (build (addByteArrays (create .byteArray 0) [[0x62], List.replicate 300 0x61]).2).minValue = none := by
  decide +kernel

/-- F18c: before the fix a FIXED_LEN_BYTE_ARRAY wider than 256 bytes was copied into the
256-byte `min_value` field; now the call is refused. -/
theorem C16_regression_F18c (data : List UInt8) :
    addValuesPreFix (create .flba 300) data 1 = .error .bufferOverflow ∧
    (addValues (create .flba 300) data 1).1 = .invalidArgument := by
  constructor <;> rfl

/-- F18d: before the fix the page filter compared typed values with memcmp: the INT32 page
[1, 1000] (little-endian) against `x ≤ 256` gave "no match" although the row 1 is in range. -/
theorem C16_regression_F18d :
    pageDecidePreFix { nullCount := 0, minV := some [1,0,0,0], maxV := some [0xe8,3,0,0], nullPage := false }
      none (some [0,1,0,0]) = false ∧
    inRange .int32 none (some [0,1,0,0]) [1,0,0,0] = true := by
  decide +kernel

/-- F18e: before the fix `range_overlaps` compared INT96 bytewise: bounds [5, 5] against
`x ≤ 2^32` gave "no overlap" although 5 ≤ 2^32. -/
theorem C16_regression_F18e :
    (rangeOverlapsPreFix { minValue := some [5,0,0,0, 0,0,0,0, 0,0,0,0], maxValue := some [5,0,0,0, 0,0,0,0, 0,0,0,0] }
      .int96 none (some [0,0,0,0, 1,0,0,0, 0,0,0,0])).2 = false ∧
    inRange .int96 none (some [0,0,0,0, 1,0,0,0, 0,0,0,0]) [5,0,0,0, 0,0,0,0, 0,0,0,0] = true ∧
    (rangeOverlaps { minValue := some [5,0,0,0, 0,0,0,0, 0,0,0,0], maxValue := some [5,0,0,0, 0,0,0,0, 0,0,0,0] }
      .int96 none (some [0,0,0,0, 1,0,0,0, 0,0,0,0])).2 = true := by
  decide +kernel

def f19Reader : Reader :=
  readerOf .float [(2, some { minValue := some [0,0,0x80,0x3f], maxValue := some [0,0,0xc0,0x7f] })]

/-- F19a: before the fix a NaN compared equal to everything: the group {1.0, NaN} with
statistics [1.0, NaN] was pruned for `x > 0.0` although 1.0 matches, and for `x != NaN`, which
every row satisfies. -/
theorem C16_regression_F19a :
    rowGroupMatchesPreFix f19Reader 0 0 .gt [0,0,0,0] = .ok (.ok, false) ∧
    rowGroupMatchesPreFix f19Reader 0 0 .ne [0,0,0xc0,0x7f] = .ok (.ok, false) ∧
    sat .float .gt [0,0,0x80,0x3f] [0,0,0,0] = true ∧ sat .float .ne [0,0,0x80,0x3f] [0,0,0xc0,0x7f] = true ∧
    (rowGroupMatches f19Reader 0 0 .gt [0,0,0,0]).2 = true := by
  refine ⟨by rfl, by rfl, by decide +kernel, by decide +kernel, by decide +kernel⟩

/-- F19b: before the fix BOOLEAN went through the INT32 comparator: a one-byte probe and
one-byte bounds were read as four bytes. -/
theorem C16_regression_F19b :
    rowGroupMatchesPreFix (readerOf .boolean [(2, some { minValue := some [0], maxValue := some [1] })])
      0 0 .eq [1] = .error .overread := by rfl

/-- F19c: before the fix INT96 bounds were compared bytewise: bounds [1, 2^32] pruned
`x = 2` although 1 ≤ 2 ≤ 2^32 in the order the statistics builder uses. -/
theorem C16_regression_F19c :
    rowGroupMatchesPreFix
      (readerOf .int96 [(3, some { minValue := some [1,0,0,0, 0,0,0,0, 0,0,0,0], maxValue := some [0,0,0,0, 1,0,0,0, 0,0,0,0] })])
      0 0 .eq [2,0,0,0, 0,0,0,0, 0,0,0,0] = .ok (.ok, false) ∧
    tle .int96 [1,0,0,0, 0,0,0,0, 0,0,0,0] [2,0,0,0, 0,0,0,0, 0,0,0,0] ∧
    tle .int96 [2,0,0,0, 0,0,0,0, 0,0,0,0] [0,0,0,0, 1,0,0,0, 0,0,0,0] := by
  refine ⟨by rfl, by decide +kernel, by decide +kernel⟩

end Carquet.Properties.C16
