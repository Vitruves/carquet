import Carquet.Proofs.ThriftModel
/-
The Thrift decoder on an input and on an EXTENSION of it (C06, the fread header window after fix F62).

`Ext x N d d'`: the decoder `d'` is the decoder `d` with the bytes `x` appended to its unread input
(and a ghost loop budget at least as large); neither has an error status.  `N` is the length of the
short input: `d.pos + d.rest.length = N` is part of the relation.

`Good x N val dec f`, for a step `f` of the decoder: the status is sticky (no error after `f` → no error
before `f`), and
    Ext x N d d' → no error after `f d` → `f d'` returns the same value ∧ Ext x N (after f d) (after f d')
("if the run on the short input is still error-free after `f`, the run on the long input did the same
thing").  So an error-free END of a run on the short input makes every intermediate step error-free.
Steps are put together with `Good.bind`, `Good.map`, `Good.ite`, … along the definitions of the decoder:
the straight-line readers in Proofs.ThriftSafe (`Fwd`), the loops and `thrift_skip` in Proofs.ImplReadsPrefix2.
-/
namespace Carquet.Proofs.ImplReads.Prefix
open Carquet.Impl Carquet.Impl.Thrift
open Carquet.Proofs.Thrift (lengthGe_iff setError_status_ne)

structure Ext (x : List UInt8) (N : Nat) (d d' : Dec) : Prop where
  rest : d'.rest = d.rest ++ x
  pos : d'.pos = d.pos
  lastId : d'.lastId = d.lastId
  bp : d'.boolPending = d.boolPending
  bv : d'.boolValue = d.boolValue
  st : d.status = none
  st' : d'.status = none
  ov : d'.overlay = d.overlay
  bud : d.budget ≤ d'.budget
  len : d.pos + d.rest.length = N

variable {x : List UInt8} {N : Nat}

theorem Ext.elim {d d' : Dec} (h : Ext x N d d') :
    ∃ b, d.budget ≤ b ∧ d' = ⟨d.rest ++ x, d.pos, d.lastId, d.boolPending, d.boolValue, none, d.overlay, b⟩ ∧
      d.status = none ∧ d.pos + d.rest.length = N := by
  obtain ⟨rest', pos', l', bp', bv', st', ov', b'⟩ := d'
  obtain ⟨h1, h2, h3, h4, h5, h6, h7, h8, h9, h10⟩ := h
  simp only at h1 h2 h3 h4 h5 h7 h8 h9
  subst h1 h2 h3 h4 h5 h7 h8
  exact ⟨b', h9, rfl, h6, h10⟩

theorem Ext.intro' (rest : List UInt8) (pos : Nat) (l : List Int) (bp bv ov : Bool) (b b' : Nat) (hb : b ≤ b')
    (hl : pos + rest.length = N) :
    Ext x N ⟨rest, pos, l, bp, bv, none, ov, b⟩ ⟨rest ++ x, pos, l, bp, bv, none, ov, b'⟩ :=
  ⟨rfl, rfl, rfl, rfl, rfl, rfl, rfl, rfl, hb, hl⟩

set_option hygiene false in
/-- destructure `d`, `d'` and the relation: afterwards `d = ⟨rest, pos, l, bp, bv, none, ov, bud⟩` and
`d' = ⟨rest ++ x, pos, l, bp, bv, none, ov, b⟩` with `hb : bud ≤ b`, `hl : pos + rest.length = N` -/
macro "ext_destruct " d:ident hE:ident : tactic =>
  `(tactic| (
    obtain ⟨rest, pos, l, bp, bv, st, ov, bud⟩ := $d
    obtain ⟨b, hb, rfl, hst, hl⟩ := Ext.elim $hE
    simp only at hst hl hb
    subst hst))

theorem Ext.setLastId {d d' : Dec} (hE : Ext x N d d') (l : List Int) :
    Ext x N { d with lastId := l } { d' with lastId := l } := by
  ext_destruct d hE
  exact Ext.intro' _ _ _ _ _ _ _ _ hb hl

theorem Ext.setBool {d d' : Dec} (hE : Ext x N d d') (p v : Bool) :
    Ext x N { d with boolPending := p, boolValue := v } { d' with boolPending := p, boolValue := v } := by
  ext_destruct d hE
  exact Ext.intro' _ _ _ _ _ _ _ _ hb hl

/-! ### steps and their combinators -/

/-- `f : Dec → ρ` is a step whose result holds a value (`val`) and the decoder it leaves (`dec`).
(`val` and `dec` are given as functions, not through a structure: `dec (f d)` must reduce to the projection
the decoder's definitions use by β alone, or the kernel unfolds `f d` to compare the two.) -/
def Good {ρ α : Type} (x : List UInt8) (N : Nat) (val : ρ → α) (dec : ρ → Dec) (f : Dec → ρ) : Prop :=
  (∀ d, (dec (f d)).status = none → d.status = none) ∧
  ∀ d d', Ext x N d d' → (dec (f d)).status = none → val (f d') = val (f d) ∧ Ext x N (dec (f d)) (dec (f d'))

abbrev GoodP {α : Type} (x : List UInt8) (N : Nat) (f : Dec → α × Dec) : Prop := Good x N Prod.fst Prod.snd f
abbrev GoodD (x : List UInt8) (N : Nat) (k : Dec → Dec) : Prop := Good x N (fun _ => ()) (fun d => d) k

section
variable {ρ σ α β : Type} {val : ρ → α} {dec : ρ → Dec} {val' : σ → β} {dec' : σ → Dec}

theorem Good.fail {r : Dec → ρ} (hr : ∀ d, (dec (r d)).status ≠ none := by exact fun _ => setError_status_ne _ _) :
    Good x N val dec r :=
  ⟨fun d h => absurd h (hr d), fun d _ _ h => absurd h (hr d)⟩

theorem Good.pure {r : Dec → ρ} (hv : ∀ d d', val (r d') = val (r d) := by exact fun _ _ => rfl)
    (hd : ∀ d, dec (r d) = d := by exact fun _ => rfl) : Good x N val dec r :=
  ⟨fun d h => by rwa [hd] at h, fun d d' hE _ => ⟨hv d d', by rw [hd, hd]; exact hE⟩⟩

theorem Good.bind {f : Dec → ρ} {g : α → Dec → σ} (hf : Good x N val dec f) (hg : ∀ a, Good x N val' dec' (g a)) :
    Good x N val' dec' (fun d => g (val (f d)) (dec (f d))) :=
  ⟨fun d h => hf.1 d ((hg _).1 _ h), fun d d' hE hs => by
    obtain ⟨h1, h2⟩ := hf.2 d d' hE ((hg _).1 _ hs)
    simp only [h1]
    exact (hg _).2 _ _ h2 hs⟩

/-- `bind` with the continuation written on the whole result `r` (`hk`, for a variable `r`, says that it uses
`val r` and `dec r` only): for results that are structures the kernel then compares `g (f d)` with the
decoder's definition literally, without taking `f d` apart -/
theorem Good.bind' {f : Dec → ρ} {k : α → Dec → σ} (hf : Good x N val dec f) (hg : ∀ a, Good x N val' dec' (k a))
    (g : ρ → σ) (hk : ∀ r, g r = k (val r) (dec r) := by exact fun _ => rfl) : Good x N val' dec' (fun d => g (f d)) := by
  simp only [hk]
  exact hf.bind hg

theorem Good.map {f : Dec → ρ} (hf : Good x N val dec f) (φ : α → β) : GoodP x N (fun d => (φ (val (f d)), dec (f d))) :=
  ⟨hf.1, fun d d' hE hs => ⟨congrArg φ (hf.2 d d' hE hs).1, (hf.2 d d' hE hs).2⟩⟩

/-- The lock-step half for a caller whose hypothesis is about a decoder `s` that is `dec (f d)` only up to β
(`dec` a `fun`): under `.status` the kernel does not β-reduce the argument, it unfolds `f d`; the equation `hd` is
checked without the projection around it. -/
theorem Good.lockstep {f : Dec → ρ} (hf : Good x N val dec f) {d d' : Dec} (hE : Ext x N d d') {s : Dec}
    (hs : s.status = none) (hd : s = dec (f d)) : val (f d') = val (f d) ∧ Ext x N s (dec (f d')) := by
  subst hd
  exact hf.2 d d' hE hs

/-- The sticky half, for the same kind of caller. -/
theorem Good.sticky {f : Dec → ρ} (hf : Good x N val dec f) {d s : Dec} (hs : s.status = none)
    (hd : s = dec (f d)) : d.status = none := by
  subst hd
  exact hf.1 d hs

theorem Good.ite {c : Prop} [Decidable c] {f g : Dec → ρ} (hf : Good x N val dec f) (hg : Good x N val dec g) :
    Good x N val dec (fun d => if c then f d else g d) := by
  by_cases hc : c
  · simp only [if_pos hc]; exact hf
  · simp only [if_neg hc]; exact hg

theorem Good.guard {f : Dec → ρ} {r : Err → Dec → ρ} (hf : Good x N val dec f)
    (hr : ∀ e d, dec (r e d) = d := by exact fun _ _ => rfl) :
    Good x N val dec (fun d => match d.status with | some e => r e d | none => f d) := by
  refine ⟨fun d h => ?_, fun d d' hE hs => ?_⟩
  · cases hd : d.status with
    | none => rfl
    | some e => simp only [hd, hr] at h; cases h
  · simp only [hE.st, hE.st'] at hs ⊢
    exact hf.2 d d' hE hs

theorem Ext.has {d d' : Dec} (hE : Ext x N d d') (n : Nat) (h : d.has n = true) :
    d'.has n = true ∧ d'.rest.take n = d.rest.take n ∧ Ext x N (d.advance n) (d'.advance n) := by
  ext_destruct d hE
  simp only [Dec.has, lengthGe_iff] at h ⊢
  refine ⟨by simp; omega, List.take_append_of_le_length h, ?_⟩
  simp only [Dec.advance, List.drop_append_of_le_length h]
  exact Ext.intro' _ _ _ _ _ _ _ _ hb (by simp; omega)

theorem Good.take (n : Nat) {g : List UInt8 → Dec → ρ} {r : Dec → ρ} (hg : ∀ bs, Good x N val dec (g bs))
    (hr : ∀ d, (dec (r d)).status ≠ none := by exact fun _ => setError_status_ne _ _) :
    Good x N val dec (fun d => if d.has n then g (d.rest.take n) (d.advance n) else r d) := by
  refine ⟨fun d h => ?_, fun d d' hE hs => ?_⟩ <;> by_cases hn : d.has n = true
  · simp only [hn, if_true] at h; exact (hg _).1 (d.advance n) h
  · simp only [hn] at h; exact absurd h (hr d)
  · obtain ⟨h1, h2, h3⟩ := hE.has n hn
    simp only [hn, h1, h2, if_true] at hs ⊢
    exact (hg _).2 _ _ h3 hs
  · simp only [hn] at hs; exact absurd hs (hr d)

theorem Good.needs (n : Nat) {f r : Dec → ρ} (hf : Good x N val dec f)
    (hr : ∀ d, (dec (r d)).status ≠ none := by exact fun _ => setError_status_ne _ _) :
    Good x N val dec (fun d => if !d.has n then r d else f d) := by
  refine ⟨fun d h => ?_, fun d d' hE hs => ?_⟩ <;> by_cases hn : d.has n = true
  · simp only [hn, Bool.not_true, Bool.false_eq_true, if_false] at h; exact hf.1 d h
  · simp only [hn, Bool.not_false, if_true] at h; exact absurd h (hr d)
  · simp only [hn, (hE.has n hn).1, Bool.not_true, Bool.false_eq_true, if_false] at hs ⊢
    exact hf.2 d d' hE hs
  · simp only [hn, Bool.not_false, if_true] at hs; exact absurd hs (hr d)

theorem Good.peek {β : Type} (π : Dec → β) (hπ : ∀ d d', Ext x N d d' → π d' = π d) {g : β → Dec → ρ}
    (hg : ∀ b, Good x N val dec (g b)) : Good x N val dec (fun d => g (π d) d) :=
  ⟨fun d h => (hg _).1 d h, fun d d' hE hs => by simpa only [hπ d d' hE] using (hg _).2 d d' hE hs⟩

end

theorem good_mapLastId (φ : List Int → List Int) : GoodD x N (fun d => { d with lastId := φ d.lastId }) :=
  ⟨fun _ h => h, fun d d' hE _ => ⟨rfl, by simpa only [hE.lastId] using hE.setLastId (φ d.lastId)⟩⟩

theorem good_setBool (p v : Bool) : GoodD x N (fun d => { d with boolPending := p, boolValue := v }) :=
  ⟨fun _ h => h, fun _ _ hE _ => ⟨rfl, hE.setBool p v⟩⟩

end Carquet.Proofs.ImplReads.Prefix
