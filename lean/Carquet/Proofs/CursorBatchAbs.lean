import Carquet.Proofs.CursorBatchRun
/-
C02, batch reader: properties of the abstract machine — every batch is aligned, the reader ends
with END_OF_DATA, and the concatenation of the batches is the content of the projected columns.
-/
namespace Carquet.Proofs.Cursor
open Carquet.Spec.Cursor (Row)
open Carquet.Impl.BatchReader

/-! ### content of one batch column -/

theorem spread_rows (maxDef : Nat) (rows : List (Row α)) (pad : List (Option α))
    (hwf : ∀ row ∈ rows, Row.WF maxDef row) :
    spread (rows.map (fun row => decide (row.defLevel < maxDef))) ((rows.filterMap (·.val)).map some ++ pad) =
      rows.map (·.val) := by
  induction rows with
  | nil => simp [spread]
  | cons row rows ih =>
    have hw := hwf row (by simp)
    have ih' := ih (fun x hx => hwf x (by simp [hx]))
    by_cases hd : row.defLevel = maxDef
    · have hs : row.val.isSome := hw.2.2 hd
      cases hv : row.val with
      | none => simp [hv] at hs
      | some v =>
        have : ¬ row.defLevel < maxDef := by omega
        simp only [List.map_cons, this, decide_false, List.filterMap_cons, hv, List.cons_append, spread, ih']
    · have hn : ¬ row.val.isSome := fun hs => hd (hw.2.1 hs)
      cases hv : row.val with
      | some v => simp [hv] at hn
      | none =>
        have : row.defLevel < maxDef := by have := hw.1; omega
        simp only [List.map_cons, this, decide_true, List.filterMap_cons, hv, spread, ih']

theorem nullAt_rows (maxDef : Nat) (rows : List (Row α)) (i : Nat) (hi : i < rows.length) :
    nullAt maxDef (rows.map (fun row => some row.defLevel)) i = decide (rows[i].defLevel < maxDef) := by
  simp [nullAt, List.getElem?_map, List.getElem?_eq_getElem hi]

/-- **A batch column that delivers well-formed rows decodes to exactly those rows.** -/
theorem content_specCol (maxDef rtr : Nat) (rows : List (Row α)) (view : Bool) (hlen : rows.length ≤ rtr)
    (hwf : ∀ row ∈ rows, Row.WF maxDef row) :
    (specCol maxDef rtr rows view).content = rows.map (·.val) := by
  unfold ColData.content specCol
  simp only [Int.toNat_natCast]
  have hflags : (List.range rows.length).map
      (bitmapBit (buildBitmap maxDef (rows.map (fun row => some row.defLevel)) rows.length rtr)) =
      rows.map (fun row => decide (row.defLevel < maxDef)) := by
    apply List.ext_getElem
    · simp
    · intro i h1 h2
      simp only [List.length_map, List.length_range] at h1
      simp only [List.getElem_map, List.getElem_range]
      rw [buildBitmap_bit _ _ _ _ hlen i h1, nullAt_rows _ _ _ h1]
  rw [hflags]
  exact spread_rows maxDef rows _ hwf

/-! ### the abstract run -/

/-- rows of projected column `j` in a list of per-column row lists -/
def colRows (j : Nat) (Ps : List (List (Row α))) : List (Row α) := (Ps[j]?).getD []

/-- the logical content of projected column `j` from the abstract state on -/
def absContent (j : Nat) (s : AbsSt α) : List (Option α) :=
  (colRows j (s.cur.getD [])).map (·.val) ++ s.later.flatMap (fun rg => (colRows j rg).map (·.val))

/-- content of column `j` of a batch -/
def batchCol (j : Nat) (b : Batch α) : List (Option α) := ((b.cols[j]?).map ColData.content).getD []

/-- per-column row lists `Ps` fit the columns `cols`: one list per column, its rows well formed for the
column's maximum definition level -/
inductive RowsOk : List Column → List (List (Row α)) → Prop
  | nil : RowsOk [] []
  | cons {col : Column} {P : List (Row α)} {cols Ps} :
    (∀ row ∈ P, Row.WF col.maxDef row) → RowsOk cols Ps → RowsOk (col :: cols) (P :: Ps)

structure AbsOk (cols : List Column) (s : AbsSt α) : Prop where
  cur : ∀ Ps, s.cur = some Ps → RowsOk cols Ps ∧ ∀ P ∈ Ps, P.length = headLen Ps
  later : ∀ rg ∈ s.later, RowsOk cols rg ∧ ∀ P ∈ rg, P.length = headLen rg

/-- number of `next` calls still needed (bound) -/
def absMeasure (s : AbsSt α) : Nat :=
  headLen (s.cur.getD []) + (s.later.map (fun rg => headLen rg + 1)).sum

theorem rowsOk_drop (n : Nat) {cols : List Column} {Ps : List (List (Row α))} (h : RowsOk cols Ps) :
    RowsOk cols (Ps.map (List.drop n)) := by
  induction h with
  | nil => exact .nil
  | cons hwf _ ih => exact .cons (fun row hrow => hwf row (List.mem_of_mem_drop hrow)) ih

theorem rowsOk_getElem? {cols : List Column} {Ps : List (List (Row α))} (h : RowsOk cols Ps) (j : Nat) :
    match cols[j]?, Ps[j]? with
    | some col, some P => ∀ row ∈ P, Row.WF col.maxDef row
    | none, none => True
    | _, _ => False := by
  induction h generalizing j with
  | nil => trivial
  | cons hwf _ ih => cases j with
    | zero => exact hwf
    | succ j => exact ih j

theorem batchCol_absRead (n : Nat) (cols : List Column) (bs : Nat) (Ps : List (List (Row α))) (j : Nat)
    (hok : RowsOk cols Ps) (_heq : ∀ P ∈ Ps, P.length = headLen Ps) :
    batchCol j (absRead n cols bs Ps).1 ++ (colRows j (absRead n cols bs Ps).2).map (·.val) =
      (colRows j Ps).map (·.val) := by
  unfold absRead
  by_cases hz : min (headLen Ps) bs = 0
  · simp only [hz, if_true]
    have : batchCol j (emptyBatch n : Batch α) = [] := by
      simp only [batchCol, emptyBatch, List.getElem?_replicate]
      split <;> simp [ColData.content, spread]
    rw [this, List.nil_append]
  · simp only [hz, if_false]
    generalize min (headLen Ps) bs = rtr
    simp only [batchCol, colRows, absCols, List.getElem?_zipWith, List.getElem?_map]
    have hwf := rowsOk_getElem? hok j
    cases hc : cols[j]? with
    | none =>
      cases hP : Ps[j]? with
      | none => simp
      | some P => simp [hc, hP] at hwf
    | some col =>
      cases hP : Ps[j]? with
      | none => simp [hc, hP] at hwf
      | some P =>
        simp only [hc, hP] at hwf
        simp only [Option.map_some, Option.getD_some]
        rw [content_specCol _ _ _ _ (by simp [List.length_take]; omega)
          (fun row hrow => hwf row (List.mem_of_mem_take hrow)), ← List.map_append, List.take_append_drop]

theorem absRead_ok (n : Nat) (cols : List Column) (bs : Nat) (Ps : List (List (Row α)))
    (hok : RowsOk cols Ps) (heq : ∀ P ∈ Ps, P.length = headLen Ps) :
    RowsOk cols (absRead n cols bs Ps).2 ∧ (∀ P ∈ (absRead n cols bs Ps).2, P.length = headLen (absRead n cols bs Ps).2) ∧
      headLen (absRead n cols bs Ps).2 = headLen Ps - min (headLen Ps) bs := by
  unfold absRead
  by_cases hz : min (headLen Ps) bs = 0
  · simp only [hz, if_true]; exact ⟨hok, heq, by omega⟩
  · simp only [hz, if_false]
    refine ⟨rowsOk_drop _ hok, sameLen_drop _ Ps heq, ?_⟩
    cases Ps with
    | nil => simp [headLen]
    | cons P Ps => simp [headLen]

theorem absRead_aligned (n : Nat) (cols : List Column) (bs : Nat) (Ps : List (List (Row α)))
    (heq : ∀ P ∈ Ps, P.length = headLen Ps) :
    ∀ cd ∈ (absRead n cols bs Ps).1.cols, cd.numValues = (absRead n cols bs Ps).1.numRows := by
  unfold absRead
  by_cases hz : min (headLen Ps) bs = 0
  · simp only [hz, if_true, emptyBatch]
    intro cd hcd
    rw [List.mem_replicate] at hcd
    rw [hcd.2]
  · simp only [hz, if_false]
    exact absCols_numValues _ cols Ps (fun P hP => by rw [heq P hP]; omega)

section run
variable (n : Nat) (cols : List Column) (bs : Nat) (hbs0 : 0 < bs)
include hbs0

/-- one abstract step: a batch with its contribution, a smaller measure; or END_OF_DATA with nothing left -/
theorem absNext_step (s : AbsSt α) (h : AbsOk cols s) :
    (∃ s' b, absNext n cols bs s = (s', .ok, some b) ∧ AbsOk cols s' ∧ absMeasure s' < absMeasure s ∧
      (∀ cd ∈ b.cols, cd.numValues = b.numRows) ∧
      ∀ j, batchCol j b ++ absContent j s' = absContent j s) ∨
    (∃ s', absNext n cols bs s = (s', .endOfData, none) ∧ ∀ j, absContent j s = []) := by
  -- reading from rows `Ps` (current or freshly opened row group)
  have hread : ∀ (Ps : List (List (Row α))), RowsOk cols Ps → (∀ P ∈ Ps, P.length = headLen Ps) →
      ∀ j, batchCol j (absRead n cols bs Ps).1 ++ (colRows j (absRead n cols bs Ps).2).map (·.val) =
        (colRows j Ps).map (·.val) := fun Ps h1 h2 j => batchCol_absRead n cols bs Ps j h1 h2
  have hadv : (∀ Ps, s.cur = some Ps → headLen Ps = 0) →
      (∃ s' b, absAdvance n cols bs s = (s', .ok, some b) ∧ AbsOk cols s' ∧ absMeasure s' < absMeasure s ∧
        (∀ cd ∈ b.cols, cd.numValues = b.numRows) ∧
        ∀ j, batchCol j b ++ absContent j s' = absContent j s) ∨
      (∃ s', absAdvance n cols bs s = (s', .endOfData, none) ∧ ∀ j, absContent j s = []) := by
    intro hcur0
    -- the current group contributes nothing
    have hcurEmpty : ∀ j, (colRows j (s.cur.getD [])).map (·.val) = [] := by
      intro j
      cases hc : s.cur with
      | none => simp [colRows]
      | some Ps =>
        simp only [Option.getD_some, colRows]
        cases hP : Ps[j]? with
        | none => simp
        | some P =>
          have hmem : P ∈ Ps := List.mem_of_getElem? hP
          have := (h.cur Ps hc).2 P hmem
          rw [hcur0 Ps hc] at this
          simp [List.eq_nil_of_length_eq_zero this]
    unfold absAdvance
    cases hl : s.later with
    | nil =>
      right
      refine ⟨s, rfl, fun j => ?_⟩
      simp [absContent, hcurEmpty j, hl]
    | cons rg later =>
      left
      obtain ⟨hrok, hreq⟩ := h.later rg (by rw [hl]; simp)
      obtain ⟨h1, h2, h3⟩ := absRead_ok n cols bs rg hrok hreq
      refine ⟨_, _, rfl, ⟨?_, ?_⟩, ?_, absRead_aligned n cols bs rg hreq, ?_⟩
      · intro Ps hPs
        simp only [Option.some.injEq] at hPs
        subst hPs; exact ⟨h1, h2⟩
      · intro rg' hrg'; exact h.later rg' (by rw [hl]; simp [hrg'])
      · simp only [absMeasure, Option.getD_some, hl, List.map_cons, List.sum_cons, h3]
        have : headLen (s.cur.getD []) = 0 := by
          cases hc : s.cur with
          | none => simp [headLen]
          | some Ps => simpa using hcur0 Ps hc
        omega
      · intro j
        simp only [absContent, Option.getD_some, hl, List.flatMap_cons, hcurEmpty j, List.nil_append]
        rw [← List.append_assoc, hread rg hrok hreq j]
  unfold absNext
  cases hc : s.cur with
  | none =>
    simp only
    exact hadv (fun Ps hPs => by rw [hc] at hPs; cases hPs)
  | some Ps =>
    simp only
    by_cases hpos : headLen Ps > 0
    · simp only [hpos, if_true]
      left
      obtain ⟨hok, heq⟩ := h.cur Ps hc
      obtain ⟨h1, h2, h3⟩ := absRead_ok n cols bs Ps hok heq
      refine ⟨_, _, rfl, ⟨?_, h.later⟩, ?_, absRead_aligned n cols bs Ps heq, ?_⟩
      · intro Ps' hPs'
        simp only [Option.some.injEq] at hPs'
        subst hPs'; exact ⟨h1, h2⟩
      · simp only [absMeasure, Option.getD_some, hc, h3]
        omega
      · intro j
        simp only [absContent, Option.getD_some, hc]
        rw [← List.append_assoc, hread Ps hok heq j]
    · simp only [hpos, if_false]
      exact hadv (fun Ps' hPs' => by rw [hc] at hPs'; cases hPs'; omega)

/-- **The abstract run**: with enough fuel it ends with END_OF_DATA, every batch is aligned, and the
batches concatenate, column by column, to the content of the projected columns. -/
theorem absRun_ok : ∀ (fuel : Nat) (s : AbsSt α), AbsOk cols s → absMeasure s < fuel →
    (absRun n cols bs fuel s).2 = .endOfData ∧
    (∀ b ∈ (absRun n cols bs fuel s).1, ∀ cd ∈ b.cols, cd.numValues = b.numRows) ∧
    ∀ j, (absRun n cols bs fuel s).1.flatMap (batchCol j) = absContent j s := by
  intro fuel
  induction fuel with
  | zero => intro s _ h; omega
  | succ fuel ih =>
    intro s hok hm
    unfold absRun
    rcases absNext_step n cols bs hbs0 s hok with ⟨s', b, heq, hok', hlt, hal, hcont⟩ | ⟨s', heq, hnil⟩
    · rw [heq]
      simp only
      obtain ⟨h1, h2, h3⟩ := ih s' hok' (by omega)
      refine ⟨h1, ?_, ?_⟩
      · intro b' hb'
        simp only [List.mem_cons] at hb'
        rcases hb' with rfl | hb'
        · exact hal
        · exact h2 b' hb'
      · intro j
        simp only [List.flatMap_cons, h3 j, hcont j]
    · rw [heq]
      simp only
      refine ⟨trivial, ?_, ?_⟩
      · intro b hb; cases hb
      · intro j; simp [hnil j]

/-- alignment alone needs no fuel bound -/
theorem absRun_aligned : ∀ (fuel : Nat) (s : AbsSt α), AbsOk cols s →
    ∀ b ∈ (absRun n cols bs fuel s).1, ∀ cd ∈ b.cols, cd.numValues = b.numRows := by
  intro fuel
  induction fuel with
  | zero => intro s _ b hb; cases hb
  | succ fuel ih =>
    intro s hok
    unfold absRun
    rcases absNext_step n cols bs hbs0 s hok with ⟨s', b, heq, hok', _, hal, _⟩ | ⟨s', heq, _⟩
    · rw [heq]
      simp only
      intro b' hb'
      simp only [List.mem_cons] at hb'
      rcases hb' with rfl | hb'
      · exact hal
      · exact ih s' hok' b' hb'
    · rw [heq]
      simp only
      intro b hb; cases hb

end run

end Carquet.Proofs.Cursor
