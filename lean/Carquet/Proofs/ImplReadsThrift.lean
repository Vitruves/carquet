import Carquet.Proofs.ImplReadsDefs
import Carquet.Proofs.SpecFileThrift
import Carquet.Proofs.ThriftRoundtrip
/-
Unknown fields and the table description of carquet's struct parsers (Proofs/ThriftTable): fields
merged into a struct value by `withExtras` whose ids the parser's table does not know are skipped —
they change neither what the parser makes of the struct (`ofFields`) nor whether it accepts it
(`okFields`), provided they nest no deeper than the skip recursion allows.  For the stage proofs both
halves are `Takes.withExtras`, and `Takes.optF` is the piece for a member the reference writer states
or leaves out (`optField`), next to the pieces of Proofs/ThriftRoundtrip.
-/
namespace Carquet.Proofs.ImplReads
open Carquet.Spec Carquet.Spec.File Carquet.Spec.Thrift
open Carquet.Spec.ParquetThrift hiding Fields
open Carquet.Proofs.Thrift

theorem ofFields_insertField {σ : Type} (tbl : Table σ) (f : Int × TVal) (hf : lookupT tbl f.1 = none) :
    ∀ (fs : Fields) (s : σ), ofFields tbl s (insertField f fs) = ofFields tbl s fs
  | [], s => by simp [insertField, ofFields, stepT, hf]
  | g :: r, s => by
    simp only [insertField]
    split
    · simp [ofFields, stepT, hf]
    · have ih := ofFields_insertField tbl f hf r (stepT tbl s g.1 g.2)
      simp only [ofFields, List.foldl_cons] at ih ⊢
      exact ih

/-- **unknown fields are ignored**: the parser's result on a struct with merged-in unknown fields -/
theorem ofFields_withExtras {σ : Type} (tbl : Table σ) : ∀ (extra known : Fields) (s : σ),
    (∀ f ∈ extra, lookupT tbl f.1 = none) → ofFields tbl s (withExtras known extra) = ofFields tbl s known
  | [], known, s, _ => rfl
  | f :: r, known, s, h => by
    have ih := ofFields_withExtras tbl r (insertField f known) s (fun x hx => h x (by simp [hx]))
    simp only [withExtras, List.foldl_cons] at ih ⊢
    rw [ih, ofFields_insertField tbl f (h f (by simp))]

theorem mem_insertField (f x : Int × TVal) : ∀ fs : Fields, x ∈ insertField f fs → x = f ∨ x ∈ fs
  | [], h => by simp [insertField] at h; exact Or.inl h
  | g :: r, h => by
    simp only [insertField] at h
    split at h
    · simp only [List.mem_cons] at h ⊢
      rcases h with h | h | h
      · exact Or.inl h
      · exact Or.inr (Or.inl h)
      · exact Or.inr (Or.inr h)
    · simp only [List.mem_cons] at h ⊢
      rcases h with h | h
      · exact Or.inr (Or.inl h)
      · rcases mem_insertField f x r h with h' | h'
        · exact Or.inl h'
        · exact Or.inr (Or.inr h')

theorem mem_withExtras (x : Int × TVal) : ∀ (extra known : Fields), x ∈ withExtras known extra → x ∈ known ∨ x ∈ extra
  | [], known, h => Or.inl h
  | f :: r, known, h => by
    have ih := mem_withExtras x r (insertField f known)
    simp only [withExtras, List.foldl_cons] at ih h
    rcases ih h with h1 | h1
    · rcases mem_insertField f x known h1 with h2 | h2
      · exact Or.inr (by simp [h2])
      · exact Or.inl h2
    · exact Or.inr (by simp [h1])

/-- a struct with merged-in unknown fields is acceptable to the parser when the known part is and the
unknown fields nest at most `R` deep -/
theorem okFields_withExtras {σ : Type} (tbl : Table σ) (R : Nat) (known extra : Fields)
    (hk : okFields tbl R known) (hx : ∀ f ∈ extra, lookupT tbl f.1 = none) (hd : extrasDepth R extra = true) :
    okFields tbl R (withExtras known extra) := by
  intro f hf
  rcases mem_withExtras f extra known hf with h | h
  · exact hk f h
  · unfold okT
    rw [hx f h]
    unfold extrasDepth at hd
    rw [List.all_eq_true] at hd
    simpa using hd f h

theorem extrasDepth_mono {R R' : Nat} (h : R ≤ R') {extra : Fields} (hd : extrasDepth R extra = true) :
    extrasDepth R' extra = true := by
  unfold extrasDepth at hd ⊢
  rw [List.all_eq_true] at hd ⊢
  intro f hf
  have := hd f hf
  simp only [decide_eq_true_eq] at this ⊢
  omega

/-- an id the table knows is one of the table's keys -/
theorem lookupT_isSome_mem {σ : Type} (tbl : Table σ) (id : Int) (h : (lookupT tbl id).isSome = true) :
    id ∈ tbl.map (·.1) := by
  obtain ⟨f, hf⟩ := Option.isSome_iff_exists.mp h
  exact List.mem_map.mpr ⟨(id, f), lookupT_mem tbl id f hf, rfl⟩

/-- ids outside a parquet.thrift table are outside the parser's table when the parser's table lists
only ids of that table (`hsub`: a check on the two tables) -/
theorem lookupT_none_of_extrasOk {σ : Type} (tbl : Table σ) (s : StructSpec) (extra : Fields)
    (hsub : (tbl.map (·.1)).all (fun k => (s.find k).isSome) = true)
    (hx : extrasOk s extra = true) : ∀ f ∈ extra, lookupT tbl f.1 = none := by
  intro f hf
  have := Carquet.Proofs.SpecFile.extrasOk_avoid hx f hf
  cases hl : lookupT tbl f.1 with
  | none => rfl
  | some g =>
    have := List.all_eq_true.mp hsub f.1 (lookupT_isSome_mem tbl f.1 (by rw [hl]; rfl))
    simp_all

/-! ### field lists -/

theorem okFields_cons {σ : Type} (tbl : Table σ) (R : Nat) (f : Int × TVal) (fs : Fields) :
    okFields tbl R (f :: fs) ↔ okT tbl R f.1 f.2 ∧ okFields tbl R fs := by
  simp [okFields]

theorem okFields_optField {σ α : Type} (tbl : Table σ) (R : Nat) (id : Int) (mk : α → TVal) (o : Option α)
    (h : ∀ x, o = some x → okT tbl R id (mk x)) : okFields tbl R (optField id mk o) := by
  cases o with
  | none => exact fun _ hf => nomatch hf
  | some x => exact (okFields_cons tbl R _ _).mpr ⟨h x rfl, fun _ hf => nomatch hf⟩

/-! ### the reference writer's field lists, taken by a parser table -/

theorem optField_eq_fOpt {α : Type} (id : Int) (mk : α → TVal) (o : Option α) : optField id mk o = fOpt id mk o := by
  cases o <;> rfl

/-- the Statistics fields the reference writer states (in page headers and in chunk metadata) -/
theorem stats_written_ok (R : Nat) (s : StatsMeta) : okFields tblStats R (Carquet.Proofs.SpecFile.statsFieldsOf s) := by
  unfold Carquet.Proofs.SpecFile.statsFieldsOf
  simp only [okFields_append]
  refine ⟨⟨⟨⟨?_, ?_⟩, ?_⟩, ?_⟩, ?_⟩ <;> apply okFields_optField <;> intro x _ <;> exact ⟨x, rfl⟩

end Carquet.Proofs.ImplReads

namespace Carquet.Proofs.Thrift.Takes
open Carquet.Spec.File Carquet.Spec.Thrift Carquet.Proofs.ImplReads
variable {σ : Type} {tbl : Table σ} {R : Nat} {s s' : σ}

/-- a member the reference writer states or leaves out; `set` says which member it is -/
theorem optF {α : Type} {id : Int} {mk : α → TVal} {o : Option α} (set : σ → Option α → σ)
    (h : ∀ x, o = some x → okT tbl R id (mk x))
    (hs : ∀ x, o = some x → stepT tbl s id (mk x) = set s (some x) := by intros; rfl) (hn : set s none = s := by rfl) :
    Takes tbl R s (set s o) (optField id mk o) :=
  optField_eq_fOpt id mk o ▸ opt set h hs hn

/-- unknown fields merged in by `withExtras` change nothing -/
theorem withExtras {known extra : Carquet.Spec.File.Fields} (h : Takes tbl R s s' known) (hx : ∀ f ∈ extra, lookupT tbl f.1 = none)
    (hd : extrasDepth R extra = true) : Takes tbl R s s' (Carquet.Spec.File.withExtras known extra) :=
  ⟨okFields_withExtras tbl R known extra h.ok hx hd, by rw [ofFields_withExtras tbl extra known s hx, h.of]⟩

end Carquet.Proofs.Thrift.Takes
