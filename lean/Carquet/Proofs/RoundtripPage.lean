import Carquet.Proofs.ReaderChunkRoundtrip
import Carquet.Proofs.SpecWriterFile
/-
C01, file level — stage "pages": every page record of a completed run of the writer model is a page
the reader half of the round trip accepts (`RecOk`, Proofs/ReaderChunkRoundtrip.lean).

What the writer theorems give about a page record (`PageFacts`, Proofs/SpecWriterChunk.lean: the
record is the finalisation of a page-builder content that satisfies the page-builder invariant
`PageGood`, the stored body is `compress_data` of the body, the three `int32_t` sizes are small)
implies, for a flat REQUIRED / OPTIONAL / REPEATED column (`ColOk`):

* `PageShape` — the shape hypothesis of the reader's page-body theorem;
* `HdrFits` — the header fields fit the Thrift integer types;
* the header is at most 256 bytes long, i.e. it lies inside the FIRST window `read_page_header_fread`
  tries (after F53 the window is doubled when the header does not parse; the writer's own headers
  never need that: statistics exist for INT32 / INT64 / FLOAT / DOUBLE pages only, so min / max are at
  most 8 bytes each and the header is at most 142 bytes).
-/
namespace Carquet.Proofs.Roundtrip
open Carquet.Impl Carquet.Impl.Writer Carquet.Impl.FileReal
open Carquet.Spec Carquet.Spec.Thrift
open Carquet.Proofs.SpecWriter Carquet.Proofs.WriterTable Carquet.Proofs.WriterPages
open Carquet.Proofs.ReaderPageRoundtrip Carquet.Proofs.ReaderChunkRoundtrip Carquet.Proofs.ReaderHeaderReads

/-! ### the header is short -/


theorem pageHeader_length_le (unc comp crc numValues : Nat) (stats : Option PageStats)
    (hs : ∀ s, stats = some s → s.max ≠ [] ∧ s.min ≠ [] ∧ s.max.length ≤ 8 ∧ s.min.length ≤ 8) :
    (pageHeader unc comp crc numValues stats).length ≤ 142 := by
  have hne : ∀ s, stats = some s → s.max ≠ [] ∧ s.min ≠ [] := fun s h => ⟨(hs s h).1, (hs s h).2.1⟩
  rw [Carquet.Proofs.FileRealHeader.pageHeader_eq_write unc comp crc numValues stats hne,
    (Carquet.Proofs.Thrift.writePageHeader_eq (Carquet.Proofs.FileRealHeader.headerOf unc comp crc numValues stats)).1,
    pageHeaderTV_written unc comp crc numValues stats hne]
  have u1 := Thrift.uleb_length_le (zigzag 0)
  have u2 := Thrift.uleb_length_le (zigzag (unc : Int))
  have u3 := Thrift.uleb_length_le (zigzag (comp : Int))
  have u4 := Thrift.uleb_length_le (zigzag (asI32 crc))
  have u5 := Thrift.uleb_length_le (zigzag (numValues : Int))
  have u6 := Thrift.uleb_length_le (zigzag 3)
  cases stats with
  | none =>
    simp [encode, encodeVal, encodeFields, phFieldsW, fieldHdr, shortFieldHdr, fieldCode]
    omega
  | some s =>
    obtain ⟨_, _, m1, m2⟩ := hs s rfl
    have u7 := Thrift.uleb_length_le (zigzag (s.nullCount : Int))
    have u8 := Thrift.uleb_length_le s.max.length
    have u9 := Thrift.uleb_length_le s.min.length
    simp [encode, encodeVal, encodeFields, phFieldsW, fieldHdr, shortFieldHdr, fieldCode]
    omega

/-! ### statistics bounds are values of the page -/

theorem valOk_stat_length_le (c : Col) (hs : hasStats c.ptype = true) (v : Val) (hv : ValOk c v) : v.length ≤ 8 := by
  unfold ValOk at hv
  cases hp : c.ptype <;> simp [hp, hasStats] at hs <;> simp only [hp, valOkT] at hv <;> omega

theorem stats_short {o : FileReal.Oracle} {codec : Nat} {c : Col} {r : PageRec} (hf : PageFacts o codec c r) :
    ∀ s, r.stats = some s → s.max.length ≤ 8 ∧ s.min.length ≤ 8 := by
  intro s hs
  rw [pageFacts_stats hf] at hs
  unfold pageStatsOf at hs
  rw [hf.good.minMax] at hs
  by_cases hst : hasStats c.ptype = true
  · simp only [hst, if_true] at hs
    cases hfold : r.src.values.foldl (FileReal.statsStep c.ptype) none with
    | none => simp [hfold] at hs
    | some q =>
      obtain ⟨mn, mx⟩ := q
      simp only [hfold, Option.some.injEq] at hs
      subst hs
      obtain ⟨hmn, hmx, _⟩ := statsFold_bounds c.ptype hst r.src.values mn mx hfold
      exact ⟨valOk_stat_length_le c hst mx (hf.good.valsOk mx hmx), valOk_stat_length_le c hst mn (hf.good.valsOk mn hmn)⟩
  · simp [hst] at hs

/-! ### the page-builder content has the shape the reader's page theorem asks for -/

theorem valsOk_of_valOk (c : Col) (hc : ColOk c) (vals : List Val) (h : ∀ v ∈ vals, ValOk c v) : ValsOk c vals := by
  unfold ValsOk
  unfold ValOk at h
  cases hp : c.ptype <;> simp only [hp, valOkT] at h ⊢
  · exact h
  · exact h
  · exact h
  · exact h
  · exact h
  · exact h
  · exact h
  · exact ⟨hc.flbaLen hp, h⟩

theorem pageShape_of_facts {o : FileReal.Oracle} {codec : Nat} {c : Col} {r : PageRec} (hc : ColOk c)
    (hf : PageFacts o codec c r) : PageShape c r.src := by
  have hg := hf.good
  have hrows : 0 < r.src.numValues := by rw [← pageFacts_rows hf]; exact hf.ok.2
  -- a level list is absent for maximum level 0, and otherwise written with bit width 1 into a body that is small
  have small : ∀ (mx : Nat) (ls : List Nat), mx ≤ 1 → (mx = 0 → ls = []) →
      (0 < ls.length → (Rle.encode (FileReal.bitWidth mx) ls).length < 2 ^ 32) → (Rle.encode 1 ls).length < 2 ^ 32 := by
    intro mx ls h1 hnil hlt
    by_cases h0 : 0 < ls.length
    · have hm : mx = 1 := by
        by_cases hm : mx = 0
        · rw [hnil hm] at h0; simp at h0
        · omega
      have := hlt h0
      rwa [hm] at this
    · cases List.eq_nil_of_length_eq_zero (l := ls) (by omega); decide
  refine ⟨fun hd => ⟨hg.defsLen hd, hrows⟩, hg.defsNil, fun d hd => Nat.le_trans (hg.defsLe d hd) (maxDef_le_1 c), ?_,
    valsOk_of_valOk c hc _ hg.valsOk, small _ _ (maxDef_le_1 c) hg.defsNil (levels_length_lt hf), ?_,
    fun hr => ⟨hg.repsLen hr, hrows⟩, hg.repsNil, fun d hd => Nat.le_trans (hg.repsLe d hd) (maxRep_le_1 c),
    small _ _ (maxRep_le_1 c) hg.repsNil (repLevels_length_lt hf)⟩
  · rw [hg.valsLen]
    by_cases hd : c.maxDef > 0
    · have h1 : c.maxDef = 1 := by have := maxDef_le_1 c; omega
      simp only [hd, if_true, h1, List.countP_eq_length_filter]
    · simp only [hd, if_false]
  · have hv : (pageValuesBytes c r.src.values).length ≤ (pageBody (deps o) c r.src).length := by
      simp only [pageBody, pageValuesBytes, List.length_append, gt_iff_lt, deps]
      omega
    have hb := hf.small.body
    rw [pageFacts_body hf] at hb
    omega

/-! ### `RecOk` -/

/-! ### the general form: any codec tag, the stored body by contract -/

/-- What the reader needs of the writer's `compress_data` for codec tag `codec` (with the oracle `o`
standing for zlib / libzstd on the writer's side) and of the libraries `L` on the reader's side:
whatever was stored for a body shorter than 2 GiB, the loaders' decompression step with the header's
`uncompressed_page_size` turns back into the body. -/
def StoredOk (L : Reader.Libs) (o : FileReal.Oracle) (codec : Nat) : Prop :=
  ∀ body comp, FileReal.compress o codec body = some comp → body.length < 2147483648 →
    Reader.pageData L (codec : Int) comp body.length = .ok body

theorem storedOk_exact (L : Reader.Libs) (o : FileReal.Oracle) (codec : Nat)
    (hcodec : codec = 0 ∨ codec = 1 ∨ codec = 5 ∨ codec = 7) : StoredOk L o codec := by
  intro body comp hcomp hlen
  have : FileReal.compress [] codec body = some comp := by
    rcases hcodec with h | h | h | h <;> subst h <;> exact hcomp
  exact stored_body_roundtrip L codec body comp hcodec (by omega) this

/-- the oracle holds outputs of the library's own compressor at a level in the contract's range -/
def OracleFrom (lib : CodecWrappers.Lib) (lo hi : Int) (o : FileReal.Oracle) : Prop :=
  ∀ p ∈ o, ∃ (lvl : Int) (cap : Nat), lo ≤ lvl ∧ lvl ≤ hi ∧ lib.compress lvl p.1 cap = some p.2

theorem oracle_find {o : FileReal.Oracle} {body comp : List UInt8}
    (h : (o.find? (·.1 == body)).map (·.2) = some comp) : (body, comp) ∈ o := by
  cases hf : o.find? (·.1 == body) with
  | none => rw [hf] at h; cases h
  | some p =>
    rw [hf] at h
    simp only [Option.map_some, Option.some.injEq] at h
    have hm := List.mem_of_find?_eq_some hf
    have hp := List.find?_some hf
    simp only [beq_iff_eq] at hp
    obtain ⟨a, b⟩ := p
    simp only at h hp
    subst h; subst hp
    exact hm

theorem oracle_roundtrip {lib : CodecWrappers.Lib} {lo hi : Int} {o : FileReal.Oracle} {body comp : List UInt8}
    (hc : CodecWrappers.Lib.Contract lib lo hi) (ho : OracleFrom lib lo hi o)
    (h : (o.find? (·.1 == body)).map (·.2) = some comp) : lib.decompress comp body.length = some body := by
  obtain ⟨lvl, cap, h1, h2, h3⟩ := ho _ (oracle_find h)
  exact hc.roundtrip lvl body comp cap body.length h1 h2 h3 (Nat.le_refl _)

theorem storedOk_gzip (L : Reader.Libs) (o : FileReal.Oracle) (lo hi : Int)
    (hc : CodecWrappers.Lib.Contract L.gzip lo hi) (ho : OracleFrom L.gzip lo hi o) : StoredOk L o 2 := by
  intro body comp hcomp _
  have := oracle_roundtrip hc ho (by simpa [FileReal.compress] using hcomp)
  simp [Reader.pageData, Reader.decompressPage, CodecWrappers.gzipDecompress, CodecWrappers.gzipDecompressG, this, Reader.mapWrap]

theorem storedOk_zstd (L : Reader.Libs) (o : FileReal.Oracle) (lo hi : Int)
    (hc : CodecWrappers.Lib.Contract L.zstd lo hi) (ho : OracleFrom L.zstd lo hi o) : StoredOk L o 6 := by
  intro body comp hcomp _
  have := oracle_roundtrip hc ho (by simpa [FileReal.compress] using hcomp)
  simp [Reader.pageData, Reader.decompressPage, CodecWrappers.zstdDecompress, CodecWrappers.zstdDecompressG, this, Reader.mapWrap]

theorem pageBody_oracle (o : FileReal.Oracle) (c : Col) (p : Page) : pageBody (deps o) c p = pageBody (deps []) c p := rfl

theorem pagesBytes_oracle (o : FileReal.Oracle) (ps : List PageRec) : pagesBytes (deps o) ps = pagesBytes (deps []) ps := rfl

/-- the codec-independent part, for any oracle -/
theorem recShape_of_facts {o : FileReal.Oracle} {codec : Nat} {c : Col} {r : PageRec} (hc : ColOk c)
    (hf : PageFacts o codec c r) : RecShape c r := by
  have hsz := headerSizes_of_facts hf
  have hshort := stats_short hf
  refine ⟨by rw [pageFacts_body hf]; rfl, pageFacts_rows hf, pageShape_of_facts hc hf, ?_, ?_, hf.ok.2⟩
  · refine ⟨by have := hsz.unc; omega, by have := hsz.comp; omega, Carquet.Proofs.ReaderChunkRoundtrip.crc32_lt _,
      by have := hsz.numValues; omega, ?_⟩
    intro s hs
    obtain ⟨a, b, c', d, e⟩ := hsz.stats s hs
    exact ⟨d, e, by omega, by omega, by omega⟩
  · have := pageHeader_length_le r.body.length r.comp.length (FileReal.crc32 r.comp) r.rows r.stats
      (fun s hs => ⟨(hsz.stats s hs).2.2.2.1, (hsz.stats s hs).2.2.2.2, (hshort s hs).1, (hshort s hs).2⟩)
    unfold hdrBytes
    omega

/-- **pages**: a page record of a completed run, of a flat REQUIRED / OPTIONAL / REPEATED column, is a page the
reader half of the round trip reads back (`RecOk`) -/
theorem recOk_of_facts {codec : Nat} {c : Col} {r : PageRec} (hcodec : codec = 0 ∨ codec = 1 ∨ codec = 5 ∨ codec = 7)
    (hc : ColOk c) (hf : PageFacts [] codec c r) : RecOk c codec r :=
  have h := recShape_of_facts hc hf
  { codecOk := hcodec, comp := hf.ok.1, body := h.body, rows := h.rows, shape := h.shape, fits := h.fits,
    hdrShort := h.hdrShort, pos := h.pos }

/-- **pages, general form**: a page record of a completed run written with ANY codec tag is a page
the reader half reads back, provided the stored bodies decompress (`StoredOk`) -/
theorem recOkL_of_facts {L : Reader.Libs} {o : FileReal.Oracle} {codec : Nat} {c : Col} {r : PageRec} (hst : StoredOk L o codec)
    (hc : ColOk c) (hf : PageFacts o codec c r) : RecOkL L c codec r :=
  { toRecShape := recShape_of_facts hc hf, stored := hst r.body r.comp hf.ok.1 hf.small.body }

end Carquet.Proofs.Roundtrip
