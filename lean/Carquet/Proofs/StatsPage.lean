import Carquet.Proofs.StatsBuilder
/-
The page writer's running min/max (after F18a) is the abstract running min/max in the
statistics order; its null count is the number of rows whose definition level is not maximal.
-/
namespace Carquet.Proofs.StatsPage
open Carquet.Spec.Order Carquet.Impl.Stats Carquet.Proofs.StatsOrder Carquet.Proofs.StatsCmp
open Carquet.Proofs.StatsBuilder

theorem sgn3_lt_zero (g l : Bool) : sgn3 g l < 0 ↔ (l = true ∧ g = false) := by
  cases g <;> cases l <;> simp [sgn3]

theorem sgn3_gt_zero (g l : Bool) : sgn3 g l > 0 ↔ (g = true ∧ l = false) := by
  cases g <;> cases l <;> simp [sgn3]

theorem fLt_asymm (f : FFmt) (a b : Nat) (h : fLt f a b = true) : fLt f b a = false := by
  unfold fLt at *
  cases ha : fNan f a <;> cases hb : fNan f b <;> simp_all
  omega

theorem pwLess_float (f : FFmt) (a b : Nat) :
    (fLt f a b || (fNan f b && !fNan f a)) = decide (cmpFloatB f a b < 0) := by
  unfold cmpFloatB
  cases ha : fNan f a <;> cases hb : fNan f b <;> simp [fLt, ha, hb, sgn3_lt_zero]
  intro h; omega

theorem pwGreater_float (f : FFmt) (a b : Nat) :
    (fLt f b a || (fNan f a && !fNan f b)) = decide (cmpFloatB f a b > 0) := by
  unfold cmpFloatB
  cases ha : fNan f a <;> cases hb : fNan f b <;> simp [fLt, ha, hb, sgn3_gt_zero]
  intro h; omega

theorem pwLess_eq (t : PType) (ht : pwTracked t = true) (v c : List UInt8) :
    pwLess t v c = decide (cmpTyped t v c < 0) := by
  cases t <;> simp [pwTracked] at ht
  · simp [pwLess, cmpTyped, cmpI32, sgn3_lt_zero]; intro h; omega
  · simp [pwLess, cmpTyped, cmpI64, sgn3_lt_zero]; intro h; omega
  · simp only [pwLess, cmpTyped]; exact pwLess_float _ _ _
  · simp only [pwLess, cmpTyped]; exact pwLess_float _ _ _

theorem pwGreater_eq (t : PType) (ht : pwTracked t = true) (v c : List UInt8) :
    pwGreater t v c = decide (cmpTyped t v c > 0) := by
  cases t <;> simp [pwTracked] at ht
  · simp [pwGreater, cmpTyped, cmpI32, sgn3_gt_zero]; intro h; omega
  · simp [pwGreater, cmpTyped, cmpI64, sgn3_gt_zero]; intro h; omega
  · simp only [pwGreater, cmpTyped]; exact pwGreater_float _ _ _
  · simp only [pwGreater, cmpTyped]; exact pwGreater_float _ _ _

def mmOfW (w : PageW) : MM := ⟨w.hasMinMax, w.minV, w.maxV⟩

theorem mmOfW_step (t : PType) (ht : pwTracked t = true) (w : PageW) (v : List UInt8) :
    mmOfW (pwStepWith pwLess pwGreater t w v) = (mmOfW w).step t v := by
  unfold pwStepWith MM.step mmOfW
  cases h : w.hasMinMax
  · simp
  · simp [pwLess_eq t ht, pwGreater_eq t ht, cmpTyped_eq]

/-- the statistics-related state of a page writer after the batches described by `rows` -/
structure PInv (t : PType) (md : Int) (w : PageW) (rows : List Row) : Prop where
  ty : w.type = t
  maxDef : w.maxDef = md
  nulls : w.numNulls = (countNulls rows : Int)
  tracked : pwTracked t = true → MM.Inv t (mmOfW w) rows
  untracked : pwTracked t = false → w.hasMinMax = false

theorem pwStep_frame (t : PType) (w : PageW) (v : List UInt8) :
    (pwStepWith pwLess pwGreater t w v).type = w.type ∧ (pwStepWith pwLess pwGreater t w v).maxDef = w.maxDef ∧
    (pwStepWith pwLess pwGreater t w v).numNulls = w.numNulls ∧
    (pwStepWith pwLess pwGreater t w v).numValues = w.numValues := by
  unfold pwStepWith; split <;> simp

theorem pwFold_frame (t : PType) (vals : List (List UInt8)) (w : PageW) :
    (vals.foldl (pwStepWith pwLess pwGreater t) w).type = w.type ∧
    (vals.foldl (pwStepWith pwLess pwGreater t) w).maxDef = w.maxDef ∧
    (vals.foldl (pwStepWith pwLess pwGreater t) w).numNulls = w.numNulls := by
  induction vals generalizing w with
  | nil => simp
  | cons v r ih =>
    have h1 := pwStep_frame t w v
    have h2 := ih (pwStepWith pwLess pwGreater t w v)
    simp only [List.foldl_cons]
    exact ⟨h2.1.trans h1.1, h2.2.1.trans h1.2.1, h2.2.2.trans h1.2.2.1⟩

theorem pwFold_mm (t : PType) (ht : pwTracked t = true) (vals : List (List UInt8)) (w : PageW) (rows : List Row)
    (h : MM.Inv t (mmOfW w) rows) :
    MM.Inv t (mmOfW (vals.foldl (pwStepWith pwLess pwGreater t) w)) (rows ++ vals.map some) :=
  Lists.foldl_inv (I := fun w rows => MM.Inv t (mmOfW w) rows) some
    (fun w rows v h => by rw [mmOfW_step t ht]; exact MM.step_inv t _ rows v h) vals w rows h

theorem MM.inv_congr (t : PType) (s : MM) (rows rows' : List Row)
    (hm : ∀ x : List UInt8, some x ∈ rows' ↔ some x ∈ rows) (h : MM.Inv t s rows) : MM.Inv t s rows' := by
  refine ⟨fun hh x => by rw [hm]; exact h.1 hh x, fun hh => ?_⟩
  obtain ⟨a, b, c⟩ := h.2 hh
  exact ⟨(hm _).2 a, (hm _).2 b, fun x hx => c x ((hm x).1 hx)⟩

theorem slices_length (vs : Nat) (n : Nat) (d : List UInt8) : (slices vs n d).length = n := by
  induction n generalizing d with
  | zero => rfl
  | succ n ih => simp [slices, ih]

/-- rows placed by definition levels: the values are exactly the dense values, the nulls the rest -/
theorem placeRows_spec (md : Int) (defs : List Int) (vals : List (List UInt8))
    (h : vals.length = (defs.filter (· = md)).length) :
    (∀ x, some x ∈ placeRows md defs vals ↔ x ∈ vals) ∧
    (countNulls (placeRows md defs vals) : Int) = (defs.length : Int) - (vals.length : Int) := by
  induction defs generalizing vals with
  | nil =>
    have : vals = [] := by simpa using h
    subst this; simp [placeRows, countNulls]
  | cons d ds ih =>
    by_cases hd : d = md
    · cases vals with
      | nil => simp [hd] at h
      | cons v vs =>
        have h' : vs.length = (ds.filter (· = md)).length := by simpa [hd] using h
        obtain ⟨i1, i2⟩ := ih vs h'
        refine ⟨fun x => ?_, ?_⟩
        · simp [placeRows, hd, i1]
        · simp only [placeRows, hd, if_true, countNulls, List.length_cons]; omega
    · have h' : vals.length = (ds.filter (· = md)).length := by simpa [hd] using h
      obtain ⟨i1, i2⟩ := ih vals h'
      refine ⟨fun x => ?_, ?_⟩
      · simp [placeRows, hd, i1]
      · simp only [placeRows, hd, if_false, countNulls, List.length_cons]; omega

theorem pinv_add (t : PType) (md : Int) (w : PageW) (rows : List Row) (bt : Batch) (hw : WfBatch bt)
    (h : PInv t md w rows) : PInv t md (pwAdd w bt).2 (rows ++ batchRows w bt) := by
  -- membership of values and the number of nulls in the rows of this batch
  have hrows : (∀ x, some x ∈ batchRows w bt ↔ x ∈ slices (pwWidth w.type) (numNonNull w bt) bt.data) ∧
      (countNulls (batchRows w bt) : Int) = (bt.numValues : Int) - (numNonNull w bt : Int) := by
    unfold batchRows numNonNull
    cases hd : bt.defs with
    | none => simp [countNulls_map_some]
    | some d =>
      by_cases hm : w.maxDef > 0
      · simp only [hm, if_true]
        have hl : d.length = bt.numValues := by simpa [WfBatch, hd] using hw
        have hs := placeRows_spec w.maxDef (d.take bt.numValues)
          (slices (pwWidth w.type) ((d.take bt.numValues).filter (· = w.maxDef)).length bt.data)
          (by rw [slices_length])
        refine ⟨hs.1, ?_⟩
        rw [hs.2, slices_length, List.length_take, hl]; simp
      · simp [hm, countNulls_map_some]
  unfold pwAdd pwAddWith
  refine ⟨?_, ?_, ?_, ?_, ?_⟩
  · show (if pwTracked w.type then _ else w).type = t
    split
    · rw [(pwFold_frame _ _ _).1]; exact h.ty
    · exact h.ty
  · show (if pwTracked w.type then _ else w).maxDef = md
    split
    · rw [(pwFold_frame _ _ _).2.1]; exact h.maxDef
    · exact h.maxDef
  · show w.numNulls + _ = _
    rw [countNulls_append, h.nulls]
    have := hrows.2
    omega
  · intro ht
    have ht' : pwTracked w.type = true := by rw [h.ty]; exact ht
    show MM.Inv t (mmOfW { (if pwTracked w.type then _ else w) with numNulls := _, numValues := _ }) _
    simp only [ht', if_true]
    have hf := pwFold_mm t ht (slices (pwWidth w.type) (numNonNull w bt) bt.data) w rows (h.tracked ht)
    rw [h.ty] at hf ⊢
    refine MM.inv_congr t _ _ _ (fun x => ?_) hf
    simp only [List.mem_append, List.mem_map]
    rw [hrows.1, h.ty]
    constructor
    · rintro (hx | hx)
      · exact Or.inl hx
      · exact Or.inr ⟨x, hx, rfl⟩
    · rintro (hx | ⟨y, hy, hxy⟩)
      · exact Or.inl hx
      · right; cases hxy; exact hy
  · intro ht
    have ht' : pwTracked w.type = false := by rw [h.ty]; exact ht
    show (if pwTracked w.type then _ else w).hasMinMax = false
    simp only [ht']
    exact h.untracked ht

theorem pinv_run (t : PType) (md : Int) (bs : List Batch) (w : PageW) (rows : List Row)
    (hw : ∀ b ∈ bs, WfBatch b) (h : PInv t md w rows) : PInv t md (pwRun w bs) (rows ++ pwRows w bs) := by
  induction bs generalizing w rows with
  | nil => simpa [pwRun, pwRows] using h
  | cons b r ih =>
    have h1 := pinv_add t md w rows b (hw b (by simp)) h
    have := ih (pwAdd w b).2 (rows ++ batchRows w b) (fun b' hb' => hw b' (by simp [hb'])) h1
    simpa [pwRun, pwRows, List.append_assoc] using this

theorem pinv_stats (t : PType) (md : Int) (w : PageW) (rows : List Row) (h : PInv t md w rows) :
    TrueBounds t (pwStats w) rows := by
  unfold pwStats pwGetStatistics
  cases hh : w.hasMinMax
  · simp [TrueBounds]
  · have ht : pwTracked t = true := by
      cases hp : pwTracked t
      · have := h.untracked hp; rw [hh] at this; exact absurd this (by decide)
      · rfl
    obtain ⟨_, _, hall⟩ := (h.tracked ht).2 hh
    simp only [if_true]
    refine ⟨?_, ?_, ?_⟩
    · intro lo hlo x hx; cases hlo; exact (hall x hx).1
    · intro hi hhi x hx; cases hhi; exact (hall x hx).2
    · intro n hn; cases hn; exact h.nulls

end Carquet.Proofs.StatsPage
