import Carquet.Proofs.ReaderBounds
import Carquet.Proofs.ReaderPlain
/-
The fread path and the mapped (mmap / buffer) paths of the reader agree: on the footer for files
that start with the magic, on every page that lies within the file (helper lemmas for C03).
-/
namespace Carquet.Proofs.ReaderModes
open Carquet.Impl Carquet.Impl.Reader
open Carquet.Proofs.ReaderBounds Carquet.Proofs.ReaderPlain

/-! ### footer -/

theorem openFread_eq_openMapped (b : Reader.Bytes) (h : b.take 4 = magic) : (openFread b).1 = (openMapped b).1 := by
  unfold openFread openMapped
  by_cases h12 : b.length < 12
  · simp [h12]
  · simp only [h12, if_false, h, ne_eq, not_true_eq_false]
    by_cases hm : slice b (b.length - 4) 4 = magic
    · simp only [hm, not_true_eq_false, if_false]
      by_cases hf : footerLen b > b.length - 8
      · simp [hf]
      · simp [hf]
    · simp [hm]

theorem magic_length_pos (b : Reader.Bytes) (h : b.take 4 = magic) : b.length ≠ 0 := by
  intro h0
  have : b = [] := List.eq_nil_of_length_eq_zero h0
  subst this
  simp [magic] at h

theorem openFile_modes (b : Reader.Bytes) (h : b.take 4 = magic) :
    openFile .fread b = openFile .mmap b ∧ openFile .mmap b = openFile .buffer b := by
  have hne := magic_length_pos b h
  refine ⟨?_, ?_⟩
  · show (openFread b).1 = (if b.length = 0 then openFread b else openMapped b).1
    rw [if_neg hne]; exact openFread_eq_openMapped b h
  · show (if b.length = 0 then openFread b else openMapped b).1 =
         (if b.length = 0 then (Except.error Err.invalidArgument, []) else openMapped b).1
    rw [if_neg hne, if_neg hne]

/-! ### pages -/

/-- the success part of a result -/
def okOf {α : Type} (r : Except Err α) : Option α :=
  match r with
  | .ok a => some a
  | .error _ => none

/-! #### page headers (after F53 the modes read them from different windows) -/

/-- reading the page header at `off` from everything the file has behind `off` -/
def refHeader (b : Reader.Bytes) (off : Int) : Option (ThriftParquetReq.PageHdr × Nat) :=
  if 0 ≤ off ∧ off.toNat + 8 ≤ b.length then okOf (parseWindow (slice b off.toNat (b.length - off.toNat))) else none

/-- The header at `off` parses the same from every window the fread path can use: whatever parses
from the first `W ≥ 256` bytes behind `off` parses, with the same result, from all the bytes behind
`off`; and the file has
at most 2^24 bytes behind `off` (the largest window the fread path tries).  For a header that is a
well-formed Thrift struct this is the parser's prefix property (the Thrift component proves it for
the structs the writer emits: `Reads` quantifies over any remainder); for arbitrary bytes it is
not proved here. -/
def HeaderStable (b : Reader.Bytes) (off : Int) : Prop :=
  b.length - off.toNat ≤ headerWindowMax ∧
  ∀ W r, 256 ≤ W → ThriftParquetReq.parsePageHeaderC (slice b off.toNat W) = .ok r →
    ThriftParquetReq.parsePageHeaderC (slice b off.toNat (b.length - off.toNat)) = .ok r

/-- the mapped paths read all headers from everything behind the offset; the fread path needs stability -/
def HdrOk (mode : Mode) (b : Reader.Bytes) (off : Int) : Prop := mode.mapped = true ∨ HeaderStable b off

theorem slice_all (b : Reader.Bytes) (off W : Nat) (h : b.length - off ≤ W) : slice b off W = slice b off (b.length - off) := by
  unfold slice
  rw [List.take_of_length_le (by simp; omega), List.take_of_length_le (by simp)]

/-- a decidable sufficient condition for `HeaderStable`: every window shorter than what the file
has behind `off` either fails to parse or parses to what everything behind `off` parses to -/
def stableCheck (b : Reader.Bytes) (off : Nat) : Bool :=
  decide (b.length - off ≤ headerWindowMax) &&
  (List.range (b.length - off)).all (fun W => decide (W < 256) ||
    match ThriftParquetReq.parsePageHeaderC (slice b off W) with
    | .ok r => decide (ThriftParquetReq.parsePageHeaderC (slice b off (b.length - off)) = .ok r)
    | .error _ => true)

theorem headerStable_of_check (b : Reader.Bytes) (off : Int) (h : stableCheck b off.toNat = true) : HeaderStable b off := by
  unfold stableCheck at h
  simp only [Bool.and_eq_true, decide_eq_true_eq, List.all_eq_true, List.mem_range, Bool.or_eq_true] at h
  refine ⟨h.1, ?_⟩
  intro W r h256 hr
  by_cases hW : b.length - off.toNat ≤ W
  · rw [← slice_all b off.toNat W hW]; exact hr
  · rcases h.2 W (by omega) with h1 | h1
    · omega
    · rw [hr] at h1
      simpa using h1

theorem okOf_parseWindow (w : Reader.Bytes) :
    okOf (parseWindow w) = okOf ((ThriftParquetReq.parsePageHeaderC w).mapError Err.thrift) := by
  unfold parseWindow
  cases ThriftParquetReq.parsePageHeaderC w <;> rfl

theorem freadHeaderLoop_ref (b : Reader.Bytes) (off : Nat) (hst : HeaderStable b (off : Int)) :
    ∀ (fuel window : Nat), 256 ≤ window → (∃ j, j < fuel ∧ window * 2 ^ j = headerWindowMax) →
      okOf (freadHeaderLoop b off fuel window).result =
        if off + 8 ≤ b.length then okOf (parseWindow (slice b off (b.length - off))) else none := by
  have hst1 : b.length - off ≤ headerWindowMax := by simpa using hst.1
  have hst2 : ∀ W r, 256 ≤ W → ThriftParquetReq.parsePageHeaderC (slice b off W) = .ok r →
      ThriftParquetReq.parsePageHeaderC (slice b off (b.length - off)) = .ok r := by
    intro W r hW h; simpa using hst.2 W r hW (by simpa using h)
  intro fuel
  induction fuel with
  | zero => intro window _ ⟨j, hj, _⟩; omega
  | succ fuel ih =>
    intro window h256 ⟨j, hj, hmax⟩
    have hl := slice_length b off window
    unfold freadHeaderLoop
    split
    · rename_i h8
      rw [if_neg (by omega)]; rfl
    · rename_i h8
      have h8' : off + 8 ≤ b.length := by omega
      rw [if_pos h8']
      split
      · rename_i r hr
        simp only [okOf, parseWindow, hst2 window r h256 hr]
      · rename_i e he
        split
        · -- the window holds everything behind `off`
          rename_i hstop
          have hfull : slice b off window = slice b off (b.length - off) := slice_all b off window (by omega)
          rw [hfull] at he
          simp only [okOf, parseWindow, he]
        · -- `window` is below the maximum, so `j` is not 0 and the doubled window still divides it
          rename_i hgo
          cases j with
          | zero => omega
          | succ j =>
            have := ih (2 * window) (by omega) ⟨j, by omega, by rw [← hmax, Nat.pow_succ]; ac_rfl⟩
            rwa [if_pos h8'] at this
theorem loadHeader_ref (mode : Mode) (b : Reader.Bytes) (off : Int) (h : HdrOk mode b off) :
    okOf (loadHeader mode b off).result = refHeader b off := by
  unfold loadHeader refHeader
  split
  · -- mapped
    split
    · rename_i hbad
      rw [if_neg (by omega)]; rfl
    · rename_i hin
      split
      · rename_i h8
        rw [if_neg (by omega)]; rfl
      · rename_i h8
        rw [if_pos (by omega)]
  · rename_i hm
    have hst : HeaderStable b off := by
      rcases h with h | h
      · exact absurd h hm
      · exact h
    split
    · rename_i hneg
      rw [if_neg (by omega)]; rfl
    · rename_i hnn
      have hoff : ((off.toNat : Nat) : Int) = off := Int.toNat_of_nonneg (by omega)
      have := freadHeaderLoop_ref b off.toNat (by rw [hoff]; exact hst) 18 256 (by decide) ⟨16, by decide, by decide⟩
      rw [this]
      by_cases h8 : off.toNat + 8 ≤ b.length
      · rw [if_pos h8, if_pos ⟨by omega, h8⟩]
      · rw [if_neg h8, if_neg (by omega)]

/-- the page at `off` lies within the file: if a header parses there, header and body end inside the file -/
def PageWithin (b : Reader.Bytes) (off : Int) : Prop :=
  ∀ r, refHeader b off = some r → 0 ≤ r.1.compressed → off.toNat + r.2 + r.1.compressed.toNat ≤ b.length

theorem bodyBytes_within (mode : Mode) (b : Reader.Bytes) (off hs comp : Nat) (h : off + hs + comp ≤ b.length) :
    (bodyBytes mode b off hs comp).1 = .ok (slice b (off + hs) comp) := by
  unfold bodyBytes
  split
  · rw [if_pos (by omega)]
  · have := slice_length b (off + hs) comp
    rw [if_neg (by omega)]

theorem okOf_andThen {α β : Type} (l : Load α) (k : α → Load β) :
    okOf (l.andThen k).result = (okOf l.result).bind fun a => okOf (k a).result := by
  rw [andThen_result]; cases l.result <;> rfl

/-- what the caller gets from a loaded page, apart from the ownership flag -/
def proj (p : PageLoaded) : Decoded × Nat × Nat := (p.page, p.headerSize, p.compressedSize)

/-- the standard (copying) path after the CRC test, as a function of the stored body -/
def stdPath (fx : Fixes) (L : Libs) (c : Col) (dict : Option Dict) (hr : ThriftParquetReq.PageHdr × Nat) (body : Reader.Bytes) :
    Option (Decoded × Nat × Nat) :=
  match pageData L c.cm.codec body hr.1.uncompressed.toNat with
  | .error _ => none
  | .ok pd =>
    match readDataPageV1 fx c dict pd hr.1.word0.toNat hr.1.word4 with
    | .error _ => none
    | .ok d => some (d, hr.2, hr.1.compressed.toNat)

/-- the rest of a data page load once its header is found, without any notion of mode -/
def refFinish (fx : Fixes) (L : Libs) (verify : Bool) (b : Reader.Bytes) (c : Col) (st : PState)
    (hr : ThriftParquetReq.PageHdr × Nat) : Option (Decoded × Nat × Nat) :=
  if hr.1.type = 3 then none
  else if hr.1.type ≠ 0 then none
  else if (!sizesValid hr.1 || decide (hr.1.word0 < 0) || decide (hr.1.word0 > st.valuesRemaining)) = true then none
  else if crcBad verify hr.1.crc (slice b ((st.dataStart + st.currentPage).toNat + hr.2) hr.1.compressed.toNat) = true then none
  else if hr.1.word0 = 0 then some (⟨[], [], []⟩, hr.2, hr.1.compressed.toNat)     -- F63: a page without values
  else stdPath fx L c st.dict hr (slice b ((st.dataStart + st.currentPage).toNat + hr.2) hr.1.compressed.toNat)

theorem readDataPageV1_flat (fx : Fixes) (c : Col) (dict : Option Dict) (pd : Reader.Bytes) (n : Nat) (enc : Int)
    (hd : c.maxDef = 0) (hr : c.maxRep = 0) :
    readDataPageV1 fx c dict pd n enc =
      (decodeValues fx c dict enc pd n).map (fun vals => ⟨List.replicate n 0, List.replicate n 0, vals⟩) := by
  simp only [readDataPageV1, repLevels, defLevels, hd, hr, Nat.lt_irrefl, if_false, nonNullCount, List.length_replicate]
  cases decodeValues fx c dict enc pd n <;> rfl

theorem stdPath_eq (fx : Fixes) (L : Libs) (c : Col) (dict : Option Dict) (hr : ThriftParquetReq.PageHdr × Nat) (body : Reader.Bytes) :
    stdPath fx L c dict hr body = (okOf (copyPage fx L c dict hr body)).map proj := by
  unfold stdPath copyPage
  cases pageData L c.cm.codec body hr.1.uncompressed.toNat with
  | error e => rfl
  | ok pd =>
    dsimp only
    cases readDataPageV1 fx c dict pd hr.1.word0.toNat hr.1.word4 <;> rfl

theorem view_eq_std (fx : Fixes) (hv : fx.viewBound = true) (L : Libs) (mode : Mode) (b : Reader.Bytes) (c : Col)
    (dict : Option Dict) (hr : ThriftParquetReq.PageHdr × Nat) (bodyOff : Nat)
    (hcol : ColValid c) (hsz : b.length < 2 ^ 64)
    (hin : bodyOff + hr.1.compressed.toNat ≤ b.length)
    (ht : takesView fx mode c hr.1 = true) :
    ∃ d, (viewPage b c bodyOff hr.1.word0.toNat).result = .ok d ∧
      stdPath fx L c dict hr (slice b bodyOff hr.1.compressed.toNat) = some (d, hr.2, hr.1.compressed.toNat) := by
  obtain ⟨_, hcodec, henc, hfw, hd0, hr0, hb⟩ := (takesView_iff fx mode c hr.1).mp ht
  have hb := hb hv
  have hlenb : (slice b bodyOff hr.1.compressed.toNat).length = hr.1.compressed.toNat := by
    rw [slice_length]; omega
  have hlenv : (slice b bodyOff (hr.1.word0.toNat * valueSize c.ptype c.typeLength)).length =
      hr.1.word0.toNat * valueSize c.ptype c.typeLength := by
    rw [slice_length]; omega
  have htake : slice b bodyOff (hr.1.word0.toNat * valueSize c.ptype c.typeLength) =
      (slice b bodyOff hr.1.compressed.toNat).take (hr.1.word0.toNat * valueSize c.ptype c.typeLength) := by
    unfold slice; rw [List.take_take]; congr 1; omega
  refine ⟨⟨List.replicate hr.1.word0.toNat 0, List.replicate hr.1.word0.toNat 0,
      chunks (valueSize c.ptype c.typeLength) hr.1.word0.toNat (slice b bodyOff hr.1.compressed.toNat)⟩, ?_, ?_⟩
  · unfold viewPage
    simp only [hlenv, ne_eq, not_true_eq_false, if_false]
    rw [htake, chunks_take]
  · unfold stdPath
    rw [hcodec, pageData_codec0]
    simp only
    have hp := plainValues_fixed c.ptype c.typeLength (slice b bodyOff hr.1.compressed.toNat) hr.1.word0.toNat hfw hcol
      (by rw [hlenb]; exact hb) (by rw [hlenb]; omega)
    simp only [readDataPageV1_flat fx c dict _ _ _ hd0 hr0, decodeValues, henc, if_true, hp]
    rfl

theorem takesView_fread (fx : Fixes) (c : Col) (h : ThriftParquetReq.PageHdr) : takesView fx .fread c h = false :=
  Bool.eq_false_iff.mpr fun ht => nomatch ((takesView_iff fx .fread c h).mp ht).1

theorem finishDataPage_ref (fx : Fixes) (hv : fx.viewBound = true) (L : Libs) (verify : Bool) (mode : Mode) (b : Reader.Bytes)
    (c : Col) (st : PState) (hr : ThriftParquetReq.PageHdr × Nat) (hcol : ColValid c) (hsz : b.length < 2 ^ 64)
    (hin : 0 ≤ hr.1.compressed → (st.dataStart + st.currentPage).toNat + hr.2 + hr.1.compressed.toNat ≤ b.length) :
    (okOf (finishDataPage fx L verify mode b c st hr).result).map proj = refFinish fx L verify b c st hr := by
  rw [finishDataPage_eq]
  unfold refFinish dataGate
  by_cases h3 : hr.1.type = 3
  · rw [if_pos h3, if_pos h3]; rfl
  rw [if_neg h3, if_neg h3]
  by_cases ht : hr.1.type ≠ 0
  · rw [if_pos ht, if_pos ht]; rfl
  rw [if_neg ht, if_neg ht]
  by_cases hs : (!sizesValid hr.1 || decide (hr.1.word0 < 0) || decide (hr.1.word0 > st.valuesRemaining)) = true
  · rw [if_pos hs, if_pos hs]; rfl
  rw [if_neg hs, if_neg hs]
  have hcomp : 0 ≤ hr.1.compressed := by
    simp only [sizesValid, Bool.or_eq_true, Bool.not_eq_true', Bool.and_eq_false_iff, decide_eq_false_iff_not,
      decide_eq_true_eq, not_or] at hs
    omega
  have hin' := hin hcomp
  simp only
  rw [andThen_result, Load.ofPair, bodyBytes_within mode b _ _ _ hin']
  simp only
  rw [afterBody_result]
  refine ite_of (P := fun r => (okOf r).map proj = _) (fun hcrc => by rw [if_pos hcrc]; rfl) fun hcrc => ?_
  rw [if_neg hcrc]
  refine ite_of (P := fun r => (okOf r).map proj = _) (fun hemp => by rw [if_pos hemp]; rfl) fun hemp => ?_
  rw [if_neg hemp, stdPath_eq]
  refine ite_of (P := fun r => (okOf r).map proj = _) (fun hview => ?_) fun _ => rfl
  obtain ⟨d, hd1, hd2⟩ := view_eq_std fx hv L mode b c st.dict hr _ hcol hsz (by omega) hview
  rw [hd1, ← stdPath_eq, hd2]; rfl

/-! ### dictionary page and the whole `load_next_page` -/

def refDict (fx : Fixes) (L : Libs) (verify : Bool) (b : Reader.Bytes) (c : Col) (off : Int) : Option DictLoaded :=
  match refHeader b off with
  | none => none
  | some hr =>
    if hr.1.type ≠ 2 then none
    else if (!sizesValid hr.1 || decide (hr.1.word0 < 0)) = true then none
    else if crcBad verify hr.1.crc (slice b (off.toNat + hr.2) hr.1.compressed.toNat) = true then none
    else
      match pageData L c.cm.codec (slice b (off.toNat + hr.2) hr.1.compressed.toNat) hr.1.uncompressed.toNat with
      | .error _ => none
      | .ok pd =>
        match (readDictionaryPage fx c pd hr.1.word0).1 with
        | .error _ => none
        | .ok d => some ⟨d, off + hr.2 + hr.1.compressed⟩

theorem loadDictionary_ref (fx : Fixes) (L : Libs) (verify : Bool) (mode : Mode) (b : Reader.Bytes) (c : Col) (off : Int)
    (hh : HdrOk mode b off) (hw : PageWithin b off) :
    okOf (loadDictionary fx L verify mode b c off).result = refDict fx L verify b c off := by
  unfold loadDictionary refDict
  rw [okOf_andThen, loadHeader_ref mode b off hh]
  cases href : refHeader b off with
  | none => rfl
  | some hr =>
    simp only [Option.bind]
    by_cases ht : hr.1.type ≠ 2
    · rw [if_pos ht, if_pos ht]; rfl
    rw [if_neg ht, if_neg ht]
    by_cases hs : (!sizesValid hr.1 || decide (hr.1.word0 < 0)) = true
    · rw [if_pos hs, if_pos hs]; rfl
    rw [if_neg hs, if_neg hs]
    have hcomp : 0 ≤ hr.1.compressed := by
      simp only [sizesValid, Bool.or_eq_true, Bool.not_eq_true', Bool.and_eq_false_iff, decide_eq_false_iff_not,
        decide_eq_true_eq, not_or] at hs
      omega
    rw [andThen_result, Load.ofPair, bodyBytes_within mode b _ _ _ (hw hr href hcomp)]
    simp only
    by_cases hcrc : crcBad verify hr.1.crc (slice b (off.toNat + hr.2) hr.1.compressed.toNat) = true
    · rw [if_pos hcrc, if_pos hcrc]; rfl
    rw [if_neg hcrc, if_neg hcrc]
    cases pageData L c.cm.codec (slice b (off.toNat + hr.2) hr.1.compressed.toNat) hr.1.uncompressed.toNat with
    | error e => rfl
    | ok pd =>
      simp only
      cases (readDictionaryPage fx c pd hr.1.word0).1 <;> rfl

/-- the state the data page is looked for in, without any notion of mode -/
def refDictStep (fx : Fixes) (L : Libs) (verify : Bool) (b : Reader.Bytes) (c : Col) (st : PState) : Option PState :=
  match c.cm.dictionaryPageOffset with
  | none => some st
  | some doff =>
    if st.dict.isSome then some st
    else (refDict fx L verify b c doff).map (fun dl => { st with dict := some dl.dict, dataStart := dl.dataStart })

theorem dictStep_ref (fx : Fixes) (L : Libs) (verify : Bool) (mode : Mode) (b : Reader.Bytes) (c : Col) (st : PState)
    (hw : ∀ doff, c.cm.dictionaryPageOffset = some doff → HdrOk mode b doff ∧ PageWithin b doff) :
    okOf (dictStep fx L verify mode b c st).result = refDictStep fx L verify b c st := by
  unfold dictStep refDictStep
  cases hd : c.cm.dictionaryPageOffset with
  | none => rfl
  | some doff =>
    simp only
    by_cases hs : st.dict.isSome = true
    · rw [if_pos hs, if_pos hs]; rfl
    · rw [if_neg hs, if_neg hs, okOf_andThen, loadDictionary_ref fx L verify mode b c doff (hw doff hd).1 (hw doff hd).2]
      cases refDict fx L verify b c doff <;> rfl

/-- `prepStage` without any notion of mode -/
def refPrep (fx : Fixes) (L : Libs) (verify : Bool) (b : Reader.Bytes) (c : Col) (st : PState) :
    Option (PState × (ThriftParquetReq.PageHdr × Nat)) :=
  match refHeader b (st.dataStart + st.currentPage) with
  | none => none
  | some hr =>
    if inlineDictDue st hr.1 then
      match refDict fx L verify b c (st.dataStart + st.currentPage) with
      | none => none
      | some dl =>
        match refHeader b dl.dataStart with
        | none => none
        | some hr2 => some ({ st with dict := some dl.dict, dataStart := dl.dataStart }, hr2)
    else some (st, hr)

/-- what `prepStage` needs of the file in state `st`: stable headers (fread path) and pages within
the file at the data page offset and, when an inline dictionary is loaded there, behind it -/
def PrepOk (fx : Fixes) (L : Libs) (verify : Bool) (mode : Mode) (b : Reader.Bytes) (c : Col) (st : PState) : Prop :=
  HdrOk mode b (st.dataStart + st.currentPage) ∧ PageWithin b (st.dataStart + st.currentPage) ∧
  ∀ dl, refDict fx L verify b c (st.dataStart + st.currentPage) = some dl → HdrOk mode b dl.dataStart

theorem prepStage_ref (fx : Fixes) (L : Libs) (verify : Bool) (mode : Mode) (b : Reader.Bytes) (c : Col) (st : PState)
    (hp : PrepOk fx L verify mode b c st) :
    okOf (prepStage fx L verify mode b c st).result = refPrep fx L verify b c st := by
  unfold refPrep prepStage
  rw [okOf_andThen, loadHeader_ref mode b _ hp.1]
  cases refHeader b (st.dataStart + st.currentPage) with
  | none => rfl
  | some hr =>
    simp only [Option.bind]
    by_cases hdue : inlineDictDue st hr.1 = true
    · rw [if_pos hdue, if_pos hdue, okOf_andThen, loadDictionary_ref fx L verify mode b c _ hp.1 hp.2.1]
      cases hdl : refDict fx L verify b c (st.dataStart + st.currentPage) with
      | none => rfl
      | some dl =>
        simp only [Option.bind]
        rw [okOf_andThen, loadHeader_ref mode b dl.dataStart (hp.2.2 dl hdl)]
        cases refHeader b dl.dataStart <;> rfl
    · rw [if_neg hdue, if_neg hdue]; rfl

/-- `load_next_page` without any notion of mode -/
def refPage (fx : Fixes) (L : Libs) (verify : Bool) (b : Reader.Bytes) (c : Col) (st : PState) : Option (Decoded × Nat × Nat) :=
  (refDictStep fx L verify b c st).bind (fun st1 =>
    (refPrep fx L verify b c st1).bind (fun sh => refFinish fx L verify b c sh.1 sh.2))

/-- The pages a load in state `st` touches lie within the file, and (for the fread path) their
headers parse the same from every window. -/
structure LoadWithin (fx : Fixes) (L : Libs) (verify : Bool) (mode : Mode) (b : Reader.Bytes) (c : Col) (st : PState) : Prop where
  dict : ∀ doff, c.cm.dictionaryPageOffset = some doff → HdrOk mode b doff ∧ PageWithin b doff
  prep : ∀ st1, refDictStep fx L verify b c st = some st1 → PrepOk fx L verify mode b c st1
  data : ∀ st1 sh, refDictStep fx L verify b c st = some st1 → refPrep fx L verify b c st1 = some sh →
    0 ≤ sh.2.1.compressed → (sh.1.dataStart + sh.1.currentPage).toNat + sh.2.2 + sh.2.1.compressed.toNat ≤ b.length

theorem loadPage_ref (fx : Fixes) (hv : fx.viewBound = true) (L : Libs) (verify : Bool) (mode : Mode) (b : Reader.Bytes)
    (c : Col) (st : PState) (hcol : ColValid c) (hsz : b.length < 2 ^ 64) (hw : LoadWithin fx L verify mode b c st) :
    (okOf (loadPage fx L verify mode b c st).result).map proj = refPage fx L verify b c st := by
  unfold loadPage refPage loadDataPage
  rw [okOf_andThen, dictStep_ref fx L verify mode b c st hw.dict]
  cases hd : refDictStep fx L verify b c st with
  | none => rfl
  | some st1 =>
    simp only [Option.bind, Option.map]
    rw [okOf_andThen, prepStage_ref fx L verify mode b c st1 (hw.prep st1 hd)]
    cases hp : refPrep fx L verify b c st1 with
    | none => rfl
    | some sh => exact finishDataPage_ref fx hv L verify mode b c sh.1 sh.2 hcol hsz (hw.data st1 sh hd hp)

end Carquet.Proofs.ReaderModes
