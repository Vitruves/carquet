import Carquet.Proofs.SpecWriterChunk
import Carquet.Proofs.SpecWriterFooter
import Carquet.Proofs.WriterRun
/-
Schema, row-group and whole-file stages of `Spec.File.read` on a file the writer model reports complete.

What the writer guarantees of such a file is `fileOf_groups` (Proofs/WriterRun.lean): magic, the page records of the
run, the footer of its metadata, and metadata and page records are `Groups` from offset 4 — the chunks lie end to end,
one per column, each the pages of its records with the sums in its metadata.  `chunksIn_of_chunks` and
`groupsIn_of_groups` turn that derivation, constructor by constructor, into the reader's (`ChunksIn`, `GroupsIn`,
Proofs/SpecFileRead.lean; no gaps, so under strict tiling): every chunk is read by the chunk stage
(`readChunk_written`), the rows of every chunk are the row group's `num_rows`.  `read_written` puts envelope, footer
and schema stages around it.
-/
namespace Carquet.Proofs.SpecWriter
open Carquet.Impl Carquet.Impl.Writer Carquet.Impl.FileReal
open Carquet.Spec Carquet.Spec.File
open Carquet.Proofs.WriterTable Carquet.Proofs.WriterPages Carquet.Proofs.WriterLayout Carquet.Proofs.SpecFile
open Carquet.Proofs.WriterInv Carquet.Proofs.Writer

/-! ### schema stage -/

/-- what the schema must satisfy (flat REQUIRED / OPTIONAL / REPEATED columns): a
FIXED_LEN_BYTE_ARRAY column has a positive length -/
structure ColOk (c : Col) : Prop where
  flbaLen : c.ptype = .flba → 0 < c.typeLen

instance (c : Col) : Decidable (ColOk c) :=
  decidable_of_iff (c.ptype = .flba → 0 < c.typeLen) ⟨fun h => ⟨h⟩, fun h => h.flbaLen⟩

/-- a column that is not REPEATED (hypothesis of the statements not yet lifted to REPEATED columns) -/
def ColFlat (c : Col) : Prop := c.rep ≠ .repeated

instance (c : Col) : Decidable (ColFlat c) := by unfold ColFlat; exact inferInstance

theorem maxRep_of_flat {c : Col} (h : ColFlat c) : c.maxRep = 0 := by
  simp [Col.maxRep, ColFlat] at h ⊢; exact h

theorem maxRep_lt (c : Col) : c.maxRep < 2 ^ 32 := by
  unfold Col.maxRep; split <;> decide

theorem maxDef_lt (c : Col) : c.maxDef < 2 ^ 32 := by
  unfold Col.maxDef; split <;> decide

theorem groupsNonEmptyList_leaves (cols : List Col) : Schema.groupsNonEmptyList (cols.map specLeafNode) = true := by
  induction cols with
  | nil => rfl
  | cons c cs ih => simp [Schema.groupsNonEmptyList, Schema.groupsNonEmpty, specLeafNode, ih]

theorem schemaOf_written (cols : List Col) (hne : cols ≠ []) :
    schemaOf (Schema.flatten (specSchemaOf cols)) = .ok (specSchemaOf cols) := by
  unfold specSchemaOf
  apply schemaOf_flatten
  simp only [Schema.groupsNonEmpty, groupsNonEmptyList_leaves, Bool.and_true]
  cases cols with
  | nil => exact absurd rfl hne
  | cons c cs => rfl

theorem ptypeOf_code (t : PType) : ptypeOf t.code = some (specPType t) := by cases t <;> rfl

theorem leafInfosOf_leaf (c : Col) (h : ColOk c) :
    leafInfosOf (specLeafNode c) 0 0 [] = .ok [leafOf c] := by
  have hfl := h.flbaLen
  unfold specLeafNode
  rw [leafInfosOf]
  simp only [Option.bind_some, ptypeOf_code]
  have hcond : ¬ ((c.typeLen : Int) < 0 ∨ (specPType c.ptype = .flba ∧ (c.typeLen : Int) = 0)) := by
    intro hc
    rcases hc with hc | ⟨h1, h2⟩
    · omega
    · have : c.ptype = .flba := by cases hp : c.ptype <;> simp [hp, specPType] at h1 ⊢
      have := hfl this
      omega
  simp only [hcond, if_false]
  have hd : Schema.defInc (some (specRep c.rep)) = c.maxDef := by
    cases hr : c.rep <;> simp [specRep, Schema.defInc, Col.maxDef, hr]
  have hr : Schema.repInc (some (specRep c.rep)) = c.maxRep := by
    cases hr : c.rep <;> simp [specRep, Schema.repInc, Col.maxRep, hr]
  simp [leafOf, hd, hr]

theorem leafInfosOfList_leaves : ∀ (cols : List Col), (∀ c ∈ cols, ColOk c) →
    leafInfosOfList (cols.map specLeafNode) 0 0 [] = .ok (cols.map leafOf)
  | [], _ => by simp [leafInfosOfList]
  | c :: cs, h => by
    have ih := leafInfosOfList_leaves cs (fun x hx => h x (by simp [hx]))
    simp only [List.map_cons, leafInfosOfList, leafInfosOf_leaf c (h c (by simp)), ih]
    simp

theorem columnsOf_written (cols : List Col) (hne : cols ≠ []) (h : ∀ c ∈ cols, ColOk c) :
    columnsOf (specSchemaOf cols) = .ok (cols.map leafOf) := by
  unfold specSchemaOf columnsOf
  have : (cols.map specLeafNode).isEmpty = false := by cases cols <;> simp at hne ⊢
  simp [this, leafInfosOfList_leaves cols h]

/-! ### chunks of one row group -/

theorem sumRows_eq_rows_of (D : Deps) (codec : Nat) (c : Col) : ∀ (ps : List PageRec), PagesOf D codec c ps →
    sumRows ps = (pagesData ps).rows
  | [], _ => rfl
  | r :: ps, h => by
    have ih := sumRows_eq_rows_of D codec c ps (fun x hx => h x (by simp [hx]))
    have hr : r.rows = r.src.numValues := by
      have := congrArg PageRec.rows (h r (by simp)); simpa [pageRecOf] using this
    simp only [sumRows, pagesData, List.map_cons, List.sum_cons] at ih ⊢
    rw [ih, hr]

theorem groupBytes_cons (D : Deps) (ps : List PageRec) (pss : List (List PageRec)) :
    groupBytes D (ps :: pss) = pagesBytes D ps ++ groupBytes D pss := by
  simp [groupBytes]

theorem ptypeCode_spec (t : PType) : ptypeCode (specPType t) = t.code := by cases t <;> rfl

/-- what the page stage needs of the pages of a row group beyond what the writer guarantees: the sizes of every page
fit `int32_t`, and what a REPEATED column received begins with a new row -/
def GroupFits (cols : List Col) (pss : List (List PageRec)) : Prop :=
  (∀ ps ∈ pss, ∀ r ∈ ps, PageSmall r) ∧ ∀ cd ∈ List.zip cols (pss.map pagesData), FirstRepZero cd.1 cd.2

theorem GroupFits.tail {c : Col} {cs : List Col} {ps : List PageRec} {pss : List (List PageRec)}
    (h : GroupFits (c :: cs) (ps :: pss)) : GroupFits cs pss :=
  ⟨fun x hx => h.1 x (by simp [hx]), fun cd hcd => h.2 cd (List.mem_cons_of_mem _ hcd)⟩

theorem _root_.Carquet.Proofs.WriterInv.ChunkOk.facts {o : FileReal.Oracle} {codec : Nat} {c : Col} {m : ChunkMeta}
    {ps : List PageRec} {off : Nat} (h : ChunkOk (deps o) PageGood codec c m ps off) (hs : ∀ r ∈ ps, PageSmall r) :
    ∀ r ∈ ps, PageFacts o codec c r :=
  fun r hr => ⟨(h.recs r hr).1, h.pages.2.2.2.2 r hr, (h.recs r hr).2, hs r hr⟩

theorem chunksIn_of_chunks (o : FileReal.Oracle) (cfg : Config) {codec : Nat}
    (hcodec : codec = 0 ∨ codec = 1 ∨ codec = 5 ∨ codec = 7) {cols : List Col} {ms : List ChunkMeta}
    {pss : List (List PageRec)} {pos : Nat} (h : Chunks (deps o) PageGood codec cols ms pss pos) (hfit : GroupFits cols pss) :
    ChunksIn cfg pos (groupBytes (deps o) pss) (cols.map leafOf) (ms.map cmOf)
      (List.zipWith specChunkOf cols (pss.map pagesData)) := by
  induction h with
  | nil => exact .nil _
  | @cons c m ps off cs ms pss hc _ ih =>
    have hchunk := readChunk_written o cfg codec hcodec c (maxRep_lt c) (maxDef_lt c) ps (hc.facts (hfit.1 ps (by simp)))
      (hfit.2 (c, pagesData ps) (List.mem_cons_self ..)) (cmOf m) rfl hc.pages.2.2.2.1 rfl hc.pages.1 (chunkStart (cmOf m))
    rw [← hc.pages.2.2.1] at hchunk
    rw [groupBytes_cons]
    exact .cons (gap := []) (by simp [cmOf, leafOf, ptypeCode_spec, hc.ptype]) (by simp [cmOf, leafOf, hc.path])
      (by simp [chunkStart, cmOf, hc.offset]) (fun _ => rfl) hc.pages.2.1 hchunk (hc.pages.2.1 ▸ ih hfit.tail)

/-! ### row groups -/

/-- the row group the reader returns for the page records of a written row group -/
def groupTable (cols : List Col) (g : List (List PageRec)) : RowGroup :=
  ⟨List.zipWith specChunkOf cols (g.map pagesData)⟩

theorem dataBytes_cons (D : Deps) (g : List (List PageRec)) (gs : List (List (List PageRec))) :
    dataBytes D (g :: gs) = groupBytes D g ++ dataBytes D gs := by
  simp [dataBytes]

theorem rowsOf_specChunkOf {o : FileReal.Oracle} {codec : Nat} {c : Col} (ps : List PageRec)
    (h : ∀ r ∈ ps, PageFacts o codec c r) :
    rowsOf (leafOf c).maxRep (specChunkOf c (pagesData ps)) = (pagesData ps).recs c.maxRep := by
  obtain ⟨l1, l2⟩ := specReps_pagesData_length ps h
  have hlen := specChunkOf_pagesData_length ps h
  rw [sumRows_eq_rows_of (deps o) codec c ps (fun r hr => (h r hr).isRec)] at hlen
  have hmap := specEntriesR_reps c.maxDef (specReps c (pagesData ps)) (specDefs c (pagesData ps)) (pagesData ps).vals
    (l1.trans l2.symm)
  have hmr : (leafOf c).maxRep = c.maxRep := rfl
  unfold rowsOf ColData.recs
  rw [hmr]
  by_cases h0 : c.maxRep = 0
  · simp [h0, hlen]
  · simp only [h0, if_false]
    have hr : specReps c (pagesData ps) = (pagesData ps).reps := by simp [specReps, h0]
    rw [hr] at hmap
    have hcount : ∀ es : List Entry,
        (es.filter (fun e => e.rep == 0)).length = ((es.map (·.rep)).filter (· == 0)).length := by
      intro es
      induction es with
      | nil => rfl
      | cons e es ih =>
        simp only [List.filter_cons, List.map_cons]
        by_cases he : e.rep = 0 <;> simp [he, ih]
    unfold specChunkOf
    rw [hcount, hr, hmap]

theorem rows_of_chunks (o : FileReal.Oracle) {codec : Nat} {cols : List Col} {ms : List ChunkMeta}
    {pss : List (List PageRec)} {pos n : Nat} (h : Chunks (deps o) PageGood codec cols ms pss pos) (hfit : GroupFits cols pss)
    (hrows : ∀ x ∈ List.zipWith (fun (c : Col) (d : ColData) => d.recs c.maxRep) cols (pss.map pagesData), x = n) :
    (List.zipWith (fun (l : LeafInfo) ch => rowsOf l.maxRep ch == n) (cols.map leafOf)
      (List.zipWith specChunkOf cols (pss.map pagesData))).all id = true := by
  induction h with
  | nil => rfl
  | @cons c m ps off cs ms pss hc _ ih =>
    have hn : (pagesData ps).recs c.maxRep = n := hrows _ (List.mem_cons_self ..)
    have h1 : (rowsOf (leafOf c).maxRep (specChunkOf c (pagesData ps)) == n) = true := by
      rw [rowsOf_specChunkOf ps (hc.facts (hfit.1 ps (by simp))), hn]; simp
    simp only [List.map_cons, List.zipWith_cons_cons, List.all_cons, id, h1, Bool.true_and]
    exact ih hfit.tail (fun x hx => hrows x (List.mem_cons_of_mem _ hx))

theorem groupsIn_of_groups (o : FileReal.Oracle) (cfg : Config) {codec : Nat}
    (hcodec : codec = 0 ∨ codec = 1 ∨ codec = 5 ∨ codec = 7) {cols : List Col} {gms : List RgMeta}
    {gs : List (List (List PageRec))} {pos ord : Nat} (h : Groups (deps o) (goodPred o) codec cols gms gs pos ord)
    (hfit : ∀ g ∈ gs, GroupFits cols g)
    (hal : ∀ g ∈ gs, ∀ x ∈ List.zipWith (fun (c : Col) (d : ColData) => d.recs c.maxRep) cols (g.map pagesData),
      x = firstRecs cols (g.map pagesData)) :
    GroupsIn cfg (cols.map leafOf) pos (dataBytes (deps o) gs) (gms.map rgMetaOf) (gs.map (groupTable cols)) := by
  induction h with
  | nil => exact .nil _
  | @cons gm g off ord gms gs hg _ ih =>
    have ih' := ih (fun x hx => hfit x (by simp [hx])) (fun x hx => hal x (by simp [hx]))
    rw [hg.compressed, ← hg.chunks.size] at ih'
    rw [dataBytes_cons]
    exact .cons (chunksIn_of_chunks o cfg hcodec hg.chunks (hfit g (by simp)))
      (rows_of_chunks o hg.chunks (hfit g (by simp))
        (by show ∀ x ∈ _, x = gm.numRows; rw [hg.rows (goodPred_wf o)]; exact hal g (by simp)))
      (by simp only [rgMetaOf, List.map_map, hg.byteSize]; rfl) ih'

/-! ### the whole file -/

/-- the numbers of a run fit the C types: footer within the Thrift parser's limits and the
`int64_t` / `int16_t` fields (`footerOk`), footer shorter than 4 GiB, every page's body, stored body
and row count below 2^31 -/
structure RunSmall (md : FooterData) (gs : List (List (List PageRec))) : Prop where
  footer : Carquet.Proofs.FileRealFooter.footerOk md = true
  footerLen : (FileReal.footer md).length < 2 ^ 32
  pages : ∀ g ∈ gs, ∀ ps ∈ g, ∀ r ∈ ps, PageSmall r

/-- **whole-file stage**: when every call and the close returned OK, the independent reader (strict tiling) returns the
table the history denotes -/
theorem read_written (o : FileReal.Oracle) {codec : Nat} (hcodec : codec = 0 ∨ codec = 1 ∨ codec = 5 ∨ codec = 7)
    (cols : List Col) (hne : cols ≠ []) (hcols : ∀ c ∈ cols, ColOk c) (pageSize : Nat) (createdBy : String) (ops : List Op)
    (hq : ∀ b, Op.batch b ∈ ops → ∀ c, cols[b.col]? = some c → BatchOk c b)
    (hal : ∀ g ∈ tableOf cols ops, ∀ n ∈ List.zipWith (fun (c : Col) (d : ColData) => d.recs c.maxRep) cols g,
      n = firstRecs cols g)
    (hfirst : ∀ g ∈ tableOf cols ops, ∀ cd ∈ List.zip cols g, FirstRepZero cd.1 cd.2)
    (hsm : RunSmall (mdOfRun (deps o) cols codec pageSize createdBy ops) (pagesOfRun (deps o) cols codec pageSize createdBy ops))
    (hok : ∀ s ∈ (fileOf (deps o) cols codec pageSize createdBy ops).2, s = .ok) (oracle : File.Oracle) :
    File.read (fileOf (deps o) cols codec pageSize createdBy ops).1 (strictTiling := true) (oracle := oracle) =
      .ok (specTableOf cols ops) := by
  obtain ⟨hfile, hc, -, hrows, hg⟩ := fileOf_groups (deps o) (goodPred o) cols codec pageSize createdBy ops hq
    (fileOf_last_ok _ cols codec pageSize createdBy ops hok)
  have htable := run_table (goodPred_wf o) cols codec pageSize createdBy ops hq hok
  generalize mdOfRun (deps o) cols codec pageSize createdBy ops = md at *
  generalize pagesOfRun (deps o) cols codec pageSize createdBy ops = gs at *
  have hmem : ∀ g ∈ gs, g.map pagesData ∈ tableOf cols ops := fun g hg' => htable ▸ List.mem_map.mpr ⟨g, hg', rfl⟩
  have hrg := groupsIn_of_groups o ⟨true, oracle⟩ hcodec hg (fun g hg' => ⟨hsm.pages g hg', hfirst _ (hmem g hg')⟩)
    (fun g hg' => hal _ (hmem g hg'))
  have htab : (⟨specSchemaOf cols, gs.map (groupTable cols)⟩ : Table) = specTableOf cols ops := by
    unfold specTableOf specRowGroupsOf
    rw [← htable, List.map_map]
    rfl
  rw [← htab, hfile, le32_eq_leBytes]
  exact read_of (fm := fileMetaOfWritten md) hrg hsm.footerLen (parseFooter_written md hsm.footer)
    (by rw [fileMetaOfWritten, hc]; exact schemaOf_written cols hne) (columnsOf_written cols hne hcols)
    (by simp only [fileMetaOfWritten, List.map_map, hrows]; rfl)

theorem read_rejects (file : List UInt8) (md : FooterData) (footerStart : Nat) (e : Reason)
    (hsplit : splitFile file = .ok (footerStart, FileReal.footer md))
    (hok : Carquet.Proofs.FileRealFooter.footerOk md = true) (hne : md.cols ≠ []) (hcols : ∀ c ∈ md.cols, ColOk c)
    (hrg : readRowGroups ⟨true, []⟩ file footerStart (md.cols.map leafOf) (md.rowGroups.map rgMetaOf) 4 = .error e) :
    File.read file (strictTiling := true) = .error e := by
  unfold File.read readWith
  simp only [hsplit, bind, Except.bind, parseFooter_written md hok, fileMetaOfWritten, schemaOf_written _ hne,
    columnsOf_written _ hne hcols, hrg]

end Carquet.Proofs.SpecWriter
