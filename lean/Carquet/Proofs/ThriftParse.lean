import Carquet.Proofs.ThriftSkip
import Carquet.Impl.ThriftParquet
/-
Generic contracts for the field handlers of the parquet_types.c parsers: a handler that reads
its value with a reader `rd` and stores it, a handler that skips, a nested struct parser, a
list of elements.  Used struct by struct in ThriftStructs.lean.
-/
namespace Carquet.Proofs.Thrift
open Carquet.Spec.Thrift
open Carquet.Impl.Thrift
open Carquet.Impl.ThriftParquet

/-! ### projections of Thrift values (total; only used under the matching shape hypothesis) -/

def asInt : TVal → Int
  | .i8 x => x | .i16 x => x | .i32 x => x | .i64 x => x | _ => 0
def asBool : TVal → Bool
  | .bool b => b | _ => false
def asBin : TVal → Bytes
  | .binary b => b | _ => []
def asFields : TVal → List (Int × TVal)
  | .struct fs => fs | _ => []
def asElems : TVal → List TVal
  | .list _ xs => xs | .set _ xs => xs | _ => []

theorem enc_i8_inv {x b} (h : Enc (.val (.i8 x)) b) : b = [byteOf x] ∧ inI8 x := by cases h with | i8 h => exact ⟨rfl, h⟩
theorem enc_i16_inv {x b} (h : Enc (.val (.i16 x)) b) : b = uleb (zigzag x) ∧ inI16 x := by cases h with | i16 h => exact ⟨rfl, h⟩
theorem enc_i32_inv {x b} (h : Enc (.val (.i32 x)) b) : b = uleb (zigzag x) ∧ inI32 x := by cases h with | i32 h => exact ⟨rfl, h⟩
theorem enc_i64_inv {x b} (h : Enc (.val (.i64 x)) b) : b = uleb (zigzag x) ∧ inI64 x := by cases h with | i64 h => exact ⟨rfl, h⟩
theorem enc_binary_inv {x : List UInt8} {b} (h : Enc (.val (.binary x)) b) : b = uleb x.length ++ x ∧ x.length < 2 ^ 31 := by
  cases h with | binary h => exact ⟨rfl, h⟩

theorem reads_enc_i8 (x : Int) (k : Nat) : ∀ b, Enc (.val (.i8 x)) b → Reads k readI8 b x := by
  intro b h; obtain ⟨rfl, hx⟩ := enc_i8_inv h; exact reads_i8 x hx k
theorem reads_enc_i16 (x : Int) (k : Nat) : ∀ b, Enc (.val (.i16 x)) b → Reads k readI16 b x := by
  intro b h; obtain ⟨rfl, hx⟩ := enc_i16_inv h; exact reads_i16 x hx k
theorem reads_enc_i32 (x : Int) (k : Nat) : ∀ b, Enc (.val (.i32 x)) b → Reads k readI32 b x := by
  intro b h; obtain ⟨rfl, hx⟩ := enc_i32_inv h; exact reads_i32 x hx k
theorem reads_enc_i64 (x : Int) (k : Nat) : ∀ b, Enc (.val (.i64 x)) b → Reads k readI64 b x := by
  intro b h; obtain ⟨rfl, hx⟩ := enc_i64_inv h; exact reads_i64 x hx k

theorem reads_enc_bindup (x : Bytes) (k : Nat) : ∀ b, Enc (.val (.binary x)) b → Reads k bindupThrift b x := by
  intro b h d r hd
  obtain ⟨rfl, hx⟩ := enc_binary_inv h
  refine ⟨d.boolValue, ?_⟩
  unfold bindupThrift
  rw [readBinary_spec x hx d r hd.rest]
  rfl

theorem reads_enc_strdupBytes (x : Bytes) (k : Nat) : ∀ b, Enc (.val (.binary x)) b → Reads k strdupBytes b (cstr x) := by
  intro b h d r hd
  obtain ⟨rfl, hx⟩ := enc_binary_inv h
  refine ⟨d.boolValue, ?_⟩
  unfold strdupBytes
  rw [readBinary_spec x hx d r hd.rest]
  rfl

theorem reads_enc_strdup (x : Bytes) (k : Nat) : ∀ b, Enc (.val (.binary x)) b → Reads k strdupThrift b (some (cstr x)) := by
  intro b h d r hd
  obtain ⟨bv, hb⟩ := reads_enc_strdupBytes x k b h d r hd
  exact ⟨bv, by unfold strdupThrift; rw [hb]⟩

/-! ### handler contracts -/

/-- a handler that reads its value with `rd` and stores it with `set` -/
theorem valField_of_reads {σ α : Type} (Inv : σ → Prop) (k : Nat) (body : Nat → Int → Dec → σ → σ × Dec)
    (step : σ → Int → TVal → σ) (id : Int) (v : TVal) (rd : Dec → α × Dec) (set : σ → α → σ) (a : α)
    (hbody : ∀ ty d s, body ty id d s = (set s (rd d).1, (rd d).2))
    (hstep : ∀ s, step s id v = set s a)
    (hreads : ∀ b2, Enc (.val v) b2 → Reads k rd b2 a) : ValFieldOK Inv body step k id v := by
  intro b2 hb2 s _ d r hd
  obtain ⟨bv, h⟩ := hreads b2 hb2 d r hd
  exact ⟨bv, by show body v.ty.code id d s = _; rw [hbody, h, hstep]⟩

theorem stackBudget_big (k : Nat) (hk : k ≤ maxNesting) : k < stackBudget := by
  unfold maxNesting at hk; unfold stackBudget; omega

theorem skipField_reads {α : Type} (a : α) (v : TVal) (hnb : v.ty ≠ .bool) (k : Nat) (hk : k ≤ maxNesting)
    (hdep : v.depth ≤ k) (b2 : List UInt8) (hb2 : Enc (.val v) b2) :
    Reads k (fun d => (a, skipField Cfg.fixed v.ty.code d)) b2 a := by
  intro d r hd
  obtain ⟨bv, h⟩ := (skip_consumes v hnb b2 hb2 stackBudget
    (Nat.lt_of_le_of_lt hdep (stackBudget_big k hk))).weaken hdep d r hd
  simp only [Prod.mk.injEq, true_and] at h
  exact ⟨bv, by show (a, skip Cfg.fixed stackBudget v.ty.code d) = _; rw [h]⟩

/-- a handler that skips a field (unknown id) holding a non-bool value -/
theorem valField_skip {σ : Type} (Inv : σ → Prop) (k : Nat) (hk : k ≤ maxNesting) (body : Nat → Int → Dec → σ → σ × Dec)
    (step : σ → Int → TVal → σ) (id : Int) (v : TVal) (hnb : v.ty ≠ .bool) (hdep : v.depth ≤ k)
    (hbody : ∀ ty d s, body ty id d s = (s, skipField Cfg.fixed ty d))
    (hstep : ∀ s, step s id v = s) : ValFieldOK Inv body step k id v := by
  intro b2 hb2 s _ d r hd
  obtain ⟨bv, h⟩ := skipField_reads s v hnb k hk hdep b2 hb2 d r hd
  exact ⟨bv, by show body v.ty.code id d s = _; rw [hbody, hstep]; exact h⟩

/-- a handler that skips a bool field (unknown id): the pending value is dropped -/
theorem boolField_skip {σ : Type} (Inv : σ → Prop) (k : Nat) (body : Nat → Int → Dec → σ → σ × Dec)
    (step : σ → Int → TVal → σ) (id : Int) (b : Bool)
    (hbody : ∀ ty d s, body ty id d s = (s, skipField Cfg.fixed ty d))
    (hstep : ∀ s, step s id (.bool b) = s) : BoolFieldOK Inv body step k id b := by
  intro d s _ hs _ _ _ _
  refine ⟨d.boolValue, ?_⟩
  rw [hbody, hstep, skipField_bool b d hs]

/-- a handler that reads a bool field with `thrift_read_bool` -/
theorem boolField_read {σ : Type} (Inv : σ → Prop) (k : Nat) (body : Nat → Int → Dec → σ → σ × Dec)
    (step : σ → Int → TVal → σ) (id : Int) (b : Bool) (set : σ → Bool → σ)
    (hbody : ∀ ty d s, body ty id d s = (set s (readBool d).1, (readBool d).2))
    (hstep : ∀ s, step s id (.bool b) = set s b) : BoolFieldOK Inv body step k id b := by
  intro d s _ _ hp hv _ _
  refine ⟨d.boolValue, ?_⟩
  rw [hbody, hstep, readBool_pending d hp, hv]

/-! ### lists -/

theorem readMany_elems {α : Type} (elem : Dec → α × Dec) (conv : TVal → α) (k : Nat) : ∀ (xs : List TVal) (bs : List UInt8),
    (∀ x ∈ xs, ∀ b, Enc (.val x) b → Reads k elem b (conv x)) → Enc (.elems xs) bs →
    Reads k (readMany elem xs.length) bs (xs.map conv)
  | [], bs, _, henc => by cases enc_elems_nil henc; exact Reads.pure k []
  | x :: rest, bs, hx, henc => by
    obtain ⟨b1, b2, rfl, h1, h2⟩ := enc_elems_cons henc
    exact ((hx x List.mem_cons_self b1 h1).bind (g := fun a d => (a :: (readMany elem rest.length d).1, (readMany elem rest.length d).2))
      ((readMany_elems elem conv k rest b2 (fun y hy => hx y (List.mem_cons_of_mem _ hy)) h2).map (conv x :: ·))).of_eq
      fun _ _ _ => rfl

/-- `thrift_read_list_begin; VALIDATE_COUNT; for … elem` on a list value within the limit -/
theorem parseListOf_reads {α : Type} (max : Int) (elem : Dec → α × Dec) (conv : TVal → α) (k : Nat)
    (et : TType) (xs : List TVal) (hmax : (xs.length : Int) ≤ max)
    (helem : ∀ x ∈ xs, ∀ b, Enc (.val x) b → Reads k elem b (conv x)) :
    ∀ bs, Enc (.val (.list et xs)) bs → Reads k (parseListOf max elem) bs (some (xs.map conv)) := by
  intro bs henc
  obtain ⟨hdr, body, rfl, hlen, _, hh, he⟩ := enc_list_inv henc
  exact (Reads.listBegin (F := fun _ n d => if n < 0 ∨ max < n then (none, { d with status := some .decode }) else
      (some (readMany elem n.toNat d).1, (readMany elem n.toNat d).2)) hh hlen (enc_len he) fun _ _ => by
    simp only [show ¬ ((xs.length : Int) < 0 ∨ max < (xs.length : Int)) by omega, if_false, Int.toNat_natCast]
    exact (readMany_elems elem conv k xs body helem he).map some).of_eq fun _ _ _ => rfl

end Carquet.Proofs.Thrift
