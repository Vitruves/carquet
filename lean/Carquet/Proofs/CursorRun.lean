import Carquet.Proofs.CursorColumn
/-
C02, column reader: `carquet_column_skip` on `Rep` (`skip_ok`), then the refinement of `Spec.Cursor` by
`Impl.ColumnReader`: a reader with `Rep c ((chunkRows c).drop pos) r` stands for the index cursor at `pos`, for
one API call (`step_ok`) and for whole histories (`outs_ok`).
-/
namespace Carquet.Proofs.Cursor
open Carquet.Spec.Cursor (Row Op)
open Carquet.Impl.ColumnReader

/-! ### carquet_column_skip -/

theorem skipChunk_pos : 0 < Gen.Cursor.skipChunkSize := by decide
theorem skipChunk_small : Gen.Cursor.skipChunkSize < 2147483648 := by decide

theorem min_chunk_add (k len cs : Nat) (h : cs ≤ k) :
    min cs len + min (k - min cs len) (len - cs) = min k len := by
  by_cases hfit : cs ≤ len
  · rw [Nat.min_eq_left hfit, ← Nat.add_min_add_left, Nat.add_sub_cancel' h, Nat.add_sub_cancel' hfit]
  · have hlen : len ≤ cs := Nat.le_of_not_le hfit
    rw [Nat.min_eq_right hlen, Nat.sub_eq_zero_of_le hlen, Nat.min_zero, Nat.add_zero,
      Nat.min_eq_right (Nat.le_trans hlen h)]

theorem drop_chunk_drop (p : List β) (cs k : Nat) (h : cs ≤ k) :
    (p.drop cs).drop (k - min cs p.length) = p.drop k := by
  rw [List.drop_drop]
  by_cases hfit : cs ≤ p.length
  · rw [Nat.min_eq_left hfit, Nat.add_sub_cancel' h]
  · rw [List.drop_eq_nil_iff.mpr (by omega), List.drop_eq_nil_iff.mpr (by omega)]

theorem skipLoop_ok (n : Nat) {c : Chunk α} :
    ∀ (fuel : Nat) (r : Reader α) (total : Nat) (P : List (Row α)), Rep c P r → n - total < fuel → total ≤ n →
      ∃ r', skipLoop Fixes.all n fuel r total = (r', ((total + min (n - total) P.length : Nat) : Int)) ∧
        Rep c (P.drop (n - total)) r' := by
  intro fuel
  induction fuel with
  | zero => intro r total P _ hf; omega
  | succ fuel ih =>
    intro r total P hrep hf hle
    unfold skipLoop
    by_cases hc : total < n ∧ r.valuesRemaining > 0
    · simp only [hc, and_self, if_true]
      have hplen : 0 < P.length := Int.ofNat_lt.mp (by rw [← hrep.rem]; exact hc.2)
      have hcs0 : 0 < min (n - total) Gen.Cursor.skipChunkSize :=
        Nat.lt_min.mpr ⟨Nat.sub_pos_of_lt hc.1, skipChunk_pos⟩
      have hcs1 := Nat.lt_of_le_of_lt (Nat.min_le_right (n - total) Gen.Cursor.skipChunkSize) skipChunk_small
      have hcs2 := Nat.min_le_left (n - total) Gen.Cursor.skipChunkSize
      generalize min (n - total) Gen.Cursor.skipChunkSize = cs at hcs0 hcs1 hcs2
      obtain ⟨r', res, heq, hrep', hres⟩ := rep_readBatch hrep cs hcs0 hcs1 false false
      rw [heq]
      have hcount : res.count = ((min cs P.length : Nat) : Int) := by
        rw [hres.count, List.length_take]
      have hmpos : 0 < min cs P.length := Nat.lt_min.mpr ⟨hcs0, hplen⟩
      have hmle : min cs P.length ≤ n - total := Nat.le_trans (Nat.min_le_left _ _) hcs2
      rw [hcount, if_neg (Int.not_le.mpr (Int.natCast_pos.mpr hmpos)), Int.toNat_natCast]
      clear hcount hres hcs0 hcs1 hplen hc
      generalize hm : min cs P.length = m at hmpos hmle
      obtain ⟨r'', heq2, hrep''⟩ := ih r' (total + m) _ hrep' (by omega) (by omega)
      refine ⟨r'', ?_, ?_⟩
      · rw [heq2, List.length_drop, Nat.sub_add_eq, Nat.add_assoc, ← hm, min_chunk_add _ _ _ hcs2]
      · rw [← drop_chunk_drop _ _ _ hcs2, hm, ← Nat.sub_add_eq]; exact hrep''
    · rw [if_neg hc]
      -- the loop ends: nothing more was asked for, or nothing is left
      have hz : n - total = 0 ∨ P = [] := by
        by_cases h1 : total < n
        · have h2 : ¬ r.valuesRemaining > 0 := fun h2 => hc ⟨h1, h2⟩
          exact .inr (List.eq_nil_of_length_eq_zero (by have := hrep.rem; omega))
        · exact .inl (by omega)
      rcases hz with hz | rfl
      · exact ⟨r, by rw [hz, Nat.zero_min, Nat.add_zero], by rw [hz]; exact hrep⟩
      · exact ⟨r, by rw [List.length_nil, Nat.min_zero, Nat.add_zero], by rw [List.drop_nil]; exact hrep⟩

/-- `carquet_column_skip(reader, k)` advances by exactly `min k remaining` rows. -/
theorem skip_ok {c : Chunk α} {P : List (Row α)} {r : Reader α} (h : Rep c P r) (k : Int) :
    ∃ r', skip Fixes.all r k = (r', ((min k.toNat P.length : Nat) : Int)) ∧ Rep c (P.drop k.toNat) r' := by
  unfold skip
  by_cases hc : k ≤ 0 ∨ r.valuesRemaining ≤ 0
  · simp only [hc, if_true]
    have hz : k.toNat = 0 ∨ P = [] := by
      rcases hc with hc | hc
      · exact .inl (by omega)
      · exact .inr (List.eq_nil_of_length_eq_zero (by have := h.rem; omega))
    rcases hz with hz | rfl
    · exact ⟨r, by simp [hz], by rw [hz]; exact h⟩
    · exact ⟨r, by simp, by rw [List.drop_nil]; exact h⟩
  · simp only [hc, if_false]
    obtain ⟨r', heq, hrep'⟩ := skipLoop_ok k.toNat (k.toNat + 1) r 0 P h (by omega) (by omega)
    exact ⟨r', by rw [heq]; simp, by simpa using hrep'⟩

/-! ### one API call -/

/-- How a Spec output looks through the C API: levels per row, values dense. -/
def encodeOut : Spec.Cursor.Out α → Out α
  | .read n rows => .read n (rows.map (fun row => some row.defLevel)) (rows.map (fun row => some row.repLevel))
      ((rows.filterMap (·.val)).map some)
  | .skip n => .skip n
  | .hasNext b => .hasNext b
  | .remaining n => .remaining n
  | .recreated => .recreated

/-- A read size the `(int32_t)max_values` cast leaves alone. -/
def OpOk : Op → Prop
  | .read k => k < 2147483648
  | _ => True

instance : DecidablePred OpOk := fun op => by cases op <;> unfold OpOk <;> exact inferInstance

theorem rowsOfPages_wf (maxDef : Nat) : ∀ (ps : List (Option (Page α))),
    (∀ p ∈ ps, ∃ q, p = some q ∧ PageOk maxDef q) → ∀ row ∈ rowsOfPages maxDef ps, Row.WF maxDef row := by
  intro ps
  induction ps with
  | nil => intro _ row hrow; simp [rowsOfPages] at hrow
  | cons p ps ih =>
    intro hps row hrow
    obtain ⟨q, rfl, hq⟩ := hps p (by simp)
    simp only [rowsOfPages, List.mem_append] at hrow
    rcases hrow with hrow | hrow
    · exact pageRows_wf _ _ _ _ (by rw [hq.1]; exact Nat.le_refl _) (by rw [hq.2.1]; exact Nat.le_refl _)
        hq.2.2 row hrow
    · exact ih (fun x hx => hps x (by simp [hx])) row hrow

theorem pending_wf (r : Reader α) (h : Inv r) : ∀ row ∈ pending r, Row.WF r.chunk.maxDef row := by
  have hpages := fun n => rowsOfPages_wf r.chunk.maxDef (r.chunk.pages.drop n)
    (fun p hp => h.pagesOk p (List.mem_of_mem_drop hp))
  intro row hrow
  unfold pending at hrow
  by_cases hl : r.pageLoaded = true
  · simp only [hl, if_true, List.mem_append] at hrow
    rcases hrow with hrow | hrow
    · unfold curRows at hrow
      refine pageRows_wf _ _ _ _ ?_ ?_ ?_ row hrow
      · simp [h.repsLen hl]
      · rw [List.length_drop, h.valsLen hl]; exact Nat.le_refl _
      · intro d hd; exact h.defsLe hl d (List.mem_of_mem_drop hd)
    · exact hpages _ row hrow
  · simp only [hl, Bool.false_eq_true, if_false] at hrow
    exact hpages _ row hrow

theorem Rep.wf {c : Chunk α} {P : List (Row α)} {r : Reader α} (h : Rep c P r) : ∀ row ∈ P, Row.WF c.maxDef row := by
  obtain ⟨h, rfl, rfl⟩ := h
  exact pending_wf r h

theorem countP_some (maxDef : Nat) (ds : List Nat) :
    (ds.map some).countP (· == some maxDef) = nn maxDef ds := by
  induction ds with
  | nil => simp [nn]
  | cons d ds ih =>
    rw [nn_cons, List.map_cons, List.countP_cons, ih]
    by_cases h : d = maxDef <;> simp [h] <;> omega

/-- What the caller sees of a read that delivered the well-formed rows `del`. -/
theorem observe_ok (maxDef k : Nat) (res : ReadResult α) (del : List (Row α)) (h : ResOk true true k res del)
    (hwf : ∀ row ∈ del, Row.WF maxDef row) :
    observe maxDef res = encodeOut (.read del.length del) := by
  unfold observe encodeOut
  rw [h.count, h.defs, h.reps, h.vals]
  simp only [if_true, Int.toNat_natCast]
  have h1 : (fill (del.map (·.defLevel)) k).take del.length = (del.map (·.defLevel)).map some := by
    have := take_fill (del.map (·.defLevel)) k
    simpa using this
  have h2 : (fill (del.map (·.repLevel)) k).take del.length = (del.map (·.repLevel)).map some := by
    have := take_fill (del.map (·.repLevel)) k
    simpa using this
  rw [h1, h2, countP_some, ← length_filterMap_val maxDef del hwf, take_fill]
  simp

theorem step_read (fx : Fixes) (r : Reader α) (k : Int) :
    step fx r (.read k) = ((readBatch fx r k true true).1, observe r.chunk.maxDef (readBatch fx r k true true).2) := rfl
theorem step_skip (fx : Fixes) (r : Reader α) (k : Int) :
    step fx r (.skip k) = ((skip fx r k).1, .skip (skip fx r k).2) := rfl

theorem drop_add_min (rows : List (Row α)) (pos k : Nat) :
    (rows.drop pos).drop k = rows.drop (pos + min k (rows.length - pos)) := by
  rw [List.drop_drop]
  by_cases hfit : k ≤ rows.length - pos
  · congr 1; omega
  · rw [List.drop_eq_nil_iff.mpr (by omega), List.drop_eq_nil_iff.mpr (by omega)]

/-- One API call on a reader that represents position `pos` of the chunk's rows. -/
theorem step_ok {c : Chunk α} (hc : ChunkOk c) {r : Reader α} (pos : Nat) (h : Rep c ((chunkRows c).drop pos) r)
    (hpos : pos ≤ (chunkRows c).length) (op : Op) (hop : OpOk op) :
    (step Fixes.all r op).2 = encodeOut (Spec.Cursor.step (chunkRows c) pos op).2 ∧
    Rep c ((chunkRows c).drop (Spec.Cursor.step (chunkRows c) pos op).1) (step Fixes.all r op).1 ∧
    (Spec.Cursor.step (chunkRows c) pos op).1 ≤ (chunkRows c).length := by
  have hlen : ((chunkRows c).drop pos).length = (chunkRows c).length - pos := List.length_drop
  generalize hrows : chunkRows c = rows at h hpos hlen ⊢
  cases op with
  | read k =>
    rw [step_read]
    by_cases hk : k < 0
    · have hs : Spec.Cursor.step rows pos (.read k) = (pos, .read (-1) []) := by
        simp [Spec.Cursor.step, hk]
      have : readBatch Fixes.all r k true true = (releaseRetired Fixes.all r, ⟨-1, [], [], [], [], []⟩) := by
        simp [readBatch, hk]
      rw [this, hs]
      exact ⟨by simp [observe, encodeOut], h.release Fixes.all, hpos⟩
    · have hs : Spec.Cursor.step rows pos (.read k) =
          (pos + min k.toNat (rows.length - pos),
           .read ((min k.toNat (rows.length - pos) : Nat) : Int) ((rows.drop pos).take k.toNat)) := by
        simp [Spec.Cursor.step, hk, Spec.Cursor.left]
      rw [hs]
      by_cases hk0 : k = 0
      · subst hk0
        obtain ⟨r', heq, hrep'⟩ := rep_readBatch_zero h true true
        rw [heq]
        exact ⟨by simp [observe, encodeOut], by simpa using hrep', by simpa using hpos⟩
      · have hkn : ((k.toNat : Nat) : Int) = k := by omega
        have hop' : k < 2147483648 := hop
        obtain ⟨r', res, heq, hrep', hres⟩ := rep_readBatch h k.toNat (by omega) (by omega) true true
        rw [hkn] at heq
        rw [heq]
        refine ⟨?_, ?_, ?_⟩
        · show observe r.chunk.maxDef res = _
          rw [h.chunk, observe_ok c.maxDef k.toNat res _ hres (fun row hrow => h.wf row (List.mem_of_mem_take hrow)),
            List.length_take, hlen]
        · show Rep c _ r'
          rw [← drop_add_min]; exact hrep'
        · show pos + min k.toNat (rows.length - pos) ≤ rows.length
          omega
  | skip k =>
    rw [step_skip]
    obtain ⟨r', heq, hrep'⟩ := skip_ok h k
    rw [heq]
    by_cases hk : k ≤ 0
    · have hs : Spec.Cursor.step rows pos (.skip k) = (pos, .skip 0) := by
        simp [Spec.Cursor.step, hk]
      rw [hs]
      have hz : k.toNat = 0 := by omega
      rw [hz] at hrep'
      exact ⟨by simp [encodeOut, hz], hrep', hpos⟩
    · have hs : Spec.Cursor.step rows pos (.skip k) =
          (pos + min k.toNat (rows.length - pos), .skip ((min k.toNat (rows.length - pos) : Nat) : Int)) := by
        simp [Spec.Cursor.step, hk, Spec.Cursor.left]
      rw [hs]
      refine ⟨?_, ?_, ?_⟩
      · show Out.skip _ = encodeOut (.skip _)
        rw [hlen]; rfl
      · show Rep c _ r'
        rw [← drop_add_min]; exact hrep'
      · show pos + min k.toNat (rows.length - pos) ≤ rows.length
        omega
  | hasNext =>
    refine ⟨?_, h, hpos⟩
    show Out.hasNext (hasNext r) = encodeOut (.hasNext (decide (pos < rows.length)))
    simp only [encodeOut, hasNext, h.rem, hlen]
    congr 1
    by_cases hlt : pos < rows.length <;> simp [hlt] <;> omega
  | remaining =>
    refine ⟨?_, h, hpos⟩
    show Out.remaining (remaining r) = encodeOut (.remaining ((Spec.Cursor.left rows pos : Nat) : Int))
    simp [encodeOut, remaining, h.rem, hlen, Spec.Cursor.left]
  | recreate =>
    refine ⟨rfl, ?_, Nat.zero_le _⟩
    show Rep c (rows.drop 0) (getColumn r.chunk)
    rw [h.chunk, ← hrows]; exact rep_getColumn c hc

theorem outs_ok {c : Chunk α} (hc : ChunkOk c) (ops : List Op) :
    ∀ (r : Reader α) (pos : Nat), Rep c ((chunkRows c).drop pos) r → pos ≤ (chunkRows c).length →
      (∀ op ∈ ops, OpOk op) →
      outs Fixes.all r ops = (Spec.Cursor.outs (chunkRows c) pos ops).map encodeOut ∧
      Rep c ((chunkRows c).drop (Spec.Cursor.finalPos (chunkRows c) pos ops)) (final Fixes.all r ops) ∧
      Spec.Cursor.finalPos (chunkRows c) pos ops ≤ (chunkRows c).length := by
  induction ops with
  | nil => exact fun r pos h hpos _ => ⟨rfl, h, hpos⟩
  | cons op ops ih =>
    intro r pos h hpos hops
    obtain ⟨ho, hrep', hpos'⟩ := step_ok hc pos h hpos op (hops op (by simp))
    obtain ⟨h1, h2, h3⟩ := ih _ _ hrep' hpos' (fun o ho => hops o (by simp [ho]))
    exact ⟨by simp only [outs, Spec.Cursor.outs, List.map_cons, ho, h1], h2, h3⟩

theorem remaining_eq {c : Chunk α} {P : List (Row α)} {r : Reader α} (h : Rep c P r) : remaining r = P.length :=
  h.rem

end Carquet.Proofs.Cursor
