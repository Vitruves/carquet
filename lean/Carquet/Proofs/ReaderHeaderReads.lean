import Carquet.Proofs.ThriftRoundtripTop
import Carquet.Impl.ThriftParquetReq
import Carquet.Impl.FileReal
import Carquet.Proofs.FileRealHeader
/-
`parsePageHeaderC` (the page header as the loaders read it) on the page headers the writers emit:
whatever follows the header in the file, the parse returns the header's fields, the union words
and the header's length.  Built with the Thrift component's table machinery (Proofs/ThriftTable,
ThriftTop): the loop of `pageHdrBody` is described by a table like `tblPageHeader`, with the
member parsers started from the sentinel; `parsePageHeaderC_of_fields` is the result for any
acceptable field list, which each writer's header then instantiates.
-/
namespace Carquet.Proofs.ReaderHeaderReads
open Carquet.Spec.Thrift Carquet.Spec.ParquetThrift
open Carquet.Impl.Thrift Carquet.Impl.ThriftParquet Carquet.Impl.ThriftParquetReq
open Carquet.Proofs.Thrift

abbrev HState := Top PageHdr

def initHdr : PageHdr := ⟨0, 0, 0, none, 0, 0⟩

def tblPageHdrC (R : Nat) : Table HState :=
  [(1, semI32 (fun s x => { s with val := { s.val with type := x } })),
   (2, semI32 (fun s x => { s with val := { s.val with uncompressed := x } })),
   (3, semI32 (fun s x => { s with val := { s.val with compressed := x } })),
   (4, semI32 (fun s x => { s with val := { s.val with crc := some x } })),
   (5, semStructS (okFields (tblDataPage R) (R + 1))
         (fun _ fs => ofFields (tblDataPage R) ({ numValues := sentinel, encoding := sentinel } : DataPageHeader) fs)
         (fun s m => { s with val := { s.val with word0 := upd s.val.word0 m.numValues, word4 := upd s.val.word4 m.encoding } })),
   (7, semStructS (okFields tblDictPage R)
         (fun _ fs => ofFields tblDictPage ({ numValues := sentinel, encoding := sentinel } : DictionaryPageHeader) fs)
         (fun s m => { s with val := { s.val with word0 := upd s.val.word0 m.numValues, word4 := upd s.val.word4 m.encoding } })),
   (8, semStructS (okFields (tblDataPageV2 R) (R + 1))
         (fun _ fs => ofFields (tblDataPageV2 R) ({ numValues := sentinel, numNulls := sentinel } : DataPageHeaderV2) fs)
         (fun s m => { s with val := { s.val with word0 := upd s.val.word0 m.numValues, word4 := upd s.val.word4 m.numNulls } }))]

theorem parsePageHeaderCX_reads (R : Nat) (hR : R + 3 ≤ maxNesting) (fs : List (Int × TVal)) (bs : List UInt8)
    (henc : Enc (.val (.struct fs)) bs) (hok : okFields (tblPageHdrC R) (R + 2) fs) (r : List UInt8) :
    ∃ res, parsePageHeaderCX (bs ++ r) = res ∧ res.status = none ∧
      res.val = (ofFields (tblPageHdrC R) ⟨initHdr, none⟩ fs).val ∧ res.consumed = bs.length := by
  have key : ∃ res : ParseResult PageHdr, topParse (pageHdrBody Cfg.fixed) initHdr (bs ++ r) = res ∧ res.status = none ∧
      res.val = (ofFields (tblPageHdrC R) ⟨initHdr, none⟩ fs).val ∧ res.consumed = bs.length ∧ res.overlay = false := by
    refine topParse_by_table (tblPageHdrC R) ?_ (pageHdrBody Cfg.fixed) (R + 2) (by omega) ?_ ?_ initHdr fs bs henc hok r
    · intro e he s v hs
      simp only [tblPageHdrC, List.mem_cons, List.not_mem_nil, or_false] at he
      rcases he with rfl | rfl | rfl | rfl | rfl | rfl | rfl <;> exact hs
    · intro e he
      simp only [tblPageHdrC, List.mem_cons, List.not_mem_nil, or_false] at he
      rcases he with rfl | rfl | rfl | rfl | rfl | rfl | rfl
      · apply entry_i32; intro _ d s hs; simp only [pageHdrBody, hs]; rfl
      · apply entry_i32; intro _ d s hs; simp only [pageHdrBody, hs]; rfl
      · apply entry_i32; intro _ d s hs; simp only [pageHdrBody, hs]; rfl
      · apply entry_i32; intro _ d s hs; simp only [pageHdrBody, hs]; rfl
      · apply entry_structS _ _ _ _
          (fun _ d => parseStruct (dataPageHeaderBody Cfg.fixed) ({ numValues := sentinel, encoding := sentinel } : DataPageHeader) d)
        · intro s fs' bs' he' hok'; exact parseDataPage_reads R (by omega) _ fs' bs' he' hok'
        · intro _ d s hs; simp only [pageHdrBody, hs]; rfl
      · apply entry_structS _ _ _ _
          (fun _ d => parseStruct (dictionaryPageHeaderBody Cfg.fixed) ({ numValues := sentinel, encoding := sentinel } : DictionaryPageHeader) d)
        · intro s fs' bs' he' hok'
          exact (parseDictPage_reads R (by omega) _ fs' bs' he' hok').weaken (by omega)
        · intro _ d s hs; simp only [pageHdrBody, hs]; rfl
      · apply entry_structS _ _ _ _
          (fun _ d => parseStruct (dataPageHeaderV2Body Cfg.fixed) ({ numValues := sentinel, numNulls := sentinel } : DataPageHeaderV2) d)
        · intro s fs' bs' he' hok'; exact parseDataPageV2_reads R (by omega) _ fs' bs' he' hok'
        · intro _ d s hs; simp only [pageHdrBody, hs]; rfl
    · intro id hid ty d s hs
      simp [tblPageHdrC] at hid
      simp [pageHdrBody, hs, hid]

  obtain ⟨res, h1, h2, h3, h4, _⟩ := key
  exact ⟨res, h1, h2, h3, h4⟩

/-- **the page header as the loaders read it, from its field list**: acceptable fields in any admitted encoding, with
anything behind them, give the header the table makes of the fields and the length of the encoding -/
theorem parsePageHeaderC_of_fields (fs : List (Int × TVal)) (bs : List UInt8) (henc : Enc (.val (.struct fs)) bs)
    (hok : okFields (tblPageHdrC 27) 29 fs) (r : List UInt8) :
    parsePageHeaderC (bs ++ r) = .ok ((ofFields (tblPageHdrC 27) ⟨initHdr, none⟩ fs).val, bs.length) := by
  obtain ⟨res, hres, h1, h2, h3⟩ := parsePageHeaderCX_reads 27 (by simp [maxNesting]) fs bs henc hok r
  unfold parsePageHeaderC
  rw [hres]
  obtain ⟨st, v, n, ov⟩ := res
  simp only at h1 h2 h3
  subst h1 h2 h3
  rfl

/-! ### a data page header as the writers emit it -/

theorem phC_ok (R : Nat) (h : PageHeader) : okFields (tblPageHdrC R) (R + 2) (phFields h) := by
  simp only [phFields, okFields_append]
  refine ⟨⟨⟨⟨?_, ?_⟩, ?_⟩, ?_⟩, ?_⟩
  · exact okFields_f1 _ _ _ _ ⟨_, rfl⟩
  · exact okFields_f1 _ _ _ _ ⟨_, rfl⟩
  · exact okFields_f1 _ _ _ _ ⟨_, rfl⟩
  · exact okFields_fOpt _ _ _ _ _ (fun x _ => ⟨x, rfl⟩)
  · unfold fPageMember
    split
    · exact okFields_f1 _ _ _ _ ⟨_, dataPageHeaderTV_eq _, dp_ok R _⟩
    split
    · exact okFields_f1 _ _ _ _ ⟨_, dataPageHeaderV2TV_eq _, v2_ok R _⟩
    split
    · exact okFields_f1 _ _ _ _ ⟨_, dictionaryPageHeaderTV_eq _, dict_ok R _⟩
    · exact okFields_nil _ _

/-- fields 1 and 2 of a data page header struct are always written: the member parse from the
sentinel ends with the header's value count and encoding -/
theorem dp_of_sentinel (R : Nat) (x : DataPageHeader) :
    (ofFields (tblDataPage R) ({ numValues := sentinel, encoding := sentinel } : DataPageHeader) (dpFields x)).numValues = x.numValues ∧
    (ofFields (tblDataPage R) ({ numValues := sentinel, encoding := sentinel } : DataPageHeader) (dpFields x)).encoding = x.encoding := by
  have e1 : ∀ (s : DataPageHeader) v, stepT (tblDataPage R) s 1 (.i32 v) = { s with numValues := v } := fun _ _ => rfl
  have e2 : ∀ (s : DataPageHeader) v, stepT (tblDataPage R) s 2 (.i32 v) = { s with encoding := v } := fun _ _ => rfl
  have e3 : ∀ (s : DataPageHeader) v, stepT (tblDataPage R) s 3 (.i32 v) = { s with definitionLevelEncoding := v } := fun _ _ => rfl
  have e4 : ∀ (s : DataPageHeader) v, stepT (tblDataPage R) s 4 (.i32 v) = { s with repetitionLevelEncoding := v } := fun _ _ => rfl
  have e5 : ∀ (s : DataPageHeader) (st : Statistics), (stepT (tblDataPage R) s 5 (statisticsTV st)).numValues = s.numValues ∧
      (stepT (tblDataPage R) s 5 (statisticsTV st)).encoding = s.encoding := fun _ _ => ⟨rfl, rfl⟩
  simp only [dpFields, ofFields_append, piece_f1]
  rw [e1, e2, e3, e4]
  cases hst : x.statistics with
  | none => exact ⟨rfl, rfl⟩
  | some st =>
    show (stepT (tblDataPage R) _ 5 (statisticsTV st)).numValues = _ ∧ (stepT (tblDataPage R) _ 5 (statisticsTV st)).encoding = _
    exact e5 _ st

theorem upd_of_i32 (old : Int) (v : Int) (h : isI32 v = true) : upd old v = v := by
  unfold upd sentinel
  simp only [isI32, decide_eq_true_eq] at h
  rw [if_neg (by omega)]

theorem phC_of (R : Nat) (h : PageHeader) (ht : h.type = pageData) (hn : isI32 h.dataPageHeader.numValues = true)
    (he : isI32 h.dataPageHeader.encoding = true) :
    (ofFields (tblPageHdrC R) ⟨initHdr, none⟩ (phFields h)).val =
      ⟨h.type, h.uncompressedPageSize, h.compressedPageSize, h.crc, h.dataPageHeader.numValues, h.dataPageHeader.encoding⟩ := by
  have s1 : stepT (tblPageHdrC R) (⟨initHdr, none⟩ : HState) 1 (.i32 h.type) = ⟨⟨h.type, 0, 0, none, 0, 0⟩, none⟩ := rfl
  have s2 : stepT (tblPageHdrC R) (⟨⟨h.type, 0, 0, none, 0, 0⟩, none⟩ : HState) 2 (.i32 h.uncompressedPageSize) =
      ⟨⟨h.type, h.uncompressedPageSize, 0, none, 0, 0⟩, none⟩ := rfl
  have s3 : stepT (tblPageHdrC R) (⟨⟨h.type, h.uncompressedPageSize, 0, none, 0, 0⟩, none⟩ : HState) 3 (.i32 h.compressedPageSize) =
      ⟨⟨h.type, h.uncompressedPageSize, h.compressedPageSize, none, 0, 0⟩, none⟩ := rfl
  have s4 : ofFields (tblPageHdrC R) (⟨⟨h.type, h.uncompressedPageSize, h.compressedPageSize, none, 0, 0⟩, none⟩ : HState)
      (fOpt 4 TVal.i32 h.crc) = ⟨⟨h.type, h.uncompressedPageSize, h.compressedPageSize, h.crc, 0, 0⟩, none⟩ := by
    cases h.crc <;> rfl
  have s5 : stepT (tblPageHdrC R) (⟨⟨h.type, h.uncompressedPageSize, h.compressedPageSize, h.crc, 0, 0⟩, none⟩ : HState) 5
      (dataPageHeaderTV h.dataPageHeader) =
      ⟨⟨h.type, h.uncompressedPageSize, h.compressedPageSize, h.crc,
        upd 0 (ofFields (tblDataPage R) ({ numValues := sentinel, encoding := sentinel } : DataPageHeader) (dpFields h.dataPageHeader)).numValues,
        upd 0 (ofFields (tblDataPage R) ({ numValues := sentinel, encoding := sentinel } : DataPageHeader) (dpFields h.dataPageHeader)).encoding⟩,
       none⟩ := rfl
  have hmem : fPageMember h = f1 5 (dataPageHeaderTV h.dataPageHeader) := by
    unfold fPageMember; rw [if_pos ht]
  simp only [phFields, hmem, ofFields_append, piece_f1]
  rw [s1, s2, s3, s4, s5]
  obtain ⟨d1, d2⟩ := dp_of_sentinel R h.dataPageHeader
  simp only [d1, d2, upd_of_i32 _ _ hn, upd_of_i32 _ _ he]

/-- **what the loaders read of a data page header written by `parquet_write_page_header`**, with
anything behind it -/
theorem parsePageHeaderC_write (h : PageHeader) (hw : h.wf = true) (ht : h.type = pageData) (r : List UInt8) :
    parsePageHeaderC (writePageHeader h ++ r) =
      .ok (⟨h.type, h.uncompressedPageSize, h.compressedPageSize, h.crc, h.dataPageHeader.numValues, h.dataPageHeader.encoding⟩,
           (writePageHeader h).length) := by
  have henc : Enc (.val (.struct (phFields h))) (encode (pageHeaderTV h)) := by
    have := encodes_encode (pageHeaderTV h) (ph_wf h hw)
    rwa [pageHeaderTV_eq] at this
  have hwf := hw
  simp only [PageHeader.wf, ht, if_true, Bool.and_eq_true, DataPageHeader.wf] at hwf
  rw [(writePageHeader_eq h).1, parsePageHeaderC_of_fields _ _ henc (phC_ok 27 h) r, phC_of 27 h ht hwf.2.1.1.1.1 hwf.2.1.1.1.2]

/-! ### the hand-written page header of `carquet_page_writer_finalize` -/

open Carquet.Impl in
/-- the sizes a page header can carry -/
def HdrFits (unc comp crc n : Nat) (stats : Option Writer.PageStats) : Prop :=
  unc < 2 ^ 31 ∧ comp < 2 ^ 31 ∧ crc < 2 ^ 32 ∧ n < 2 ^ 31 ∧
  ∀ s, stats = some s → s.max ≠ [] ∧ s.min ≠ [] ∧ s.max.length < 2 ^ 31 ∧ s.min.length < 2 ^ 31 ∧ s.nullCount < 2 ^ 63

open Carquet.Impl Carquet.Proofs.FileRealHeader in
/-- **what the loaders read of a page header written by the page writer**, with anything behind it:
the page writer's header is `parquet_write_page_header` of `headerOf` (Proofs/FileRealHeader) -/
theorem parsePageHeaderC_pageWriter (unc comp crc n : Nat) (stats : Option Writer.PageStats)
    (h : HdrFits unc comp crc n stats) (r : List UInt8) :
    parsePageHeaderC (FileReal.pageHeader unc comp crc n stats ++ r) =
      .ok (⟨0, unc, comp, some (FileReal.asI32 crc), n, 0⟩, (FileReal.pageHeader unc comp crc n stats).length) := by
  obtain ⟨h1, h2, h3, h4, h5⟩ := h
  have heq := pageHeader_eq_write unc comp crc n stats (fun s hs => ⟨(h5 s hs).1, (h5 s hs).2.1⟩)
  have hwf := headerOf_wf unc comp crc n stats h1 h2 h3 h4 (fun s hs => ⟨(h5 s hs).2.2.2.2, (h5 s hs).2.2.1, (h5 s hs).2.2.2.1⟩)
  rw [heq, parsePageHeaderC_write (headerOf unc comp crc n stats) hwf rfl r]
  rfl

end Carquet.Proofs.ReaderHeaderReads
