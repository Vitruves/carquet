import Carquet.Proofs.DeltaSpec
import Carquet.Proofs.DeltaImplDec
import Carquet.Proofs.DeltaImplEnc
/-
Glue between the three grammar lemmas (Spec decoder, Impl decoder, Impl encoder) used by the
C11 / C12 property theorems of DELTA_BINARY_PACKED.
-/
namespace Carquet.Impl.Delta
open Carquet.Spec.Delta (Stream Geometry)

theorem truncate_signExtend (W : Nat) (hW : W ≤ 64) (x : BitVec W) :
    BitVec.truncate W (BitVec.signExtend 64 x) = x := by
  have h : BitVec.signExtend 64 x = BitVec.ofInt 64 x.toInt := by
    rw [← BitVec.toInt_signExtend_of_le (v := 64) (x := x) hW, BitVec.ofInt_toInt]
  rw [h, truncate_ofInt W hW, BitVec.ofInt_toInt]

theorem wrap_accum (W : Nat) (x : Int) (ds : List Int) : ∀ y ∈ Spec.Delta.accum W x ds, Spec.Delta.wrap W y = y := by
  induction ds generalizing x with
  | nil => intro y hy; simp [Spec.Delta.accum] at hy
  | cons d ds ih =>
    intro y hy
    simp only [Spec.Delta.accum, List.mem_cons] at hy
    rcases hy with rfl | hy
    · simp [Spec.Delta.wrap]
    · exact ih _ y hy

theorem wrap_values (W : Nat) (s : Stream) : ∀ y ∈ s.values W, Spec.Delta.wrap W y = y := by
  intro y hy
  unfold Stream.values at hy
  split at hy
  · simp at hy
  · simp only [List.mem_cons] at hy
    rcases hy with rfl | hy
    · simp [Spec.Delta.wrap]
    · exact wrap_accum W _ _ y hy

theorem toInt_ofInt_values (W : Nat) (s : Stream) :
    ((s.values W).map (BitVec.ofInt W)).map BitVec.toInt = s.values W := by
  rw [List.map_map]
  refine (List.map_congr_left fun y hy => ?_).trans (List.map_id _)
  rw [Function.comp, BitVec.toInt_ofInt]
  exact wrap_values W s y hy

theorem encodeV_signExtend_stream (W : Nat) (hW : W ≤ 64) (vs : List (BitVec W)) (cap : Nat) (bs : List UInt8)
    (hne : vs ≠ []) (hlen : vs.length ≤ 2147483647)
    (henc : encodeV false (vs.map (BitVec.signExtend 64)) cap = .ok bs) :
    ∃ s : Stream, s.wf ∧ s.geom = ⟨128, 4⟩ ∧ bs = s.bytes ∧ s.count = vs.length ∧
      (s.values W).map (BitVec.ofInt W) = vs := by
  cases vs with
  | nil => exact absurd rfl hne
  | cons v rest =>
    obtain ⟨s, hwf, hg, hbs, hcnt, hvals⟩ :=
      encodeV_stream (v.signExtend 64) (rest.map (BitVec.signExtend 64)) cap bs (by simpa using hlen) henc
    refine ⟨s, hwf, hg, hbs, by simpa using hcnt, ?_⟩
    rw [← implValues_truncate W hW s, hvals, ← List.map_cons, List.map_map]
    exact (List.map_congr_left fun x _ => truncate_signExtend W hW x).trans (List.map_id _)

theorem encodeInt32_stream (vs : List (BitVec 32)) (cap : Nat) (bs : List UInt8) (hne : vs ≠ [])
    (hlen : vs.length ≤ 2147483647) (henc : encodeInt32 vs cap = .ok bs) :
    ∃ s : Stream, s.wf ∧ s.geom = ⟨128, 4⟩ ∧ bs = s.bytes ∧ s.count = vs.length ∧
      (s.values 32).map (BitVec.ofInt 32) = vs :=
  encodeV_signExtend_stream 32 (by decide) vs cap bs hne hlen henc

theorem encodeInt64_stream (vs : List (BitVec 64)) (cap : Nat) (bs : List UInt8) (hne : vs ≠ [])
    (hlen : vs.length ≤ 2147483647) (henc : encodeInt64 vs cap = .ok bs) :
    ∃ s : Stream, s.wf ∧ s.geom = ⟨128, 4⟩ ∧ bs = s.bytes ∧ s.count = vs.length ∧
      (s.values 64).map (BitVec.ofInt 64) = vs :=
  encodeV_signExtend_stream 64 (by decide) vs cap bs hne hlen (by
    rw [List.map_congr_left (fun x _ => BitVec.signExtend_eq x), List.map_id']; exact henc)

theorem stream_decodeInt64 (s : Stream) (tail : List UInt8) (hwf : s.wf)
    (hg : s.geom = ⟨128, 4⟩) (hcnt : s.count ≤ 2147483647) :
    decodeInt64 (s.bytes ++ tail) s.count = .ok ((s.values 64).map (BitVec.ofInt 64), s.bytes.length) := by
  rw [← implValues_truncate 64 (by decide) s,
    List.map_congr_left (fun x _ => BitVec.setWidth_eq x), List.map_id']
  exact decodeV_stream s tail hwf hg hcnt

theorem stream_decodeInt32 (s : Stream) (tail : List UInt8) (hwf : s.wf)
    (hg : s.geom = ⟨128, 4⟩) (hcnt : s.count ≤ 2147483647) :
    decodeInt32 (s.bytes ++ tail) s.count = .ok ((s.values 32).map (BitVec.ofInt 32), s.bytes.length) := by
  simp only [decodeInt32, decodeV_stream s tail hwf hg hcnt, implValues_truncate 32 (by decide) s]

theorem int64_roundtrip (vs : List (BitVec 64)) (cap : Nat) (bs tail : List UInt8)
    (hne : vs ≠ []) (hlen : vs.length ≤ 2147483647) (henc : encodeInt64 vs cap = .ok bs) :
    decodeInt64 (bs ++ tail) vs.length = .ok (vs, bs.length) := by
  obtain ⟨s, hwf, hg, rfl, hcnt, hvals⟩ := encodeInt64_stream vs cap bs hne hlen henc
  rw [← hcnt, ← hvals]
  exact stream_decodeInt64 s tail hwf hg (hcnt ▸ hlen)

theorem int32_roundtrip (vs : List (BitVec 32)) (cap : Nat) (bs tail : List UInt8)
    (hne : vs ≠ []) (hlen : vs.length ≤ 2147483647) (henc : encodeInt32 vs cap = .ok bs) :
    decodeInt32 (bs ++ tail) vs.length = .ok (vs, bs.length) := by
  obtain ⟨s, hwf, hg, rfl, hcnt, hvals⟩ := encodeInt32_stream vs cap bs hne hlen henc
  rw [← hcnt, ← hvals]
  exact stream_decodeInt32 s tail hwf hg (hcnt ▸ hlen)

theorem to_spec_of_stream (W : Nat) (vs : List (BitVec W)) (bs tail : List UInt8)
    (h : ∃ s : Stream, s.wf ∧ s.geom = ⟨128, 4⟩ ∧ bs = s.bytes ∧ s.count = vs.length ∧
      (s.values W).map (BitVec.ofInt W) = vs) :
    Spec.Delta.decode W (bs ++ tail) = .ok (vs.map BitVec.toInt, tail) := by
  obtain ⟨s, hwf, _, rfl, _, rfl⟩ := h
  rw [Spec.Delta.decode_stream W s tail hwf, toInt_ofInt_values]

theorem int64_to_spec (vs : List (BitVec 64)) (cap : Nat) (bs tail : List UInt8)
    (hne : vs ≠ []) (hlen : vs.length ≤ 2147483647) (henc : encodeInt64 vs cap = .ok bs) :
    Spec.Delta.decode 64 (bs ++ tail) = .ok (vs.map BitVec.toInt, tail) :=
  to_spec_of_stream 64 vs bs tail (encodeInt64_stream vs cap bs hne hlen henc)

theorem int32_to_spec (vs : List (BitVec 32)) (cap : Nat) (bs tail : List UInt8)
    (hne : vs ≠ []) (hlen : vs.length ≤ 2147483647) (henc : encodeInt32 vs cap = .ok bs) :
    Spec.Delta.decode 32 (bs ++ tail) = .ok (vs.map BitVec.toInt, tail) :=
  to_spec_of_stream 32 vs bs tail (encodeInt32_stream vs cap bs hne hlen henc)

/-- For test vectors: one evaluation of a concrete run `e` yields its result and a decidable fact about it. -/
theorem exists_ok {ε α : Type} (e : Except ε α) (P : α → Prop) [DecidablePred P]
    (h : (match e with | .ok a => decide (P a) | .error _ => false) = true) : ∃ a, e = .ok a ∧ P a := by
  cases e with
  | error _ => cases h
  | ok a => exact ⟨a, rfl, of_decide_eq_true h⟩

end Carquet.Impl.Delta
