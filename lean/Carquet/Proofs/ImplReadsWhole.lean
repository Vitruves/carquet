import Carquet.Proofs.ImplReadsFile
/-
C06, implementation half — the whole-file theorem over the stage lemmas: for the file `writeFull t l`
of an admissible layout inside carquet's claimed set, `carquet_reader_open*` succeeds in every mode and
the opened reader satisfies `Opening` (every `get_column` succeeds and one complete `read_batch` per
chunk returns the chunk's entries); hence `readAll` returns `readerTableOfSpec t`.
-/
namespace Carquet.Proofs.ImplReads
open Carquet.Spec Carquet.Spec.File Carquet.Spec.Thrift Carquet.Spec.ParquetThrift
open Carquet.Impl
open Carquet.Impl.Reader hiding Bytes
open Carquet.Proofs.SpecFile (ChunkAdm CcDesc RgDesc2 chunkDesc fmFields2 statsFieldsOf LayoutAdm layoutAdm_iff)
open Carquet.Proofs.Cursor (ResOk)
open Carquet.Impl.Reader.Claim (zipWith3)

theorem claimed_bounds {f : Bool} {leaf : LeafInfo} {cl : ChunkLayout} {es : Chunk} (h : chunkClaimed f leaf cl es = true) :
    leaf.path.length ≤ 100 ∧ (usedEncodings cl).length ≤ 100 ∧ chunkExtrasDepthOk cl = true := by
  unfold Carquet.Impl.Reader.Claim.chunkClaimed at h
  simp only [Bool.and_eq_true, decide_eq_true_eq] at h
  exact ⟨h.1.1.2, h.1.2, h.1.1.1.1.1.1⟩

theorem chunkDepth_parts {cl : ChunkLayout} (h : chunkExtrasDepthOk cl = true) :
    extrasDepth 29 cl.chunkExtra = true ∧ extrasDepth 28 cl.metaExtra = true := by
  unfold Carquet.Impl.Reader.Claim.chunkExtrasDepthOk at h
  simp only [Bool.and_eq_true] at h
  exact ⟨h.1.1.1, h.1.1.2⟩

theorem writer_le32 (n : Nat) : Writer.le32 n = File.leBytes 4 n := by
  rw [Carquet.Proofs.ReaderPageRoundtrip.le32_eq_leBytes, file_leBytes_eq]

/-- the FileMetaData record `parquet_parse_file_metadata` returns for the reference writer's footer -/
def mdOf (version : Int) (els : List Schema.Element) (numRows : Nat) (ds : List RgDesc2) (createdBy : Option Bytes) :
    ThriftParquet.FileMetaData :=
  { version := version, schema := els.map implSE, numRows := (numRows : Int), rowGroups := ds.map implRG,
    keyValueMetadata := [], createdBy := createdBy.map ThriftParquet.cstr }

/-- **open + every cell**: the reader opened on the reference writer's file -/
theorem opening_reference (t : File.Table) (l : Layout) (file : Bytes) (oracle : Oracle)
    (hw : writeFull t l = some (file, oracle)) (hadm : layoutAdm l = true)
    (hwf : ∀ v, footerTV t l = some v → v.wf = true ∧ footerUsizeOk v = true)
    (hlen : file.length < 2 ^ 31) (hsmall : ∀ g ∈ t.rowGroups, ∀ es ∈ g.chunks, es.length < 2 ^ 31)
    (mode : Mode) (hclaim : fileClaimed (decide (mode = .fread)) t l = true)
    (verify : Bool) (L : Libs) (hL : LibsDecode L oracle) :
    ∃ (o : Opened) (leaves : List LeafInfo), columnsOf t.schema = .ok leaves ∧ openFile mode file = .ok o ∧
      Opening L verify mode file o leaves t.rowGroups ∧ o.md.numRows = (numRowsOfSpec t : Int) := by
  have hl := layoutAdm_iff hadm
  obtain ⟨schema, groups⟩ := t
  unfold writeFull at hw
  unfold footerTV at hwf
  unfold Carquet.Impl.Reader.Claim.fileClaimed at hclaim
  simp only at hw hwf hsmall hclaim
  cases hcols : columnsOf schema with
  | error e => simp [hcols] at hw
  | ok leaves =>
    simp only [hcols] at hw hwf hclaim
    cases hg : writeGroups leaves l.rowGroupExtra l.rowGroups groups 4 with
    | none => simp [hg] at hw
    | some G =>
      simp only [hg, Option.some.injEq, Prod.mk.injEq] at hw hwf
      obtain ⟨hfile, horacle⟩ := hw
      obtain ⟨hwfv, husv⟩ := hwf _ rfl
      simp only [Bool.and_eq_true, decide_eq_true_eq] at hclaim
      obtain ⟨⟨⟨⟨hdep, hsl⟩, hgl⟩, hll⟩, hzip⟩ := hclaim
      unfold Carquet.Impl.Reader.Claim.layoutExtrasDepthOk at hdep
      simp only [Bool.and_eq_true] at hdep
      obtain ⟨⟨⟨hd1, hd2⟩, hd3⟩, _⟩ := hdep
      have husz := Carquet.Proofs.SpecFile.footerUsizeOk_withExtras _ _ _ _ _ _ hl.footerExtra husv
      obtain ⟨ds, hds, hdok, hend, hnr, hl1, hl2, hcells⟩ := writeGroups_cells leaves l.rowGroupExtra hl.rowGroupExtra
        l.rowGroups groups 4 G hl.chunks hg husz
      obtain ⟨lfs, hbs, hlfl, hlf⟩ := buildSchema_written schema leaves hcols
      -- every cell: where it lies, and that it is inside the claimed set
      have hcellx : ∀ (i j : Nat) (cls : List ChunkLayout) (g : RowGroup) (rd : RgDesc2) (leaf : LeafInfo) (cl : ChunkLayout)
          (es : Chunk) (d : CcDesc), l.rowGroups[i]? = some cls → groups[i]? = some g → ds[i]? = some rd →
          leaves[j]? = some leaf → cls[j]? = some cl → g.chunks[j]? = some es → rd.chunks[j]? = some d →
          CellOf G.bytes 4 G.oracle leaf cl es d ∧ ChunkAdm cl ∧
            chunkClaimed (decide (mode = .fread)) leaf cl es = true := by
        intro i j cls g rd leaf cl es d k1 k2 k3 k4 k5 k6 k7
        obtain ⟨_, _, _, _, hc⟩ := hcells i cls g rd k1 k2 k3
        refine ⟨hc j leaf cl es d k4 k5 k6 k7, hl.chunks cls (List.mem_of_getElem? k1) cl (List.mem_of_getElem? k5), ?_⟩
        have hz := zipWith_all _ _ _ hzip i cls g k1 k2
        exact zipWith3_all _ _ _ _ hz j leaf cl es k4 k5 k6
      have hrow : ∀ i, i < groups.length → ∃ cls g rd, l.rowGroups[i]? = some cls ∧ groups[i]? = some g ∧ ds[i]? = some rd :=
        fun i hi => by
          obtain ⟨cls, hcls⟩ := getElem?_of_lt l.rowGroups i (by omega)
          obtain ⟨g, hgi⟩ := getElem?_of_lt groups i hi
          obtain ⟨rd, hrd⟩ := getElem?_of_lt ds i (by omega)
          exact ⟨cls, g, rd, hcls, hgi, hrd⟩
      -- every footer entry is a `chunkDesc`
      have hdesc : ∀ rd ∈ ds, rd.extra = l.rowGroupExtra ∧ rd.chunks.length = leaves.length ∧
          ∀ d ∈ rd.chunks, ∃ (leaf : LeafInfo) (cl : ChunkLayout) (es : Chunk) (posj : Nat) (dp pages : Written),
            d = chunkDesc leaf cl es posj dp pages ∧ chunkClaimed (decide (mode = .fread)) leaf cl es = true := by
        intro rd hrd
        obtain ⟨i, hi⟩ := List.mem_iff_getElem?.mp hrd
        obtain ⟨cls, g, rd', hcls, hgi, hi'⟩ := hrow i (by have := (List.getElem?_eq_some_iff.mp hi).1; omega)
        obtain rfl : rd = rd' := Option.some.inj (hi.symm.trans hi')
        obtain ⟨e1, e2, e3, e4, _⟩ := hcells i cls g rd hcls hgi hi
        refine ⟨e1, e2, ?_⟩
        intro d hd
        obtain ⟨j, hj⟩ := List.mem_iff_getElem?.mp hd
        have hjlt : j < rd.chunks.length := (List.getElem?_eq_some_iff.mp hj).1
        obtain ⟨leaf, hleaf⟩ := getElem?_of_lt leaves j (by omega)
        obtain ⟨cl, hcl⟩ := getElem?_of_lt cls j (by omega)
        obtain ⟨es, hes⟩ := getElem?_of_lt g.chunks j (by omega)
        obtain ⟨hcell, _, hcc⟩ := hcellx i j cls g rd leaf cl es d hcls hgi hi hleaf hcl hes hj
        obtain ⟨posj, c, a, b, dp, pages, _, _, _, h4, _⟩ := hcell
        exact ⟨leaf, cl, es, posj, dp, pages, h4, hcc⟩
      -- the footer
      have hlim : FooterLimits (Schema.flatten schema) l.schemaExtra ds l.footerExtra := by
        refine ⟨hsl, by omega, ?_, ?_, ?_, ?_, hd1, hd2, ?_, ?_⟩
        · intro g hg'; rw [(hdesc g hg').2.1]; exact hll
        · intro g hg' d hd
          obtain ⟨leaf, cl, es, posj, dp, pages, rfl, hcc⟩ := (hdesc g hg').2.2 d hd
          exact (claimed_bounds hcc).2.1
        · intro g hg' d hd
          obtain ⟨leaf, cl, es, posj, dp, pages, rfl, hcc⟩ := (hdesc g hg').2.2 d hd
          simp only [chunkDesc, List.length_map]
          exact (claimed_bounds hcc).1
        · intro g hg' d hd fs hfs
          obtain ⟨leaf, cl, es, posj, dp, pages, rfl, hcc⟩ := (hdesc g hg').2.2 d hd
          simp only [chunkDesc] at hfs
          split at hfs
          · simp only [Option.some.injEq] at hfs
            exact ⟨_, hfs.symm⟩
          · cases hfs
        · intro g hg'; rw [(hdesc g hg').1]; exact hd3
        · intro g hg' d hd
          obtain ⟨leaf, cl, es, posj, dp, pages, rfl, hcc⟩ := (hdesc g hg').2.2 d hd
          exact chunkDepth_parts (claimed_bounds hcc).2.2
      have hfooterTV : fileMetaTV l.version ((Schema.flatten schema).map (fun e => schemaElementTV e l.schemaExtra))
          ((groups.map (groupRows leaves)).sum) G.metas l.createdBy l.footerExtra =
          .struct (fmFields2 l.version (Schema.flatten schema) l.schemaExtra ((groups.map (groupRows leaves)).sum) ds
            l.createdBy l.footerExtra) := by
        rw [hds]
        rfl
      rw [hfooterTV] at hwfv hfile
      have hparse := parseFooter_written l.form l.version (Schema.flatten schema) l.schemaExtra ((groups.map (groupRows leaves)).sum)
        ds l.createdBy l.footerExtra hwfv hl.footerExtra hl.schemaExtra hdok hlim
      generalize hft : encodeValF l.form (.struct (fmFields2 l.version (Schema.flatten schema) l.schemaExtra
        ((groups.map (groupRows leaves)).sum) ds l.createdBy l.footerExtra)) = ft at hfile hparse
      have hparse' : ThriftParquetReq.parseFileMetaDataReq ft =
          .ok (mdOf l.version (Schema.flatten schema) ((groups.map (groupRows leaves)).sum) ds l.createdBy) := hparse
      generalize hmd : mdOf l.version (Schema.flatten schema) ((groups.map (groupRows leaves)).sum) ds l.createdBy = md at hparse'
      have hfoot : Reader.parseFooter ft = .ok ⟨md, lfs⟩ := by
        unfold Reader.parseFooter
        rw [hparse']
        simp only
        rw [← hmd]
        simp only [mdOf, hbs]
      have hflen : file.length = 4 + G.bytes.length + ft.length + 4 + 4 := by
        rw [← hfile]
        simp only [List.length_append, Carquet.Proofs.SpecFile.leBytes_length, Carquet.Proofs.SpecFile.magic_length]
      have hopen : openFile mode file = .ok ⟨md, lfs⟩ := by
        have := Carquet.Proofs.Roundtrip.openFile_envelope mode G.bytes ft (by omega) ⟨md, lfs⟩ hfoot
        rw [writer_le32] at this
        rw [← hfile]
        exact this
      have hfile2 : file = File.magic ++ G.bytes ++ (ft ++ File.leBytes 4 ft.length ++ File.magic) := by
        rw [← hfile]; simp [List.append_assoc]
      have htail : 8 ≤ (ft ++ File.leBytes 4 ft.length ++ File.magic).length := by
        simp only [List.length_append, Carquet.Proofs.SpecFile.leBytes_length, Carquet.Proofs.SpecFile.magic_length]
        omega
      have hrg : (⟨md, lfs⟩ : Opened).md.rowGroups = ds.map implRG := by rw [← hmd]; rfl
      have hsch : (⟨md, lfs⟩ : Opened).md.schema = (Schema.flatten schema).map implSE := by rw [← hmd]; rfl
      refine ⟨⟨md, lfs⟩, leaves, rfl, hopen, ⟨?_, ?_, ?_, ?_⟩, ?_⟩
      · simp [Opened.numColumns, hlfl]
      · show md.rowGroups.length = groups.length
        have hrg' : md.rowGroups = ds.map implRG := hrg
        rw [hrg', List.length_map]; omega
      · intro g hg'
        have hg'' : g ∈ groups := hg'
        obtain ⟨i, hi⟩ := List.mem_iff_getElem?.mp hg''
        obtain ⟨cls, g', rd, hcls, hgi, hrd⟩ := hrow i (List.getElem?_eq_some_iff.mp hi).1
        obtain rfl : g = g' := Option.some.inj (hi.symm.trans hgi)
        exact (hcells i cls g rd hcls hi hrd).2.2.2.1
      · intro i j g es hgi0 hes
        have hgi : groups[i]? = some g := hgi0
        obtain ⟨cls, g', rd, hcls, hgi', hrd⟩ := hrow i (List.getElem?_eq_some_iff.mp hgi).1
        obtain rfl : g = g' := Option.some.inj (hgi.symm.trans hgi')
        obtain ⟨e1, e2, e3, e4, _⟩ := hcells i cls g rd hcls hgi hrd
        have hjlt : j < g.chunks.length := (List.getElem?_eq_some_iff.mp hes).1
        obtain ⟨leaf, hleaf⟩ := getElem?_of_lt leaves j (by omega)
        obtain ⟨cl, hcl⟩ := getElem?_of_lt cls j (by omega)
        obtain ⟨d, hd⟩ := getElem?_of_lt rd.chunks j (by omega)
        obtain ⟨lf, hlfj⟩ := getElem?_of_lt lfs j (by omega)
        obtain ⟨hcell, hcadm, hcc⟩ := hcellx i j cls g rd leaf cl es d hcls hgi hrd hleaf hcl hes hd
        obtain ⟨hmdef, hmrep, hel⟩ := hlf j lf leaf hlfj hleaf
        have hflba : leaf.ptype = .flba → 0 < leaf.typeLength := by
          obtain ⟨_, _, _, _, h⟩ := hel; exact h
        have hpt : d.m.ptype = ptypeCode leaf.ptype := by
          obtain ⟨posj, c, a, b, dp, pages, _, _, _, h4, _⟩ := hcell
          rw [h4]; rfl
        have hnv : d.m.numValues = es.length := by
          obtain ⟨posj, c, a, b, dp, pages, _, _, _, h4, _⟩ := hcell
          rw [h4]; rfl
        refine ⟨leaf, implCM d.m d.stats, ?_, ?_⟩
        · exact getColumn_written ⟨md, lfs⟩ ds (Schema.flatten schema) hrg hsch i j rd d lf leaf hrd hd hlfj hmdef hmrep hel hpt
        · intro wd wr
          have hes31 : es.length < 2 ^ 31 := hsmall g (List.mem_of_getElem? hgi) es (List.mem_of_getElem? hes)
          obtain ⟨rows, r1, r2, r3, r4, r5, r6⟩ := cell_read L verify mode G.bytes (ft ++ File.leBytes 4 ft.length ++ File.magic)
            G.oracle leaf cl es d hcell (chunkClaim_of mode leaf cl es hcadm hflba hcc).1 (by rw [← hfile2]; exact hlen) hes31
            (by rw [horacle]; exact hL) htail wd wr
          rw [← hfile2] at r1
          exact ⟨rows, r1, r2, r3, r4, r5, by simp [colOfLeaf, implCM, hnv], r6⟩
      · rw [← hmd]
        simp [mdOf, numRowsOfSpec, hcols]

/-- **the whole file**: `readAll` on the reference writer's file returns the table, as carquet hands it out -/
theorem readAll_reference (t : File.Table) (l : Layout) (file : Bytes) (oracle : Oracle)
    (hw : writeFull t l = some (file, oracle)) (hadm : layoutAdm l = true)
    (hwf : ∀ v, footerTV t l = some v → v.wf = true ∧ footerUsizeOk v = true)
    (hlen : file.length < 2 ^ 31) (hsmall : ∀ g ∈ t.rowGroups, ∀ es ∈ g.chunks, es.length < 2 ^ 31)
    (mode : Mode) (hclaim : fileClaimed (decide (mode = .fread)) t l = true)
    (verify : Bool) (L : Libs) (hL : LibsDecode L oracle) :
    readAll Fixes.all L verify mode file = .ok (readerTableOfSpec t) := by
  obtain ⟨o, leaves, _, hopen, hop, hrows⟩ := opening_reference t l file oracle hw hadm hwf hlen hsmall mode hclaim verify L hL
  have hgs := readRowGroups_spec L verify mode file o leaves t.rowGroups hop t.rowGroups.length (Nat.le_refl _)
  rw [List.take_of_length_le (by simp)] at hgs
  unfold readAll
  rw [hopen]
  simp only [hop.numRowGroups, hgs, hrows]
  rfl

end Carquet.Proofs.ImplReads
