import Carquet.Proofs.Xxh64
import Carquet.Spec.Sbbf
import Carquet.Impl.Bloom
import Carquet.Proofs.Lists
/-
Helper lemmas for C20 (Bloom part).  The byte-level model of bloom_filter.c is related to the
format's filter (`Spec.Sbbf`) through the abstraction `Spec.Sbbf.parse` (bytes → little-endian
words → blocks of eight words): `parse_insertHash`, `checkHash_eq`, `parse_zipWith_or`, `serialize_parse`.
On the format's side there is one idea: `block_check b y` says that the mask block of `y` is included,
bit by bit, in `b` (`blockCheck_iff`); inclusion (`BlockLe`) is a preorder and an OR lies above both its
arguments, so an insert or a merge keeps every positive answer.
-/
namespace Carquet.Proofs.Bloom
open Carquet
open Carquet.Spec.Sbbf (Word Block wordOfBytes wordsOfBytes blocksOfWords parse modifyNth)
open Carquet.Proofs.Xxh64 (lt4_of_not_cons lt8_of_not_cons)

/-! ### constants -/

theorem blockSize_eq : Impl.Bloom.blockSize = 32 := by decide
theorem salt_eq : Impl.Bloom.salt = Spec.Sbbf.salt := by decide

/-! ### words and bytes -/

theorem wordOfBytes_cons (b : UInt8) (bs : List UInt8) :
    Spec.Sbbf.wordOfBytes (b :: bs) = (Spec.Sbbf.wordOfBytes bs <<< 8) ||| b.toBitVec.setWidth 32 := rfl

theorem wordOfBytes_one (b : UInt8) : Spec.Sbbf.wordOfBytes [b] = b.toBitVec.setWidth 32 := by
  rw [wordOfBytes_cons]
  show (0#32 <<< 8) ||| _ = _
  rw [BitVec.zero_shiftLeft, BitVec.zero_or]

theorem load32_eq (b0 b1 b2 b3 : UInt8) :
    Impl.Bloom.load32 b0 b1 b2 b3 = Spec.Sbbf.wordOfBytes [b0, b1, b2, b3] := by
  rw [wordOfBytes_cons, wordOfBytes_cons, wordOfBytes_cons, wordOfBytes_one]
  exact Word32.horner4 _ _ _ _

theorem load_store (w : BitVec 32) :
    Impl.Bloom.load32 (UInt8.ofBitVec (w.setWidth 8)) (UInt8.ofBitVec ((w >>> 8).setWidth 8))
      (UInt8.ofBitVec ((w >>> 16).setWidth 8)) (UInt8.ofBitVec ((w >>> 24).setWidth 8)) = w := by
  have e : (0#32 : BitVec 32) = w >>> 24 >>> 8 := by
    rw [← BitVec.shiftRight_add]; exact (BitVec.ushiftRight_eq_zero (Nat.le_refl 32)).symm
  rw [load32_eq, wordOfBytes_cons, wordOfBytes_cons, wordOfBytes_cons, wordOfBytes_cons]
  show ((((0#32 <<< 8 ||| _) <<< 8 ||| _) <<< 8 ||| _) <<< 8 ||| _) = w
  rw [e, Word32.shr8_shl8_or_low, BitVec.shiftRight_add w 16 8, Word32.shr8_shl8_or_low, BitVec.shiftRight_add w 8 8,
    Word32.shr8_shl8_or_low, Word32.shr8_shl8_or_low]

theorem u8_ext (a b : UInt8) (h : a.toBitVec = b.toBitVec) : a = b := UInt8.eq_of_toBitVec_eq h

theorem store_load (b0 b1 b2 b3 : UInt8) :
    Impl.Bloom.store32 (Impl.Bloom.load32 b0 b1 b2 b3) = [b0, b1, b2, b3] := by
  have k3 : (wordOfBytes [b3]).toNat < 2 ^ (0 + 8) := Word32.toNat_shl8_or_lt 0#32 _ 0 (by decide) (by decide)
  have k2 : (wordOfBytes [b2, b3]).toNat < 2 ^ (8 + 8) := Word32.toNat_shl8_or_lt _ _ 8 (by decide) k3
  have k1 : (wordOfBytes [b1, b2, b3]).toNat < 2 ^ (16 + 8) := Word32.toNat_shl8_or_lt _ _ 16 (by decide) k2
  rw [load32_eq, Impl.Bloom.store32, BitVec.shiftRight_add _ 16 8, BitVec.shiftRight_add _ 8 8]
  rw [wordOfBytes_cons b0, Word32.shl8_or_shr8 _ _ k1, Word32.setWidth8_shl8_or,
    wordOfBytes_cons b1, Word32.shl8_or_shr8 _ _ (Nat.lt_trans k2 (by decide)), Word32.setWidth8_shl8_or,
    wordOfBytes_cons b2, Word32.shl8_or_shr8 _ _ (Nat.lt_trans k3 (by decide)), Word32.setWidth8_shl8_or,
    wordOfBytes_cons b3, Word32.setWidth8_shl8_or]

/-! ### the block loops, seen on words -/

/-- word-level view of `Impl.Bloom.blockInsertLoop` -/
def insWords (key : Word) : List Word → List Word → List Word
  | s :: ss, w :: ws => (w ||| Impl.Bloom.bitOf s key) :: insWords key ss ws
  | _, ws => ws

/-- word-level view of `Impl.Bloom.blockCheckLoop` -/
def chkWords (key : Word) : List Word → List Word → Bool
  | s :: ss, w :: ws => if w &&& Impl.Bloom.bitOf s key = 0#32 then false else chkWords key ss ws
  | [], _ => true
  | _ :: _, [] => false

theorem exists_cons4 {α} (l : List α) (h : 4 ≤ l.length) :
    ∃ a0 a1 a2 a3 rest, l = a0 :: a1 :: a2 :: a3 :: rest :=
  Classical.byContradiction fun hn =>
    Nat.not_lt.mpr h (lt4_of_not_cons l fun a0 a1 a2 a3 rest e => hn ⟨a0, a1, a2, a3, rest, e⟩)

theorem wordsOf_short (p : List UInt8) (h : p.length < 4) : wordsOfBytes p = [] := by
  apply Spec.Sbbf.wordsOfBytes.eq_2
  intro b0 b1 b2 b3 rest e
  rw [e] at h
  exact absurd h (by simp)

theorem insertLoop_short (key : Word) (salts : List Word) (p : List UInt8) (h : p.length < 4) :
    Impl.Bloom.blockInsertLoop key salts p = p := by
  apply Impl.Bloom.blockInsertLoop.eq_2
  intro s ss b0 b1 b2 b3 rest _ e
  rw [e] at h
  exact absurd h (by simp)

theorem wordsOf_cons4 (b0 b1 b2 b3 : UInt8) (rest : List UInt8) :
    wordsOfBytes (b0 :: b1 :: b2 :: b3 :: rest) = Impl.Bloom.load32 b0 b1 b2 b3 :: wordsOfBytes rest := by
  rw [wordsOfBytes, load32_eq]

theorem insWords_nil (key : Word) (salts : List Word) : insWords key salts [] = [] := by
  cases salts <;> rfl

theorem insertLoop_nil_salts (key : Word) (p : List UInt8) : Impl.Bloom.blockInsertLoop key [] p = p := by
  simp [Impl.Bloom.blockInsertLoop]

theorem wordsOf_store_append (w : Word) (tl : List UInt8) :
    wordsOfBytes (Impl.Bloom.store32 w ++ tl) = w :: wordsOfBytes tl := by
  simp only [Impl.Bloom.store32, List.cons_append, List.nil_append]
  rw [wordsOf_cons4, load_store]

theorem wordsOf_insertLoop (key : Word) (salts : List Word) (p : List UInt8) :
    wordsOfBytes (Impl.Bloom.blockInsertLoop key salts p) = insWords key salts (wordsOfBytes p) := by
  induction salts generalizing p with
  | nil => rw [insertLoop_nil_salts]; rfl
  | cons s ss ih =>
    by_cases hp : p.length < 4
    · rw [insertLoop_short _ _ _ hp, wordsOf_short p hp, insWords_nil]
    · obtain ⟨b0, b1, b2, b3, rest, rfl⟩ := exists_cons4 p (Nat.le_of_not_lt hp)
      rw [Impl.Bloom.blockInsertLoop, wordsOf_store_append, wordsOf_cons4, ih, insWords]

theorem insertLoop_length (key : Word) (salts : List Word) (p : List UInt8) :
    (Impl.Bloom.blockInsertLoop key salts p).length = p.length := by
  induction salts generalizing p with
  | nil => rw [insertLoop_nil_salts]
  | cons s ss ih =>
    by_cases hp : p.length < 4
    · rw [insertLoop_short _ _ _ hp]
    · obtain ⟨b0, b1, b2, b3, rest, rfl⟩ := exists_cons4 p (Nat.le_of_not_lt hp)
      rw [Impl.Bloom.blockInsertLoop, List.length_append, ih, Nat.add_comm]
      rfl

theorem checkLoop_words (key : Word) (salts : List Word) (p : List UInt8) :
    Impl.Bloom.blockCheckLoop key salts p = chkWords key salts (wordsOfBytes p) := by
  induction salts generalizing p with
  | nil => simp [Impl.Bloom.blockCheckLoop, chkWords]
  | cons s ss ih =>
    by_cases hp : p.length < 4
    · rw [wordsOf_short p hp, chkWords]
      apply Impl.Bloom.blockCheckLoop.eq_3
      intro _ _ _ _ _ e; rw [e] at hp; exact absurd hp (by simp)
    · obtain ⟨b0, b1, b2, b3, rest, rfl⟩ := exists_cons4 p (Nat.le_of_not_lt hp)
      rw [Impl.Bloom.blockCheckLoop, wordsOf_cons4, chkWords, ih]

theorem wordsOf_drop (k : Nat) (p : List UInt8) :
    wordsOfBytes (p.drop (4 * k)) = (wordsOfBytes p).drop k := by
  induction k generalizing p with
  | zero => rfl
  | succ k ih =>
    by_cases hp : p.length < 4
    · rw [List.drop_eq_nil_of_le (by omega), wordsOf_short p hp]; rfl
    · obtain ⟨b0, b1, b2, b3, rest, rfl⟩ := exists_cons4 p (Nat.le_of_not_lt hp)
      rw [wordsOf_cons4, List.drop_succ_cons, ← ih rest]
      rfl

theorem wordsOf_insertAt (key : Word) (salts : List Word) (k : Nat) (p : List UInt8) :
    wordsOfBytes (p.take (4 * k) ++ Impl.Bloom.blockInsertLoop key salts (p.drop (4 * k))) =
      (wordsOfBytes p).take k ++ insWords key salts ((wordsOfBytes p).drop k) := by
  induction k generalizing p with
  | zero => exact wordsOf_insertLoop key salts p
  | succ k ih =>
    by_cases hp : p.length < 4
    · rw [List.take_of_length_le (by omega), List.drop_eq_nil_of_le (by omega), insertLoop_short _ _ _ (by decide),
        List.append_nil, wordsOf_short p hp]
      exact (insWords_nil key salts).symm
    · obtain ⟨b0, b1, b2, b3, rest, rfl⟩ := exists_cons4 p (Nat.le_of_not_lt hp)
      rw [wordsOf_cons4, List.take_succ_cons, List.drop_succ_cons, List.cons_append, ← ih rest]
      exact wordsOf_cons4 b0 b1 b2 b3 _

/-! ### single-bit masks -/

theorem bitpos_lt (x : Word) : (x >>> 27).toNat < 32 := by
  rw [BitVec.toNat_ushiftRight, Nat.shiftRight_eq_div_pow]
  have := x.isLt
  omega

theorem bitOf_eq_mask (s key : Word) : Impl.Bloom.bitOf s key = 1#32 <<< ((key * s) >>> 27).toNat := by
  rw [Impl.Bloom.bitOf, BitVec.mul_comm]

theorem twoPow_ne_zero (n : Nat) (h : n < 32) : (1#32 <<< n) ≠ 0#32 := by
  intro e
  have := congrArg (fun v => v.getLsbD n) e
  simp [← BitVec.twoPow_eq, h] at this

/-- the C test `(w & m) == 0` and the format's "bit of the mask is set" agree for a one-bit mask -/
theorem test_bit (w : Word) (n : Nat) (h : n < 32) :
    (w &&& (1#32 <<< n) = 0#32) ↔ ¬ (w &&& (1#32 <<< n) = 1#32 <<< n) := by
  rw [← BitVec.twoPow_eq, BitVec.and_twoPow]
  by_cases hb : w.getLsbD n = true
  · simp [hb, BitVec.twoPow_eq, twoPow_ne_zero n h]
  · simp [hb, BitVec.twoPow_eq]
    exact fun e => twoPow_ne_zero n h e.symm

theorem test_bitOf (w s key : Word) (X : Bool) :
    (if w &&& Impl.Bloom.bitOf s key = 0#32 then false else X) =
      ((w &&& Impl.Bloom.bitOf s key == Impl.Bloom.bitOf s key) && X) := by
  have h := test_bit w ((s * key) >>> 27).toNat (bitpos_lt _)
  rw [← Impl.Bloom.bitOf] at h
  generalize w &&& Impl.Bloom.bitOf s key = a at h ⊢
  generalize Impl.Bloom.bitOf s key = m at h ⊢
  by_cases h0 : a = 0#32
  · have hm : ¬ a = m := h.mp h0
    have e : (a == m) = false := by simpa using hm
    rw [if_pos h0, e, Bool.false_and]
  · have hm : a = m := Classical.not_not.mp (mt h.mpr h0)
    have e : (a == m) = true := by simpa using hm
    rw [if_neg h0, e, Bool.true_and]


/-! ### words and blocks -/

theorem blocks_cons8 (w0 w1 w2 w3 w4 w5 w6 w7 : Word) (rest : List Word) :
    blocksOfWords (w0 :: w1 :: w2 :: w3 :: w4 :: w5 :: w6 :: w7 :: rest) =
      [w0, w1, w2, w3, w4, w5, w6, w7] :: blocksOfWords rest := by
  rw [blocksOfWords]

theorem blocks_short (W : List Word) (h : W.length < 8) : blocksOfWords W = [] := by
  apply Spec.Sbbf.blocksOfWords.eq_2
  intro w0 w1 w2 w3 w4 w5 w6 w7 rest e
  rw [e] at h
  simp at h
  omega

theorem insWords_length (key : Word) (salts ws : List Word) : (insWords key salts ws).length = ws.length := by
  induction salts generalizing ws with
  | nil => simp [insWords]
  | cons s ss ih => cases ws <;> simp [insWords, ih]

theorem insWords_nil_salts (key : Word) (ws : List Word) : insWords key [] ws = ws := by
  simp [insWords]

/-- `Spec.Sbbf.modifyNth` is the core library's `List.modify` -/
theorem modifyNth_eq {α} (g : α → α) (i : Nat) (l : List α) : modifyNth g i l = l.modify i g := by
  induction l generalizing i with
  | nil => cases i <;> rfl
  | cons a l ih => cases i with
    | zero => rfl
    | succ i => rw [modifyNth, ih]; rfl

theorem blocks_insertAt (key : Word) (i : Nat) (W : List Word) :
    blocksOfWords (W.take (8 * i) ++ insWords key Impl.Bloom.salt (W.drop (8 * i))) =
      Spec.Sbbf.insertAt (blocksOfWords W) i key := by
  induction W using Spec.Sbbf.blocksOfWords.induct generalizing i with
  | case1 w0 w1 w2 w3 w4 w5 w6 w7 rest ih =>
    cases i with
    | zero =>
      rw [blocks_cons8, salt_eq]
      simp only [Nat.mul_zero, List.take_zero, List.drop_zero, List.nil_append, Spec.Sbbf.salt, insWords,
        blocks_cons8, Spec.Sbbf.insertAt, modifyNth, Spec.Sbbf.blockInsert, Spec.Sbbf.mask, List.map_cons,
        List.map_nil, List.zipWith_cons_cons, List.zipWith_nil_right, bitOf_eq_mask]
    | succ i =>
      rw [show 8 * (i + 1) = 8 * i + 1 + 1 + 1 + 1 + 1 + 1 + 1 + 1 by omega]
      simp only [List.take_succ_cons, List.drop_succ_cons, List.cons_append, blocks_cons8,
        Spec.Sbbf.insertAt, modifyNth]
      exact congrArg _ (ih i)
  | case2 W hW =>
    have hW := lt8_of_not_cons W hW
    rw [blocks_short W hW, Spec.Sbbf.insertAt, modifyNth_eq, List.modify_nil]
    apply blocks_short
    rw [List.length_append, insWords_length, List.length_take, List.length_drop]
    omega

theorem chkWords_short (key : Word) (salts ws : List Word) (h : ws.length < salts.length) :
    chkWords key salts ws = false := by
  induction salts generalizing ws with
  | nil => simp at h
  | cons s ss ih =>
    cases ws with
    | nil => rfl
    | cons w ws =>
      rw [chkWords]
      split
      · rfl
      · exact ih ws (by simpa using h)

theorem salt_length : Impl.Bloom.salt.length = 8 := by decide

theorem blocks_checkAt (key : Word) (i : Nat) (W : List Word) :
    chkWords key Impl.Bloom.salt (W.drop (8 * i)) = Spec.Sbbf.checkAt (blocksOfWords W) i key := by
  induction W using Spec.Sbbf.blocksOfWords.induct generalizing i with
  | case1 w0 w1 w2 w3 w4 w5 w6 w7 rest ih =>
    cases i with
    | zero =>
      rw [blocks_cons8, salt_eq]
      simp only [Nat.mul_zero, List.drop_zero, Spec.Sbbf.salt, chkWords, test_bitOf]
      simp only [Spec.Sbbf.checkAt, List.getElem?_cons_zero, Spec.Sbbf.blockCheck, Spec.Sbbf.mask,
        Spec.Sbbf.salt, List.map_cons, List.map_nil, List.zipWith_cons_cons, List.zipWith_nil_right,
        ← bitOf_eq_mask, List.all_cons, List.all_nil, List.length_cons, List.length_nil, id]
      rfl
    | succ i =>
      rw [show 8 * (i + 1) = 8 * i + 1 + 1 + 1 + 1 + 1 + 1 + 1 + 1 by omega]
      simp only [List.drop_succ_cons, blocks_cons8, Spec.Sbbf.checkAt, List.getElem?_cons_succ]
      exact ih i
  | case2 W hW =>
    have hW := lt8_of_not_cons W hW
    rw [blocks_short W hW, chkWords_short _ _ _ (by rw [salt_length, List.length_drop]; omega)]
    rfl

/-! ### lengths, serialisation -/

theorem wordsOf_length (p : List UInt8) : (wordsOfBytes p).length = p.length / 4 := by
  induction p using Spec.Sbbf.wordsOfBytes.induct with
  | case1 b0 b1 b2 b3 rest ih =>
    rw [wordsOf_cons4, List.length_cons, ih]
    exact (Nat.add_div_right rest.length (by decide)).symm
  | case2 p hp =>
    have := lt4_of_not_cons p hp
    rw [wordsOf_short p this, Nat.div_eq_of_lt this]
    rfl

theorem blocks_length (W : List Word) : (blocksOfWords W).length = W.length / 8 := by
  induction W using Spec.Sbbf.blocksOfWords.induct with
  | case1 w0 w1 w2 w3 w4 w5 w6 w7 rest ih =>
    rw [blocks_cons8, List.length_cons, ih]
    exact (Nat.add_div_right rest.length (by decide)).symm
  | case2 W hW =>
    have := lt8_of_not_cons W hW
    rw [blocks_short W this, Nat.div_eq_of_lt this]
    rfl

theorem parse_length (p : List UInt8) : (parse p).length = p.length / 32 := by
  rw [parse, blocks_length, wordsOf_length, Nat.div_div_eq_div_mul]

theorem blocks_mem_length (W : List Word) (b : Block) (h : b ∈ blocksOfWords W) : b.length = 8 := by
  induction W using Spec.Sbbf.blocksOfWords.induct with
  | case1 w0 w1 w2 w3 w4 w5 w6 w7 rest ih =>
    rw [blocks_cons8, List.mem_cons] at h
    rcases h with h | h
    · rw [h]; rfl
    · exact ih h
  | case2 W hW =>
    rw [blocks_short W (lt8_of_not_cons W hW)] at h
    cases h

theorem wordBytes_eq (w : Word) : Spec.Sbbf.wordBytes w = Impl.Bloom.store32 w := rfl

theorem words_bytes (p : List UInt8) (h : p.length % 4 = 0) :
    (wordsOfBytes p).flatMap Spec.Sbbf.wordBytes = p := by
  induction p using Spec.Sbbf.wordsOfBytes.induct with
  | case1 b0 b1 b2 b3 rest ih =>
    rw [wordsOf_cons4, List.flatMap_cons, wordBytes_eq, store_load, ih ((Nat.add_mod_right rest.length 4).symm.trans h)]
    rfl
  | case2 p hp =>
    have := lt4_of_not_cons p hp
    rw [List.length_eq_zero_iff.mp ((Nat.mod_eq_of_lt this).symm.trans h)]
    rfl

theorem blocks_words (W : List Word) (h : W.length % 8 = 0) :
    (blocksOfWords W).flatMap id = W := by
  induction W using Spec.Sbbf.blocksOfWords.induct with
  | case1 w0 w1 w2 w3 w4 w5 w6 w7 rest ih =>
    rw [blocks_cons8, List.flatMap_cons, ih ((Nat.add_mod_right rest.length 8).symm.trans h)]
    rfl
  | case2 W hW =>
    have := lt8_of_not_cons W hW
    rw [List.length_eq_zero_iff.mp ((Nat.mod_eq_of_lt this).symm.trans h)]
    rfl

theorem serialize_eq (f : Spec.Sbbf.Filter) :
    Spec.Sbbf.serialize f = (f.flatMap id).flatMap Spec.Sbbf.wordBytes := by
  rw [Spec.Sbbf.serialize, List.flatMap_assoc]
  rfl

theorem serialize_parse (p : List UInt8) (h : p.length % 32 = 0) :
    Spec.Sbbf.serialize (parse p) = p := by
  rw [serialize_eq, parse, blocks_words, words_bytes]
  · omega
  · rw [wordsOf_length]; omega

theorem wordsOf_zeros (k : Nat) : wordsOfBytes (List.replicate (4 * k) 0) = List.replicate k 0#32 := by
  induction k with
  | zero => rfl
  | succ k ih =>
    rw [show 4 * (k + 1) = 4 * k + 1 + 1 + 1 + 1 by omega]
    simp only [List.replicate_succ]
    rw [wordsOf_cons4, ih]
    rfl

theorem blocks_zeros (z : Nat) : blocksOfWords (List.replicate (8 * z) 0#32) = Spec.Sbbf.empty z := by
  induction z with
  | zero => rfl
  | succ z ih =>
    rw [show 8 * (z + 1) = 8 * z + 1 + 1 + 1 + 1 + 1 + 1 + 1 + 1 by omega]
    simp only [List.replicate_succ]
    rw [blocks_cons8, ih]
    rfl

theorem parse_zeros (z : Nat) : parse (List.replicate (32 * z) 0) = Spec.Sbbf.empty z := by
  rw [parse, show 32 * z = 4 * (8 * z) by omega, wordsOf_zeros, blocks_zeros]


/-! ### the format's filter: a check is an inclusion, and bits are only ever set -/

/-- every bit of `a` is a bit of `b` -/
def WordLe (a b : Word) : Prop := a &&& b = a

/-- block `b'` has all bits of block `b` (same number of words) -/
inductive BlockLe : Block → Block → Prop
  | nil : BlockLe [] []
  | cons {a b : Word} {as bs : Block} : WordLe a b → BlockLe as bs → BlockLe (a :: as) (b :: bs)

theorem BlockLe.length_eq {b b' : Block} (h : BlockLe b b') : b.length = b'.length := by
  induction h with
  | nil => rfl
  | cons _ _ ih => simp [ih]

theorem WordLe.trans {a b c : Word} (h1 : WordLe a b) (h2 : WordLe b c) : WordLe a c := by
  unfold WordLe at *
  rw [← h1, BitVec.and_assoc, h2]

theorem BlockLe.trans {a b c : Block} (h1 : BlockLe a b) (h2 : BlockLe b c) : BlockLe a c := by
  induction h1 generalizing c with
  | nil => exact h2
  | cons hw _ ih => cases h2 with | cons hw' h' => exact .cons (hw.trans hw') (ih h')

theorem wordLe_or_left (a m : Word) : WordLe a (a ||| m) := by
  unfold WordLe
  ext i hi
  simp only [BitVec.getElem_and, BitVec.getElem_or]
  cases a[i] <;> simp

theorem blockLe_or_left (b c : Block) (h : b.length = c.length) : BlockLe b (List.zipWith (· ||| ·) b c) := by
  induction b generalizing c with
  | nil => cases c <;> first | exact .nil | cases h
  | cons w b ih =>
    cases c with
    | nil => cases h
    | cons m c => exact .cons (wordLe_or_left w m) (ih c (Nat.succ.inj h))

theorem blockLe_or_right (b c : Block) (h : b.length = c.length) : BlockLe c (List.zipWith (· ||| ·) b c) := by
  rw [List.zipWith_comm_of_comm BitVec.or_comm]; exact blockLe_or_left c b h.symm

theorem mask_length (x : Word) : (Spec.Sbbf.mask x).length = 8 := by
  rw [Spec.Sbbf.mask, List.length_map]; rfl

/-- the format's test "all bits of the masks are set" is inclusion of the mask block -/
theorem all_test_iff (b ms : Block) :
    (b.length = ms.length ∧ (List.zipWith (fun w m => w &&& m == m) b ms).all id = true) ↔ BlockLe ms b := by
  induction b generalizing ms with
  | nil => cases ms <;> simp [BlockLe.nil] <;> exact fun h => nomatch h
  | cons w b ih =>
    cases ms with
    | nil => simp; exact fun h => nomatch h
    | cons m ms =>
      simp only [List.length_cons, Nat.add_right_cancel_iff, List.zipWith_cons_cons, List.all_cons, id, Bool.and_eq_true,
        beq_iff_eq]
      constructor
      · rintro ⟨hl, hw, ha⟩; exact .cons (by rw [WordLe, BitVec.and_comm]; exact hw) ((ih ms).1 ⟨hl, ha⟩)
      · rintro (_ | ⟨hw, h⟩)
        obtain ⟨hl, ha⟩ := (ih ms).2 h
        exact ⟨hl, by rw [BitVec.and_comm]; exact hw, ha⟩

theorem blockCheck_iff (b : Block) (y : Word) : Spec.Sbbf.blockCheck b y = true ↔ BlockLe (Spec.Sbbf.mask y) b := by
  rw [← all_test_iff, mask_length, Spec.Sbbf.blockCheck, Bool.and_eq_true, beq_iff_eq]

/-- a check that succeeds keeps succeeding when bits are added -/
theorem blockCheck_le (b b' : Block) (y : Word) (h : BlockLe b b')
    (hc : Spec.Sbbf.blockCheck b y = true) : Spec.Sbbf.blockCheck b' y = true :=
  (blockCheck_iff b' y).2 (((blockCheck_iff b y).1 hc).trans h)

theorem blockCheck_length {b : Block} {y : Word} (hc : Spec.Sbbf.blockCheck b y = true) : b.length = 8 :=
  ((blockCheck_iff b y).1 hc).length_eq.symm.trans (mask_length y)

theorem blockCheck_blockInsert_self (b : Block) (x : Word) (h : b.length = 8) :
    Spec.Sbbf.blockCheck (Spec.Sbbf.blockInsert b x) x = true :=
  (blockCheck_iff _ x).2 (blockLe_or_right b _ (h.trans (mask_length x).symm))

theorem blockCheck_blockInsert_mono (b : Block) (x y : Word)
    (hc : Spec.Sbbf.blockCheck b y = true) : Spec.Sbbf.blockCheck (Spec.Sbbf.blockInsert b x) y = true :=
  blockCheck_le b _ y (blockLe_or_left b _ ((blockCheck_length hc).trans (mask_length x).symm)) hc

theorem insertAt_length (F : Spec.Sbbf.Filter) (i : Nat) (x : Word) :
    (Spec.Sbbf.insertAt F i x).length = F.length := by
  rw [Spec.Sbbf.insertAt, modifyNth_eq, List.length_modify]

theorem checkAt_insertAt_self (F : Spec.Sbbf.Filter) (i : Nat) (x : Word) (hi : i < F.length)
    (h8 : ∀ b ∈ F, b.length = 8) : Spec.Sbbf.checkAt (Spec.Sbbf.insertAt F i x) i x = true := by
  rw [Spec.Sbbf.checkAt, Spec.Sbbf.insertAt, modifyNth_eq, List.getElem?_modify_eq, List.getElem?_eq_getElem hi]
  exact blockCheck_blockInsert_self _ _ (h8 _ (List.getElem_mem hi))

theorem checkAt_insertAt_mono (F : Spec.Sbbf.Filter) (i j : Nat) (x y : Word)
    (hc : Spec.Sbbf.checkAt F j y = true) : Spec.Sbbf.checkAt (Spec.Sbbf.insertAt F i x) j y = true := by
  rw [Spec.Sbbf.checkAt] at hc
  rw [Spec.Sbbf.checkAt, Spec.Sbbf.insertAt, modifyNth_eq, List.getElem?_modify]
  cases hj : F[j]? with
  | none => rw [hj] at hc; cases hc
  | some b =>
    rw [hj] at hc
    show Spec.Sbbf.blockCheck (if i = j then _ else b) y = true
    split
    · exact blockCheck_blockInsert_mono b x y hc
    · exact hc

theorem empty_length (z : Nat) : (Spec.Sbbf.empty z).length = z := by simp [Spec.Sbbf.empty]

theorem blockCheck_empty (x : Word) : Spec.Sbbf.blockCheck Spec.Sbbf.emptyBlock x = false := by
  apply Bool.eq_false_iff.mpr
  intro hc
  have h : BlockLe ((1#32 <<< ((x * 0x47b6137b#32) >>> 27).toNat) :: (Spec.Sbbf.mask x).tail)
      (0#32 :: List.replicate 7 0#32) := (blockCheck_iff _ x).1 hc
  cases h with
  | cons hw _ => exact twoPow_ne_zero _ (bitpos_lt _) (hw.symm.trans BitVec.and_zero)

theorem checkAt_empty (z i : Nat) (x : Word) : Spec.Sbbf.checkAt (Spec.Sbbf.empty z) i x = false := by
  rw [Spec.Sbbf.checkAt, Spec.Sbbf.empty, List.getElem?_replicate]
  by_cases h : i < z
  · rw [if_pos h]; exact blockCheck_empty x
  · rw [if_neg h]

/-! ### the model of bloom_filter.c against the format's filter -/

/-- Well-formed filter object: what `create` / `from_data` establish and every operation keeps. -/
structure WF (f : Impl.Bloom.Filter) : Prop where
  len : f.data.length = f.numBytes
  bytes : f.numBytes = 32 * f.numBlocks
  pos : 0 < f.numBlocks

theorem parse_insertHash (f : Impl.Bloom.Filter) (h : BitVec 64) :
    parse (Impl.Bloom.insertHash f h).data =
      Spec.Sbbf.insertAt (parse f.data) (Impl.Bloom.blockIndex h f.numBlocks) (Spec.Sbbf.low h) := by
  simp only [Impl.Bloom.insertHash, blockSize_eq, parse]
  rw [show Impl.Bloom.blockIndex h f.numBlocks * 32 = 4 * (8 * Impl.Bloom.blockIndex h f.numBlocks) by omega,
    wordsOf_insertAt, blocks_insertAt]
  rfl

theorem checkHash_eq (f : Impl.Bloom.Filter) (h : BitVec 64) :
    Impl.Bloom.checkHash f h =
      Spec.Sbbf.checkAt (parse f.data) (Impl.Bloom.blockIndex h f.numBlocks) (Spec.Sbbf.low h) := by
  simp only [Impl.Bloom.checkHash, blockSize_eq, parse]
  rw [show Impl.Bloom.blockIndex h f.numBlocks * 32 = 4 * (8 * Impl.Bloom.blockIndex h f.numBlocks) by omega,
    checkLoop_words, wordsOf_drop, blocks_checkAt]
  rfl

theorem insertHash_data_length (f : Impl.Bloom.Filter) (h : BitVec 64) :
    (Impl.Bloom.insertHash f h).data.length = f.data.length := by
  simp only [Impl.Bloom.insertHash, List.length_append, List.length_take, insertLoop_length, List.length_drop]
  omega

theorem WF.insertHash {f : Impl.Bloom.Filter} (w : WF f) (h : BitVec 64) : WF (Impl.Bloom.insertHash f h) :=
  ⟨by rw [insertHash_data_length]; exact w.len, w.bytes, w.pos⟩

theorem WF.foldl {f : Impl.Bloom.Filter} (w : WF f) (hs : List (BitVec 64)) :
    WF (hs.foldl Impl.Bloom.insertHash f) := by
  induction hs generalizing f with
  | nil => exact w
  | cons h hs ih => exact ih (w.insertHash h)

theorem insertHash_numBlocks (f : Impl.Bloom.Filter) (h : BitVec 64) :
    (Impl.Bloom.insertHash f h).numBlocks = f.numBlocks := rfl

theorem foldl_numBlocks (f : Impl.Bloom.Filter) (hs : List (BitVec 64)) :
    (hs.foldl Impl.Bloom.insertHash f).numBlocks = f.numBlocks := by
  induction hs generalizing f with
  | nil => rfl
  | cons h hs ih => rw [List.foldl_cons, ih, insertHash_numBlocks]

theorem WF.parse_length {f : Impl.Bloom.Filter} (w : WF f) : (parse f.data).length = f.numBlocks := by
  rw [Proofs.Bloom.parse_length, w.len, w.bytes]; omega

theorem parse_block_length (p : List UInt8) : ∀ b ∈ parse p, b.length = 8 :=
  fun b hb => blocks_mem_length _ b hb

theorem hi_lt (h : BitVec 64) : (h >>> 32).toNat < 2 ^ 32 := by
  rw [BitVec.toNat_ushiftRight, Nat.shiftRight_eq_div_pow]
  have := h.isLt
  omega

/-- In a filter of at most 2^32 blocks the 64-bit multiply-shift of the C code is the format's. -/
theorem blockIndex_eq_spec (h : BitVec 64) (nb : Nat) (hnb : nb ≤ 2 ^ 32) :
    Impl.Bloom.blockIndex h nb = Spec.Sbbf.blockIndex h nb := by
  have h1 := hi_lt h
  have h2 : (h >>> 32).toNat * nb < 2 ^ 64 := by
    calc (h >>> 32).toNat * nb ≤ (h >>> 32).toNat * 2 ^ 32 := Nat.mul_le_mul_left _ hnb
      _ < 2 ^ 32 * 2 ^ 32 := Nat.mul_lt_mul_of_pos_right h1 (by decide)
      _ = 2 ^ 64 := by decide
  have h3 : nb % 2 ^ 64 = nb := Nat.mod_eq_of_lt (by omega)
  simp only [Impl.Bloom.blockIndex, Spec.Sbbf.blockIndex, BitVec.toNat_ushiftRight, BitVec.toNat_mul,
    BitVec.toNat_ofNat]
  rw [h3, ← BitVec.toNat_ushiftRight, Nat.mod_eq_of_lt h2]

/-- The block index of the C code is always a block of the filter (also when the product wraps). -/
theorem blockIndex_lt (h : BitVec 64) (nb : Nat) (hnb : 0 < nb) : Impl.Bloom.blockIndex h nb < nb := by
  by_cases hle : nb ≤ 2 ^ 32
  · rw [blockIndex_eq_spec h nb hle, Spec.Sbbf.blockIndex, Nat.shiftRight_eq_div_pow]
    apply Nat.div_lt_of_lt_mul
    have h1 := hi_lt h
    exact Nat.mul_lt_mul_of_pos_right h1 hnb
  · have : Impl.Bloom.blockIndex h nb < 2 ^ 32 := by
      simp only [Impl.Bloom.blockIndex, BitVec.toNat_ushiftRight, Nat.shiftRight_eq_div_pow]
      have := (BitVec.mul (h >>> 32) (BitVec.ofNat 64 nb)).isLt
      show ((h >>> 32) * BitVec.ofNat 64 nb).toNat / 2 ^ 32 < 2 ^ 32
      have := ((h >>> 32) * BitVec.ofNat 64 nb).isLt
      omega
    omega

theorem checkHash_insertHash_self (f : Impl.Bloom.Filter) (w : WF f) (h : BitVec 64) :
    Impl.Bloom.checkHash (Impl.Bloom.insertHash f h) h = true := by
  rw [checkHash_eq, parse_insertHash, insertHash_numBlocks]
  exact checkAt_insertAt_self _ _ _ (by rw [w.parse_length]; exact blockIndex_lt h _ w.pos)
    (parse_block_length _)

theorem checkHash_insertHash_mono (f : Impl.Bloom.Filter) (h h' : BitVec 64)
    (hc : Impl.Bloom.checkHash f h = true) : Impl.Bloom.checkHash (Impl.Bloom.insertHash f h') h = true := by
  rw [checkHash_eq] at hc
  rw [checkHash_eq, parse_insertHash, insertHash_numBlocks]
  exact checkAt_insertAt_mono _ _ _ _ _ hc

/-- bits are only ever set: whatever was inserted, or was already answered "present", stays present -/
theorem checkHash_foldl (f : Impl.Bloom.Filter) (w : WF f) (hs : List (BitVec 64)) (h : BitVec 64)
    (hin : h ∈ hs ∨ Impl.Bloom.checkHash f h = true) :
    Impl.Bloom.checkHash (hs.foldl Impl.Bloom.insertHash f) h = true := by
  induction hs generalizing f with
  | nil =>
    rcases hin with hin | hin
    · cases hin
    · exact hin
  | cons x xs ih =>
    rw [List.foldl_cons]
    apply ih _ (w.insertHash x)
    rcases hin with hin | hin
    · rcases List.mem_cons.mp hin with e | e
      · right; rw [e]; exact checkHash_insertHash_self f w x
      · left; exact e
    · right; exact checkHash_insertHash_mono f h x hin

/-! ### create, from_data -/

theorem createSize_spec (req n : Nat) (h : Impl.Bloom.createSize req = some n) :
    n % 32 = 0 ∧ 32 ≤ n ∧ req ≤ n ∧ (req < 32 → n = 32) ∧ (32 ≤ req → n < req + 32) ∧ n < 2 ^ 64 := by
  simp only [Impl.Bloom.createSize, blockSize_eq, Impl.Bloom.sizeMax] at h
  split at h
  · cases h
  · split at h <;> (injection h with h; omega)

theorem createSize_none (req : Nat) : Impl.Bloom.createSize req = none ↔ 2 ^ 64 - 32 < req := by
  simp only [Impl.Bloom.createSize, blockSize_eq, Impl.Bloom.sizeMax]
  split
  · simp; omega
  · split <;> simp <;> omega

theorem WF.fresh (n : Nat) (h1 : n % 32 = 0) (h2 : 32 ≤ n) : WF (Impl.Bloom.fresh n) :=
  ⟨by simp [Impl.Bloom.fresh], by simp only [Impl.Bloom.fresh, blockSize_eq]; omega,
   by simp only [Impl.Bloom.fresh, blockSize_eq]; omega⟩

theorem create_some (req : Nat) (f : Impl.Bloom.Filter) (h : Impl.Bloom.create req = some f) :
    ∃ n, Impl.Bloom.createSize req = some n ∧ f = Impl.Bloom.fresh n := by
  simp only [Impl.Bloom.create, Option.map_eq_some_iff] at h
  obtain ⟨n, hn, e⟩ := h
  exact ⟨n, hn, e.symm⟩

theorem WF.create {req : Nat} {f : Impl.Bloom.Filter} (h : Impl.Bloom.create req = some f) : WF f := by
  obtain ⟨n, hn, rfl⟩ := create_some req f h
  have := createSize_spec req n hn
  exact WF.fresh n this.1 this.2.1

theorem parse_fresh (n : Nat) (h : n % 32 = 0) :
    parse (Impl.Bloom.fresh n).data = Spec.Sbbf.empty (Impl.Bloom.fresh n).numBlocks := by
  simp only [Impl.Bloom.fresh, blockSize_eq]
  have e : n = 32 * (n / 32) := by omega
  conv => lhs; rw [e]
  exact parse_zeros _

theorem checkHash_fresh (n : Nat) (h : n % 32 = 0) (x : BitVec 64) :
    Impl.Bloom.checkHash (Impl.Bloom.fresh n) x = false := by
  rw [checkHash_eq, parse_fresh n h]
  exact checkAt_empty _ _ _

theorem WF.fromData {d : List UInt8} {f : Impl.Bloom.Filter} (h : Impl.Bloom.fromData (some d) = some f) :
    WF f ∧ f.data = d := by
  simp only [Impl.Bloom.fromData, blockSize_eq] at h
  split at h
  · cases h
  · split at h
    · cases h
    · injection h with h
      subst h
      exact ⟨⟨rfl, by simp only; omega, by simp only; omega⟩, rfl⟩

theorem WF.eq_of_data {f : Impl.Bloom.Filter} (w : WF f) :
    f = ⟨f.data, f.data.length, f.data.length / Impl.Bloom.blockSize⟩ := by
  cases f with
  | mk d nby nbl =>
    have h1 := w.len; have h2 := w.bytes
    simp only at h1 h2
    simp only [blockSize_eq, Impl.Bloom.Filter.mk.injEq, true_and]
    omega

theorem fromData_of_WF {f : Impl.Bloom.Filter} (w : WF f) : Impl.Bloom.fromData (some f.data) = some f := by
  have h1 := w.len; have h2 := w.bytes; have h3 := w.pos
  simp only [Impl.Bloom.fromData, blockSize_eq]
  rw [if_neg (by omega), if_neg (by omega)]
  rw [← blockSize_eq, ← w.eq_of_data]


/-! ### merge -/

theorem mergeLoop_eq (d s : List UInt8) (h : d.length = s.length) :
    Impl.Bloom.mergeLoop d s = List.zipWith (· ||| ·) d s := by
  induction d generalizing s with
  | nil => cases s <;> simp [Impl.Bloom.mergeLoop]
  | cons a d ih =>
    cases s with
    | nil => simp at h
    | cons b s => simp only [Impl.Bloom.mergeLoop, List.zipWith_cons_cons]; rw [ih s (by simpa using h)]

theorem load32_or (b0 b1 b2 b3 c0 c1 c2 c3 : UInt8) :
    Impl.Bloom.load32 (b0 ||| c0) (b1 ||| c1) (b2 ||| c2) (b3 ||| c3) =
      Impl.Bloom.load32 b0 b1 b2 b3 ||| Impl.Bloom.load32 c0 c1 c2 c3 := by
  simp only [Impl.Bloom.load32, Impl.Xxh64.read32le, Impl.Xxh64.u32, UInt8.toBitVec_or, BitVec.setWidth_or,
    BitVec.shiftLeft_or_distrib]
  generalize BitVec.setWidth 32 b1.toBitVec <<< 8 = x1
  generalize BitVec.setWidth 32 b2.toBitVec <<< 16 = x2
  generalize BitVec.setWidth 32 b3.toBitVec <<< 24 = x3
  generalize BitVec.setWidth 32 c1.toBitVec <<< 8 = y1
  generalize BitVec.setWidth 32 c2.toBitVec <<< 16 = y2
  generalize BitVec.setWidth 32 c3.toBitVec <<< 24 = y3
  ac_rfl

theorem wordsOf_zipWith_or (d s : List UInt8) (h : d.length = s.length) :
    wordsOfBytes (List.zipWith (· ||| ·) d s) =
      List.zipWith (· ||| ·) (wordsOfBytes d) (wordsOfBytes s) := by
  induction d using Spec.Sbbf.wordsOfBytes.induct generalizing s with
  | case1 b0 b1 b2 b3 rest ih =>
    obtain ⟨c0, c1, c2, c3, srest, rfl⟩ := exists_cons4 s (by rw [← h]; simp)
    simp only [List.zipWith_cons_cons, wordsOf_cons4, load32_or]
    rw [ih srest (by simpa using h)]
  | case2 d hd =>
    have h1 := lt4_of_not_cons d hd
    rw [wordsOf_short d h1, wordsOf_short s (by omega), wordsOf_short]
    · rfl
    · simp; omega

theorem blocks_zipWith_or (W V : List Word) (h : W.length = V.length) :
    blocksOfWords (List.zipWith (· ||| ·) W V) =
      List.zipWith (List.zipWith (· ||| ·)) (blocksOfWords W) (blocksOfWords V) := by
  induction W using Spec.Sbbf.blocksOfWords.induct generalizing V with
  | case1 w0 w1 w2 w3 w4 w5 w6 w7 rest ih =>
    obtain ⟨v0, v1, v2, v3, v4, v5, v6, v7, vrest, rfl⟩ := Lists.exists_cons8 V (by rw [← h]; simp)
    simp only [List.zipWith_cons_cons, blocks_cons8, List.zipWith_nil_right]
    rw [ih vrest (by simpa using h)]
  | case2 W hW =>
    have h1 := lt8_of_not_cons W hW
    rw [blocks_short W h1, blocks_short V (by omega), blocks_short]
    · rfl
    · simp; omega

theorem parse_zipWith_or (d s : List UInt8) (h : d.length = s.length) :
    parse (List.zipWith (· ||| ·) d s) = Spec.Sbbf.union (parse d) (parse s) := by
  rw [parse, wordsOf_zipWith_or d s h, blocks_zipWith_or _ _ (by rw [wordsOf_length, wordsOf_length, h])]
  rfl

theorem checkAt_union_left (F G : Spec.Sbbf.Filter) (j : Nat) (y : Word) (hl : F.length = G.length)
    (hG : ∀ b ∈ G, b.length = 8) (hc : Spec.Sbbf.checkAt F j y = true) :
    Spec.Sbbf.checkAt (Spec.Sbbf.union F G) j y = true := by
  simp only [Spec.Sbbf.checkAt, Spec.Sbbf.union, List.getElem?_zipWith] at hc ⊢
  cases hj : F[j]? with
  | none => rw [hj] at hc; cases hc
  | some b =>
    rw [hj] at hc
    have hjl : j < G.length := by
      rw [← hl]; exact (List.getElem?_eq_some_iff.mp hj).1
    rw [List.getElem?_eq_getElem hjl]
    exact blockCheck_le b _ y (blockLe_or_left b _ ((blockCheck_length hc).trans (hG _ (List.getElem_mem hjl)).symm)) hc

theorem union_comm (F G : Spec.Sbbf.Filter) : Spec.Sbbf.union F G = Spec.Sbbf.union G F :=
  List.zipWith_comm_of_comm fun _ _ => List.zipWith_comm_of_comm BitVec.or_comm

theorem checkAt_union_right (F G : Spec.Sbbf.Filter) (j : Nat) (y : Word) (hl : F.length = G.length)
    (hF : ∀ b ∈ F, b.length = 8) (hc : Spec.Sbbf.checkAt G j y = true) :
    Spec.Sbbf.checkAt (Spec.Sbbf.union F G) j y = true := by
  rw [union_comm]
  exact checkAt_union_left G F j y hl.symm hF hc

theorem merge_ok (dest src : Impl.Bloom.Filter) (wd : WF dest) (ws : WF src) (he : dest.numBytes = src.numBytes) :
    Impl.Bloom.merge dest src =
      (.ok, { dest with data := List.zipWith (· ||| ·) dest.data src.data }) := by
  rw [Impl.Bloom.merge, if_neg (by simpa using he), mergeLoop_eq _ _ (by rw [wd.len, ws.len, he])]

theorem WF.merged {dest src : Impl.Bloom.Filter} (wd : WF dest) (ws : WF src) (he : dest.numBytes = src.numBytes) :
    WF { dest with data := List.zipWith (· ||| ·) dest.data src.data } :=
  ⟨by simp only [List.length_zipWith, wd.len, ws.len, he]; omega, wd.bytes, wd.pos⟩


/-! ### typed values -/

theorem mem32_eq (v : BitVec 32) : Impl.Bloom.mem32 v = Spec.Sbbf.leBytes 4 v := by
  simp [Impl.Bloom.mem32, Impl.Bloom.store32, Spec.Sbbf.leBytes, List.range, List.range.loop]

theorem mem64_eq (v : BitVec 64) : Impl.Bloom.mem64 v = Spec.Sbbf.leBytes 8 v := by
  simp [Impl.Bloom.mem64, Impl.Bloom.memByte, Spec.Sbbf.leBytes, List.range, List.range.loop]

/-- the typed entry points hash the PLAIN encoding with XXH64, seed 0 -/
theorem hashOf_eq (v : Spec.Sbbf.Value) : Impl.Bloom.hashOf v = Spec.Sbbf.hashValue v := by
  cases v <;>
    simp only [Impl.Bloom.hashOf, Spec.Sbbf.hashValue, Spec.Sbbf.plain, Proofs.Xxh64.xxh64_eq, mem32_eq, mem64_eq]


end Carquet.Proofs.Bloom
