import Carquet.Proofs.ThriftRoundtripTop
/-
Unknown fields at the top level: a field list extended by fields whose ids the parser does not know
(any wire type, nested at most `R` deep).  That such a list is as acceptable as the original and
parses to the same value is the case "nothing inserted below" of Proofs.ThriftExtendsDeep.
-/
namespace Carquet.Proofs.Thrift
open Carquet.Spec.Thrift Carquet.Spec.ParquetThrift
open Carquet.Impl.Thrift
open Carquet.Impl.ThriftParquet

/-- `ext` is `base` with extra fields inserted anywhere, each with an id outside `known` and a
value (of any wire type) nested at most `R` deep -/
inductive Extends (known : List Int) (R : Nat) : Fields → Fields → Prop
  | nil : Extends known R [] []
  | keep {f base ext} : Extends known R base ext → Extends known R (f :: base) (f :: ext)
  | add {id v base ext} : id ∉ known → v.depth ≤ R → Extends known R base ext → Extends known R base ((id, v) :: ext)

/-- ids the file-metadata parser dispatches on (7, 8, 9 are skipped like unknown ones) -/
def fileMetaKnown : List Int := [1, 2, 3, 4, 5, 6]
/-- ids the page-header parser dispatches on -/
def pageHeaderKnown : List Int := [1, 2, 3, 4, 5, 7, 8]

theorem fileMetaKnown_eq (R : Nat) : (tblFileMeta R).map (·.1) = fileMetaKnown := rfl
theorem pageHeaderKnown_eq (R : Nat) : (tblPageHeader R).map (·.1) = pageHeaderKnown := rfl

end Carquet.Proofs.Thrift
