import Carquet.Proofs.ThriftLoop
import Carquet.Impl.ThriftParquet
/-
Container headers (what `thrift_read_list_begin` / `thrift_read_map_begin` return on a legal header, and as rules of
`Reads`: whatever reads the elements after the header reads the container), nested struct parsers, and `thrift_skip`
(repaired code): it consumes exactly the encoding of any value of the given wire type, at any nesting depth within the
limit.
-/
namespace Carquet.Proofs.Thrift
open Carquet.Spec.Thrift
open Carquet.Impl.Thrift

/-! ### list and map headers -/

theorem readListBegin_hdr {et : TType} {n : Nat} {hdr : List UInt8} (h : ListHdr et n hdr) (hn : n < 2 ^ 31)
    (d : Dec) (r : List UInt8) (hr : d.rest = hdr ++ r) (hlen : n ≤ r.length) :
    ∃ code, ElemCode et code ∧
      readListBegin d = ⟨code, (n : Int), d.atb r (d.pos + hdr.length) d.boolValue⟩ := by
  obtain ⟨rest, pos, lastId, bp, bv, status, ov, bud⟩ := d
  simp only at hr
  subst hr
  obtain ⟨code, hc, hh⟩ := h
  obtain ⟨_, h1, h13⟩ := elemCode_elemType hc
  refine ⟨code, hc, ?_⟩
  rw [two_pow_31] at hn
  have hnn : ¬ ((n : Int) < 0) := by omega
  rcases hh with ⟨hlt, rfl⟩ | rfl
  · have hb : (UInt8.ofNat (n * 16 + code)).toNat = n * 16 + code := u8_toNat _ (by omega)
    have e1 : (n * 16 + code) % 16 = code := by omega
    have e2 : (n * 16 + code) / 16 = n := by omega
    have e3 : ¬ n = 15 := by omega
    have hhas : lengthGe r n = true := (lengthGe_iff r n).mpr hlen
    simp only [readListBegin, shortListHdr, List.singleton_append, readByteRaw, hb, e1, e2, e3, if_false, listCountChecks,
      hnn, Int.toNat_natCast, Dec.has, hhas, Bool.not_true, Bool.false_eq_true, List.length_singleton]
    rfl
  · have hb : (UInt8.ofNat (15 * 16 + code)).toNat = 15 * 16 + code := u8_toNat _ (by omega)
    have e1 : (15 * 16 + code) % 16 = code := by omega
    have e2 : (15 * 16 + code) / 16 = 15 := by omega
    have hn64 : n < 2 ^ 64 := Nat.lt_trans hn (by decide)
    have hv := readVarint_uleb n hn64 (⟨uleb n ++ r, pos + 1, lastId, bp, bv, status, ov, bud⟩ : Dec) r rfl
    have hi : toI32 (n : Int) = n := toI32_id _ (by unfold inI32; omega)
    have hhas : lengthGe r n = true := (lengthGe_iff r n).mpr hlen
    simp only [readListBegin, longListHdr, List.cons_append, readByteRaw, hb, e1, e2, if_true, hv, hi, listCountChecks,
      hnn, if_false, Int.toNat_natCast, Dec.has, at_rest, hhas, Bool.not_true, Bool.false_eq_true, List.length_cons]
    simp only [Dec.at, Dec.atb, ListBegin.mk.injEq, true_and, Dec.mk.injEq, and_true]
    omega

theorem readMapBegin_zero (d : Dec) (r : List UInt8) (hr : d.rest = 0 :: r) :
    readMapBegin d = ⟨0, 0, 0, d.atb r (d.pos + 1) d.boolValue⟩ := by
  obtain ⟨rest, pos, lastId, bp, bv, status, ov, bud⟩ := d
  simp only at hr
  subst hr
  have h0 : (0 : UInt8).toNat = 0 := rfl
  simp [readMapBegin, readVarint, readVarintLoop, h0, readMapBeginK, toI32, Dec.atb]

theorem readMapBegin_hdr (n : Nat) (hn0 : 0 < n) (hn : n < 2 ^ 31) (kc vc : Nat) (hk : kc ≤ 13) (hv : vc ≤ 13)
    (d : Dec) (r : List UInt8) (hr : d.rest = uleb n ++ UInt8.ofNat (kc * 16 + vc) :: r) (hlen : n ≤ r.length + 1) :
    readMapBegin d = ⟨kc, vc, (n : Int), d.atb r (d.pos + (uleb n).length + 1) d.boolValue⟩ := by
  obtain ⟨rest, pos, lastId, bp, bv, status, ov, bud⟩ := d
  simp only at hr
  subst hr
  rw [two_pow_31] at hn
  have hn64 : n < 2 ^ 64 := Nat.lt_trans hn (by decide)
  have hvv := readVarint_uleb n hn64
    (⟨uleb n ++ UInt8.ofNat (kc * 16 + vc) :: r, pos, lastId, bp, bv, status, ov, bud⟩ : Dec) _ rfl
  have hi : toI32 (n : Int) = n := toI32_id _ (by unfold inI32; omega)
  have hnn : ¬ ((n : Int) < 0) := by omega
  have hn0' : ¬ ((n : Int) = 0) := by omega
  have hb : (UInt8.ofNat (kc * 16 + vc)).toNat = kc * 16 + vc := u8_toNat _ (by omega)
  have e1 : (kc * 16 + vc) / 16 = kc := by omega
  have e2 : (kc * 16 + vc) % 16 = vc := by omega
  have hhas : lengthGe (UInt8.ofNat (kc * 16 + vc) :: r) n = true := (lengthGe_iff _ n).mpr (by simp; omega)
  simp only [readMapBegin, hvv, hi, readMapBeginK, hnn, hn0', if_false, Int.toNat_natCast, Dec.has, at_rest, hhas,
    Bool.not_true, Bool.false_eq_true, readByteRaw, Dec.at, hb, e1, e2]
  simp only [Dec.atb, MapBegin.mk.injEq, true_and, Dec.mk.injEq, and_true]

/-! ### containers: header first, then the elements -/

/-- a list or set: `thrift_read_list_begin`, then whatever `F` does with the element type and the count -/
theorem Reads.listBegin {β : Type} {k : Nat} {F : Nat → Int → Dec → β × Dec} {et : TType} {n : Nat} {hdr body : List UInt8} {c : β}
    (hh : ListHdr et n hdr) (hn : n < 2 ^ 31) (hb : n ≤ body.length)
    (hF : ∀ code, ElemCode et code → Reads k (F code n) body c) :
    Reads k (fun d => F (readListBegin d).elemTy (readListBegin d).count (readListBegin d).dec) (hdr ++ body) c := by
  intro d r hd
  obtain ⟨ec, hec, hlb⟩ := readListBegin_hdr hh hn d (body ++ r) hd.split.rest (by simp; omega)
  obtain ⟨bv, e⟩ := hF ec hec _ r (hd.split.next rfl (Nat.le_refl k) (d.pos + hdr.length) d.boolValue)
  exact ⟨bv, by simp only [hlb, e, atb_atb, atb_pos, List.length_append, Nat.add_assoc]⟩

/-- a non-empty map: `thrift_read_map_begin`, then whatever `F` does with the two types and the count -/
theorem Reads.mapBegin {β : Type} {k : Nat} {F : Nat → Nat → Int → Dec → β × Dec} {n kc vc : Nat} {body : List UInt8} {c : β}
    (hn0 : 0 < n) (hn : n < 2 ^ 31) (hk : kc ≤ 13) (hv : vc ≤ 13) (hb : n ≤ body.length) (hF : Reads k (F kc vc n) body c) :
    Reads k (fun d => F (readMapBegin d).keyTy (readMapBegin d).valTy (readMapBegin d).count (readMapBegin d).dec)
      (uleb n ++ UInt8.ofNat (kc * 16 + vc) :: body) c := by
  intro d r hd
  have hmb := readMapBegin_hdr n hn0 hn kc vc hk hv d (body ++ r) (by rw [hd.rest]; simp) (by simp; omega)
  obtain ⟨bv, e⟩ := hF (d.atb (body ++ r) (d.pos + (uleb n).length + 1) d.boolValue) r
    ⟨rfl, hd.ok, hd.nb, hd.room, by have := hd.bud; rw [hd.rest] at this; simp at this ⊢; omega⟩
  refine ⟨bv, ?_⟩
  simp only [hmb]
  rw [e]
  simp only [atb_atb, atb_pos, List.length_append, List.length_cons]
  congr 2
  omega

theorem repeatOk_elems (g : Dec → Dec) (k : Nat) : ∀ (xs : List TVal) (bs : List UInt8),
    (∀ x ∈ xs, ∀ b, Enc (.val x) b → Reads k (fun d => ((), g d)) b ()) → Enc (.elems xs) bs →
    Reads k (fun d => ((), repeatOk g xs.length d)) bs ()
  | [], bs, _, henc => by cases enc_elems_nil henc; exact Reads.pure k ()
  | x :: rest, bs, hx, henc => by
    obtain ⟨b1, b2, rfl, h1, h2⟩ := enc_elems_cons henc
    exact ((hx x List.mem_cons_self b1 h1).bind (g := fun _ d => ((), repeatOk g rest.length d))
      (repeatOk_elems g k rest b2 (fun y hy => hx y (List.mem_cons_of_mem _ hy)) h2)).of_eq
      fun d _ hd => by simp only [List.length_cons, repeatOk, hd.ok]

theorem repeatOk_kvs (g1 g2 : Dec → Dec) (k : Nat) : ∀ (kvs : List (TVal × TVal)) (bs : List UInt8),
    (∀ p ∈ kvs, ∀ b, Enc (.val p.1) b → Reads k (fun d => ((), g1 d)) b ()) →
    (∀ p ∈ kvs, ∀ b, Enc (.val p.2) b → Reads k (fun d => ((), g2 d)) b ()) → Enc (.kvs kvs) bs →
    Reads k (fun d => ((), repeatOk (fun x => g2 (g1 x)) kvs.length d)) bs ()
  | [], bs, _, _, henc => by cases enc_kvs_nil henc; exact Reads.pure k ()
  | (kk, vv) :: rest, bs, hk, hv, henc => by
    obtain ⟨b1, b2, b3, rfl, h1, h2, h3⟩ := enc_kvs_cons henc
    exact (((hk (kk, vv) List.mem_cons_self b1 h1).bind (g := fun _ d => ((), g2 d)) (hv (kk, vv) List.mem_cons_self b2 h2)).bind
      (g := fun _ d => ((), repeatOk (fun x => g2 (g1 x)) rest.length d))
      (repeatOk_kvs g1 g2 k rest b3 (fun y hy => hk y (List.mem_cons_of_mem _ hy)) (fun y hy => hv y (List.mem_cons_of_mem _ hy)) h3)).of_eq
      fun d _ hd => by simp only [List.length_cons, repeatOk, hd.ok]

/-! ### nested struct parsers -/

theorem parseStruct_reads {σ : Type} (body : Nat → Int → Dec → σ → σ × Dec) (step : σ → Int → TVal → σ) (k : Nat)
    (init : σ) (fs : List (Int × TVal)) (bs : List UInt8) (henc : Enc (.val (.struct fs)) bs)
    (hbool : ∀ id b, (id, TVal.bool b) ∈ fs → BoolFieldOK (fun _ => True) body step k id b)
    (hval : ∀ id v, (id, v) ∈ fs → v.ty ≠ .bool → ValFieldOK (fun _ => True) body step k id v) :
    Reads (k + 1) (Carquet.Impl.ThriftParquet.parseStruct body init) bs (fs.foldl (fun s f => step s f.1 f.2) init) := by
  intro d r hd
  obtain ⟨body', rfl, hf⟩ := enc_struct_inv henc
  have hroom := hd.room
  have hsb := structBegin_ok d (by omega)
  have hlen : fs.length ≤ body'.length := enc_len hf
  have hbud := hd.bud
  rw [hd.rest] at hbud
  simp only [List.length_append, List.length_singleton] at hbud
  obtain ⟨bv, hl⟩ := fieldLoop_reads (fun _ => false) (fun _ => True) (fun _ _ => rfl) body step (fun _ _ _ _ => trivial)
    k fs 0 body' hf hbool hval d.budget
    (d.upd d.rest d.pos (0 :: d.lastId) d.boolValue) r init d.lastId trivial
    (by simp [hd.rest]) hd.ok hd.nb rfl (by omega) (by simp; rw [hd.rest]; simp; omega) (by omega)
  refine ⟨bv, ?_⟩
  unfold Carquet.Impl.ThriftParquet.parseStruct
  rw [hsb]
  simp only [upd_budget] at hl ⊢
  rw [hl]
  simp only [structEnd, upd_lastId, List.tail_cons, upd_pos, List.length_append, List.length_singleton, Prod.mk.injEq, true_and]
  simp only [Dec.upd, Dec.atb, Dec.mk.injEq, true_and, and_true]
  omega

/-! ### `thrift_skip` consumes exactly one value -/

/-- skipping `v` as a container element announced with type nibble `code`: consumes exactly an
encoding of `v` (as a field value when `code` is `v`'s own type code and `v` is not a bool) -/
def SkipOK (v : TVal) : Prop :=
  ∀ bs, Enc (.val v) bs → ∀ stk code, ElemCode v.ty code → v.depth < stk →
    Reads v.depth (fun d => ((), skipElement Cfg.fixed (skip Cfg.fixed stk) code d)) bs ()

theorem elemCode_nonbool {v : TVal} {code : Nat} (h : ElemCode v.ty code) (hnb : v.ty ≠ .bool) :
    code = v.ty.code ∧ 3 ≤ code := by
  rcases h with rfl | ⟨hb, _⟩
  · exact ⟨rfl, by cases hv : v.ty <;> simp_all [TType.code]⟩
  · exact absurd hb hnb

theorem skipElement_nonbool (sk : Nat → Dec → Dec) (code : Nat) (d : Dec) (hs : d.status = none) (h3 : 3 ≤ code) :
    skipElement Cfg.fixed sk code d = sk code d := by
  unfold skipElement
  have h1 : ¬ (code = 1 ∨ code = 2) := by omega
  simp [Cfg.fixed, hs, h1]

theorem skipField_bool' (b : Bool) (d : Dec) (hs : d.status = none) (stk : Nat) :
    skip Cfg.fixed (stk + 1) (fieldCode (.bool b)) d = { d with boolPending := false } := by
  rw [skip_ok _ _ _ _ hs]
  cases b <;> rfl

theorem skipField_bool (b : Bool) (d : Dec) (hs : d.status = none) :
    skipField Cfg.fixed (fieldCode (.bool b)) d = { d with boolPending := false } :=
  skipField_bool' b d hs _

theorem readerSkip_append (d : Dec) (bs r : List UInt8) (h : d.rest = bs ++ r) :
    d.skipFixed Cfg.fixed bs.length = d.atb r (d.pos + bs.length) d.boolValue := by
  unfold Dec.skipFixed
  simp only [Cfg.fixed, if_true]
  rw [has_append d bs r h, if_pos rfl, advance_append d bs r h]

theorem skipContainer_fixed (body : Dec → Dec) (d : Dec) (h : d.lastId.length < maxNesting) :
    skipContainer Cfg.fixed body d = leaveContainer (body (d.upd d.rest d.pos (0 :: d.lastId) d.boolValue)) := by
  unfold skipContainer enterContainer
  simp only [Cfg.fixed, if_true, Nat.not_le.mpr h, if_false]
  rfl

/-- a container body that needs `k` nesting levels needs `k + 1` as a skipped container -/
theorem Reads.container {k : Nat} {g : Dec → Dec} {bs : List UInt8} (h : Reads k (fun d => ((), g d)) bs ()) :
    Reads (k + 1) (fun d => ((), skipContainer Cfg.fixed g d)) bs () := by
  intro d r hd
  have hroom := hd.room
  obtain ⟨bv, e⟩ := h (d.upd d.rest d.pos (0 :: d.lastId) d.boolValue) r ⟨hd.rest, hd.ok, hd.nb, by simp; omega, hd.bud⟩
  simp only [Prod.mk.injEq, true_and] at e ⊢
  exact ⟨bv, by rw [skipContainer_fixed _ d (by omega), e]; rfl⟩

theorem Reads.snd {k : Nat} {g : Dec → Dec} {bs : List UInt8} (h : Reads k (fun d => ((), g d)) bs ()) {d : Dec} {r : List UInt8}
    (hd : Ready d bs r k) : ∃ bv, g d = d.atb r (d.pos + bs.length) bv :=
  (h d r hd).imp fun _ e => congrArg Prod.snd e

/-- a value that is not a bool is skipped by `thrift_skip` itself, with one frame for the call: it is
enough to say what the `case` of its wire type does -/
theorem SkipOK.of_case {v : TVal} (tc : Nat) (htc : v.ty.code = tc) (h3 : 3 ≤ tc)
    (h : ∀ bs, Enc (.val v) bs → ∀ stk d r, v.depth ≤ stk → Ready d bs r v.depth →
      ∃ bv, skipCase Cfg.fixed (skip Cfg.fixed stk) tc d = d.atb r (d.pos + bs.length) bv) : SkipOK v := by
  intro bs henc stk code hc hst d r hd
  have hnb : v.ty ≠ .bool := fun hb => by rw [hb] at htc; simp only [TType.code] at htc; omega
  obtain ⟨hcode, _⟩ := elemCode_nonbool hc hnb
  obtain ⟨stk, rfl⟩ : ∃ s, stk = s + 1 := ⟨stk - 1, by omega⟩
  obtain ⟨bv, hb⟩ := h bs henc stk d r (by omega) hd
  refine ⟨bv, ?_⟩
  dsimp only
  rw [skipElement_nonbool _ _ _ hd.ok (by omega), hcode, htc, skip_ok _ _ _ _ hd.ok, hb]

theorem skipCase_list {stk : Nat} {et : TType} {xs : List TVal} {hdr body : List UInt8} {code : Nat} (hc : code = 9 ∨ code = 10)
    (hlen : xs.length < 2 ^ 31) (hty : ∀ x ∈ xs, x.ty = et) (hh : ListHdr et xs.length hdr) (he : Enc (.elems xs) body)
    (hxs : ∀ x ∈ xs, SkipOK x) (hst : 1 + depthElems xs ≤ stk) :
    Reads (1 + depthElems xs) (fun d => ((), skipCase Cfg.fixed (skip Cfg.fixed stk) code d)) (hdr ++ body) () := by
  have h := (Reads.listBegin (F := fun ec n d => ((), repeatOk (skipElement Cfg.fixed (skip Cfg.fixed stk) ec) n.toNat d))
    hh hlen (enc_len he) fun ec hec => by
      simp only [Int.toNat_natCast]
      exact repeatOk_elems _ (depthElems xs) xs body (fun x hx b hb =>
        (hxs x hx b hb stk ec (by rw [hty x hx]; exact hec) (by have := depth_le_elems hx; omega)).weaken (depth_le_elems hx)) he).container
  exact (h.weaken (by omega)).of_eq fun d _ _ => by rcases hc with rfl | rfl <;> rfl

mutual
theorem skip_val : ∀ v : TVal, SkipOK v
  | .bool b => by
    intro bs henc stk code hc _ d r hd
    have hcode : code = 1 ∨ code = 2 := by
      rcases hc with rfl | ⟨_, rfl⟩ <;> simp [TVal.ty, TType.code]
    have hbs : ∃ x, bs = [x] := by cases henc <;> exact ⟨_, rfl⟩
    obtain ⟨x, rfl⟩ := hbs
    refine ⟨d.boolValue, ?_⟩
    unfold skipElement
    simp only [Cfg.fixed, if_true, hd.ok, hcode, readByteRaw_cons d x r (by simpa using hd.rest), List.length_singleton]
  | .i8 v => .of_case 3 rfl (by omega) fun bs henc stk d r _ hd => by
    cases henc
    exact ⟨_, readerSkip_append d [byteOf v] r hd.rest⟩
  | .i16 v => .of_case 4 rfl (by omega) fun bs henc stk d r _ hd => by
    cases henc with | i16 hv =>
    refine ⟨d.boolValue, ?_⟩
    show (readVarint d).2 = _
    rw [readVarint_uleb _ (zigzag_lt v (inI64_of_inI16 hv)) d r hd.rest]; rfl
  | .i32 v => .of_case 5 rfl (by omega) fun bs henc stk d r _ hd => by
    cases henc with | i32 hv =>
    refine ⟨d.boolValue, ?_⟩
    show (readVarint d).2 = _
    rw [readVarint_uleb _ (zigzag_lt v (inI64_of_inI32 hv)) d r hd.rest]; rfl
  | .i64 v => .of_case 6 rfl (by omega) fun bs henc stk d r _ hd => by
    cases henc with | i64 hv =>
    refine ⟨d.boolValue, ?_⟩
    show (readVarint d).2 = _
    rw [readVarint_uleb _ (zigzag_lt v hv) d r hd.rest]; rfl
  | .double bits => .of_case 7 rfl (by omega) fun bs henc stk d r _ hd => by
    cases henc
    have := readerSkip_append d _ r hd.rest
    rw [leBytes_length] at this
    exact ⟨_, this⟩
  | .binary b => .of_case 8 rfl (by omega) fun bs henc stk d r _ hd => by
    cases henc with | binary hb =>
    refine ⟨d.boolValue, ?_⟩
    have : skipCase Cfg.fixed (skip Cfg.fixed stk) 8 d = (readBinary d).2.2 := by simp [skipCase]
    rw [this, readBinary_spec b hb d r hd.rest]
  | .uuid b => .of_case 13 rfl (by omega) fun bs henc stk d r _ hd => by
    cases henc with | uuid hb =>
    refine ⟨d.boolValue, ?_⟩
    show d.skipFixed Cfg.fixed 16 = _
    rw [← hb]
    exact readerSkip_append d b r hd.rest
  | .list et xs => .of_case 9 rfl (by omega) fun bs henc stk d r hst hd => by
    obtain ⟨hdr, body, rfl, hlen, hty, hh, he⟩ := enc_list_inv henc
    exact (skipCase_list (Or.inl rfl) hlen hty hh he (skip_elems xs) hst).snd hd
  | .set et xs => .of_case 10 rfl (by omega) fun bs henc stk d r hst hd => by
    obtain ⟨hdr, body, rfl, hlen, hty, hh, he⟩ := enc_set_inv henc
    exact (skipCase_list (Or.inr rfl) hlen hty hh he (skip_elems xs) hst).snd hd
  | .map [] => .of_case 11 rfl (by omega) fun bs henc stk d r _ hd => by
    have := enc_map_nil henc; subst this
    have hroom := hd.room
    simp only [TVal.depth] at hroom
    have hmb := readMapBegin_zero (d.upd d.rest d.pos (0 :: d.lastId) d.boolValue) r (by simp [hd.rest])
    refine ⟨d.boolValue, ?_⟩
    rw [show skipCase Cfg.fixed (skip Cfg.fixed stk) 11 d =
      skipContainer Cfg.fixed (skipMapBody Cfg.fixed (skip Cfg.fixed stk)) d from by simp [skipCase]]
    simp only [skipContainer_fixed _ d (by unfold maxNesting at *; omega), skipMapBody, hmb, Int.toNat_zero, repeatOk]
    simp [leaveContainer, Dec.atb, Dec.upd]
  | .map ((k, v) :: rest) => .of_case 11 rfl (by omega) fun bs henc stk d r hst hd => by
    obtain ⟨body, rfl, hlen, hty, he⟩ := enc_map_cons henc
    simp only [TVal.depth] at hst
    have h := (Reads.mapBegin (k := depthKVs ((k, v) :: rest))
      (F := fun kc vc n d => ((), repeatOk (fun x => skipElement Cfg.fixed (skip Cfg.fixed stk) vc
        (skipElement Cfg.fixed (skip Cfg.fixed stk) kc x)) n.toNat d))
      (Nat.succ_pos _) hlen (code_pos k.ty).2 (code_pos v.ty).2 (by simpa [LenP] using enc_len he) (by
        simp only [Int.toNat_natCast]
        exact repeatOk_kvs _ _ _ ((k, v) :: rest) body
          (fun p hp b hb => (skip_kvs ((k, v) :: rest) p hp |>.1 b hb stk k.ty.code (by rw [(hty p hp).1]; exact Or.inl rfl)
            (by have := depth_le_kvs hp; omega)).weaken (depth_le_kvs hp).1)
          (fun p hp b hb => (skip_kvs ((k, v) :: rest) p hp |>.2 b hb stk v.ty.code (by rw [(hty p hp).2]; exact Or.inl rfl)
            (by have := depth_le_kvs hp; omega)).weaken (depth_le_kvs hp).2) he)).container
    exact ((h.weaken (k' := (TVal.map ((k, v) :: rest)).depth) (by simp only [TVal.depth]; omega)).of_eq
      fun d _ _ => by simp [skipCase]; rfl).snd hd
  | .struct fs => .of_case 12 rfl (by omega) fun bs henc stk d r hst hd => by
    simp only [TVal.depth] at hst
    obtain ⟨stk', rfl⟩ : ∃ s, stk = s + 1 := ⟨stk - 1, by omega⟩
    have hps := parseStruct_reads (σ := Unit) (fun ty _ d s => (s, skip Cfg.fixed (stk' + 1) ty d)) (fun s _ _ => s)
      (depthFields fs) () fs bs henc
      (fun id b _ d s _ hs hp hv _ _ => ⟨d.boolValue, by
        show ((), skip Cfg.fixed (stk' + 1) _ d) = _
        rw [show skip Cfg.fixed (stk' + 1) _ d = _ from skipField_bool' b d hs stk']⟩)
      (by
        intro id v hm hnb b2 hb2 s _ d r hd
        obtain ⟨bv, h⟩ := (skip_fields fs (id, v) hm b2 hb2 (stk' + 1) v.ty.code (Or.inl rfl)
          (by have : v.depth ≤ depthFields fs := depth_le_fields hm; show v.depth < stk' + 1; omega)).weaken (depth_le_fields hm) d r hd
        obtain ⟨_, h3'⟩ := fieldCode_of_ne_bool v hnb
        dsimp only at h ⊢
        rw [skipElement_nonbool _ _ _ hd.ok h3'] at h
        exact ⟨bv, by simpa using h⟩)
    have hd' : Ready d bs r (depthFields fs + 1) := by
      have := hd.room; simp only [TVal.depth] at this
      exact ⟨hd.rest, hd.ok, hd.nb, by omega, hd.bud⟩
    obtain ⟨bv, hp⟩ := hps d r hd'
    exact ⟨bv, congrArg Prod.snd hp⟩
theorem skip_elems : ∀ (xs : List TVal), ∀ x ∈ xs, SkipOK x
  | [], _, h => by cases h
  | y :: r, x, h => by
    rcases List.mem_cons.mp h with h1 | h'
    · rw [h1]; exact skip_val y
    · exact skip_elems r x h'
theorem skip_kvs : ∀ (kvs : List (TVal × TVal)), ∀ p ∈ kvs, SkipOK p.1 ∧ SkipOK p.2
  | [], _, h => by cases h
  | (k, v) :: r, p, h => by
    rcases List.mem_cons.mp h with h1 | h'
    · rw [h1]; exact ⟨skip_val k, skip_val v⟩
    · exact skip_kvs r p h'
theorem skip_fields : ∀ (fs : List (Int × TVal)), ∀ f ∈ fs, SkipOK f.2
  | [], _, h => by cases h
  | (i, v) :: r, f, h => by
    rcases List.mem_cons.mp h with h1 | h'
    · rw [h1]; exact skip_val v
    · exact skip_fields r f h'
end

/-- **`thrift_skip` consumes exactly one value** (repaired code): for every value `v` of a
non-bool wire type, every admitted encoding `bs` of it, at any position with room for `v`'s
nesting depth, `thrift_skip(dec, type of v)` ends without error exactly behind `bs`. -/
theorem skip_consumes (v : TVal) (hnb : v.ty ≠ .bool) (bs : List UInt8) (henc : Encodes v bs) (stk : Nat) (hstk : v.depth < stk) :
    Reads v.depth (fun d => ((), skip Cfg.fixed stk v.ty.code d)) bs () := by
  intro d r hd
  obtain ⟨bv, h⟩ := skip_val v bs henc stk v.ty.code (Or.inl rfl) hstk d r hd
  obtain ⟨_, h3⟩ := fieldCode_of_ne_bool v hnb
  dsimp only at h ⊢
  rw [skipElement_nonbool _ _ _ hd.ok h3] at h
  exact ⟨bv, h⟩

end Carquet.Proofs.Thrift
