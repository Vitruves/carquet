import Carquet.Proofs.ImplReadsThrift
import Carquet.Proofs.SpecFileChunkFull
import Carquet.Proofs.ReaderHeaderReads
/-
C06, implementation half — stage "page headers": `parquet_parse_page_header`, as the page loaders
read its result (`parsePageHeaderC`: type, sizes, crc and the two union words), on the header of a
data page / dictionary page of the reference writer — in ANY header form (`ThriftForm`: short / long
field headers, short / long list headers, either bool spelling), with statistics and with unknown
fields in the page header, the member struct and the statistics (C13: `parsePageHeaderCX_reads`), and
with any bytes behind the header.  Member structs and header are `Takes` statements (`dataHdrTV_takes`,
`dictHdrTV_takes`, `pageHdrTV_takes`); `ReaderHeaderReads.parsePageHeaderC_of_fields` turns the header's into
what `parsePageHeaderC` returns.
-/
namespace Carquet.Proofs.ImplReads
open Carquet.Spec Carquet.Spec.File Carquet.Spec.Thrift
open Carquet.Impl
open Carquet.Impl.ThriftParquetReq (PageHdr parsePageHeaderC)
open Carquet.Proofs.SpecFile (PageAdm DictAdm dataPageHdrTV dictPageHdrTV)

section helpers
open Carquet.Spec.ParquetThrift
open Carquet.Proofs.Thrift
open Carquet.Proofs.ReaderHeaderReads
open Carquet.Impl.ThriftParquet (DataPageHeader DictionaryPageHeader Statistics)
open Carquet.Impl.ThriftParquetReq (sentinel upd)

/-! ### the parser tables list only ids of the parquet.thrift tables -/

theorem tblPageHdrC_sub : ((tblPageHdrC 27).map (·.1)).all (fun k => (pageHeader.find k).isSome) = true := by decide
theorem tblDataPage_sub : ((tblDataPage 27).map (·.1)).all (fun k => (dataPageHeader.find k).isSome) = true := by decide
theorem tblDictPage_sub : (tblDictPage.map (·.1)).all (fun k => (dictionaryPageHeader.find k).isSome) = true := by decide
theorem tblStats_sub : (tblStats.map (·.1)).all (fun k => (statistics.find k).isSome) = true := by decide

/-! ### field lists -/

theorem ofFields_cons {σ : Type} (tbl : Table σ) (s : σ) (id : Int) (v : TVal) (r : File.Fields) :
    ofFields tbl s ((id, v) :: r) = ofFields tbl (stepT tbl s id v) r := rfl

theorem ofFields_nil {σ : Type} (tbl : Table σ) (s : σ) : ofFields tbl s [] = s := rfl

/-! ### Statistics -/

theorem statsTV_ok (s : StatsMeta) (extra : File.Fields) (hx : extrasOk statistics extra = true)
    (hd : extrasDepth 27 extra = true) :
    ∃ fs, statsTV s extra = .struct fs ∧ okFields tblStats 27 fs :=
  ⟨_, rfl, okFields_withExtras _ _ _ _ (stats_written_ok 27 s) (lookupT_none_of_extrasOk _ _ _ tblStats_sub hx) hd⟩

/-! ### the data page header member -/

/-- the member struct of a data page header, parsed from any start (the loaders start it from the sentinel): value
count and encoding end as stated -/
theorem dataHdrTV_takes (h : DataHdr) (sx mx : File.Fields) (hsx : extrasOk statistics sx = true)
    (hsd : extrasDepth 27 sx = true) (hmx : extrasOk dataPageHeader mx = true) (hmd : extrasDepth 28 mx = true)
    (init : DataPageHeader) :
    ∃ fs s', dataHdrTV h sx mx = .struct fs ∧ Takes (tblDataPage 27) 28 init s' fs ∧
      s'.numValues = (h.numValues : Int) ∧ s'.encoding = h.encoding :=
  ⟨_, _, rfl, .withExtras (.append
      (.cons (.i32 rfl) <| .cons (.i32 rfl) <| .cons (.i32 rfl) <| .cons (.i32 rfl) .nil)
      (.optF (fun s (o : Option StatsMeta) => o.elim s fun st => stepT (tblDataPage 27) s 5 (statsTV st sx))
        fun st _ => statsTV_ok st sx hsx hsd))
    (lookupT_none_of_extrasOk _ _ _ tblDataPage_sub hmx) hmd, by cases h.stats <;> exact ⟨rfl, rfl⟩⟩

/-! ### the dictionary page header member -/

theorem dictHdrTV_takes (h : DictHdr) (sorted : Option Bool) (mx : File.Fields)
    (hmx : extrasOk dictionaryPageHeader mx = true) (hmd : extrasDepth 27 mx = true) (init : DictionaryPageHeader) :
    ∃ fs s', dictHdrTV h sorted mx = .struct fs ∧ Takes tblDictPage 27 init s' fs ∧
      s'.numValues = (h.numValues : Int) ∧ s'.encoding = h.encoding :=
  ⟨_, _, rfl, .withExtras (.append (.cons (.i32 rfl) <| .cons (.i32 rfl) .nil)
      (.optF (fun s (o : Option Bool) => o.elim s fun b => stepT tblDictPage s 3 (.bool b)) fun b _ => ⟨b, rfl⟩))
    (lookupT_none_of_extrasOk _ _ _ tblDictPage_sub hmx) hmd, by cases sorted <;> exact ⟨rfl, rfl⟩⟩

/-! ### the page header -/

/-- the fields in front of the member set type, sizes and crc; the member's handler does the rest -/
theorem pageHdrTV_takes (type : Int) (u c : Nat) (crc : Option Int) (mid : Int) (m : TVal) (hx : File.Fields)
    (hm : okT (tblPageHdrC 27) 29 mid m) (hhx : extrasOk pageHeader hx = true) (hhd : extrasDepth 29 hx = true) :
    ∃ fs, pageHdrTV type u c crc mid m hx = .struct fs ∧
      Takes (tblPageHdrC 27) 29 ⟨initHdr, none⟩ (stepT (tblPageHdrC 27) (⟨⟨type, u, c, crc, 0, 0⟩, none⟩ : HState) mid m) fs :=
  ⟨_, rfl, .withExtras (.to (.append (.append
      (.cons (.i32 rfl) <| .cons (.i32 rfl) <| .cons (.i32 rfl) .nil)
      (.optF (fun (s : HState) o => { s with val := { s.val with crc := o } }) fun x _ => ⟨x, rfl⟩))
      (.step hm)) rfl)
    (lookupT_none_of_extrasOk _ _ _ tblPageHdrC_sub hhx) hhd⟩

theorem pageHdrTV_ok (type : Int) (u c : Nat) (crc : Option Int) (mid : Int) (m : TVal) (hx : File.Fields)
    (hm : okT (tblPageHdrC 27) 29 mid m) (hhx : extrasOk pageHeader hx = true) (hhd : extrasDepth 29 hx = true) :
    ∃ fs, pageHdrTV type u c crc mid m hx = .struct fs ∧ okFields (tblPageHdrC 27) 29 fs ∧
      (ofFields (tblPageHdrC 27) ⟨initHdr, none⟩ fs).val =
        (stepT (tblPageHdrC 27) (⟨⟨type, u, c, crc, 0, 0⟩, none⟩ : HState) mid m).val :=
  let ⟨fs, h1, ht⟩ := pageHdrTV_takes type u c crc mid m hx hm hhx hhd
  ⟨fs, h1, ht.ok, congrArg (·.val) ht.of⟩

theorem parse_pageHdrTV (form : ThriftForm) (type : Int) (u c : Nat) (crc : Option Int) (mid : Int) (m : TVal)
    (hx : File.Fields) (hm : okT (tblPageHdrC 27) 29 mid m) (hhx : extrasOk pageHeader hx = true)
    (hhd : extrasDepth 29 hx = true) (hwf : (pageHdrTV type u c crc mid m hx).wf = true) (rest : Bytes) :
    parsePageHeaderC (encodeValF form (pageHdrTV type u c crc mid m hx) ++ rest) =
      .ok ((stepT (tblPageHdrC 27) (⟨⟨type, u, c, crc, 0, 0⟩, none⟩ : HState) mid m).val,
        (encodeValF form (pageHdrTV type u c crc mid m hx)).length) := by
  obtain ⟨fs, hf1, ht⟩ := pageHdrTV_takes type u c crc mid m hx hm hhx hhd
  rw [hf1] at hwf ⊢
  rw [parsePageHeaderC_of_fields fs _ (Carquet.Proofs.SpecFile.enc_encodeValF form _ hwf) ht.ok rest, ht.of]

theorem upd_of_inI32 (old v : Int) (h : inI32 v) : upd old v = v := by
  unfold upd sentinel
  unfold inI32 at h
  rw [if_neg (by omega)]

/-! ### what well-formedness of the header value says about the value count -/

theorem pageHdrTV_wf_member (ty : Int) (u c : Nat) (crc : Option Int) (mid : Int) (member : TVal) (extra : File.Fields)
    (h : (pageHdrTV ty u c crc mid member extra).wf = true) : member.wf = true := by
  simp only [pageHdrTV, TVal.wf] at h
  rw [SpecFile.wfFields_withExtras, SpecFile.wfFields_append, SpecFile.wfFields_append] at h
  simp only [wfFields, Bool.and_eq_true] at h
  exact h.1.2.1.2

theorem dataHdrTV_wf_num (h : DataHdr) (se me : File.Fields) (hwf : (dataHdrTV h se me).wf = true) :
    inI32 (h.numValues : Int) := by
  simp only [dataHdrTV, TVal.wf] at hwf
  rw [SpecFile.wfFields_withExtras, SpecFile.wfFields_append] at hwf
  simp only [wfFields, TVal.wf, Bool.and_eq_true, decide_eq_true_eq] at hwf
  exact hwf.1.1.1.2

end helpers

open Carquet.Proofs.Thrift Carquet.Proofs.ReaderHeaderReads in
open Carquet.Impl.ThriftParquet (DataPageHeader DictionaryPageHeader) in
open Carquet.Impl.ThriftParquetReq (sentinel upd) in
theorem parse_dataPageHdr (leaf : LeafInfo) (pl : PageLayout) (es : List Entry) (ulen : Nat) (comp : Bytes)
    (hp : PageAdm pl) (hdepth : pageExtrasDepthOk pl = true)
    (hwf : (dataPageHdrTV leaf pl es ulen comp).wf = true) (rest : Bytes) :
    parsePageHeaderC (encodeValF pl.form (dataPageHdrTV leaf pl es ulen comp) ++ rest) =
      .ok ((⟨0, (ulen : Int), (comp.length : Int), (if pl.crc then some (crcField comp) else none), (es.length : Int),
             valueEncTag pl.values⟩ : ThriftParquetReq.PageHdr),
           (encodeValF pl.form (dataPageHdrTV leaf pl es ulen comp)).length) := by
  obtain ⟨h29, h28, h27⟩ : extrasDepth 29 pl.hdrExtra = true ∧ extrasDepth 28 pl.memberExtra = true ∧
      extrasDepth 27 pl.statsExtra = true := by
    unfold pageExtrasDepthOk at hdepth
    simp only [Bool.and_eq_true] at hdepth
    exact ⟨hdepth.1.1, hdepth.1.2, hdepth.2⟩
  unfold dataPageHdrTV at hwf ⊢
  generalize statsFor leaf pl.stats (es.map (·.dl)) (es.filterMap (·.val)) = st at hwf ⊢
  generalize hcrc : (if pl.crc then some (crcField comp) else none : Option Int) = crc at hwf ⊢
  have hn : inI32 (es.length : Int) :=
    dataHdrTV_wf_num ⟨es.length, valueEncTag pl.values, 3, 3, st⟩ _ _ (pageHdrTV_wf_member _ _ _ _ _ _ _ hwf)
  have he : inI32 (valueEncTag pl.values) := Carquet.Proofs.SpecFile.valueEncTag_inI32 hp.values
  obtain ⟨mfs, m', hm1, hm2, hn', he'⟩ := dataHdrTV_takes ⟨es.length, valueEncTag pl.values, 3, 3, st⟩ pl.statsExtra pl.memberExtra
    hp.statsExtra h27 hp.memberExtra h28 ({ numValues := sentinel, encoding := sentinel } : DataPageHeader)
  rw [hm1] at hwf ⊢
  rw [parse_pageHdrTV pl.form 0 ulen comp.length crc 5 (.struct mfs) pl.hdrExtra ⟨mfs, rfl, hm2.ok⟩ hp.hdrExtra h29 hwf rest]
  have s5 : (stepT (tblPageHdrC 27) (⟨⟨0, ulen, comp.length, crc, 0, 0⟩, none⟩ : HState) 5 (.struct mfs)).val =
      ⟨0, ulen, comp.length, crc,
        upd 0 (ofFields (tblDataPage 27) ({ numValues := sentinel, encoding := sentinel } : DataPageHeader) mfs).numValues,
        upd 0 (ofFields (tblDataPage 27) ({ numValues := sentinel, encoding := sentinel } : DataPageHeader) mfs).encoding⟩ := rfl
  rw [s5, hm2.of, hn', he', upd_of_inI32 _ _ hn, upd_of_inI32 _ _ he]

open Carquet.Proofs.Thrift Carquet.Proofs.ReaderHeaderReads in
open Carquet.Impl.ThriftParquet (DataPageHeader DictionaryPageHeader) in
open Carquet.Impl.ThriftParquetReq (sentinel upd) in
theorem parse_dictPageHdr (leaf : LeafInfo) (dl : DictLayout) (comp : Bytes)
    (hd : DictAdm dl) (hdepth : dictExtrasDepthOk dl = true)
    (hwf : (dictPageHdrTV leaf dl comp).wf = true) (rest : Bytes) :
    parsePageHeaderC (encodeValF dl.form (dictPageHdrTV leaf dl comp) ++ rest) =
      .ok ((⟨2, ((plainEncode leaf dl.values).length : Int), (comp.length : Int),
             (if dl.crc then some (crcField comp) else none), (dl.values.length : Int), (dl.encoding : Int)⟩ : ThriftParquetReq.PageHdr),
           (encodeValF dl.form (dictPageHdrTV leaf dl comp)).length) := by
  obtain ⟨h29, h27⟩ : extrasDepth 29 dl.hdrExtra = true ∧ extrasDepth 27 dl.memberExtra = true := by
    unfold dictExtrasDepthOk at hdepth
    simp only [Bool.and_eq_true] at hdepth
    exact hdepth
  unfold dictPageHdrTV at hwf ⊢
  generalize hcrc : (if dl.crc then some (crcField comp) else none : Option Int) = crc at hwf ⊢
  have hn : inI32 (dl.values.length : Int) := by
    have := hd.count
    unfold inI32; omega
  have he : inI32 (dl.encoding : Int) := by
    unfold inI32; rcases hd.encoding with h | h <;> rw [h] <;> decide
  obtain ⟨mfs, m', hm1, hm2, hn', he'⟩ := dictHdrTV_takes ⟨dl.values.length, dl.encoding⟩ dl.sorted dl.memberExtra hd.memberExtra h27
    ({ numValues := sentinel, encoding := sentinel } : DictionaryPageHeader)
  rw [hm1] at hwf ⊢
  rw [parse_pageHdrTV dl.form 2 (plainEncode leaf dl.values).length comp.length crc 7 (.struct mfs) dl.hdrExtra
    ⟨mfs, rfl, hm2.ok⟩ hd.hdrExtra h29 hwf rest]
  have s7 : (stepT (tblPageHdrC 27) (⟨⟨2, (plainEncode leaf dl.values).length, comp.length, crc, 0, 0⟩, none⟩ : HState) 7
        (.struct mfs)).val =
      ⟨2, (plainEncode leaf dl.values).length, comp.length, crc,
        upd 0 (ofFields tblDictPage ({ numValues := sentinel, encoding := sentinel } : DictionaryPageHeader) mfs).numValues,
        upd 0 (ofFields tblDictPage ({ numValues := sentinel, encoding := sentinel } : DictionaryPageHeader) mfs).encoding⟩ := rfl
  rw [s7, hm2.of, hn', he', upd_of_inI32 _ _ hn, upd_of_inI32 _ _ he]

end Carquet.Proofs.ImplReads
