import Carquet.Proofs.ThriftTop
import Carquet.Proofs.ThriftWriteStructs
/-
What the parser tables make of the Thrift value of a structure.  `Takes tbl R s s' P`: the fields `P` are acceptable
to the parser that `tbl` describes (`okFields`) and folding them into the state `s` gives `s'`; one piece for every way a
member is written (always, under `has_x`, when positive, when not empty, as a nested struct, as a list of structs), so
that a structure's field list is gone through once, member by member, and gives `Takes tblX R {} x.norm (fields of x)`.
Then the well-formedness (`TVal.wf`) of such field lists, piece by piece.
-/
namespace Carquet.Proofs.Thrift
open Carquet.Spec.Thrift Carquet.Spec.ParquetThrift
open Carquet.Impl.Thrift
open Carquet.Impl.ThriftParquet

/-! ### generic pieces -/

theorem ofFields_append {σ : Type} (tbl : Table σ) (s : σ) (a b : Fields) :
    ofFields tbl s (a ++ b) = ofFields tbl (ofFields tbl s a) b := by
  simp [ofFields, List.foldl_append]

theorem piece_f1 {σ : Type} (tbl : Table σ) (s : σ) (id : Int) (v : TVal) : ofFields tbl s (f1 id v) = stepT tbl s id v := rfl

theorem takeWhile_all (p : UInt8 → Bool) (b : Bytes) (h : ∀ x ∈ b, p x = true) : b.takeWhile p = b := by
  induction b with
  | nil => rfl
  | cons a r ih =>
    simp only [List.takeWhile_cons, h a List.mem_cons_self, if_true]
    rw [ih (fun x hx => h x (List.mem_cons_of_mem _ hx))]

theorem cstr_of_isStr (b : Bytes) (h : isStr b = true) : cstr b = b := by
  unfold isStr at h
  simp only [Bool.and_eq_true, List.all_eq_true, decide_eq_true_eq] at h
  unfold cstr
  exact takeWhile_all _ b (fun x hx => by simpa using h.2 x hx)

/-! ### acceptability of field lists -/

theorem okFields_append {σ : Type} (tbl : Table σ) (R : Nat) (a b : Fields) :
    okFields tbl R (a ++ b) ↔ okFields tbl R a ∧ okFields tbl R b := by
  unfold okFields
  constructor
  · intro h; exact ⟨fun f hf => h f (List.mem_append_left _ hf), fun f hf => h f (List.mem_append_right _ hf)⟩
  · rintro ⟨h1, h2⟩ f hf
    rcases List.mem_append.mp hf with h | h
    · exact h1 f h
    · exact h2 f h

theorem okFields_nil {σ : Type} (tbl : Table σ) (R : Nat) : okFields tbl R [] := by intro f hf; cases hf

theorem okFields_f1 {σ : Type} (tbl : Table σ) (R : Nat) (id : Int) (v : TVal) (h : okT tbl R id v) : okFields tbl R (f1 id v) := by
  intro f hf
  simp only [f1, List.mem_singleton] at hf
  subst hf; exact h

theorem okFields_fOpt {σ α : Type} (tbl : Table σ) (R : Nat) (id : Int) (mk : α → TVal) (o : Option α)
    (h : ∀ x, o = some x → okT tbl R id (mk x)) : okFields tbl R (fOpt id mk o) := by
  cases o with
  | none => exact okFields_nil tbl R
  | some x => exact okFields_f1 tbl R id _ (h x rfl)

theorem okFields_cons {σ : Type} {tbl : Table σ} {R : Nat} {id : Int} {v : TVal} {fs : Fields} :
    okFields tbl R ((id, v) :: fs) ↔ okT tbl R id v ∧ okFields tbl R fs :=
  List.forall_mem_cons

theorem ofFields_cons {σ : Type} (tbl : Table σ) (s : σ) (id : Int) (v : TVal) (fs : Fields) :
    ofFields tbl s ((id, v) :: fs) = ofFields tbl (stepT tbl s id v) fs := rfl

theorem map_tv_of {α β : Type} (tv : α → TVal) (conv : TVal → β) (nrm : α → β) (xs : List α)
    (h : ∀ x ∈ xs, conv (tv x) = nrm x) : (xs.map tv).map conv = xs.map nrm := by
  rw [List.map_map]
  exact List.map_congr_left (fun x hx => h x hx)

/-! ### what a table makes of a field list -/

/-- The parser described by `tbl` takes the fields `P`: they are acceptable to it (`okFields`: known ids carry values of
their entry's shape, unknown ids values nested at most `R` deep), and folding them into the loop state `s` gives `s'`.
A structure's field list `P₁ ++ … ++ Pₙ` is gone through piece by piece, each piece naming the member it sets.  The
pieces whose post-state is `set s v` with `set` taken from the table are meant for a chain that ends in `.to rfl`:
against a given post-state Lean would have to invent `set`. -/
structure Takes {σ : Type} (tbl : Table σ) (R : Nat) (s s' : σ) (P : Fields) : Prop where
  ok : okFields tbl R P
  of : ofFields tbl s P = s'

namespace Takes
variable {σ : Type} {tbl : Table σ} {R : Nat} {s s' s'' : σ}

theorem nil : Takes tbl R s s [] := ⟨okFields_nil tbl R, rfl⟩

theorem append {P Q : Fields} (h1 : Takes tbl R s s' P) (h2 : Takes tbl R s' s'' Q) : Takes tbl R s s'' (P ++ Q) :=
  ⟨(okFields_append tbl R P Q).2 ⟨h1.ok, h2.ok⟩, by rw [ofFields_append, h1.of, h2.of]⟩

theorem cons {f : Int × TVal} {Q : Fields} (h1 : Takes tbl R s s' [f]) (h2 : Takes tbl R s' s'' Q) : Takes tbl R s s'' (f :: Q) :=
  h1.append h2

theorem to {P : Fields} (h : Takes tbl R s s' P) (e : s' = s'') : Takes tbl R s s'' P := e ▸ h

theorem cons_iff {id : Int} {v : TVal} {Q : Fields} :
    Takes tbl R s s'' ((id, v) :: Q) ↔ okT tbl R id v ∧ Takes tbl R (stepT tbl s id v) s'' Q :=
  ⟨fun h => ⟨(okFields_cons.1 h.ok).1, (okFields_cons.1 h.ok).2, h.of⟩, fun h => ⟨okFields_cons.2 ⟨h.1, h.2.ok⟩, h.2.of⟩⟩

/-! Pieces whose post-state is the table's own `stepT`, or a `set` the caller gives: they elaborate against any field
list, literal ones included. -/

theorem step {id : Int} {v : TVal} (h : okT tbl R id v) : Takes tbl R s (stepT tbl s id v) [(id, v)] :=
  cons_iff.2 ⟨h, nil⟩

/-- a field the table does not know is skipped, whatever its wire type, when it nests at most `R` deep -/
theorem skip {id : Int} {v : TVal} (hl : lookupT tbl id = none) (hd : v.depth ≤ R) : Takes tbl R s s [(id, v)] :=
  (step (by unfold okT; rw [hl]; exact hd)).to (by rw [stepT, hl])

/-- a member written under `if (has_x)`; `set` says which member it is -/
theorem optOf {α : Type} {id : Int} {mk : α → TVal} {o : Option α} (set : σ → Option α → σ)
    (h : ∀ x, o = some x → Takes tbl R s (set s (some x)) [(id, mk x)]) (hn : set s none = s := by rfl) :
    Takes tbl R s (set s o) (fOpt id mk o) := by
  cases o with
  | none => exact nil.to hn.symm
  | some x => exact h x rfl

theorem opt {α : Type} {id : Int} {mk : α → TVal} {o : Option α} (set : σ → Option α → σ)
    (h : ∀ x, o = some x → okT tbl R id (mk x))
    (hs : ∀ x, o = some x → stepT tbl s id (mk x) = set s (some x) := by intros; rfl) (hn : set s none = s := by rfl) :
    Takes tbl R s (set s o) (fOpt id mk o) :=
  optOf set (fun x hx => (step (h x hx)).to (hs x hx)) hn

/-- an `i32` member written unless it is 0 -/
theorem nonzero {id : Int} {v : Int} (set : σ → Int → σ) (h : okT tbl R id (.i32 v))
    (hs : stepT tbl s id (.i32 v) = set s v := by rfl) (hn : set s 0 = s := by rfl) :
    Takes tbl R s (set s v) (fNonZero id v) := by
  unfold fNonZero
  split
  · rename_i h0; rw [h0]; exact nil.to hn.symm
  · exact (step h).to hs

/-! Pieces that look the entry of their id up (`hl`, by `rfl` on a concrete table) and take the update from it. -/

theorem one {id : Int} {v : TVal} {f : FieldSem σ} (hl : lookupT tbl id = some f) (hs : f.shape v) :
    Takes tbl R s (f.upd s v) (f1 id v) :=
  (step (by unfold okT; rw [hl]; exact hs)).to (by rw [stepT, hl])

theorem i8 {id : Int} {v : Int} {set : σ → Int → σ} (hl : lookupT tbl id = some (semI8 set)) :
    Takes tbl R s (set s v) (f1 id (.i8 v)) := one hl ⟨v, rfl⟩
theorem i16 {id : Int} {v : Int} {set : σ → Int → σ} (hl : lookupT tbl id = some (semI16 set)) :
    Takes tbl R s (set s v) (f1 id (.i16 v)) := one hl ⟨v, rfl⟩
theorem i32 {id : Int} {v : Int} {set : σ → Int → σ} (hl : lookupT tbl id = some (semI32 set)) :
    Takes tbl R s (set s v) (f1 id (.i32 v)) := one hl ⟨v, rfl⟩
theorem i64 {id : Int} {v : Int} {set : σ → Int → σ} (hl : lookupT tbl id = some (semI64 set)) :
    Takes tbl R s (set s v) (f1 id (.i64 v)) := one hl ⟨v, rfl⟩
theorem bool {id : Int} {v : Bool} {set : σ → Bool → σ} (hl : lookupT tbl id = some (semBool set)) :
    Takes tbl R s (set s v) (f1 id (.bool v)) := one hl ⟨v, rfl⟩
theorem bin {id : Int} {b : Bytes} {set : σ → Bytes → σ} (hl : lookupT tbl id = some (semBin set)) :
    Takes tbl R s (set s b) (f1 id (.binary b)) := one hl ⟨b, rfl⟩

/-- a string member comes back as the C string its bytes denote: itself when it holds no NUL -/
theorem str {id : Int} {b : Bytes} {set : σ → Option Bytes → σ} (hl : lookupT tbl id = some (semStr set)) (hb : isStr b = true) :
    Takes tbl R s (set s (some b)) (f1 id (.binary b)) :=
  (one hl ⟨b, rfl⟩).to (by show set s (some (cstr b)) = _; rw [cstr_of_isStr b hb])

/-- a struct member: its fields are acceptable to the member's parser, which makes `y` of them -/
theorem struct' {β : Type} {okf : Fields → Prop} {of : Fields → β} {set : σ → β → σ} {fs : Fields} {id : Int} {y : β}
    (hl : lookupT tbl id = some (semStruct okf of set)) (h : okf fs) (hy : of fs = y) : Takes tbl R s (set s y) (f1 id (.struct fs)) :=
  hy ▸ one hl ⟨fs, rfl, h⟩

/-- a struct member whose parser is described by `tbl'` -/
theorem struct {τ : Type} {tbl' : Table τ} {R' : Nat} {init x : τ} {fs : Fields} {id : Int} {set : σ → τ → σ}
    (hl : lookupT tbl id = some (semStruct (okFields tbl' R') (ofFields tbl' init) set)) (h : Takes tbl' R' init x fs) :
    Takes tbl R s (set s x) (f1 id (.struct fs)) := struct' hl h.ok h.of

/-- a struct member whose parser starts from a state that may depend on the enclosing one -/
theorem structS {β : Type} {okf : Fields → Prop} {of : σ → Fields → β} {set : σ → β → σ} {fs : Fields} {id : Int} {y : β}
    (hl : lookupT tbl id = some (semStructS okf of set)) (h : okf fs) (hy : of s fs = y) :
    Takes tbl R s (set s y) (f1 id (.struct fs)) :=
  hy ▸ one hl ⟨fs, rfl, h⟩

/-- a list member: the elements have the entry's element shape, there are no more than the parser allows, and `ys` is
what the entry's conversion makes of them -/
theorem list {β : Type} {id : Int} {max : Int} {shapeE : TVal → Prop} {conv : TVal → β} {set : σ → List β → σ} {et : TType}
    {xs : List TVal} {ys : List β} (hl : lookupT tbl id = some (semList max shapeE conv set)) (hmax : (xs.length : Int) ≤ max)
    (hx : ∀ x ∈ xs, shapeE x) (hc : xs.map conv = ys) : Takes tbl R s (set s ys) (f1 id (.list et xs)) :=
  hc ▸ one hl ⟨et, xs, rfl, hmax, hx⟩

/-- the values of a list of structures, each taken by `tbl'`: they have the shape a list entry over `tbl'` asks for, and
its conversion gives the `nrm` of each -/
theorem structElems {α τ : Type} {tbl' : Table τ} {R' : Nat} {init : τ} {xs : List α} {tv : α → TVal} {fields : α → Fields}
    {nrm : α → τ} (htv : ∀ x, tv x = .struct (fields x)) (hx : ∀ x ∈ xs, Takes tbl' R' init (nrm x) (fields x)) :
    (∀ v ∈ xs.map tv, isStructOf tbl' R' v) ∧ (xs.map tv).map (fun v => ofFields tbl' init (asFields v)) = xs.map nrm :=
  ⟨fun v hv => by obtain ⟨x, hx', rfl⟩ := List.mem_map.mp hv; exact ⟨_, htv x, (hx x hx').ok⟩,
   map_tv_of tv _ nrm xs fun x hx' => by rw [htv x]; exact (hx x hx').of⟩

/-- a list of structs, each taken by `tbl'` -/
theorem structs {α τ : Type} {tbl' : Table τ} {R' : Nat} {init : τ} {id : Int} {max : Int} {set : σ → List τ → σ}
    {xs : List α} {tv : α → TVal} {fields : α → Fields} {nrm : α → τ}
    (hl : lookupT tbl id = some (semList max (isStructOf tbl' R') (fun v => ofFields tbl' init (asFields v)) set))
    (htv : ∀ x, tv x = .struct (fields x)) (hmax : (xs.length : Int) ≤ max) (hx : ∀ x ∈ xs, Takes tbl' R' init (nrm x) (fields x)) :
    Takes tbl R s (set s (xs.map nrm)) (f1 id (.list .struct (xs.map tv))) :=
  list hl (by simpa using hmax) (structElems htv hx).1 (structElems htv hx).2

/-- a list of structs in a top-level struct (`topListOf`), each taken by `tbl'` -/
theorem topStructs {α ρ τ : Type} {tbl : Table (Top ρ)} {s : Top ρ} {tbl' : Table τ} {R' : Nat} {init : τ} {id : Int} {max : Int}
    {set : ρ → List τ → ρ} {xs : List α} {tv : α → TVal} {fields : α → Fields} {nrm : α → τ}
    (hl : lookupT tbl id = some (semTopList max (isStructOf tbl' R') (fun v => ofFields tbl' init (asFields v)) set))
    (htv : ∀ x, tv x = .struct (fields x)) (hmax : (xs.length : Int) ≤ max) (hx : ∀ x ∈ xs, Takes tbl' R' init (nrm x) (fields x)) :
    Takes tbl R s { s with val := set s.val (xs.map nrm) } (f1 id (.list .struct (xs.map tv))) :=
  (structElems htv hx).2 ▸ one hl ⟨.struct, xs.map tv, rfl, by simpa using hmax, (structElems htv hx).1⟩

theorem optI16 {id : Int} {o : Option Int} {set' : σ → Int → σ} (set : σ → Option Int → σ) (hl : lookupT tbl id = some (semI16 set'))
    (hu : ∀ x, set' s x = set s (some x) := by intros; rfl) (hn : set s none = s := by rfl) :
    Takes tbl R s (set s o) (fOpt id .i16 o) := optOf set (fun x _ => (i16 hl).to (hu x)) hn
theorem optI32 {id : Int} {o : Option Int} {set' : σ → Int → σ} (set : σ → Option Int → σ) (hl : lookupT tbl id = some (semI32 set'))
    (hu : ∀ x, set' s x = set s (some x) := by intros; rfl) (hn : set s none = s := by rfl) :
    Takes tbl R s (set s o) (fOpt id .i32 o) := optOf set (fun x _ => (i32 hl).to (hu x)) hn
theorem optI64 {id : Int} {o : Option Int} {set' : σ → Int → σ} (set : σ → Option Int → σ) (hl : lookupT tbl id = some (semI64 set'))
    (hu : ∀ x, set' s x = set s (some x) := by intros; rfl) (hn : set s none = s := by rfl) :
    Takes tbl R s (set s o) (fOpt id .i64 o) := optOf set (fun x _ => (i64 hl).to (hu x)) hn
theorem optStr {id : Int} {o : Option Bytes} {set' : σ → Option Bytes → σ} (set : σ → Option Bytes → σ)
    (hl : lookupT tbl id = some (semStr set')) (ho : okOpt isStr o = true)
    (hu : ∀ x, set' s (some x) = set s (some x) := by intros; rfl) (hn : set s none = s := by rfl) :
    Takes tbl R s (set s o) (fOpt id .binary o) :=
  optOf set (fun x hx => (str hl (hx ▸ ho : okOpt isStr (some x) = true)).to (hu x)) hn
theorem optStruct {α τ : Type} {tbl' : Table τ} {R' : Nat} {init : τ} {id : Int} {o : Option α} {tv : α → TVal} {fields : α → Fields}
    {nrm : α → τ} {set' : σ → τ → σ} (set : σ → Option τ → σ)
    (hl : lookupT tbl id = some (semStruct (okFields tbl' R') (ofFields tbl' init) set')) (htv : ∀ x, tv x = .struct (fields x))
    (h : ∀ x, o = some x → Takes tbl' R' init (nrm x) (fields x))
    (hu : ∀ y, set' s y = set s (some y) := by intros; rfl) (hn : set s none = s := by rfl) :
    Takes tbl R s (set s (o.map nrm)) (fOpt id tv o) := by
  cases o with
  | none => exact nil.to hn.symm
  | some x => exact show Takes tbl R s _ [(id, tv x)] from htv x ▸ (struct hl (h x rfl)).to (hu _)

/-- an `i32` member written when positive -/
theorem posI32 {id : Int} {v : Int} {set : σ → Int → σ} (hl : lookupT tbl id = some (semI32 set))
    (hn : set s 0 = s := by rfl) : Takes tbl R s (set s (if 0 < v then v else 0)) (fPos id v) := by
  unfold fPos
  split
  · exact i32 hl
  · exact nil.to hn.symm

theorem nonzeroI32 {id : Int} {v : Int} {set : σ → Int → σ} (hl : lookupT tbl id = some (semI32 set))
    (hn : set s 0 = s := by rfl) : Takes tbl R s (set s v) (fNonZero id v) :=
  nonzero set (cons_iff.1 (i32 (R := R) (s := s) hl)).1 (i32 (R := R) hl).of hn

/-- a byte-string member written when not empty -/
theorem binNE {id : Int} {b : Bytes} {set : σ → Bytes → σ} (hl : lookupT tbl id = some (semBin set))
    (hn : set s [] = s := by rfl) : Takes tbl R s (set s b) (fBinNonEmpty id b) := by
  unfold fBinNonEmpty
  cases b with
  | nil => exact nil.to hn.symm
  | cons a r => exact bin hl

end Takes

/-! ### well-formedness of field lists -/

theorem wfFields_append (a b : Fields) : wfFields (a ++ b) = (wfFields a && wfFields b) := by
  induction a with
  | nil => simp [wfFields]
  | cons f r ih => obtain ⟨id, v⟩ := f; simp [wfFields, ih, Bool.and_assoc]

theorem wfFields_f1 {id : Int} {v : TVal} (hv : v.wf = true) (h0 : -32768 ≤ id := by omega) (h1 : id ≤ 32767 := by omega) :
    wfFields (f1 id v) = true := by
  simp [f1, wfFields, inI16, h0, h1, hv]

theorem wfFields_fOpt {α : Type} {id : Int} {mk : α → TVal} {o : Option α} (h : ∀ x, o = some x → (mk x).wf = true)
    (h0 : -32768 ≤ id := by omega) (h1 : id ≤ 32767 := by omega) : wfFields (fOpt id mk o) = true := by
  cases o with
  | none => rfl
  | some x => exact wfFields_f1 (h x rfl)

theorem isI32_inI32 {v : Int} (h : isI32 v = true) : inI32 v := by simpa [isI32, inI32] using h
theorem isI64_inI64 {v : Int} (h : isI64 v = true) : inI64 v := by simpa [isI64, inI64] using h
theorem isI16_inI16 {v : Int} (h : isI16 v = true) : inI16 v := by simpa [isI16, inI16] using h
theorem isI8_inI8 {v : Int} (h : isI8 v = true) : inI8 v := by simpa [isI8, inI8] using h
theorem wf_i32 {v : Int} (h : isI32 v = true) : (TVal.i32 v).wf = true := by simpa [TVal.wf] using isI32_inI32 h
theorem wf_i64 {v : Int} (h : isI64 v = true) : (TVal.i64 v).wf = true := by simpa [TVal.wf] using isI64_inI64 h
theorem wf_i16 {v : Int} (h : isI16 v = true) : (TVal.i16 v).wf = true := by simpa [TVal.wf] using isI16_inI16 h
theorem wf_i8 {v : Int} (h : isI8 v = true) : (TVal.i8 v).wf = true := by simpa [TVal.wf] using isI8_inI8 h
theorem wf_bin {b : Bytes} (h : isBin b = true) : (TVal.binary b).wf = true := by
  simpa [TVal.wf, isBin, two_pow_31] using h
theorem isBin_of_isStr {b : Bytes} (h : isStr b = true) : isBin b = true := by
  unfold isStr at h; simp only [Bool.and_eq_true] at h; exact h.1

end Carquet.Proofs.Thrift
