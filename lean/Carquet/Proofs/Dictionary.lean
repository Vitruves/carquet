import Carquet.Spec.Dictionary
import Carquet.Impl.Dictionary
import Carquet.Proofs.DeltaBitLoop
import Carquet.Proofs.Lists
/-
Helper lemmas for the dictionary builder: the hash table is an implementation of "position of the
value in the list of distinct values so far", whatever the hash function and the (positive)
number of buckets; the list of distinct values is `Spec.Dictionary.firstOccurrences`.
-/
namespace Carquet.Proofs.Dictionary
open Carquet.Impl.Dictionary
open Carquet.Spec.Dictionary (firstOccurrences indexIn)

/-! ### first occurrences -/

section
variable {α : Type} [DecidableEq α]

theorem indexIn_append (v : α) (l₁ l₂ : List α) :
    indexIn v (l₁ ++ l₂) = if v ∈ l₁ then indexIn v l₁ else indexIn v l₂ + l₁.length := by
  induction l₁ with
  | nil => simp
  | cons a l ih =>
    simp only [List.cons_append, indexIn, ih, List.mem_cons, List.length_cons]
    by_cases ha : a = v
    · simp [ha]
    · have : ¬ v = a := fun e => ha e.symm
      simp only [ha, this, if_false, false_or]
      split <;> omega

theorem indexIn_lt_length {v : α} : ∀ {l : List α}, v ∈ l → indexIn v l < l.length
  | [], h => by simp at h
  | a :: l, h => by
    simp only [indexIn, List.length_cons]
    by_cases ha : a = v
    · simp [ha]
    · have := indexIn_lt_length (List.mem_of_ne_of_mem (Ne.symm ha) h)
      simp only [ha, if_false]; omega

theorem getElem?_indexIn {v : α} : ∀ {l : List α}, v ∈ l → l[indexIn v l]? = some v
  | [], h => by simp at h
  | a :: l, h => by
    simp only [indexIn]
    by_cases ha : a = v
    · simp [ha]
    · simp only [ha, if_false, List.getElem?_cons_succ]
      exact getElem?_indexIn (List.mem_of_ne_of_mem (Ne.symm ha) h)

theorem mem_firstOccurrences {x : α} : ∀ {vs : List α}, x ∈ firstOccurrences vs ↔ x ∈ vs
  | [] => by simp [firstOccurrences]
  | v :: vs => by
    have ih := mem_firstOccurrences (x := x) (vs := vs)
    simp only [firstOccurrences, List.mem_cons, List.mem_filter, ih, decide_eq_true_eq]
    by_cases h : x = v <;> simp [h]

theorem nodup_firstOccurrences : ∀ vs : List α, (firstOccurrences vs).Nodup
  | [] => by simp [firstOccurrences]
  | v :: vs => by
    rw [firstOccurrences, List.nodup_cons]
    refine ⟨?_, List.Pairwise.filter _ (nodup_firstOccurrences vs)⟩
    simp [List.mem_filter]

theorem firstOccurrences_snoc (v : α) : ∀ p : List α,
    firstOccurrences (p ++ [v]) = if v ∈ p then firstOccurrences p else firstOccurrences p ++ [v]
  | [] => by simp [firstOccurrences]
  | a :: p => by
    rw [List.cons_append, firstOccurrences, firstOccurrences_snoc v p]
    by_cases hp : v ∈ p
    · rw [if_pos hp, if_pos (by simp [hp])]; rfl
    · rw [if_neg hp, List.filter_append]
      by_cases ha : v = a
      · subst ha
        rw [if_pos (by simp)]
        simp [firstOccurrences]
      · rw [if_neg (by simp [hp, ha])]
        simp [firstOccurrences, ha]

/-! ### the reference builder: a left fold over the values -/

/-- State: distinct values so far (in order), assigned indices (newest first). -/
def refStep (st : List α × List Nat) (v : α) : List α × List Nat :=
  if v ∈ st.1 then (st.1, indexIn v st.1 :: st.2) else (st.1 ++ [v], st.1.length :: st.2)

/-- What the state is after the values `p`. -/
def RefInv (p : List α) (st : List α × List Nat) : Prop :=
  st.1 = firstOccurrences p ∧ st.2 = p.reverse.map (fun v => indexIn v st.1)

theorem refInv_step {p : List α} {st : List α × List Nat} (h : RefInv p st) (v : α) :
    RefInv (p ++ [v]) (refStep st v) := by
  obtain ⟨h1, h2⟩ := h
  have hmem : ∀ w, w ∈ st.1 ↔ w ∈ p := by intro w; rw [h1]; exact mem_firstOccurrences
  unfold refStep
  by_cases hv : v ∈ st.1
  · rw [if_pos hv]
    refine ⟨?_, ?_⟩
    · simp only; rw [firstOccurrences_snoc, if_pos ((hmem v).mp hv), h1]
    · simp only [List.reverse_append, List.reverse_cons, List.reverse_nil, List.nil_append,
        List.cons_append, List.map_cons]
      rw [← h2]
  · rw [if_neg hv]
    refine ⟨?_, ?_⟩
    · simp only; rw [firstOccurrences_snoc, if_neg (fun hp => hv ((hmem v).mpr hp)), h1]
    · simp only [List.reverse_append, List.reverse_cons, List.reverse_nil, List.nil_append,
        List.cons_append, List.map_cons]
      congr 1
      · rw [indexIn_append, if_neg hv]; simp [indexIn]
      · rw [h2]
        apply List.map_congr_left
        intro w hw
        have hw' : w ∈ st.1 := (hmem w).mpr (List.mem_reverse.mp hw)
        rw [indexIn_append, if_pos hw']

theorem refStep_length_le (st : List α × List Nat) (v : α) :
    (refStep st v).1.length ≤ st.1.length + 1 := by
  unfold refStep; split <;> simp

end

/-! ### the hash table implements the reference builder -/

theorem getD_modify (xs : Array (List Entry)) (k j : Nat) (f : List Entry → List Entry) :
    (xs.modify k f).getD j [] = if k = j ∧ k < xs.size then f (xs.getD j []) else xs.getD j [] := by
  rw [Array.getD_eq_getD_getElem?, Array.getD_eq_getD_getElem?, Array.getElem?_modify]
  by_cases hk : k = j
  · subst hk
    by_cases hs : k < xs.size
    · simp [hs]
    · simp [hs]
  · simp [hk]

/-- Link between the C builder state and the reference state. -/
structure Inv (hash : List UInt8 → Nat) (nb : Nat) (b : Builder) (st : List (List UInt8) × List Nat) : Prop where
  entries : b.entriesRev.reverse = st.1
  indices : b.indicesRev = st.2
  count : b.count = st.1.length
  size : b.buckets.size = nb
  chains : ∀ v, findEntry v (b.buckets.getD (hash v % nb) []) =
    if v ∈ st.1 then some { data := v, index := indexIn v st.1 } else none

theorem inv_init (hash : List UInt8 → Nat) (nb : Nat) (isVar : Bool) :
    Inv hash nb (init nb isVar) ([], []) where
  entries := rfl
  indices := rfl
  count := rfl
  size := by simp [init]
  chains := by
    intro v
    simp only [init, Array.getD_eq_getD_getElem?, Array.getElem?_replicate]
    split <;> simp [findEntry]

theorem inv_add {hash : List UInt8 → Nat} {nb : Nat} (hnb : 0 < nb) {b : Builder}
    {st : List (List UInt8) × List Nat} (h : Inv hash nb b st) (hlt : st.1.length < 2 ^ 32)
    (v : List UInt8) : Inv hash nb (add hash b v) (refStep st v) := by
  have hfind := h.chains v
  unfold add refStep
  rw [h.size, hfind]
  by_cases hv : v ∈ st.1
  · simp only [if_pos hv]
    exact { entries := h.entries, indices := by simp [h.indices], count := h.count, size := h.size,
            chains := h.chains }
  · simp only [if_neg hv]
    have hcnt : b.count % 2 ^ 32 = st.1.length := by rw [h.count]; exact Nat.mod_eq_of_lt hlt
    refine { entries := ?_, indices := ?_, count := ?_, size := ?_, chains := ?_ }
    · simp [h.entries]
    · simp [h.indices, hcnt]
    · simp [h.count]
    · simp [Array.size_modify, h.size]
    · intro w
      have hk : hash v % nb < b.buckets.size := by rw [h.size]; exact Nat.mod_lt _ hnb
      simp only [getD_modify]
      by_cases hvw : v = w
      · subst hvw
        rw [if_pos ⟨rfl, hk⟩, findEntry, if_pos rfl, if_pos (by simp), hcnt, indexIn_append, if_neg hv]
        simp [indexIn]
      · -- another value: the new entry, if it is in `w`'s chain at all, is skipped
        have hskip : findEntry w (if hash v % nb = hash w % nb ∧ hash v % nb < b.buckets.size
            then { data := v, index := b.count % 2 ^ 32 } :: b.buckets.getD (hash w % nb) []
            else b.buckets.getD (hash w % nb) []) = findEntry w (b.buckets.getD (hash w % nb) []) := by
          split
          · rw [findEntry, if_neg hvw]
          · rfl
        have hmem : (w ∈ st.1 ++ [v]) ↔ w ∈ st.1 := by
          simp only [List.mem_append, List.mem_singleton]
          exact ⟨fun e => e.elim id (fun e => absurd e.symm hvw), Or.inl⟩
        rw [hskip, h.chains w]
        by_cases hw : w ∈ st.1
        · rw [if_pos hw, if_pos (hmem.mpr hw), indexIn_append, if_pos hw]
        · rw [if_neg hw, if_neg (fun e => hw (hmem.mp e))]

theorem inv_foldl {hash : List UInt8 → Nat} {nb : Nat} (hnb : 0 < nb) (vs : List (List UInt8)) :
    ∀ (b : Builder) (st : List (List UInt8) × List Nat), Inv hash nb b st →
      st.1.length + vs.length ≤ 2 ^ 32 →
      Inv hash nb (vs.foldl (add hash) b) (vs.foldl refStep st) := by
  induction vs with
  | nil => intro b st h _; exact h
  | cons v vs ih =>
    intro b st h hl
    simp only [List.length_cons] at hl
    simp only [List.foldl_cons]
    apply ih _ _ (inv_add hnb h (by omega) v)
    have := refStep_length_le st v
    omega

theorem isVar_add (hash : List UInt8 → Nat) (b : Builder) (v : List UInt8) :
    (add hash b v).isVar = b.isVar := by
  unfold add; split <;> rfl

theorem isVar_foldl (hash : List UInt8 → Nat) (vs : List (List UInt8)) :
    ∀ b : Builder, (vs.foldl (add hash) b).isVar = b.isVar := by
  induction vs with
  | nil => intro b; rfl
  | cons v vs ih => intro b; rw [List.foldl_cons, ih, isVar_add]

/-- The buckets are irrelevant: for every hash function and every positive table size, the
builder's dictionary is the list of distinct values in order of first occurrence and the index
assigned to a value is its position in that list. -/
theorem build_spec (hash : List UInt8 → Nat) {nb : Nat} (hnb : 0 < nb) (isVar : Bool)
    (vals : List (List UInt8)) (hlen : vals.length ≤ 2 ^ 32) :
    (build hash nb isVar vals).entries = firstOccurrences vals ∧
    (build hash nb isVar vals).indices = vals.map (fun v => indexIn v (firstOccurrences vals)) ∧
    (build hash nb isVar vals).count = (firstOccurrences vals).length ∧
    (build hash nb isVar vals).isVar = isVar := by
  have h := inv_foldl hnb vals (init nb isVar) ([], []) (inv_init hash nb isVar) (by simpa using hlen)
  obtain ⟨h1, h2⟩ := Lists.foldl_inv (I := fun st p => RefInv p st) id (fun _ _ v h => refInv_step h v) vals ([], []) []
    ⟨rfl, rfl⟩
  rw [List.nil_append, List.map_id] at h1 h2
  refine ⟨?_, ?_, ?_, ?_⟩
  · unfold Builder.entries build; rw [h.entries, h1]
  · unfold Builder.indices build; rw [h.indices, h2, ← List.map_reverse, List.reverse_reverse, h1]
  · unfold build; rw [h.count, h1]
  · unfold build; rw [isVar_foldl]; rfl

/-! ### bit width -/

theorem bitWidth_spec (n : Nat) (h1 : 1 ≤ n) (h2 : n < 2 ^ 32) :
    1 ≤ bitWidthForCount n ∧ bitWidthForCount n ≤ 32 ∧ n ≤ 2 ^ bitWidthForCount n ∧
    bitWidthForCount n = max 1 (Spec.Dictionary.bitsFor n) := by
  have hloop : widthLoop 32 (n - 1) 0 = if n - 1 = 0 then 0 else (n - 1).log2 + 1 := by
    rw [bitLoop_eq widthLoop (fun _ _ => rfl) (fun _ _ _ => rfl) 32 (n - 1) 0 (by omega), Nat.zero_add]
  unfold bitWidthForCount Spec.Dictionary.bitsFor
  rw [Nat.mod_eq_of_lt h2, if_neg (by omega), hloop]
  by_cases h : n - 1 = 0
  · have hn : n = 1 := by omega
    subst hn; decide
  · have hlog : (n - 1).log2 < 32 := (Nat.log2_lt h).mpr (by omega)
    have hlt := @Nat.lt_log2_self (n - 1)
    rw [if_neg h, if_pos (by omega), if_neg (by omega)]
    exact ⟨by omega, by omega, by omega, by omega⟩

/-! ### looking values up in the dictionary page -/

theorem flatten_length_of_all {sz : Nat} : ∀ (es : List (List UInt8)), (∀ e ∈ es, e.length = sz) →
    es.flatten.length = es.length * sz
  | [], _ => by simp
  | e :: es, h => by
    rw [List.flatten_cons, List.length_append, h e (by simp),
      flatten_length_of_all es (fun x hx => h x (by simp [hx])), List.length_cons, Nat.succ_mul]
    omega

theorem readAt_flatten {sz : Nat} : ∀ (es : List (List UInt8)), (∀ e ∈ es, e.length = sz) →
    ∀ (i : Nat) (v : List UInt8), es[i]? = some v → readAt es.flatten (i * sz) sz = some v
  | [], _, i, v, hv => by simp at hv
  | e :: es, h, 0, v, hv => by
    have he : e.length = sz := h e (by simp)
    simp only [List.getElem?_cons_zero, Option.some.injEq] at hv
    subst hv
    unfold readAt
    rw [if_pos (by rw [List.flatten_cons, List.length_append, he]; omega)]
    simp only [Nat.zero_mul, List.drop_zero, List.flatten_cons]
    rw [List.take_left' he]
  | e :: es, h, i + 1, v, hv => by
    have he : e.length = sz := h e (by simp)
    simp only [List.getElem?_cons_succ] at hv
    have ih := readAt_flatten es (fun x hx => h x (by simp [hx])) i v hv
    unfold readAt at ih ⊢
    have hidx : (i + 1) * sz = e.length + i * sz := by rw [Nat.succ_mul, he]; omega
    by_cases hc : i * sz + sz ≤ es.flatten.length
    · rw [if_pos hc] at ih
      rw [if_pos (by rw [List.flatten_cons, List.length_append, hidx]; omega), List.flatten_cons, hidx,
        List.drop_append, List.drop_eq_nil_of_le (Nat.le_add_right _ _), Nat.add_sub_cancel_left,
        List.nil_append]
      exact ih
    · rw [if_neg hc] at ih; cases ih

theorem lookupLoop_decode {sz : Nat} (es : List (List UInt8)) (hsz : ∀ e ∈ es, e.length = sz) :
    ∀ (idxs : List Nat) (vals : List (List UInt8)), Spec.Dictionary.decode es idxs = some vals →
      lookupLoop sz es.flatten (es.length : Int) idxs = .ok vals
  | [], vals, h => by
    simp only [Spec.Dictionary.decode, Option.some.injEq] at h
    subst h; rfl
  | i :: is, vals, h => by
    simp only [Spec.Dictionary.decode] at h
    cases hi : es[i]? with
    | none => rw [hi] at h; simp at h
    | some v =>
      cases hr : Spec.Dictionary.decode es is with
      | none => rw [hi, hr] at h; simp at h
      | some vs =>
        rw [hi, hr] at h
        simp only [Option.some.injEq] at h
        subst h
        have hlt : i < es.length := by
          apply Classical.byContradiction
          intro hn
          rw [List.getElem?_eq_none (by omega)] at hi
          cases hi
        rw [lookupLoop, if_neg (by omega), readAt_flatten es hsz i v hi, lookupLoop_decode es hsz is vs hr]

theorem decode_indexIn {α : Type} [DecidableEq α] (d : List α) : ∀ vs : List α, (∀ v ∈ vs, v ∈ d) →
    Spec.Dictionary.decode d (vs.map (fun v => indexIn v d)) = some vs
  | [], _ => rfl
  | v :: vs, h => by
    simp only [List.map_cons, Spec.Dictionary.decode]
    rw [getElem?_indexIn (h v (by simp)), decode_indexIn d vs (fun w hw => h w (by simp [hw]))]

/-! ### the repaired look-up loop stays inside the dictionary -/

theorem lookupLoop_no_oob (sz : Nat) (dict : List UInt8) (dictCount : Int)
    (hd : dictCount.toNat * sz ≤ dict.length) : ∀ (idxs : List Nat) (off : Nat),
    lookupLoop sz dict dictCount idxs ≠ .oob off
  | [], off => by simp [lookupLoop]
  | i :: is, off => by
    rw [lookupLoop]
    by_cases hc : (i : Int) ≥ dictCount
    · rw [if_pos hc]; simp
    · rw [if_neg hc]
      have hi : i + 1 ≤ dictCount.toNat := by omega
      have : i * sz + sz ≤ dict.length := by
        calc i * sz + sz = (i + 1) * sz := by rw [Nat.succ_mul]
          _ ≤ dictCount.toNat * sz := Nat.mul_le_mul_right sz hi
          _ ≤ dict.length := hd
      simp only [readAt, if_pos this]
      have ih := lookupLoop_no_oob sz dict dictCount hd is off
      cases hr : lookupLoop sz dict dictCount is with
      | ok vs => simp
      | error => simp
      | oob o => rw [hr] at ih; simp only [ne_eq, Res.oob.injEq] at ih ⊢; exact ih

theorem map_ne_oob {α β : Type} (f : List α → List β) {r : Res α} {off : Nat} (h : r ≠ .oob off) :
    r.map f ≠ .oob off := by
  cases r with
  | ok v => simp [Res.map]
  | error => simp [Res.map]
  | oob o => simpa [Res.map] using h

/-! ### encode then decode, for any index codec that round-trips -/

theorem firstOccurrences_length_le {α : Type} [DecidableEq α] : ∀ vs : List α,
    (firstOccurrences vs).length ≤ vs.length
  | [] => Nat.le_refl _
  | v :: vs => by
    have := firstOccurrences_length_le vs
    have hf := List.length_filter_le (fun x => decide (x ≠ v)) (firstOccurrences vs)
    simp only [firstOccurrences, List.length_cons]
    omega

theorem firstOccurrences_map {α β : Type} [DecidableEq α] [DecidableEq β] (f : α → β)
    (hf : ∀ a b, f a = f b → a = b) : ∀ vs : List α,
    firstOccurrences (vs.map f) = (firstOccurrences vs).map f
  | [] => rfl
  | v :: vs => by
    simp only [List.map_cons, firstOccurrences, firstOccurrences_map f hf vs, List.filter_map]
    congr 2
    apply List.filter_congr
    intro x _
    simp only [Function.comp, ne_eq, decide_not, Bool.not_eq_eq_eq_not, Bool.not_not, decide_eq_decide]
    exact ⟨fun e => hf _ _ e, fun e => by rw [e]⟩

theorem dictBytes_fixed (b : Builder) (h : b.isVar = false) : b.dictBytes = b.entries.flatten := by
  unfold Builder.dictBytes record
  rw [h, List.flatMap_def]
  congr 1
  simp

theorem decodeFixed_encode (sz : Nat) (hsz0 : 0 < sz) (hash : List UInt8 → Nat) {nb : Nat} (hnb : 0 < nb)
    (idxEnc : Nat → List Nat → List UInt8) (idxDec : Nat → List UInt8 → Nat → Option (List Nat))
    (hcodec : ∀ w idxs, 1 ≤ w → w ≤ 32 → (∀ i ∈ idxs, i < 2 ^ w) →
      idxDec w (idxEnc w idxs) idxs.length = some idxs)
    (vals : List (List UInt8)) (hsz : ∀ v ∈ vals, v.length = sz) (hlen : vals.length < 2 ^ 31) :
    decodeFixed sz idxDec (finish idxEnc (build hash nb false vals)).dictPage
      (((finish idxEnc (build hash nb false vals)).dictPage.length / sz : Nat) : Int)
      (finish idxEnc (build hash nb false vals)).indexStream (vals.length : Int) = .ok vals := by
  obtain ⟨he, hi, hc, hv⟩ := build_spec hash hnb false vals (by omega)
  generalize build hash nb false vals = b at he hi hc hv ⊢
  have hesz : ∀ e ∈ b.entries, e.length = sz := fun e hm => hsz e (mem_firstOccurrences.mp (he ▸ hm))
  have hmem : ∀ v ∈ vals, v ∈ b.entries := fun v hv => he ▸ mem_firstOccurrences.mpr hv
  have hpage : (finish idxEnc b).dictPage = b.entries.flatten := dictBytes_fixed b hv
  rw [hpage, flatten_length_of_all _ hesz, Nat.mul_div_cancel _ hsz0]
  by_cases hnil : vals = []
  · subst hnil; simp [decodeFixed, decodeWith]
  · have hpos : 0 < vals.length := List.length_pos_iff.mpr hnil
    have hepos : 0 < b.entries.length := by
      obtain ⟨v, hv⟩ := List.exists_mem_of_ne_nil vals hnil
      exact List.length_pos_of_mem (hmem v hv)
    have hele : b.entries.length ≤ vals.length := by rw [he]; exact firstOccurrences_length_le vals
    have hcnt : b.count = b.entries.length := by rw [hc, he]
    obtain ⟨hw1, hw32, hwn, _⟩ := bitWidth_spec b.count (by omega) (by omega)
    have hdec : Spec.Dictionary.decode b.entries b.indices = some vals := by
      rw [hi, ← he]; exact decode_indexIn _ vals hmem
    have hidx : ∀ i ∈ b.indices, i < 2 ^ bitWidthForCount b.count := by
      intro i hm
      rw [hi, ← he] at hm
      obtain ⟨v, hv, rfl⟩ := List.mem_map.mp hm
      have := indexIn_lt_length (hmem v hv)
      omega
    have hilen : b.indices.length = vals.length := by rw [hi, List.length_map]
    have hcod := hcodec _ _ hw1 hw32 hidx
    rw [hilen] at hcod
    have hbw : (UInt8.ofNat (bitWidthForCount b.count)).toNat = bitWidthForCount b.count := by
      rw [UInt8.toNat_ofNat']; omega
    simp only [decodeFixed, decodeWith, finish, Int.toNat_natCast, hbw, hcod]
    rw [if_neg (by omega), if_neg (by omega),
      if_neg (by rw [flatten_length_of_all _ hesz]; omega), if_neg (by omega)]
    exact lookupLoop_decode _ hesz _ _ hdec

end Carquet.Proofs.Dictionary
