import Carquet.Proofs.ImplReadsDefs
import Carquet.Proofs.SpecFileChunkFull
import Carquet.Proofs.ReaderPageRoundtrip
import Carquet.Proofs.RleLevelsF58
import Carquet.Proofs.RleSpecEncoder
import Carquet.Proofs.RleDecoder
/-
C06, implementation half — stage "values": `carquet_read_data_page_v1` (levels by the repaired fast
path `carquet_rle_decode_levels`: `levelBlock_written`, an instance of
`ReaderPageRoundtrip.levelBlock_stream`; PLAIN by the Impl decoders, dictionary indices by
`carquet_rle_decode_all` + gather) on the body of a v1 data page of the reference writer, and
`carquet_read_dictionary_page` on its PLAIN dictionary page.
-/
namespace Carquet.Proofs.ImplReads
open Carquet.Spec Carquet.Spec.File
open Carquet.Impl
open Carquet.Impl.Reader hiding Bytes
open Carquet.Proofs.SpecFile (validValue_length wellFormed_parts)


/-! ### little-endian lengths -/

theorem file_leBytes_eq (k n : Nat) : File.leBytes k n = Bitpack.leBytes k n := SpecFile.leBytes_eq k n

theorem le32_leBytes (n : Nat) (h : n < 2 ^ 32) (rest : Bytes) : le32 (Bitpack.leBytes 4 n ++ rest) = n := by
  unfold le32
  rw [List.take_left' (Carquet.Proofs.NatBits.leBytes_length 4 n), Carquet.Proofs.NatBits.leNat_leBytes]
  exact Nat.mod_eq_of_lt h

/-! ### the BYTE_ARRAY dictionary page -/

theorem encodeByteArray_cons (v : Bytes) (vs : List Bytes) :
    Spec.Plain.encodeByteArray (v :: vs) = Bitpack.leBytes 4 v.length ++ (v ++ Spec.Plain.encodeByteArray vs) := by
  simp [Spec.Plain.encodeByteArray, Carquet.Proofs.Plain.leBytes_eq, List.append_assoc]

theorem dictScan_encode : ∀ (vs : List Bytes), (∀ v ∈ vs, v.length < 2 ^ 32) → ∀ (pre extra : Bytes),
    dictScan (pre ++ (Spec.Plain.encodeByteArray vs ++ extra)) vs.length pre.length = some (dictOffsets pre.length vs) ∧
    ∀ (i : Nat) (v : Bytes), vs[i]? = some v →
      ∃ off, (dictOffsets pre.length vs)[i]? = some off ∧
        slice (pre ++ (Spec.Plain.encodeByteArray vs ++ extra)) (off + 4)
          (le32 ((pre ++ (Spec.Plain.encodeByteArray vs ++ extra)).drop off)) = v := by
  intro vs
  induction vs with
  | nil => intro _ pre extra; exact ⟨rfl, fun i v h => by simp at h⟩
  | cons w vs ih =>
    intro hv pre extra
    have hlen : w.length < 2 ^ 32 := hv w (by simp)
    obtain ⟨ih1, ih2⟩ := ih (fun x hx => hv x (by simp [hx])) (pre ++ (Bitpack.leBytes 4 w.length ++ w)) extra
    have hin : pre ++ (Spec.Plain.encodeByteArray (w :: vs) ++ extra)
        = (pre ++ (Bitpack.leBytes 4 w.length ++ w)) ++ (Spec.Plain.encodeByteArray vs ++ extra) := by
      rw [encodeByteArray_cons]; simp [List.append_assoc]
    have hdrop : List.drop pre.length (pre ++ (Spec.Plain.encodeByteArray (w :: vs) ++ extra))
        = Bitpack.leBytes 4 w.length ++ (w ++ (Spec.Plain.encodeByteArray vs ++ extra)) := by
      rw [List.drop_left, encodeByteArray_cons]; simp [List.append_assoc]
    have htot : (pre ++ (Spec.Plain.encodeByteArray (w :: vs) ++ extra)).length
        = pre.length + (4 + w.length) + (Spec.Plain.encodeByteArray vs).length + extra.length := by
      rw [encodeByteArray_cons]
      simp only [List.length_append, Carquet.Proofs.NatBits.leBytes_length]; omega
    have hpl : (pre ++ (Bitpack.leBytes 4 w.length ++ w)).length = pre.length + 4 + w.length := by
      simp only [List.length_append, Carquet.Proofs.NatBits.leBytes_length]; omega
    refine ⟨?_, fun i v h => ?_⟩
    · rw [List.length_cons, dictScan, hdrop, le32_leBytes _ hlen, htot, if_neg (by omega), if_neg (by omega)]
      rw [hin, ← hpl, ih1, hpl]
      rfl
    · cases i with
      | zero =>
        simp only [List.getElem?_cons_zero, Option.some.injEq] at h
        subst h
        refine ⟨pre.length, by simp [dictOffsets], ?_⟩
        rw [hdrop, le32_leBytes _ hlen]
        unfold slice
        rw [← List.drop_drop, hdrop, List.drop_left' (Carquet.Proofs.NatBits.leBytes_length 4 _), List.take_left]
      | succ i =>
        simp only [List.getElem?_cons_succ] at h
        obtain ⟨off, ho, hs⟩ := ih2 i v h
        refine ⟨off, ?_, by rw [hin]; exact hs⟩
        simp only [dictOffsets, List.getElem?_cons_succ]
        rw [← hpl]; exact ho

/-! ### the fixed-width physical types -/

theorem fixed_leaf (leaf : LeafInfo) (hflba : leaf.ptype = .flba → 0 < leaf.typeLength)
    (hb : leaf.ptype ≠ .boolean) (ha : leaf.ptype ≠ .byteArray) :
    ((ptypeCode leaf.ptype : Nat) : Int) ≠ 6 ∧ fixedWidth ((ptypeCode leaf.ptype : Nat) : Int) = true ∧
    dictValueSize ((ptypeCode leaf.ptype : Nat) : Int) (leaf.typeLength : Int) =
      valueSize ((ptypeCode leaf.ptype : Nat) : Int) (leaf.typeLength : Int) ∧
    valueSize ((ptypeCode leaf.ptype : Nat) : Int) (leaf.typeLength : Int) ≠ 0 ∧
    (((ptypeCode leaf.ptype : Nat) : Int) = 7 → 0 < (leaf.typeLength : Int)) ∧
    (∀ vs, plainEncode leaf vs = vs.flatten) ∧
    ∀ v, validValue leaf v = true → v.length = valueSize ((ptypeCode leaf.ptype : Nat) : Int) (leaf.typeLength : Int) := by
  have hl := fun v (hv : validValue leaf v = true) => validValue_length hv
  cases hp : leaf.ptype
  case boolean => exact absurd hp hb
  case byteArray => exact absurd hp ha
  case flba =>
    have := hflba hp
    exact ⟨by decide, by decide, rfl, by simp [valueSize, ptypeCode]; omega, fun _ => by omega,
      fun vs => by simp only [plainEncode, hp, Spec.Plain.encodeFlba],
      fun v hv => by simpa [valueSize, ptypeCode] using (hl v hv).2.2.2.2.2.1 hp⟩
  all_goals
    refine ⟨by decide, by decide, rfl, by simp [valueSize, ptypeCode], fun h => absurd h (by decide),
      fun vs => by simp only [plainEncode, hp, Spec.Plain.encodeFlba], fun v hv => ?_⟩
    obtain ⟨h1, h2, h3, h4, h5, _⟩ := hl v hv
    first | exact h1 hp | exact h2 hp | exact h3 hp | exact h4 hp | exact h5 hp

/-! ### the dictionary page -/

/-- **the dictionary page**: the PLAIN page of `values` is loaded as `dictOf leaf values` -/
theorem readDictionaryPage_written (leaf : LeafInfo) (cm : ThriftParquet.ColumnMetaData) (values : List Bytes)
    (hvalid : ∀ v ∈ values, validValue leaf v = true) (hnb : leaf.ptype ≠ .boolean)
    (hflba : leaf.ptype = .flba → 0 < leaf.typeLength) :
    (readDictionaryPage Fixes.all (colOfLeaf leaf cm) (plainEncode leaf values) (values.length : Int)).1 =
      .ok (dictOf leaf values) := by
  unfold colOfLeaf dictOf readDictionaryPage
  by_cases ha : leaf.ptype = .byteArray
  · have hs := dictScan_encode values
      (fun v hm => Nat.lt_trans ((validValue_length (hvalid v hm)).2.2.2.2.2.2.1 ha) (by decide)) [] []
    simp only [List.nil_append, List.append_nil, List.length_nil] at hs
    simp only [ha, plainEncode, ptypeCode, show ((6 : Nat) : Int) = 6 from rfl, if_true, Int.toNat_natCast, hs]
  · obtain ⟨h6, hfw, hk, _, _, hpe, hvl⟩ := fixed_leaf leaf hflba hnb ha
    have hlen := Carquet.Proofs.Dictionary.flatten_length_of_all values (fun v hm => hvl v (hvalid v hm))
    simp only [if_neg ha, hpe, h6, if_false, hfw, not_true_eq_false, hk, Int.toNat_natCast]
    rw [if_neg (by rw [hlen, Nat.mul_comm]; omega), List.take_of_length_le (by rw [hlen, Nat.mul_comm]; omega)]

/-! ### levels -/

theorem levelBlock_written (maxLevel : Nat) (runs : List RleHybrid.Choice) (ls : List Nat) (bs rest : Bytes)
    (h0 : maxLevel ≠ 0) (hmax : maxLevel < 32768)
    (hb : levelBytes maxLevel runs ls = some bs) (hle : ∀ l ∈ ls, l ≤ maxLevel) (hlen : bs.length < 2 ^ 32) :
    levelBlock Fixes.all maxLevel ls.length (prefixed bs ++ rest) = .ok (ls, rest) := by
  simp only [levelBytes, h0, if_false] at hb
  have := Carquet.Proofs.ReaderPageRoundtrip.levelBlock_stream Fixes.all maxLevel hmax ls bs rest
    (Carquet.Proofs.RleSpecEncoder.encodeWith_sound _ _ _ _ hb) hle hlen
  rwa [Carquet.Proofs.ReaderPageRoundtrip.le32_eq_leBytes, ← file_leBytes_eq, ← List.append_assoc] at this

/-- `rep_levels` / `def_levels` of a page body: the level block when there are levels to store, else `n`
copies of the only level there is (`z`: 0 for both, written `max_def_level` by the reader for the latter) -/
theorem levels_written (m z : Nat) (hz : m = 0 → z = 0) (runs : List RleHybrid.Choice) (ls : List Nat) (bs rest : Bytes)
    (hmax : m < 32768) (hb : levelBytes m runs ls = some bs) (hle : ∀ l ∈ ls, l ≤ m) (hlen : m ≠ 0 → bs.length < 2 ^ 32) :
    (if m > 0 then levelBlock Fixes.all m ls.length ((if m = 0 then [] else prefixed bs) ++ rest)
      else .ok (List.replicate ls.length z, (if m = 0 then [] else prefixed bs) ++ rest)) = .ok (ls, rest) := by
  by_cases h0 : m = 0
  · have hzero := Carquet.Proofs.SpecFile.all_zero_of_le_zero ls (fun l hl => by have := hle l hl; omega)
    simp only [h0, Nat.lt_irrefl, if_false, if_true, List.nil_append, hz h0]
    rw [← hzero]
  · simp only [h0, if_false, Nat.pos_of_ne_zero h0, if_true, levelBlock_written m runs ls bs rest h0 hmax hb hle (hlen h0)]

/-- `non_null_count` of `carquet_read_data_page_v1` is the Spec reader's count of the levels equal to `max_def_level`,
as long as no level exceeds it (with `max_def_level = 0` the code takes the number of levels instead of counting) -/
theorem nonNullCount_eq_spec (c : Col) (defs : List Nat) (h : ∀ d ∈ defs, d ≤ c.maxDef) :
    Reader.nonNullCount c defs = Spec.File.nonNullCount c.maxDef defs := by
  unfold Reader.nonNullCount Spec.File.nonNullCount
  rw [← List.countP_eq_length_filter]
  split
  · rfl
  · rw [List.countP_eq_length.mpr fun d hd => by have := h d hd; simp; omega]

theorem nonNullCount_written (leaf : LeafInfo) (cm : ThriftParquet.ColumnMetaData) (es : List Entry)
    (hwf : ∀ e ∈ es, wellFormedEntry leaf e = true) :
    Reader.nonNullCount (colOfLeaf leaf cm) (es.map (·.dl)) = (es.filterMap (·.val)).length :=
  (nonNullCount_eq_spec _ _ (wellFormed_parts hwf).2.1).trans (Carquet.Proofs.SpecFile.nonNullCount_written leaf es hwf)

/-! ### PLAIN values -/

theorem plainValues_written (leaf : LeafInfo) (vs : List Bytes) (hv : ∀ v ∈ vs, validValue leaf v = true)
    (hflba : leaf.ptype = .flba → 0 < leaf.typeLength) (hsz : (plainEncode leaf vs).length < 2 ^ 64) :
    plainValues ((ptypeCode leaf.ptype : Nat) : Int) (leaf.typeLength : Int) (plainEncode leaf vs) vs.length = .ok vs := by
  have hvl := fun v hm => validValue_length (hv v hm)
  by_cases hp : leaf.ptype = .boolean
  · simp only [plainEncode, hp, ptypeCode]
    have hb : ∀ v ∈ vs, v = [0] ∨ v = [1] := fun v hm => (hvl v hm).2.2.2.2.2.2.2 hp
    have hrt := (Carquet.Properties.C11.C11_plain_boolean_roundtrip (vs.map (fun v => v.headD 0)) []).1
    rw [List.append_nil, List.length_map] at hrt
    have henc : Impl.Plain.encodeBoolean (vs.map (fun v => v.headD 0)) = Spec.Plain.encodeBool (vs.map (fun v => v == [1])) := by
      rw [Impl.Plain.encodeBoolean, Carquet.Proofs.Plain.packBools_eq_spec, List.map_map]
      congr 1
      apply List.map_congr_left
      intro v hm
      rcases hb v hm with rfl | rfl <;> rfl
    rw [henc] at hrt
    simp only [Reader.plainValues, Int.natCast_zero, if_true, hrt, plainRes]
    congr 1
    rw [List.map_map, List.map_map]
    refine (List.map_congr_left fun v hm => ?_).trans (List.map_id vs)
    rcases hb v hm with rfl | rfl <;> rfl
  by_cases ha : leaf.ptype = .byteArray
  · simp only [plainEncode, ha, ptypeCode]
    have h31 : ∀ v ∈ vs, v.length < 2 ^ 31 := fun v hm => (hvl v hm).2.2.2.2.2.2.1 ha
    obtain ⟨slices, hd, hs⟩ := Carquet.Properties.C11.C11_plain_byte_array_roundtrip vs [] h31
    rw [List.append_nil] at hd hs
    rw [Carquet.Proofs.Plain.encodeByteArray_eq_spec vs (fun v hm => Nat.lt_trans (h31 v hm) (by decide))] at hd hs
    have e6 : ((6 : Nat) : Int) = 6 := rfl
    simp only [Reader.plainValues, e6, Int.reduceEq, ↓reduceIte, hd, plainRes, hs]
  obtain ⟨_, hfw, _, _, h7, hpe, hlen⟩ := fixed_leaf leaf hflba hp ha
  rw [hpe] at hsz ⊢
  exact Carquet.Proofs.ReaderPageRoundtrip.fixed_roundtrip _ _ _ vs rfl hfw h7 (fun v hm => hlen v (hv v hm)) hsz

/-! ### dictionary-encoded values -/

theorem gatherBytes_written (d : List Bytes) (hd : ∀ v ∈ d, v.length < 2 ^ 32) (hlen : d.length < 2 ^ 31) :
    ∀ (vals : List Bytes), (∀ v ∈ vals, v ∈ d) →
    gatherBytes ⟨Spec.Plain.encodeByteArray d, (d.length : Int), dictOffsets 0 d⟩
      (vals.map (fun v => Spec.Dictionary.indexIn v d)) = .ok vals := by
  intro vals
  induction vals with
  | nil => intro _; rfl
  | cons v r ih =>
    intro h
    have hm : v ∈ d := h v (by simp)
    have hi := Carquet.Proofs.SpecFile.getElem?_indexIn v d hm
    have hlt := (List.getElem?_eq_some_iff.mp hi).1
    obtain ⟨off, ho, hs⟩ := (dictScan_encode d hd [] []).2 _ v hi
    simp only [List.nil_append, List.append_nil, List.length_nil] at ho hs
    have has : Impl.Dictionary.asInt32 (Spec.Dictionary.indexIn v d) = (Spec.Dictionary.indexIn v d : Int) := by
      unfold Impl.Dictionary.asInt32; rw [if_pos (by omega)]
    simp only [List.map_cons, gatherBytes, has, ho, hs, ih (fun x hx => h x (by simp [hx]))]
    rw [if_neg (by omega)]

theorem gatherFixed_written (k : Nat) (d : List Bytes) (hd : ∀ v ∈ d, v.length = k) (hlen : d.length < 2 ^ 31)
    (vals : List Bytes) (h : ∀ v ∈ vals, v ∈ d) :
    gatherFixed k ⟨d.flatten, (d.length : Int), []⟩ (vals.map (fun v => Spec.Dictionary.indexIn v d)) = .ok vals := by
  have hlt : ∀ v ∈ vals, Spec.Dictionary.indexIn v d < d.length := fun v hm =>
    (List.getElem?_eq_some_iff.mp (Carquet.Proofs.SpecFile.getElem?_indexIn v d (h v hm))).1
  unfold gatherFixed
  have hany : (vals.map (fun v => Spec.Dictionary.indexIn v d)).any
      (fun i => decide ((i : Int) ≥ ((d.length : Int) % 4294967296))) = false := by
    rw [List.any_eq_false]
    intro i hi
    obtain ⟨v, hm, rfl⟩ := List.mem_map.mp hi
    have := hlt v hm
    simp only [decide_eq_true_eq]
    omega
  simp only [hany, Bool.false_eq_true, if_false]
  congr 1
  rw [List.map_map]
  refine (List.map_congr_left fun v hm => ?_).trans (List.map_id vals)
  have hi := Carquet.Proofs.SpecFile.getElem?_indexIn v d (h v hm)
  have hr := Carquet.Proofs.Dictionary.readAt_flatten d hd _ v hi
  unfold Impl.Dictionary.readAt at hr
  split at hr
  · simp only [Option.some.injEq] at hr
    simp only [Function.comp, slice, id]
    exact hr
  · cases hr

theorem dictValues_written (leaf : LeafInfo) (cm : ThriftParquet.ColumnMetaData) (d : List Bytes)
    (tag w : Nat) (runs : List RleHybrid.Choice) (vals : List Bytes) (valB : Bytes)
    (hv : valueBytes leaf (some d) (.dict tag w runs) vals = some valB)
    (hdv : ∀ v ∈ d, validValue leaf v = true) (hnb : leaf.ptype ≠ .boolean)
    (hflba : leaf.ptype = .flba → 0 < leaf.typeLength) (hdl : d.length < 2 ^ 31) :
    dictValues Fixes.all (colOfLeaf leaf cm) (some (dictOf leaf d)) valB vals.length = .ok vals := by
  simp only [valueBytes] at hv
  split at hv
  · cases hv
  · rename_i hcond
    have hw : w ≤ 32 := by omega
    have hall : ∀ v ∈ vals, v ∈ d := by
      intro v hm
      have : vals.all (fun v => d.contains v) = true := by
        apply Classical.byContradiction; intro hn; exact hcond (Or.inr hn)
      rw [List.all_eq_true] at this
      simpa using this v hm
    cases he : RleHybrid.encodeWith w runs (vals.map (fun v => Spec.Dictionary.indexIn v d)) with
    | none => simp [he] at hv
    | some bs =>
      simp only [he, Option.some.injEq] at hv
      subst hv
      obtain ⟨pad, hruns⟩ := Carquet.Proofs.RleSpecEncoder.encodeWith_sound _ _ _ _ he
      have hdec : Rle.decodeAll w bs vals.length = vals.map (fun v => Spec.Dictionary.indexIn v d) := by
        rw [Carquet.Proofs.RleDecoder.decodeAll_eq w hw, Carquet.Proofs.RleGrammar.allValues_of_runs hw hruns]
        have hlen : (vals.map (fun v => Spec.Dictionary.indexIn v d)).length = vals.length := by simp
        rw [← hlen, List.take_left]
      unfold colOfLeaf dictOf dictValues
      simp only [Carquet.Proofs.SpecFile.uint8_ofNat_toNat_le32 w hw, show ¬ (w > 32) by omega, if_false, hdec,
        List.length_map, ne_eq, not_true_eq_false]
      by_cases ha : leaf.ptype = .byteArray
      · simp only [ha, ptypeCode, show ((6 : Nat) : Int) = 6 from rfl, if_true, plainEncode]
        exact gatherBytes_written d
          (fun v hm => Nat.lt_trans ((validValue_length (hdv v hm)).2.2.2.2.2.2.1 ha) (by decide)) hdl vals hall
      · obtain ⟨h6, hfw, hk, hk0, _, hpe, hvl⟩ := fixed_leaf leaf hflba hnb ha
        simp only [if_neg ha, hpe, h6, hk, hk0, hfw, if_false, or_self, not_true_eq_false]
        exact gatherFixed_written _ d (fun v hm => hvl v (hdv v hm)) hdl vals hall

/-- **one data page body**: levels in any run plan, PLAIN or dictionary-encoded values (either tag, any
index run plan, width ≤ 32) come back as the entries' levels and dense values -/
theorem readDataPageV1_written (leaf : LeafInfo) (cm : ThriftParquet.ColumnMetaData) (dict : Option (List Bytes))
    (enc : ValueEnc) (es : List Entry) (repRuns defRuns : List RleHybrid.Choice) (repB defB valB : Bytes)
    (hr : levelBytes leaf.maxRep repRuns (es.map (·.rep)) = some repB)
    (hd : levelBytes leaf.maxDef defRuns (es.map (·.dl)) = some defB)
    (hv : valueBytes leaf dict enc (es.filterMap (·.val)) = some valB)
    (henc : valuesOk enc = true)
    (hwf : ∀ e ∈ es, wellFormedEntry leaf e = true)
    (hdictv : ∀ d, dict = some d → ∀ v ∈ d, validValue leaf v = true)
    (hnb : ∀ tag w runs, enc = .dict tag w runs → leaf.ptype ≠ .boolean)
    (hflba : leaf.ptype = .flba → 0 < leaf.typeLength)
    (hlev : leaf.maxDef < 32768 ∧ leaf.maxRep < 32768)
    (hsz : (v1Body leaf .v1 es repB defB valB).length < 2 ^ 31)
    (hdsz : ∀ d, dict = some d → (plainEncode leaf d).length < 2 ^ 31 ∧ d.length < 2 ^ 31) :
    readDataPageV1 Fixes.all (colOfLeaf leaf cm) (dict.map (dictOf leaf)) (v1Body leaf .v1 es repB defB valB) es.length
      (valueEncTag enc) = .ok (decodedOfEntries es) := by
  have hbody : v1Body leaf .v1 es repB defB valB =
      (if leaf.maxRep = 0 then [] else prefixed repB) ++ ((if leaf.maxDef = 0 then [] else prefixed defB) ++ valB) := by
    simp [v1Body, List.append_assoc]
  rw [hbody] at hsz ⊢
  have hpl : ∀ bs : Bytes, (prefixed bs).length = 4 + bs.length := by
    intro bs; unfold prefixed; rw [List.length_append, Carquet.Proofs.SpecFile.leBytes_length]
  have hrl : leaf.maxRep ≠ 0 → repB.length < 2 ^ 32 := by
    intro h0
    simp only [h0, if_false, List.length_append, hpl] at hsz
    omega
  have hdl : leaf.maxDef ≠ 0 → defB.length < 2 ^ 32 := by
    intro h0
    simp only [h0, if_false, List.length_append, hpl] at hsz
    omega
  have hvl : valB.length < 2 ^ 31 := by
    simp only [List.length_append] at hsz
    omega
  obtain ⟨hrle, hdle, hvals⟩ := wellFormed_parts hwf
  have h1 : repLevels Fixes.all (colOfLeaf leaf cm) es.length
      ((if leaf.maxRep = 0 then [] else prefixed repB) ++ ((if leaf.maxDef = 0 then [] else prefixed defB) ++ valB)) =
      .ok (es.map (·.rep), (if leaf.maxDef = 0 then [] else prefixed defB) ++ valB) := by
    have := levels_written leaf.maxRep 0 (fun _ => rfl) repRuns _ repB
      ((if leaf.maxDef = 0 then [] else prefixed defB) ++ valB) hlev.2 hr hrle hrl
    rwa [List.length_map] at this
  have h2 : defLevels Fixes.all (colOfLeaf leaf cm) es.length ((if leaf.maxDef = 0 then [] else prefixed defB) ++ valB) =
      .ok (es.map (·.dl), valB) := by
    have := levels_written leaf.maxDef leaf.maxDef id defRuns _ defB valB hlev.1 hd hdle hdl
    rwa [List.length_map] at this
  have hnn := nonNullCount_written leaf cm es hwf
  have h3 : decodeValues Fixes.all (colOfLeaf leaf cm) (dict.map (dictOf leaf)) (valueEncTag enc) valB
      (es.filterMap (·.val)).length = .ok (es.filterMap (·.val)) := by
    cases enc with
    | plain =>
      simp only [valueBytes, Option.some.injEq] at hv
      subst hv
      simp only [decodeValues, valueEncTag, if_true, colOfLeaf]
      exact plainValues_written leaf _ hvals hflba (Nat.lt_trans hvl (by decide))
    | other tag payload => cases henc
    | dict tag w runs =>
      simp only [valuesOk, Bool.or_eq_true, beq_iff_eq] at henc
      have hne0 : ¬ ((tag : Int) = 0) := by rcases henc with rfl | rfl <;> decide
      have h28 : (tag : Int) = 8 ∨ (tag : Int) = 2 := by rcases henc with rfl | rfl <;> simp
      cases dict with
      | none => simp [valueBytes] at hv
      | some d =>
        simp only [decodeValues, valueEncTag, hne0, if_false, h28, if_true, Option.map_some]
        exact dictValues_written leaf cm d tag w runs _ valB hv (hdictv d rfl) (hnb tag w runs rfl) hflba (hdsz d rfl).2
  unfold readDataPageV1
  simp only [h1, h2, hnn, h3, decodedOfEntries]

end Carquet.Proofs.ImplReads
