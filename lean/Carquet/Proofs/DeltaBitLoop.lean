/-
The shift-and-count loop that computes a bit width occurs twice in the C sources
(`bit_width_required` in delta.c, `bit_width_for_count` in dictionary.c); its result is stated
here once, for any function that obeys the loop's two equations.
-/
namespace Carquet.Proofs

theorem bitLoop_eq (loop : Nat → Nat → Nat → Nat) (h0 : ∀ c w, loop 0 c w = w)
    (hs : ∀ f c w, loop (f + 1) c w = if 0 < c then loop f (c / 2) (w + 1) else w) :
    ∀ (f c w : Nat), c < 2 ^ f → loop f c w = w + (if c = 0 then 0 else c.log2 + 1)
  | 0, c, w, h => by
    have : c = 0 := by simpa using h
    rw [h0, if_pos this]; rfl
  | f + 1, c, w, h => by
    rw [hs]
    by_cases hc : 0 < c
    · rw [if_pos hc, bitLoop_eq loop h0 hs f (c / 2) (w + 1) (by rw [Nat.pow_succ] at h; omega),
        if_neg (show ¬ c = 0 by omega), Nat.log2_def c]
      by_cases h2 : 2 ≤ c
      · rw [if_pos h2, if_neg (show ¬ c / 2 = 0 by omega)]; omega
      · rw [if_neg h2, if_pos (show c / 2 = 0 by omega)]
    · rw [if_neg hc, if_pos (by omega)]; rfl

end Carquet.Proofs
