import Carquet.Impl.RleAcc
import Carquet.Proofs.RleDecoder
import Carquet.Proofs.RleLevelsIter
/-
The access-reporting twins of Impl/RleAcc.lean: (1, 2) they are the decoders and every access they report
lies between the decoder's position and the end of the input (`*_twin`), (3) `decode_levels` never stores more
levels than requested, (4) the fuels of Impl/Rle.lean are not what stops the loops.  `start_new_run` and
the loop of `decode_levels` are first written as "handle one header, go on with what is left" (`openRun`,
`RleLevels.iter`); each fact is proved about one header.  The counts of the streaming decoder and the progress
of `prep` come from the refinement (`RleDecoder.getBatch_length_le`, `skipLoop_le`, `prep_progress`).
-/
namespace Carquet.Proofs.RleAcc
open Carquet.Impl Carquet.Impl.Rle Carquet.Proofs.RleLevels

/-! ### accesses inside the input -/

/-- every access of the list lies in `[lo, size)` -/
def InB (size lo : Nat) (accs : List Acc) : Prop := ∀ a ∈ accs, lo ≤ a.off ∧ a.off + a.len ≤ size

theorem InB.nil (size lo : Nat) : InB size lo [] := fun _ h => by cases h

theorem InB.cons {size lo : Nat} {a : Acc} {l : List Acc} (h1 : lo ≤ a.off ∧ a.off + a.len ≤ size)
    (h2 : InB size lo l) : InB size lo (a :: l) := by
  intro b hb
  rcases List.mem_cons.mp hb with rfl | hb
  · exact h1
  · exact h2 b hb

theorem InB.mono {size lo lo' : Nat} {l : List Acc} (hle : lo ≤ lo') (h : InB size lo' l) : InB size lo l :=
  fun a ha => ⟨Nat.le_trans hle (h a ha).1, (h a ha).2⟩

theorem InB.append {size lo : Nat} {l1 l2 : List Acc} (h1 : InB size lo l1) (h2 : InB size lo l2) :
    InB size lo (l1 ++ l2) := by
  intro a ha
  rcases List.mem_append.mp ha with h | h
  · exact h1 a h
  · exact h2 a h

/-- `pos = size - bs.length`; a read of `n` bytes at the front of a suffix `rest` of `bs` that has them -/
theorem InB.read {size n : Nat} {bs rest : List UInt8} {l : List Acc} (hsz : bs.length ≤ size)
    (hsuf : rest <:+ bs) (hn : n ≤ rest.length) (h : InB size (size - bs.length) l) :
    InB size (size - bs.length) (⟨size - rest.length, n⟩ :: l) := by
  have := hsuf.length_le
  exact InB.cons ⟨by simp only; omega, by simp only; omega⟩ h

/-- from the unread input `bs` to the unread input `bs'` the decoder only moved forward, reading what
`accs` lists -/
def Adv (size : Nat) (bs bs' : List UInt8) (accs : List Acc) : Prop :=
  bs' <:+ bs ∧ InB size (size - bs.length) accs

theorem Adv.refl (size : Nat) (bs : List UInt8) : Adv size bs bs [] := ⟨List.suffix_refl _, InB.nil _ _⟩

theorem Adv.len {size : Nat} {bs bs' : List UInt8} {accs : List Acc} (h : Adv size bs bs' accs) :
    bs'.length ≤ bs.length := h.1.length_le

theorem Adv.trans {size : Nat} {bs bs1 bs2 : List UInt8} {a1 a2 : List Acc} (h1 : Adv size bs bs1 a1)
    (h2 : Adv size bs1 bs2 a2) : Adv size bs bs2 (a1 ++ a2) :=
  ⟨h2.1.trans h1.1, h1.2.append (h2.2.mono (by have := h1.len; omega))⟩

/-! ### the bytes of a run header -/

theorem headerBytes_le : ∀ (f : Nat) (bs : List UInt8), headerBytes f bs ≤ bs.length := by
  intro f
  induction f with
  | zero => intro bs; exact Nat.zero_le _
  | succ f ih =>
    intro bs
    cases bs with
    | nil => exact Nat.zero_le _
    | cons b rest =>
      simp only [headerBytes, List.length_cons]
      split
      · omega
      · have := ih rest; omega

theorem headerLen_le (bs : List UInt8) : headerLen bs ≤ bs.length := headerBytes_le 5 bs

theorem headerLen_pos {bs : List UInt8} (h : bs.length ≠ 0) : 0 < headerLen bs := by
  cases bs with
  | nil => exact absurd rfl h
  | cons b tl => simp only [headerLen, headerBytes]; split <;> omega

theorem readLoopNoFail_consumed : ∀ (f : Nat) (bs : List UInt8) (s r : Nat),
    (Varint.readLoopNoFail f s r bs).2.length + headerBytes f bs = bs.length ∧
    (Varint.readLoopNoFail f s r bs).2 <:+ bs := by
  intro f
  induction f with
  | zero => intro bs s r; exact ⟨rfl, List.suffix_refl _⟩
  | succ f ih =>
    intro bs s r
    cases bs with
    | nil => exact ⟨rfl, List.suffix_refl _⟩
    | cons b tl =>
      simp only [Varint.readLoopNoFail, headerBytes, List.length_cons]
      split
      · exact ⟨rfl, List.suffix_cons _ _⟩
      · obtain ⟨h1, h2⟩ := ih tl (s + 7) (r ||| (((b.toNat &&& 0x7F) <<< s) % 2 ^ 32))
        exact ⟨by omega, h2.trans (List.suffix_cons _ _)⟩

theorem readHeaderLevels_consumed (bs : List UInt8) :
    (Varint.readHeaderLevels bs).2.length + headerLen bs = bs.length ∧ (Varint.readHeaderLevels bs).2 <:+ bs :=
  readLoopNoFail_consumed 5 bs 0 0

theorem readVarintRle_consumed {bs rest : List UInt8} {v : Nat} (h : Varint.readVarintRle bs = some (v, rest)) :
    rest.length + headerLen bs = bs.length ∧ rest <:+ bs := by
  have := readHeaderLevels_consumed bs
  rwa [VarintImpl.readHeaderLevels_of_readVarintRle h] at this

theorem Adv.header {size : Nat} {bs bs' : List UInt8} (hsz : bs.length ≤ size) (h : bs' <:+ bs) :
    Adv size bs bs' [⟨size - bs.length, headerLen bs⟩] :=
  ⟨h, InB.read hsz (List.suffix_refl _) (headerLen_le bs) (InB.nil _ _)⟩

/-! ### `start_new_run`: one header at a time -/

/-- `start_new_run` behind a header `h`, up to the recursive call (`none`: the run is empty, read on) -/
def openRunOf (d : Dec) (h : Nat) (rest : List UInt8) : Option Bool × Dec :=
  if h &&& 1 = 0 then
    if rest.length < valueBytes d.width then
      (some false, { d with rest := rest, inRle := true, runRemaining := h >>> 1, status := .invalidRle })
    else if h >>> 1 = 0 then (none, RleDecoder.afterEmptyRle d rest)
    else (some true, { RleDecoder.afterEmptyRle d rest with runRemaining := h >>> 1 })
  else
    if (h >>> 1) * 8 = 0 then (none, RleDecoder.afterEmptyPacked d rest)
    else (some true, { RleDecoder.afterEmptyPacked d rest with runRemaining := (h >>> 1) * 8, bp := [] })

/-- `start_new_run` on a non-empty input up to its recursive call -/
def openRun (d : Dec) : Option Bool × Dec :=
  match Varint.readVarintRle d.rest with
  | none => (some false, { d with status := .invalidRle })
  | some (h, rest) => openRunOf d h rest

def openRunAccs (size : Nat) (d : Dec) : List Acc :=
  ⟨size - d.rest.length, headerLen d.rest⟩ ::
    match Varint.readVarintRle d.rest with
    | none => []
    | some (h, rest) =>
      if h &&& 1 = 0 then
        if rest.length < valueBytes d.width then [] else [⟨size - rest.length, valueBytes d.width⟩]
      else []

theorem startNewRunF_succ (f : Nat) (d : Dec) :
    startNewRunF (f + 1) d =
      if d.rest.length = 0 then (false, d)
      else match (openRun d).1 with
        | some b => (b, (openRun d).2)
        | none => startNewRunF f (openRun d).2 := by
  rw [startNewRunF, openRun]
  refine ite_congr rfl (fun _ => rfl) (fun _ => ?_)
  cases Varint.readVarintRle d.rest with
  | none => rfl
  | some p =>
    simp only [openRunOf]
    by_cases hp : p.1 &&& 1 = 0
    · simp only [if_pos hp]
      by_cases hs : p.2.length < valueBytes d.width
      · simp only [if_pos hs]
      · simp only [if_neg hs]
        split <;> rfl
    · simp only [if_neg hp]
      split <;> rfl

theorem startNewRunAccF_succ (size f : Nat) (d : Dec) :
    startNewRunAccF size (f + 1) d =
      if d.rest.length = 0 then ((false, d), [])
      else match (openRun d).1 with
        | some b => ((b, (openRun d).2), openRunAccs size d)
        | none => ((startNewRunAccF size f (openRun d).2).1,
                   openRunAccs size d ++ (startNewRunAccF size f (openRun d).2).2) := by
  rw [startNewRunAccF, openRun, openRunAccs]
  refine ite_congr rfl (fun _ => rfl) (fun _ => ?_)
  cases Varint.readVarintRle d.rest with
  | none => rfl
  | some p =>
    simp only [openRunOf]
    by_cases hp : p.1 &&& 1 = 0
    · simp only [if_pos hp]
      by_cases hs : p.2.length < valueBytes d.width
      · simp only [if_pos hs]
      · simp only [if_neg hs]
        split <;> rfl
    · simp only [if_neg hp]
      split <;> rfl

theorem openRunOf_suffix (d : Dec) (h : Nat) (rest : List UInt8) : (openRunOf d h rest).2.rest <:+ rest := by
  unfold openRunOf
  split
  · split
    · exact List.suffix_refl _
    · split <;> exact List.drop_suffix _ _
  · split <;> exact List.suffix_refl _

theorem openRun_adv (size : Nat) (d : Dec) (hsz : d.rest.length ≤ size) :
    Adv size d.rest (openRun d).2.rest (openRunAccs size d) := by
  unfold openRun openRunAccs
  cases hr : Varint.readVarintRle d.rest with
  | none => exact Adv.header hsz (List.suffix_refl _)
  | some p =>
    obtain ⟨hc, hsuf⟩ := readVarintRle_consumed hr
    refine ⟨(openRunOf_suffix d p.1 p.2).trans hsuf, InB.read hsz (List.suffix_refl _) (headerLen_le _) ?_⟩
    simp only []
    split
    · split
      · exact InB.nil _ _
      · exact InB.read hsz hsuf (by omega) (InB.nil _ _)
    · exact InB.nil _ _

theorem openRun_lt (d : Dec) (h : (openRun d).1 = none) : (openRun d).2.rest.length < d.rest.length := by
  unfold openRun at h ⊢
  cases hr : Varint.readVarintRle d.rest with
  | none => rw [hr] at h; cases h
  | some p =>
    have := (openRunOf_suffix d p.1 p.2).length_le
    have := RleDecoder.readVarintRle_rest_lt hr
    simp only []
    omega

/-! ### 1, 2. the twins are the decoders; every reported access lies between the decoder's position and the
end of the input -/

theorem ite_rel {α β : Type} {P : α → β → Prop} {c : Prop} [Decidable c] {a a' : α} {b b' : β}
    (h1 : c → P a b) (h2 : ¬ c → P a' b') : P (if c then a else a') (if c then b else b') := by
  by_cases h : c
  · rw [if_pos h, if_pos h]; exact h1 h
  · rw [if_neg h, if_neg h]; exact h2 h

/-- with `bs` unread the decoder answers `r0`; `r` is the answer of its twin -/
structure Twin {α : Type} (size : Nat) (bs : List UInt8) (r : (α × Dec) × List Acc) (r0 : α × Dec) : Prop where
  fst : r.1 = r0
  adv : Adv size bs r.1.2.rest r.2

theorem Twin.refl {α : Type} (size : Nat) (a : α) (d : Dec) : Twin size d.rest ((a, d), []) (a, d) :=
  ⟨rfl, Adv.refl _ _⟩

theorem startNewRunAccF_twin (size : Nat) : ∀ (f : Nat) (d : Dec), d.rest.length ≤ size →
    Twin size d.rest (startNewRunAccF size f d) (startNewRunF f d) := by
  intro f
  induction f with
  | zero => intro d _; exact Twin.refl size false d
  | succ f ih =>
    intro d hsz
    have h1 := openRun_adv size d hsz
    rw [startNewRunAccF_succ, startNewRunF_succ]
    split
    · exact Twin.refl size false d
    · split
      · exact ⟨rfl, h1⟩
      · have h2 := ih _ (Nat.le_trans h1.len hsz)
        exact ⟨h2.fst, h1.trans h2.adv⟩

theorem fillAcc_twin (size : Nat) (d : Dec) (hsz : d.rest.length ≤ size) :
    Twin size d.rest (fillAcc size d) (fill d) := by
  unfold fillAcc fill
  split
  · exact Twin.refl size false d
  · split
    · exact ⟨rfl, Adv.refl _ _⟩
    · exact ⟨rfl, List.drop_suffix _ _, InB.read hsz (List.suffix_refl _) (by omega) (InB.nil _ _)⟩

theorem ensureRunAcc_twin (size : Nat) (d : Dec) (hsz : d.rest.length ≤ size) :
    Twin size d.rest (ensureRunAcc size d) (ensureRun d) := by
  unfold ensureRunAcc ensureRun
  split
  · exact startNewRunAccF_twin size _ d hsz
  · exact Twin.refl size true d

theorem ensureBufAcc_twin (size : Nat) (d : Dec) (hsz : d.rest.length ≤ size) :
    Twin size d.rest (ensureBufAcc size d) (ensureBuf d) := by
  unfold ensureBufAcc ensureBuf
  split
  · exact Twin.refl size true d
  · split
    · exact fillAcc_twin size d hsz
    · exact Twin.refl size true d

theorem prepAcc_twin (size : Nat) (d : Dec) (hsz : d.rest.length ≤ size) :
    Twin size d.rest (prepAcc size d) (prep d) := by
  obtain ⟨h1, ha⟩ := ensureRunAcc_twin size d hsz
  unfold prepAcc prep
  rw [h1] at ha ⊢
  split
  · have h2 := ensureBufAcc_twin size (ensureRun d).2 (Nat.le_trans ha.len hsz)
    exact ⟨h2.fst, ha.trans h2.adv⟩
  · exact ⟨rfl, ha⟩

theorem pop_rest (d : Dec) : (pop d).2.rest = d.rest := by
  unfold pop; split <;> rfl

theorem chunkDec_rest (d : Dec) (want : Nat) : (chunkDec d want).rest = d.rest := by
  unfold chunkDec; split <;> rfl

theorem getAcc_twin (size : Nat) (d : Dec) (hsz : d.rest.length ≤ size) :
    Twin size d.rest (getAcc size d) (Rle.get d) := by
  obtain ⟨h1, ha⟩ := prepAcc_twin size d hsz
  unfold getAcc Rle.get
  rw [h1] at ha ⊢
  split
  · exact Twin.refl size 0 d
  · split
    · exact ⟨rfl, by rw [pop_rest]; exact ha⟩
    · exact ⟨rfl, ha⟩

theorem batchLoopAcc_twin (size : Nat) : ∀ (f : Nat) (d : Dec) (want : Nat), d.rest.length ≤ size →
    Twin size d.rest (batchLoopAcc size f d want) (batchLoop f d want) := by
  intro f
  induction f with
  | zero => intro d want _; exact Twin.refl size [] d
  | succ f ih =>
    intro d want hsz
    obtain ⟨h1, ha⟩ := prepAcc_twin size d hsz
    rw [batchLoopAcc, batchLoop]
    rw [h1] at ha ⊢
    refine ite_rel (fun _ => Twin.refl size [] d) (fun _ => ite_rel (fun _ => Twin.refl size [] d) (fun _ =>
      ite_rel (fun _ => ⟨rfl, ha⟩) (fun _ => ?_)))
    have h2 := ih (chunkDec (prep d).2 want) (want - chunkLen (prep d).2 want)
      (by rw [chunkDec_rest]; exact Nat.le_trans ha.len hsz)
    rw [chunkDec_rest] at h2
    exact ⟨by rw [← h2.fst], ha.trans h2.adv⟩

/-- as `skip` itself (`RleDecoder.skipLoop_eq_batchLoop`) -/
theorem skipLoopAcc_eq_batchLoopAcc (size : Nat) : ∀ (f : Nat) (d : Dec) (want : Nat),
    skipLoopAcc size f d want =
      (((batchLoopAcc size f d want).1.1.length, (batchLoopAcc size f d want).1.2), (batchLoopAcc size f d want).2) := by
  intro f
  induction f with
  | zero => intro d want; rfl
  | succ f ih =>
    intro d want
    rw [skipLoopAcc, batchLoopAcc]
    by_cases h0 : want = 0
    · rw [if_pos h0, if_pos h0]; rfl
    rw [if_neg h0, if_neg h0]
    by_cases hn : hasNext d = false
    · rw [if_pos hn, if_pos hn]; rfl
    rw [if_neg hn, if_neg hn]
    by_cases hp : (prepAcc size d).1.1 = false
    · rw [if_pos hp, if_pos hp]; rfl
    rw [if_neg hp, if_neg hp, ih, List.length_append, RleDecoder.chunkVals_length]

theorem skipLoopAcc_twin (size f : Nat) (d : Dec) (want : Nat) (hsz : d.rest.length ≤ size) :
    Twin size d.rest (skipLoopAcc size f d want) (skipLoop f d want) := by
  obtain ⟨h, ha⟩ := batchLoopAcc_twin size f d want hsz
  rw [skipLoopAcc_eq_batchLoopAcc, RleDecoder.skipLoop_eq_batchLoop, ← h]
  exact ⟨rfl, ha⟩

theorem stepAcc_twin (size : Nat) (d : Dec) (op : Op) (hsz : d.rest.length ≤ size) :
    Twin size d.rest (stepAcc size d op) (step d op) := by
  cases op with
  | get =>
    obtain ⟨h, ha⟩ := getAcc_twin size d hsz
    exact ⟨congrArg (fun r => (Obs.val r.1, r.2)) h, ha⟩
  | getBatch k =>
    obtain ⟨h, ha⟩ := batchLoopAcc_twin size k d k hsz
    exact ⟨congrArg (fun r => (Obs.vals r.1, r.2)) h, ha⟩
  | skip k =>
    obtain ⟨h, ha⟩ := skipLoopAcc_twin size k d k hsz
    exact ⟨congrArg (fun r => (Obs.skipped r.1, r.2)) h, ha⟩

theorem runOpsAcc_twin (size : Nat) : ∀ (ops : List Op) (d : Dec), d.rest.length ≤ size →
    (runOpsAcc size d ops).1 = runOps d ops ∧
    Adv size d.rest (runOpsAcc size d ops).2.2.rest (runOpsAcc size d ops).2.1 := by
  intro ops
  induction ops with
  | nil => intro d _; exact ⟨rfl, Adv.refl size _⟩
  | cons op ops ih =>
    intro d hsz
    obtain ⟨h1, ha⟩ := stepAcc_twin size d op hsz
    rw [runOpsAcc, runOps, h1] at *
    obtain ⟨i1, ia⟩ := ih (step d op).2 (Nat.le_trans ha.len hsz)
    exact ⟨by rw [i1], ha.trans ia⟩

theorem decodeAllAcc_twin (w : Nat) (bytes : List UInt8) (count : Nat) :
    Twin bytes.length bytes (decodeAllAcc w bytes count) (getBatch (Dec.init w bytes) count) :=
  batchLoopAcc_twin bytes.length count (Dec.init w bytes) count (Nat.le_refl _)

theorem levelsGroupsAcc_fst (size w : Nat) : ∀ (g : Nat) (rest : List UInt8) (want : Nat),
    (levelsGroupsAcc size w g rest want).1 = levelsGroups w g rest want := by
  intro g
  induction g with
  | zero => intro rest want; rfl
  | succ g ih =>
    intro rest want
    simp only [levelsGroupsAcc, levelsGroups]
    split
    · rfl
    · split
      · rfl
      · simp only [ih]

theorem levelsGroupsAcc_adv (size w : Nat) : ∀ (g : Nat) (rest : List UInt8) (want : Nat), rest.length ≤ size →
    Adv size rest (levelsGroupsAcc size w g rest want).1.2 (levelsGroupsAcc size w g rest want).2 := by
  intro g
  induction g with
  | zero => intro rest want _; exact Adv.refl size rest
  | succ g ih =>
    intro rest want hsz
    simp only [levelsGroupsAcc]
    split
    · exact Adv.refl size rest
    · split
      · exact Adv.refl size rest
      · have h1 : Adv size rest (rest.drop w) [⟨size - rest.length, w⟩] :=
          ⟨List.drop_suffix _ _, InB.read hsz (List.suffix_refl _) (by omega) (InB.nil _ _)⟩
        exact h1.trans (ih _ _ (Nat.le_trans h1.len hsz))

def iterAccs (size w h : Nat) (rest : List UInt8) (want : Nat) : List Acc :=
  if h &&& 1 = 0 then
    if rest.length < valueBytes w then [] else [⟨size - rest.length, valueBytes w⟩]
  else (levelsGroupsAcc size w (h >>> 1) rest want).2

theorem levelsLoopAcc_succ (size w f : Nat) (bs : List UInt8) (want : Nat) :
    levelsLoopAcc size w (f + 1) bs want =
      if want = 0 then (([], bs), []) else if bs.length = 0 then (([], bs), [])
      else
        let s := iter w bs want
        let a := iterAccs size w (Varint.readHeaderLevels bs).1 (Varint.readHeaderLevels bs).2 want
        let r := levelsLoopAcc size w f s.rest (want - s.vals.length)
        if s.short || s.cut then ((s.vals, s.rest), ⟨size - bs.length, headerLen bs⟩ :: a)
        else ((s.vals ++ r.1.1, r.1.2), ⟨size - bs.length, headerLen bs⟩ :: (a ++ r.2)) := by
  rw [levelsLoopAcc]
  refine ite_congr rfl (fun _ => rfl) (fun _ => ite_congr rfl (fun _ => rfl) (fun _ => ?_))
  unfold iter
  generalize Varint.readHeaderLevels bs = hr
  unfold iterOf iterAccs
  by_cases hp : hr.1 &&& 1 = 0
  · simp only [if_pos hp]
    by_cases hs : hr.2.length < valueBytes w
    · simp only [if_pos hs]; rfl
    · simp only [if_neg hs]
      by_cases hz : hr.1 >>> 1 = 0
      · simp only [hz, Nat.zero_min, List.replicate_zero, List.nil_append, List.length_nil, Nat.sub_zero]; rfl
      · simp only [if_neg hz, List.length_replicate]; rfl
  · simp only [if_neg hp, levelsGroupsAcc_fst]
    by_cases hz : hr.1 >>> 1 * 8 = 0
    · have hz' : hr.1 >>> 1 = 0 := by omega
      simp only [hz', levelsGroups, levelsGroupsAcc, groupsCut, List.nil_append, List.length_nil, Nat.sub_zero]; rfl
    · simp only [if_neg hz]
      by_cases hc : groupsCut w (hr.1 >>> 1) hr.2 want = true
      · simp only [hc]; rfl
      · simp only [hc]; rfl

theorem iterOf_adv (size w h : Nat) (rest : List UInt8) (want : Nat) (hsz : rest.length ≤ size) :
    Adv size rest (iterOf w h rest want).rest (iterAccs size w h rest want) := by
  unfold iterOf iterAccs
  split
  · split
    · exact Adv.refl size rest
    · exact ⟨List.drop_suffix _ _, InB.read hsz (List.suffix_refl _) (by omega) (InB.nil _ _)⟩
  · have := levelsGroupsAcc_adv size w (h >>> 1) rest want hsz
    rwa [levelsGroupsAcc_fst] at this

theorem levelsLoopAcc_twin (size w : Nat) : ∀ (f : Nat) (bs : List UInt8) (want : Nat), bs.length ≤ size →
    (levelsLoopAcc size w f bs want).1.1 = levelsLoop w f bs want ∧
    Adv size bs (levelsLoopAcc size w f bs want).1.2 (levelsLoopAcc size w f bs want).2 := by
  intro f
  induction f with
  | zero => intro bs want _; exact ⟨rfl, Adv.refl size bs⟩
  | succ f ih =>
    intro bs want hsz
    have h1 := Adv.header hsz (readHeaderLevels_consumed bs).2
    have h2 := h1.trans (iterOf_adv size w (Varint.readHeaderLevels bs).1 _ want (Nat.le_trans h1.len hsz))
    simp only [levelsLoopAcc_succ, levelsLoop_succ]
    by_cases h0 : want = 0
    · rw [if_pos h0, if_pos h0]; exact ⟨rfl, Adv.refl size bs⟩
    rw [if_neg h0, if_neg h0]
    by_cases hb : bs.length = 0
    · rw [if_pos hb, if_pos hb]; exact ⟨rfl, Adv.refl size bs⟩
    rw [if_neg hb, if_neg hb]
    by_cases hs : ((iter w bs want).short || (iter w bs want).cut) = true
    · rw [if_pos hs, if_pos hs]; exact ⟨rfl, h2⟩
    rw [if_neg hs, if_neg hs]
    obtain ⟨i1, ia⟩ := ih (iter w bs want).rest (want - (iter w bs want).vals.length) (Nat.le_trans h2.len hsz)
    exact ⟨by rw [i1], h2.trans ia⟩

/-- `carquet_rle_decode_levels`: the twin is the decoder; all reads inside the input, final position
inside the input -/
theorem decodeLevelsAcc_spec (w : Nat) (bytes : List UInt8) (n : Nat) :
    (decodeLevelsAcc w bytes n).1.1 = decodeLevels w bytes n ∧
    InB bytes.length 0 (decodeLevelsAcc w bytes n).2 ∧ (decodeLevelsAcc w bytes n).1.2 ≤ bytes.length := by
  unfold decodeLevelsAcc decodeLevels
  split
  · obtain ⟨h, ha⟩ := levelsLoopAcc_twin bytes.length w (bytes.length + 1) bytes n (Nat.le_refl _)
    exact ⟨h, ha.2.mono (Nat.zero_le _), Nat.sub_le _ _⟩
  · exact ⟨rfl, InB.nil _ _, Nat.zero_le _⟩

theorem InB.shift {size lo base : Nat} {l : List Acc} (h : InB size lo l) :
    InB (base + size) (base + lo) (shiftAccs base l) := by
  intro a ha
  simp only [shiftAccs, List.mem_map] at ha
  obtain ⟨b, hb, rfl⟩ := ha
  have := h b hb
  simp only
  omega

/-- `carquet_rle_decode_levels_prefixed`: the twin is the decoder; every read is inside the input; a length
prefix that reaches beyond the input is answered with an error after the four prefix bytes alone have been read -/
theorem decodeLevelsPrefixedAcc_spec (w : Nat) (bytes : List UInt8) (n : Nat) :
    (decodeLevelsPrefixedAcc w bytes n).1 = decodeLevelsPrefixed w bytes n ∧
    InB bytes.length 0 (decodeLevelsPrefixedAcc w bytes n).2 := by
  unfold decodeLevelsPrefixedAcc decodeLevelsPrefixed
  split
  · exact ⟨rfl, InB.nil _ _⟩
  · rename_i h4
    split
    · exact ⟨rfl, InB.cons ⟨Nat.le_refl _, by simp only; omega⟩ (InB.nil _ _)⟩
    · rename_i hle
      obtain ⟨h1, h2, -⟩ := decodeLevelsAcc_spec w ((bytes.drop 4).take (Bitpack.leNat (bytes.take 4))) n
      refine ⟨by rw [h1], InB.cons ⟨Nat.le_refl _, by simp only; omega⟩ ?_⟩
      have hlen : ((bytes.drop 4).take (Bitpack.leNat (bytes.take 4))).length = Bitpack.leNat (bytes.take 4) := by
        rw [List.length_take, List.length_drop]; omega
      rw [hlen] at h2
      intro a ha
      have := h2.shift (base := 4) a ha
      omega

/-! ### 3. `decode_levels`: never more levels than requested -/

theorem storeGroup_length_le (w : Nat) (inp : List UInt8) (want : Nat) :
    (storeGroup (Bitpack.unpack8 w inp) want).length ≤ min 8 want := by
  unfold storeGroup
  split
  · rw [List.length_map, BitpackImpl.unpack8_length_any]; omega
  · rw [List.length_map, List.length_take, BitpackImpl.unpack8_length_any]; omega

theorem levelsGroups_length_le (w : Nat) : ∀ (g : Nat) (rest : List UInt8) (want : Nat),
    (levelsGroups w g rest want).1.length ≤ want := by
  intro g
  induction g with
  | zero => intro rest want; exact Nat.zero_le _
  | succ g ih =>
    intro rest want
    simp only [levelsGroups]
    split
    · exact Nat.zero_le _
    · split
      · exact Nat.zero_le _
      · simp only [List.length_append]
        have := ih (rest.drop w) (want - min 8 want)
        have := storeGroup_length_le w rest want
        omega

theorem iterOf_length_le (w h : Nat) (rest : List UInt8) (want : Nat) : (iterOf w h rest want).vals.length ≤ want := by
  unfold iterOf
  split
  · split
    · exact Nat.zero_le _
    · simp only [List.length_replicate]; omega
  · exact levelsGroups_length_le w _ rest want

theorem levelsLoop_length_le (w : Nat) : ∀ (f : Nat) (bs : List UInt8) (want : Nat),
    (levelsLoop w f bs want).length ≤ want := by
  intro f
  induction f with
  | zero => intro bs want; exact Nat.zero_le _
  | succ f ih =>
    intro bs want
    have h1 : (iter w bs want).vals.length ≤ want := iterOf_length_le w _ _ want
    rw [levelsLoop_succ]
    split
    · exact Nat.zero_le _
    · split
      · exact Nat.zero_le _
      · split
        · exact h1
        · rw [List.length_append]
          have := ih (iter w bs want).rest (want - (iter w bs want).vals.length)
          omega

theorem decodeLevels_length_le (w : Nat) (bytes : List UInt8) (n : Nat) : (decodeLevels w bytes n).length ≤ n := by
  unfold decodeLevels
  split
  · exact levelsLoop_length_le _ _ _ _
  · exact Nat.zero_le _

/-! ### 4. the fuels are not what stops the loops -/

/-- `start_new_run`: any fuel above the number of unread bytes gives the same result (every level of
the recursion on empty runs consumes at least the header byte) -/
theorem startNewRunF_fuel : ∀ (f f' : Nat) (d : Dec), d.rest.length < f → d.rest.length < f' →
    startNewRunF f d = startNewRunF f' d := by
  intro f
  induction f with
  | zero => intro f' d h; omega
  | succ f ih =>
    intro f' d h1 h2
    cases f' with
    | zero => omega
    | succ f' =>
      rw [startNewRunF_succ, startNewRunF_succ]
      split
      · rfl
      · rename_i h0
        split
        · rfl
        · rename_i hn
          have := openRun_lt d hn
          exact ih f' _ (by omega) (by omega)

theorem batchLoop_zero_want (f : Nat) (d : Dec) : batchLoop f d 0 = ([], d) := by
  cases f <;> rfl

theorem batchLoop_fuel : ∀ (f f' : Nat) (d : Dec) (want : Nat), want ≤ f → want ≤ f' →
    batchLoop f d want = batchLoop f' d want := by
  intro f
  induction f with
  | zero => intro f' d want h1 _; rw [Nat.le_zero.mp h1, batchLoop_zero_want, batchLoop_zero_want]
  | succ f ih =>
    intro f' d want h1 h2
    cases f' with
    | zero => rw [Nat.le_zero.mp h2, batchLoop_zero_want, batchLoop_zero_want]
    | succ f' =>
      rw [batchLoop, batchLoop]
      -- both sides branch alike; only the recursive calls differ
      refine ite_congr rfl (fun _ => rfl) (fun hw0 => ite_congr rfl (fun _ => rfl) (fun _ =>
        ite_congr rfl (fun _ => rfl) (fun hp => ?_)))
      have := RleDecoder.prep_progress d want (Nat.pos_of_ne_zero hw0) (by simpa using hp)
      rw [ih f' (chunkDec (prep d).2 want) (want - chunkLen (prep d).2 want) (by omega) (by omega)]

theorem skipLoop_fuel (f f' : Nat) (d : Dec) (want : Nat) (h : want ≤ f) (h' : want ≤ f') :
    skipLoop f d want = skipLoop f' d want := by
  rw [RleDecoder.skipLoop_eq_batchLoop, RleDecoder.skipLoop_eq_batchLoop, batchLoop_fuel f f' d want h h']

/-- `decode_levels`: any fuel above the input length gives the same result (every iteration of the
outer loop consumes at least the header byte) -/
theorem levelsLoop_fuel (w : Nat) : ∀ (f f' : Nat) (bs : List UInt8) (want : Nat), bs.length < f → bs.length < f' →
    levelsLoop w f bs want = levelsLoop w f' bs want := by
  intro f
  induction f with
  | zero => intro f' bs want h; omega
  | succ f ih =>
    intro f' bs want h1 h2
    cases f' with
    | zero => omega
    | succ f' =>
      rw [levelsLoop_succ, levelsLoop_succ]
      refine ite_congr rfl (fun _ => rfl) (fun _ => ite_congr rfl (fun _ => rfl) (fun hne =>
        ite_congr rfl (fun _ => rfl) (fun _ => ?_)))
      have hc := (readHeaderLevels_consumed bs).1
      have hpos := headerLen_pos hne
      have := (iterOf_adv bs.length w (Varint.readHeaderLevels bs).1 (Varint.readHeaderLevels bs).2 want
        (by omega)).len
      rw [ih f' (iter w bs want).rest _ (by unfold iter; omega) (by unfold iter; omega)]

end Carquet.Proofs.RleAcc
