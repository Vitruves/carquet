import Carquet.Spec.RleHybrid
import Carquet.Proofs.RleDecoder
import Carquet.Proofs.BitPackSpec
/-
The Spec grammar (`Spec.RleHybrid.Runs`) against the decoder's denotation (`allValues`):
every legal stream denotes, for carquet's decoder, exactly the values the grammar gives it.
-/
namespace Carquet.Proofs.RleGrammar
open Carquet.Impl Carquet.Impl.Rle Carquet.Spec Carquet.Spec.RleHybrid
open Carquet.Proofs.NatBits Carquet.Proofs.BitpackImpl Carquet.Proofs.RleDecoder Carquet.Proofs.BitPackSpec

theorem spec_leBytes_eq : ∀ n v, RleHybrid.leBytes n v = Bitpack.leBytes n v
  | 0, _ => rfl
  | n + 1, v => congrArg _ (spec_leBytes_eq n (v / 256))

theorem spec_leValue_eq : ∀ bs, RleHybrid.leValue bs = Bitpack.leNat bs
  | [] => rfl
  | b :: bs => congrArg (b.toNat + 256 * ·) (spec_leValue_eq bs)

theorem valueBytes_eq (w : Nat) : RleHybrid.valueBytes w = Rle.valueBytes w := rfl

theorem valueMask_eq {w : Nat} (hw : w ≤ 32) : valueMask w = 2 ^ w - 1 := by
  unfold valueMask
  by_cases h : w ≥ 32
  · have : w = 32 := by omega
    subst this; rfl
  · simp only [h, if_false, one_shl]

theorem pow_le_valueBytes (w : Nat) : 2 ^ w ≤ 2 ^ (8 * Rle.valueBytes w) :=
  Nat.pow_le_pow_right (by decide) (by unfold Rle.valueBytes; omega)

theorem rle_value_read {w v : Nat} (hw : w ≤ 32) (hv : v < 2 ^ w) (rest : List UInt8) :
    Bitpack.leNat ((Bitpack.leBytes (Rle.valueBytes w) v ++ rest).take (Rle.valueBytes w)) &&& valueMask w = v := by
  rw [List.take_left' (leBytes_length _ _), leNat_leBytes, valueMask_eq hw, and_mask,
    Nat.mod_eq_of_lt (Nat.lt_of_lt_of_le hv (pow_le_valueBytes w)), Nat.mod_eq_of_lt hv]

/-- full groups in closed form (input bytes that are not there read as zero) -/
theorem unpackGroups_eq' {w : Nat} (hw : w ≤ 32) (g : Nat) (data : List UInt8) :
    Bitpack.unpackGroups w g data = (List.range (8 * g)).map (nth w (Bitpack.leNat data)) := by
  induction g generalizing data with
  | zero => simp [Bitpack.unpackGroups]
  | succ g ih =>
    simp only [Bitpack.unpackGroups]
    rw [unpack8_eq hw, ih (data.drop w)]
    rw [show 8 * (g + 1) = 8 + 8 * g by omega, List.range_add, List.map_append, List.map_map]
    congr 1
    · apply List.map_congr_left
      intro i hi
      rw [leNat_take, nth_mod w _ (List.mem_range.mp hi) (Nat.le_of_eq (Nat.mul_comm w 8))]
    · apply List.map_congr_left
      intro i _
      simp only [Function.comp, nth, leNat_drop, shr_shr]
      congr 2
      rw [Nat.mul_add, Nat.mul_comm w 8]

theorem unpackGroups_length {w : Nat} (hw : w ≤ 32) (g : Nat) (data : List UInt8) :
    (Bitpack.unpackGroups w g data).length = 8 * g := by
  rw [unpackGroups_eq' hw g data]; simp

/-- carquet's group-by-group unpacking of a whole bit-packed run is the Spec's unpacking -/
theorem unpackGroups_eq_spec {w : Nat} (hw : w ≤ 32) (g : Nat) (data : List UInt8) (hlen : data.length = g * w) :
    BitPack.unpack w data (8 * g) = some (Bitpack.unpackGroups w g data) := by
  rw [unpackGroups_eq' hw g data, unpack_eq]
  rw [hlen, Nat.mul_assoc]; exact Nat.le_refl _

theorem first_group {w g : Nat} (hw : w ≤ 32) {data : List UInt8} (hlen : data.length = (g + 1) * w)
    (rest : List UInt8) :
    ¬ (data ++ rest).length < w ∧ (data ++ rest).drop w = data.drop w ++ rest ∧
    Bitpack.unpack8 w (data ++ rest) = Bitpack.unpack8 w data ∧ (data.drop w).length = g * w := by
  have hw1 : w ≤ data.length := by rw [hlen, Nat.succ_mul]; exact Nat.le_add_left _ _
  refine ⟨Nat.not_lt.mpr (List.length_append ▸ Nat.le_trans hw1 (Nat.le_add_right _ _)),
    List.drop_append_of_le_length hw1, ?_, by rw [List.length_drop, hlen, Nat.succ_mul, Nat.add_sub_cancel]⟩
  rw [unpack8_eq hw, unpack8_eq hw, List.take_append_of_le_length hw1]

theorem packedThen_append {w : Nat} (hw : w ≤ 32) (k : List UInt8 → List Nat) (g : Nat) (data rest : List UInt8)
    (hlen : data.length = g * w) :
    packedThen w k (g * 8) (data ++ rest) = Bitpack.unpackGroups w g data ++ k rest := by
  induction g generalizing data with
  | zero =>
    have : data = [] := List.eq_nil_of_length_eq_zero (by simpa using hlen)
    subst this; rfl
  | succ g ih =>
    obtain ⟨h1, h2, h3, h4⟩ := first_group hw hlen rest
    rw [packedThen_pos _ _ (Nat.succ_mul g 8 ▸ Nat.succ_pos _), Bitpack.unpackGroups, if_neg h1, h2, h3,
      Nat.succ_mul, Nat.add_sub_cancel, ih (data.drop w) h4, List.append_assoc,
      List.take_of_length_le (by rw [unpack8_length hw]; exact Nat.le_add_left _ _)]

theorem isHeader_ne_nil {hdr : List UInt8} {h : Nat} (hh : IsHeader hdr h) : hdr ≠ [] := by
  intro e; subst e; simp [IsHeader, Varint.decode] at hh

/-! ### the first `n` values of a stream that begins with a run -/

theorem take_run (xs vals : List Nat) (n : Nat) :
    (xs ++ vals).take n = xs.take (min xs.length n) ++ vals.take (n - min xs.length n) := by
  rw [List.take_append, sub_min, ← List.take_take,
    List.take_of_length_le (l := xs.take n) (by rw [List.length_take]; exact Nat.min_le_right _ _)]

/-- a run header takes at least one byte, so one unit of fuel per run is enough -/
theorem rest_lt_of_header {hdr : List UInt8} {h f : Nat} (hh : IsHeader hdr h) (body rest : List UInt8)
    (hf : (hdr ++ body ++ rest).length < f + 1) : rest.length < f := by
  have := List.length_pos_iff.mpr (isHeader_ne_nil hh)
  simp only [List.length_append] at hf
  omega

theorem header_append_ne_nil {hdr : List UInt8} {h : Nat} (hh : IsHeader hdr h) (body rest : List UInt8) :
    hdr ++ body ++ rest ≠ [] :=
  fun e => isHeader_ne_nil hh (List.append_eq_nil_iff.mp (List.append_eq_nil_iff.mp e).1).1

theorem read_header {hdr : List UInt8} {h : Nat} (hh : IsHeader hdr h) (rest : List UInt8) :
    Impl.Varint.readVarintRle (hdr ++ rest) = some (h, rest) := by
  obtain ⟨h1, h2, h3⟩ := hh
  apply VarintImpl.readVarintRle_of_spec (Varint.decode_append h1 rest) _ h3
  simp only [List.length_append]; omega

theorem two_mul_and_one (n : Nat) : (2 * n) &&& 1 = 0 := by
  rw [Nat.and_one_is_mod, Nat.mul_mod_right]

theorem two_mul_add_and_one (n : Nat) : (2 * n + 1) &&& 1 ≠ 0 := by
  rw [Nat.and_one_is_mod, Nat.mul_add_mod]; decide

theorem two_mul_shr (n : Nat) : (2 * n) >>> 1 = n := by
  rw [shr_eq, Nat.pow_one, Nat.mul_div_cancel_left n (by decide)]

theorem two_mul_add_shr (n : Nat) : (2 * n + 1) >>> 1 = n := by
  rw [shr_eq, Nat.pow_one, Nat.mul_add_div (by decide)]; rfl

/-- **Every legal stream means to carquet's decoder what the grammar says.** -/
theorem allValues_of_runs {w : Nat} (hw : w ≤ 32) {bs : List UInt8} {xs : List Nat}
    (h : Runs w bs xs) : allValues w bs = xs := by
  induction h with
  | nil => rfl
  | rle hdr n v rest vals hh hv _ ih =>
    have hvb : (Bitpack.leBytes (Rle.valueBytes w) v).length = Rle.valueBytes w := leBytes_length _ _
    rw [allValues, valuesOf, if_neg (mt List.eq_nil_of_length_eq_zero (header_append_ne_nil hh _ _)),
      List.append_assoc, read_header hh]
    simp only
    rw [if_pos (two_mul_and_one n), two_mul_shr, spec_leBytes_eq, valueBytes_eq,
      if_neg (Nat.not_lt.mpr (by rw [List.length_append, hvb]; exact Nat.le_add_right _ _)),
      rle_value_read hw hv, List.drop_left' hvb,
      valuesOf_eq_all _ _ _ (by rw [← List.append_assoc]; exact rest_lt_of_header hh _ _ (Nat.lt_succ_self _)), ih]
  | packed hdr g data xs rest vals hh hlen hu _ ih =>
    rw [allValues, valuesOf, if_neg (mt List.eq_nil_of_length_eq_zero (header_append_ne_nil hh _ _)),
      List.append_assoc, read_header hh]
    simp only
    rw [if_neg (two_mul_add_and_one g), two_mul_add_shr, packedThen_append hw _ g data rest hlen]
    rw [unpackGroups_eq_spec hw g data hlen] at hu
    cases hu
    rw [valuesOf_eq_all _ _ _ (by rw [← List.append_assoc]; exact rest_lt_of_header hh _ _ (Nat.lt_succ_self _)), ih]

theorem runs_append {w : Nat} {a b : List UInt8} {xs ys : List Nat} (ha : Runs w a xs) (hb : Runs w b ys) :
    Runs w (a ++ b) (xs ++ ys) := by
  induction ha with
  | nil => simpa using hb
  | rle hdr n v rest vals hh hv _ ih =>
    have := Runs.rle hdr n v (rest ++ b) (vals ++ ys) hh hv ih
    simpa [List.append_assoc] using this
  | packed hdr g data xs rest vals hh hlen hu _ ih =>
    have := Runs.packed hdr g data xs (rest ++ b) (vals ++ ys) hh hlen hu ih
    simpa [List.append_assoc] using this

end Carquet.Proofs.RleGrammar
