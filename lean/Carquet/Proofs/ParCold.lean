import Carquet.Proofs.ParDict
/-
C07, cold start: (1) stdio sections and table steps do not interact — erasing the table steps of a
schedule changes nobody's bytes; (2) the invariants of the cold-start workers (`execCold`).
-/
namespace Carquet.Proofs.Par
open Carquet.Impl.Par

/-! ### layer 1: stdio sections and table steps are independent -/

theorem bytesOf_append (p q : Priv) : bytesOf (p ++ q) = bytesOf p ++ bytesOf q := by
  simp [bytesOf]

theorem tablesOf_append (p q : Priv) : tablesOf (p ++ q) = tablesOf p ++ tablesOf q := by
  simp [tablesOf]

theorem isTable_inv {q : Prim} (h : q.isTable = true) : (∃ i v, q = .initCell i v) ∨ q = .setFlag ∨ q = .useTable := by
  cases q <;> simp_all [Prim.isTable]

theorem runSP_log (ps : List Prim) : ∀ (sh : Shared) (p : Priv), (runSP ps sh p).2 = p ++ (runSP ps sh []).2 := by
  induction ps with
  | nil => intro sh p; simp [runSP]
  | cons q ps ih =>
    intro sh p
    simp only [runSP]
    rw [ih _ (stepPrim q sh p).2, ih _ (stepPrim q sh []).2, ← List.append_assoc]
    cases q <;> simp [stepPrim]

theorem runSP_table_bytes (ps : List Prim) (ht : ps.all Prim.isTable = true) :
    ∀ (sh : Shared) (p : Priv), bytesOf (runSP ps sh p).2 = bytesOf p := by
  induction ps with
  | nil => intro sh p; rfl
  | cons q ps ih =>
    intro sh p
    rw [List.all_cons, Bool.and_eq_true] at ht
    rcases isTable_inv ht.1 with ⟨i, v, rfl⟩ | rfl | rfl <;> simp only [runSP, stepPrim, ih ht.2]
    simp [bytesOf, Obs.isBytes]

/-- condition (A) of `noninterference` for view = file, observation = bytes obtained: a table step leaves both alone -/
theorem ownDet_bytes (w : Worker) {a : Action} (ha : a.atomicIO = true ∨ a.isTable = true) :
    OwnDet (fun _ sh => sh.file) bytesOf w a := by
  intro sh sh' p p' hf hb
  refine ⟨?_, by simp only [runSP_file]; exact hf⟩
  rcases ha with ha | ha
  · have hd : (runSP a.prims sh []).2 = (runSP a.prims sh' []).2 := (ownDet_of_atomicIO w a ha sh sh' [] [] hf rfl).1
    rw [runSP_log _ sh p, runSP_log _ sh' p', bytesOf_append, bytesOf_append, hb, hd]
  · rw [runSP_table_bytes _ ha, runSP_table_bytes _ ha, hb]

theorem solo_erase (w : Worker) (l : List Action) (hcls : ∀ a ∈ l, a.atomicIO = true ∨ a.isTable = true) :
    ∀ st st' : State, st.sh.file = st'.sh.file → bytesOf (st.pr w) = bytesOf (st'.pr w) →
      bytesOf ((exec (solo w l) st).pr w) = bytesOf ((exec (solo w (l.filter (fun a => a.atomicIO))) st').pr w) := by
  induction l with
  | nil => intro st st' _ hb; exact hb
  | cons a l ih =>
    intro st st' hf hb
    have hrest := fun b hb => hcls b (List.mem_cons_of_mem _ hb)
    have e : solo w (a :: l) = (w, a) :: solo w l := rfl
    rw [e, exec_cons]
    by_cases ha : a.atomicIO = true
    · rw [List.filter_cons_of_pos ha]
      have e' : solo w (a :: l.filter (fun a => a.atomicIO)) = (w, a) :: solo w (l.filter (fun a => a.atomicIO)) := rfl
      rw [e', exec_cons]
      obtain ⟨h1, h2⟩ := ownDet_bytes w (.inl ha) st.sh st'.sh (st.pr w) (st'.pr w) hf hb
      exact ih hrest _ _ (by simpa using h2) (by simpa using h1)
    · rw [List.filter_cons_of_neg ha]
      have ht := (hcls a (List.mem_cons_self ..)).resolve_left ha
      exact ih hrest _ _ (by simpa [runSP_file] using hf) (by simpa [runSP_table_bytes _ ht] using hb)

theorem mixed_schedule_bytes (s : List (Worker × Action)) (hcls : ∀ e ∈ s, e.2.atomicIO = true ∨ e.2.isTable = true)
    (st : State) (w : Worker) :
    bytesOf ((exec s st).pr w) = bytesOf ((exec (solo w (proj w s)) st).pr w) ∧
    bytesOf ((exec s st).pr w) =
      bytesOf ((exec (solo w ((proj w s).filter (fun a => a.atomicIO))) st).pr w) := by
  have h1 := (noninterference (fun _ sh => sh.file) bytesOf s (fun e he => ownDet_bytes e.1 (hcls e he))
    (fun e _ => othersKept_file e.1 e.2) st w).1
  exact ⟨h1, h1.trans (solo_erase w _ (fun a ha => hcls (w, a) (mem_proj.1 ha)) st st rfl rfl)⟩

/-! ### layer 2: the cold-start workers -/

theorem execCold_append (init : List Action) (s t : List Worker) (cs : CState) :
    execCold init (s ++ t) cs =
      ((execCold init t (execCold init s cs).1).1,
       (execCold init s cs).2 ++ (execCold init t (execCold init s cs).1).2) := by
  induction s generalizing cs with
  | nil => simp [execCold]
  | cons w s ih => simp [execCold, ih, List.append_assoc]

/-- the (flag, table) pair every CRC call ends up using -/
def useObs (vals : List Nat) : Obs := .table true (vals.map some)

def userList (u : List Instr) : Bool := u.all Instr.isUser

theorem userList_cons (i : Instr) (u : List Instr) : userList (i :: u) = (i.isUser && userList u) := by
  simp [userList]

theorem usesOf_snoc (T : Priv) (c : Obs) :
    usesOf (T ++ [c]) = if T.length % 2 = 0 then usesOf T else usesOf T ++ [c] := by
  fun_induction usesOf T with
  | case1 a u rest ih =>
    have : (rest.length + 1 + 1) % 2 = rest.length % 2 := Nat.add_mod_right rest.length 2
    simp only [List.cons_append, usesOf, ih, List.length_cons, this]
    split <;> rfl
  | case2 T h =>
    match T, h with
    | [], _ => rfl
    | [a], _ => rfl
    | a :: b :: r, h => exact absurd rfl (h a b r)

theorem initDiscipline_append {n : Nat} {good : Nat → Nat → Prop} {l1 l2 : List Prim}
    (h1 : InitDiscipline n good l1) (h2 : InitDiscipline n good l2) : InitDiscipline n good (l1 ++ l2) := by
  refine ⟨?_, ?_⟩
  · intro i v hm
    rcases List.mem_append.1 hm with hm | hm
    · exact h1.1 i v hm
    · exact h2.1 i v hm
  · intro pre post e i hi
    rcases List.append_eq_append_iff.1 e with ⟨a', ha1, ha2⟩ | ⟨c', hc1, hc2⟩
    · -- pre = l1 ++ a', l2 = a' ++ setFlag :: post
      obtain ⟨v, hv⟩ := h2.2 a' post ha2 i hi
      exact ⟨v, by rw [ha1]; exact List.mem_append_right _ hv⟩
    · -- l1 = pre ++ c', setFlag :: post = c' ++ l2
      cases c' with
      | nil =>
        simp only [List.nil_append] at hc2
        obtain ⟨v, hv⟩ := h2.2 [] post hc2.symm i hi
        simp at hv
      | cons x xs =>
        simp only [List.cons_append, List.cons.injEq] at hc2
        obtain ⟨v, hv⟩ := h1.2 pre xs (by rw [hc1, hc2.1]) i hi
        exact ⟨v, hv⟩

theorem initDiscipline_tablefree {n : Nat} {good : Nat → Nat → Prop} (l : List Prim)
    (h : ∀ q ∈ l, (∀ i v, q ≠ Prim.initCell i v) ∧ q ≠ Prim.setFlag) : InitDiscipline n good l := by
  refine ⟨?_, ?_⟩
  · intro i v hm; exact absurd rfl ((h _ hm).1 i v)
  · intro pre post e
    have : Prim.setFlag ∈ l := by rw [e]; simp
    exact absurd rfl (h _ this).2

theorem prims_fileReadAt_tablefree (f o n : Nat) :
    ∀ q ∈ (fileReadAt f o n).prims, (∀ i v, q ≠ Prim.initCell i v) ∧ q ≠ Prim.setFlag := by
  intro q hq
  simp [fileReadAt, Action.prims] at hq
  rcases hq with rfl | rfl <;> simp

theorem prims_tableUse_tablefree :
    ∀ q ∈ tableUse.prims, (∀ i v, q ≠ Prim.initCell i v) ∧ q ≠ Prim.setFlag := by
  intro q hq
  simp [tableUse, Action.prims] at hq
  subst hq; simp

theorem disc_snoc {n : Nat} {good : Nat → Nat → Prop} {acts : List Action} {a : Action}
    (h : InitDiscipline n good (acts.flatMap Action.prims)) (ha : InitDiscipline n good a.prims) :
    InitDiscipline n good ((acts ++ [a]).flatMap Action.prims) := by
  rw [List.flatMap_append]
  simpa using initDiscipline_append h ha

theorem runSP_flag_mono (ps : List Prim) : ∀ (sh : Shared) (p : Priv), sh.flag = true → (runSP ps sh p).1.flag = true := by
  induction ps with
  | nil => intro sh p h; exact h
  | cons q ps ih =>
    intro sh p h
    cases q <;> simp only [runSP, stepPrim] <;> exact ih _ _ (by simpa using h)

theorem tableInitialiser_length (vals : List Nat) : (tableInitialiser vals).length = vals.length + 1 := by
  have : ∀ i, (cellsFrom i vals).length = vals.length := by
    induction vals with
    | nil => intro i; rfl
    | cons v vs ih => intro i; simp [cellsFrom, ih]
  simp [tableInitialiser, initialiser, this]

theorem tableInitialiser_last (vals : List Nat) (k : Nat) (a : Action) (hk : (tableInitialiser vals)[k]? = some a)
    (hlast : ¬ k + 1 < (tableInitialiser vals).length) : a = .prim .setFlag := by
  have hlt := (List.getElem?_eq_some_iff.mp hk).1
  rw [show k = (tableInitialiser vals).length - 1 by omega, ← List.getLast?_eq_getElem?] at hk
  simpa [tableInitialiser, initialiser] using hk.symm
theorem tableInitialiser_action (vals : List Nat) (k : Nat) (a : Action) (hk : (tableInitialiser vals)[k]? = some a) :
    a.atomicIO = false ∧ a.isTable = true ∧
    ∀ (sh : Shared) (p : Priv), (runSP a.prims sh p).2 = p := by
  have hm : a ∈ tableInitialiser vals := List.mem_of_getElem? hk
  simp only [tableInitialiser, initialiser, List.mem_append, List.mem_map, List.mem_singleton] at hm
  rcases hm with ⟨iv, _, rfl⟩ | rfl
  · exact ⟨rfl, rfl, fun sh p => rfl⟩
  · exact ⟨rfl, rfl, fun sh p => rfl⟩

theorem take_succ_flatMap_prims (init : List Action) (k : Nat) (a : Action) (hk : init[k]? = some a) :
    (init.take (k + 1)).flatMap Action.prims = (init.take k).flatMap Action.prims ++ a.prims := by
  rw [List.take_add_one, hk]
  simp [List.flatMap_append]

/-! #### the invariant -/

def goodOf (vals : List Nat) : Nat → Nat → Prop := fun i v => vals[i]? = some v

/-- the conclusion of the lazy-initialisation theorem (C07_lazy_init_idempotent, second conjunct) that the
cold-start argument rests on: after ANY schedule whose workers follow the discipline, a set flag means the
table is complete and final -/
def LazySound (vals : List Nat) (file : List UInt8) : Prop :=
  ∀ s : List (Worker × Action),
    (∀ w, InitDiscipline vals.length (goodOf vals) ((proj w s).flatMap Action.prims)) →
    (exec s (initState file vals.length)).sh.flag = true →
    (exec s (initState file vals.length)).sh.table = vals.map some

/-- Where a worker stands, read off the instructions `td` it still has to run: between CRC calls (`user`); inside
the initialiser, which it runs because its flag check saw the flag clear (`init`: its primitives so far end with
the first `k` actions of the initialiser, and what came before follows the discipline); or before the table use of a
call whose flag check or initialiser is done (`use`: the flag is set).  `m` CRC calls are complete, `total` is the
number of calls of the whole program, `nT` the number of (flag, table) snapshots logged: two per complete call (the
check and the use), and the check of the call in progress. -/
inductive Ctl (vals : List Nat) (flag : Bool) (prims : List Prim) (nT m total : Nat) : List Instr → Prop
  | user {u : List Instr} : userList u = true → nT = 2 * m → m + instrCalls u = total →
      Ctl vals flag prims nT m total u
  | init {k : Nat} {u : List Instr} (l0 : List Prim) : userList u = true → nT = 2 * m + 1 →
      m + 1 + instrCalls u = total → k < (tableInitialiser vals).length →
      prims = l0 ++ ((tableInitialiser vals).take k).flatMap Action.prims →
      InitDiscipline vals.length (goodOf vals) l0 → Ctl vals flag prims nT m total (.initAt k :: .use :: u)
  | use {u : List Instr} : userList u = true → nT = 2 * m + 1 → m + 1 + instrCalls u = total → flag = true →
      Ctl vals flag prims nT m total (.use :: u)

/-- what is known about a worker with program `prog` that has performed the actions `acts`, holds the log `pr`, has
the instructions `td` left, when the flag is `flag`: its primitives follow the discipline, every table use so far
saw the final table, and its stdio sections so far and to come are those of its program -/
structure WInv (vals : List Nat) (prog : List Instr) (flag : Bool) (td : List Instr) (pr : Priv)
    (acts : List Action) : Prop where
  disc : InitDiscipline vals.length (goodOf vals) (acts.flatMap Action.prims)
  ctl : ∃ m, usesOf (tablesOf pr) = List.replicate m (useObs vals) ∧
    Ctl vals flag (acts.flatMap Action.prims) (tablesOf pr).length m (instrCalls prog) td
  io : acts.filter (fun a => a.atomicIO) ++ instrIO td = instrIO prog

theorem filter_snoc_atomic (l : List Action) (a : Action) :
    (l ++ [a]).filter (fun a => a.atomicIO) = l.filter (fun a => a.atomicIO) ++ (if a.atomicIO then [a] else []) := by
  by_cases h : a.atomicIO = true <;> simp [List.filter_append, h]

theorem tablesOf_bytes (p : Priv) (bs : List UInt8) : tablesOf (p ++ [.bytes bs]) = tablesOf p := by
  simp [tablesOf, Obs.isBytes]

theorem tablesOf_table (p : Priv) (fl : Bool) (cells : List (Option Nat)) :
    tablesOf (p ++ [.table fl cells]) = tablesOf p ++ [.table fl cells] := by
  simp [tablesOf, Obs.isBytes]

theorem instrCalls_append (a b : List Instr) : instrCalls (a ++ b) = instrCalls a + instrCalls b := by
  induction a with
  | nil => simp [instrCalls]
  | cons i a ih => cases i <;> simp [instrCalls, ih] <;> omega

theorem instrIO_append (a b : List Instr) : instrIO (a ++ b) = instrIO a ++ instrIO b := by
  induction a with
  | nil => simp [instrIO]
  | cons i a ih => cases i <;> simp [instrIO, ih]

section Steps
variable {vals : List Nat} {prog : List Instr} {flag : Bool} {rest : List Instr} {pr : Priv} {acts : List Action}

theorem winv_start (hu : userList prog = true) : WInv vals prog false prog [] [] :=
  ⟨initDiscipline_tablefree _ (by simp), ⟨0, rfl, .user hu rfl (by simp)⟩, by simp⟩

theorem WInv.frame {td : List Instr} (h : WInv vals prog flag td pr acts) {flag' : Bool}
    (hf : flag = true → flag' = true) : WInv vals prog flag' td pr acts := by
  obtain ⟨hd, ⟨m, hu, hc⟩, hio⟩ := h
  refine ⟨hd, ⟨m, hu, ?_⟩, hio⟩
  cases hc with
  | user a b c => exact .user a b c
  | init l0 a b c d e f => exact .init l0 a b c d e f
  | use a b c d => exact .use a b c (hf d)

theorem WInv.fire_io {f o n : Nat} (h : WInv vals prog flag (.io f o n :: rest) pr acts) (flag' : Bool) (bs : List UInt8) :
    WInv vals prog flag' rest (pr ++ [.bytes bs]) (acts ++ [fileReadAt f o n]) := by
  obtain ⟨hd, ⟨m, hu, hc⟩, hio⟩ := h
  cases hc with
  | user hur hn hm =>
    rw [userList_cons, Bool.and_eq_true] at hur
    refine ⟨disc_snoc hd (initDiscipline_tablefree _ (prims_fileReadAt_tablefree f o n)),
      ⟨m, by rw [tablesOf_bytes]; exact hu, .user hur.2 (by rw [tablesOf_bytes]; exact hn) hm⟩, ?_⟩
    rw [filter_snoc_atomic, atomicIO_fileReadAt]
    simpa [instrIO, List.append_assoc] using hio

theorem WInv.fire_crcCall (h : WInv vals prog flag (.crcCall :: rest) pr acts) (tbl : List (Option Nat)) :
    WInv vals prog flag ((if flag then [Instr.use] else [.initAt 0, .use]) ++ rest) (pr ++ [.table flag tbl])
      (acts ++ [tableUse]) := by
  obtain ⟨hd, ⟨m, hu, hc⟩, hio⟩ := h
  have hd' := disc_snoc hd (initDiscipline_tablefree _ prims_tableUse_tablefree)
  cases hc with
  | user hur hn hm =>
    rw [userList_cons, Bool.and_eq_true] at hur
    have hn' : (tablesOf (pr ++ [.table flag tbl])).length = 2 * m + 1 := by rw [tablesOf_table]; simp [hn]
    have hm' : m + 1 + instrCalls rest = instrCalls prog := by rw [← hm, instrCalls]; omega
    refine ⟨hd', ⟨m, by rw [tablesOf_table, usesOf_snoc, if_pos (by rw [hn]; exact Nat.mul_mod_right 2 m)]; exact hu, ?_⟩, ?_⟩
    · cases flag with
      | true => exact .use hur.2 hn' hm' rfl
      | false =>
        exact .init _ hur.2 hn' hm' (by rw [tableInitialiser_length]; omega) (by simp) hd'
    · rw [filter_snoc_atomic]
      cases flag <;> simpa [tableUse, Action.atomicIO, instrIO] using hio

theorem WInv.initAt_lt {k : Nat} (h : WInv vals prog flag (.initAt k :: rest) pr acts) :
    k < (tableInitialiser vals).length := by
  obtain ⟨-, ⟨m, -, hc⟩, -⟩ := h
  cases hc with
  | user hur => simp [userList_cons, Instr.isUser] at hur
  | init l0 _ _ _ hk _ _ => exact hk

theorem WInv.fire_initAt {k : Nat} (h : WInv vals prog flag (.initAt k :: rest) pr acts) {a : Action}
    (hk : (tableInitialiser vals)[k]? = some a) {flag' : Bool}
    (hlast : ¬k + 1 < (tableInitialiser vals).length → flag' = true) :
    WInv vals prog flag' ((if k + 1 < (tableInitialiser vals).length then [Instr.initAt (k + 1)] else []) ++ rest)
      pr (acts ++ [a]) := by
  obtain ⟨hd, ⟨m, hu, hc⟩, hio⟩ := h
  cases hc with
  | user hur => simp [userList_cons, Instr.isUser] at hur
  | init l0 hur hn hm _ hp hdl0 =>
    have hp' : (acts ++ [a]).flatMap Action.prims =
        l0 ++ ((tableInitialiser vals).take (k + 1)).flatMap Action.prims := by
      rw [List.flatMap_append, hp, take_succ_flatMap_prims _ k _ hk]; simp
    refine ⟨by rw [hp']; exact initDiscipline_append hdl0 (tableInitialiser_discipline vals (k + 1)),
      ⟨m, hu, ?_⟩, ?_⟩
    · by_cases hk1 : k + 1 < (tableInitialiser vals).length
      · rw [if_pos hk1]; exact .init l0 hur hn hm hk1 hp' hdl0
      · rw [if_neg hk1]; exact .use hur hn hm (hlast hk1)
    · rw [filter_snoc_atomic, (tableInitialiser_action vals k a hk).1]
      by_cases hk1 : k + 1 < (tableInitialiser vals).length <;> simpa [hk1, instrIO] using hio

theorem WInv.fire_use (h : WInv vals prog flag (.use :: rest) pr acts) (flag' : Bool) :
    flag = true ∧ WInv vals prog flag' rest (pr ++ [useObs vals]) (acts ++ [tableUse]) := by
  obtain ⟨hd, ⟨m, hu, hc⟩, hio⟩ := h
  cases hc with
  | user hur => simp [userList_cons, Instr.isUser] at hur
  | use hur hn hm hf =>
    refine ⟨hf, disc_snoc hd (initDiscipline_tablefree _ prims_tableUse_tablefree), ⟨m + 1, ?_, .user hur ?_ ?_⟩, ?_⟩
    · rw [useObs, tablesOf_table, usesOf_snoc, if_neg (by rw [hn, Nat.mul_add_mod]; decide), hu, List.replicate_succ']; rfl
    · rw [useObs, tablesOf_table]; simp [hn]; omega
    · omega
    · rw [filter_snoc_atomic]
      simpa [tableUse, Action.atomicIO, instrIO] using hio

theorem WInv.finished (h : WInv vals prog flag [] pr acts) :
    usesOf (tablesOf pr) = List.replicate (instrCalls prog) (useObs vals) ∧
    acts.filter (fun a => a.atomicIO) = instrIO prog := by
  obtain ⟨-, ⟨m, hu, hc⟩, hio⟩ := h
  cases hc with
  | user _ _ hm =>
    have : m = instrCalls prog := by simpa [instrCalls] using hm
    exact ⟨this ▸ hu, by simpa [instrIO] using hio⟩

end Steps

/-- the invariant of the cold-start system after the action-level schedule `hist` has been executed -/
structure CInv (vals : List Nat) (file : List UInt8) (progs : List (List Instr)) (cs : CState)
    (hist : List (Worker × Action)) : Prop where
  st : cs.st = exec hist (initState file vals.length)
  cls : ∀ e ∈ hist, e.2.atomicIO = true ∨ e.2.isTable = true
  wk : ∀ w, WInv vals (progs.getD w []) cs.st.sh.flag (cs.todo w) (cs.st.pr w) (proj w hist)

theorem setTodo_self (td : Worker → List Instr) (w : Worker) (v : List Instr) : setTodo td w v w = v := by
  simp [setTodo]

theorem setTodo_other (td : Worker → List Instr) (w w' : Worker) (v : List Instr) (h : w' ≠ w) :
    setTodo td w v w' = td w' := by
  simp [setTodo, h]

theorem cinv_turn {vals : List Nat} {file : List UInt8} {progs : List (List Instr)}
    (hlazy : LazySound vals file) {cs : CState} {hist : List (Worker × Action)}
    (inv : CInv vals file progs cs hist) (w : Worker) :
    CInv vals file progs (cs.turn (tableInitialiser vals) w).1
      (hist ++ (match (cs.turn (tableInitialiser vals) w).2 with | some e => [e] | none => [])) := by
  have hW := inv.wk w
  -- a step with action `a` and new instructions `td'`, once worker `w`'s own invariant is re-established
  have mk : ∀ (a : Action) (td' : List Instr), (a.atomicIO = true ∨ a.isTable = true) →
      WInv vals (progs.getD w []) (cs.st.run w a.prims).sh.flag td' ((cs.st.run w a.prims).pr w) (proj w hist ++ [a]) →
      CInv vals file progs { st := cs.st.run w a.prims, todo := setTodo cs.todo w td' } (hist ++ [(w, a)]) := by
    intro a td' hc hw
    refine ⟨?_, ?_, fun w' => ?_⟩
    · simp only [exec_append, exec_cons, exec_nil, ← inv.st]
    · intro e he
      rcases List.mem_append.1 he with he | he
      · exact inv.cls e he
      · simp at he; subst he; exact hc
    · by_cases hw' : w' = w
      · subst hw'
        show WInv _ _ _ (setTodo cs.todo w' td' w') _ (proj w' (hist ++ [(w', a)]))
        rw [setTodo_self, proj_snoc_self]; exact hw
      · show WInv _ _ _ (setTodo cs.todo w td' w') ((cs.st.run w a.prims).pr w') (proj w' (hist ++ [(w, a)]))
        rw [setTodo_other _ _ _ _ hw', run_pr_other _ _ _ _ hw', proj_snoc_other _ _ _ _ (Ne.symm hw')]
        exact (inv.wk w').frame (runSP_flag_mono _ _ _)
  unfold CState.turn
  cases htd : cs.todo w with
  | nil => simpa using inv
  | cons i rest =>
    rw [htd] at hW
    simp only
    cases i with
    | io f o n =>
      simp only [Instr.fire, List.nil_append]
      refine mk _ _ (.inl (atomicIO_fileReadAt f o n)) ?_
      rw [(run_fileReadAt cs.st w f o n).1]
      exact hW.fire_io _ _
    | crcCall =>
      simp only [Instr.fire]
      refine mk _ _ (.inr rfl) ?_
      have hp : (cs.st.run w tableUse.prims).pr w = cs.st.pr w ++ [.table cs.st.sh.flag cs.st.sh.table] := by
        simp [tableUse, Action.prims, runSP, stepPrim]
      have hf : (cs.st.run w tableUse.prims).sh.flag = cs.st.sh.flag := by
        simp [tableUse, Action.prims, runSP, stepPrim]
      rw [hp, hf]
      exact hW.fire_crcCall _
    | initAt k =>
      have hk := hW.initAt_lt
      have hget : (tableInitialiser vals)[k]? = some ((tableInitialiser vals)[k]'hk) := List.getElem?_eq_getElem hk
      simp only [Instr.fire, hget]
      obtain ⟨-, htab, hlog⟩ := tableInitialiser_action vals k _ hget
      refine mk _ _ (.inr htab) ?_
      rw [run_pr_self, hlog]
      refine hW.fire_initAt hget fun hk1 => ?_
      rw [tableInitialiser_last vals k _ hget hk1]
      simp [Action.prims, runSP, stepPrim]
    | use =>
      simp only [Instr.fire, List.nil_append]
      refine mk _ _ (.inr rfl) ?_
      obtain ⟨hfl, hw'⟩ := hW.fire_use (cs.st.run w tableUse.prims).sh.flag
      have htab : cs.st.sh.table = vals.map some := by
        have := hlazy hist (fun w' => (inv.wk w').disc)
        rw [← inv.st] at this
        exact this hfl
      have hp : (cs.st.run w tableUse.prims).pr w = cs.st.pr w ++ [useObs vals] := by
        simp [tableUse, Action.prims, runSP, stepPrim, useObs, hfl, htab]
      rw [hp]
      exact hw'

theorem cinv_exec {vals : List Nat} {file : List UInt8} {progs : List (List Instr)}
    (hlazy : LazySound vals file) (turns : List Worker) :
    ∀ (cs : CState) (hist : List (Worker × Action)), CInv vals file progs cs hist →
      CInv vals file progs (execCold (tableInitialiser vals) turns cs).1
        (hist ++ (execCold (tableInitialiser vals) turns cs).2) := by
  induction turns with
  | nil => intro cs hist inv; simpa [execCold] using inv
  | cons w turns ih =>
    intro cs hist inv
    have h1 := cinv_turn hlazy inv w
    have h2 := ih _ _ h1
    simp only [execCold]
    rw [← List.append_assoc]
    exact h2

theorem cinv_init (vals : List Nat) (file : List UInt8) (progs : List (List Instr))
    (huser : ∀ l ∈ progs, userList l = true) : CInv vals file progs (coldInit file vals.length progs) [] := by
  refine ⟨rfl, (by intro e he; cases he), fun w => winv_start ?_⟩
  simp only [List.getD_eq_getElem?_getD]
  cases hw : progs[w]? with
  | none => rfl
  | some l => exact huser l (List.mem_of_getElem? hw)

theorem solo_instrIO (w : Worker) (l : List Instr) (st : State) :
    (exec (solo w (instrIO l)) st).pr w = st.pr w ++ instrBytes st.sh.file l ∧
    (exec (solo w (instrIO l)) st).sh.file = st.sh.file := by
  induction l generalizing st with
  | nil => simp [instrIO, instrBytes, solo]
  | cons i l ih =>
    cases i with
    | io f o n =>
      have e : solo w (instrIO (.io f o n :: l)) = (w, fileReadAt f o n) :: solo w (instrIO l) := by
        simp [solo, instrIO]
      rw [e, exec_cons]
      have h := ih (st.run w (fileReadAt f o n).prims)
      have h0 := run_fileReadAt st w f o n
      refine ⟨?_, ?_⟩
      · rw [h.1, h0.1, h0.2]; simp [instrBytes]
      · rw [h.2, h0.2]
    | crcCall => simpa [instrIO, instrBytes] using ih st
    | initAt k => simpa [instrIO, instrBytes] using ih st
    | use => simpa [instrIO, instrBytes] using ih st

theorem bytesOf_instrBytes (file : List UInt8) (l : List Instr) : bytesOf (instrBytes file l) = instrBytes file l := by
  induction l with
  | nil => rfl
  | cons i l ih =>
    cases i with
    | io f o n => simp only [instrBytes, bytesOf, List.filter_cons, Obs.isBytes, if_true]; congr 1
    | crcCall => simpa [instrBytes] using ih
    | initAt k => simpa [instrBytes] using ih
    | use => simpa [instrBytes] using ih

theorem cold_result {vals : List Nat} {file : List UInt8} {progs : List (List Instr)}
    (hlazy : LazySound vals file) (huser : ∀ l ∈ progs, userList l = true) (turns : List Worker) (w : Worker)
    (hfin : (execCold (tableInitialiser vals) turns (coldInit file vals.length progs)).1.todo w = []) :
    coldResult ((execCold (tableInitialiser vals) turns (coldInit file vals.length progs)).1.st.pr w) =
      (instrBytes file (progs.getD w []), List.replicate (instrCalls (progs.getD w [])) (useObs vals)) := by
  have inv := cinv_exec hlazy turns _ _ (cinv_init vals file progs huser)
  simp only [List.nil_append] at inv
  have hW := inv.wk w
  rw [hfin] at hW
  obtain ⟨huses, hio⟩ := hW.finished
  have hb := (mixed_schedule_bytes _ inv.cls (initState file vals.length) w).2
  rw [hio, (solo_instrIO w _ _).1] at hb
  simp only [coldResult, Prod.mk.injEq]
  refine ⟨?_, huses⟩
  rw [inv.st, hb]
  simp [initState, bytesOf_instrBytes]

/-! #### every worker that gets enough turns finishes -/

theorem coldFuel_append (n : Nat) (a b : List Instr) : coldFuel n (a ++ b) = coldFuel n a + coldFuel n b := by
  induction a with
  | nil => simp [coldFuel]
  | cons i a ih => cases i <;> simp [coldFuel, ih] <;> omega

theorem turn_todo_other (init : List Action) (cs : CState) (w w' : Worker) (h : w' ≠ w) :
    (cs.turn init w).1.todo w' = cs.todo w' := by
  unfold CState.turn
  cases cs.todo w with
  | nil => rfl
  | cons i rest =>
    simp only
    cases (i.fire init cs.st.sh.flag).1 <;> simp [setTodo_other _ _ _ _ h]

theorem turn_todo_self (init : List Action) (cs : CState) (w : Worker) :
    (cs.todo w = [] ∧ (cs.turn init w).1.todo w = []) ∨
    coldFuel init.length ((cs.turn init w).1.todo w) < coldFuel init.length (cs.todo w) := by
  unfold CState.turn
  cases htd : cs.todo w with
  | nil => left; simp [htd]
  | cons i rest =>
    right
    have key : coldFuel init.length ((i.fire init cs.st.sh.flag).2 ++ rest) < coldFuel init.length (i :: rest) := by
      rw [coldFuel_append]
      cases i with
      | io f o n => simp [Instr.fire, coldFuel]
      | crcCall => cases cs.st.sh.flag <;> simp [Instr.fire, coldFuel] <;> omega
      | initAt k =>
        by_cases hk : k + 1 < init.length <;> simp [Instr.fire, coldFuel, hk] <;> omega
      | use => simp [Instr.fire, coldFuel]
    simp only
    cases (i.fire init cs.st.sh.flag).1 <;> simpa [setTodo_self] using key

theorem cold_finishes (init : List Action) (turns : List Worker) (w : Worker) :
    ∀ cs : CState, coldFuel init.length (cs.todo w) ≤ turns.count w →
      (execCold init turns cs).1.todo w = [] := by
  induction turns with
  | nil =>
    intro cs h
    simp only [List.count_nil, Nat.le_zero] at h
    simp only [execCold]
    cases htd : cs.todo w with
    | nil => rfl
    | cons i r => rw [htd] at h; cases i <;> simp [coldFuel] at h
  | cons w0 turns ih =>
    intro cs h
    simp only [execCold]
    apply ih
    by_cases hw : w0 = w
    · subst hw
      simp only [List.count_cons_self] at h
      rcases turn_todo_self init cs w0 with ⟨_, h2⟩ | h2
      · rw [h2]; simp [coldFuel]
      · omega
    · rw [turn_todo_other init cs w0 w (fun e => hw e.symm)]
      rw [List.count_cons_of_ne hw] at h
      exact h

theorem count_seqTurns (n fuel w : Nat) : (seqTurns n fuel).count w = if w < n then fuel else 0 := by
  induction n with
  | zero => simp [seqTurns]
  | succ n ih =>
    have e : seqTurns (n + 1) fuel = seqTurns n fuel ++ List.replicate fuel n := by
      simp [seqTurns, List.range_succ, List.flatMap_append]
    rw [e, List.count_append, ih, List.count_replicate]
    by_cases h1 : w < n
    · have : ¬ n = w := by omega
      simp [h1, this]; omega
    · by_cases h2 : n = w
      · subst h2; simp
      · have : ¬ w < n + 1 := by omega
        simp [h1, h2, this]

end Carquet.Proofs.Par
