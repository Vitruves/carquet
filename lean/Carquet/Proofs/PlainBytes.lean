import Carquet.Proofs.PlainFixed
/-
Helper lemmas for PLAIN BYTE_ARRAY: the position-based loop of the C decoder is safe on arbitrary
input and follows the Spec decoder, where that accepts (values below 2 GiB) and where it rejects; the
encoder's bytes are the Spec encoder's.
-/
namespace Carquet.Proofs.Plain
open Carquet.Impl.Plain
open Carquet.Spec.Plain (leBytes ofLeBytes)

theorem toInt32_nonneg_of_lt {x : UInt32} (h : x.toNat < 2 ^ 31) : ¬ toInt32 x < 0 := by
  simp only [toInt32]; split <;> omega

theorem toNat_ofNat_lt {n : Nat} (h : n < 2 ^ 32) : (UInt32.ofNat n).toNat = n := by
  rw [UInt32.toNat_ofNat']; exact Nat.mod_eq_of_lt h

/-- One record of the encoder's output. -/
def baRecord (v : List UInt8) : List UInt8 :=
  memU32 (UInt32.ofNat v.length) ++ (if v.length > 0 then v else [])

theorem baRecord_eq (v : List UInt8) : baRecord v = memU32 (UInt32.ofNat v.length) ++ v := by
  unfold baRecord
  cases v with
  | nil => simp
  | cons a l => simp

theorem encodeByteArray_cons (v : List UInt8) (vs : List (List UInt8)) :
    encodeByteArray (v :: vs) = baRecord v ++ encodeByteArray vs := by
  simp [encodeByteArray, baRecord]

/-- Slices the decoder returns for the values `vs` when started at `pos`. -/
def expectedSlices : Nat → List (List UInt8) → List (Nat × Nat)
  | _, [] => []
  | pos, v :: vs => (pos + 4, v.length) :: expectedSlices (pos + 4 + v.length) vs

/-! ### one iteration, on the Impl and on the Spec side -/

theorem drop_four {input : List UInt8} {pos : Nat} (h : pos + 4 ≤ input.length) :
    ∃ b0 b1 b2 b3, input.drop pos = b0 :: b1 :: b2 :: b3 :: input.drop (pos + 4) :=
  ⟨input[pos], input[pos + 1], input[pos + 2], input[pos + 3], by
    rw [List.drop_eq_getElem_cons (by omega), List.drop_eq_getElem_cons (by omega),
      List.drop_eq_getElem_cons (by omega), List.drop_eq_getElem_cons (by omega)]⟩

theorem loadU32_toNat (b0 b1 b2 b3 : UInt8) :
    (loadU32 b0 b1 b2 b3).toNat = ofLeBytes [b0, b1, b2, b3] := by
  rw [loadU32_eq_ofLe, UInt32.toNat_ofNat']
  exact Nat.mod_eq_of_lt (ofLeBytes_lt _ (k := 4) rfl)

theorem spec_ba_step (n : Nat) (b0 b1 b2 b3 : UInt8) (tail : List UInt8) :
    Spec.Plain.decodeByteArray (n + 1) (b0 :: b1 :: b2 :: b3 :: tail) =
      if tail.length < (loadU32 b0 b1 b2 b3).toNat then none
      else match Spec.Plain.decodeByteArray n (tail.drop (loadU32 b0 b1 b2 b3).toNat) with
        | none => none
        | some (vs, rest) => some (tail.take (loadU32 b0 b1 b2 b3).toNat :: vs, rest) := by
  rw [Spec.Plain.decodeByteArray, if_neg (by simp)]
  simp only [List.take_succ_cons, List.take_zero, List.drop_succ_cons, List.drop_zero, ← loadU32_toNat]
  by_cases hc : tail.length < (loadU32 b0 b1 b2 b3).toNat
  · rw [if_pos hc, if_pos hc]
  · rw [if_neg hc, if_neg hc]
    cases Spec.Plain.decodeByteArray n (List.drop (loadU32 b0 b1 b2 b3).toNat tail) with
    | none => rfl
    | some q => rfl

theorem impl_ba_step (input : List UInt8) (n pos : Nat) (b0 b1 b2 b3 : UInt8) (tail : List UInt8)
    (h4 : pos + 4 ≤ input.length) (hd : input.drop pos = b0 :: b1 :: b2 :: b3 :: tail) :
    baLoop input (n + 1) pos =
      if toInt32 (loadU32 b0 b1 b2 b3) < 0 ∨ pos + 4 + (loadU32 b0 b1 b2 b3).toNat > input.length then some none
      else match baLoop input n (pos + 4 + (loadU32 b0 b1 b2 b3).toNat) with
        | some (some (sl, p)) => some (some ((pos + 4, (loadU32 b0 b1 b2 b3).toNat) :: sl, p))
        | r => r := by
  rw [baLoop, if_neg (by omega), hd]
  rfl

/-! ### safety on arbitrary input -/

theorem baLoop_safe (input : List UInt8) : ∀ (n pos : Nat), pos ≤ input.length →
    ∃ r, baLoop input n pos = some r ∧
      ∀ sl p, r = some (sl, p) →
        p ≤ input.length ∧ pos ≤ p ∧ sl.length = n ∧ ∀ s ∈ sl, s.1 + s.2 ≤ input.length
  | 0, pos, h => ⟨some ([], pos), rfl, by
      intro sl p e
      simp only [Option.some.injEq, Prod.mk.injEq] at e
      obtain ⟨rfl, rfl⟩ := e
      exact ⟨h, Nat.le_refl _, rfl, by simp⟩⟩
  | n + 1, pos, h => by
    by_cases h4 : pos + 4 ≤ input.length
    · obtain ⟨b0, b1, b2, b3, hd⟩ := drop_four h4
      rw [impl_ba_step input n pos b0 b1 b2 b3 _ h4 hd]
      generalize loadU32 b0 b1 b2 b3 = len
      by_cases hc : toInt32 len < 0 ∨ pos + 4 + len.toNat > input.length
      · rw [if_pos hc]; exact ⟨none, rfl, by intro sl p e; cases e⟩
      · rw [if_neg hc]
        have hle : pos + 4 + len.toNat ≤ input.length := by omega
        obtain ⟨r, hr, hprop⟩ := baLoop_safe input n (pos + 4 + len.toNat) hle
        rw [hr]
        match r, hprop with
        | none, _ => exact ⟨none, rfl, by intro sl p e; cases e⟩
        | some (sl, p), hprop =>
          obtain ⟨hp1, hp2, hp3, hp4⟩ := hprop sl p rfl
          refine ⟨some ((pos + 4, len.toNat) :: sl, p), rfl, ?_⟩
          intro sl' p' e
          simp only [Option.some.injEq, Prod.mk.injEq] at e
          obtain ⟨rfl, rfl⟩ := e
          exact ⟨hp1, by omega, by rw [List.length_cons, hp3], List.forall_mem_cons.mpr ⟨hle, hp4⟩⟩
    · rw [baLoop, if_pos (by omega)]; exact ⟨none, rfl, by intro sl p e; cases e⟩

/-! ### bridge to the Spec -/

theorem encodeByteArray_eq_spec (vs : List (List UInt8)) (h : ∀ v ∈ vs, v.length < 2 ^ 32) :
    encodeByteArray vs = Spec.Plain.encodeByteArray vs := by
  induction vs with
  | nil => rfl
  | cons v vs ih =>
    rw [encodeByteArray_cons, ih (fun w hw => h w (by simp [hw])), baRecord_eq, memU32_eq_leBytes,
      toNat_ofNat_lt (h v (by simp))]
    simp [Spec.Plain.encodeByteArray]

theorem spec_decodeByteArray_encode (vs : List (List UInt8)) (rest : List UInt8)
    (h : ∀ v ∈ vs, v.length < 2 ^ 32) :
    Spec.Plain.decodeByteArray vs.length (Spec.Plain.encodeByteArray vs ++ rest) = some (vs, rest) := by
  induction vs with
  | nil => simp [Spec.Plain.decodeByteArray, Spec.Plain.encodeByteArray]
  | cons v vs ih =>
    have hv : v.length < 256 ^ 4 := h v (by simp)
    have ih' := ih (fun w hw => h w (by simp [hw]))
    have e : Spec.Plain.encodeByteArray (v :: vs) ++ rest
        = leBytes 4 v.length ++ (v ++ (Spec.Plain.encodeByteArray vs ++ rest)) := by
      simp [Spec.Plain.encodeByteArray, List.append_assoc]
    have ht : List.take 4 (leBytes 4 v.length ++ (v ++ (Spec.Plain.encodeByteArray vs ++ rest)))
        = leBytes 4 v.length := List.take_left' (leBytes_length 4 _)
    have hd : List.drop 4 (leBytes 4 v.length ++ (v ++ (Spec.Plain.encodeByteArray vs ++ rest)))
        = v ++ (Spec.Plain.encodeByteArray vs ++ rest) := List.drop_left' (leBytes_length 4 _)
    rw [e, List.length_cons, Spec.Plain.decodeByteArray, ht, hd, ofLeBytes_leBytes, Nat.mod_eq_of_lt hv,
      if_neg (by simp [leBytes_length]), if_neg (by simp), List.drop_left, List.take_left, ih']

theorem spec_decodeByteArray_length_le : ∀ (n : Nat) (bs : List UInt8) (vs : List (List UInt8)) (rest : List UInt8),
    Spec.Plain.decodeByteArray n bs = some (vs, rest) → ∀ v ∈ vs, v.length ≤ bs.length
  | 0, bs, vs, rest, h => by
    simp only [Spec.Plain.decodeByteArray, Option.some.injEq, Prod.mk.injEq] at h
    rw [← h.1]; simp
  | n + 1, bs, vs, rest, h => by
    rw [Spec.Plain.decodeByteArray] at h
    split at h
    · cases h
    · split at h
      · cases h
      · cases hr : Spec.Plain.decodeByteArray n ((bs.drop 4).drop (ofLeBytes (bs.take 4))) with
        | none => rw [hr] at h; cases h
        | some q =>
          obtain ⟨vs', rest'⟩ := q
          rw [hr] at h
          simp only [Option.some.injEq, Prod.mk.injEq] at h
          obtain ⟨rfl, rfl⟩ := h
          intro v hm
          rcases List.mem_cons.mp hm with rfl | hm
          · rw [List.length_take, List.length_drop]; omega
          · have := spec_decodeByteArray_length_le n _ _ _ hr v hm
            rw [List.length_drop, List.length_drop] at this; omega

/-- Where the Spec decoder rejects, the C loop returns −1 (whatever the sign of the prefixes). -/
theorem baLoop_reject (input : List UInt8) : ∀ (n pos : Nat), pos ≤ input.length →
    Spec.Plain.decodeByteArray n (input.drop pos) = none → baLoop input n pos = some none
  | 0, pos, _, hs => by cases hs
  | n + 1, pos, h, hs => by
    by_cases h4 : pos + 4 ≤ input.length
    · obtain ⟨b0, b1, b2, b3, hd⟩ := drop_four h4
      rw [hd, spec_ba_step, List.length_drop, List.drop_drop] at hs
      rw [impl_ba_step input n pos b0 b1 b2 b3 _ h4 hd]
      generalize loadU32 b0 b1 b2 b3 = len at hs ⊢
      by_cases hc : toInt32 len < 0 ∨ pos + 4 + len.toNat > input.length
      · rw [if_pos hc]
      · rw [if_neg hc]
        rw [if_neg (by omega)] at hs
        have hn : Spec.Plain.decodeByteArray n (input.drop (pos + 4 + len.toNat)) = none := by
          cases hr : Spec.Plain.decodeByteArray n (input.drop (pos + 4 + len.toNat)) with
          | none => rfl
          | some q => obtain ⟨vs, rest⟩ := q; rw [hr] at hs; cases hs
        rw [baLoop_reject input n _ (by omega) hn]
    · rw [baLoop, if_pos (by omega)]

theorem baLoop_accept (input : List UInt8) : ∀ (n pos : Nat) (vs : List (List UInt8)) (rest : List UInt8),
    pos ≤ input.length → Spec.Plain.decodeByteArray n (input.drop pos) = some (vs, rest) →
    (∀ v ∈ vs, v.length < 2 ^ 31) →
    baLoop input n pos = some (some (expectedSlices pos vs, input.length - rest.length)) ∧
      (expectedSlices pos vs).map (slice input) = vs
  | 0, pos, vs, rest, _, hs, _ => by
    simp only [Spec.Plain.decodeByteArray, Option.some.injEq, Prod.mk.injEq] at hs
    obtain ⟨rfl, rfl⟩ := hs
    exact ⟨by rw [baLoop, List.length_drop, Nat.sub_sub_self ‹_›]; rfl, rfl⟩
  | n + 1, pos, vs, rest, h, hs, hv => by
    have h4 : pos + 4 ≤ input.length := Nat.le_of_not_lt fun hlt => by
      rw [Spec.Plain.decodeByteArray, if_pos (by rw [List.length_drop]; omega)] at hs; cases hs
    obtain ⟨b0, b1, b2, b3, hd⟩ := drop_four h4
    rw [hd, spec_ba_step, List.length_drop, List.drop_drop] at hs
    rw [impl_ba_step input n pos b0 b1 b2 b3 _ h4 hd]
    generalize loadU32 b0 b1 b2 b3 = len at hs ⊢
    split at hs
    · cases hs
    · rename_i hfit
      cases hr : Spec.Plain.decodeByteArray n (input.drop (pos + 4 + len.toNat)) with
      | none => rw [hr] at hs; cases hs
      | some q =>
        obtain ⟨vs', rest'⟩ := q
        rw [hr] at hs
        simp only [Option.some.injEq, Prod.mk.injEq] at hs
        obtain ⟨rfl, rfl⟩ := hs
        have hl : ((input.drop (pos + 4)).take len.toNat).length = len.toNat := by
          rw [List.length_take, List.length_drop]; omega
        have hneg : ¬ toInt32 len < 0 := toInt32_nonneg_of_lt (hl ▸ hv _ (by simp))
        obtain ⟨ih1, ih2⟩ := baLoop_accept input n (pos + 4 + len.toNat) vs' rest' (by omega) hr
          (fun v hm => hv v (by simp [hm]))
        rw [if_neg (by omega), ih1, expectedSlices, List.map_cons, hl, ih2]
        exact ⟨rfl, rfl⟩

end Carquet.Proofs.Plain
