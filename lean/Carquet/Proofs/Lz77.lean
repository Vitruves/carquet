/-
What Snappy and LZ4 have in common: a back-reference `(off, n)` appends `n` bytes, each the byte `off`
positions before the end of the output at that moment, so a reference may overlap its own output.
`backCopy` is that operation on lists; every copy loop of the two Specs and the two models is an instance of it
under `0 < off ≤ |output|`.  `backCopy_take` is the one fact the compressors need: where the data repeats
itself at distance `off` (`Repeats`), the copy rebuilds the next `n` bytes of the data from its prefix.
-/
namespace Carquet.Proofs.Lz77

def backCopy (off : Nat) : Nat → List UInt8 → List UInt8
  | 0, o => o
  | n + 1, o => backCopy off n (o ++ o[o.length - off]?.toList)

theorem back_get {off : Nat} {o : List UInt8} (h0 : 0 < off) (h1 : off ≤ o.length) :
    o[o.length - off]? = some (o[o.length - off]'(by omega)) :=
  List.getElem?_eq_getElem _

theorem backCopy_succ {off : Nat} {o : List UInt8} (h0 : 0 < off) (h1 : off ≤ o.length) (n : Nat) :
    backCopy off (n + 1) o = backCopy off n (o ++ [o[o.length - off]'(by omega)]) := by
  rw [backCopy, back_get h0 h1]; rfl

theorem backCopy_length {off : Nat} (h0 : 0 < off) : ∀ (n : Nat) {o : List UInt8}, off ≤ o.length →
    (backCopy off n o).length = o.length + n
  | 0, _, _ => rfl
  | n + 1, o, h1 => by
    rw [backCopy_succ h0 h1, backCopy_length h0 n (by simp; omega), List.length_append, List.length_singleton]
    omega

theorem length_le_backCopy (off : Nat) : ∀ (n : Nat) (o : List UInt8), o.length ≤ (backCopy off n o).length
  | 0, _ => Nat.le_refl _
  | n + 1, o => Nat.le_trans (by rw [List.length_append]; exact Nat.le_add_right _ _) (length_le_backCopy off n _)

theorem backCopy_add (off : Nat) : ∀ (a b : Nat) (o : List UInt8),
    backCopy off (a + b) o = backCopy off b (backCopy off a o)
  | 0, b, o => by rw [Nat.zero_add]; rfl
  | a + 1, b, o => by rw [Nat.add_right_comm, backCopy, backCopy_add off a b, backCopy]

/-- until the copy catches up with its own output it is a block copy -/
theorem backCopy_block {off : Nat} (h0 : 0 < off) {o : List UInt8} (h1 : off ≤ o.length) : ∀ k : Nat, k ≤ off →
    backCopy off k o = o ++ (o.drop (o.length - off)).take k
  | 0, _ => by simp [backCopy]
  | k + 1, hk => by
    have hlen : (o ++ ((o.drop (o.length - off)).take k)).length = o.length + k := by simp; omega
    have e : o.length - off + k = o.length + k - off := by omega
    have hidx : o.length + k - off < o.length := by omega
    rw [backCopy_add off k 1, backCopy_block h0 h1 k (by omega), backCopy, backCopy, hlen,
      List.getElem?_append_left hidx, List.getElem?_eq_getElem hidx, List.take_succ_eq_append_getElem (by simp; omega),
      List.getElem_drop, List.append_assoc]
    simp only [e, Option.toList_some]

/-- the `len` bytes of `x` from `p` on repeat the bytes `off` before them -/
def Repeats (x : List UInt8) (p off len : Nat) : Prop := ∀ i, i < len → x[p + i]? = x[p + i - off]?

theorem Repeats.split {x : List UInt8} {p off a b : Nat} (h : Repeats x p off (a + b)) :
    Repeats x p off a ∧ Repeats x (p + a) off b :=
  ⟨fun i hi => h i (by omega), fun i hi => by rw [Nat.add_assoc]; exact h (a + i) (by omega)⟩

theorem backCopy_take {x : List UInt8} {off : Nat} (h0 : 0 < off) : ∀ (n : Nat) {p : Nat}, off ≤ p → p + n ≤ x.length →
    Repeats x p off n → backCopy off n (x.take p) = x.take (p + n)
  | 0, _, _, _, _ => rfl
  | n + 1, p, h1, h2, h => by
    have hp : p < x.length := by omega
    have hlen : (x.take p).length = p := by rw [List.length_take]; omega
    have hb : (x.take p)[(x.take p).length - off]? = some x[p] := by
      have h00 := h 0 (by omega)
      rw [Nat.add_zero] at h00
      rw [hlen, List.getElem?_take_of_lt (by omega), ← h00, List.getElem?_eq_getElem hp]
    rw [backCopy, hb, Option.toList_some, ← List.take_succ_eq_append_getElem hp,
      backCopy_take h0 n (by omega) (by omega) (Repeats.split (a := 1) (by rwa [Nat.add_comm 1 n])).2, Nat.add_assoc,
      Nat.add_comm 1 n]

end Carquet.Proofs.Lz77
