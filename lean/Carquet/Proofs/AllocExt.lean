import Carquet.Impl.AllocExt
import Carquet.Proofs.AllocFlow
import Carquet.Proofs.AllocFlowClean
/-
Helper lemmas for the second wave of C19 models (Impl/AllocExt.lean): metadata builders (Bloom filter,
statistics builder, page index builders with their heap bookkeeping) and the page-by-page column reader.
-/
namespace Carquet.Impl.Alloc.Ext
open Carquet.Impl.Alloc
open Carquet.Impl.Alloc.Flow
open Carquet.Impl.Alloc.Buffer (Buf)

/-! ### Bloom filter, statistics builder, index serialisers -/

theorem run_bloomCreate : Strict bloomCreate := strict_bind run_req fun _ _ => run_req

theorem run_indexSerialize (out : Buf) (chunks : List (List UInt8)) : Strict (indexSerialize true out chunks) := by
  simp only [indexSerialize, if_true]; exact run_encodeChecked out chunks

theorem run_statsCopy (ar : Option Arena.Arena) (len : Nat) : Run (statsCopy ar len) fun g r => r.2 = true → g = true := by
  cases ar with
  | none => exact run_bind run_reqU fun _ _ hg => run_pure fun h => by simpa [← hg] using h
  | some a => exact run_bind (run_arenaU ..) fun _ _ hg => run_pure fun h => by simpa using hg h

/-- one bound of carquet_statistics_build: copied when there is one, and then the copy is tested; a build that gets
past the test has the bound exactly when the builder has it -/
theorem run_bound {ar : Option Arena.Arena} {len : Nat} {k : Option Arena.Arena × Bool → M α} {R : Bool → α → Prop}
    (h : ∀ mn, mn.2 = decide (len > 0) → Run (k mn) R) :
    Run (M.bind (if len > 0 then statsCopy ar len else M.pure (ar, false)) fun mn =>
      guardGot (true && decide (len > 0)) mn.2 (k mn)) R := by
  by_cases hl : len > 0
  · simp only [hl, if_true, Bool.true_and, decide_true]
    exact run_bind (run_statsCopy ..) fun _ mn hg => run_guard fun hgot => by
      obtain rfl := hg hgot; exact h mn (by simpa [hl] using hgot)
  · simp only [hl, if_false, Bool.true_and, decide_false]
    exact run_bind (run_pure (Q := fun g mn => g = true ∧ mn.2 = false) ⟨rfl, rfl⟩) fun _ mn hmn => by
      obtain ⟨rfl, hmn⟩ := hmn; simpa [guardGot] using h mn (by simpa [hl] using hmn)

/-- after F20h: a build that reports OK carries every bound the builder has -/
theorem run_statisticsBuild (ar : Option Arena.Arena) (minLen maxLen : Nat) :
    Strict (statisticsBuild true ar minLen maxLen) fun r => r.2 = ⟨decide (minLen > 0), decide (maxLen > 0)⟩ :=
  run_bound fun _ hmn => run_bound fun _ hmx => strict_pure (by rw [hmn, hmx])

/-! ### heap bookkeeping of the index builders -/

/-- number of live blocks among some pointer fields -/
def liveCount : List Ptr → Nat
  | [] => 0
  | .live :: ps => liveCount ps + 1
  | _ :: ps => liveCount ps

def NoDangling (ps : List Ptr) : Prop := ∀ p ∈ ps, p ≠ .dangling

theorem noDangling_cons {p : Ptr} {ps : List Ptr} : NoDangling (p :: ps) ↔ p ≠ .dangling ∧ NoDangling ps := by
  simp [NoDangling]

theorem liveCount_append (a b : List Ptr) : liveCount (a ++ b) = liveCount a + liveCount b := by
  induction a with
  | nil => simp [liveCount]
  | cons p ps ih => cases p <;> simp [liveCount, ih] <;> omega

theorem liveCount_snoc (ps : List Ptr) (p : Ptr) : liveCount (ps ++ [p]) = liveCount ps + liveCount [p] :=
  liveCount_append ps [p]

theorem noDangling_append {a b : List Ptr} : NoDangling (a ++ b) ↔ NoDangling a ∧ NoDangling b := by
  simp only [NoDangling, List.mem_append]
  constructor
  · intro h; exact ⟨fun p hp => h p (Or.inl hp), fun p hp => h p (Or.inr hp)⟩
  · rintro ⟨h1, h2⟩ p (hp | hp)
    · exact h1 p hp
    · exact h2 p hp

theorem freeAll_spec (ps : List Ptr) (hn : NoDangling ps) (k : Nat) :
    freeAll ps ⟨k + liveCount ps, false⟩ = ⟨k, false⟩ := by
  induction ps with
  | nil => rfl
  | cons p ps ih =>
    obtain ⟨hp, hps⟩ := noDangling_cons.mp hn
    cases p with
    | null => exact ih hps
    | live => exact ih hps
    | dangling => exact absurd rfl hp

/-- a pointer field and the bookkeeping after an allocation from `m` that may have been refused or not been asked
for: a live pointer and one more live block, or NULL and nothing changed -/
def Copied (m : Mem) (r : Ptr × Mem × Oracle) : Prop :=
  (r.1 = .live ∧ r.2.1 = { m with liveBlocks := m.liveBlocks + 1 }) ∨ (r.1 = .null ∧ r.2.1 = m)

theorem mallocP_spec (m : Mem) (o : Oracle) : Copied m (mallocP m o) := by
  unfold Copied mallocP
  by_cases hg : o.grant = true <;> simp [hg]

theorem Copied.spec {m : Mem} {r : Ptr × Mem × Oracle} (h : Copied m r) :
    r.1 ≠ .dangling ∧ r.2.1 = { m with liveBlocks := m.liveBlocks + liveCount [r.1] } := by
  rcases h with ⟨hp, hm⟩ | ⟨hp, hm⟩ <;> rw [hp, hm] <;> exact ⟨nofun, rfl⟩

theorem Copied.of_ne_live {m : Mem} {r : Ptr × Mem × Oracle} (h : Copied m r) (hn : (r.1 != .live) = true) : r.2.1 = m := by
  rcases h with ⟨hp, -⟩ | ⟨-, hm⟩
  · rw [hp] at hn; cases hn
  · exact hm

theorem Copied.free {m : Mem} {r : Ptr × Mem × Oracle} (h : Copied m r) : freeP r.1 r.2.1 = m := by
  rcases h with ⟨hp, hm⟩ | ⟨hp, hm⟩ <;> rw [hp, hm] <;> rfl

theorem mallocN_spec (n : Nat) (m : Mem) (o : Oracle) :
    NoDangling (mallocN n m o).1 ∧ (mallocN n m o).1.length = n ∧
    (mallocN n m o).2.1 = { m with liveBlocks := m.liveBlocks + liveCount (mallocN n m o).1 } := by
  induction n generalizing m o with
  | zero => simp [mallocN, NoDangling, liveCount]
  | succ n ih =>
    simp only [mallocN]
    obtain ⟨h1, h2, h3⟩ := ih (mallocP m o).2.1 (mallocP m o).2.2
    rcases mallocP_spec m o with ⟨hp, hm⟩ | ⟨hp, hm⟩
    · refine ⟨noDangling_cons.mpr ⟨by rw [hp]; decide, h1⟩, by simp [h2], ?_⟩
      rw [h3, hm, hp]; simp [liveCount]; omega
    · refine ⟨noDangling_cons.mpr ⟨by rw [hp]; decide, h1⟩, by simp [h2], ?_⟩
      rw [h3, hm, hp]; simp [liveCount]

theorem all_live_iff (ps : List Ptr) : ps.all (· == .live) = true ↔ ∀ p ∈ ps, p = .live := by
  simp [List.all_eq_true]

theorem liveCount_all_live (ps : List Ptr) (h : ∀ p ∈ ps, p = .live) : liveCount ps = ps.length := by
  induction ps with
  | nil => rfl
  | cons p ps ih =>
    have hp := h p (by simp); subst hp
    simp [liveCount, ih (fun q hq => h q (by simp [hq]))]

theorem noDangling_of_all_live (ps : List Ptr) (h : ∀ p ∈ ps, p = .live) : NoDangling ps := by
  intro p hp; rw [h p hp]; decide

/-- the builder owns exactly its blocks: the struct, six live arrays, the page copies that exist; nothing dangles;
`base` blocks belong to someone else -/
structure ColIdx.Owns (b : ColIdx) (m : Mem) (base : Nat) : Prop where
  arrays : ∀ p ∈ b.arrays, p = .live
  mins : NoDangling (b.pages.map (·.1))
  maxs : NoDangling (b.pages.map (·.2))
  count : m.liveBlocks = base + 1 + b.arrays.length + liveCount (b.pages.map (·.1)) + liveCount (b.pages.map (·.2))
  clean : m.crashed = false

theorem colIdxDestroy_owned (b : ColIdx) (m : Mem) (base : Nat) (h : b.Owns m base) : colIdxDestroy b m = ⟨base, false⟩ := by
  obtain ⟨lb, cr⟩ := m
  obtain rfl : cr = false := h.clean
  obtain rfl : lb = base + 1 + liveCount b.arrays + liveCount (b.pages.map (·.2)) + liveCount (b.pages.map (·.1)) := by
    have hc : lb = _ := h.count
    rw [liveCount_all_live _ h.arrays]; omega
  unfold colIdxDestroy
  rw [freeAll_spec _ h.mins, freeAll_spec _ h.maxs, freeAll_spec _ (noDangling_of_all_live _ h.arrays)]; rfl

theorem reallocP_live (m : Mem) (o : Oracle) : (reallocP Ptr.live m o).2.1 = m := by
  unfold reallocP; by_cases hg : o.grant = true <;> simp [hg]

/-- growing array by array (after F20i): arrays that were live stay live, no block is gained or lost, nothing
dangles — whether or not a request is refused on the way -/
theorem growSeq_spec {ps : List Ptr} {m : Mem} {o : Oracle} (h : ∀ p ∈ ps, p = .live) :
    (∀ p ∈ (growSeq ps m o).1, p = .live) ∧ (growSeq ps m o).1.length = ps.length ∧ (growSeq ps m o).2.2.1 = m := by
  fun_induction growSeq ps m o with
  | case1 => exact ⟨h, rfl, rfl⟩
  | case2 p ps m o _ ih =>
    obtain rfl : p = .live := h p (by simp)
    obtain ⟨h1, h2, h3⟩ := ih fun q hq => h q (by simp [hq])
    exact ⟨by simpa using h1, by simp [h2], by rw [h3, reallocP_live]⟩
  | case3 p ps m o _ =>
    obtain rfl : p = .live := h p (by simp)
    exact ⟨h, rfl, reallocP_live m o⟩

theorem colIdxEnsure_owned {b : ColIdx} {m : Mem} {base : Nat} (h : b.Owns m base) (o : Oracle) :
    (colIdxEnsure true b m o).2.1.Owns (colIdxEnsure true b m o).2.2.1 base ∧
    (colIdxEnsure true b m o).2.1.pages = b.pages := by
  obtain ⟨g1, g2, g3⟩ := growSeq_spec (m := m) (o := o) h.arrays
  have hg : ColIdx.Owns { b with arrays := (growSeq b.arrays m o).1 } (growSeq b.arrays m o).2.2.1 base :=
    ⟨g1, h.mins, h.maxs, by rw [g3]; show _ = base + 1 + (growSeq b.arrays m o).1.length + _ + _; rw [g2]; exact h.count,
      by rw [g3]; exact h.clean⟩
  unfold colIdxEnsure
  split
  · exact ⟨h, rfl⟩
  · rw [if_pos rfl]
    split <;> exact ⟨⟨hg.arrays, hg.mins, hg.maxs, hg.count, hg.clean⟩, rfl⟩
theorem owns_push {b : ColIdx} {m : Mem} {base : Nat} (h : b.Owns m base) {mn mx : Ptr × Mem × Oracle}
    (hmn : Copied m mn) (hmx : Copied mn.2.1 mx) :
    ColIdx.Owns { b with pages := b.pages ++ [(mn.1, mx.1)] } mx.2.1 base := by
  obtain ⟨d1, e1⟩ := hmn.spec
  obtain ⟨d2, e2⟩ := hmx.spec
  refine ⟨h.arrays, ?_, ?_, ?_, by rw [e2, e1]; exact h.clean⟩
  · simp only [List.map_append, List.map_cons, List.map_nil]
    exact noDangling_append.mpr ⟨h.mins, by intro p hp; simp at hp; subst hp; exact d1⟩
  · simp only [List.map_append, List.map_cons, List.map_nil]
    exact noDangling_append.mpr ⟨h.maxs, by intro p hp; simp at hp; subst hp; exact d2⟩
  · rw [e2, e1]
    simp only [List.map_append, List.map_cons, List.map_nil, liveCount_append]
    have := h.count
    omega

/-- carquet_column_index_add_page after F20i, on a builder that owns its blocks, under every oracle: the builder still
owns exactly its blocks afterwards; a failing call leaves the pages as they were, a succeeding one adds one page -/
theorem colIdxAddPage_owned (b : ColIdx) (hasMin hasMax : Bool) (m : Mem) (o : Oracle) (base : Nat) (h : b.Owns m base) :
    (colIdxAddPage true b hasMin hasMax m o).2.1.Owns (colIdxAddPage true b hasMin hasMax m o).2.2.1 base ∧
    ((colIdxAddPage true b hasMin hasMax m o).1 ≠ .ok → (colIdxAddPage true b hasMin hasMax m o).2.1.pages = b.pages) ∧
    ((colIdxAddPage true b hasMin hasMax m o).1 = .ok →
        (colIdxAddPage true b hasMin hasMax m o).2.1.pages.length = b.pages.length + 1) := by
  obtain ⟨hown, hpages⟩ := colIdxEnsure_owned h o
  unfold colIdxAddPage
  generalize colIdxEnsure true b m o = r at hown hpages
  obtain ⟨st, b1, m1, o1⟩ := r
  simp only at hown hpages
  cases st with
  | oom => exact ⟨hown, fun _ => hpages, nofun⟩
  | other => exact ⟨hown, fun _ => hpages, nofun⟩
  | ok =>
    simp only
    have hmn : Copied m1 (if hasMin then mallocP m1 o1 else (Ptr.null, m1, o1)) := by
      cases hasMin
      · exact .inr ⟨rfl, rfl⟩
      · exact mallocP_spec m1 o1
    by_cases hc : (hasMin && (mallocP m1 o1).1 != .live) = true
    · rw [if_pos hc]
      rw [Bool.and_eq_true] at hc
      refine ⟨?_, fun _ => hpages, nofun⟩
      show b1.Owns (mallocP m1 o1).2.1 base
      rw [(mallocP_spec m1 o1).of_ne_live hc.2]; exact hown
    · rw [if_neg hc]
      generalize (if hasMin then mallocP m1 o1 else (Ptr.null, m1, o1)) = mn at hmn
      have hmx := mallocP_spec mn.2.1 mn.2.2
      by_cases hc : (hasMax && (mallocP mn.2.1 mn.2.2).1 != .live) = true
      · -- the copy of the minimum is released again
        simp only [if_pos hc]
        rw [Bool.and_eq_true] at hc
        refine ⟨?_, fun _ => hpages, nofun⟩
        rw [hmx.of_ne_live hc.2, hmn.free]; exact hown
      · simp only [if_neg hc]
        cases hasMax with
        | true =>
          have hl : (mallocP mn.2.1 mn.2.2).1 = .live := by simpa using hc
          have := owns_push hown hmn hmx
          rw [hl] at this
          exact ⟨this, fun hc => absurd rfl hc, fun _ => by simp [hpages]⟩
        | false =>
          exact ⟨owns_push hown hmn (mx := (Ptr.null, mn.2)) (.inr ⟨rfl, rfl⟩), fun hc => absurd rfl hc,
            fun _ => by simp [hpages]⟩

/-- a whole session after F20i: pages are added until a call fails, then the builder is destroyed — under every oracle
no freed block is touched and every block is released -/
theorem colIdxSession_safe (pgs : List (Bool × Bool)) (b : ColIdx) (m : Mem) (o : Oracle) (base : Nat) (h : b.Owns m base) :
    (colIdxSession true pgs b m o).2.1 = ⟨base, false⟩ := by
  induction pgs generalizing b m o with
  | nil => simp only [colIdxSession]; exact colIdxDestroy_owned b m base h
  | cons pg pgs ih =>
    simp only [colIdxSession]
    obtain ⟨hown, _, _⟩ := colIdxAddPage_owned b pg.1 pg.2 m o base h
    generalize colIdxAddPage true b pg.1 pg.2 m o = r at hown
    obtain ⟨st, b1, m1, o1⟩ := r
    simp only at hown
    cases st with
    | ok => simp only; exact ih b1 m1 o1 hown
    | oom => simp only; exact colIdxDestroy_owned b1 m1 base hown
    | other => simp only; exact colIdxDestroy_owned b1 m1 base hown

/-- carquet_column_index_builder_create: a builder that owns its blocks, or NULL with nothing left allocated -/
theorem colIdxCreate_spec (base : Nat) (o : Oracle) :
    match colIdxCreate ⟨base, false⟩ o with
    | (some b, m, _) => b.Owns m base ∧ b.pages = []
    | (none, m, _) => m = ⟨base, false⟩ := by
  unfold colIdxCreate
  by_cases hg : o.grant = true
  · simp only [hg, Bool.not_true, Bool.false_eq_true, if_false]
    obtain ⟨h1, h2, h3⟩ := mallocN_spec 6 ⟨base + 1, false⟩ o.rest
    by_cases hall : (mallocN 6 ⟨base + 1, false⟩ o.rest).1.all (· == .live) = true
    · simp only [hall, if_true]
      have hl := (all_live_iff _).mp hall
      refine ⟨⟨hl, by simp [NoDangling], by simp [NoDangling], ?_, ?_⟩, by trivial⟩
      · show (mallocN 6 ⟨base + 1, false⟩ o.rest).2.1.liveBlocks = _
        rw [h3, liveCount_all_live _ hl, h2]; simp [liveCount]
      · show (mallocN 6 ⟨base + 1, false⟩ o.rest).2.1.crashed = false
        rw [h3]
    · simp only [hall]
      -- some array is missing: destroy releases the ones that were obtained, and the struct
      show colIdxDestroy ⟨(mallocN 6 ⟨base + 1, false⟩ o.rest).1, [], 16⟩ (mallocN 6 ⟨base + 1, false⟩ o.rest).2.1 = ⟨base, false⟩
      unfold colIdxDestroy
      simp only [List.map_nil, freeAll]
      rw [h3, freeAll_spec _ h1]; rfl
  · simp [hg]

/-! ### offset index builder -/

structure OffIdx.Owns (b : OffIdx) (m : Mem) (base : Nat) : Prop where
  arrays : ∀ p ∈ b.arrays, p = .live
  unc : b.unc = if b.track then Ptr.live else Ptr.null
  count : m.liveBlocks = base + 1 + b.arrays.length + (if b.track then 1 else 0)
  clean : m.crashed = false

theorem offIdxDestroy_owned (b : OffIdx) (m : Mem) (base : Nat) (h : b.Owns m base) : offIdxDestroy b m = ⟨base, false⟩ := by
  obtain ⟨lb, cr⟩ := m
  obtain rfl : cr = false := h.clean
  obtain rfl : lb = base + 1 + (if b.track then 1 else 0) + liveCount b.arrays := by
    have hc : lb = _ := h.count
    rw [liveCount_all_live _ h.arrays]; omega
  unfold offIdxDestroy
  rw [freeAll_spec _ (noDangling_of_all_live _ h.arrays), h.unc]
  cases b.track <;> rfl

theorem growArrays_owned (arrays : List Ptr) (m : Mem) (o : Oracle) (h : ∀ p ∈ arrays, p = .live) :
    (∀ p ∈ (growArrays true arrays m o).2.1, p = .live) ∧ (growArrays true arrays m o).2.1.length = arrays.length ∧
    (growArrays true arrays m o).2.2.1 = m := by
  unfold growArrays
  rw [if_pos rfl]
  split <;> exact growSeq_spec h

theorem offIdxGrow_owned (b : OffIdx) (m : Mem) (o : Oracle) (base : Nat) (h : b.Owns m base) :
    (offIdxGrow true b m o).2.1.Owns (offIdxGrow true b m o).2.2.1 base := by
  obtain ⟨g1, g2, g3⟩ := growArrays_owned b.arrays m o h.arrays
  -- with the regrown arrays in place of the old ones the builder owns the same blocks
  have hg : OffIdx.Owns { b with arrays := (growArrays true b.arrays m o).2.1 } m base :=
    ⟨g1, h.unc, by show _ = base + 1 + (growArrays true b.arrays m o).2.1.length + _; rw [g2]; exact h.count, h.clean⟩
  unfold offIdxGrow
  generalize growArrays true b.arrays m o = r at g3 hg
  obtain ⟨st, arrs, m1, o1⟩ := r
  obtain rfl : m1 = m := g3
  cases st with
  | oom => exact hg
  | other => exact hg
  | ok =>
    simp only
    split
    · next ht =>
      -- the uncompressed sizes are tracked: `unc` is live, and `realloc` of a live block keeps the count
      have hu : b.unc = .live := by rw [h.unc, if_pos ht]
      have hm := reallocP_live m1 o1
      rw [hu]
      split <;> exact ⟨hg.arrays, by simp [ht], by rw [hm]; exact hg.count, by rw [hm]; exact h.clean⟩
    · exact ⟨hg.arrays, hg.unc, hg.count, hg.clean⟩
theorem offIdxAddPage_owned (b : OffIdx) (m : Mem) (o : Oracle) (base : Nat) (h : b.Owns m base) :
    (offIdxAddPage true b m o).2.1.Owns (offIdxAddPage true b m o).2.2.1 base := by
  unfold offIdxAddPage
  by_cases hcap : b.numPages < b.capacity
  · simp only [hcap, if_true]; exact ⟨h.arrays, h.unc, h.count, h.clean⟩
  · simp only [hcap, if_false]
    have hown := offIdxGrow_owned b m o base h
    generalize offIdxGrow true b m o = r at hown
    obtain ⟨st, b1, m1, o1⟩ := r
    simp only at hown
    cases st with
    | ok => simp only; exact ⟨hown.arrays, hown.unc, hown.count, hown.clean⟩
    | oom => simp only; exact hown
    | other => simp only; exact hown

theorem offIdxSession_safe (n : Nat) (b : OffIdx) (m : Mem) (o : Oracle) (base : Nat) (h : b.Owns m base) :
    (offIdxSession true n b m o).2.1 = ⟨base, false⟩ := by
  induction n generalizing b m o with
  | zero => simp only [offIdxSession]; exact offIdxDestroy_owned b m base h
  | succ n ih =>
    simp only [offIdxSession]
    have hown := offIdxAddPage_owned b m o base h
    generalize offIdxAddPage true b m o = r at hown
    obtain ⟨st, b1, m1, o1⟩ := r
    simp only at hown
    cases st with
    | ok => simp only; exact ih b1 m1 o1 hown
    | oom => simp only; exact offIdxDestroy_owned b1 m1 base hown
    | other => simp only; exact offIdxDestroy_owned b1 m1 base hown

/-- carquet_offset_index_builder_create: a builder that owns its blocks, or NULL with nothing left allocated -/
theorem offIdxCreate_spec (track : Bool) (base : Nat) (o : Oracle) :
    match offIdxCreate track ⟨base, false⟩ o with
    | (some b, m, _) => b.Owns m base ∧ b.numPages = 0
    | (none, m, _) => m = ⟨base, false⟩ := by
  unfold offIdxCreate
  by_cases hg : o.grant = true
  · simp only [hg, Bool.not_true, Bool.false_eq_true, if_false]
    obtain ⟨h1, h2, h3⟩ := mallocN_spec 3 ⟨base + 1, false⟩ o.rest
    generalize mallocN 3 ⟨base + 1, false⟩ o.rest = r at h1 h2 h3
    obtain ⟨arrs, m1, o1⟩ := r
    simp only at h1 h2 h3
    subst h3
    -- `uncompressed_sizes`, allocated only when the sizes are tracked
    have hu : Copied ⟨base + 1 + liveCount arrs, false⟩
          (if track then mallocP ⟨base + 1 + liveCount arrs, false⟩ o1 else (Ptr.null, ⟨base + 1 + liveCount arrs, false⟩, o1)) ∧
        (track = false →
          (if track then mallocP ⟨base + 1 + liveCount arrs, false⟩ o1 else (Ptr.null, ⟨base + 1 + liveCount arrs, false⟩, o1)).1 = .null) := by
      cases track
      · exact ⟨.inr ⟨rfl, rfl⟩, fun _ => rfl⟩
      · exact ⟨mallocP_spec _ o1, nofun⟩
    generalize (if track then mallocP ⟨base + 1 + liveCount arrs, false⟩ o1
      else (Ptr.null, ⟨base + 1 + liveCount arrs, false⟩, o1)) = u at hu
    obtain ⟨hu, hnull⟩ := hu
    obtain ⟨-, hm⟩ := hu.spec
    by_cases hall : (arrs.all (· == .live) && (!track || u.1 == .live)) = true
    · rw [if_pos hall]
      rw [Bool.and_eq_true, all_live_iff] at hall
      have hunc : u.1 = if track then Ptr.live else Ptr.null := by
        cases track
        · exact hnull rfl
        · simpa using hall.2
      refine ⟨⟨hall.1, hunc, ?_, by rw [hm]⟩, rfl⟩
      show u.2.1.liveBlocks = base + 1 + arrs.length + _
      rw [hm, hunc, ← liveCount_all_live _ hall.1]
      cases track <;> rfl
    · rw [if_neg hall]
      -- something is missing: destroy releases what was obtained, and the struct
      show freeP .live (freeP u.1 (freeAll arrs u.2.1)) = ⟨base, false⟩
      rw [hm]
      show freeP .live (freeP u.1 (freeAll arrs ⟨base + 1 + liveCount arrs + liveCount [u.1], false⟩)) = _
      rw [Nat.add_right_comm, freeAll_spec _ h1]
      rcases hu with ⟨hp, -⟩ | ⟨hp, -⟩ <;> rw [hp] <;> rfl
  · simp [hg]

end Carquet.Impl.Alloc.Ext
