import Carquet.Impl.ColumnReader
/-
Fuel bounds for the three `while` loops of the column reader model, for every variant of the code and
every state.  The page-load loop of `carquet_read_next_page` after repair F63 (`prepareLoop`): every
round that goes on has loaded the page at index `current_page`, and the next round looks one index
further, so `|pages| - current_page + 1` rounds are never used up.  `readLoop` never needs more than
`k - total_read + 1` iterations, `skipLoop` never more than `n - total_skipped + 1`; beyond that the
result does not depend on the fuel.  Also for every variant and state: the ways `load_next_page` succeeds
(`loadNextPage_cases`), and a read never reports more rows than asked for.
-/
namespace Carquet.Proofs.Cursor
open Carquet.Impl.ColumnReader

section fields
variable (fx : Fixes) (r : Reader α)

@[simp] theorem swapPageData_chunk : (swapPageData fx r).chunk = r.chunk := by
  unfold swapPageData; split <;> (try split) <;> rfl
@[simp] theorem swapPageData_valuesRemaining : (swapPageData fx r).valuesRemaining = r.valuesRemaining := by
  unfold swapPageData; split <;> (try split) <;> rfl
@[simp] theorem swapPageData_currentPage : (swapPageData fx r).currentPage = r.currentPage := by
  unfold swapPageData; split <;> (try split) <;> rfl

@[simp] theorem advance_chunk : (advance r).chunk = r.chunk := by unfold advance; split <;> rfl
theorem advance_currentPage : (advance r).currentPage = if r.pageLoaded then r.currentPage + 1 else r.currentPage := by
  unfold advance; split <;> rfl

end fields

/-- a round that makes progress leaves the rest of the rounds within one unit less of fuel -/
theorem sub_add_lt {n t m f : Nat} (h : n - t < f + 1) (ht : t < n) (hm : 0 < m) : n - (t + m) < f := by
  omega

/-! ### the page-load loop -/

/-- the only ways `load_next_page` succeeds: the page at `current_page` exists, fits, and is installed (or, under
F63, found empty) -/
theorem loadNextPage_cases (fx : Fixes) (r r' : Reader α) (h : loadNextPage fx r = .ok r') :
    ∃ p, r.chunk.pages[r.currentPage]? = some (some p) ∧ ¬ (p.defs.length : Int) > r.valuesRemaining ∧
      r' = if fx.f63 = true ∧ p.defs.length = 0 then installEmpty r else installPage fx r p := by
  unfold loadNextPage at h
  split at h
  · rename_i p hp
    refine ⟨p, hp, ?_⟩
    split at h
    · cases h
    · refine ⟨‹_›, ?_⟩
      split at h <;> cases h
      · exact (if_pos ‹_›).symm
      · exact (if_neg ‹_›).symm
  · cases h

theorem loadNextPage_ok (fx : Fixes) (r r' : Reader α) (h : loadNextPage fx r = .ok r') :
    r.currentPage < r.chunk.pages.length ∧ r'.chunk = r.chunk ∧ r'.currentPage = r.currentPage ∧
      r'.valuesRemaining = r.valuesRemaining ∧ r'.pageLoaded = true := by
  obtain ⟨p, hp, _, rfl⟩ := loadNextPage_cases fx r r' h
  refine ⟨(List.getElem?_eq_some_iff.mp hp).1, ?_⟩
  split
  · exact ⟨rfl, rfl, rfl, rfl⟩
  · exact ⟨swapPageData_chunk fx r, swapPageData_currentPage fx r, swapPageData_valuesRemaining fx r, rfl⟩

theorem prepareLoop_fuel (fx : Fixes) : ∀ (f1 f2 : Nat) (r : Reader α),
    r.chunk.pages.length - (advance r).currentPage < f1 → r.chunk.pages.length - (advance r).currentPage < f2 →
    prepareLoop fx f1 r = prepareLoop fx f2 r := by
  intro f1
  induction f1 with
  | zero => intro f2 r h; omega
  | succ f1 ih =>
    intro f2 r h1 h2
    cases f2 with
    | zero => omega
    | succ f2 =>
      unfold prepareLoop
      split
      · cases hl : loadNextPage fx (advance r) with
        | error e => rfl
        | ok r' =>
          simp only
          split
          · obtain ⟨hlt, hc, hcur, _, hld⟩ := loadNextPage_ok fx (advance r) r' hl
            have hadv : (advance r').currentPage = r'.currentPage + 1 := by rw [advance_currentPage, hld]; rfl
            rw [advance_chunk] at hlt hc
            exact ih f2 r' (by rw [hc, hadv, hcur]; exact sub_add_lt h1 hlt Nat.one_pos)
              (by rw [hc, hadv, hcur]; exact sub_add_lt h2 hlt Nat.one_pos)
          · rfl
      · rfl

theorem preparePage_eq_loop (fx : Fixes) (r : Reader α) (f : Nat) (h : r.chunk.pages.length < f) :
    preparePage fx r = prepareLoop fx f r := by
  unfold preparePage
  exact prepareLoop_fuel fx _ _ r (by omega) (by omega)

/-- the pinned code's `if`: one round -/
theorem prepareLoop_preF63 (fx : Fixes) (hfx : fx.f63 = false) (fuel : Nat) (r : Reader α) :
    prepareLoop fx (fuel + 1) r =
      if needLoad r then
        match loadNextPage fx (advance r) with
        | .ok r' => (r', none)
        | .error e => (advance r, some e)
      else (r, none) := by
  unfold prepareLoop
  split
  · cases loadNextPage fx (advance r) with
    | error e => rfl
    | ok r' => simp [hfx]
  · rfl

/-! ### the read loop and the skip loop -/

theorem readLoop_fuel (fx : Fixes) (wd wr : Bool) (k : Nat) : ∀ (f1 f2 : Nat) (r : Reader α) (st : LoopSt α),
    k - st.totalRead < f1 → k - st.totalRead < f2 →
    readLoop fx wd wr k f1 r st = readLoop fx wd wr k f2 r st := by
  intro f1
  induction f1 with
  | zero => intro f2 r st h; omega
  | succ f1 ih =>
    intro f2 r st h1 h2
    cases f2 with
    | zero => omega
    | succ f2 =>
      unfold readLoop
      split
      · rename_i hc
        cases hrn : readNextPage fx r ((k : Int) - (st.totalRead : Int)) with
        | mk r' res =>
          cases res with
          | error e => rfl
          | ok c =>
            simp only
            split
            · rfl
            · rename_i hc0
              exact ih f2 r' _ (sub_add_lt h1 hc.1 (Nat.pos_of_ne_zero hc0)) (sub_add_lt h2 hc.1 (Nat.pos_of_ne_zero hc0))
      · rfl

theorem skipLoop_fuel (fx : Fixes) (n : Nat) : ∀ (f1 f2 : Nat) (r : Reader α) (total : Nat),
    n - total < f1 → n - total < f2 → skipLoop fx n f1 r total = skipLoop fx n f2 r total := by
  intro f1
  induction f1 with
  | zero => intro f2 r total h; omega
  | succ f1 ih =>
    intro f2 r total h1 h2
    cases f2 with
    | zero => omega
    | succ f2 =>
      unfold skipLoop
      split
      · rename_i hc
        cases readBatch fx r ((min (n - total) Gen.Cursor.skipChunkSize : Nat) : Int) false false with
        | mk r' res =>
          simp only
          split
          · rfl
          · rename_i hpos
            have hm : 0 < res.count.toNat := Int.lt_toNat.mpr (Int.not_le.mp hpos)
            exact ih f2 r' _ (sub_add_lt h1 hc.1 hm) (sub_add_lt h2 hc.1 hm)
      · rfl

/-! ### a read never reports more rows than asked for -/

theorem toInt32_le (m : Int) (h : 0 ≤ m) : toInt32 m ≤ m := by
  unfold toInt32; omega

theorem readNextPage_rows_le (fx : Fixes) (r : Reader α) (m : Int) (hm : 0 ≤ m) (r' : Reader α) (c : PageCopy α)
    (h : readNextPage fx r m = (r', .ok c)) : (c.rows : Int) ≤ m := by
  unfold readNextPage at h
  cases hp : preparePage fx r with
  | mk r1 e =>
    rw [hp] at h
    cases e with
    | some e => simp at h
    | none =>
      simp only at h
      split at h
      · simp at h
      · rename_i hneg
        simp only [Prod.mk.injEq, Except.ok.injEq] at h
        rw [← h.2]
        simp only [pageCopy]
        have h1 : toCopyOf r1 m ≤ toInt32 m := by
          unfold toCopyOf; split <;> omega
        have h2 := toInt32_le m hm
        omega

theorem readLoop_count_le (fx : Fixes) (wd wr : Bool) (k : Nat) : ∀ (fuel : Nat) (r : Reader α) (st : LoopSt α),
    st.totalRead ≤ k → (readLoop fx wd wr k fuel r st).2.count ≤ k := by
  intro fuel
  induction fuel with
  | zero => intro r st h; simp [readLoop, LoopSt.result]; omega
  | succ fuel ih =>
    intro r st h
    unfold readLoop
    split
    · rename_i hc
      cases hrn : readNextPage fx r ((k : Int) - (st.totalRead : Int)) with
      | mk r' res =>
        cases res with
        | error e =>
          simp only
          split <;> simp [LoopSt.result] <;> omega
        | ok c =>
          simp only
          split
          · simp [LoopSt.result]; omega
          · have hle := readNextPage_rows_le fx r _ (by omega) r' c hrn
            have htr : (st.push fx wd wr c).totalRead = st.totalRead + c.rows := rfl
            exact ih r' _ (by rw [htr]; omega)
    · simp [LoopSt.result]; omega

theorem readBatch_count_le (fx : Fixes) (r : Reader α) (k : Nat) (wd wr : Bool) :
    (readBatch fx r (k : Int) wd wr).2.count ≤ k := by
  unfold readBatch
  split
  · simp
  · split
    · split <;> simp
    · split
      · simp [LoopSt.result]
      · simp only [Int.toNat_natCast]
        exact readLoop_count_le fx wd wr k _ _ _ (by simp [LoopSt.init])

end Carquet.Proofs.Cursor
