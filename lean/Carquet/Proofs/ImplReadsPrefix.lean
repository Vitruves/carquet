import Carquet.Proofs.ImplReadsDefs
import Carquet.Proofs.ReaderSteps
import Carquet.Proofs.ImplReadsPrefix3
/-
C06, implementation half — the fread header window (F53) is sound after fix F62: carquet's page-header
parser is PREFIX-MONOTONE — if it accepts a byte string it accepts every extension of it with the same
result and the same number of consumed bytes — hence a window that cuts a header short cannot be
accepted when the parser, given more bytes, consumes more than the window held.
-/
namespace Carquet.Proofs.ImplReads
open Carquet.Impl
open Carquet.Impl.Reader hiding Bytes
open Carquet.Impl.ThriftParquetReq (PageHdr parsePageHeaderC parsePageHeaderCX pageHdrBody)
open Carquet.Impl.Thrift Carquet.Impl.ThriftParquet
open Carquet.Proofs.ImplReads.Prefix

theorem topFinish_none {α : Type} (r : Top α × Dec) (h : (topFinish r).status = none) :
    r.1.abort = none ∧ r.2.status = none := by
  unfold topFinish at h
  split at h
  · cases h
  · rename_i hab; exact ⟨hab, h⟩

theorem parsePageHeaderCX_mono (p x : List UInt8) (hst : (parsePageHeaderCX p).status = none) :
    parsePageHeaderCX (p ++ x) = parsePageHeaderCX p ∧ (parsePageHeaderCX p).consumed ≤ p.length := by
  unfold parsePageHeaderCX topParse at hst ⊢
  obtain ⟨hab, hs⟩ := topFinish_none _ hst
  have hsb : (structBegin (Dec.init p)).status = none := fieldLoop_st _ _ _ _ _ hs
  have hE0 : Ext x p.length (Dec.init p) (Dec.init (p ++ x)) :=
    Ext.intro' p 0 [] false false false (p.length + 1) ((p ++ x).length + 1) (by simp) (by simp)
  have hE1 : Ext x p.length (structBegin (Dec.init p)) (structBegin (Dec.init (p ++ x))) :=
    (good_structBegin.2 _ _ hE0 hsb).2
  obtain ⟨h1, h2⟩ := fieldLoop_ext (fun s => s.abort.isSome) (pageHdrBody Cfg.fixed) good_pageHdrBody
    (p.length + 1) ((p ++ x).length + 1) _ _ ⟨⟨0, 0, 0, none, 0, 0⟩, none⟩ (by simp) hE1 hs
  have h3 : ∀ d : Dec, (structEnd d).status = d.status := fun _ => rfl
  refine ⟨?_, ?_⟩
  · unfold topFinish
    rw [h1]
    simp only [hab, h3, h2.st, h2.st', h2.pos, h2.ov]
  · unfold topFinish
    simp only [hab]
    have := h2.len
    omega

/-- **prefix monotonicity of `parquet_parse_page_header`** (code after fix F62) -/
theorem parsePageHeaderC_mono (p x : List UInt8) (r : PageHdr × Nat) (h : parsePageHeaderC p = .ok r) :
    parsePageHeaderC (p ++ x) = .ok r ∧ r.2 ≤ p.length := by
  unfold parsePageHeaderC at h ⊢
  split at h
  · cases h
  · rename_i hst
    obtain ⟨h1, h2⟩ := parsePageHeaderCX_mono p x hst
    simp only [Except.ok.injEq] at h
    rw [h1]
    simp only [hst]
    rw [← h]
    exact ⟨rfl, h2⟩

/-- a header that parses, with anything behind it, to its full length is not accepted from any window
that cuts it short -/
theorem windowOk_of_any (hb : List UInt8) (hdr : PageHdr) (hlen : hb.length ≤ headerWindowMax)
    (hany : ∀ rest, parsePageHeaderC (hb ++ rest) = .ok (hdr, hb.length)) : WindowOk hb := by
  refine ⟨hlen, ?_⟩
  intro k hk
  cases hp : parsePageHeaderC (hb.take (256 * 2 ^ k)) with
  | error e => exact ⟨e, rfl⟩
  | ok r =>
    exfalso
    obtain ⟨h1, h2⟩ := parsePageHeaderC_mono (hb.take (256 * 2 ^ k)) (hb.drop (256 * 2 ^ k)) r hp
    rw [List.take_append_drop] at h1
    have h3 := hany []
    rw [List.append_nil, h1] at h3
    simp only [Except.ok.injEq] at h3
    rw [h3] at h2
    simp only [List.length_take] at h2
    omega

end Carquet.Proofs.ImplReads
