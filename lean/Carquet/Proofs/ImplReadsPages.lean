import Carquet.Proofs.ReaderModes
import Carquet.Proofs.ReaderSteps
import Carquet.Proofs.ReaderCrc
import Carquet.Spec.File.Types
/-
Carquet's reader on DESCRIBED pages.  A page of a file is given by its header bytes, its stored body and what
`parquet_parse_page_header` reads (`RPage`); a data page by the decoded page the reader makes of it (`DataPageOk`), a
dictionary page by the dictionary (`DictPageOk`) — whoever wrote them.  Over these: `load_next_page` in all three I/O
modes (mapped paths: header parsed from everything behind the offset; fread path: the 256-byte window doubled until it
holds the header, F53; a dictionary page through `dictionary_page_offset` or, when that is absent, where
`data_page_offset` points, F52s: `ChunkStart`), and the page iteration over a whole chunk (`chunkPages_steady`,
`chunkPages_chunk`, for `chunkOf` itself `chunkOf_pages`; `liveBy`: empty pages behind the last value are never looked at, F63).
Each writer owes one bridge: the reference writer's pages are described pages by `dataPage_ok` / `dictPage_ok`
(Proofs/ImplReadsChunk), carquet's own by `dataPageOk_of_rec` (Proofs/ReaderChunkRoundtrip).
-/
namespace Carquet.Proofs.ImplReads
open Carquet.Impl
open Carquet.Impl.ThriftParquetReq (PageHdr parsePageHeaderC)

/-! ### a page as the loaders meet it -/

section
open Carquet.Impl.Reader hiding Bytes
open Carquet.Spec.File (Bytes)

/-- a page of the file: header bytes, stored body, and what `parquet_parse_page_header` reads -/
structure RPage where
  hb : Bytes
  comp : Bytes
  hdr : ThriftParquetReq.PageHdr

def RPage.bytes (p : RPage) : Bytes := p.hb ++ p.comp

/-- What the fread path (`read_page_header_fread`, F53) needs of a page header: it lies within the
largest window the path tries (2^24 bytes), and every window `256·2^k` that cuts the header short
fails to parse (so that the path doubles the window instead of accepting a truncated header). -/
def WindowOk (hb : Bytes) : Prop :=
  hb.length ≤ headerWindowMax ∧
  ∀ k, 256 * 2 ^ k < hb.length → ∃ e, parsePageHeaderC (hb.take (256 * 2 ^ k)) = .error e

/-- a header inside the first window the fread path tries is found at once -/
theorem windowOk_short (hb : Bytes) (h : hb.length ≤ 256) : WindowOk hb :=
  ⟨by unfold headerWindowMax; omega, fun k hk => by have := Nat.one_le_two_pow (n := k); omega⟩

/-- the header parses to `hdr` whatever follows it, announces the stored body, and (fread mode) is
found by the growing window -/
structure RPage.Parses (mode : Mode) (p : RPage) : Prop where
  any : ∀ rest, parsePageHeaderC (p.hb ++ rest) = .ok (p.hdr, p.hb.length)
  comp : p.hdr.compressed = (p.comp.length : Int)
  unc : 0 ≤ p.hdr.uncompressed
  window : mode = .fread → WindowOk p.hb

/-- a data page the reader decodes to `d` when its dictionary state is `dict` -/
structure DataPageOk (L : Libs) (verify : Bool) (mode : Mode) (c : Col) (dict : Option Dict) (p : RPage) (d : Decoded) : Prop where
  parses : p.Parses mode
  type0 : p.hdr.type = 0
  count : p.hdr.word0 = (d.defs.length : Int)
  crc : crcBad verify p.hdr.crc p.comp = false
  decode : ∃ body, pageData L c.cm.codec p.comp p.hdr.uncompressed.toNat = .ok body ∧
    readDataPageV1 Fixes.all c dict body d.defs.length p.hdr.word4 = .ok d
  /-- a page without rows (F63: the loaders do not decode it) stands for nothing -/
  empty : d.defs.length = 0 → d = ⟨[], [], []⟩

/-- a dictionary page the reader loads as `D` -/
structure DictPageOk (L : Libs) (verify : Bool) (mode : Mode) (c : Col) (p : RPage) (D : Dict) : Prop where
  parses : p.Parses mode
  type2 : p.hdr.type = 2
  count : 0 ≤ p.hdr.word0
  crc : crcBad verify p.hdr.crc p.comp = false
  decode : ∃ pd, pageData L c.cm.codec p.comp p.hdr.uncompressed.toNat = .ok pd ∧
    (readDictionaryPage Fixes.all c pd p.hdr.word0).1 = .ok D

def pagesBytes (ps : List (RPage × Decoded)) : Bytes := (ps.map (fun q => q.1.bytes)).flatten

def pagesCount (ps : List (RPage × Decoded)) : Nat := (ps.map (fun q => q.2.defs.length)).sum

/-- the page the column reader model receives for a decoded page -/
def cursorPage (d : Decoded) : ColumnReader.Page Bytes := ⟨d.defs, d.reps, d.vals⟩

end

open Carquet.Impl.Reader
open Carquet.Proofs.ReaderModes Carquet.Proofs.ReaderBounds Carquet.Proofs.ReaderPlain

theorem length_around (pre post : Bytes) (p : RPage) :
    (pre ++ p.bytes ++ post).length = pre.length + (p.hb.length + p.comp.length) + post.length := by
  simp [RPage.bytes, List.length_append]; omega

theorem RPage.Parses.compNat {mode : Mode} {p : RPage} (hp : p.Parses mode) : p.hdr.compressed.toNat = p.comp.length := by
  rw [hp.comp]; simp

theorem RPage.Parses.sizesValid {mode : Mode} {p : RPage} (hp : p.Parses mode) : sizesValid p.hdr = true := by
  simp only [Reader.sizesValid, Bool.and_eq_true, decide_eq_true_eq]
  exact ⟨by rw [hp.comp]; omega, hp.unc⟩

/-! ### the page header -/

theorem pow_window_lt {k n : Nat} (h1 : 256 * 2 ^ k < n) (h2 : n ≤ headerWindowMax) : k < 16 := by
  apply Classical.byContradiction
  intro hk
  have hk' : 16 ≤ k := by omega
  have : (2 : Nat) ^ 16 ≤ 2 ^ k := Nat.pow_le_pow_right (by decide) hk'
  have e : headerWindowMax = 256 * 2 ^ 16 := by decide
  omega

/-- `read_page_header_fread` on a header that every too-short window fails to parse -/
theorem freadHeaderLoop_rpage (b : Bytes) (off : Nat) (hb tail : Bytes) (hdr : PageHdr)
    (hbt : b.drop off = hb ++ tail) (htail : 8 ≤ tail.length)
    (hany : ∀ rest, parsePageHeaderC (hb ++ rest) = .ok (hdr, hb.length)) (hw : WindowOk hb) :
    ∀ (fuel k : Nat), 17 ≤ k + fuel → 1 ≤ fuel → k ≤ 16 →
      (freadHeaderLoop b off fuel (256 * 2 ^ k)).result = .ok (hdr, hb.length) := by
  intro fuel
  induction fuel with
  | zero => intro k _ h1 _; omega
  | succ f ih =>
    intro k hkf _ hk16
    have hsl : slice b off (256 * 2 ^ k) = (hb ++ tail).take (256 * 2 ^ k) := by unfold slice; rw [hbt]
    have hpos : 1 ≤ 2 ^ k := Nat.one_le_two_pow
    unfold freadHeaderLoop
    rw [hsl]
    have hlen : ((hb ++ tail).take (256 * 2 ^ k)).length = min (256 * 2 ^ k) (hb.length + tail.length) := by
      simp [List.length_take]
    rw [if_neg (by rw [hlen]; omega)]
    by_cases hfit : hb.length ≤ 256 * 2 ^ k
    · -- the window holds the header
      have : (hb ++ tail).take (256 * 2 ^ k) = hb ++ tail.take (256 * 2 ^ k - hb.length) := by
        rw [List.take_append, List.take_of_length_le hfit]
      rw [this, hany]
    · -- the window cuts the header short: it does not parse, the window is doubled
      have hlt : 256 * 2 ^ k < hb.length := by omega
      have hk : k < 16 := pow_window_lt hlt hw.1
      have htk : (hb ++ tail).take (256 * 2 ^ k) = hb.take (256 * 2 ^ k) := by
        rw [List.take_append_of_le_length (by omega)]
      obtain ⟨e, he⟩ := hw.2 k hlt
      rw [htk, he]
      simp only
      have hl2 : (hb.take (256 * 2 ^ k)).length = 256 * 2 ^ k := by rw [List.length_take]; omega
      rw [if_neg (by rw [hl2]; have := hw.1; omega)]
      have e2 : 2 * (256 * 2 ^ k) = 256 * 2 ^ (k + 1) := by rw [Nat.pow_succ]; omega
      show (freadHeaderLoop b off f (2 * (256 * 2 ^ k))).result = _
      rw [e2]
      exact ih (k + 1) (by omega) (by omega) (by omega)

theorem loadHeader_rpage (mode : Mode) (pre post : Bytes) (p : RPage) (hp : p.Parses mode) (hpost : 8 ≤ post.length) :
    (loadHeader mode (pre ++ p.bytes ++ post) (pre.length : Int)).result = .ok (p.hdr, p.hb.length) := by
  have hlen := length_around pre post p
  have hdrop : (pre ++ p.bytes ++ post).drop pre.length = p.hb ++ (p.comp ++ post) := by
    rw [List.append_assoc, List.drop_left' rfl]; simp [RPage.bytes, List.append_assoc]
  unfold loadHeader
  split
  · rw [if_neg (by rw [hlen]; omega)]
    simp only [Int.toNat_natCast]
    rw [if_neg (by rw [hlen]; omega)]
    simp only
    have hw : slice (pre ++ p.bytes ++ post) pre.length ((pre ++ p.bytes ++ post).length - pre.length) = p.hb ++ (p.comp ++ post) := by
      unfold slice
      rw [hdrop, List.take_of_length_le (by rw [hlen]; simp [List.length_append]; omega)]
    rw [hw]
    unfold parseWindow
    rw [hp.any]
  · rename_i hm
    rw [if_neg (by omega)]
    simp only [Int.toNat_natCast]
    have hmode : mode = .fread := by cases mode <;> simp [Mode.mapped] at hm ⊢
    have := freadHeaderLoop_rpage (pre ++ p.bytes ++ post) pre.length p.hb (p.comp ++ post) p.hdr hdrop
      (by simp [List.length_append]; omega) hp.any (hp.window hmode) 18 0 (by omega) (by omega) (by omega)
    simpa using this

/-! ### the stored body -/

theorem bodyBytes_rpage (mode : Mode) (pre post : Bytes) (p : RPage) :
    (bodyBytes mode (pre ++ p.bytes ++ post) pre.length p.hb.length p.comp.length).1 = .ok p.comp := by
  have hlen := length_around pre post p
  rw [bodyBytes_within mode _ _ _ _ (by rw [hlen]; omega)]
  unfold RPage.bytes
  rw [slice_mid2]

/-! ### the dictionary page -/

theorem loadDictionary_rpage (L : Libs) (verify : Bool) (mode : Mode) (pre post : Bytes) (c : Col) (p : RPage) (D : Dict)
    (hp : DictPageOk L verify mode c p D) (hpost : 8 ≤ post.length) :
    ∃ dl, (loadDictionary Fixes.all L verify mode (pre ++ p.bytes ++ post) c (pre.length : Int)).result = .ok dl ∧
      dl.dict = D ∧ dl.dataStart = ((pre.length + p.hb.length + p.comp.length : Nat) : Int) := by
  obtain ⟨pd, hpd, hrd⟩ := hp.decode
  have hh := loadHeader_rpage mode pre post p hp.parses hpost
  have hcomp := hp.parses.compNat
  have hsv : (!sizesValid p.hdr || decide (p.hdr.word0 < 0)) = false := by
    have a2 : decide (p.hdr.word0 < 0) = false := by
      apply decide_eq_false; have := hp.count; omega
    rw [hp.parses.sizesValid, a2]; rfl
  refine ⟨⟨D, (pre.length : Int) + (p.hb.length : Int) + p.hdr.compressed⟩, ?_, rfl, ?_⟩
  · unfold loadDictionary
    rw [andThen_result, hh]
    simp only
    rw [if_neg (by rw [hp.type2]; decide), hsv]
    simp only [Bool.false_eq_true, if_false]
    rw [andThen_result, Load.ofPair]
    simp only [Int.toNat_natCast, hcomp, bodyBytes_rpage]
    rw [hp.crc]
    simp only [Bool.false_eq_true, if_false, hpd, hrd]
  · simp only
    rw [hp.parses.comp]
    omega

/-! ### a data page, once the state points at it -/

theorem finish_rpage (L : Libs) (verify : Bool) (mode : Mode) (pre post : Bytes) (c : Col) (p : RPage) (d : Decoded)
    (st : PState) (hp : DataPageOk L verify mode c st.dict p d)
    (hoff : st.dataStart + st.currentPage = (pre.length : Int)) (hrem : (d.defs.length : Int) ≤ st.valuesRemaining)
    (hcol : ColValid c) (hsz : (pre ++ p.bytes ++ post).length < 2 ^ 64) :
    (okOf (finishDataPage Fixes.all L verify mode (pre ++ p.bytes ++ post) c st (p.hdr, p.hb.length)).result).map proj =
      some (d, p.hb.length, p.comp.length) := by
  have hlen := length_around pre post p
  have hcomp := hp.parses.compNat
  obtain ⟨body, hpd, hdec⟩ := hp.decode
  rw [finishDataPage_ref Fixes.all rfl L verify mode _ c st (p.hdr, p.hb.length) hcol hsz
    (by intro _; rw [hoff]; simp only [Int.toNat_natCast, hcomp]; rw [hlen]; omega)]
  have hbody : slice (pre ++ p.bytes ++ post) ((st.dataStart + st.currentPage).toNat + (p.hdr, p.hb.length).2)
      (p.hdr, p.hb.length).1.compressed.toNat = p.comp := by
    rw [hoff]
    simp only [Int.toNat_natCast, hcomp]
    unfold RPage.bytes
    rw [slice_mid2]
  unfold refFinish
  rw [hbody]
  have h3 : ¬ (p.hdr, p.hb.length).1.type = 3 := by simp [hp.type0]
  have h0 : ¬ (p.hdr, p.hb.length).1.type ≠ 0 := by simp [hp.type0]
  have hsv : ¬ ((!sizesValid (p.hdr, p.hb.length).1 || decide ((p.hdr, p.hb.length).1.word0 < 0) ||
      decide ((p.hdr, p.hb.length).1.word0 > st.valuesRemaining)) = true) := by
    have a2 : decide (p.hdr.word0 < 0) = false := by
      apply decide_eq_false; rw [hp.count]; omega
    have a3 : decide (p.hdr.word0 > st.valuesRemaining) = false := by
      apply decide_eq_false; rw [hp.count]; omega
    simp only [hp.parses.sizesValid, a2, a3]; decide
  rw [if_neg h3, if_neg h0, if_neg hsv]
  simp only [hp.crc, Bool.false_eq_true, if_false]
  by_cases hemp : d.defs.length = 0
  · rw [if_pos (by rw [hp.count, hemp]; rfl), hp.empty hemp, hcomp]
  rw [if_neg (by rw [hp.count]; omega)]
  unfold stdPath
  simp only [hpd, hp.count, Int.toNat_natCast, hdec, hcomp]

theorem prepStage_rpage (L : Libs) (verify : Bool) (mode : Mode) (pre post : Bytes) (c : Col) (p : RPage) (st : PState)
    (hp : p.Parses mode) (ht : p.hdr.type = 0) (hoff : st.dataStart + st.currentPage = (pre.length : Int))
    (hpost : 8 ≤ post.length) :
    (prepStage Fixes.all L verify mode (pre ++ p.bytes ++ post) c st).result = .ok (st, (p.hdr, p.hb.length)) ∧
    stateAfterPrep Fixes.all L verify mode (pre ++ p.bytes ++ post) c st = st := by
  have hh := loadHeader_rpage mode pre post p hp hpost
  have hinl : inlineDictDue st p.hdr = false := by simp [inlineDictDue, ht]
  constructor
  · unfold prepStage
    rw [andThen_result, hoff, hh]
    simp only [hinl, Bool.false_eq_true, if_false, Load.pure]
  · unfold stateAfterPrep
    rw [hoff, hh]
    simp only [hinl, Bool.false_eq_true, if_false]

theorem loadPage_of_steps (fx : Fixes) (L : Libs) (verify : Bool) (mode : Mode) (b : Bytes) (c : Col) (st st1 st2 : PState)
    (hr : PageHdr × Nat) (hds : (dictStep fx L verify mode b c st).result = .ok st1)
    (hprep : (prepStage fx L verify mode b c st1).result = .ok (st2, hr))
    (hafter : stateAfterPrep fx L verify mode b c st1 = st2) :
    (loadPage fx L verify mode b c st).result = (finishDataPage fx L verify mode b c st2 hr).result ∧
    stateAfterLoad fx L verify mode b c st = st2 := by
  constructor
  · unfold loadPage
    rw [andThen_result, hds]
    simp only
    unfold loadDataPage
    rw [andThen_result, hprep]
  · unfold stateAfterLoad
    rw [hds]
    exact hafter

/-- **one data page**, the dictionary business being settled: `load_next_page` in any mode, in any state
that points at the page -/
theorem loadPage_rpage (L : Libs) (verify : Bool) (mode : Mode) (pre post : Bytes) (c : Col) (p : RPage) (d : Decoded)
    (st : PState) (hp : DataPageOk L verify mode c st.dict p d)
    (hsettled : c.cm.dictionaryPageOffset = none ∨ st.dict.isSome = true)
    (hoff : st.dataStart + st.currentPage = (pre.length : Int)) (hrem : (d.defs.length : Int) ≤ st.valuesRemaining)
    (hcol : ColValid c) (hpost : 8 ≤ post.length) (hsz : (pre ++ p.bytes ++ post).length < 2 ^ 64) :
    (okOf (loadPage Fixes.all L verify mode (pre ++ p.bytes ++ post) c st).result).map proj =
      some (d, p.hb.length, p.comp.length) ∧
    stateAfterLoad Fixes.all L verify mode (pre ++ p.bytes ++ post) c st = st := by
  obtain ⟨hres, hst⟩ := Carquet.Proofs.ReaderSteps.loadPage_of_header Fixes.all L verify mode _ c st (p.hdr, p.hb.length)
    hsettled (by rw [hoff]; exact loadHeader_rpage mode pre post p hp.parses hpost) (by simp [inlineDictDue, hp.type0])
  rw [hres]
  exact ⟨finish_rpage L verify mode pre post c p d st hp hoff hrem hcol hsz, hst⟩

/-! ### the first load of a chunk that has a dictionary page -/

def withDict (st : PState) (D : Dict) (dataStart : Nat) : PState := { st with dict := some D, dataStart := (dataStart : Int) }

theorem append4 (pre a b post : Bytes) : pre ++ a ++ b ++ post = pre ++ a ++ (b ++ post) := by simp [List.append_assoc]
theorem append4' (pre a b post : Bytes) : pre ++ a ++ b ++ post = (pre ++ a) ++ b ++ post := by simp [List.append_assoc]

/-- how a chunk starts: no dictionary page, or one that is reached through `dictionary_page_offset`, or
one that sits where `data_page_offset` points -/
inductive ChunkStart (L : Libs) (verify : Bool) (mode : Mode) (c : Col) (pre : Bytes) : Option (RPage × Dict) → Prop
  | plain : c.cm.dictionaryPageOffset = none → c.cm.dataPageOffset = (pre.length : Int) → ChunkStart L verify mode c pre none
  | offset (dp : RPage) (D : Dict) : DictPageOk L verify mode c dp D → c.cm.dictionaryPageOffset = some (pre.length : Int) →
      ChunkStart L verify mode c pre (some (dp, D))
  | inline (dp : RPage) (D : Dict) : DictPageOk L verify mode c dp D → c.cm.dictionaryPageOffset = none →
      c.cm.dataPageOffset = (pre.length : Int) → ChunkStart L verify mode c pre (some (dp, D))

/-- **first load of a chunk with a dictionary page**: the dictionary page is loaded — through
`dictionary_page_offset`, or (F52s) because it is the page `data_page_offset` points at — and the data page
behind it returned -/
theorem loadPage_dictFirst (L : Libs) (verify : Bool) (mode : Mode) (pre post : Bytes) (c : Col) (dp p : RPage) (D : Dict)
    (d : Decoded) (hstart : ChunkStart L verify mode c pre (some (dp, D))) (hp : DataPageOk L verify mode c (some D) p d)
    (hrem : (d.defs.length : Int) ≤ c.cm.numValues)
    (hcol : ColValid c) (hpost : 8 ≤ post.length) (hsz : (pre ++ dp.bytes ++ p.bytes ++ post).length < 2 ^ 64) :
    (okOf (loadPage Fixes.all L verify mode (pre ++ dp.bytes ++ p.bytes ++ post) c (PState.init c)).result).map proj =
      some (d, p.hb.length, p.comp.length) ∧
    stateAfterLoad Fixes.all L verify mode (pre ++ dp.bytes ++ p.bytes ++ post) c (PState.init c) =
      withDict (PState.init c) D (pre.length + dp.hb.length + dp.comp.length) := by
  have hdp : DictPageOk L verify mode c dp D := by cases hstart <;> assumption
  have hbehind : 8 ≤ (p.bytes ++ post).length := by simp only [List.length_append]; omega
  obtain ⟨dl, hdl, hdl1, hdl2⟩ := loadDictionary_rpage L verify mode pre (p.bytes ++ post) c dp D hdp hbehind
  rw [← append4] at hdl
  have hpre : (pre ++ dp.bytes).length = pre.length + dp.hb.length + dp.comp.length := by
    simp [RPage.bytes, List.length_append]; omega
  -- `st'`: the state once the dictionary is loaded
  generalize hst' : withDict (PState.init c) D (pre.length + dp.hb.length + dp.comp.length) = st'
  have hdict : ({ PState.init c with dict := some dl.dict, dataStart := dl.dataStart } : PState) = st' := by
    rw [← hst']; simp only [withDict, hdl1, hdl2]
  have hoff' : st'.dataStart + st'.currentPage = ((pre ++ dp.bytes).length : Int) := by
    rw [← hst']; simp only [withDict, PState.init, hpre]; omega
  -- the dictionary step and the header search, by the way the chunk starts
  have hsteps : ∃ st1, (dictStep Fixes.all L verify mode (pre ++ dp.bytes ++ p.bytes ++ post) c (PState.init c)).result = .ok st1 ∧
      (prepStage Fixes.all L verify mode (pre ++ dp.bytes ++ p.bytes ++ post) c st1).result = .ok (st', (p.hdr, p.hb.length)) ∧
      stateAfterPrep Fixes.all L verify mode (pre ++ dp.bytes ++ p.bytes ++ post) c st1 = st' := by
    cases hstart with
    | offset _ _ _ hdoff =>
      refine ⟨st', ?_, ?_⟩
      · unfold dictStep
        rw [hdoff]
        simp only [PState.init, Option.isSome_none, Bool.false_eq_true, if_false]
        rw [andThen_result, hdl]
        simp only [Load.pure]
        exact congrArg Except.ok hdict
      · rw [append4']
        exact prepStage_rpage L verify mode (pre ++ dp.bytes) post c p _ hp.parses hp.type0 hoff' hpost
    | inline _ _ _ hno hdo =>
      have hoff : (PState.init c).dataStart + (PState.init c).currentPage = (pre.length : Int) := by
        simp only [PState.init, hdo]; omega
      -- the header found at `data_page_offset` is the dictionary page's
      have hh1 := loadHeader_rpage mode pre (p.bytes ++ post) dp hdp.parses hbehind
      rw [← append4] at hh1
      have hdue : inlineDictDue (PState.init c) dp.hdr = true := by simp [inlineDictDue, hdp.type2, PState.init]
      have hh2 := loadHeader_rpage mode (pre ++ dp.bytes) post p hp.parses hpost
      rw [hpre, ← append4'] at hh2
      refine ⟨PState.init c, by rw [Carquet.Proofs.ReaderSteps.dictStep_settled _ _ _ _ _ _ _ (Or.inl hno)]; rfl, ?_, ?_⟩
      · unfold prepStage
        rw [andThen_result, hoff, hh1]
        simp only [hdue, if_true]
        rw [andThen_result, hdl]
        simp only
        rw [andThen_result, hdl2, hh2]
        simp only [Load.pure, ← hst', withDict, hdl1]
      · unfold stateAfterPrep
        rw [hoff, hh1]
        simp only [hdue, if_true, hdl, hdict]
  obtain ⟨st1, hds, hprep, hafter⟩ := hsteps
  obtain ⟨hres, hst⟩ := loadPage_of_steps Fixes.all L verify mode _ c _ st1 _ _ hds hprep hafter
  rw [hres]
  refine ⟨?_, hst⟩
  rw [append4'] at hsz ⊢
  have hd : st'.dict = some D := by rw [← hst']; rfl
  exact finish_rpage L verify mode (pre ++ dp.bytes) post c p d _ (by rw [hd]; exact hp) hoff'
    (by rw [← hst']; simpa [withDict, PState.init] using hrem) hcol hsz

/-! ### the pages of a chunk, one after the other -/

theorem ok_of_proj {r : Except Err PageLoaded} {d : Decoded} {h c : Nat} (hp : (okOf r).map proj = some (d, h, c)) :
    ∃ p, r = .ok p ∧ p.page = d ∧ p.headerSize = h ∧ p.compressedSize = c := by
  cases r with
  | error e => cases hp
  | ok p =>
    simp only [okOf, Option.map, proj, Option.some.injEq, Prod.mk.injEq] at hp
    exact ⟨p, rfl, hp.1, hp.2.1, hp.2.2⟩

theorem pagesBytes_cons (q : RPage × Decoded) (ps : List (RPage × Decoded)) :
    pagesBytes (q :: ps) = q.1.bytes ++ pagesBytes ps := by simp [pagesBytes]

theorem pagesCount_cons (q : RPage × Decoded) (ps : List (RPage × Decoded)) :
    pagesCount (q :: ps) = q.2.defs.length + pagesCount ps := by simp [pagesCount]

theorem pagesBytes_length_ge : ∀ (ps : List (RPage × Decoded)) (L : Libs) (verify : Bool) (mode : Mode) (c : Col) (dict : Option Dict),
    (∀ q ∈ ps, DataPageOk L verify mode c dict q.1 q.2) → ps.length ≤ (pagesBytes ps).length
  | [], _, _, _, _, _, _ => by simp
  | q :: r, L, verify, mode, c, dict, h => by
    have ih := pagesBytes_length_ge r L verify mode c dict (fun x hx => h x (by simp [hx]))
    have hq := h q (by simp)
    have hpos : 1 ≤ q.1.hb.length := by
      have := hq.parses.any []
      exact Carquet.Proofs.ReaderSteps.parsePageHeaderC_size _ _ this
    rw [pagesBytes_cons]
    simp only [RPage.bytes, List.length_append, List.length_cons]
    omega

/-- The items of a list the page iteration gets to: it stops as soon as nothing is left to deliver, so
items without content at the END of the list (empty data pages behind the last value of a chunk, F63)
are never looked at. -/
def liveBy {α : Type} (size : α → Nat) : List α → List α
  | [] => []
  | a :: r => if size a + (r.map size).sum = 0 then [] else a :: liveBy size r

theorem liveBy_map {α β : Type} (sa : α → Nat) (sb : β → Nat) (f : α → β) (h : ∀ a, sb (f a) = sa a) :
    ∀ l : List α, liveBy sb (l.map f) = (liveBy sa l).map f
  | [] => rfl
  | a :: r => by
    simp only [List.map_cons, liveBy, h a, List.map_map]
    have : (sb ∘ f) = sa := funext h
    rw [this]
    split
    · rfl
    · rw [List.map_cons, liveBy_map sa sb f h r]

/-- nothing is skipped where every item has content -/
theorem liveBy_of_pos {α : Type} (size : α → Nat) : ∀ l : List α, (∀ a ∈ l, 0 < size a) → liveBy size l = l
  | [], _ => rfl
  | a :: r, h => by
    have := h a (by simp)
    rw [liveBy, if_neg (by omega), liveBy_of_pos size r (fun x hx => h x (by simp [hx]))]

theorem liveBy_length_le {α : Type} (size : α → Nat) : ∀ l : List α, (liveBy size l).length ≤ l.length
  | [] => Nat.le_refl _
  | a :: r => by
    simp only [liveBy]
    split
    · simp
    · simp only [List.length_cons]; have := liveBy_length_le size r; omega

theorem liveBy_mem {α : Type} (size : α → Nat) : ∀ (l : List α) (x : α), x ∈ liveBy size l → x ∈ l
  | [], x, h => by cases h
  | a :: r, x, h => by
    simp only [liveBy] at h
    split at h
    · cases h
    · rcases List.mem_cons.mp h with rfl | h'
      · simp
      · exact List.mem_cons_of_mem _ (liveBy_mem size r x h')

theorem flatten_nil_of_sum {β : Type} : ∀ l : List (List β), (l.map List.length).sum = 0 → l.flatten = []
  | [], _ => rfl
  | p :: r, h => by
    simp only [List.map_cons, List.sum_cons] at h
    have hp : p = [] := List.eq_nil_of_length_eq_zero (by omega)
    rw [List.flatten_cons, hp, flatten_nil_of_sum r (by omega)]; rfl

theorem liveBy_flatten {β : Type} : ∀ l : List (List β), (liveBy List.length l).flatten = l.flatten
  | [] => rfl
  | p :: r => by
    simp only [liveBy]
    split
    · rename_i h0
      have := flatten_nil_of_sum (p :: r) (by simpa using h0)
      rw [this]; rfl
    · rw [List.flatten_cons, List.flatten_cons, liveBy_flatten r]

def livePages (ps : List (RPage × Decoded)) : List (RPage × Decoded) := liveBy (fun q => q.2.defs.length) ps

theorem livePages_cons (q : RPage × Decoded) (rest : List (RPage × Decoded)) :
    livePages (q :: rest) = if pagesCount (q :: rest) = 0 then [] else q :: livePages rest := by
  simp only [livePages, liveBy, pagesCount, List.map_cons, List.sum_cons]

theorem livePages_of_count_zero {ps : List (RPage × Decoded)} (h : pagesCount ps = 0) : livePages ps = [] := by
  cases ps with
  | nil => rfl
  | cons q rest => rw [livePages_cons, if_pos h]

theorem chunkPages_done (fx : Fixes) (L : Libs) (verify : Bool) (mode : Mode) (b : Bytes) (c : Col) (fuel : Nat) (st : PState)
    (h : st.valuesRemaining ≤ 0) : chunkPages fx L verify mode b c (fuel + 1) st = [] := by
  unfold chunkPages
  rw [if_pos h]

theorem chunkPages_load (fx : Fixes) (L : Libs) (verify : Bool) (mode : Mode) (b : Bytes) (c : Col) (fuel : Nat) (st st' : PState)
    (q : RPage × Decoded) (hpos : 0 < st.valuesRemaining)
    (hload : (okOf (loadPage fx L verify mode b c st).result).map proj = some (q.2, q.1.hb.length, q.1.comp.length))
    (hafter : stateAfterLoad fx L verify mode b c st = st') :
    chunkPages fx L verify mode b c (fuel + 1) st = some (cursorPage q.2) ::
      chunkPages fx L verify mode b c fuel
        { st' with currentPage := st'.currentPage + q.1.hb.length + q.1.comp.length,
                   valuesRemaining := st'.valuesRemaining - q.2.defs.length } := by
  obtain ⟨pl, hpl, hpage, hhs, hcs⟩ := ok_of_proj hload
  rw [chunkPages, if_neg (by omega), hpl]
  simp only [hafter, stepOver, hpage, hhs, hcs]
  rfl

/-- **page iteration, dictionary business settled**: from a state that points at the first of the pages,
with as many values remaining as they hold, the iteration delivers exactly these pages — empty pages
(F63) included, up to the page that delivers the chunk's last value -/
theorem chunkPages_steady (L : Libs) (verify : Bool) (mode : Mode) (c : Col) (dict : Option Dict) (hcol : ColValid c) :
    ∀ (ps : List (RPage × Decoded)) (pre post : Bytes) (st : PState) (fuel : Nat),
      (∀ q ∈ ps, DataPageOk L verify mode c dict q.1 q.2) → ps.length < fuel → 8 ≤ post.length →
      (pre ++ pagesBytes ps ++ post).length < 2 ^ 64 →
      st.dict = dict → (c.cm.dictionaryPageOffset = none ∨ st.dict.isSome = true) →
      st.dataStart + st.currentPage = (pre.length : Int) → st.valuesRemaining = (pagesCount ps : Int) →
      chunkPages Fixes.all L verify mode (pre ++ pagesBytes ps ++ post) c fuel st =
        (livePages ps).map (fun q => some (cursorPage q.2)) := by
  intro ps
  induction ps with
  | nil =>
    intro pre post st fuel _ hf _ _ _ _ _ hrem
    obtain ⟨fuel, rfl⟩ : ∃ f, fuel = f + 1 := ⟨fuel - 1, by omega⟩
    exact chunkPages_done _ _ _ _ _ _ _ _ (by rw [hrem]; simp [pagesCount])
  | cons q rest ih =>
    intro pre post st fuel hall hf hpost hsz hdict hsettled hoff hrem
    obtain ⟨fuel, rfl⟩ : ∃ f, fuel = f + 1 := ⟨fuel - 1, by omega⟩
    by_cases hzero : pagesCount (q :: rest) = 0
    · rw [livePages_of_count_zero hzero]
      exact chunkPages_done _ _ _ _ _ _ _ _ (by rw [hrem, hzero]; simp)
    rw [livePages_cons, if_neg hzero, List.map_cons]
    have hbytes : pre ++ pagesBytes (q :: rest) ++ post = pre ++ q.1.bytes ++ (pagesBytes rest ++ post) := by
      rw [pagesBytes_cons]; simp [List.append_assoc]
    have hnext : pre ++ q.1.bytes ++ (pagesBytes rest ++ post) = (pre ++ q.1.bytes) ++ pagesBytes rest ++ post := by
      simp [List.append_assoc]
    rw [hbytes] at hsz ⊢
    rw [pagesCount_cons] at hrem hzero
    obtain ⟨hl1, hl2⟩ := loadPage_rpage L verify mode pre (pagesBytes rest ++ post) c q.1 q.2 st
      (by rw [hdict]; exact hall q (by simp)) hsettled hoff (by rw [hrem]; omega) hcol
      (by simp only [List.length_append]; omega) hsz
    rw [chunkPages_load _ _ _ _ _ _ _ _ _ q (by omega) hl1 hl2, hnext]
    congr 1
    apply ih (pre ++ q.1.bytes) post _ fuel (fun x hx => hall x (List.mem_cons_of_mem _ hx))
      (by simp at hf; omega) hpost (by rw [← hnext]; exact hsz)
    · exact hdict
    · exact hsettled
    · simp only [RPage.bytes, List.length_append]; omega
    · simp only [hrem]; omega

def dictBytes : Option (RPage × Dict) → Bytes
  | none => []
  | some (dp, _) => dp.bytes

/-- **the pages of a chunk** of a file `pre ++ [dictionary page] ++ data pages ++ post`: the page
iteration started by `get_column` delivers exactly the data pages, decoded, in order — in any mode -/
theorem chunkPages_chunk (L : Libs) (verify : Bool) (mode : Mode) (c : Col) (hcol : ColValid c)
    (dictP : Option (RPage × Dict)) (ps : List (RPage × Decoded)) (pre post : Bytes)
    (hstart : ChunkStart L verify mode c pre dictP)
    (hall : ∀ q ∈ ps, DataPageOk L verify mode c (dictP.map (·.2)) q.1 q.2)
    (hnv : c.cm.numValues = (pagesCount ps : Int)) (hpost : 8 ≤ post.length)
    (hsz : (pre ++ dictBytes dictP ++ pagesBytes ps ++ post).length < 2 ^ 64)
    (fuel : Nat) (hf : ps.length < fuel) :
    chunkPages Fixes.all L verify mode (pre ++ dictBytes dictP ++ pagesBytes ps ++ post) c fuel (PState.init c) =
      (livePages ps).map (fun q => some (cursorPage q.2)) := by
  cases dictP with
  | none =>
    cases hstart with
    | plain hno hdo =>
      simp only [dictBytes, List.append_nil] at hsz ⊢
      exact chunkPages_steady L verify mode c none hcol ps pre post (PState.init c) fuel hall hf hpost hsz rfl (Or.inl hno)
        (by simp [PState.init, hdo]) (by simp [PState.init, hnv])
  | some dpD =>
    obtain ⟨dp, D⟩ := dpD
    obtain ⟨fuel, rfl⟩ : ∃ f, fuel = f + 1 := ⟨fuel - 1, by omega⟩
    by_cases hzero : pagesCount ps = 0
    · rw [livePages_of_count_zero hzero]
      exact chunkPages_done _ _ _ _ _ _ _ _ (by simp [PState.init, hnv, hzero])
    cases ps with
    | nil => exact absurd rfl hzero
    | cons q rest =>
      rw [livePages_cons, if_neg hzero, List.map_cons]
      simp only [dictBytes] at hsz ⊢
      have hbytes : pre ++ dp.bytes ++ pagesBytes (q :: rest) ++ post = pre ++ dp.bytes ++ q.1.bytes ++ (pagesBytes rest ++ post) := by
        rw [pagesBytes_cons]; simp [List.append_assoc]
      have hnext : pre ++ dp.bytes ++ q.1.bytes ++ (pagesBytes rest ++ post) =
          (pre ++ dp.bytes ++ q.1.bytes) ++ pagesBytes rest ++ post := by simp [List.append_assoc]
      rw [hbytes] at hsz ⊢
      rw [pagesCount_cons] at hnv hzero
      obtain ⟨hl1, hl2⟩ := loadPage_dictFirst L verify mode pre (pagesBytes rest ++ post) c dp q.1 D q.2 hstart
        (hall q (by simp)) (by rw [hnv]; omega) hcol (by simp only [List.length_append]; omega) hsz
      rw [chunkPages_load _ _ _ _ _ _ _ _ _ q (by simp only [PState.init, hnv]; omega) hl1 hl2, hnext]
      congr 1
      apply chunkPages_steady L verify mode c (some D) hcol rest (pre ++ dp.bytes ++ q.1.bytes) post _ fuel
        (fun x hx => hall x (List.mem_cons_of_mem _ hx)) (by simp at hf; omega) hpost (by rw [← hnext]; exact hsz)
      · rfl
      · exact Or.inr rfl
      · simp only [withDict, PState.init, RPage.bytes, List.length_append]; omega
      · simp only [withDict, PState.init, hnv]; omega

/-- **the chunk as the column reader model gets it**: `chunkOf` runs the page iteration with `|file| + 1` rounds of
fuel, more than the chunk has pages (a page holds at least the byte of its header) -/
theorem chunkOf_pages (L : Libs) (verify : Bool) (mode : Mode) (c : Col) (hcol : ColValid c)
    (dictP : Option (RPage × Dict)) (ps : List (RPage × Decoded)) (pre post : Bytes)
    (hstart : ChunkStart L verify mode c pre dictP)
    (hall : ∀ q ∈ ps, DataPageOk L verify mode c (dictP.map (·.2)) q.1 q.2)
    (hnv : c.cm.numValues = (pagesCount ps : Int)) (hpost : 8 ≤ post.length)
    (hsz : (pre ++ dictBytes dictP ++ pagesBytes ps ++ post).length < 2 ^ 64) :
    (chunkOf Fixes.all L verify mode (pre ++ dictBytes dictP ++ pagesBytes ps ++ post) c).pages =
      (livePages ps).map (fun q => some (cursorPage q.2)) :=
  chunkPages_chunk L verify mode c hcol dictP ps pre post hstart hall hnv hpost hsz _ (by
    have := pagesBytes_length_ge ps L verify mode c _ hall
    simp only [List.length_append]; omega)

end Carquet.Proofs.ImplReads
