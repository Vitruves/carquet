import Carquet.Proofs.CursorRun
import Carquet.Proofs.CursorBitmap
/-
C02 / C03, batch reader, one column of one batch: whichever branch is taken (zero-copy view of a
whole page, or copy through `carquet_column_read_batch`), from `Rep c P r` the column hands out
`specCol … (P.take rtr)` — the same observable form up to the ownership flag — and leaves `Rep c (P.drop rtr) r'`.
-/
namespace Carquet.Proofs.Cursor
open Carquet.Spec.Cursor (Row)
open Carquet.Impl.ColumnReader
open Carquet.Impl.BatchReader (IOMode Column ColData zeroBitmap buildBitmap)

/-- What a batch column looks like when it delivers `rows` into `rtr` slots. -/
def specCol (maxDef rtr : Nat) (rows : List (Row α)) (view : Bool) : ColData α :=
  { numValues := rows.length,
    bitmap := buildBitmap maxDef (rows.map (fun row => some row.defLevel)) rows.length rtr,
    vals := fill (rows.filterMap (·.val)) rtr, view := view,
    defs := rows.map (fun row => some row.defLevel) }

/-- The column can be allocated for `rtr` rows: known value size, within the 1 GiB cap. -/
def ColFits (col : Column) (rtr : Nat) : Prop := 0 < col.valueSize ∧ col.valueSize * rtr ≤ Gen.Cursor.maxBatchAlloc

theorem prefetch_ok {c : Chunk α} {P : List (Row α)} {r : Reader α} (h : Rep c P r) :
    Rep c P (Impl.BatchReader.prefetch Fixes.all r) := by
  unfold Impl.BatchReader.prefetch
  split
  · obtain ⟨r', heq, h'⟩ := rep_readBatch_zero h false false
    rw [heq]; exact h'
  · exact h

theorem tryZeroCopy_ok (mode : IOMode) (col : Column) {c : Chunk α} {P : List (Row α)} {r : Reader α} (h : Rep c P r) :
    Rep c P (Impl.BatchReader.tryZeroCopy Fixes.all mode col r) := by
  unfold Impl.BatchReader.tryZeroCopy
  split
  · obtain ⟨r', heq, h'⟩ := rep_readBatch_zero h false false
    rw [heq]; exact h'
  · exact h

theorem buildBitmap_zero (defs : List (Option Nat)) (vr rtr : Nat) :
    buildBitmap 0 defs vr rtr = zeroBitmap rtr := by
  simp [buildBitmap]

theorem fill_full (xs : List β) : fill xs xs.length = xs.map some := by simp [fill]

/-- The standard branch (copy through `carquet_column_read_batch`). -/
theorem standardCol_ok (col : Column) {c : Chunk α} {P : List (Row α)} {r : Reader α} (h : Rep c P r)
    (rtr : Nat) (h0 : 0 < rtr) (hle : rtr ≤ P.length) (h31 : rtr < 2147483648) (hfit : ColFits col rtr) :
    ∃ r', Impl.BatchReader.standardCol Fixes.all col r (rtr : Int) = (r', some (specCol col.maxDef rtr (P.take rtr) false)) ∧
      Rep c (P.drop rtr) r' := by
  unfold Impl.BatchReader.standardCol
  have h1 : ¬ (col.valueSize = 0 ∨ (rtr : Int) ≤ 0) := by have := hfit.1; omega
  have h2 : ¬ ((col.valueSize : Int) > (Gen.Cursor.maxBatchAlloc : Int) / (rtr : Int)) := by
    have h3 : (col.valueSize : Int) ≤ (Gen.Cursor.maxBatchAlloc : Int) / (rtr : Int) := by
      rw [Int.le_ediv_iff_mul_le (by omega)]
      have := hfit.2
      exact_mod_cast this
    omega
  simp only [h1, h2, if_false]
  obtain ⟨r', res, heq, hrep', hres⟩ := rep_readBatch h rtr h0 h31 (decide (col.maxDef > 0)) false
  rw [heq]
  have hlen : (P.take rtr).length = rtr := by rw [List.length_take]; omega
  have hc : ¬ (res.count < 0) := by rw [hres.count]; omega
  simp only [hc, if_false]
  refine ⟨r', ?_, hrep'⟩
  congr 2
  unfold specCol
  rw [hres.count, hres.vals, hres.rowDefs, hres.defs]
  simp only [Int.toNat_natCast, hlen]
  congr 1
  by_cases hm : col.maxDef > 0
  · simp only [hm, decide_true, if_true]
    have : fill ((P.take rtr).map (·.defLevel)) rtr = (P.take rtr).map (fun row => some row.defLevel) := by
      have := fill_full ((P.take rtr).map (·.defLevel))
      rw [List.length_map, hlen] at this
      rw [this, List.map_map]; rfl
    rw [this]
  · have : col.maxDef = 0 := by omega
    simp only [this, buildBitmap_zero]

/-- The zero-copy branch hands out exactly what the standard branch would copy: it is `consume` of the
whole page, with the decoded arrays themselves as the column. -/
theorem zeroCopyCol_ok (col : Column) {c : Chunk α} {P : List (Row α)} {r : Reader α} (h : Rep c P r)
    (hmd : c.maxDef = col.maxDef) (rtr : Nat) (huse : Impl.BatchReader.useZeroCopy Fixes.all col r (rtr : Int) = true) :
    (Impl.BatchReader.zeroCopyCol r).2 = specCol col.maxDef rtr (P.take rtr) true ∧
      Rep c (P.drop rtr) (Impl.BatchReader.zeroCopyCol r).1 := by
  simp only [Impl.BatchReader.useZeroCopy, Fixes.all, if_true, Bool.and_eq_true, decide_eq_true_eq] at huse
  obtain ⟨⟨⟨⟨hl, _⟩, hv0⟩, hN⟩, hmd0⟩ := huse
  have hN' : r.pageNumValues = rtr := Int.ofNat_inj.mp hN
  have hnn0 : r.pageNonNullRead = 0 := by rw [h.inv.nnEq hl, hv0]; rfl
  have hcc : copyCount Fixes.all r rtr = rtr := by
    simp only [copyCount, Fixes.all, if_true, nonNullIn, h.chunk, hmd, hmd0, Nat.lt_irrefl, if_false]
  have hst : (Impl.BatchReader.zeroCopyCol r).1 = consume Fixes.all r rtr := by
    simp only [Impl.BatchReader.zeroCopyCol, consume, hcc, hv0, hnn0, hN', Nat.zero_add]
  obtain ⟨hrep, hlen, hd, _, hv, hnn⟩ := consume_ok h hl rtr (by rw [hv0, hN', Nat.zero_add]; exact Nat.le_refl _)
  have hdefs : (pageCopy Fixes.all r rtr).defs = srcSlice r.decodedDefs 0 rtr := by rw [← hv0]; rfl
  have hvals : (pageCopy Fixes.all r rtr).vals = srcSlice r.decodedVals 0 rtr := by
    show srcSlice r.decodedVals (srcOffset Fixes.all r) (copyCount Fixes.all r rtr) = _
    rw [hcc]; show srcSlice r.decodedVals r.pageNonNullRead rtr = _; rw [hnn0]
  have hfill : fill ((P.take rtr).filterMap (·.val)) rtr = ((P.take rtr).filterMap (·.val)).map some := by
    have := fill_full ((P.take rtr).filterMap (·.val))
    rwa [← hnn, show (pageCopy Fixes.all r rtr).nonNull = rtr from hcc] at this
  refine ⟨?_, hst ▸ hrep⟩
  show ({ numValues := r.pageNumValues, bitmap := Impl.BatchReader.zeroBitmap r.pageNumValues,
          vals := srcSlice r.decodedVals 0 r.pageNumValues, view := true,
          defs := srcSlice r.decodedDefs 0 r.pageNumValues } : ColData α) = _
  rw [specCol, hN', ← hdefs, ← hvals, hd, hv, List.length_take, Nat.min_eq_left hlen, hmd0, buildBitmap_zero, hfill]

/-- **One column of one batch**: it delivers the next `rtr` rows. -/
theorem readColumn_ok (mode : IOMode) (col : Column) {c : Chunk α} {P : List (Row α)} {r : Reader α} (h : Rep c P r)
    (hmd : c.maxDef = col.maxDef) (rtr : Nat) (h0 : 0 < rtr) (hle : rtr ≤ P.length) (h31 : rtr < 2147483648)
    (hfit : ColFits col rtr) :
    ∃ r' view, Impl.BatchReader.readColumn Fixes.all mode col r (rtr : Int) =
        (r', some (specCol col.maxDef rtr (P.take rtr) view)) ∧ Rep c (P.drop rtr) r' := by
  have h1 := tryZeroCopy_ok mode col h
  unfold Impl.BatchReader.readColumn
  by_cases huse : Impl.BatchReader.useZeroCopy Fixes.all col
      (Impl.BatchReader.tryZeroCopy Fixes.all mode col r) (rtr : Int) = true
  · simp only [huse, if_true]
    obtain ⟨hcd, h'⟩ := zeroCopyCol_ok col h1 hmd rtr huse
    exact ⟨_, true, by rw [hcd], h'⟩
  · simp only [huse, Bool.false_eq_true, if_false]
    obtain ⟨r', heq, h'⟩ := standardCol_ok col h1 rtr h0 hle h31 hfit
    exact ⟨r', false, heq, h'⟩

end Carquet.Proofs.Cursor
