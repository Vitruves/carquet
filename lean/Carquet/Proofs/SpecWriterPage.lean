import Carquet.Impl.FileReal
import Carquet.Impl.WriterSpecTable
import Carquet.Spec.File.Read
import Carquet.Proofs.WriterInv
import Carquet.Proofs.SpecFileRead
import Carquet.Proofs.SpecFilePage
import Carquet.Proofs.RleEncoder
import Carquet.Proofs.RleSpecDecoder
import Carquet.Proofs.PlainBytes
import Carquet.Proofs.PlainBool
import Carquet.Proofs.StatsPage
import Carquet.Proofs.SpecWriterHeader
/-
Page-body stage of `Spec.File.read` on the bodies carquet's page writer forms
(`Impl.Writer.pageBody` over the real components): definition levels written by `encode_levels`
(4-byte length + `carquet_rle_encode_all`) are read back by the Spec RLE-hybrid decoder (C12), the
PLAIN values of all eight types by the Spec PLAIN decoders (C12), the running min / max of the page
writer are true bounds in `Spec.Order` (C16) so that the reader's truth check of the header
statistics accepts them, and the entries the reader assembles are those of `specChunkOf`.

`PageGood` is the invariant of page builders this needs (preserved by `addValues` for batches that
are `BatchOk`); it is threaded through the writer by Proofs/WriterInv.lean (`Inv`, with `goodPred` as the predicate;
`goodPred_wf`: a builder that is `PageGood` and holds no entry holds nothing).
-/
namespace Carquet.Proofs.SpecWriter
open Carquet.Impl Carquet.Impl.Writer Carquet.Impl.FileReal
open Carquet.Spec Carquet.Spec.File
open Carquet.Proofs.WriterTable Carquet.Proofs.SpecFile

/-! ### what the caller must hand to `write_batch` -/

/-- a value is the PLAIN bit pattern of its column's type -/
def valOkT (t : PType) (typeLen : Nat) (v : Val) : Prop :=
  match t with
  | .boolean => v = [0] ∨ v = [1]
  | .int32 => v.length = 4
  | .int64 => v.length = 8
  | .int96 => v.length = 12
  | .float => v.length = 4
  | .double => v.length = 8
  | .byteArray => v.length < 2 ^ 31
  | .flba => v.length = typeLen

def ValOk (c : Col) (v : Val) : Prop := valOkT c.ptype c.typeLen v

instance (t : PType) (typeLen : Nat) (v : Val) : Decidable (valOkT t typeLen v) := by
  unfold valOkT; cases t <;> exact inferInstance

instance (c : Col) (v : Val) : Decidable (ValOk c v) := by unfold ValOk; exact inferInstance

/-- the arrays of one `write_batch` call hold what the counts say: as many dense values as entries
(REQUIRED, or NULL def_levels) or as definition levels equal to 1 (OPTIONAL, REPEATED: an entry with
definition level 0 — a null, an empty list — carries no value), one definition level and, when
rep_levels is passed, one repetition level per entry, none above the column's maximum, every value
of the column's type -/
structure BatchOk (c : Col) (b : Batch) : Prop where
  valsLen : b.vals.length = numNonNull c b
  defsLen : ∀ ds, b.defs = some ds → ds.length = b.nrows
  defsLe : c.maxDef > 0 → ∀ ds, b.defs = some ds → ∀ d ∈ ds, d ≤ c.maxDef
  valsOk : ∀ v ∈ b.vals, ValOk c v
  repsLen : ∀ rs, b.reps = some rs → rs.length = b.nrows
  repsLe : c.maxRep > 0 → ∀ rs, b.reps = some rs → ∀ r ∈ rs, r ≤ c.maxRep

instance (c : Col) (b : Batch) : Decidable (BatchOk c b) :=
  decidable_of_iff (b.vals.length = numNonNull c b ∧ (∀ ds, b.defs = some ds → ds.length = b.nrows) ∧
      (c.maxDef > 0 → ∀ ds, b.defs = some ds → ∀ d ∈ ds, d ≤ c.maxDef) ∧ (∀ v ∈ b.vals, ValOk c v) ∧
      (∀ rs, b.reps = some rs → rs.length = b.nrows) ∧ (c.maxRep > 0 → ∀ rs, b.reps = some rs → ∀ r ∈ rs, r ≤ c.maxRep))
    ⟨fun ⟨h1, h2, h3, h4, h5, h6⟩ => ⟨h1, h2, h3, h4, h5, h6⟩, fun h => ⟨h.1, h.2, h.3, h.4, h.5, h.6⟩⟩

/-- invariant of page builders -/
structure PageGood (c : Col) (p : Page) : Prop where
  defsLen : c.maxDef > 0 → p.defs.length = p.numValues
  defsNil : c.maxDef = 0 → p.defs = []
  defsLe : ∀ d ∈ p.defs, d ≤ c.maxDef
  repsNil : c.maxRep = 0 → p.reps = []
  valsLen : p.values.length = if c.maxDef > 0 then (p.defs.filter (· == c.maxDef)).length else p.numValues
  valsOk : ∀ v ∈ p.values, ValOk c v
  nulls : p.numNulls = (p.defs.filter (· < c.maxDef)).length
  minMax : p.minMax = if hasStats c.ptype then p.values.foldl (FileReal.statsStep c.ptype) none else none
  repsLen : c.maxRep > 0 → p.reps.length = p.numValues
  repsLe : ∀ r ∈ p.reps, r ≤ c.maxRep

theorem filter_lt_add_filter_eq (m : Nat) : ∀ (ds : List Nat), (∀ d ∈ ds, d ≤ m) →
    (ds.filter (· < m)).length + (ds.filter (· == m)).length = ds.length
  | [], _ => rfl
  | d :: r, h => by
    have ih := filter_lt_add_filter_eq m r (fun x hx => h x (by simp [hx]))
    have hd := h d (by simp)
    by_cases he : d = m
    · have h1 : ¬ d < m := by omega
      simp [he] at ih ⊢
      omega
    · have h1 : d < m := by omega
      simp [he, h1] at ih ⊢
      omega

theorem pageGood_empty (c : Col) : PageGood c {} := by
  refine ⟨fun _ => rfl, fun _ => rfl, fun d hd => by simp at hd, fun _ => rfl, ?_, fun v hv => by simp at hv, rfl, ?_,
    fun _ => rfl, fun r hr => by simp at hr⟩
  · simp
  · simp

theorem addValues_repsLen (D : Deps) (c : Col) (p : Page) (b : Batch)
    (h : c.maxRep > 0 → p.reps.length = p.numValues) (hb : ∀ rs, b.reps = some rs → rs.length = b.nrows) :
    c.maxRep > 0 → (addValues D c p b).reps.length = (addValues D c p b).numValues := by
  intro hm
  have h' := h hm
  cases hr : b.reps with
  | none => simp [addValues, hm, hr, h']
  | some rs => simp [addValues, hm, hr, h', hb rs hr]

theorem addValues_repsLe (D : Deps) (c : Col) (p : Page) (b : Batch)
    (h : ∀ r ∈ p.reps, r ≤ c.maxRep) (hb : c.maxRep > 0 → ∀ rs, b.reps = some rs → ∀ r ∈ rs, r ≤ c.maxRep) :
    ∀ r ∈ (addValues D c p b).reps, r ≤ c.maxRep := by
  intro r hr
  by_cases hm : c.maxRep > 0
  · cases hbr : b.reps with
    | none =>
      simp only [addValues, hm, if_true, hbr, List.mem_append, List.mem_replicate] at hr
      rcases hr with hr | hr
      · exact h r hr
      · omega
    | some rs =>
      simp only [addValues, hm, if_true, hbr, List.mem_append] at hr
      rcases hr with hr | hr
      · exact h r hr
      · exact hb hm rs hbr r hr
  · simp only [addValues, hm, if_false] at hr
    exact h r hr

theorem pageGood_add (o : FileReal.Oracle) (c : Col) (p : Page) (b : Batch) (h : PageGood c p) (hb : BatchOk c b) :
    PageGood c (addValues (deps o) c p b) := by
  -- the definition levels the batch adds to a column that has any
  have hnew : ∃ nd, (addValues (deps o) c p b).defs = (if c.maxDef > 0 then p.defs ++ nd else p.defs) ∧
      nd.length = b.nrows ∧ (c.maxDef > 0 → ∀ d ∈ nd, d ≤ c.maxDef) ∧
      (c.maxDef > 0 → (nd.filter (· == c.maxDef)).length = b.vals.length) ∧
      (c.maxDef > 0 → (addValues (deps o) c p b).numNulls = p.numNulls + (nd.filter (· < c.maxDef)).length) := by
    have hv := hb.valsLen
    cases hd : b.defs with
    | none =>
      refine ⟨List.replicate b.nrows c.maxDef, by simp [addValues, hd], by simp, fun _ d hd' => ?_, fun _ => ?_, fun hm => ?_⟩
      · rw [(List.mem_replicate.mp hd').2]; exact Nat.le_refl _
      · simp [hv, numNonNull, hd]
      · have : ¬ c.maxDef < c.maxDef := by omega
        simp [addValues, hd, this]
    | some ds =>
      refine ⟨ds, by simp [addValues, hd], hb.defsLen ds hd, fun hm => hb.defsLe hm ds hd, fun hm => ?_, fun hm => ?_⟩
      · simp [hv, numNonNull, hd, hm]
      · have := filter_lt_add_filter_eq c.maxDef ds (hb.defsLe hm ds hd)
        have hl := hb.defsLen ds hd
        simp only [addValues, hd, hm, if_true, numNonNull]
        omega
  obtain ⟨nd, hdefs, hlen, hle, hnn, hnull⟩ := hnew
  have hvals : (addValues (deps o) c p b).values = p.values ++ b.vals := rfl
  have hrows : (addValues (deps o) c p b).numValues = p.numValues + b.nrows := rfl
  refine ⟨fun hm => ?_, fun h0 => ?_, fun d hd => ?_, fun h0 => by simpa [addValues, h0] using h.repsNil h0, ?_,
    fun v hv => ?_, ?_, ?_, addValues_repsLen (deps o) c p b h.repsLen hb.repsLen,
    addValues_repsLe (deps o) c p b h.repsLe hb.repsLe⟩
  · rw [hdefs, if_pos hm, List.length_append, h.defsLen hm, hlen, hrows]
  · rw [hdefs, if_neg (by omega)]; exact h.defsNil h0
  · rw [hdefs] at hd
    split at hd
    · rename_i hm
      rcases List.mem_append.mp hd with hd | hd
      · exact h.defsLe d hd
      · exact hle hm d hd
    · exact h.defsLe d hd
  · rw [hvals, List.length_append, h.valsLen, hdefs, hrows]
    by_cases hm : c.maxDef > 0
    · simp [hm, List.filter_append, hnn hm]
    · have := hb.valsLen
      have hn : numNonNull c b = b.nrows := by unfold numNonNull; cases b.defs <;> simp [hm]
      simp [hm]; omega
  · rw [hvals] at hv
    exact (List.mem_append.mp hv).elim (h.valsOk v) (hb.valsOk v)
  · rw [hdefs]
    by_cases hm : c.maxDef > 0
    · simp [hm, hnull hm, h.nulls, List.filter_append]
    · have h0 : c.maxDef = 0 := by omega
      have := h.nulls
      simp only [h.defsNil h0, List.filter_nil, List.length_nil] at this
      cases hd : b.defs <;> simp [addValues, hd, hm, this, h.defsNil h0]
  · simp [addValues, h.minMax, deps]
    split <;> simp

/-- `PageGood` with `BatchOk` as the condition on the batches that keeps it -/
def goodPred (o : FileReal.Oracle) : WriterInv.Pred (deps o) := ⟨PageGood, BatchOk, pageGood_empty, pageGood_add o⟩

theorem goodPred_wf (o : FileReal.Oracle) : (goodPred o).WF := by
  intro c p h h0
  have hd : p.defs = [] := by
    by_cases hm : c.maxDef = 0
    · exact h.defsNil hm
    · exact List.eq_nil_of_length_eq_zero ((h.defsLen (by omega)).trans h0)
  have hr : p.reps = [] := by
    by_cases hm : c.maxRep = 0
    · exact h.repsNil hm
    · exact List.eq_nil_of_length_eq_zero ((h.repsLen (by omega)).trans h0)
  refine ⟨List.eq_nil_of_length_eq_zero ?_, hd, hr⟩
  rw [h.valsLen, hd, h0]; simp

/-! ### levels -/

theorem le32_eq_leBytes (n : Nat) : Writer.le32 n = File.leBytes 4 n := by
  simp [Writer.le32, File.leBytes, Nat.div_div_eq_div_mul]

/-- `encode_levels` (length prefix + `carquet_rle_encode_all`) is read back by the reader's level
stage, which stops exactly behind the stream -/
theorem readLevels_levels (m : Nat) (hm0 : m ≠ 0) (hm : m < 2 ^ 32) (ls : List Nat) (hle : ∀ l ∈ ls, l ≤ m)
    (rest : List UInt8) (hlen : (Rle.encode (FileReal.bitWidth m) ls).length < 2 ^ 32) :
    readLevels m ls.length (FileReal.levels m ls ++ rest) = .ok (ls, rest) := by
  have hw : levelWidth m = FileReal.bitWidth m := by
    simp [levelWidth, FileReal.bitWidth, Writer.bitWidthForMax]
  have hwle : FileReal.bitWidth m ≤ 32 := by
    simp only [FileReal.bitWidth, Writer.bitWidthForMax, hm0, if_false]
    have := (Nat.log2_lt hm0).mpr hm
    omega
  have hlt : ∀ l ∈ ls, l < 2 ^ FileReal.bitWidth m := by
    intro l hl
    have h1 := hle l hl
    have h2 : m < 2 ^ (m.log2 + 1) := Nat.lt_log2_self
    simp only [FileReal.bitWidth, Writer.bitWidthForMax, hm0, if_false]
    omega
  obtain ⟨pad, hruns, _, _⟩ := Carquet.Proofs.RleEncoder.encode_runs hwle ls hlt
  have := readLevels_stream m hm0 ls _ rest ⟨pad, hw ▸ hruns⟩ hle hlen
  rwa [prefixed, ← le32_eq_leBytes] at this

theorem readLevels_page (m : Nat) (hm : m < 2 ^ 32) (ls : List Nat) (n : Nat) (hn : 0 < n) (hnil : m = 0 → ls = [])
    (hlen : m > 0 → ls.length = n) (hle : ∀ l ∈ ls, l ≤ m) (rest : List UInt8)
    (henc : 0 < ls.length → (Rle.encode (FileReal.bitWidth m) ls).length < 2 ^ 32) :
    readLevels m n ((if 0 < ls.length then FileReal.levels m ls else []) ++ rest) =
      .ok (if m = 0 then List.replicate n 0 else ls, rest) := by
  by_cases h0 : m = 0
  · simp [readLevels, h0, hnil h0]
  · have hl := hlen (by omega)
    have hpos : 0 < ls.length := by omega
    simp only [h0, hpos, if_true, if_false]
    rw [← hl]
    exact readLevels_levels m h0 hm ls hle rest (henc hpos)

/-! ### PLAIN values -/

/-- the column as the independent reader sees it -/
def leafOf (c : Col) : LeafInfo := ⟨c.maxDef, c.maxRep, specPType c.ptype, c.typeLen, [c.name]⟩

theorem boolBytes_roundtrip : ∀ (vs : List Val), (∀ v ∈ vs, v = [0] ∨ v = [1]) →
    ((vs.map (fun v => v.headD 0)).map (fun v => v != 0)).map boolByte = vs
  | [], _ => rfl
  | v :: r, h => by
    have ih := boolBytes_roundtrip r (fun x hx => h x (by simp [hx]))
    rcases h v (by simp) with rfl | rfl
    · simp only [List.map_cons, ih]; rfl
    · simp only [List.map_cons, ih]; rfl

/-- the values section of a written page (`carquet_encode_plain_*`) is read back by the reader's
PLAIN stage, which consumes it entirely -/
theorem plainValues_written (c : Col) (vals : List Val) (hv : ∀ v ∈ vals, ValOk c v) :
    plainValues (leafOf c) vals.length
      (if c.ptype = .boolean then FileReal.plainBools vals else FileReal.plain c.ptype c.typeLen vals) =
      some (vals, []) := by
  unfold plainValues leafOf ValOk at *
  cases hp : c.ptype <;> simp only [hp, valOkT, specPType, if_true, reduceCtorEq, if_false, FileReal.plain] at hv ⊢
  · -- BOOLEAN
    have henc : FileReal.plainBools vals =
        Spec.Plain.encodeBool ((vals.map (fun v => v.headD 0)).map (fun v => v != 0)) := by
      simp [FileReal.plainBools, Plain.encodeBoolean, Carquet.Proofs.Plain.packBools_eq_spec]
    have hdec := Carquet.Proofs.Plain.spec_decodeBool_encode ((vals.map (fun v => v.headD 0)).map (fun v => v != 0)) []
    have hl := Carquet.Proofs.Plain.encodeBool_length ((vals.map (fun v => v.headD 0)).map (fun v => v != 0))
    simp only [List.length_map, List.append_nil] at hdec hl
    rw [henc, hdec]
    simp only [boolBytes_roundtrip vals hv]
    rw [List.drop_eq_nil_of_le (by rw [hl]; unfold Spec.Plain.boolBytes; exact Nat.le_refl _)]
  · simpa [Spec.Plain.encodeFlba] using Carquet.Proofs.Plain.spec_decodeFlba_encode 4 vals hv []
  · simpa [Spec.Plain.encodeFlba] using Carquet.Proofs.Plain.spec_decodeFlba_encode 8 vals hv []
  · simpa [Spec.Plain.encodeFlba] using Carquet.Proofs.Plain.spec_decodeFlba_encode 12 vals hv []
  · simpa [Spec.Plain.encodeFlba] using Carquet.Proofs.Plain.spec_decodeFlba_encode 4 vals hv []
  · simpa [Spec.Plain.encodeFlba] using Carquet.Proofs.Plain.spec_decodeFlba_encode 8 vals hv []
  · have hlt : ∀ v ∈ vals, v.length < 2 ^ 32 := fun v h => Nat.lt_trans (hv v h) (by decide)
    rw [Carquet.Proofs.Plain.encodeByteArray_eq_spec vals hlt]
    have := Carquet.Proofs.Plain.spec_decodeByteArray_encode vals [] hlt
    simpa using this
  · simpa [Spec.Plain.encodeFlba] using Carquet.Proofs.Plain.spec_decodeFlba_encode c.typeLen vals hv []

/-! ### statistics: the page writer's running min / max are true bounds -/

open Carquet.Proofs.StatsBuilder in
/-- the running min / max as the abstract `MM` of Proofs/StatsBuilder -/
def mmOfOpt : Option (Val × Val) → MM
  | none => ⟨false, [], []⟩
  | some (mn, mx) => ⟨true, mn, mx⟩

theorem orderType_eq (t : PType) : FileReal.orderType t = specPType t := by cases t <;> rfl

theorem hasStats_tracked (t : PType) (h : hasStats t = true) : Stats.pwTracked (specPType t) = true := by
  cases t <;> simp [hasStats] at h <;> rfl

open Carquet.Proofs.StatsBuilder Carquet.Proofs.StatsPage Carquet.Proofs.StatsCmp in
theorem statsStep_mm (t : PType) (ht : Stats.pwTracked (specPType t) = true) (cur : Option (Val × Val)) (v : Val) :
    mmOfOpt (FileReal.statsStep t cur v) = (mmOfOpt cur).step (specPType t) v := by
  cases cur with
  | none => simp [FileReal.statsStep, mmOfOpt, MM.step]
  | some q =>
    obtain ⟨mn, mx⟩ := q
    simp [FileReal.statsStep, mmOfOpt, MM.step, orderType_eq, pwLess_eq _ ht, pwGreater_eq _ ht, cmpTyped_eq]
    exact ⟨rfl, rfl⟩

open Carquet.Proofs.StatsBuilder in
theorem statsFold_mm (t : PType) (ht : Stats.pwTracked (specPType t) = true) : ∀ (vals : List Val) (cur : Option (Val × Val)),
    mmOfOpt (vals.foldl (FileReal.statsStep t) cur) = vals.foldl (MM.step (specPType t)) (mmOfOpt cur)
  | [], _ => rfl
  | v :: r, cur => by
    simp only [List.foldl_cons]
    rw [statsFold_mm t ht r, statsStep_mm t ht]

open Carquet.Proofs.StatsBuilder in
/-- after folding `update_statistics_*` over the values of a page: both bounds are values of the
page and bound every value in the statistics order of the type -/
theorem statsFold_bounds (t : PType) (ht : hasStats t = true) (vals : List Val) (mn mx : Val)
    (h : vals.foldl (FileReal.statsStep t) none = some (mn, mx)) :
    mn ∈ vals ∧ mx ∈ vals ∧ ∀ v ∈ vals, Order.tle (specPType t) mn v ∧ Order.tle (specPType t) v mx := by
  have hinv := MM.fold_inv (specPType t) vals ⟨false, [], []⟩ [] (MM.inv_empty _ [] [])
  have hm := statsFold_mm t (hasStats_tracked t ht) vals none
  rw [h] at hm
  simp only [mmOfOpt] at hm
  rw [← hm] at hinv
  obtain ⟨a, b, c⟩ := hinv.2 rfl
  simp only [List.nil_append, List.mem_map, Option.some.injEq, exists_eq_right] at a b c
  exact ⟨a, b, fun v hv => c v hv⟩

theorem validStat_of_valOk (c : Col) (hs : hasStats c.ptype = true) (v : Val) (hv : ValOk c v) :
    validStat (leafOf c) v = true := by
  unfold validStat leafOf ValOk at *
  cases hp : c.ptype <;> simp [hp, hasStats] at hs <;> simp only [hp, valOkT, specPType] at hv ⊢ <;>
    exact decide_eq_true (by simp [Order.Valid, Order.PType.width, hv])

theorem specDefs_pageData (c : Col) (p : Page) :
    specDefs c (pageData p) = if c.maxDef = 0 then List.replicate p.numValues 0 else p.defs := rfl

/-- **the statistics of a written page header pass the reader's truth check** -/
theorem checkStats_written (c : Col) (p : Page) (hg : PageGood c p) :
    checkStats (leafOf c) (specDefs c (pageData p)) p.values ((pageStatsOf p).map statsMetaOf) = .ok () := by
  unfold pageStatsOf
  rw [hg.minMax]
  by_cases hs : hasStats c.ptype = true
  · simp only [hs, if_true]
    cases hf : p.values.foldl (FileReal.statsStep c.ptype) none with
    | none => rfl
    | some q =>
      obtain ⟨mn, mx⟩ := q
      obtain ⟨hmn, hmx, hb⟩ := statsFold_bounds c.ptype hs p.values mn mx hf
      have hnull : checkNullCount (leafOf c) (specDefs c (pageData p)) (some (p.numNulls : Int)) = .ok () := by
        unfold checkNullCount
        rw [specDefs_pageData, hg.nulls]
        by_cases h0 : c.maxDef = 0
        · simp [h0, leafOf]
        · simp [h0, leafOf]
          rfl
      have hmin : checkBound (leafOf c) true p.values (some mn) = .ok () := by
        have hall : p.values.all (fun v => decide (Order.tle (leafOf c).ptype mn v)) = true := by
          rw [List.all_eq_true]; intro v hv; exact decide_eq_true (hb v hv).1
        simp [checkBound, validStat_of_valOk c hs mn (hg.valsOk mn hmn), hall]
      have hmax : checkBound (leafOf c) false p.values (some mx) = .ok () := by
        have hall : p.values.all (fun v => decide (Order.tle (leafOf c).ptype v mx)) = true := by
          rw [List.all_eq_true]; intro v hv; exact decide_eq_true (hb v hv).2
        simp [checkBound, validStat_of_valOk c hs mx (hg.valsOk mx hmx), hall]
      have hnone1 : checkBound (leafOf c) true p.values none = .ok () := rfl
      have hnone2 : checkBound (leafOf c) false p.values none = .ok () := rfl
      simp only [Option.map_some, statsMetaOf, checkStats, hnull, hmin, hmax, hnone1, hnone2, andThen]
  · simp [hs]
    rfl

/-! ### entries -/

theorem assemble_eq (m : Nat) : ∀ (rs ds : List Nat) (vs : List Val),
    assemble m rs ds vs = specEntriesR m rs ds vs
  | [], _, _ => by simp [assemble, specEntriesR]
  | _ :: _, [], _ => by simp [assemble, specEntriesR]
  | r :: rs, d :: ds, vs => by
    simp only [assemble, specEntriesR]
    by_cases hd : d = m
    · simp only [hd, if_true]
      cases vs with
      | nil => simp only [assemble_eq m rs ds []]
      | cons v vs' => simp only [assemble_eq m rs ds vs']
    · simp only [hd, if_false, assemble_eq m rs ds vs]

theorem specEntriesR_flat (m : Nat) (ds : List Nat) (vs : List Val) :
    specEntriesR m (List.replicate ds.length 0) ds vs = specEntries m ds vs := by
  induction ds generalizing vs with
  | nil => rfl
  | cons d r ih =>
    simp only [List.length_cons, List.replicate_succ, specEntriesR, specEntries]
    by_cases hd : d = m
    · cases vs <;> simp only [hd, if_true, ih]
    · simp only [hd, if_false, ih]

theorem specReps_pageData (c : Col) (p : Page) :
    specReps c (pageData p) = if c.maxRep = 0 then List.replicate p.numValues 0 else p.reps := rfl

theorem specReps_length (c : Col) (p : Page) (hg : PageGood c p) : (specReps c (pageData p)).length = p.numValues := by
  rw [specReps_pageData]
  by_cases h0 : c.maxRep = 0
  · simp [h0]
  · simp only [h0, if_false]; exact hg.repsLen (by omega)

theorem specDefs_length (c : Col) (p : Page) (hg : PageGood c p) : (specDefs c (pageData p)).length = p.numValues := by
  rw [specDefs_pageData]
  by_cases h0 : c.maxDef = 0
  · simp [h0]
  · simp only [h0, if_false]; exact hg.defsLen (by omega)

theorem nonNullCount_specDefs (c : Col) (p : Page) (hg : PageGood c p) :
    nonNullCount c.maxDef (specDefs c (pageData p)) = p.values.length := by
  rw [specDefs_pageData, hg.valsLen]
  unfold nonNullCount
  by_cases h0 : c.maxDef = 0
  · simp [h0]
  · have : c.maxDef > 0 := by omega
    simp [h0, this]

/-- **page-body stage**: the independent reader decodes the body of a written page (under the
header it carries) to the entries of the page's content — repetition levels (REPEATED columns),
definition levels, PLAIN values, true statistics. -/
theorem decodeDataPage_written (o : FileReal.Oracle) (c : Col) (p : Page) (hg : PageGood c p)
    (hrep : c.maxRep < 2 ^ 32) (hdef : c.maxDef < 2 ^ 32) (hrows : 0 < p.numValues)
    (hlenR : 0 < p.reps.length → (Rle.encode (FileReal.bitWidth c.maxRep) p.reps).length < 2 ^ 32)
    (hlen : 0 < p.defs.length → (Rle.encode (FileReal.bitWidth c.maxDef) p.defs).length < 2 ^ 32) :
    decodeDataPage (leafOf c) none ⟨p.numValues, 0, 3, 3, (pageStatsOf p).map statsMetaOf⟩ (pageBody (deps o) c p) =
      .ok (specChunkOf c (pageData p)) := by
  have hvals := plainValues_written c p.values hg.valsOk
  have hnn := nonNullCount_specDefs c p hg
  have hst := checkStats_written c p hg
  have hrl := fun rest => readLevels_page c.maxRep hrep p.reps p.numValues hrows hg.repsNil hg.repsLen hg.repsLe rest hlenR
  have hdl := fun rest => readLevels_page c.maxDef hdef p.defs p.numValues hrows hg.defsNil hg.defsLen hg.defsLe rest hlen
  rw [← specReps_pageData] at hrl
  rw [← specDefs_pageData] at hdl
  have hbody : pageBody (deps o) c p =
      (if 0 < p.reps.length then FileReal.levels c.maxRep p.reps else []) ++
      ((if 0 < p.defs.length then FileReal.levels c.maxDef p.defs else []) ++
        (if c.ptype = .boolean then FileReal.plainBools p.values else FileReal.plain c.ptype c.typeLen p.values)) := by
    simp [pageBody, deps, List.append_assoc]
  rw [hbody]
  refine (decodeDataPage_accepts (leaf := leafOf c) (h := ⟨p.numValues, 0, 3, 3, (pageStatsOf p).map statsMetaOf⟩)
    (vals := p.values) rfl rfl (hrl _) (hdl _) ?_ hst).trans ?_
  · rw [show (leafOf c).maxDef = c.maxDef from rfl, hnn]
    simp [readValues, hvals]
  · simp [specChunkOf, assemble_eq, leafOf, pageData]

end Carquet.Proofs.SpecWriter
