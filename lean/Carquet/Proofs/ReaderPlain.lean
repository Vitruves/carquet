import Carquet.Impl.Reader
import Carquet.Proofs.NatBits
/-
PLAIN decoding of the fixed-width types is "cut the input into values": what the zero-copy view
of a page hands out is what the copying decoder produces (helper lemmas for C03_page_modes_agree).
-/
namespace Carquet.Proofs.ReaderPlain
open Carquet.Impl Carquet.Impl.Reader Carquet.Impl.Plain

open Carquet.Impl.Bitpack (leNat leBytes)
open Carquet.Proofs.NatBits (leNat_lt leBytes_leNat)

theorem memU32_eq_leBytes (v : UInt32) : memU32 v = leBytes 4 v.toNat := by
  simp [memU32, leBytes, Nat.div_div_eq_div_mul]

theorem memU64_eq_leBytes (v : UInt64) : memU64 v = leBytes 8 v.toNat := by
  simp [memU64, leBytes, Nat.div_div_eq_div_mul]

theorem memU32_loadU32 (b0 b1 b2 b3 : UInt8) : memU32 (loadU32 b0 b1 b2 b3) = [b0, b1, b2, b3] := by
  have hv : loadU32 b0 b1 b2 b3 = UInt32.ofNat (leNat [b0, b1, b2, b3]) := by
    simp only [loadU32, leNat, Nat.mul_add, Nat.mul_zero, Nat.add_zero, ← Nat.mul_assoc, Nat.add_assoc, Nat.reduceMul]
  have hlt : leNat [b0, b1, b2, b3] < 2 ^ 32 := leNat_lt [b0, b1, b2, b3]
  rw [memU32_eq_leBytes, hv, UInt32.toNat_ofNat', Nat.mod_eq_of_lt hlt]
  exact leBytes_leNat [b0, b1, b2, b3]

theorem memU64_loadU64 (b0 b1 b2 b3 b4 b5 b6 b7 : UInt8) :
    memU64 (loadU64 b0 b1 b2 b3 b4 b5 b6 b7) = [b0, b1, b2, b3, b4, b5, b6, b7] := by
  have hv : loadU64 b0 b1 b2 b3 b4 b5 b6 b7 = UInt64.ofNat (leNat [b0, b1, b2, b3, b4, b5, b6, b7]) := by
    simp only [loadU64, leNat, Nat.mul_add, Nat.mul_zero, Nat.add_zero, ← Nat.mul_assoc, Nat.add_assoc, Nat.reduceMul]
  have hlt : leNat [b0, b1, b2, b3, b4, b5, b6, b7] < 2 ^ 64 := leNat_lt [b0, b1, b2, b3, b4, b5, b6, b7]
  rw [memU64_eq_leBytes, hv, UInt64.toNat_ofNat', Nat.mod_eq_of_lt hlt]
  exact leBytes_leNat [b0, b1, b2, b3, b4, b5, b6, b7]

theorem chunks_take (k : Nat) : ∀ (n : Nat) (b : Bytes), chunks k n (b.take (n * k)) = chunks k n b := by
  intro n
  induction n with
  | zero => intro b; rfl
  | succ n ih =>
    intro b
    unfold chunks
    have h1 : (b.take ((n + 1) * k)).take k = b.take k := by
      rw [List.take_take]; congr 1; rw [Nat.succ_mul]; omega
    have h2 : (b.take ((n + 1) * k)).drop k = (b.drop k).take (n * k) := by
      rw [List.drop_take]; congr 1; rw [Nat.succ_mul]; omega
    rw [h1, h2, ih]

theorem cons4 {α : Type} : ∀ {xs : List α}, 4 ≤ xs.length → ∃ a b c d r, xs = a :: b :: c :: d :: r
  | a :: b :: c :: d :: r, _ => ⟨a, b, c, d, r, rfl⟩
  | [], h | [_], h | [_, _], h | [_, _, _], h => by simp at h

theorem load32s_chunks : ∀ (n : Nat) (xs : List UInt8), xs.length = n * 4 → (load32s xs).map memU32 = chunks 4 n xs
  | 0, xs, h => by cases List.eq_nil_of_length_eq_zero (l := xs) (by omega); rfl
  | n + 1, xs, h => by
    obtain ⟨b0, b1, b2, b3, rest, rfl⟩ := cons4 (xs := xs) (by omega)
    have hr : rest.length = n * 4 := by simp only [List.length_cons] at h; omega
    rw [load32s, List.map_cons, memU32_loadU32, load32s_chunks n rest hr]
    rfl

theorem load64s_chunks : ∀ (n : Nat) (xs : List UInt8), xs.length = n * 8 → (load64s xs).map memU64 = chunks 8 n xs
  | 0, xs, h => by cases List.eq_nil_of_length_eq_zero (l := xs) (by omega); rfl
  | n + 1, xs, h => by
    obtain ⟨b0, b1, b2, b3, r, rfl⟩ := cons4 (xs := xs) (by omega)
    obtain ⟨b4, b5, b6, b7, rest, rfl⟩ := cons4 (xs := r) (by simp only [List.length_cons] at h; omega)
    have hr : rest.length = n * 8 := by simp only [List.length_cons] at h; omega
    rw [load64s, List.map_cons, memU64_loadU64, load64s_chunks n rest hr]
    rfl

def mem96 (w : Int96) : List UInt8 := memU32 w.1 ++ memU32 w.2.1 ++ memU32 w.2.2

theorem loop96_chunks : ∀ (n : Nat) (input : List UInt8), n * 12 ≤ input.length →
    ∃ vs, loop96 n input = some vs ∧ vs.map mem96 = chunks 12 n input
  | 0, _, _ => ⟨[], rfl, rfl⟩
  | n + 1, input, h => by
    obtain ⟨b0, b1, b2, b3, r, rfl⟩ := cons4 (xs := input) (by omega)
    obtain ⟨b4, b5, b6, b7, r, rfl⟩ := cons4 (xs := r) (by simp only [List.length_cons] at h; omega)
    obtain ⟨b8, b9, b10, b11, rest, rfl⟩ := cons4 (xs := r) (by simp only [List.length_cons] at h; omega)
    obtain ⟨vs, hvs, hm⟩ := loop96_chunks n rest (by simp only [List.length_cons] at h; omega)
    refine ⟨(loadU32 b0 b1 b2 b3, loadU32 b4 b5 b6 b7, loadU32 b8 b9 b10 b11) :: vs, ?_, ?_⟩
    · rw [loop96, hvs]
    · rw [List.map_cons, mem96, memU32_loadU32, memU32_loadU32, memU32_loadU32, hm]; rfl

/-- a column description as `carquet_reader_get_column` produces it: FIXED_LEN_BYTE_ARRAY has a
positive length -/
def ColValid (c : Col) : Prop := c.ptype = 7 → 0 < c.typeLength

theorem plainValues_fixed (ptype typeLength : Int) (input : Bytes) (n : Nat)
    (hfw : fixedWidth ptype = true) (hflba : ptype = 7 → 0 < typeLength)
    (hlen : n * valueSize ptype typeLength ≤ input.length) (hsz : input.length < 2 ^ 64) :
    plainValues ptype typeLength input n = .ok (chunks (valueSize ptype typeLength) n input) := by
  have hfw' : ptype = 1 ∨ ptype = 2 ∨ ptype = 4 ∨ ptype = 5 ∨ ptype = 3 ∨ ptype = 7 := by
    simpa [fixedWidth] using hfw
  -- the size check of every decoder passes: the product does not wrap, the input holds it
  have hsm : ∀ k, n * k ≤ input.length → sizeMul ((n : Int).toNat) k = n * k ∧ ¬ input.length < n * k := by
    intro k hk; unfold sizeMul; rw [Int.toNat_natCast]; exact ⟨Nat.mod_eq_of_lt (by omega), by omega⟩
  have hnn : ¬ ((n : Int) < 0) := by omega
  have h32 : n * 4 ≤ input.length → plainRes (fun v => v.map memU32) (decodeInt32 input n) = .ok (chunks 4 n input) := by
    intro hl
    rw [decodeInt32, if_neg hnn, (hsm 4 hl).1, if_neg (hsm 4 hl).2, plainRes,
      load32s_chunks n _ (by rw [List.length_take]; omega), chunks_take]
  have h64 : n * 8 ≤ input.length → plainRes (fun v => v.map memU64) (decodeInt64 input n) = .ok (chunks 8 n input) := by
    intro hl
    rw [decodeInt64, if_neg hnn, (hsm 8 hl).1, if_neg (hsm 8 hl).2, plainRes,
      load64s_chunks n _ (by rw [List.length_take]; omega), chunks_take]
  rcases hfw' with rfl | rfl | rfl | rfl | rfl | rfl
  · exact h32 hlen
  · exact h64 hlen
  · exact h32 hlen
  · exact h64 hlen
  · have hl : n * 12 ≤ input.length := hlen
    obtain ⟨vs, hvs, hm⟩ := loop96_chunks n input hl
    show plainRes (fun v => v.map mem96) (decodeInt96 input n) = _
    rw [decodeInt96, if_neg hnn, (hsm 12 hl).1, if_neg (hsm 12 hl).2, Int.toNat_natCast, hvs, plainRes, hm]
    rfl
  · have hpos := hflba rfl
    have hl : n * typeLength.toNat ≤ input.length := hlen
    show plainRes (fun v => chunks typeLength.toNat n v) (decodeFlba input n typeLength) = .ok (chunks typeLength.toNat n input)
    rw [decodeFlba, if_neg (by omega), (hsm _ hl).1, if_neg (hsm _ hl).2, plainRes, chunks_take]

end Carquet.Proofs.ReaderPlain
