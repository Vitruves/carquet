import Carquet.Proofs.ImplReadsCell
/-
C06, implementation half — stage "layout": walking `writeGroups` / `writeChunks`, every column chunk of
the file is a `writeChunk` output sitting at the offset its footer entry (`chunkDesc`) records, with
known bytes before and after it.
-/
namespace Carquet.Proofs.ImplReads
open Carquet.Spec Carquet.Spec.File Carquet.Spec.Thrift Carquet.Spec.ParquetThrift
open Carquet.Proofs.SpecFile (ChunkAdm CcDesc RgDesc2 writeChunk_adm chunkDesc chunkDesc_ok)

/-- chunk `(leaf, cl, es)` with footer entry `d` lies in `bytes`, which start at file offset `pos` -/
def CellOf (bytes : Bytes) (pos : Nat) (oracle : Oracle) (leaf : LeafInfo) (cl : ChunkLayout) (es : Chunk) (d : CcDesc) : Prop :=
  ∃ (posj : Nat) (c : ChunkOut) (a b : Bytes) (dp pages : Written),
    writeChunk leaf cl es posj = some c ∧ bytes = a ++ c.bytes ++ b ∧ posj = pos + a.length ∧
    d = chunkDesc leaf cl es posj dp pages ∧ c.cmeta = .struct d.fields ∧ (∀ e ∈ c.oracle, e ∈ oracle) ∧
    chunkUsizeOk c.cmeta = true

theorem CellOf.extend {bytes : Bytes} {pos : Nat} {oracle : Oracle} {leaf : LeafInfo} {cl : ChunkLayout} {es : Chunk} {d : CcDesc}
    (h : CellOf bytes pos oracle leaf cl es d) (pre post : Bytes) (pos0 : Nat) (oracle' : Oracle) (hpos : pos = pos0 + pre.length)
    (ho : ∀ e ∈ oracle, e ∈ oracle') : CellOf (pre ++ bytes ++ post) pos0 oracle' leaf cl es d := by
  obtain ⟨posj, c, a, b, dp, pages, h1, h2, h3, h4, h5, h6, h7⟩ := h
  refine ⟨posj, c, pre ++ a, b ++ post, dp, pages, h1, ?_, ?_, h4, h5, fun e he => ho e (h6 e he), h7⟩
  · rw [h2]; simp [List.append_assoc]
  · rw [h3, hpos]; simp only [List.length_append]; omega

theorem writeChunks_cells (leaves : List LeafInfo) (cls : List ChunkLayout) (ess : List Chunk) (pos : Nat) (g : GroupOut)
    (hpl : ∀ cl ∈ cls, ChunkAdm cl) (hw : writeChunks leaves cls ess pos = some g) (husz : ∀ mv ∈ g.metas, chunkUsizeOk mv = true) :
    ∃ ds : List CcDesc, g.metas = ds.map (fun d => TVal.struct d.fields) ∧ (∀ d ∈ ds, d.Ok) ∧
      g.endPos = pos + g.bytes.length ∧ ds.length = leaves.length ∧ cls.length = leaves.length ∧ ess.length = leaves.length ∧
      ∀ (j : Nat) (leaf : LeafInfo) (cl : ChunkLayout) (es : Chunk) (d : CcDesc),
        leaves[j]? = some leaf → cls[j]? = some cl → ess[j]? = some es → ds[j]? = some d →
        CellOf g.bytes pos g.oracle leaf cl es d := by
  fun_induction writeChunks leaves cls ess pos generalizing g with
  | case1 pos =>
    cases hw
    exact ⟨[], rfl, (fun d hd => by cases hd), by simp, rfl, rfl, rfl, fun j _ _ _ _ h => by simp at h⟩
  | case2 | case3 | case5 => cases hw
  | case4 leaf ls cl cls es ess pos c hc g' hr ih =>
    cases hw
    simp only at husz
    have hcl := hpl cl (by simp)
    obtain ⟨dp, pages, hdp, hpages, hwf, hcodecs, hdictc, hbytes, hmeta, horacle, hend, _⟩ := writeChunk_adm hcl hc
    obtain ⟨ds', hds', hok', hend', hl1, hl2, hl3, hcells⟩ := ih g' (fun x hx => hpl x (by simp [hx])) hr
      (fun x hx => husz x (by simp [hx]))
    have hdok := chunkDesc_ok leaf cl es pos dp pages hcl
    have hclen : c.endPos = pos + c.bytes.length := by rw [hend, hbytes]; simp only [List.length_append]; omega
    refine ⟨chunkDesc leaf cl es pos dp pages :: ds', by simp [hmeta, hds'], ?_, ?_, by simp [hl1], by simp [hl2],
      by simp [hl3], ?_⟩
    · intro d hd
      rcases List.mem_cons.mp hd with rfl | hd'
      · exact hdok
      · exact hok' d hd'
    · simp only [List.length_append, hend', hclen]; omega
    · intro j leaf' cl' es' d h1 h2 h3 h4
      cases j with
      | zero =>
        simp only [List.getElem?_cons_zero, Option.some.injEq] at h1 h2 h3 h4
        subst h1 h2 h3 h4
        exact ⟨pos, c, [], g'.bytes, dp, pages, hc, by simp, by simp, rfl, hmeta, fun e he => by simp [he],
          husz _ (by simp)⟩
      | succ j =>
        simp only [List.getElem?_cons_succ] at h1 h2 h3 h4
        have := (hcells j leaf' cl' es' d h1 h2 h3 h4).extend c.bytes [] pos (c.oracle ++ g'.oracle) hclen
          (fun e he => by simp [he])
        simpa using this

theorem writeGroups_cells (leaves : List LeafInfo) (extra : File.Fields) (hx : extrasOk rowGroup extra = true)
    (lay : List (List ChunkLayout)) (groups : List RowGroup) (pos : Nat) (G : GroupOut)
    (hpl : ∀ g ∈ lay, ∀ cl ∈ g, ChunkAdm cl) (hw : writeGroups leaves extra lay groups pos = some G)
    (husz : ∀ rg ∈ G.metas, rgUsizeOk rg = true) :
    ∃ ds : List RgDesc2, G.metas = ds.map (fun d => TVal.struct d.fields) ∧ (∀ d ∈ ds, d.Ok) ∧
      G.endPos = pos + G.bytes.length ∧ ds.map (·.numRows) = groups.map (groupRows leaves) ∧
      ds.length = groups.length ∧ lay.length = groups.length ∧
      ∀ (i : Nat) (cls : List ChunkLayout) (g : RowGroup) (rd : RgDesc2),
        lay[i]? = some cls → groups[i]? = some g → ds[i]? = some rd →
        rd.extra = extra ∧ rd.chunks.length = leaves.length ∧ cls.length = leaves.length ∧ g.chunks.length = leaves.length ∧
        ∀ (j : Nat) (leaf : LeafInfo) (cl : ChunkLayout) (es : Chunk) (d : CcDesc),
          leaves[j]? = some leaf → cls[j]? = some cl → g.chunks[j]? = some es → rd.chunks[j]? = some d →
          CellOf G.bytes pos G.oracle leaf cl es d := by
  fun_induction writeGroups leaves extra lay groups pos generalizing G with
  | case1 pos =>
    cases hw
    exact ⟨[], rfl, (fun d hd => by cases hd), by simp, rfl, rfl, rfl, fun i _ _ _ h => by simp at h⟩
  | case2 | case3 | case4 | case6 => cases hw
  | case5 cls r g gs pos h o hwc rest hr ih =>
    cases hw
    simp only at husz
    have husz0 := Carquet.Proofs.SpecFile.rgUsizeOk_withExtras o.metas o.usize (groupRows leaves g) extra hx
      (husz _ (by simp))
    obtain ⟨ms, hms, hmok, hend, hl1, hl2, hl3, hcells⟩ := writeChunks_cells leaves cls g.chunks pos o (hpl cls (by simp))
      hwc husz0
    obtain ⟨ds', hds', hok', hend', hnr', hl4, hl5, hcells'⟩ := ih rest (fun x hx' => hpl x (by simp [hx'])) hr
      (fun x hx' => husz x (by simp [hx']))
    refine ⟨⟨ms, o.usize, groupRows leaves g, extra⟩ :: ds', ?_, ?_, ?_, by simp [hnr'], by simp [hl4], by simp [hl5], ?_⟩
    · simp only [List.map_cons, hds', hms]
      rfl
    · intro d hd
      rcases List.mem_cons.mp hd with rfl | hd'
      · exact ⟨hx, hmok⟩
      · exact hok' d hd'
    · simp only [List.length_append, hend', hend]; omega
    · intro i cls' g' rd h1 h2 h3
      cases i with
      | zero =>
        simp only [List.getElem?_cons_zero, Option.some.injEq] at h1 h2 h3
        subst h1 h2 h3
        refine ⟨rfl, hl1, hl2, hl3, ?_⟩
        intro j leaf cl es d k1 k2 k3 k4
        have := (hcells j leaf cl es d k1 k2 k3 k4).extend [] rest.bytes pos (o.oracle ++ rest.oracle) (by simp)
          (fun e he => by simp [he])
        simpa using this
      | succ i =>
        simp only [List.getElem?_cons_succ] at h1 h2 h3
        obtain ⟨e1, e2, e3, e4, hc⟩ := hcells' i cls' g' rd h1 h2 h3
        refine ⟨e1, e2, e3, e4, ?_⟩
        intro j leaf cl es d k1 k2 k3 k4
        have := (hc j leaf cl es d k1 k2 k3 k4).extend o.bytes [] pos (o.oracle ++ rest.oracle) hend
          (fun e he => by simp [he])
        simpa using this

end Carquet.Proofs.ImplReads
