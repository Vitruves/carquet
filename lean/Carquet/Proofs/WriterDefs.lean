import Carquet.Impl.WriterHistory
/-
The terms in which a written file is described (generic in `Deps`).

Layout: chunk and row-group metadata describe consecutive byte ranges (`ChunksAt`, `GroupsAt`; C05 "column chunks
tiling the data region without gaps or overlap inside the file").  Pages: the ghost records `PageRec` of the finished
pages, their bytes (`pagesBytes`, `groupBytes`, `dataBytes`), what `carquet_page_writer_finalize` guarantees of one
(`PageOk`), the chunk metadata as sums over the pages (`ChunkPages`, `AllChunks`, `AllGroups`; C05 "page headers whose
sizes chain exactly through each chunk, value counts that add up pages -> chunk, uncompressed sizes that match").
Content: what a page builder, the page records of a chunk, a column writer hold as `ColData` (`pageData`, `pagesData`,
`colData`), the abstract state `abs` that `tableOf` (Impl/WriterHistory.lean) is defined over, and that a page record
is the finalisation of the content it carries (`PagesOf`, `GroupOf`).  That the writer establishes all this is
Proofs/WriterInv.lean and Proofs/WriterRun.lean.
-/
namespace Carquet.Proofs.WriterLayout
open Carquet.Impl.Writer

/-- chunk metadata describe consecutive byte ranges starting at `start` -/
def ChunksAt : List ChunkMeta → Nat → Prop
  | [], _ => True
  | c :: cs, start => c.fileOffset = start ∧ ChunksAt cs (start + c.totalCompressed)

def chunksSize (cs : List ChunkMeta) : Nat := (cs.map (·.totalCompressed)).sum

/-- row-group metadata describe consecutive byte ranges starting at `start`; `total_compressed_size`
of a row group is the sum of its chunks' compressed sizes, `total_byte_size` the sum of their
`total_uncompressed_size` (parquet.thrift; after fix F23) -/
def GroupsAt : List RgMeta → Nat → Prop
  | [], _ => True
  | g :: gs, start =>
    g.fileOffset = start ∧ ChunksAt g.chunks start ∧ g.totalCompressed = chunksSize g.chunks ∧
    g.totalByteSize = chunksUncompressed g.chunks ∧ GroupsAt gs (start + g.totalCompressed)

def groupsSize (gs : List RgMeta) : Nat := (gs.map (·.totalCompressed)).sum

end Carquet.Proofs.WriterLayout

namespace Carquet.Proofs.WriterPages
open Carquet.Impl.Writer

def pagesBytes (D : Deps) (ps : List PageRec) : Bytes := (ps.map (PageRec.bytes D)).flatten
def groupBytes (D : Deps) (g : List (List PageRec)) : Bytes := (g.map (pagesBytes D)).flatten
def dataBytes (D : Deps) (gs : List (List (List PageRec))) : Bytes := (gs.map (groupBytes D)).flatten

def sumRows (ps : List PageRec) : Nat := (ps.map (·.rows)).sum
def sumBody (ps : List PageRec) : Nat := (ps.map (·.body.length)).sum

/-- Σ (header + uncompressed body): `total_uncompressed_size` of a chunk as the format defines it -/
def sumUsize (D : Deps) (ps : List PageRec) : Nat := (ps.map (PageRec.usize D)).sum

theorem PageRec.bytes_eq (D : Deps) (r : PageRec) : r.bytes D = r.header D ++ r.comp := rfl

/-- a page record is what `carquet_page_writer_finalize` does: the stored body is the
compression of the uncompressed body, and the page is not empty -/
def PageOk (D : Deps) (codec : Nat) (r : PageRec) : Prop :=
  D.compress codec r.body = some r.comp ∧ 0 < r.rows

/-- the metadata of a chunk are the sums over its pages -/
def ChunkPages (D : Deps) (codec : Nat) (m : ChunkMeta) (ps : List PageRec) : Prop :=
  m.numValues = sumRows ps ∧ m.totalCompressed = (pagesBytes D ps).length ∧
  m.totalUncompressed = sumUsize D ps ∧ m.codec = codec ∧ ∀ r ∈ ps, PageOk D codec r

def AllChunks (D : Deps) (codec : Nat) : List ChunkMeta → List (List PageRec) → Prop
  | [], [] => True
  | m :: ms, p :: ps => ChunkPages D codec m p ∧ AllChunks D codec ms ps
  | _, _ => False

def AllGroups (D : Deps) (codec : Nat) : List RgMeta → List (List (List PageRec)) → Prop
  | [], [] => True
  | g :: gs, p :: ps => AllChunks D codec g.chunks p ∧ AllGroups D codec gs ps
  | _, _ => False

theorem allGroups_nil_right (D : Deps) (codec : Nat) (ps : List (List (List PageRec)))
    (h : AllGroups D codec [] ps) : ps = [] := by
  cases ps with
  | nil => rfl
  | cons a as => exact absurd h (by simp [AllGroups])

end Carquet.Proofs.WriterPages

namespace Carquet.Proofs.WriterTable
open Carquet.Impl.Writer

theorem ColData.append_assoc (a b c : ColData) : (a.append b).append c = a.append (b.append c) := by
  simp [ColData.append, Nat.add_assoc, List.append_assoc]

theorem ColData.append_empty (a : ColData) : a.append {} = a := by
  cases a; simp [ColData.append]

/-- the caller's arrays hold what the counts say -/
def BatchWF (b : Batch) : Prop :=
  (b.nrows = 0 → b.vals = []) ∧ (∀ ds, b.defs = some ds → ds.length = b.nrows) ∧
  (∀ rs, b.reps = some rs → rs.length = b.nrows)

/-! ### abstraction of concrete states -/

def pageData (p : Page) : ColData := ⟨p.numValues, p.defs, p.reps, p.values⟩

def pagesData (ps : List PageRec) : ColData :=
  ⟨(ps.map (·.src.numValues)).sum, (ps.map (·.src.defs)).flatten, (ps.map (·.src.reps)).flatten,
   (ps.map (·.src.values)).flatten⟩

def colData (cw : ColW) : ColData := (pagesData cw.pages).append (pageData cw.page)

def abs (w : W) : A :=
  { done := w.pagesDone.map (·.map pagesData), cur := w.rg.map (·.map colData) }

theorem pagesData_append (ps : List PageRec) (r : PageRec) :
    pagesData (ps ++ [r]) = (pagesData ps).append (pageData r.src) := by
  simp [pagesData, ColData.append, pageData]

/-- an empty page builder holds nothing -/
def PageWF (p : Page) : Prop := p.numValues = 0 → p.values = [] ∧ p.defs = [] ∧ p.reps = []

/-- every page record of a column is the finalisation of the builder content it carries -/
def PagesOf (D : Deps) (codec : Nat) (c : Col) (ps : List PageRec) : Prop :=
  ∀ r ∈ ps, r = pageRecOf D codec c r.src

theorem ite_append {α : Type} (c : Prop) [Decidable c] (a x : List α) :
    (if c then a ++ x else a) = a ++ if c then x else [] := by
  split <;> simp

theorem addValues_data (D : Deps) (c : Col) (p : Page) (b : Batch) :
    pageData (addValues D c p b) = (pageData p).append (batchData c b) := by
  unfold addValues pageData batchData ColData.append
  congr 1 <;> exact ite_append ..

theorem addValues_wf (D : Deps) (c : Col) (p : Page) (b : Batch) (hp : PageWF p) (hb : BatchWF b) :
    PageWF (addValues D c p b) := by
  intro h0
  obtain ⟨hn1, hn2⟩ : p.numValues = 0 ∧ b.nrows = 0 := Nat.add_eq_zero_iff.mp h0
  obtain ⟨q1, q2, q3⟩ := hp hn1
  refine ⟨by simp [addValues, q1, hb.1 hn2], ?_, ?_⟩
  · show (if c.maxDef > 0 then p.defs ++ _ else p.defs) = []
    rw [q2]; split
    · cases hd : b.defs with
      | none => simp [hn2]
      | some ds => simpa using List.eq_nil_of_length_eq_zero ((hb.2.1 ds hd).trans hn2)
    · rfl
  · show (if c.maxRep > 0 then p.reps ++ _ else p.reps) = []
    rw [q3]; split
    · cases hr : b.reps with
      | none => simp [hn2]
      | some rs => simpa using List.eq_nil_of_length_eq_zero ((hb.2.2 rs hr).trans hn2)
    · rfl

/-- the page records of a column writer are those of its column, and an empty page builder holds nothing -/
def ColT (D : Deps) (codec : Nat) (c : Col) (cw : ColW) : Prop :=
  PagesOf D codec c cw.pages ∧ PageWF cw.page

/-- zip-style: `ColT` of every column and its column writer -/
def ColsT (D : Deps) (codec : Nat) : List Col → List ColW → Prop
  | [], [] => True
  | c :: cs, cw :: cws => ColT D codec c cw ∧ ColsT D codec cs cws
  | _, _ => False

theorem colsT_length (D : Deps) (codec : Nat) : ∀ (cols : List Col) (cws : List ColW),
    ColsT D codec cols cws → cws.length = cols.length := by
  intro cols cws h
  fun_induction ColsT D codec cols cws with
  | case1 => rfl
  | case2 a as x xs ih => simp [ih h.2]
  | case3 => exact h.elim

/-- zip-style: the page records of a finished row group belong to its columns -/
def GroupOf (D : Deps) (codec : Nat) : List Col → List (List PageRec) → Prop
  | [], [] => True
  | c :: cs, p :: ps => PagesOf D codec c p ∧ GroupOf D codec cs ps
  | _, _ => False

theorem modify_map_eq {α β : Type} (f : α → β) : ∀ (l : List α) (i : Nat) (x x' : α) (g : β → β),
    l[i]? = some x → f x' = g (f x) → (l.set i x').map f = (l.map f).modify i g := by
  intro l
  induction l with
  | nil => intro i x x' g h _; simp at h
  | cons a as ih =>
    intro i x x' g h hx
    cases i with
    | zero =>
      simp only [List.getElem?_cons_zero, Option.some.injEq] at h
      subst h
      simp [hx]
    | succ n =>
      simp only [List.getElem?_cons_succ] at h
      simp [ih n x x' g h hx]

def HistWF (ops : List Op) : Prop := ∀ b, Op.batch b ∈ ops → BatchWF b

end Carquet.Proofs.WriterTable

namespace Carquet.Proofs.SpecWriter
open Carquet.Impl.Writer Carquet.Proofs.WriterTable

/-- rows a column writer has received in the open row group -/
def colRows (cw : ColW) : Nat := (cw.pages.map (·.src.numValues)).sum + cw.page.numValues

/-- rows (records) a column writer has received in the open row group: its entries, or — REPEATED —
its entries with repetition level 0 -/
def colRecs (c : Col) (cw : ColW) : Nat := (colData cw).recs c.maxRep

/-! ### rows of a column's content -/

theorem recs_append (m : Nat) (a b : ColData) : (a.append b).recs m = a.recs m + b.recs m := by
  unfold ColData.recs ColData.append
  by_cases h : m = 0 <;> simp [h, List.filter_append]

theorem recs_empty (m : Nat) : ({} : ColData).recs m = 0 := by
  unfold ColData.recs; split <;> rfl

/-- the rows `carquet_writer_write_batch` adds for a batch of column 0 are the rows of what the
batch contributes -/
theorem batchData_recs (c : Col) (b : Batch) : (batchData c b).recs c.maxRep = batchRows c b := by
  unfold ColData.recs batchData batchRows
  by_cases h : c.maxRep = 0
  · cases b.reps <;> simp [h]
  · have h' : c.maxRep > 0 := by omega
    cases b.reps <;> simp [h, h']

theorem colRecs_empty (c : Col) : colRecs c {} = 0 := by
  simp [colRecs, colData, pagesData, pageData, ColData.append, ColData.recs]

theorem headD_map_replicate_colRows (cols : List Col) :
    ((cols.map (fun _ => ({} : ColW))).map colRows).headD 0 = 0 := by
  cases cols <;> simp [colRows]

theorem headD_set_colRows : ∀ (cws : List ColW) (i : Nat) (cw cw' : ColW) (n : Nat),
    cws[i]? = some cw → colRows cw' = colRows cw + n →
    ((cws.set i cw').map colRows).headD 0 = (cws.map colRows).headD 0 + (if i = 0 then n else 0) := by
  intro cws i cw cw' n hc hr
  cases cws with
  | nil => simp at hc
  | cons x xs =>
    cases i with
    | zero =>
      simp only [List.getElem?_cons_zero, Option.some.injEq] at hc
      subst hc
      simp [hr]
    | succ k => simp

end Carquet.Proofs.SpecWriter
