import Carquet.Impl.SimdMore
import Carquet.Spec.Kernels
import Carquet.Proofs.SimdBlocked
import Carquet.Proofs.SimdPrefix
import Carquet.Proofs.SimdBools
import Carquet.Proofs.SimdLevels
import Carquet.Proofs.SimdKernels
import Carquet.Proofs.Lists
/-
C15 helper lemmas: the scalar fallbacks of dispatch.c (as loops) equal the `Spec.Kernels`
definitions, and BYTE_STREAM_SPLIT for doubles (SSE / AVX2: plain byte moves, 2 / 4 values per
iteration).
-/
namespace Carquet.Proofs.SimdScalar
open Carquet Carquet.Impl.Simd Carquet.Proofs.SimdBlocked Carquet.Proofs.SimdPrefix
open Carquet.Proofs.SimdBools Carquet.Proofs.SimdLevels Carquet.Proofs.SimdKernels

/-! ### generic `mapM` facts (Option monad) -/

theorem mapM_none {α β : Type} (f : α → Option β) (l : List α) (x : α) (hx : x ∈ l) (h : f x = none) :
    l.mapM f = none := by
  induction l with
  | nil => simp at hx
  | cons y ys ih =>
    rw [List.mapM_cons]
    cases hy : f y with
    | none => rfl
    | some v =>
      have : x ∈ ys := by
        rcases List.mem_cons.mp hx with e | e
        · rw [e, hy] at h; simp at h
        · exact e
      rw [ih this]; rfl

/-! ### prefix sums, run length, levels -/

theorem scalar_prefix {w : Nat} (init : BitVec w) (vals : List (BitVec w)) :
    scalarPrefixSum init vals = Spec.Kernels.prefixSum init vals := (prefixSum_eq_scan vals init).symm

theorem scalar_find_run (vals : List (BitVec 32)) : scalarFindRunLength vals = Spec.Kernels.findRunLength vals := by
  cases vals with
  | nil => rfl
  | cons x xs =>
    show 1 + firstIdx (· != x) xs = Spec.Kernels.firstIdx (· != x) (x :: xs)
    simp only [Spec.Kernels.firstIdx, bne_self_eq_false, Bool.false_eq_true, if_false, firstIdx_spec]
    omega

theorem scalar_count (levels : List (BitVec 16)) (mx : BitVec 16) :
    scalarCountNonNulls levels mx = Spec.Kernels.countNonNulls levels mx := by
  unfold scalarCountNonNulls Spec.Kernels.countNonNulls
  rw [cnn_fold]; omega

theorem scalar_fill (old : List (BitVec 16)) (v : BitVec 16) :
    scalarFillDefLevels old v = Spec.Kernels.fillDefLevels old.length v := by
  unfold scalarFillDefLevels Spec.Kernels.fillDefLevels
  exact List.map_const'

/-! ### booleans -/

theorem mapM_range_eq_take {α : Type} (l : List α) (f : Nat → Option α) :
    ∀ n, n ≤ l.length → (∀ i, i < n → f i = l[i]?) → (List.range n).mapM f = some (l.take n)
  | 0, _, _ => by simp
  | n + 1, h, hf => by
    rw [List.range_succ, List.mapM_append, mapM_range_eq_take l f n (by omega) (fun i hi => hf i (by omega))]
    rw [List.take_add_one, List.mapM_cons, List.mapM_nil, hf n (by omega), List.getElem?_eq_getElem (by omega)]
    simp

theorem scalar_unpack (bytes : List UInt8) (count : Nat) :
    scalarUnpackBools bytes count = Spec.Kernels.unpackBools bytes count := by
  unfold scalarUnpackBools Spec.Kernels.unpackBools
  by_cases h : count ≤ 8 * bytes.length
  · rw [if_pos h]
    apply mapM_range_eq_take _ _ count
    · have : (bytes.flatMap Spec.Kernels.bitsOfByte).length = 8 * bytes.length := unpackScalar_length bytes
      omega
    · intro i hi
      have h8 : i % 8 < 8 := Nat.mod_lt _ (by decide)
      have hb : i / 8 < bytes.length := by omega
      rw [← Nat.div_add_mod' i 8, Lists.flatMap_getElem? _ 8 bitsOfByte_length bytes _ _ hb h8, Nat.div_add_mod',
        List.getElem?_eq_getElem hb, Option.map_some, shr_and_one _ _ h8, Spec.Kernels.bitsOfByte, List.getElem?_map,
        List.getElem?_range h8]
      rfl
  · rw [if_neg h]
    apply mapM_none _ _ (8 * bytes.length) (by simp; omega)
    have : 8 * bytes.length / 8 = bytes.length := by omega
    rw [this, List.getElem?_eq_none (Nat.le_refl _)]
    rfl

/-! ### BYTE_STREAM_SPLIT -/

theorem scalar_bss_enc_float (vals : List (BitVec 32)) :
    scalarBssEncodeFloat vals = Spec.Kernels.bssEncode (k := 4) vals := streams_spec vals

theorem bytesLE_getD (k : Nat) (v : BitVec (8 * k)) (b : Nat) (hb : b < k) :
    (bytesLE k v).getD b 0 = Spec.Kernels.byteOf v b := by
  unfold bytesLE
  rw [List.getD_eq_getElem?_getD, List.getElem?_map, List.getElem?_range hb]
  rfl

theorem streamsK_rows (k : Nat) (vals : List (BitVec (8 * k))) :
    streamsK k (bssEncRows k vals) = Spec.Kernels.bssEncode vals := by
  unfold streamsK bssEncRows Spec.Kernels.bssEncode
  have : ∀ l : List Nat, (∀ b ∈ l, b < k) →
      (l.flatMap fun b => (vals.map (bytesLE k)).map fun r => r.getD b 0) =
      (l.flatMap fun b => vals.map fun v => Spec.Kernels.byteOf v b) := by
    intro l
    induction l with
    | nil => intro _; rfl
    | cons b bs ih =>
      intro hb
      rw [List.flatMap_cons, List.flatMap_cons, ih (fun c hc => hb c (by simp [hc])), List.map_map]
      congr 1
      apply List.map_congr_left
      intro v _
      exact bytesLE_getD k v b (hb b (by simp))
  exact this _ (fun b hb => List.mem_range.mp hb)

theorem scalar_bss_enc_double (vals : List (BitVec 64)) :
    scalarBssEncodeDouble vals = Spec.Kernels.bssEncode (k := 8) vals := streamsK_rows 8 vals

theorem bytesLE_length (k : Nat) (v : BitVec (8 * k)) : (bytesLE k v).length = k := by
  rw [bytesLE, List.length_map, List.length_range]

theorem rowAt_flatMap (vals : List (BitVec 64)) (j : Nat) (hj : j < vals.length) :
    rowAt (vals.flatMap (bytesLE 8)) j = bytesLE 8 vals[j] :=
  List.map_congr_left fun b hb => by
    have hb := List.mem_range.mp hb
    rw [List.getD_eq_getElem?_getD, Nat.mul_comm 8 j, Lists.flatMap_getElem? _ 8 (bytesLE_length 8) vals j b hj hb, bytesLE,
      List.getElem?_map, List.getElem?_range hb]; rfl

theorem sse_enc_double_block (b : List (BitVec 64)) (h : b.length = 2) : sseBssEncDoubleBlk b = bssEncRows 8 b := by
  rw [sseBssEncDoubleBlk, rowAt_flatMap b 0 (by omega), rowAt_flatMap b 1 (by omega)]
  obtain ⟨a0, a1, rfl⟩ := list_len2 b h
  rfl

theorem avx2_enc_double_block (b : List (BitVec 64)) (h : b.length = 4) : avx2BssEncDoubleBlk b = bssEncRows 8 b := by
  rw [avx2BssEncDoubleBlk, rowAt_flatMap b 0 (by omega), rowAt_flatMap b 1 (by omega), rowAt_flatMap b 2 (by omega),
    rowAt_flatMap b 3 (by omega)]
  obtain ⟨a0, a1, a2, a3, rfl⟩ := list_len4 b h
  rfl
theorem sse_bss_enc_double (vals : List (BitVec 64)) :
    sseBssEncodeDouble vals = Spec.Kernels.bssEncode (k := 8) vals := by
  unfold sseBssEncodeDouble
  rw [blockedMap_eq 2 (by decide) _ _ (bssEncRows 8) sse_enc_double_block (fun _ _ => rfl)
    (fun a r _ => by simp [bssEncRows]), streamsK_rows]

theorem avx2_bss_enc_double (vals : List (BitVec 64)) :
    avx2BssEncodeDouble vals = Spec.Kernels.bssEncode (k := 8) vals := by
  unfold avx2BssEncodeDouble
  rw [blockedMap_eq 4 (by decide) _ _ (bssEncRows 8) avx2_enc_double_block (fun _ _ => rfl)
    (fun a r _ => by simp [bssEncRows]), streamsK_rows]

theorem scalar_bss_dec (k n : Nat) (data : List UInt8) (h : data.length = k * n) :
    scalarBssDecode k n data = Spec.Kernels.bssDecode k n data := by
  unfold scalarBssDecode Spec.Kernels.bssDecode
  rw [if_pos h]
  apply Lists.mapM_some
  intro i hi
  have hi' : i < n := List.mem_range.mp hi
  have : ((List.range k).mapM fun b => data[b * n + i]?) =
      some ((List.range k).map fun b => data.getD (b * n + i) 0) := by
    apply Lists.mapM_some
    intro b hb
    have hb' : b < k := List.mem_range.mp hb
    have hlt : b * n + i < data.length := by
      rw [h]
      calc b * n + i < b * n + n := by omega
        _ = (b + 1) * n := by rw [Nat.succ_mul]
        _ ≤ k * n := Nat.mul_le_mul_right n hb'
    rw [List.getD_eq_getElem?_getD, List.getElem?_eq_getElem hlt]; rfl
  rw [this]; rfl

end Carquet.Proofs.SimdScalar
