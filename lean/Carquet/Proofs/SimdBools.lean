import Carquet.Impl.Simd
import Carquet.Proofs.SimdBlocked
/-
C15 helper lemmas: boolean unpack / pack.  The block steps, the `packBits` lemmas they rest on, and the
unpackers for every count (`unpack_eq`).
-/
namespace Carquet.Proofs.SimdBools
open Carquet Carquet.Impl.Simd Carquet.Proofs.SimdBlocked

def expand (x : UInt8) : List UInt8 := minEpu8 (andBytes (List.replicate 8 x) bitMaskBytes) (set1 8 1)

theorem and_two_pow (n j : Nat) : n &&& 2 ^ j = if n.testBit j then 2 ^ j else 0 := by
  apply Nat.eq_of_testBit_eq; intro i
  rw [Nat.testBit_and]
  by_cases h : j = i
  · subst h; cases hb : n.testBit j <;> simp [Nat.testBit_two_pow_self]
  · cases hb : n.testBit j <;> simp [Nat.testBit_two_pow_of_ne h]

theorem flag_lane (x : UInt8) (j : Nat) (hj : j < 8) :
    (if x &&& UInt8.ofNat (2 ^ j) ≤ 1 then x &&& UInt8.ofNat (2 ^ j) else 1) = if x.toNat.testBit j then 1 else 0 := by
  have hp : 2 ^ j < 2 ^ 8 := Nat.pow_lt_pow_right (by decide) hj
  have h1 : 1 ≤ 2 ^ j := Nat.one_le_two_pow
  have hv : (x &&& UInt8.ofNat (2 ^ j)).toNat = if x.toNat.testBit j then 2 ^ j else 0 := by
    rw [UInt8.toNat_and, UInt8.toNat_ofNat', Nat.mod_eq_of_lt hp, and_two_pow]
  generalize x &&& UInt8.ofNat (2 ^ j) = y at hv
  cases hb : x.toNat.testBit j <;> simp only [hb, if_true, Bool.false_eq_true, if_false] at hv ⊢
  · have h0 : y = 0 := UInt8.toNat_inj.mp hv
    rw [h0]; rfl
  · by_cases hy : y ≤ 1
    · have : y.toNat ≤ 1 := UInt8.le_iff_toNat_le.mp hy
      rw [if_pos hy]; exact UInt8.toNat_inj.mp (by show y.toNat = 1; omega)
    · rw [if_neg hy]

theorem expand_eq (x : UInt8) : expand x = Spec.Kernels.bitsOfByte x := by
  have e : expand x = bitMaskBytes.map fun m => if x &&& m ≤ 1 then x &&& m else 1 := rfl
  have m : bitMaskBytes = (List.range 8).map fun j => UInt8.ofNat (2 ^ j) := by decide
  rw [e, m, List.map_map]
  exact List.map_congr_left fun j hj => flag_lane x j (List.mem_range.mp hj)

/-- one step of the scalar loops: `(byte >> j) & 1` -/
theorem shr_and_one (x : UInt8) (j : Nat) (hj : j < 8) :
    (x >>> UInt8.ofNat j) &&& 1 = if x.toNat.testBit j then 1 else 0 := by
  apply UInt8.toNat_inj.mp
  rw [UInt8.toNat_and, UInt8.toNat_shiftRight, UInt8.toNat_ofNat', Nat.shiftRight_eq_div_pow,
    show j % 2 ^ 8 % 8 = j by omega]
  show _ &&& 1 = _
  rw [Nat.and_one_is_mod, ← Nat.toNat_testBit]
  cases x.toNat.testBit j <;> rfl

/-- the flag lanes of `carquet_sse_unpack_bools` / `carquet_sse_bitunpack32_1bit`: bytes `c0`, `c1` of the register
broadcast over eight lanes each, and-ed with the bit masks, `min(·, 1)` -/
theorem flags16 (v : List UInt8) (c0 c1 : Nat) :
    minEpu8 (andBytes (pshufb v (List.replicate 8 (some c0) ++ List.replicate 8 (some c1))) (bitMaskBytes ++ bitMaskBytes))
      (set1 16 1) = Spec.Kernels.bitsOfByte (v.getD (c0 % 16) 0) ++ Spec.Kernels.bitsOfByte (v.getD (c1 % 16) 0) := by
  rw [← expand_eq, ← expand_eq]; rfl

theorem sse_unpack_block (b : List UInt8) (h : b.length = 2) : sseUnpackBlk b = unpackScalar b := by
  obtain ⟨p0, p1, rfl⟩ := list_len2 b h
  exact flags16 _ 0 1

theorem avx2_unpack_block (b : List UInt8) (h : b.length = 4) : avx2UnpackBlk b = unpackScalar b := by
  obtain ⟨p0, p1, p2, p3, rfl⟩ := list_len4 b h
  have : avx2UnpackBlk [p0, p1, p2, p3] = expand p0 ++ expand p1 ++ expand p2 ++ expand p3 := rfl
  rw [this, expand_eq, expand_eq, expand_eq, expand_eq]; simp [unpackScalar]

theorem avx512_unpack_block (b : List UInt8) : avx512UnpackBlk b = unpackScalar b := by
  unfold avx512UnpackBlk unpackScalar maskOfBytes Spec.Kernels.bitsOfByte
  induction b with
  | nil => rfl
  | cons x xs ih =>
    simp only [List.flatMap_cons, List.map_append, List.map_map]
    rw [ih]; rfl

theorem unpackScalar_append (a r : List UInt8) : unpackScalar (a ++ r) = unpackScalar a ++ unpackScalar r := by
  simp [unpackScalar]

theorem bitsOfByte_length (x : UInt8) : (Spec.Kernels.bitsOfByte x).length = 8 := by
  simp [Spec.Kernels.bitsOfByte]

theorem unpackScalar_length (a : List UInt8) : (unpackScalar a).length = 8 * a.length := by
  induction a with
  | nil => rfl
  | cons x xs ih =>
    simp only [unpackScalar, List.flatMap_cons, List.length_append, bitsOfByte_length, List.length_cons] at *
    omega

theorem unpack_eq (W cin : Nat) (hW : W = 8 * cin) (hc : 0 < cin) (blk : List UInt8 → List UInt8)
    (hblk : ∀ b, b.length = cin → blk b = unpackScalar b)
    (bytes : List UInt8) (count : Nat) (h : count ≤ 8 * bytes.length) :
    some (unpackBools W blk bytes count) = Spec.Kernels.unpackBools bytes count := by
  have hcin : W / 8 = cin := by omega
  have hWpos : 0 < W := by omega
  have hk : W * (count / W) ≤ count := Nat.mul_div_le _ _
  have hmk : W * (count / W) = 8 * (cin * (count / W)) := by rw [hW, Nat.mul_assoc]
  have hle : cin * (count / W) ≤ bytes.length := by omega
  have hmod : count % W = count - W * (count / W) := by
    have := Nat.div_add_mod count W; omega
  unfold unpackBools Spec.Kernels.unpackBools
  rw [if_pos h, hcin,
    mapBlocks_take cin blk unpackScalar hblk (fun a r _ => unpackScalar_append a r) rfl _ bytes hle]
  congr 1
  have hlen : (unpackScalar (bytes.take (cin * (count / W)))).length = W * (count / W) := by
    rw [unpackScalar_length, List.length_take, Nat.min_eq_left hle, hmk]
  have split : bytes.flatMap Spec.Kernels.bitsOfByte =
      unpackScalar (bytes.take (cin * (count / W))) ++ unpackScalar (bytes.drop (cin * (count / W))) := by
    rw [← unpackScalar_append, List.take_append_drop]; rfl
  generalize hA : unpackScalar (bytes.take (cin * (count / W))) = A at *
  generalize hB : unpackScalar (bytes.drop (cin * (count / W))) = B at *
  rw [split, List.take_append, List.take_of_length_le (l := A) (by omega), hlen, hmod]

/-! ### pack -/

open Carquet.Spec.Kernels (packBits packByte)

theorem packBits_unfold : ∀ l : List Bool, l ≠ [] → packBits l = packByte (l.take 8) :: packBits (l.drop 8)
  | _ :: _ :: _ :: _ :: _ :: _ :: _ :: _ :: _, _ => rfl
  | [], h => absurd rfl h
  | [_], _ => rfl
  | [_, _], _ => rfl
  | [_, _, _], _ => rfl
  | [_, _, _, _], _ => rfl
  | [_, _, _, _, _], _ => rfl
  | [_, _, _, _, _, _], _ => rfl
  | [_, _, _, _, _, _, _], _ => rfl

theorem packBits_append : ∀ (n : Nat) (a : List Bool), a.length = 8 * n → ∀ r, packBits (a ++ r) = packBits a ++ packBits r
  | 0, [], _, _ => rfl
  | n + 1, a0 :: a1 :: a2 :: a3 :: a4 :: a5 :: a6 :: a7 :: t, h, r =>
    congrArg (packByte [a0, a1, a2, a3, a4, a5, a6, a7] :: ·)
      (packBits_append n t (by simp only [List.length_cons] at h; omega) r)

theorem packByte_false (s : List Bool) : ∀ j, packByte (s ++ List.replicate j false) = packByte s := by
  induction s with
  | nil =>
    intro j
    induction j with
    | zero => rfl
    | succ j ih => simp only [List.nil_append] at ih; simp [List.replicate_succ, packByte, ih]
  | cons x xs ih => intro j; simp only [List.cons_append, packByte, ih]

theorem packBits_padded (bits : List Bool) (m : Nat) :
    (packBits (bits ++ List.replicate m false)).take ((bits.length + 7) / 8) = packBits bits := by
  generalize hn : bits.length = n
  induction n using Nat.strongRecOn generalizing bits m with
  | _ n ih =>
    subst hn
    by_cases hb : bits = []
    · subst hb; rfl
    · have hpos : 0 < bits.length := List.length_pos_iff.mpr hb
      have hne' : bits ++ List.replicate m false ≠ [] := by simp [hb]
      rw [packBits_unfold _ hne', packBits_unfold _ hb]
      have hceil : (bits.length + 7) / 8 = ((bits.drop 8).length + 7) / 8 + 1 := by
        rw [List.length_drop]; omega
      rw [hceil, List.take_succ_cons]
      have ht : (bits ++ List.replicate m false).take 8 =
          bits.take 8 ++ List.replicate (min (8 - bits.length) m) false := by
        rw [List.take_append, List.take_replicate]
      have hdrop : (bits ++ List.replicate m false).drop 8 =
          bits.drop 8 ++ List.replicate (m - (8 - bits.length)) false := by
        rw [List.drop_append, List.drop_replicate]
      rw [ht, hdrop, packByte_false]
      congr 1
      exact ih (bits.drop 8).length (by rw [List.length_drop]; omega) (bits.drop 8) _ rfl

theorem packScalar_append (a r : List UInt8) (n : Nat) (h : a.length = 8 * n) :
    packScalar (a ++ r) = packScalar a ++ packScalar r := by
  unfold packScalar
  rw [List.map_append, packBits_append n _ (by simpa using h)]

def boolByte (b : Bool) : UInt8 := if b then 1 else 0

theorem dom_as_bools (b : List UInt8) (hd : ∀ x ∈ b, x = 0 ∨ x = 1) : b = (b.map (· != 0)).map boolByte := by
  induction b with
  | nil => rfl
  | cons x xs ih =>
    have hx := hd x (by simp)
    have := ih (fun y hy => hd y (by simp [hy]))
    rcases hx with rfl | rfl <;> simp [boolByte] <;> simpa using this

theorem bools_roundtrip (cs : List Bool) : (cs.map boolByte).map (· != 0) = cs := by
  induction cs with
  | nil => rfl
  | cons c cs ih => cases c <;> simp [boolByte] <;> simpa using ih

theorem pack_block_of_flags (blk : List UInt8 → List UInt8)
    (hblk : ∀ cs : List Bool, cs.length = 8 → blk (cs.map boolByte) = Spec.Kernels.packBits cs)
    (b : List UInt8) (h : b.length = 8) (hd : ∀ x ∈ b, x = 0 ∨ x = 1) : blk b = packScalar b := by
  rw [dom_as_bools b hd]
  unfold packScalar
  rw [bools_roundtrip]
  exact hblk _ (by simpa using h)

/-- `_mm_slli_epi32(v, 7)` moves bit 0 of each byte of a dword of flags to bit 7 of the same byte -/
theorem slli7_flags : ∀ a b c d : Bool,
    movemaskEpi8 (bytesLE32 (le32 (boolByte a) (boolByte b) (boolByte c) (boolByte d) <<< 7)) = [a, b, c, d] := by
  decide

theorem movemask_slli7 : ∀ l : List Bool, l.length % 4 = 0 → movemaskEpi8 (slliEpi32 7 (l.map boolByte)) = l
  | [], _ => rfl
  | a :: b :: c :: d :: r, h => by
    have e : slliEpi32 7 ((a :: b :: c :: d :: r).map boolByte) =
        bytesLE32 (le32 (boolByte a) (boolByte b) (boolByte c) (boolByte d) <<< 7) ++ slliEpi32 7 (r.map boolByte) := rfl
    have ih := movemask_slli7 r (by simp only [List.length_cons] at h; omega)
    unfold movemaskEpi8 at ih ⊢
    rw [e, List.map_append, ih]
    exact congrArg (· ++ r) (slli7_flags a b c d)
  | [_], h | [_, _], h | [_, _, _], h => by simp at h

theorem sse_pack_block (b : List UInt8) (h : b.length = 8) (hd : ∀ x ∈ b, x = 0 ∨ x = 1) :
    ssePackBlk b = packScalar b := by
  refine pack_block_of_flags _ (fun cs hcs => ?_) b h hd
  have e : lowOf128 (cs.map boolByte) = (cs ++ List.replicate 8 false).map boolByte := by
    simp [lowOf128, hcs, boolByte]
  show List.take 1 (Spec.Kernels.packBits (movemaskEpi8 (slliEpi32 7 (lowOf128 _)))) = _
  rw [e, movemask_slli7 _ (by simp [hcs])]
  simpa [hcs] using packBits_padded cs 8

theorem toNat_boolByte (c : Bool) : (boolByte c).toNat = c.toNat := by cases c <;> rfl

def flagsNat : List Bool → Nat
  | [] => 0
  | c :: cs => c.toNat + 2 * flagsNat cs

theorem packByte_eq_ofNat : ∀ cs, packByte cs = UInt8.ofNat (flagsNat cs)
  | [] => rfl
  | c :: cs => by
    rw [packByte, packByte_eq_ofNat cs, flagsNat, UInt8.ofNat_add, UInt8.ofNat_mul]
    cases c <;> rfl

theorem avx2_pack_flags (c0 c1 c2 c3 c4 c5 c6 c7 : Bool) :
    avx2PackBlk ([c0, c1, c2, c3, c4, c5, c6, c7].map boolByte) = Spec.Kernels.packBits [c0, c1, c2, c3, c4, c5, c6, c7] := by
  -- lane `i` of the product: the flag times its weight `2 ^ i`
  let q (c : Bool) (k : Nat) : BitVec 16 := BitVec.ofNat 16 (boolByte c).toNat * BitVec.ofNat 16 k
  have hq (c : Bool) (k : Nat) : q c k = BitVec.ofNat 16 (c.toNat * k) := by
    rw [BitVec.ofNat_mul, ← toNat_boolByte]
  have hp : List.zipWith (· * ·) (widenLo8 (lowOf128 ([c0, c1, c2, c3, c4, c5, c6, c7].map boolByte)))
      (widenLo8 (lowOf128 bitMaskBytes)) = [q c0 1, q c1 2, q c2 4, q c3 8, q c4 16, q c5 32, q c6 64, q c7 128] := rfl
  simp only [avx2PackBlk]
  rw [hp]
  -- the three `_mm_srli_si128` + `_mm_add_epi16` steps leave the sum of all eight lanes in lane 0
  show [UInt8.ofNat ((q c0 1 + q c1 2 + (q c2 4 + q c3 8) + (q c4 16 + q c5 32 + (q c6 64 + q c7 128))).toNat % 256)] =
    [packByte [c0, c1, c2, c3, c4, c5, c6, c7]]
  have h0 := c0.toNat_le; have h1 := c1.toNat_le; have h2 := c2.toNat_le; have h3 := c3.toNat_le
  have h4 := c4.toNat_le; have h5 := c5.toNat_le; have h6 := c6.toNat_le; have h7 := c7.toNat_le
  simp only [hq, ← BitVec.ofNat_add, BitVec.toNat_ofNat, packByte_eq_ofNat]
  refine congrArg (· :: []) ((UInt8.ofNat_eq_iff_mod_eq_toNat _ _).mpr ?_)
  rw [UInt8.toNat_ofNat']
  simp only [flagsNat]
  omega

theorem avx2_pack_block (b : List UInt8) (h : b.length = 8) (hd : ∀ x ∈ b, x = 0 ∨ x = 1) :
    avx2PackBlk b = packScalar b := by
  refine pack_block_of_flags _ (fun cs hcs => ?_) b h hd
  obtain ⟨c0, c1, c2, c3, c4, c5, c6, c7, rfl⟩ := list_len8 cs hcs
  exact avx2_pack_flags c0 c1 c2 c3 c4 c5 c6 c7

theorem testEpi8Mask_self (b : List UInt8) : testEpi8Mask b b = b.map (· != 0) := by
  unfold testEpi8Mask
  induction b with
  | nil => rfl
  | cons x xs _ => simp

/-- `_mm512_test_epi8_mask` tests for non-zero like the scalar loop: no 0/1 domain is needed -/
theorem avx512_pack_block (b : List UInt8) : avx512PackBlk b = packScalar b := by
  unfold avx512PackBlk bytesOfMask packScalar
  rw [testEpi8Mask_self]

theorem avx512_pack_tail (t : List UInt8) : avx512PackTail t = packScalar t := by
  unfold avx512PackTail
  by_cases h0 : t.length = 0
  · have : t = [] := List.eq_nil_of_length_eq_zero h0
    subst this; rfl
  · rw [if_neg h0]
    unfold bytesOfMask packScalar
    rw [testEpi8Mask_self, List.map_append]
    have : (List.replicate (64 - t.length) (0 : UInt8)).map (· != 0) = List.replicate (64 - t.length) false := by
      simp
    rw [this]
    have := packBits_padded (t.map (· != 0)) (64 - t.length)
    simpa using this

end Carquet.Proofs.SimdBools
