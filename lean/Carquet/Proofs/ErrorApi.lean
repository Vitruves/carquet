import Carquet.Impl.ErrorApi
/-
Helper lemmas for Properties/C04/Error.lean (model of src/core/error.c).
-/
namespace Carquet.Proofs.ErrorApi
open Carquet.Impl.ErrorApi

theorem store_length (dst : Bytes) (pos : Nat) (w : Bytes) (h : pos + w.length ≤ dst.length) :
    (store dst pos w).length = dst.length := by
  simp only [store, List.length_append, List.length_take, List.length_drop]
  omega

theorem mem_store (dst : Bytes) (pos : Nat) (w : Bytes) (x : UInt8) (h : x ∈ w) : x ∈ store dst pos w := by
  simp only [store, List.mem_append]
  exact Or.inl (Or.inr h)

theorem std_contract : Engine.std.Contract := by
  refine ⟨?_, ?_, ?_⟩
  · intro n text
    simp only [Engine.std]
    split
    · simp
    · simp only [List.length_append, List.length_take, List.length_singleton]; omega
  · intro n text hn
    refine ⟨text.take (n - 1), ?_⟩
    simp only [Engine.std]
    rw [if_neg (by omega)]
  · intro text
    simp [Engine.std]

/-- the fuel of `decNatF` is never what stops it once it is at least the number -/
theorem decNatF_fuel : ∀ (f g n : Nat), n ≤ f → n ≤ g → decNatF f n = decNatF g n := by
  intro f
  induction f with
  | zero =>
    intro g n hf _
    have : n = 0 := by omega
    subst this
    cases g <;> simp [decNatF]
  | succ f ih =>
    intro g n hf hg
    cases g with
    | zero =>
      have : n = 0 := by omega
      subst this; simp [decNatF]
    | succ g =>
      simp only [decNatF]
      split
      · rfl
      · rw [ih g (n / 10) (by omega) (by omega)]

theorem decNat_unfold (n : Nat) :
    decNat n = if n < 10 then [UInt8.ofNat (48 + n)] else decNat (n / 10) ++ [UInt8.ofNat (48 + n % 10)] := by
  unfold decNat
  cases n with
  | zero => simp [decNatF]
  | succ n =>
    simp only [decNatF]
    split
    · rfl
    · rw [decNatF_fuel n ((n + 1) / 10) ((n + 1) / 10) (by omega) (Nat.le_refl _)]

/-- a `switch` returns one of its `return` expressions -/
theorem lookup_cases {α : Type} (tbl : List (Int × α)) (d : α) (v : Int) :
    lookup tbl d v = d ∨ ∃ p ∈ tbl, p.1 = v ∧ lookup tbl d v = p.2 := by
  unfold lookup
  cases h : tbl.find? (fun p => p.1 == v) with
  | none => exact Or.inl rfl
  | some p =>
    refine Or.inr ⟨p, List.mem_of_find?_eq_some h, ?_, rfl⟩
    have := List.find?_some h
    simpa using this

theorem lookup_default {α : Type} (tbl : List (Int × α)) (d : α) (v : Int) (h : v ∉ tbl.map (·.1)) :
    lookup tbl d v = d := by
  rcases lookup_cases tbl d v with h1 | ⟨p, hp, hv, _⟩
  · exact h1
  · exact absurd (List.mem_map.mpr ⟨p, hp, hv⟩) h

theorem lookup_all {α : Type} (P : α → Bool) (tbl : List (Int × α)) (d : α) (hd : P d = true)
    (ht : tbl.all (fun p => P p.2) = true) (v : Int) : P (lookup tbl d v) = true := by
  rcases lookup_cases tbl d v with h1 | ⟨p, hp, _, h2⟩
  · rw [h1]; exact hd
  · rw [h2]; exact (List.all_eq_true.mp ht) p hp

/-! ### string literals as bytes -/

theorem byteArray_toList_loop (b : ByteArray) (i : Nat) (r : List UInt8) :
    ByteArray.toList.loop b i r = r.reverse ++ b.data.toList.drop i := by
  fun_induction ByteArray.toList.loop b i r with
  | case1 i r h ih =>
    have h' : i < b.data.toList.length := h
    rw [ih, List.reverse_cons, List.append_assoc, List.drop_eq_getElem_cons h']
    simp only [ByteArray.get!, List.singleton_append, Array.getElem_toList]
    rw [getElem!_pos b.data i h]
  | case2 i r h =>
    rw [List.drop_of_length_le (Nat.le_of_not_lt h), List.append_nil]

/-- The bytes of a text are the encodings of its characters.  A literal `"…"` is `String.ofList` of
its characters by definition (and the unifier finds them), so this reads off the bytes of a literal
without running the byte-array functions, which the kernel evaluates in quadratic time. -/
theorem str_ofList (l : List Char) : str (String.ofList l) = l.flatMap String.utf8EncodeChar := by
  simp only [str, String.toUTF8_eq_toByteArray, String.ofList, List.utf8Encode, ByteArray.toList,
    byteArray_toList_loop, List.toList_data_toByteArray, List.reverse_nil, List.nil_append, List.drop_zero]

theorem utf8EncodeChar_ascii (c : Char) (h : c.toNat < 128) : String.utf8EncodeChar c = [UInt8.ofNat c.toNat] := by
  simp only [String.utf8EncodeChar]
  rw [if_pos (by simp only [Char.toNat] at h; omega)]
  rfl

def IsAsciiText (l : List Char) : Bool := !l.isEmpty && l.all (fun c => 0 < c.toNat && c.toNat < 128)

theorem str_asciiText (l : List Char) (h : IsAsciiText l = true) :
    str (String.ofList l) ≠ [] ∧ ∀ b ∈ str (String.ofList l), b ≠ 0 := by
  rw [str_ofList]
  simp only [IsAsciiText, Bool.and_eq_true, List.all_eq_true, Bool.not_eq_true', decide_eq_true_eq] at h
  obtain ⟨h0, hc⟩ := h
  refine ⟨?_, ?_⟩
  · cases l with
    | nil => cases h0
    | cons c l => rw [List.flatMap_cons, utf8EncodeChar_ascii c (hc c List.mem_cons_self).2]; exact List.cons_ne_nil _ _
  · intro b hb hz
    obtain ⟨d, hd, hb⟩ := List.mem_flatMap.mp hb
    obtain ⟨h1, h2⟩ := hc d hd
    rw [utf8EncodeChar_ascii d h2, List.mem_singleton] at hb
    have := congrArg UInt8.toNat (hb.symm.trans hz)
    rw [UInt8.toNat_ofNat', UInt8.toNat_zero] at this
    omega

/-! ### the message array -/

def MsgOk (m : Bytes) : Prop := m.length = cap ∧ (0 : UInt8) ∈ m

theorem cap_pos : 0 < cap := by decide

theorem setMessage_ok (E : Engine) (hE : E.Contract) (old : Bytes) (hold : old.length = cap) (text : Option Bytes) :
    MsgOk (setMessage E old text) := by
  cases text with
  | none =>
    refine ⟨?_, mem_store _ _ _ _ (by simp)⟩
    simp only [setMessage]
    rw [store_length _ _ _ (by have := cap_pos; simp; omega)]; exact hold
  | some t =>
    obtain ⟨pre, hpre⟩ := hE.terminated cap t cap_pos
    have hb := hE.bounded cap t
    refine ⟨?_, ?_⟩
    · simp only [setMessage]
      rw [store_length _ _ _ (by omega)]; exact hold
    · simp only [setMessage]
      exact mem_store _ _ _ _ (by rw [hpre]; simp)

theorem store_zero_full (dst w : Bytes) (h : w.length = dst.length) : store dst 0 w = w := by
  simp [store, h]

theorem cstr_setMessage_std (old : Bytes) (t : Bytes) (ht : (0 : UInt8) ∉ t) :
    cstr (setMessage Engine.std old (some t)) = t.take (cap - 1) := by
  have hc : cap ≠ 0 := by have := cap_pos; omega
  simp only [setMessage, Engine.std, if_neg hc, store, List.take_zero, List.nil_append, cstr, List.append_assoc]
  rw [List.takeWhile_append_of_pos]
  · simp
  · intro x hx
    have : x ∈ t := List.mem_of_mem_take hx
    simp only [ne_eq, decide_eq_true_eq]
    intro h0; exact ht (h0 ▸ this)

/-! ### carquet_error_format -/

/-- state of the output between two pieces -/
structure Good (size : Nat) (st : FmtOut) : Prop where
  len : st.buf.length = size
  lo : 0 ≤ st.ret
  hi : st.ret < size
  writes : ∀ w ∈ st.writes, w.1 + w.2 ≤ size
  nul : (0 : UInt8) ∈ st.buf

theorem piece_good (E : Engine) (hE : E.Contract) (size : Nat) (st : FmtOut) (text : Bytes) (h : Good size st) :
    Good size (piece E size st text) := by
  have hlo := h.lo; have hhi := h.hi
  have hn : st.ret.toNat < size := by omega
  have hb := hE.bounded (size - st.ret.toNat) text
  obtain ⟨pre, hpre⟩ := hE.terminated (size - st.ret.toNat) text (by omega)
  refine ⟨?_, ?_, ?_, ?_, ?_⟩
  · simp only [piece]
    rw [store_length _ _ _ (by rw [h.len]; omega)]; exact h.len
  · simp only [piece]; split <;> omega
  · simp only [piece]; split <;> omega
  · intro w hw
    simp only [piece, List.mem_append, List.mem_singleton] at hw
    rcases hw with hw | hw
    · exact h.writes w hw
    · subst hw; simp only; omega
  · simp only [piece]
    exact mem_store _ _ _ _ (by rw [hpre]; simp)

theorem pieceIf_good (c : Bool) (E : Engine) (hE : E.Contract) (size : Nat) (st : FmtOut) (text : Bytes)
    (h : Good size st) : Good size (pieceIf c E size st text) := by
  unfold pieceIf; split
  · exact piece_good E hE size st text h
  · exact h

theorem hintPiece_good (E : Engine) (hE : E.Contract) (size : Nat) (code : Int) (st : FmtOut)
    (h : Good size st) : Good size (hintPiece E size code st) := by
  unfold hintPiece; split
  · exact piece_good E hE size st _ h
  · exact h

theorem tailPieces_good (E : Engine) (hE : E.Contract) (size : Nat) (e : ErrorT) (st : FmtOut)
    (h : Good size st) : Good size (tailPieces E size e st) := by
  unfold tailPieces
  exact hintPiece_good E hE size _ _ (pieceIf_good _ E hE size _ _ (pieceIf_good _ E hE size _ _
    (pieceIf_good _ E hE size _ _ h)))

theorem headOut_facts (E : Engine) (hE : E.Contract) (b : Bytes) (size : Nat) (hb : b.length = size) (hs : 0 < size)
    (e : ErrorT) :
    (headOut E b size e).buf.length = size ∧ (∀ w ∈ (headOut E b size e).writes, w.1 + w.2 ≤ size) ∧
    (0 : UInt8) ∈ (headOut E b size e).buf := by
  have hbd := hE.bounded size (headText e)
  obtain ⟨pre, hpre⟩ := hE.terminated size (headText e) hs
  refine ⟨?_, ?_, ?_⟩
  · simp only [headOut]; rw [store_length _ _ _ (by omega)]; exact hb
  · intro w hw
    simp only [headOut, List.mem_singleton] at hw
    subst hw; simp only; omega
  · simp only [headOut]; exact mem_store _ _ _ _ (by rw [hpre]; simp)

/-! ### the length rule under the standard's engine -/

theorem store_store_tail (b acc t : Bytes) :
    store (store b 0 (acc ++ [0])) acc.length (t ++ [0]) = store b 0 (acc ++ t ++ [0]) := by
  simp only [store, List.take_zero, List.nil_append, Nat.zero_add, List.length_append, List.length_singleton,
    List.append_assoc]
  rw [List.take_append_of_le_length (Nat.le_refl _), List.take_length]
  congr 1
  congr 1
  congr 1
  rw [List.drop_append, List.drop_of_length_le (by omega), List.nil_append]
  have : acc.length + (t.length + 1) - acc.length = t.length + 1 := by omega
  rw [this, List.drop_append, List.drop_of_length_le (by simp), List.nil_append, List.drop_drop]
  congr 1
  simp; omega

theorem piece_std_fits (size : Nat) (b acc t : Bytes) (ws : List (Nat × Nat))
    (h : acc.length + t.length < size) :
    (piece Engine.std size ⟨store b 0 (acc ++ [0]), acc.length, ws⟩ t).buf = store b 0 (acc ++ t ++ [0]) ∧
    (piece Engine.std size ⟨store b 0 (acc ++ [0]), acc.length, ws⟩ t).ret = ((acc ++ t).length : Nat) := by
  have h1 : size - acc.length ≠ 0 := by omega
  have h2 : t.take (size - acc.length - 1) = t := List.take_of_length_le (by omega)
  simp only [piece, Engine.std, Int.toNat_natCast, if_neg h1, h2]
  refine ⟨store_store_tail b acc t, ?_⟩
  by_cases ht : t.length = 0
  · have : t = [] := List.length_eq_zero_iff.mp ht
    subst this; simp
  · rw [if_pos ⟨by omega, by omega⟩]
    simp only [List.length_append]; omega

/-- the buffer holds `acc` and its NUL at the front, the rest is untouched; `ret` = |acc| -/
def Shape (b acc : Bytes) (st : FmtOut) : Prop := st.buf = store b 0 (acc ++ [0]) ∧ st.ret = (acc.length : Nat)

theorem piece_shape (size : Nat) (b acc t : Bytes) (st : FmtOut) (hs : Shape b acc st)
    (h : acc.length + t.length < size) : Shape b (acc ++ t) (piece Engine.std size st t) := by
  obtain ⟨buf, ret, ws⟩ := st
  obtain ⟨h1, h2⟩ := hs
  simp only at h1 h2
  subst h1 h2
  exact piece_std_fits size b acc t ws h

def optText (c : Bool) (t : Bytes) : Bytes := if c then t else []

theorem pieceIf_shape (c : Bool) (size : Nat) (b acc t : Bytes) (st : FmtOut) (hs : Shape b acc st)
    (h : acc.length + (optText c t).length < size) : Shape b (acc ++ optText c t) (pieceIf c Engine.std size st t) := by
  cases c with
  | false => simpa [pieceIf, optText] using hs
  | true => simpa [pieceIf, optText] using piece_shape size b acc t st hs (by simpa [optText] using h)

theorem hintPiece_shape (size : Nat) (code : Int) (b acc : Bytes) (st : FmtOut) (hs : Shape b acc st)
    (h : acc.length + ((hintText code).getD []).length < size) :
    Shape b (acc ++ (hintText code).getD []) (hintPiece Engine.std size code st) := by
  unfold hintPiece
  cases hh : hintText code with
  | none => simpa using hs
  | some t => simpa using piece_shape size b acc t st hs (by simpa [hh] using h)

/-- the complete text `carquet_error_format` is meant to produce -/
def fullText (e : ErrorT) : Bytes :=
  headText e ++ optText (decide (e.offset ≥ 0)) (expand (fmtAt 1) [.i e.offset]) ++
    optText (decide (e.rowGroupIndex ≥ 0)) (expand (fmtAt 2) [.i e.rowGroupIndex]) ++
    optText (decide (e.columnIndex ≥ 0)) (expand (fmtAt 3) [.i e.columnIndex]) ++ (hintText e.code).getD []

theorem tailPieces_shape (size : Nat) (e : ErrorT) (b : Bytes) (st : FmtOut) (hs : Shape b (headText e) st)
    (h : (fullText e).length < size) : Shape b (fullText e) (tailPieces Engine.std size e st) := by
  unfold tailPieces fullText
  simp only [fullText, List.length_append] at h
  refine hintPiece_shape size e.code b _ _ ?_ (by simp only [List.length_append]; omega)
  refine pieceIf_shape _ size b _ _ _ ?_ (by simp only [List.length_append]; omega)
  refine pieceIf_shape _ size b _ _ _ ?_ (by simp only [List.length_append]; omega)
  exact pieceIf_shape _ size b _ _ _ hs (by omega)

theorem headOut_std (b : Bytes) (size : Nat) (hs : 0 < size) (e : ErrorT) :
    (headOut Engine.std b size e).buf = store b 0 ((headText e).take (size - 1) ++ [0]) ∧
    (headOut Engine.std b size e).ret = ((headText e).length : Nat) := by
  simp [headOut, Engine.std, Nat.ne_of_gt hs]

end Carquet.Proofs.ErrorApi
