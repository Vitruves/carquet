import Carquet.Spec.Order
import Carquet.Impl.Stats
import Carquet.Proofs.StatsOrder
import Carquet.Proofs.StatsCmp
import Carquet.Proofs.Lists
/-
Fold invariant of a running minimum / maximum in the statistics order, and its two instances:
the statistics builder and the page writer.
-/
namespace Carquet.Proofs.StatsBuilder
open Carquet.Spec.Order Carquet.Impl.Stats Carquet.Proofs.StatsOrder Carquet.Proofs.StatsCmp

/-! ### rows -/

theorem countNulls_append (a b : List Row) : countNulls (a ++ b) = countNulls a + countNulls b := by
  induction a with
  | nil => simp [countNulls]
  | cons x r ih => cases x <;> simp [countNulls, ih] <;> omega

theorem countNulls_replicate (n : Nat) : countNulls (List.replicate n (none : Row)) = n := by
  induction n with
  | zero => rfl
  | succ n ih => simp [List.replicate_succ, countNulls, ih]

theorem countNulls_map_some (l : List (List UInt8)) : countNulls (l.map some) = 0 := by
  induction l with
  | nil => rfl
  | cons x r ih => simp [countNulls, ih]

/-! ### the abstract running min/max -/

structure MM where
  has : Bool
  mn : List UInt8
  mx : List UInt8

def MM.step (t : PType) (s : MM) (v : List UInt8) : MM :=
  if s.has = false then ⟨true, v, v⟩
  else ⟨true, if tcmp t v s.mn = .lt then v else s.mn, if tcmp t v s.mx = .gt then v else s.mx⟩

/-- nothing seen yet, or: both bounds are attained and bound every value seen -/
def MM.Inv (t : PType) (s : MM) (rows : List Row) : Prop :=
  (s.has = false → ∀ x, some x ∉ rows) ∧
  (s.has = true → some s.mn ∈ rows ∧ some s.mx ∈ rows ∧ ∀ x, some x ∈ rows → tle t s.mn x ∧ tle t x s.mx)

theorem tle_of_lt {t : PType} {a b : List UInt8} (h : tcmp t a b = .lt) : tle t a b := by
  unfold tle; rw [h]; decide

theorem tle_of_not_lt {t : PType} {a b : List UInt8} (h : tcmp t a b ≠ .lt) : tle t b a := by
  unfold tle; rw [(tcmp_good t).swap a b]; cases hc : tcmp t a b <;> simp_all [Ordering.swap]

theorem tle_of_gt {t : PType} {a b : List UInt8} (h : tcmp t a b = .gt) : tle t b a := by
  apply tle_of_not_lt; rw [h]; decide

theorem tle_of_not_gt {t : PType} {a b : List UInt8} (h : tcmp t a b ≠ .gt) : tle t a b := h

theorem MM.step_inv (t : PType) (s : MM) (rows : List Row) (v : List UInt8) (h : MM.Inv t s rows) :
    MM.Inv t (s.step t v) (rows ++ [some v]) := by
  unfold MM.step
  by_cases hh : s.has = false
  · simp only [hh, if_true]
    refine ⟨by simp, fun _ => ⟨by simp, by simp, ?_⟩⟩
    intro x hx
    have hno := h.1 hh x
    simp only [List.mem_append, List.mem_singleton, Option.some.injEq] at hx
    rcases hx with hx | hx
    · exact absurd hx hno
    · subst hx; exact ⟨tle_refl t x, tle_refl t x⟩
  · have hs : s.has = true := by cases hb : s.has <;> simp_all
    obtain ⟨hmn, hmx, hall⟩ := h.2 hs
    simp only [hh]
    refine ⟨by simp, fun _ => ⟨?_, ?_, ?_⟩⟩
    · by_cases hc : tcmp t v s.mn = .lt <;> simp [hc, hmn]
    · by_cases hc : tcmp t v s.mx = .gt <;> simp [hc, hmx]
    · intro x hx
      simp only [List.mem_append, List.mem_singleton, Option.some.injEq] at hx
      constructor
      · by_cases hc : tcmp t v s.mn = .lt
        · simp only [hc, if_true]
          rcases hx with hx | hx
          · exact tle_trans (tle_of_lt hc) (hall x hx).1
          · subst hx; exact tle_refl t x
        · simp only [hc, if_false]
          rcases hx with hx | hx
          · exact (hall x hx).1
          · subst hx; exact tle_of_not_lt hc
      · by_cases hc : tcmp t v s.mx = .gt
        · simp only [hc, if_true]
          rcases hx with hx | hx
          · exact tle_trans (hall x hx).2 (tle_of_gt hc)
          · subst hx; exact tle_refl t x
        · simp only [hc, if_false]
          rcases hx with hx | hx
          · exact (hall x hx).2
          · subst hx; exact tle_of_not_gt hc

theorem MM.fold_inv (t : PType) (vals : List (List UInt8)) (s : MM) (rows : List Row) (h : MM.Inv t s rows) :
    MM.Inv t (vals.foldl (MM.step t) s) (rows ++ vals.map some) :=
  Lists.foldl_inv some (fun s rows v => MM.step_inv t s rows v) vals s rows h

theorem MM.inv_append_nulls (t : PType) (s : MM) (rows : List Row) (n : Nat) (h : MM.Inv t s rows) :
    MM.Inv t s (rows ++ List.replicate n none) := by
  have hm : ∀ x : List UInt8, some x ∈ rows ++ List.replicate n (none : Row) ↔ some x ∈ rows := by
    intro x; simp [List.mem_append, List.mem_replicate]
  refine ⟨fun hh x => by rw [hm]; exact h.1 hh x, fun hh => ?_⟩
  obtain ⟨a, b, c⟩ := h.2 hh
  exact ⟨(hm _).2 a, (hm _).2 b, fun x hx => c x ((hm x).1 hx)⟩

theorem MM.inv_empty (t : PType) (mn mx : List UInt8) : MM.Inv t ⟨false, mn, mx⟩ [] :=
  ⟨fun _ x => by simp, fun h => by simp at h⟩

/-! ### the statistics builder -/

def mmOf (b : Builder) : MM := ⟨b.hasMin, b.minV, b.maxV⟩

structure BInv (t : PType) (tl : Int) (b : Builder) (rows : List Row) : Prop where
  ty : b.type = t
  tlen : b.typeLength = tl
  flags : b.hasMin = b.hasMax
  nulls : b.nullCount = (countNulls rows : Int)
  mm : b.skippedOversized = true ∨ MM.Inv t (mmOf b) rows

theorem binv_create (t : PType) (tl : Int) : BInv t tl (create t tl) [] :=
  ⟨rfl, rfl, rfl, rfl, Or.inr (MM.inv_empty t [] [])⟩

theorem cmpFixed_eq (t : PType) (ht : t ≠ .byteArray) (a b : List UInt8) : cmpFixed t a b = ordInt (tcmp t a b) := by
  rw [← cmpTyped_eq]; cases t <;> simp_all [cmpFixed]

theorem mmOf_step (t : PType) (b : Builder) (v : List UInt8) (hb : b.hasMin = b.hasMax)
    (cmp : List UInt8 → List UInt8 → Int) (hc : ∀ x y, cmp x y = ordInt (tcmp t x y)) :
    (⟨true,
      if b.hasMin = false ∨ cmp v b.minV < 0 then v else b.minV,
      if b.hasMax = false ∨ cmp v b.maxV > 0 then v else b.maxV⟩ : MM) = (mmOf b).step t v := by
  unfold MM.step mmOf
  simp only [hc, ordInt_lt_zero, ordInt_gt_zero]
  cases h1 : b.hasMin
  · have h2 : b.hasMax = false := by rw [← hb, h1]
    simp [h2]
  · have h2 : b.hasMax = true := by rw [← hb, h1]
    simp [h2]

theorem binv_stepFixed (t : PType) (tl : Int) (ht : t ≠ .byteArray) (b : Builder) (rows : List Row)
    (v : List UInt8) (h : BInv t tl b rows) : BInv t tl (stepFixed t b v) (rows ++ [some v]) := by
  refine ⟨h.ty, h.tlen, rfl, ?_, ?_⟩
  · show b.nullCount = _
    rw [countNulls_append, h.nulls]; simp [countNulls]
  · rcases h.mm with hs | hi
    · exact Or.inl hs
    · right
      have := mmOf_step t b v h.flags (cmpFixed t) (cmpFixed_eq t ht)
      show MM.Inv t (mmOf (stepFixed t b v)) _
      have e : mmOf (stepFixed t b v) = (mmOf b).step t v := this
      rw [e]; exact MM.step_inv t _ rows v hi

theorem binv_foldFixed (t : PType) (tl : Int) (ht : t ≠ .byteArray) (vals : List (List UInt8)) (b : Builder)
    (rows : List Row) (h : BInv t tl b rows) :
    BInv t tl (vals.foldl (stepFixed t) b) (rows ++ vals.map some) :=
  Lists.foldl_inv some (fun b rows v => binv_stepFixed t tl ht b rows v) vals b rows h

theorem binv_stepBA (tl : Int) (b : Builder) (rows : List Row) (v : List UInt8)
    (h : BInv .byteArray tl b rows) : BInv .byteArray tl (stepBA b v) (rows ++ [some v]) := by
  unfold stepBA
  by_cases hl : v.length > cap
  · simp only [hl, if_true]
    refine ⟨h.ty, h.tlen, h.flags, ?_, Or.inl rfl⟩
    show b.nullCount = _
    rw [countNulls_append, h.nulls]; simp [countNulls]
  · simp only [hl, if_false]
    refine ⟨h.ty, h.tlen, rfl, ?_, ?_⟩
    · show b.nullCount = _
      rw [countNulls_append, h.nulls]; simp [countNulls]
    · rcases h.mm with hs | hi
      · exact Or.inl hs
      · right
        have e := mmOf_step .byteArray b v h.flags cmpBytes (fun x y => by
          rw [cmpBytes_eq, tcmp_of_not_nan rfl rfl]; rfl)
        show MM.Inv .byteArray (mmOf _) _
        unfold mmOf at e ⊢
        simp only at e ⊢
        rw [e]; exact MM.step_inv .byteArray _ rows v hi

theorem binv_foldBA (tl : Int) (vals : List (List UInt8)) (b : Builder) (rows : List Row)
    (h : BInv .byteArray tl b rows) :
    BInv .byteArray tl (vals.foldl stepBA b) (rows ++ vals.map some) :=
  Lists.foldl_inv some (fun b rows v => binv_stepBA tl b rows v) vals b rows h

theorem binv_bump (t : PType) (tl : Int) (b : Builder) (rows : List Row) (n : Int) (h : BInv t tl b rows) :
    BInv t tl (bumpNum b n) rows := ⟨h.ty, h.tlen, h.flags, h.nulls, h.mm⟩

theorem binv_runOp (t : PType) (tl : Int) (b : Builder) (rows : List Row) (op : BOp) (hw : WfOp op)
    (h : BInv t tl b rows) : BInv t tl (runOp b op).2 (rows ++ rowsOfOp b op) := by
  cases op with
  | nulls c =>
    simp only [runOp, rowsOfOp, addNulls]
    refine ⟨h.ty, h.tlen, h.flags, ?_, ?_⟩
    · show b.nullCount + c = _
      have hc : 0 ≤ c := hw
      rw [countNulls_append, countNulls_replicate, h.nulls]
      have : ((c.toNat : Nat) : Int) = c := Int.toNat_of_nonneg hc
      omega
    · rcases h.mm with hs | hi
      · exact Or.inl hs
      · exact Or.inr (MM.inv_append_nulls t _ rows _ hi)
  | values d n =>
    simp only [runOp, rowsOfOp, addValues]
    by_cases h1 : n ≤ 0
    · simpa [h1] using h
    · by_cases h2 : valueSize b.type b.typeLength = 0
      · simpa [h1, h2] using h
      · by_cases h3 : valueSize b.type b.typeLength > cap
        · simpa [h1, h2, h3] using h
        · simp only [h1, h2, h3, if_false, if_true]
          have hty : b.type ≠ .byteArray := by
            intro hb; apply h2; rw [hb]; rfl
          have ht' : t ≠ .byteArray := by rw [← h.ty]; exact hty
          rw [h.ty]
          exact binv_bump t tl _ _ n (binv_foldFixed t tl ht' _ b rows h)
  | byteArrays vs =>
    simp only [runOp, rowsOfOp, addByteArrays]
    by_cases h1 : vs.length = 0
    · simpa [h1] using h
    · by_cases h2 : b.type ≠ .byteArray
      · simpa [h1, h2] using h
      · simp only [h1, h2, if_false, if_true]
        have hb : b.type = .byteArray := by simpa using h2
        have : t = .byteArray := by rw [← h.ty]; exact hb
        subst this
        exact binv_bump _ tl _ _ _ (binv_foldBA tl vs b rows h)

theorem binv_runOps (t : PType) (tl : Int) (ops : List BOp) (b : Builder) (rows : List Row)
    (hw : ∀ o ∈ ops, WfOp o) (h : BInv t tl b rows) :
    BInv t tl (runOps b ops) (rows ++ rowsOf b ops) := by
  induction ops generalizing b rows with
  | nil => simpa [runOps, rowsOf] using h
  | cons o os ih =>
    have h1 := binv_runOp t tl b rows o (hw o (by simp)) h
    have := ih (runOp b o).2 (rows ++ rowsOfOp b o) (fun o' ho' => hw o' (by simp [ho'])) h1
    simpa [runOps, rowsOf, List.append_assoc] using this

/-- what `build` emits from a state satisfying the invariant is true of the rows, and the
emitted bounds are attained (which is what the `is_*_value_exact` flags claim) -/
theorem binv_build (t : PType) (tl : Int) (b : Builder) (rows : List Row) (h : BInv t tl b rows) :
    TrueBounds t (toStats (build b)) rows ∧
    (∀ lo, (build b).minValue = some lo → some lo ∈ rows) ∧
    (∀ hi, (build b).maxValue = some hi → some hi ∈ rows) := by
  have key : ∀ (c : Prop) [Decidable c] (v w : List UInt8), (if c then some v else none) = some w → c ∧ v = w := by
    intro c _ v w hh; by_cases hc : c <;> simp_all
  refine ⟨⟨?_, ?_, ?_⟩, ?_, ?_⟩
  · intro lo hlo x hx
    obtain ⟨⟨h1, _, h3⟩, rfl⟩ := key _ _ _ hlo
    rcases h.mm with hs | hi
    · rw [hs] at h3; exact absurd h3 (by decide)
    · exact ((hi.2 h1).2.2 x hx).1
  · intro hi' hhi x hx
    obtain ⟨⟨h1, _, h3⟩, rfl⟩ := key _ _ _ hhi
    rcases h.mm with hs | hi
    · rw [hs] at h3; exact absurd h3 (by decide)
    · have : (mmOf b).has = true := by show b.hasMin = true; rw [h.flags]; exact h1
      exact ((hi.2 this).2.2 x hx).2
  · intro n hn
    have : b.nullCount = n := by simpa [toStats, build] using hn
    rw [← this, h.nulls]
  · intro lo hlo
    obtain ⟨⟨h1, _, h3⟩, rfl⟩ := key _ _ _ hlo
    rcases h.mm with hs | hi
    · rw [hs] at h3; exact absurd h3 (by decide)
    · exact (hi.2 h1).1
  · intro hi' hhi
    obtain ⟨⟨h1, _, h3⟩, rfl⟩ := key _ _ _ hhi
    rcases h.mm with hs | hi
    · rw [hs] at h3; exact absurd h3 (by decide)
    · have : (mmOf b).has = true := by show b.hasMin = true; rw [h.flags]; exact h1
      exact (hi.2 this).2.1

end Carquet.Proofs.StatsBuilder
