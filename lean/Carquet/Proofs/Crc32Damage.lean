import Carquet.Spec.Crc32
import Carquet.Impl.Crc32
import Carquet.Proofs.Crc32Slice
import Carquet.Proofs.Crc32Burst
/-
Helper lemmas for the C14 statements: Impl = Spec packaging, and the byte-level damage shapes
(changed run of ≤ 4 bytes, changed byte, flipped bit, xor error pattern) as `BurstDamage`.
-/
namespace Carquet.Proofs.Crc32
open Carquet.Spec.Crc32

theorem impl_update_eq (crc : BitVec 32) (data : List UInt8) :
    Carquet.Impl.Crc32.update crc data = update crc data := by
  simp only [Carquet.Impl.Crc32.update, Carquet.Impl.Crc32.slicingBy8, update, loop_eq_run]

theorem impl_crc32_eq (data : List UInt8) : Carquet.Impl.Crc32.crc32 data = crc32 data := by
  simp only [Carquet.Impl.Crc32.crc32, Carquet.Impl.Crc32.slicingBy8, crc32, loop_eq_run]
  rfl

theorem update_append (c : BitVec 32) (a b : List UInt8) :
    update c (a ++ b) = update (update c a) b := by
  simp only [update, run_append, BitVec.not_not]

theorem crc32_append (a b : List UInt8) : crc32 (a ++ b) = update (crc32 a) b := by
  simp only [crc32, update, run_append, BitVec.not_not]

theorem bits_append (a b : List UInt8) : bits (a ++ b) = bits a ++ bits b := by
  simp [bits, List.flatMap_append]

theorem crc32_burst_ne (w : Nat) (hw : w ≤ 32) (d d' : List UInt8) (h : BurstDamage w d d') :
    crc32 d ≠ crc32 d' := by
  obtain ⟨hlen, hne, s, _, hwin⟩ := h
  intro heq
  have hr : run 0xFFFFFFFF#32 d = run 0xFFFFFFFF#32 d' := by
    have := congrArg (~~~ ·) heq
    simpa [crc32] using this
  refine run_burst_ne _ d d' s hlen hne ?_ hr
  intro i hi
  rcases Nat.lt_or_ge i (8 * d.length) with hlt | hge
  · have := hwin i hlt hi; omega
  · exfalso; apply hi
    rw [List.getElem?_eq_none (by rw [length_bits]; exact hge),
      List.getElem?_eq_none (by rw [length_bits, ← hlen]; exact hge)]

/-- Damage stays the same damage when both messages get the same bytes in front and behind; the window
moves by the bits in front. -/
theorem burstDamage_context (w : Nat) (p m m' q : List UInt8) (h : BurstDamage w m m') :
    BurstDamage w (p ++ m ++ q) (p ++ m' ++ q) := by
  obtain ⟨hl, hne, s, hs, hwin⟩ := h
  refine ⟨by simp only [List.length_append, hl], ?_, 8 * p.length + s, ?_, ?_⟩
  · intro h
    rw [List.append_assoc, List.append_assoc] at h
    exact hne (List.append_inj (List.append_cancel_left h) hl).1
  · simp only [List.length_append]; omega
  · intro i _ hi
    have hp : (bits p).length = 8 * p.length := length_bits p
    simp only [bits_append, List.append_assoc] at hi
    rcases Nat.lt_or_ge i (8 * p.length) with h1 | h1
    · have h1' : i < (bits p).length := by rw [hp]; exact h1
      rw [List.getElem?_append_left h1', List.getElem?_append_left h1'] at hi
      exact absurd rfl hi
    · have h1' : (bits p).length ≤ i := by rw [hp]; exact h1
      rw [List.getElem?_append_right h1', List.getElem?_append_right h1', hp] at hi
      rcases Nat.lt_or_ge (i - 8 * p.length) (8 * m.length) with h2 | h2
      · have hm : i - 8 * p.length < (bits m).length := by rw [length_bits]; exact h2
        have hm' : i - 8 * p.length < (bits m').length := by rw [length_bits, ← hl]; exact h2
        rw [List.getElem?_append_left hm, List.getElem?_append_left hm'] at hi
        have := hwin _ h2 hi
        omega
      · have hm : (bits m).length ≤ i - 8 * p.length := by rw [length_bits]; exact h2
        have hm' : (bits m').length ≤ i - 8 * p.length := by rw [length_bits, ← hl]; exact h2
        rw [List.getElem?_append_right hm, List.getElem?_append_right hm', length_bits, length_bits, hl] at hi
        exact absurd rfl hi

theorem burstDamage_of_split (w : Nat) (p m m' q : List UInt8) (hl : m.length = m'.length)
    (hne : m ≠ m') (hw : 8 * m.length ≤ w) : BurstDamage w (p ++ m ++ q) (p ++ m' ++ q) := by
  have hpos : 0 < m.length := by
    cases m with
    | nil => cases m' with
      | nil => exact absurd rfl hne
      | cons _ _ => cases hl
    | cons _ _ => exact Nat.succ_pos _
  exact burstDamage_context w p m m' q ⟨hl, hne, 0, by omega, fun i hi _ => ⟨Nat.zero_le i, by omega⟩⟩

theorem burstDamage_set (d : List UInt8) (k : Nat) (hk : k < d.length) (v : UInt8) (hv : v ≠ d[k]) :
    BurstDamage 8 d (d.set k v) := by
  have h1 : d = d.take k ++ [d[k]] ++ d.drop (k + 1) := by
    rw [List.append_assoc, List.singleton_append, ← List.drop_eq_getElem_cons hk,
      List.take_append_drop]
  have h2 : d.set k v = d.take k ++ [v] ++ d.drop (k + 1) := by
    rw [List.set_eq_take_append_cons_drop, if_pos hk, List.append_assoc, List.singleton_append]
  rw [h2]
  conv => arg 2; rw [h1]
  exact burstDamage_of_split 8 _ [d[k]] [v] _ rfl (by simpa using fun h => hv h.symm) (by simp)

theorem bit_mask_ne_zero (j : Fin 8) : (1 : UInt8) <<< j.val.toUInt8 ≠ 0 := by
  revert j; decide

theorem xor_mask_ne (x m : UInt8) (hm : m ≠ 0) : x ^^^ m ≠ x := by
  intro h
  apply hm
  have : x ^^^ (x ^^^ m) = x ^^^ x := by rw [h]
  rw [← UInt8.xor_assoc, UInt8.xor_self, UInt8.zero_xor] at this
  exact this

/-! ### xor error patterns -/

theorem byteBits_xor (a b : UInt8) :
    byteBits (a ^^^ b) = List.zipWith (· ^^ ·) (byteBits a) (byteBits b) := by
  simp [byteBits, UInt8.toBitVec_xor]

theorem bits_xorBytes (d e : List UInt8) (h : d.length = e.length) :
    bits (xorBytes d e) = List.zipWith (· ^^ ·) (bits d) (bits e) := by
  induction d generalizing e with
  | nil => cases e with
    | nil => rfl
    | cons _ _ => cases h
  | cons a d ih => cases e with
    | nil => cases h
    | cons b e =>
      simp only [List.length_cons, Nat.add_right_cancel_iff] at h
      have e1 : bits (xorBytes (a :: d) (b :: e)) = byteBits (a ^^^ b) ++ bits (xorBytes d e) := rfl
      have e2 : bits (a :: d) = byteBits a ++ bits d := rfl
      have e3 : bits (b :: e) = byteBits b ++ bits e := rfl
      rw [e1, e2, e3, List.zipWith_append (by simp [length_byteBits]), byteBits_xor, ih e h]

theorem burstDamage_xor (w : Nat) (d e : List UInt8) (hlen : e.length = d.length) (s : Nat)
    (hnz : ∃ i : Nat, (bits e)[i]? = some true)
    (hwin : ∀ i : Nat, (bits e)[i]? = some true → s ≤ i ∧ i < s + w) :
    BurstDamage w d (xorBytes d e) := by
  have hb := bits_xorBytes d e hlen.symm
  have hdiff : ∀ i : Nat, (bits d)[i]? ≠ (bits (xorBytes d e))[i]? ↔ (bits e)[i]? = some true := by
    intro i
    rw [hb, List.getElem?_zipWith]
    have hl : (bits d).length = (bits e).length := by rw [length_bits, length_bits, hlen]
    rcases Nat.lt_or_ge i (bits d).length with hlt | hge
    · rw [List.getElem?_eq_getElem hlt, List.getElem?_eq_getElem (hl ▸ hlt)]
      cases (bits d)[i] <;> cases (bits e)[i]'(hl ▸ hlt) <;> simp
    · rw [List.getElem?_eq_none hge, List.getElem?_eq_none (hl ▸ hge)]
      simp
  obtain ⟨i0, hi0⟩ := hnz
  have hi0lt : i0 < 8 * d.length := by
    rcases Nat.lt_or_ge i0 (bits e).length with h' | h'
    · rw [length_bits, hlen] at h'; exact h'
    · rw [List.getElem?_eq_none h'] at hi0; cases hi0
  refine ⟨by simp [xorBytes, hlen], ?_, s, ?_, ?_⟩
  · intro h
    have := (hdiff i0).mpr hi0
    rw [← h] at this
    exact this rfl
  · have := (hwin i0 hi0).1; omega
  · intro i _ hi
    exact hwin i ((hdiff i).mp hi)

end Carquet.Proofs.Crc32
