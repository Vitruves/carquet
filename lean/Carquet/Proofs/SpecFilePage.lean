import Carquet.Spec.File.Write
import Carquet.Proofs.SpecFileEnvelope
import Carquet.Proofs.RleSpecEncoder
import Carquet.Proofs.RleSpecDecoder
import Carquet.Proofs.PlainBytes
import Carquet.Proofs.PlainBool
/-
Page layer of the reference writer / independent reader pair: a length-prefixed level section that is a
stream of the hybrid grammar is read back whoever wrote it (`readLevels_stream`; carquet's sections are
instances in Proofs/SpecWriterPage), so level streams written with any admissible run plan are
(`readLevels_written`); PLAIN values of every physical type are read back, entries are
re-assembled from levels and dense values: the stages of `Spec.File.decodeDataPage` on a v1 data page
body written by `Spec.File.v1Body` (assembled, for both value encodings, in Proofs/SpecFileDict.lean).
-/
namespace Carquet.Proofs.SpecFile
open Carquet.Spec Carquet.Spec.File

/-! ### levels -/

theorem all_zero_of_le_zero : ∀ (ls : List Nat), (∀ l ∈ ls, l ≤ 0) → ls = List.replicate ls.length 0
  | [], _ => rfl
  | l :: r, h => by
    have h0 : l = 0 := Nat.le_zero.mp (h l (by simp))
    have := all_zero_of_le_zero r (fun x hx => h x (by simp [hx]))
    simp only [List.length_cons, List.replicate_succ]
    rw [h0, ← this]

/-- **the level section, whoever wrote it**: a length-prefixed stream of the hybrid grammar that holds `ls`
(`Spec.RleHybrid.Stream`) is read back by the independent reader, which stops exactly behind it -/
theorem readLevels_stream (maxLevel : Nat) (h0 : maxLevel ≠ 0) (ls : List Nat) (bs rest : Bytes)
    (hs : RleHybrid.Stream (levelWidth maxLevel) bs ls) (hle : ∀ l ∈ ls, l ≤ maxLevel) (hlen : bs.length < 2 ^ 32) :
    readLevels maxLevel ls.length (prefixed bs ++ rest) = .ok (ls, rest) := by
  obtain ⟨pad, hruns⟩ := hs
  have hdec := Carquet.Proofs.RleSpecDecoder.decode_complete hruns ls.length (by simp)
  simp only [List.take_left] at hdec
  have hp4 : (prefixed bs ++ rest).take 4 = File.leBytes 4 bs.length := by
    unfold prefixed
    rw [List.append_assoc]
    exact List.take_left' (leBytes_length 4 _)
  have hd4 : (prefixed bs ++ rest).drop 4 = bs ++ rest := by
    unfold prefixed
    rw [List.append_assoc]
    exact List.drop_left' (leBytes_length 4 _)
  have hl : (prefixed bs ++ rest).length = 4 + bs.length + rest.length := by
    simp [prefixed, leBytes_length]; omega
  have hn : leNat (File.leBytes 4 bs.length) = bs.length := leNat_leBytes 4 _ (by simpa using hlen)
  unfold readLevels
  rw [if_neg h0, if_neg (by omega), hp4, hd4, hn, if_neg (by simp), List.take_left, hdec]
  have hall : ls.all (· ≤ maxLevel) = true := by
    rw [List.all_eq_true]; intro l hl'; simpa using hle l hl'
  simp [hall]

/-- a level stream written by the reference writer (any run plan the Spec encoder accepts) is read
back by the independent reader, which stops exactly at the end of the stream -/
theorem readLevels_written (maxLevel : Nat) (runs : List RleHybrid.Choice) (ls : List Nat) (bs rest : Bytes)
    (hb : levelBytes maxLevel runs ls = some bs) (hle : ∀ l ∈ ls, l ≤ maxLevel) (hlen : bs.length < 2 ^ 32) :
    readLevels maxLevel ls.length ((if maxLevel = 0 then [] else prefixed bs) ++ rest) = .ok (ls, rest) := by
  by_cases h0 : maxLevel = 0
  · subst h0
    simp only [readLevels, if_true, List.nil_append]
    rw [← all_zero_of_le_zero ls hle]
  · simp only [levelBytes, h0, if_false] at hb ⊢
    exact readLevels_stream maxLevel h0 ls bs rest (Carquet.Proofs.RleSpecEncoder.encodeWith_sound _ _ _ _ hb) hle hlen

/-! ### PLAIN values -/

theorem validValue_length {leaf : LeafInfo} {v : Bytes} (h : validValue leaf v = true) :
    (leaf.ptype = .int32 → v.length = 4) ∧ (leaf.ptype = .int64 → v.length = 8) ∧ (leaf.ptype = .int96 → v.length = 12) ∧
    (leaf.ptype = .float → v.length = 4) ∧ (leaf.ptype = .double → v.length = 8) ∧
    (leaf.ptype = .flba → v.length = leaf.typeLength) ∧ (leaf.ptype = .byteArray → v.length < 2 ^ 31) ∧
    (leaf.ptype = .boolean → v = [0] ∨ v = [1]) := by
  unfold validValue at h
  refine ⟨?_, ?_, ?_, ?_, ?_, ?_, ?_, ?_⟩ <;> intro hp <;> rw [hp] at h <;> simp only [] at h
  · have := of_decide_eq_true h; simpa [Order.Valid, Order.PType.width] using this
  · have := of_decide_eq_true h; simpa [Order.Valid, Order.PType.width] using this
  · have := of_decide_eq_true h; simpa [Order.Valid, Order.PType.width] using this
  · have := of_decide_eq_true h; simpa [Order.Valid, Order.PType.width] using this
  · have := of_decide_eq_true h; simpa [Order.Valid, Order.PType.width] using this
  · simpa using h
  · exact of_decide_eq_true h
  · simpa using h

theorem bool_roundtrip : ∀ (vs : List Bytes), (∀ v ∈ vs, v = [0] ∨ v = [1]) →
    (vs.map (fun v => v == [1])).map boolByte = vs
  | [], _ => rfl
  | v :: r, h => by
    have ih := bool_roundtrip r (fun x hx => h x (by simp [hx]))
    rcases h v (by simp) with rfl | rfl
    · simp only [List.map_cons, ih]; rfl
    · simp only [List.map_cons, ih]; rfl

/-- PLAIN values written by the reference writer are read back, for every physical type; the
reader stops exactly behind them (BOOLEAN: behind the last, zero-padded byte) -/
theorem plainValues_written (leaf : LeafInfo) (vs : List Bytes) (hv : ∀ v ∈ vs, validValue leaf v = true)
    (rest : Bytes) (hrest : leaf.ptype = .boolean → rest = []) :
    plainValues leaf vs.length (plainEncode leaf vs ++ rest) = some (vs, rest) := by
  unfold plainValues plainEncode
  cases hp : leaf.ptype
  · -- BOOLEAN
    simp only []
    have hr : rest = [] := hrest hp
    subst hr
    have hb : ∀ v ∈ vs, v = [0] ∨ v = [1] := fun v hm => (validValue_length (hv v hm)).2.2.2.2.2.2.2 hp
    have := Carquet.Proofs.Plain.spec_decodeBool_encode (vs.map (fun v => v == [1])) []
    simp only [List.length_map] at this
    rw [this]
    simp only [bool_roundtrip vs hb, List.append_nil]
    have hl := Carquet.Proofs.Plain.encodeBool_length (vs.map (fun v => v == [1]))
    simp only [List.length_map] at hl
    rw [List.drop_eq_nil_of_le (by rw [hl]; unfold Plain.boolBytes; exact Nat.le_refl _)]
  · simp only []
    exact Carquet.Proofs.Plain.spec_decodeFlba_encode 4 vs (fun v hm => (validValue_length (hv v hm)).1 hp) rest
  · simp only []
    exact Carquet.Proofs.Plain.spec_decodeFlba_encode 8 vs (fun v hm => (validValue_length (hv v hm)).2.1 hp) rest
  · simp only []
    exact Carquet.Proofs.Plain.spec_decodeFlba_encode 12 vs (fun v hm => (validValue_length (hv v hm)).2.2.1 hp) rest
  · simp only []
    exact Carquet.Proofs.Plain.spec_decodeFlba_encode 4 vs (fun v hm => (validValue_length (hv v hm)).2.2.2.1 hp) rest
  · simp only []
    exact Carquet.Proofs.Plain.spec_decodeFlba_encode 8 vs (fun v hm => (validValue_length (hv v hm)).2.2.2.2.1 hp) rest
  · simp only []
    exact Carquet.Proofs.Plain.spec_decodeByteArray_encode vs rest
      (fun v hm => Nat.lt_trans ((validValue_length (hv v hm)).2.2.2.2.2.2.1 hp) (by decide))
  · simp only []
    exact Carquet.Proofs.Plain.spec_decodeFlba_encode leaf.typeLength vs
      (fun v hm => (validValue_length (hv v hm)).2.2.2.2.2.1 hp) rest

/-! ### entries from levels and dense values -/

theorem assemble_written (leaf : LeafInfo) : ∀ (es : List Entry), (∀ e ∈ es, wellFormedEntry leaf e = true) →
    File.assemble leaf.maxDef (es.map (·.rep)) (es.map (·.dl)) (es.filterMap (·.val)) = es
  | [], _ => rfl
  | e :: r, h => by
    have ih := assemble_written leaf r (fun x hx => h x (by simp [hx]))
    have he := h e (by simp)
    obtain ⟨rp, d, v⟩ := e
    unfold wellFormedEntry at he
    cases v with
    | none =>
      simp only [Bool.and_eq_true, decide_eq_true_eq] at he
      have hne : d ≠ leaf.maxDef := by omega
      simp only [List.map_cons, List.filterMap_cons, File.assemble, hne, if_false, ih]
    | some val =>
      simp only [Bool.and_eq_true, decide_eq_true_eq, beq_iff_eq] at he
      have hd : d = leaf.maxDef := he.2.1
      subst hd
      simp only [List.map_cons, List.filterMap_cons, File.assemble, if_true, ih]

theorem nonNullCount_written (leaf : LeafInfo) : ∀ (es : List Entry), (∀ e ∈ es, wellFormedEntry leaf e = true) →
    nonNullCount leaf.maxDef (es.map (·.dl)) = (es.filterMap (·.val)).length
  | [], _ => rfl
  | e :: r, h => by
    have ih := nonNullCount_written leaf r (fun x hx => h x (by simp [hx]))
    have he := h e (by simp)
    obtain ⟨rp, d, v⟩ := e
    unfold wellFormedEntry at he
    unfold nonNullCount at ih ⊢
    cases v with
    | none =>
      simp only [Bool.and_eq_true, decide_eq_true_eq] at he
      have hne : (d == leaf.maxDef) = false := by simp; omega
      simp only [List.map_cons, List.filter_cons, hne, List.filterMap_cons]
      simpa using ih
    | some val =>
      simp only [Bool.and_eq_true, decide_eq_true_eq, beq_iff_eq] at he
      have hd : (d == leaf.maxDef) = true := by simp [he.2.1]
      simp only [List.map_cons, List.filter_cons, hd, List.filterMap_cons, if_true, List.length_cons, ih]




theorem wellFormed_parts {leaf : LeafInfo} {es : List Entry} (hwf : ∀ e ∈ es, wellFormedEntry leaf e = true) :
    (∀ l ∈ es.map (·.rep), l ≤ leaf.maxRep) ∧ (∀ l ∈ es.map (·.dl), l ≤ leaf.maxDef) ∧
    ∀ v ∈ es.filterMap (·.val), validValue leaf v = true := by
  refine ⟨fun l hl => ?_, fun l hl => ?_, fun v hv => ?_⟩
  · obtain ⟨e, he, rfl⟩ := List.mem_map.mp hl
    have := hwf e he
    simp only [wellFormedEntry, Bool.and_eq_true, decide_eq_true_eq] at this
    exact this.1.1
  · obtain ⟨e, he, rfl⟩ := List.mem_map.mp hl
    have := hwf e he
    simp only [wellFormedEntry, Bool.and_eq_true, decide_eq_true_eq] at this
    exact this.1.2
  · obtain ⟨e, he, hev⟩ := List.mem_filterMap.mp hv
    have := hwf e he
    unfold wellFormedEntry at this
    rw [hev] at this
    simp only [Bool.and_eq_true] at this
    exact this.2.2

end Carquet.Proofs.SpecFile
