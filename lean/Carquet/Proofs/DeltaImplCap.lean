import Carquet.Proofs.DeltaImplEnc
/-
When does the Impl encoder succeed?  `flush_block` asks for `10 + 4 + packed` free bytes, of which
it uses `|varint| + 4 + packed`; so 9 spare bytes beyond the final size (and the 40-byte header
check) are enough.
-/
namespace Carquet.Impl.Delta
open Carquet.Spec.Delta (pack packedSize)

theorem length_miniSlice_le (ds : List (BitVec 64)) (mb : Nat) : (miniSlice ds mb).length ≤ 32 := by
  simp [miniSlice, miniBlockSize, blockSize, miniBlocks, List.length_take]
  omega

theorem length_miniBytes (w : Nat) (min : BitVec 64) (slice : List (BitVec 64)) (h : slice.length ≤ 32) :
    (miniBytes false w min slice).length = miniBytesNeeded false w := by
  unfold miniBytes miniBytesNeeded
  by_cases hw : w = 0
  · simp [hw]
  · rw [if_neg hw, if_neg hw]
    simp only [Bool.false_and, Bool.false_eq_true, if_false]
    rw [packBits_eq, Spec.Delta.length_pack]
    simp only [List.length_map, toPack, List.length_append, List.length_replicate, miniBlockSize, blockSize,
      miniBlocks, packedSize]
    have : slice.length + (128 / 4 - slice.length) = 32 := by omega
    rw [this]
    omega

theorem length_blockBytes (ds : List (BitVec 64)) :
    (blockBytes false ds).length =
      (writeUleb128 (zigzagEncode64 (blockMin ds))).length + miniBlocks + packedBytesNeeded false ds := by
  unfold blockBytes blockBytesMin packedBytesNeeded blockWidths
  simp only [List.length_append, miniIndices_eq, List.length_cons, List.length_nil,
    List.map_cons, List.map_nil, List.flatMap_cons, List.flatMap_nil, List.sum_cons, List.sum_nil,
    length_miniBytes _ _ _ (length_miniSlice_le ds _), miniBlocks]

theorem length_writeUleb128_pos (v : BitVec 64) : 0 < (writeUleb128 v).length := by
  rw [writeUleb128_eq]
  exact List.length_pos_iff.mpr (Spec.Delta.ulebEncode_ne_nil _)

theorem flushBlock_succeeds (e : Enc) (hne : e.deltas ≠ [])
    (hcap : e.out.length + (blockBytes false e.deltas).length + 9 ≤ e.cap) :
    flushBlock false e = .ok { e with out := e.out ++ blockBytes false e.deltas, deltas := [] } := by
  unfold flushBlock
  rw [if_neg hne]
  have := length_blockBytes e.deltas
  have hp := length_writeUleb128_pos (zigzagEncode64 (blockMin e.deltas))
  rw [if_neg (by omega)]

theorem encodeLoop_succeeds (vs : List (BitVec 64)) : ∀ e : Enc, e.deltas.length < 128 →
    (e.out ++ (blocksOf e.deltas (deltasFrom e.last vs)).flatMap (blockBytes false)).length + 9 ≤ e.cap →
    ∃ e1 e2, encodeLoop false vs e = .ok e1 ∧ flushBlock false e1 = .ok e2 := by
  induction vs with
  | nil =>
    intro e _ hcap
    refine ⟨e, ?_⟩
    simp only [encodeLoop, true_and]
    by_cases hd : e.deltas = []
    · exact ⟨e, by simp [flushBlock, hd]⟩
    · refine ⟨_, flushBlock_succeeds e hd ?_⟩
      simp only [deltasFrom, blocksOf, if_neg hd, List.flatMap_cons, List.flatMap_nil, List.append_nil,
        List.length_append] at hcap
      omega
  | cons v vs ih =>
    intro e hlt hcap
    simp only [encodeLoop]
    simp only [deltasFrom, blocksOf] at hcap
    by_cases hfull : e.deltas.length + 1 = blockSize
    · rw [if_pos hfull]
      rw [if_pos (by simpa [blockSize] using hfull)] at hcap
      simp only [List.flatMap_cons, List.length_append] at hcap
      have hfl := flushBlock_succeeds { e with deltas := e.deltas ++ [v - e.last], last := v } (by simp)
        (by simp only; omega)
      rw [hfl]
      simp only
      exact ih _ (by simp) (by simp only [List.length_append]; omega)
    · rw [if_neg hfull]
      rw [if_neg (by simpa [blockSize] using hfull)] at hcap
      exact ih _ (by simp [blockSize] at hfull ⊢; omega) (by simpa using hcap)

/-- the encoder succeeds as soon as the buffer holds the output, 9 spare bytes, and 40 bytes -/
theorem encodeV_succeeds (v : BitVec 64) (rest : List (BitVec 64)) (cap : Nat) (h40 : 40 ≤ cap)
    (hcap : (encodeOut v rest).length + 9 ≤ cap) :
    encodeV false (v :: rest) cap = .ok (encodeOut v rest) := by
  obtain ⟨e1, e2, h1, h2⟩ := encodeLoop_succeeds rest ⟨headerBytes (rest.length + 1) v, cap, v, []⟩ (by simp)
    (by simpa [encodeOut] using hcap)
  have hok : encodeV false (v :: rest) cap = .ok e2.out := by
    simp only [encodeV, if_neg (by omega : ¬ cap < 40), h1, h2]
  rw [hok, encodeV_ok v rest cap e2.out hok]

/-! a crude bound on the output size -/

theorem length_writeUleb128_le (v : BitVec 64) : (writeUleb128 v).length ≤ 10 := by
  rw [writeUleb128_eq]
  exact length_ulebEncode_le _ 9 (Nat.lt_of_lt_of_le v.isLt (by decide))

theorem miniBytesNeeded_le (w : Nat) (h : w ≤ 64) : miniBytesNeeded false w ≤ 256 := by
  unfold miniBytesNeeded
  simp only [Bool.false_and, Bool.false_eq_true, if_false, miniBlockSize, blockSize, miniBlocks]
  split <;> omega

theorem length_blockBytes_le (ds : List (BitVec 64)) : (blockBytes false ds).length ≤ 1038 := by
  rw [length_blockBytes]
  have h1 := length_writeUleb128_le (zigzagEncode64 (blockMin ds))
  unfold packedBytesNeeded blockWidths
  simp only [miniIndices_eq, List.map_cons, List.map_nil, List.sum_cons, List.sum_nil, miniBlocks]
  have a := miniBytesNeeded_le _ (miniWidth_fits (blockMin ds) (miniSlice ds 0)).1
  have b := miniBytesNeeded_le _ (miniWidth_fits (blockMin ds) (miniSlice ds 1)).1
  have c := miniBytesNeeded_le _ (miniWidth_fits (blockMin ds) (miniSlice ds 2)).1
  have d := miniBytesNeeded_le _ (miniWidth_fits (blockMin ds) (miniSlice ds 3)).1
  omega

theorem length_blocksOf_le (ds : List (BitVec 64)) : ∀ buf : List (BitVec 64), buf.length < 128 →
    (blocksOf buf ds).length ≤ (buf.length + ds.length + 127) / 128 := by
  induction ds with
  | nil =>
    intro buf hb
    simp only [blocksOf]
    by_cases h : buf = []
    · simp [h]
    · rw [if_neg h]
      have : 0 < buf.length := List.length_pos_iff.mpr h
      simp only [List.length_singleton, List.length_nil, Nat.add_zero]
      omega
  | cons d ds ih =>
    intro buf hb
    simp only [blocksOf]
    by_cases hf : buf.length + 1 = 128
    · rw [if_pos hf]
      have := ih [] (by simp)
      simp only [List.length_cons, List.length_nil, Nat.zero_add] at this ⊢
      omega
    · rw [if_neg hf]
      have := ih (buf ++ [d]) (by simp; omega)
      simp only [List.length_append, List.length_cons, List.length_nil] at this ⊢
      omega

theorem length_flatMap_le (f : List (BitVec 64) → List UInt8) (K : Nat) (l : List (List (BitVec 64)))
    (h : ∀ c, (f c).length ≤ K) : (l.flatMap f).length ≤ l.length * K := by
  induction l with
  | nil => simp
  | cons c l ih =>
    simp only [List.flatMap_cons, List.length_append, List.length_cons, Nat.succ_mul]
    have := h c
    omega

theorem length_headerBytes_le (n : Nat) (v : BitVec 64) (h : n ≤ 2147483647) : (headerBytes n v).length ≤ 18 := by
  unfold headerBytes
  simp only [List.length_append]
  have h1 : (writeUleb128 (BitVec.ofNat 64 blockSize)).length = 2 := by decide
  have h2 : (writeUleb128 (BitVec.ofNat 64 miniBlocks)).length = 1 := by decide
  have h3 : (writeUleb128 (BitVec.ofNat 64 n)).length ≤ 5 := by
    rw [writeUleb128_eq]
    have : (BitVec.ofNat 64 n).toNat = n := by rw [BitVec.toNat_ofNat, Nat.mod_eq_of_lt (by omega)]
    rw [this]
    exact length_ulebEncode_le n 4 (by omega)
  have h4 := length_writeUleb128_le (zigzagEncode64 v)
  omega

/-- `18 + 1038` bytes per started block of 128 deltas always hold the output -/
theorem length_encodeOut_le (v : BitVec 64) (rest : List (BitVec 64)) (h : rest.length + 1 ≤ 2147483647) :
    (encodeOut v rest).length ≤ 18 + 1038 * ((rest.length + 127) / 128) := by
  unfold encodeOut
  rw [List.length_append]
  have h1 := length_headerBytes_le (rest.length + 1) v h
  have h2 := length_flatMap_le (blockBytes false) 1038 (blocksOf [] (deltasFrom v rest)) length_blockBytes_le
  have h3 := length_blocksOf_le (deltasFrom v rest) [] (by simp)
  simp only [List.length_nil, Nat.zero_add, length_deltasFrom] at h3
  have h4 : (blocksOf [] (deltasFrom v rest)).length * 1038 ≤ (rest.length + 127) / 128 * 1038 :=
    Nat.mul_le_mul_right _ h3
  rw [Nat.mul_comm 1038]
  omega

/-- so the encoder succeeds with 40 bytes and `27 + 1038` per started block (the 9 spare bytes included) -/
theorem encodeV_succeeds_of_cap (v : BitVec 64) (rest : List (BitVec 64)) (cap : Nat)
    (hlen : rest.length + 1 ≤ 2147483647) (h40 : 40 ≤ cap)
    (hcap : 27 + 1038 * ((rest.length + 1 + 126) / 128) ≤ cap) :
    ∃ bs, encodeV false (v :: rest) cap = .ok bs := by
  have hb := length_encodeOut_le v rest hlen
  rw [show rest.length + 1 + 126 = rest.length + 127 by omega] at hcap
  exact ⟨_, encodeV_succeeds v rest cap h40 (by omega)⟩

end Carquet.Impl.Delta
