import Carquet.Proofs.ThriftWrite
/-
Struct by struct: each writer of parquet_types.c appends `Spec.Thrift.encode` of the value
`Spec.ParquetThrift.…TV` assigns to its argument.
-/
namespace Carquet.Proofs.Thrift
open Carquet.Spec.Thrift Carquet.Spec.ParquetThrift
open Carquet.Impl.Thrift
open Carquet.Impl.ThriftParquet

/-! ### field-level pieces -/

theorem stepI32 {k : Nat} (id : Int) (v : Int) (h0 : 0 ≤ id := by omega) (h1 : id ≤ 32767 := by omega) :
    FieldsW k (fun e => wI e tI32 id v) (f1 id (.i32 v)) :=
  FieldsW.field id tI32 (fun e => writeI e v) (.i32 v) (by simp [TVal.ty]) rfl ((ValW.i32 v).mono (Nat.zero_le k))
theorem stepI64 {k : Nat} (id : Int) (v : Int) (h0 : 0 ≤ id := by omega) (h1 : id ≤ 32767 := by omega) :
    FieldsW k (fun e => wI e tI64 id v) (f1 id (.i64 v)) :=
  FieldsW.field id tI64 (fun e => writeI e v) (.i64 v) (by simp [TVal.ty]) rfl ((ValW.i64 v).mono (Nat.zero_le k))
theorem stepI16 {k : Nat} (id : Int) (v : Int) (h0 : 0 ≤ id := by omega) (h1 : id ≤ 32767 := by omega) :
    FieldsW k (fun e => wI e tI16 id v) (f1 id (.i16 v)) :=
  FieldsW.field id tI16 (fun e => writeI e v) (.i16 v) (by simp [TVal.ty]) rfl ((ValW.i16 v).mono (Nat.zero_le k))

theorem FieldsW.opt {α : Type} {k : Nat} (w : Enc → Option α → Enc) {id : Int} {mk : α → TVal} (o : Option α)
    (hn : ∀ e, w e none = e) (hs : ∀ x, o = some x → FieldsW k (fun e => w e (some x)) (f1 id (mk x))) :
    FieldsW k (fun e => w e o) (fOpt id mk o) := by
  cases o with
  | none => rw [funext hn]; exact FieldsW.nil k
  | some x => exact hs x rfl

theorem stepOptI32 {k : Nat} (id : Int) (o : Option Int) (h0 : 0 ≤ id := by omega) (h1 : id ≤ 32767 := by omega) :
    FieldsW k (fun e => wOptI e tI32 id o) (fOpt id .i32 o) :=
  .opt (wOptI · tI32 id ·) o (fun _ => rfl) fun x _ => stepI32 id x
theorem stepOptI64 {k : Nat} (id : Int) (o : Option Int) (h0 : 0 ≤ id := by omega) (h1 : id ≤ 32767 := by omega) :
    FieldsW k (fun e => wOptI e tI64 id o) (fOpt id .i64 o) :=
  .opt (wOptI · tI64 id ·) o (fun _ => rfl) fun x _ => stepI64 id x
theorem stepOptI16 {k : Nat} (id : Int) (o : Option Int) (h0 : 0 ≤ id := by omega) (h1 : id ≤ 32767 := by omega) :
    FieldsW k (fun e => wOptI e tI16 id o) (fOpt id .i16 o) :=
  .opt (wOptI · tI16 id ·) o (fun _ => rfl) fun x _ => stepI16 id x

theorem stepBin {k : Nat} (id : Int) (b : Bytes) (h0 : 0 ≤ id := by omega) (h1 : id ≤ 32767 := by omega) :
    FieldsW k (fun e => writeBinary (writeFieldHeader e tBinary id) b) (f1 id (.binary b)) :=
  FieldsW.field id tBinary (fun e => writeBinary e b) (.binary b) (by simp [TVal.ty]) rfl ((ValW.binary b).mono (Nat.zero_le k))

theorem stepBinNE {k : Nat} (id : Int) (b : Bytes) (h0 : 0 ≤ id := by omega) (h1 : id ≤ 32767 := by omega) :
    FieldsW k (fun e => wBinNonEmpty e id b) (fBinNonEmpty id b) := by
  unfold wBinNonEmpty fBinNonEmpty
  split
  · exact FieldsW.nil k
  · exact stepBin id b

theorem stepOptStr {k : Nat} (id : Int) (o : Option Bytes) (h0 : 0 ≤ id := by omega) (h1 : id ≤ 32767 := by omega) :
    FieldsW k (fun e => wOptStr e id o) (fOpt id .binary o) :=
  .opt (wOptStr · id ·) o (fun _ => rfl) fun x _ => stepBin id x

theorem stepIfPos {k : Nat} (id : Int) (v : Int) (h0 : 0 ≤ id := by omega) (h1 : id ≤ 32767 := by omega) :
    FieldsW k (fun e => wIfPos e id v) (fPos id v) := by
  unfold wIfPos fPos
  split
  · exact stepI32 id v
  · exact FieldsW.nil k

theorem stepIfNonZero {k : Nat} (id : Int) (v : Int) (h0 : 0 ≤ id := by omega) (h1 : id ≤ 32767 := by omega) :
    FieldsW k (fun e => wIfNonZero e id v) (fNonZero id v) := by
  unfold wIfNonZero fNonZero
  split
  · exact FieldsW.nil k
  · exact stepI32 id v

/-- a struct-valued field -/
theorem stepStruct {k : Nat} (id : Int) (wv : Enc → Enc) (fs : Fields) (hv : ValW k wv (.struct fs))
    (h0 : 0 ≤ id := by omega) (h1 : id ≤ 32767 := by omega) :
    FieldsW k (fun e => wv (writeFieldHeader e tStruct id)) (f1 id (.struct fs)) :=
  FieldsW.field id tStruct wv (.struct fs) (by simp [TVal.ty]) rfl hv

/-! ### Statistics -/

theorem writeStatistics_ok (s : Statistics) : ValW 1 (fun e => writeStatistics e s) (statisticsTV s) :=
  ValW.struct _ _ (((((((stepBinNE 1 s.maxDeprecated).comp (stepBinNE 2 s.minDeprecated)).comp
    (stepOptI64 3 s.nullCount)).comp (stepOptI64 4 s.distinctCount)).comp
    (stepBinNE 5 s.maxValue)).comp (stepBinNE 6 s.minValue)))

theorem stepOptStats {k : Nat} (id : Int) (o : Option Statistics) (hk : 1 ≤ k := by omega) (h0 : 0 ≤ id := by omega)
    (h1 : id ≤ 32767 := by omega) : FieldsW k (fun e => wOptStats e id o) (fOpt id statisticsTV o) :=
  .opt (wOptStats · id ·) o (fun _ => rfl) fun st _ => stepStruct id (fun e => writeStatistics e st) _ (writeStatistics_ok st).mono

/-! ### LogicalType -/

theorem stepEmptyMember {k : Nat} (id : Int) (hk : 1 ≤ k := by omega) (h0 : 0 ≤ id := by omega)
    (h1 : id ≤ 32767 := by omega) : FieldsW k (fun e => wEmptyMember e id) (f1 id (.struct [])) :=
  stepStruct id (fun e => writeStructEnd (writeStructBegin e)) [] (ValW.struct (fun e => e) [] (FieldsW.nil 0)).mono

theorem timeUnit_ok (u : TimeUnit) :
    ValW 2 (fun e => writeStructEnd (wEmptyMember (writeStructBegin e) (match u with | .millis => 1 | .micros => 2 | .nanos => 3)))
      (timeUnitTV u) := by
  cases u
  · exact ValW.struct (fun e => wEmptyMember e 1) _ (stepEmptyMember 1)
  · exact ValW.struct (fun e => wEmptyMember e 2) _ (stepEmptyMember 2)
  · exact ValW.struct (fun e => wEmptyMember e 3) _ (stepEmptyMember 3)

theorem time_ok (utc : Bool) (u : TimeUnit) :
    ValW 3 (fun e => writeStructEnd (wTimeUnit (writeFieldHeader (writeStructBegin e) (tBool utc) 1) u)) (timeTV utc u) :=
  ValW.struct (fun e => wTimeUnit (writeFieldHeader e (tBool utc) 1) u) _
    ((FieldsW.boolField 1 utc).comp (stepStruct 2 _ _ (timeUnit_ok u)))

theorem stepTimeMember (id : Int) (utc : Bool) (u : TimeUnit) (h0 : 0 ≤ id := by omega) (h1 : id ≤ 32767 := by omega) :
    FieldsW 3 (fun e => wTimeMember e id utc u) (f1 id (timeTV utc u)) :=
  stepStruct id _ _ (time_ok utc u)

theorem logicalMember_ok (lt : LogicalType) :
    ∃ fs, logicalTypeTV lt = .struct fs ∧ FieldsW 3 (fun e => wLogicalMember e lt) fs := by
  cases lt with
  | unknown => exact ⟨_, rfl, FieldsW.nil 3⟩
  | decimal scale precision =>
    exact ⟨_, rfl, stepStruct 5 _ _ (ValW.struct (k := 0) _ _ ((stepI32 1 scale).comp (stepI32 2 precision))).mono⟩
  | time utc u => exact ⟨_, rfl, stepTimeMember 7 utc u⟩
  | timestamp utc u => exact ⟨_, rfl, stepTimeMember 8 utc u⟩
  | integer bw sg =>
    exact ⟨_, rfl, stepStruct 10 _ _ (ValW.struct _ _ ((FieldsW.field (k := 0) 1 tByte (fun e => writeByte e (byteOfI8 bw))
      (.i8 bw) (by simp [TVal.ty]) rfl (ValW.i8 bw)).comp (FieldsW.boolField 2 sg))).mono⟩
  | string => exact ⟨_, rfl, stepEmptyMember 1⟩
  | map => exact ⟨_, rfl, stepEmptyMember 2⟩
  | list => exact ⟨_, rfl, stepEmptyMember 3⟩
  | enum => exact ⟨_, rfl, stepEmptyMember 4⟩
  | date => exact ⟨_, rfl, stepEmptyMember 6⟩
  | null => exact ⟨_, rfl, stepEmptyMember 11⟩
  | json => exact ⟨_, rfl, stepEmptyMember 12⟩
  | bson => exact ⟨_, rfl, stepEmptyMember 13⟩
  | uuid => exact ⟨_, rfl, stepEmptyMember 14⟩
  | float16 => exact ⟨_, rfl, stepEmptyMember 15⟩

theorem writeLogicalType_ok (lt : LogicalType) : ValW 4 (fun e => writeLogicalType e lt) (logicalTypeTV lt) := by
  obtain ⟨fs, hfs, hw⟩ := logicalMember_ok lt
  rw [hfs]
  exact ValW.struct _ _ hw

theorem stepLogical (lt : Option LogicalType) : FieldsW 4 (fun e => wLogicalField e lt) (fLogical lt) := by
  cases lt with
  | none => exact FieldsW.nil 4
  | some l =>
    by_cases hu : l = .unknown
    · subst hu; exact FieldsW.nil 4
    · have h1 : ∀ e, wLogicalField e (some l) = writeLogicalType (writeFieldHeader e tStruct 10) l := by
        intro e; cases l <;> first | contradiction | rfl
      have h2 : fLogical (some l) = f1 10 (logicalTypeTV l) := by
        cases l <;> first | contradiction | rfl
      obtain ⟨fs, hfs, _⟩ := logicalMember_ok l
      have hw := writeLogicalType_ok l
      rw [hfs] at hw
      rw [h2, hfs]
      have : (fun e => wLogicalField e (some l)) = (fun e => writeLogicalType (writeFieldHeader e tStruct 10) l) := funext h1
      rw [this]
      exact stepStruct 10 (fun e => writeLogicalType e l) fs hw

/-! ### SchemaElement, KeyValue -/

theorem writeSchemaElement_ok (s : SchemaElement) : ValW 5 (fun e => writeSchemaElement e s) (schemaElementTV s) :=
  ValW.struct _ _ ((((((((((stepOptI32 1 s.type).comp (stepIfPos 2 s.typeLength)).comp
    (stepOptI32 3 s.repetition)).comp (stepOptStr 4 s.name)).comp (stepIfPos 5 s.numChildren)).comp
    (stepOptI32 6 s.convertedType)).comp (stepIfNonZero 7 s.scale)).comp (stepIfNonZero 8 s.precision)).comp
    (stepOptI32 9 s.fieldId)).comp (stepLogical s.logicalType))

theorem writeString_eq (e : Enc) (o : Option Bytes) : writeString e o = writeBinary e (o.getD []) := by
  cases o <;> rfl

theorem writeKeyValue_ok (kv : KeyValue) : ValW 1 (fun e => writeKeyValue e kv) (keyValueTV kv) := by
  have h : (fun e => writeKeyValue e kv) =
      (fun e => writeStructEnd (wOptStr (writeBinary (writeFieldHeader (writeStructBegin e) tBinary 1) (kv.key.getD [])) 2 kv.value)) := by
    funext e; simp only [writeKeyValue, writeString_eq]
  rw [h]
  exact ValW.struct _ _ ((stepBin 1 (kv.key.getD [])).comp (stepOptStr 2 kv.value))

/-! ### ColumnMetaData, ColumnChunk, RowGroup -/

theorem stepList {α : Type} {k : Nat} (id : Int) (et : TType) (f : Enc → α → Enc) (tv : α → TVal) (xs : List α)
    (hlen : xs.length < 2 ^ 31) (hx : ∀ x ∈ xs, ValW k (fun e => f e x) (tv x)) (h0 : 0 ≤ id := by omega)
    (h1 : id ≤ 32767 := by omega) :
    FieldsW k (fun e => wEach f (writeListBegin (writeFieldHeader e tList id) et.code (xs.length : Int)) xs)
      (f1 id (.list et (xs.map tv))) :=
  FieldsW.field id tList (fun e => wEach f (writeListBegin e et.code (xs.length : Int)) xs) _ (by simp [TVal.ty]) rfl
    (ValW.list et f tv xs hlen hx)

theorem writeColumnMetaData_ok (m : ColumnMetaData) (h2 : m.encodings.length < 2 ^ 31) (h3 : m.pathInSchema.length < 2 ^ 31) :
    ValW 2 (fun e => writeColumnMetaData e m) (columnMetaDataTV m) :=
  ValW.struct _ _ (((((((((((((stepI32 1 m.type).comp
    (stepList 2 .i32 writeI .i32 m.encodings h2 fun x _ => (ValW.i32 x).mono)).comp
    (stepList 3 .binary (fun e p => writeString e (some p)) .binary m.pathInSchema h3 fun x _ => (ValW.binary x).mono)).comp
    (stepI32 4 m.codec)).comp (stepI64 5 m.numValues)).comp (stepI64 6 m.totalUncompressedSize)).comp
    (stepI64 7 m.totalCompressedSize)).comp (stepI64 9 m.dataPageOffset)).comp (stepOptI64 10 m.indexPageOffset)).comp
    (stepOptI64 11 m.dictionaryPageOffset)).comp (stepOptStats 12 m.statistics)).comp
    (stepOptI64 14 m.bloomFilterOffset)).comp (stepOptI32 15 m.bloomFilterLength))

/-- list lengths a C `int32_t` count can hold -/
def lensOkCM (m : ColumnMetaData) : Prop := m.encodings.length < 2 ^ 31 ∧ m.pathInSchema.length < 2 ^ 31

def lensOkCC (c : ColumnChunk) : Prop := ∀ x, c.metaData = some x → lensOkCM x

theorem writeColumnChunk_ok (c : ColumnChunk) (h : lensOkCC c) : ValW 3 (fun e => writeColumnChunk e c) (columnChunkTV c) :=
  ValW.struct _ _ (((((((stepOptStr 1 c.filePath).comp (stepI64 2 c.fileOffset)).comp
    (.opt (wOptMeta · ·) c.metaData (fun _ => rfl) fun x hx =>
      stepStruct 3 (fun e => writeColumnMetaData e x) _ (writeColumnMetaData_ok x (h x hx).1 (h x hx).2))).comp
    (stepOptI64 4 c.offsetIndexOffset)).comp (stepOptI32 5 c.offsetIndexLength)).comp
    (stepOptI64 6 c.columnIndexOffset)).comp (stepOptI32 7 c.columnIndexLength))

def lensOkRG (g : RowGroup) : Prop := g.columns.length < 2 ^ 31 ∧ ∀ c ∈ g.columns, lensOkCC c

theorem writeRowGroup_ok (g : RowGroup) (h : lensOkRG g) : ValW 4 (fun e => writeRowGroup e g) (rowGroupTV g) :=
  ValW.struct _ _ ((((((stepList 1 .struct writeColumnChunk columnChunkTV g.columns h.1
      (fun c hc => writeColumnChunk_ok c (h.2 c hc))).comp
    (stepI64 2 g.totalByteSize)).comp (stepI64 3 g.numRows)).comp (stepOptI64 5 g.fileOffset)).comp
    (stepOptI64 6 g.totalCompressedSize)).comp (stepOptI16 7 g.ordinal))

/-! ### FileMetaData -/

def lensOkFM (m : FileMetaData) : Prop :=
  m.schema.length < 2 ^ 31 ∧ m.rowGroups.length < 2 ^ 31 ∧ m.keyValueMetadata.length < 2 ^ 31 ∧ ∀ g ∈ m.rowGroups, lensOkRG g

theorem stepKeyValues (kvs : List KeyValue) (h : kvs.length < 2 ^ 31) : FieldsW 5 (fun e => wKeyValues e kvs) (fKeyValues kvs) := by
  unfold wKeyValues fKeyValues
  split
  · exact FieldsW.nil 5
  · exact stepList 5 .struct writeKeyValue keyValueTV kvs h (fun kv _ => (writeKeyValue_ok kv).mono)

/-- **`parquet_write_file_metadata` writes the canonical encoding of the structure's Thrift value** -/
theorem writeFileMetaData_eq (m : FileMetaData) (h : lensOkFM m) :
    writeFileMetaData m = encode (fileMetaDataTV m) ∧ writeFileMetaDataStatus m = none := by
  have hw : ValW 6 (fun e => writeStructEnd (wOptStr (wKeyValues (wEach writeRowGroup (writeListBegin (writeFieldHeader
      (wI (wEach writeSchemaElement (writeListBegin (writeFieldHeader (wI (writeStructBegin e) tI32 1 m.version) tList 2)
        tStruct m.schema.length) m.schema) tI64 3 m.numRows) tList 4) tStruct m.rowGroups.length) m.rowGroups)
      m.keyValueMetadata) 6 m.createdBy)) (fileMetaDataTV m) :=
    ValW.struct _ _ ((((((stepI32 1 m.version).comp
      (stepList 2 .struct writeSchemaElement schemaElementTV m.schema h.1 fun s _ => writeSchemaElement_ok s)).comp
      (stepI64 3 m.numRows)).comp
      (stepList 4 .struct writeRowGroup rowGroupTV m.rowGroups h.2.1 fun g hg => (writeRowGroup_ok g (h.2.2.2 g hg)).mono)).comp
      (stepKeyValues m.keyValueMetadata h.2.2.1)).comp (stepOptStr 6 m.createdBy))
  obtain ⟨a1, _, a3⟩ := hw Enc.init rfl (by simp [Enc.init, maxNesting])
  exact ⟨by simpa [writeFileMetaData, writeFileMetaDataEnc, encode, Enc.init, Enc.out] using a1,
         by simpa [writeFileMetaDataStatus, writeFileMetaDataEnc] using a3⟩

/-! ### PageHeader -/

theorem stepPageMember (h : PageHeader) : FieldsW 2 (fun e => wPageMember e h) (fPageMember h) := by
  unfold wPageMember fPageMember
  split
  · exact stepStruct 5 _ _ (ValW.struct _ _ (((((stepI32 1 h.dataPageHeader.numValues).comp
      (stepI32 2 h.dataPageHeader.encoding)).comp (stepI32 3 h.dataPageHeader.definitionLevelEncoding)).comp
      (stepI32 4 h.dataPageHeader.repetitionLevelEncoding)).comp (stepOptStats 5 h.dataPageHeader.statistics)))
  split
  · exact stepStruct 8 _ _ (ValW.struct _ _ (((((((stepI32 1 h.dataPageHeaderV2.numValues).comp
      (stepI32 2 h.dataPageHeaderV2.numNulls)).comp (stepI32 3 h.dataPageHeaderV2.numRows)).comp
      (stepI32 4 h.dataPageHeaderV2.encoding)).comp (stepI32 5 h.dataPageHeaderV2.definitionLevelsByteLength)).comp
      (stepI32 6 h.dataPageHeaderV2.repetitionLevelsByteLength)).comp
      (FieldsW.boolField (k := 1) 7 h.dataPageHeaderV2.isCompressed)))
  split
  · exact stepStruct 7 _ _ (ValW.struct _ _ (((stepI32 1 h.dictionaryPageHeader.numValues).comp
      (stepI32 2 h.dictionaryPageHeader.encoding)).comp (FieldsW.boolField (k := 1) 3 h.dictionaryPageHeader.isSorted)))
  · exact FieldsW.nil 2

/-- **`parquet_write_page_header` writes the canonical encoding of the structure's Thrift value** -/
theorem writePageHeader_eq (h : PageHeader) :
    writePageHeader h = encode (pageHeaderTV h) ∧ writePageHeaderStatus h = none := by
  have hw : ValW 3 (fun e => writeStructEnd (wPageMember (wOptI (wI (wI (wI (writeStructBegin e) tI32 1 h.type)
      tI32 2 h.uncompressedPageSize) tI32 3 h.compressedPageSize) tI32 4 h.crc) h)) (pageHeaderTV h) :=
    ValW.struct _ _ (((((stepI32 1 h.type).comp (stepI32 2 h.uncompressedPageSize)).comp
      (stepI32 3 h.compressedPageSize)).comp (stepOptI32 4 h.crc)).comp (stepPageMember h))
  obtain ⟨a1, _, a3⟩ := hw Enc.init rfl (by simp [Enc.init, maxNesting])
  exact ⟨by simpa [writePageHeader, writePageHeaderEnc, encode, Enc.init, Enc.out] using a1,
         by simpa [writePageHeaderStatus, writePageHeaderEnc] using a3⟩

end Carquet.Proofs.Thrift
