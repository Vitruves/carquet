import Carquet.Proofs.SpecFileWholeFull
/-
The PLAIN class of layouts — every chunk without dictionary, pages stored uncompressed with PLAIN
values, no unknown fields, no chunk statistics, no deliberate damage; free: page split, run plans,
header forms, CRCs, page statistics, gaps, row groups, nesting, physical types, version, created_by —
as a special case of the admissible layouts.  Nothing of such a file goes through the oracle, and the
uncompressed size of every chunk is its length, so that the bound on the written bytes is the only
size condition.
-/
namespace Carquet.Proofs.SpecFile
open Carquet.Spec Carquet.Spec.File Carquet.Spec.Thrift Carquet.Spec.ParquetThrift

/-! ### pages and chunks -/

structure PlainLayout (pl : PageLayout) : Prop where
  kind : pl.kind = .v1
  values : pl.values = .plain
  comp : pl.comp = .none
  hdrExtra : pl.hdrExtra = []
  memberExtra : pl.memberExtra = []
  statsExtra : pl.statsExtra = []
  damage : pl.damage = {}

theorem PlainLayout.adm {pl : PageLayout} (h : PlainLayout pl) : PageAdm pl ∧ pl.comp.codec = 0 := by
  refine ⟨⟨h.kind, h.damage, ?_, ?_, ?_, ?_, ?_, ?_, ?_, ?_⟩, ?_⟩ <;>
    simp only [h.values, h.comp, h.hdrExtra, h.memberExtra, h.statsExtra] <;> rfl

theorem noneEmits : FromPlans (· = .none) (fun _ => False) :=
  ⟨fun plan body comp hq _ _ e he => by rw [hq] at he; cases he⟩

theorem writeDataPages_plain (leaf : LeafInfo) (dict : Option (List Bytes)) :
    ∀ (pls : List PageLayout) (es : List Entry) (w : Written), (∀ pl ∈ pls, PlainLayout pl) →
      writeDataPages leaf dict pls es = some w → w.usize = w.bytes.length
  | [], _, w, _, hw => by rw [(writeDataPages_nil hw).2]; rfl
  | pl :: r, es, w, hpl, hw => by
    obtain ⟨a, b, h1, h2, rfl⟩ := writeDataPages_cons hw
    have ih := writeDataPages_plain leaf dict r _ b (fun p hp => hpl p (by simp [hp])) h2
    have hp := hpl pl (by simp)
    obtain ⟨repB, defB, valB, comp, _, _, _, hc, hbytes, _, husize⟩ := writeDataPage_adm hp.adm.1 h1
    rw [hp.comp] at hc
    cases hc
    simp only [husize, hbytes, ih, List.length_append]

theorem pagesOk_plain {cfg : Config} {leaf : LeafInfo} {dict : Option (List Bytes)} {pls : List PageLayout} {es : List Entry}
    {w : Written} (hpl : ∀ pl ∈ pls, PlainLayout pl) (hw : writeDataPages leaf dict pls es = some w)
    (hwf : ∀ e ∈ es, wellFormedEntry leaf e = true) (hlen : w.bytes.length < 2 ^ 31) (hes : es.length < 2 ^ 31) :
    PagesOk cfg 0 leaf dict pls es w :=
  ⟨fun pl h => (hpl pl h).adm, hw, hwf, hlen, writeDataPages_plain leaf dict pls es w hpl hw ▸ hlen, hes,
    Or.inl (fun pl h => (hpl pl h).values),
    fun e he => (writeDataPages_oracle noneEmits leaf dict pls es w (fun pl h => ⟨(hpl pl h).adm.1, (hpl pl h).comp⟩) hw e he).elim⟩

theorem readDataPages_written_plain (cfg : Config) (leaf : LeafInfo) (dict : Option (List Bytes)) (encodings : List Int)
    (pls : List PageLayout) (es : List Entry) (w : Written) (fuel : Nat)
    (henc : pls ≠ [] → encodings.contains 0 = true) (hpl : ∀ pl ∈ pls, PlainLayout pl)
    (hw : writeDataPages leaf dict pls es = some w) (hwf : ∀ e ∈ es, wellFormedEntry leaf e = true)
    (hlen : w.bytes.length < 2 ^ 31) (hes : es.length < 2 ^ 31) (hf : pls.length < fuel) :
    readDataPages cfg 0 leaf encodings dict fuel w.bytes = .ok es :=
  readDataPages_written cfg 0 leaf dict encodings pls es w fuel (pagesOk_plain hpl hw hwf hlen hes)
    (fun pl h => by rw [(hpl pl h).values]; exact henc (List.ne_nil_of_mem h)) hf

theorem readChunk_written_plain (cfg : Config) (leaf : LeafInfo) (pls : List PageLayout) (es : List Entry) (w : Written)
    (m : ColumnMeta) (start : Nat)
    (hpl : ∀ pl ∈ pls, PlainLayout pl) (hw : writeDataPages leaf none pls es = some w)
    (hwf : wellFormedChunk leaf es = true) (hlen : w.bytes.length < 2 ^ 31) (hes : es.length < 2 ^ 31)
    (hcodec : m.codec = 0) (hlegal : m.encodings.all legalEncoding = true)
    (hplain : pls ≠ [] → m.encodings.contains 0 = true)
    (hnum : m.numValues = es.length) (hdict : m.dictionaryPageOffset = none) :
    readChunk cfg leaf m start w.bytes = .ok es := by
  obtain ⟨hwfe, hfirst⟩ := wellFormedChunk_iff hwf
  exact (readChunk_written_nodict cfg leaf pls es w m start (hcodec ▸ pagesOk_plain hpl hw hwfe hlen hes)
    (fun pl h => by rw [(hpl pl h).values]; exact hplain (List.ne_nil_of_mem h)) ⟨hlegal, hnum, hfirst⟩ hdict).1

/-! ### the whole file -/

structure PlainChunk (cl : ChunkLayout) : Prop where
  codec : cl.codec = 0
  codecTag : cl.codecTag = none
  dict : cl.dict = none
  pages : ∀ pl ∈ cl.pages, PlainLayout pl
  chunkStats : cl.chunkStats = false
  metaExtra : cl.metaExtra = []
  chunkExtra : cl.chunkExtra = []

structure PlainFile (l : Layout) : Prop where
  chunks : ∀ g ∈ l.rowGroups, ∀ cl ∈ g, PlainChunk cl
  footerExtra : l.footerExtra = []
  schemaExtra : l.schemaExtra = []
  rowGroupExtra : l.rowGroupExtra = []

theorem PlainChunk.adm {cl : ChunkLayout} (h : PlainChunk cl) : ChunkAdm cl := by
  refine ⟨?_, fun pl hpl => (h.pages pl hpl).adm.1, fun d hd => ?_, ?_, ?_⟩
  · rw [h.codecTag]; rfl
  · rw [h.dict] at hd; cases hd
  · rw [h.metaExtra]; rfl
  · rw [h.chunkExtra]; rfl

theorem PlainFile.adm {l : Layout} (h : PlainFile l) : LayoutAdm l := by
  refine ⟨fun g hg cl hcl => (h.chunks g hg cl hcl).adm, ?_, ?_, ?_⟩
  · rw [h.footerExtra]; rfl
  · rw [h.schemaExtra]; rfl
  · rw [h.rowGroupExtra]; rfl

theorem PlainChunk.plans {cl : ChunkLayout} (h : PlainChunk cl) : PlansIn (· = .none) cl :=
  ⟨fun pl hpl => (h.pages pl hpl).comp, fun d hd => by rw [h.dict] at hd; cases hd⟩

theorem writeChunk_plain {leaf : LeafInfo} {cl : ChunkLayout} {es : Chunk} {pos : Nat} {c : ChunkOut}
    (hp : PlainChunk cl) (hw : writeChunk leaf cl es pos = some c) (hlen : c.bytes.length < 2 ^ 31) :
    chunkUsizeOk c.cmeta = true := by
  obtain ⟨dp, pages, hdp, hpages, _, _, _, hbytes, hmeta, _, _, _⟩ := writeChunk_adm hp.adm hw
  rw [hp.dict] at hdp hpages
  cases hdp
  have hu := writeDataPages_plain leaf _ cl.pages es pages hp.pages hpages
  rw [hmeta, chunkUsizeOk_fields _ (chunkDesc_ok leaf cl es pos _ pages hp.adm)]
  simp only [hbytes, List.length_append] at hlen
  simp only [chunkDesc, decide_eq_true_eq]
  omega

theorem writeChunks_plain : ∀ (leaves : List LeafInfo) (cls : List ChunkLayout) (ess : List Chunk) (pos : Nat) (g : GroupOut),
    writeChunks leaves cls ess pos = some g → (∀ cl ∈ cls, PlainChunk cl) → g.bytes.length < 2 ^ 31 →
    ∀ c ∈ g.metas, chunkUsizeOk c = true := by
  refine writeChunks_induct (fun _ _ _ c hc => by cases hc) ?_
  intro leaf ls cl cls es ess pos c g' hc _ ih hpl hlen x hx
  simp only [List.length_append] at hlen
  rcases List.mem_cons.mp hx with rfl | hx'
  · exact writeChunk_plain (hpl cl (by simp)) hc (by omega)
  · exact ih (fun x hx => hpl x (by simp [hx])) (by omega) x hx'

theorem writeGroups_plain (leaves : List LeafInfo) :
    ∀ (lay : List (List ChunkLayout)) (groups : List RowGroup) (pos : Nat) (G : GroupOut),
      writeGroups leaves [] lay groups pos = some G → (∀ g ∈ lay, ∀ cl ∈ g, PlainChunk cl) → G.bytes.length < 2 ^ 31 →
      ∀ rg ∈ G.metas, rgUsizeOk rg = true := by
  refine writeGroups_induct (fun _ _ _ c hc => by cases hc) ?_
  intro cls r g gs pos o rest _ hwc _ ih hpl hlen x hx
  simp only [List.length_append] at hlen
  rcases List.mem_cons.mp hx with rfl | hx'
  · rw [rgUsizeOk_rowGroupTV _ _ _ _ rfl, List.all_eq_true]
    exact writeChunks_plain leaves cls g.chunks pos o hwc (hpl cls (by simp)) (by omega)
  · exact ih (fun x hx => hpl x (by simp [hx])) (by omega) x hx'

/-- **whole file, PLAIN class**: what the reference writer writes, the independent reader reads back. -/
theorem read_write_plain (t : Table) (l : Layout) (file : Bytes) (oracle : Oracle)
    (hpf : PlainFile l) (hw : writeFull t l = some (file, oracle))
    (hwf : ∀ v, footerValue t l = some v → v.wf = true)
    (hlen : file.length < 2 ^ 31)
    (hsmall : ∀ g ∈ t.rowGroups, ∀ es ∈ g.chunks, es.length < 2 ^ 31) :
    File.read file = .ok t := by
  have ho := writeFull_oracle_nil (Q := (· = .none)) t l file oracle hpf.adm (fun plan hq _ _ => by rw [hq]; rfl)
    (fun g hg cl hcl => (hpf.chunks g hg cl hcl).plans) hw
  have hplain : ∀ v, footerValue t l = some v → footerUsizeOk v = true := by
    obtain ⟨leaves, G, v, -, hg, hv, rfl, rfl, -⟩ := writeFull_inv hw
    intro v' hv'
    obtain rfl : _ = v' := Option.some.inj (hv.symm.trans hv')
    rw [footerUsizeOk_fileMetaTV _ _ _ _ _ _ (by rw [hpf.footerExtra]; rfl), List.all_eq_true]
    rw [hpf.rowGroupExtra] at hg
    refine writeGroups_plain leaves _ _ 4 G hg hpf.chunks ?_
    have := fileOfParts_length G.bytes (encodeValF l.form (fileMetaTV l.version
      ((Schema.flatten t.schema).map (fun e => schemaElementTV e l.schemaExtra))
      ((t.rowGroups.map (groupRows leaves)).sum) G.metas l.createdBy l.footerExtra))
    omega
  exact read_write_adm t l file oracle hpf.adm hw (fun v hv => ⟨hwf v hv, hplain v hv⟩) hlen hsmall []
    (fun e he => by rw [ho] at he; cases he)

end Carquet.Proofs.SpecFile
