import Carquet.Impl.Sink
/-
Helper lemmas for C18 (stream part): accounting of bytes through fwrite/fflush and
stickiness of the error indicator.
-/
namespace Carquet.Proofs.Sink
open Carquet.Impl.Sink

theorem fwrite_total (s : Stream) (d : Bytes) (o : Outcome) (h : o.isFail = false) :
    (fwrite s d o).1.delivered ++ (fwrite s d o).1.pending = s.delivered ++ s.pending ++ d := by
  cases o <;> simp_all [fwrite, Outcome.isFail, List.append_assoc, List.take_append_drop]

theorem fwrite_err (s : Stream) (d : Bytes) (o : Outcome) :
    (fwrite s d o).1.err = (s.err || o.isFail) := by
  cases o <;> simp [fwrite, Outcome.isFail]

theorem fwrite_ret (s : Stream) (d : Bytes) (o : Outcome) : (fwrite s d o).2 = !o.isFail := by
  cases o <;> simp [fwrite, Outcome.isFail]

theorem fflush_err (s : Stream) (o : Outcome) : (fflush s o).1.err = (s.err || o.isFail) := by
  cases o <;> simp [fflush, Outcome.isFail]

theorem fflush_ret (s : Stream) (o : Outcome) : (fflush s o).2 = !o.isFail := by
  cases o <;> simp [fflush, Outcome.isFail]

theorem fflush_ok (s : Stream) (o : Outcome) (h : (fflush s o).2 = true) :
    (fflush s o).1.delivered = s.delivered ++ s.pending ∧ (fflush s o).1.pending = [] := by
  cases o <;> simp_all [fflush]

theorem fflush_true {s : Stream} {oc : Outcome} (h : (fflush s oc).2 = true) :
    oc.isFail = false ∧ (fflush s oc).1.err = s.err ∧
    (fflush s oc).1.delivered = s.delivered ++ s.pending ∧ (fflush s oc).1.pending = [] := by
  have hf : oc.isFail = false := by rw [fflush_ret] at h; simpa using h
  exact ⟨hf, by rw [fflush_err, hf, Bool.or_false], fflush_ok s oc h⟩

/-- no failure among operations `i .. j-1` -/
def NoFail (o : Oracle) (i j : Nat) : Prop := ∀ k, i ≤ k → k < j → (o k).isFail = false

theorem NoFail.snoc {o : Oracle} {i j : Nat} (h : NoFail o i j) (hj : (o j).isFail = false) : NoFail o i (j + 1) := by
  intro k h1 h2
  by_cases hk : k = j
  · exact hk ▸ hj
  · exact h k h1 (by omega)

theorem NoFail.append {o : Oracle} {i j k : Nat} (h1 : NoFail o i j) (h2 : NoFail o j k) : NoFail o i k := by
  intro n hn1 hn2
  by_cases hn : n < j
  · exact h1 n hn1 hn
  · exact h2 n (by omega) hn2

theorem writes_spec (o : Oracle) : ∀ (ds : List Bytes) (s : Stream) (i : Nat),
    i ≤ (writes o s i ds).2.2 ∧
    ((writes o s i ds).1.err = false →
      s.err = false ∧ (writes o s i ds).2.1 = .ok ∧ (writes o s i ds).2.2 = i + ds.length ∧
      NoFail o i (i + ds.length) ∧
      (writes o s i ds).1.delivered ++ (writes o s i ds).1.pending = s.delivered ++ s.pending ++ ds.flatten) ∧
    (s.err = true → (writes o s i ds).1.err = true) := by
  intro ds
  induction ds with
  | nil =>
    intro s i
    simp only [writes, NoFail, List.length_nil, List.flatten_nil, List.append_nil, Nat.add_zero, Nat.le_refl, true_and]
    refine ⟨fun h => ⟨h, fun k h1 h2 => by omega, trivial⟩, fun h => h⟩
  | cons d ds ih =>
    intro s i
    by_cases hf : (fwrite s d (o i)).2 = true
    · have hnf : (o i).isFail = false := by simpa [fwrite_ret] using hf
      obtain ⟨a, b, c⟩ := ih (fwrite s d (o i)).1 (i + 1)
      simp only [writes, hf, if_true]
      refine ⟨by omega, ?_, ?_⟩
      · intro he
        obtain ⟨e1, e2, e3, e4, e5⟩ := b he
        rw [fwrite_err] at e1
        refine ⟨by simpa using (Bool.or_eq_false_iff.mp e1).1, e2, by simp [e3]; omega, ?_, ?_⟩
        · have h0 : NoFail o i (i + 1) := NoFail.snoc (fun k h1 h2 => by omega) hnf
          have := h0.append e4
          rwa [List.length_cons, show i + (ds.length + 1) = i + 1 + ds.length by omega]
        · rw [e5, fwrite_total _ _ _ hnf]; simp [List.append_assoc]
      · intro he
        exact c (by rw [fwrite_err]; simp [he])
    · have hff : (o i).isFail = true := by
        have := fwrite_ret s d (o i); rw [this] at hf; simpa using hf
      simp only [writes, hf]
      refine ⟨by simp, ?_, ?_⟩
      · intro he
        simp only [Bool.false_eq_true, if_false] at he
        rw [fwrite_err] at he
        simp [hff] at he
      · intro _; simp [fwrite_err, hff]

def tailOps (owns : Bool) : Nat := if owns then 2 else 1

theorem closeCall_ok (o : Oracle) (s : Stream) (i : Nat) (owns : Bool) (ws : List Bytes)
    (h : (closeCall o s i owns ws).2 = .ok) :
    s.err = false ∧ (closeCall o s i owns ws).1.pending = [] ∧
    (closeCall o s i owns ws).1.delivered = s.delivered ++ s.pending ++ ws.flatten ∧
    NoFail o i (i + ws.length + tailOps owns) := by
  obtain ⟨-, hspec, -⟩ := writes_spec o ws s i
  unfold closeCall at h ⊢
  generalize writes o s i ws = r at h hspec ⊢
  obtain ⟨s1, st, j⟩ := r
  cases st with
  | fileWrite => cases owns <;> simp at h
  | ok =>
    simp only at hspec h ⊢
    -- OK needs the flush, and the close of an owned stream, to succeed, and the indicator to be clear
    have ite_ok : ∀ {c : Bool}, (if c = true then Status.ok else .fileWrite) = .ok → c = true := by
      intro c; cases c <;> simp
    cases owns with
    | false =>
      rw [if_neg Bool.false_ne_true] at h ⊢
      have hx := ite_ok h
      simp only [Bool.and_eq_true, Bool.not_eq_true'] at hx
      obtain ⟨n1, f0, f1, f2⟩ := fflush_true hx.1
      obtain ⟨e1, -, rfl, e4, e5⟩ := hspec (f0 ▸ hx.2)
      exact ⟨e1, f2, by rw [f1, e5], e4.snoc n1⟩
    | true =>
      rw [if_pos rfl] at h ⊢
      have hx := ite_ok h
      simp only [Bool.and_eq_true, Bool.not_eq_true'] at hx
      obtain ⟨n1, f0, f1, f2⟩ := fflush_true hx.1.1
      obtain ⟨n2, -, g1, g2⟩ := fflush_true (s := (fflush s1 (o j)).1) hx.2
      obtain ⟨e1, -, rfl, e4, e5⟩ := hspec (f0 ▸ hx.1.2)
      exact ⟨e1, g2, by rw [show (fclose _ _).1 = (fflush _ _).1 from rfl, g1, f1, f2, e5]; simp, (e4.snoc n1).snoc n2⟩

def totalOps (calls : List (List Bytes)) : Nat := (calls.map List.length).sum

theorem session_ok (o : Oracle) (owns : Bool) (cw : List Bytes) :
    ∀ (calls : List (List Bytes)) (s : Stream) (i : Nat),
    (session o owns cw s i calls).2.2 = .ok →
    s.err = false ∧
    (∀ st ∈ (session o owns cw s i calls).2.1, st = .ok) ∧
    (session o owns cw s i calls).1.pending = [] ∧
    (session o owns cw s i calls).1.delivered = s.delivered ++ s.pending ++ calls.flatten.flatten ++ cw.flatten ∧
    NoFail o i (i + totalOps calls + cw.length + tailOps owns) := by
  intro calls
  induction calls with
  | nil =>
    intro s i h
    obtain ⟨a, b, c, d⟩ := closeCall_ok o s i owns cw h
    refine ⟨a, by simp [session], b, by simpa [session] using c, by simpa [totalOps] using d⟩
  | cons call calls ih =>
    intro s i h
    obtain ⟨hle, hspec, hsticky⟩ := writes_spec o call s i
    simp only [session] at h ⊢
    obtain ⟨a, b, c, d, e⟩ := ih (writes o s i call).1 (writes o s i call).2.2 h
    obtain ⟨e1, e2, e3, e4, e5⟩ := hspec a
    refine ⟨e1, ?_, c, ?_, ?_⟩
    · intro st hst
      simp only [List.mem_cons] at hst
      rcases hst with rfl | hst
      · exact e2
      · exact b st hst
    · rw [d]
      have : (writes o s i call).1.delivered ++ (writes o s i call).1.pending = s.delivered ++ s.pending ++ call.flatten := e5
      simp only [List.flatten_cons, List.append_assoc] at this ⊢
      rw [← List.append_assoc (writes o s i call).1.delivered, this]
      simp [List.append_assoc]
    · have := e4.append (e3 ▸ e)
      simpa [totalOps, Nat.add_assoc] using this

end Carquet.Proofs.Sink
