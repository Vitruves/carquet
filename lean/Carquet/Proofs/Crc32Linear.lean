import Carquet.Spec.Crc32
import Carquet.Proofs.Lfsr
/-
Helper lemmas for C14: the zero-input LFSR step `step1` is GF(2)-linear (`Lfsr.step1_xor` at the IEEE polynomial) and
injective (the polynomial has its top bit set); `run` over an append.
-/
namespace Carquet.Proofs.Crc32
open Carquet.Spec.Crc32

theorem run_append (c : BitVec 32) (a b : List UInt8) : run c (a ++ b) = run (run c a) b :=
  List.foldl_append

/-! ### step1 -/

theorem step1_of_low_false {c : BitVec 32} (h : c.getLsbD 0 = false) : step1 c = c >>> 1 :=
  Lfsr.step1_of_low_false poly h

theorem step1_of_low_true {c : BitVec 32} (h : c.getLsbD 0 = true) : step1 c = (c >>> 1) ^^^ poly :=
  Lfsr.step1_of_low_true poly h

theorem step1_zero : step1 0#32 = 0#32 := by decide

theorem step1_xor (a b : BitVec 32) : step1 (a ^^^ b) = step1 a ^^^ step1 b := Lfsr.step1_xor poly a b

theorem poly_msb : poly.getLsbD 31 = true := by decide

theorem step1_eq_zero {x : BitVec 32} (h : step1 x = 0#32) : x = 0#32 := by
  cases h0 : x.getLsbD 0
  · rw [step1_of_low_false h0] at h
    apply BitVec.eq_of_getLsbD_eq
    intro i hi
    cases i with
    | zero => simpa using h0
    | succ i =>
      have := congrArg (fun v => v.getLsbD i) h
      simp only [BitVec.getLsbD_ushiftRight, BitVec.getLsbD_zero] at this
      rw [Nat.add_comm]; simpa using this
  · rw [step1_of_low_true h0] at h
    have := congrArg (fun v => v.getLsbD 31) h
    simp only [BitVec.getLsbD_xor, BitVec.getLsbD_ushiftRight, poly_msb, BitVec.getLsbD_zero] at this
    simp at this

theorem step1_injective {a b : BitVec 32} (h : step1 a = step1 b) : a = b := by
  have : step1 (a ^^^ b) = 0#32 := by rw [step1_xor, h]; simp
  have := step1_eq_zero this
  exact BitVec.xor_eq_zero_iff.mp this

end Carquet.Proofs.Crc32
