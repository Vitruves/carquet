import Carquet.Proofs.CSem
import Carquet.Proofs.CFun2.Mem
/-
Shared lemmas of the link theorems in Properties/Cnn/CFunB.lean, on top of the C-integer facts of Proofs/CSem.lean and the cell at
a split point of Proofs/CFun2/Mem.lean (`rd_at` … `inb_at`): positions computed in `int64_t`, the cell lemmas with the index given
as `k = done.length`, access by index, a run of consecutive stores (`setRun`), narrow operands promoted to `int`, and the two rules
for translated counting loops (`for_loop`, `fold_loop`).

How the link proofs of this directory read the generated text: they name the generated functions and their loops (`f`, `f_loopN`,
`f_defined`), never a helper `f_vN`.  What a round computes is stated in the proof's own words (a local equation, or a small
definition such as `blockByte`, `litStores`, `afterLoop`) and matched against the generated term by `rfl` / `exact` / `congrArg`,
which unfold the helpers; the flags of `_defined` are rewritten one by one wherever they stand, so their order does not matter.
-/
namespace Carquet.Proofs.CFunB
open Carquet Carquet.Impl.CSem Carquet.Proofs.CSem
export Carquet.Proofs.CFun2 (rd_at rd8_at wr_at wr8_at inb_at)

/-! ### positions computed in `int64_t`: the index `a * m + r`, the offset `a + k` inside a block of `m` elements that fits
(`simp` closes `k ≤ m` for literals) -/

section
variable (a m r : Nat) (h : a * m + r < 2 ^ 63)
include h
theorem i64_mulAdd_sMulOk (ha : a < 2 ^ 63) (hm : m < 2 ^ 63) : sMulOk (BitVec.ofNat 64 a) (BitVec.ofNat 64 m) = true :=
  ofNat_sMulOk a m ha hm (Nat.lt_of_le_of_lt (Nat.le_add_right _ _) h)
theorem i64_mulAdd_sAddOk : sAddOk (BitVec.ofNat 64 a * BitVec.ofNat 64 m) (BitVec.ofNat 64 r) = true := by
  rw [ofNat_mul]; exact ofNat_sAddOk _ _ h
theorem i64_mulAdd_msb : (BitVec.ofNat 64 a * BitVec.ofNat 64 m + BitVec.ofNat 64 r).msb = false := by
  rw [ofNat_mul, ofNat_add]; exact ofNat_msb _ h
theorem i64_mulAdd_toIntNat : (BitVec.ofNat 64 a * BitVec.ofNat 64 m + BitVec.ofNat 64 r).toInt.toNat = a * m + r := by
  rw [ofNat_mul, ofNat_add]; exact ofNat_toInt_toNat _ h
end

section
variable (a k m : Nat) (h : a + m < 2 ^ 63)
include h
theorem i64_toIntNat_add (hk : k ≤ m) : (BitVec.ofNat 64 (a + k)).toInt.toNat = a + k := ofNat_toInt_toNat _ (by omega)
theorem i64_msb_add (hk : k ≤ m) : (BitVec.ofNat 64 (a + k)).msb = false := ofNat_msb _ (by omega)
theorem i64_sAddOk_add (hk : k ≤ m) : sAddOk (BitVec.ofNat 64 a) (BitVec.ofNat 64 k) = true := ofNat_sAddOk _ _ (by omega)
theorem i64_sAddOk_one_add (hk : k < m) : sAddOk (BitVec.ofNat 64 (a + k)) 1#64 = true := ofNat_sAddOk _ 1 (by omega)
end

theorem u64_le (a b : Nat) (ha : a < 2 ^ 64) (hb : b < 2 ^ 64) :
    decide (BitVec.ofNat 64 a ≤ BitVec.ofNat 64 b) = decide (a ≤ b) := ofNat_le a b ha hb

/-! ### the element after a processed prefix -/

theorem set_at {α : Type} (done : List α) (x v : α) (rest : List α) (k : Nat) (h : k = done.length) :
    (done ++ x :: rest).set k v = done ++ v :: rest := by subst h; simp

theorem wr_at' {w : Nat} (done : List (BitVec w)) (x v : BitVec w) (rest : List (BitVec w)) (k : Nat) (h : k = done.length) :
    wr (done ++ x :: rest) k v = done ++ v :: rest := by subst h; exact wr_at ..

theorem wr8_at' (done : List UInt8) (x : UInt8) (v : BitVec 8) (rest : List UInt8) (k : Nat) (h : k = done.length) :
    wr8 (done ++ x :: rest) k v = done ++ UInt8.ofBitVec v :: rest := by subst h; exact wr8_at ..

theorem inb_at' {α : Type} (done : List α) (x : α) (rest : List α) (k : Nat) (h : k = done.length) :
    inb (done ++ x :: rest) k 1 = true := by subst h; exact inb_at ..

theorem rd_at' {w : Nat} (done : List (BitVec w)) (x : BitVec w) (rest : List (BitVec w)) (k : Nat) (h : k = done.length) :
    rd (done ++ x :: rest) k = x := by subst h; exact rd_at ..

theorem rd8_at' (done : List UInt8) (x : UInt8) (rest : List UInt8) (k : Nat) (h : k = done.length) :
    rd8 (done ++ x :: rest) k = x.toBitVec := by subst h; exact rd8_at ..

theorem inb_of_lt {α : Type} (a : List α) (i : Nat) (h : i < a.length) : inb a i 1 = true := by
  simp [inb]; omega

theorem inb_add {α : Type} (l : List α) (a k m : Nat) (h : a + m ≤ l.length) (hk : k < m) : inb l (a + k) 1 = true :=
  inb_of_lt _ _ (by omega)

theorem inb_false_of_ge {α : Type} (a : List α) (i : Nat) (h : a.length ≤ i) : inb a i 1 = false := by
  simp [inb]; omega

theorem inb_of_lt_eq {α : Type} (a : List α) (i m : Nat) (h : i < m) (hm : a.length = m) : inb a i 1 = true :=
  inb_of_lt a i (hm ▸ h)

theorem inb_set {α : Type} (a : List α) (i j n : Nat) (v : α) : inb (a.set i v) j n = inb a j n := by simp [inb]

theorem rd8_of_lt (a : List UInt8) (i : Nat) (h : i < a.length) : rd8 a i = a[i].toBitVec := by
  simp [rd8, List.getD, List.getElem?_eq_getElem h]

theorem rd_app {w : Nat} (pre t : List (BitVec w)) (j : Nat) : rd (pre ++ t) (pre.length + j) = rd t j := by
  simp [rd, List.getD, List.getElem?_append_right]

theorem rd_zero {w : Nat} (x : BitVec w) (t : List (BitVec w)) : rd (x :: t) 0 = x := rfl

theorem rd_succ {w : Nat} (x : BitVec w) (t : List (BitVec w)) (j : Nat) : rd (x :: t) (j + 1) = rd t j := by
  simp [rd, List.getD]

theorem rd_of_lt {w : Nat} (a : List (BitVec w)) (i : Nat) (h : i < a.length) : rd a i = a[i] := by
  simp [rd, List.getD, List.getElem?_eq_getElem h]

/-! ### a run of stores `a[i] = v₀; a[i+1] = v₁; …` -/

theorem exists_cons {α : Type} (l : List α) (h : 0 < l.length) : ∃ x t, l = x :: t := by
  cases l with
  | nil => simp at h
  | cons x t => exact ⟨x, t, rfl⟩

def setRun {α : Type} (a : List α) (i : Nat) : List α → List α
  | [] => a
  | v :: vs => setRun (a.set i v) (i + 1) vs

theorem setRun_append {α : Type} (vs : List α) :
    ∀ (done rest : List α) (i : Nat), i = done.length → vs.length ≤ rest.length →
      setRun (done ++ rest) i vs = done ++ vs ++ rest.drop vs.length := by
  induction vs with
  | nil => intro done rest i _ _; simp [setRun]
  | cons v vs ih =>
    intro done rest i hi hl
    obtain ⟨r, rest', rfl⟩ := exists_cons rest (by simp at hl; omega)
    subst hi
    rw [setRun, List.set_append_right _ _ (Nat.le_refl _), Nat.sub_self, List.set_cons_zero, List.append_cons,
      ih (done ++ [v]) rest' _ (by simp) (by simpa using hl)]
    simp

theorem setRun_app {α : Type} (a b : List α) : ∀ (op : List α) (k : Nat),
    setRun op k (a ++ b) = setRun (setRun op k a) (k + a.length) b := by
  induction a with
  | nil => intro op k; rfl
  | cons x a ih => intro op k; rw [List.cons_append, setRun, setRun, ih, List.length_cons, Nat.add_right_comm, Nat.add_assoc]

theorem setRun_length {α : Type} (vs : List α) : ∀ (a : List α) (i : Nat), (setRun a i vs).length = a.length := by
  induction vs with
  | nil => intro a i; rfl
  | cons v vs ih => intro a i; rw [setRun, ih, List.length_set]

theorem setRun_zero {α : Type} (vs op : List α) (h : vs.length ≤ op.length) : setRun op 0 vs = vs ++ op.drop vs.length := by
  simpa using setRun_append vs [] op 0 rfl h

theorem blit_setRun {α : Type} (op hdr lit : List α) (n : Nat) (h : hdr.length ≤ op.length) :
    blit (setRun op 0 hdr) hdr.length lit 0 n = hdr ++ lit.take n ++ op.drop (hdr.length + n) := by
  rw [setRun_zero hdr op h]; simp [blit, List.drop_append, List.drop_drop, Nat.add_comm]

/-! ### `int16_t` operands promoted to `int` -/

theorem sext_beq (a b : BitVec 16) : (BitVec.signExtend 32 a == BitVec.signExtend 32 b) = (a == b) := by
  rw [Bool.eq_iff_iff]; simp only [beq_iff_eq]
  constructor
  · intro h
    have := congrArg BitVec.toInt h
    rw [BitVec.toInt_signExtend_of_le (by omega), BitVec.toInt_signExtend_of_le (by omega)] at this
    exact BitVec.eq_of_toInt_eq this
  · intro h; rw [h]

theorem sext_slt (a b : BitVec 16) : BitVec.slt (BitVec.signExtend 32 a) (BitVec.signExtend 32 b) = a.slt b := by
  simp only [BitVec.slt_eq_decide, BitVec.toInt_signExtend_of_le (show 16 ≤ 32 by omega)]

theorem or_mask (x : BitVec 8) (m : BitVec 32) :
    BitVec.setWidth 8 (BitVec.setWidth 32 x ||| m) = x ||| BitVec.setWidth 8 m := by
  ext i hi
  simp [BitVec.getElem_setWidth]

theorem shr_and_one_bv (b : BitVec 8) (s : Nat) :
    BitVec.setWidth 8 ((BitVec.sshiftRight (BitVec.setWidth 32 b) s) &&& 1#32) = (b >>> s) &&& 1#8 := by
  rw [BitVec.sshiftRight_eq_of_msb_false (by simp [BitVec.msb_setWidth])]
  ext i hi
  by_cases h : s + i < 32
  · simp [h]
  · simp [BitVec.getLsbD_of_ge b (s + i) (by omega)]

/-- `(byte >> s) & 1` computed in `int` and stored into a `uint8_t` -/
theorem shr_and_one (b : BitVec 8) (s : Nat) (hs : s < 8) :
    UInt8.ofBitVec (BitVec.setWidth 8 ((BitVec.sshiftRight (BitVec.setWidth 32 b) s) &&& 1#32)) =
      (UInt8.ofBitVec b >>> UInt8.ofNat s) &&& 1 := by
  apply UInt8.eq_of_toBitVec_eq
  rw [shr_and_one_bv, UInt8.toBitVec_and, UInt8.toBitVec_shiftRight]
  have : (UInt8.ofNat s).toBitVec % 8 = BitVec.ofNat 8 s := by
    apply BitVec.eq_of_toNat_eq; simp; omega
  rw [this]
  simp [BitVec.ushiftRight_eq', Nat.mod_eq_of_lt (show s < 256 by omega)]

/-! ### positions `a * m + r` -/

theorem mul_add_inj (a a' r r' m : Nat) (hr : r < m) (hr' : r' < m) (h : a * m + r = a' * m + r') : a = a' ∧ r = r' := by
  have h1 : (a * m + r) / m = a := by
    rw [Nat.mul_comm, Nat.mul_add_div (by omega), Nat.div_eq_of_lt hr]; simp
  have h2 : (a' * m + r') / m = a' := by
    rw [Nat.mul_comm, Nat.mul_add_div (by omega), Nat.div_eq_of_lt hr']; simp
  have ha : a = a' := by rw [← h1, ← h2, h]
  subst ha
  exact ⟨rfl, by omega⟩

theorem mul_add_lt (a r m k : Nat) (hr : r < m) (ha : a < k) : a * m + r < k * m := by
  calc a * m + r < a * m + m := by omega
    _ = (a + 1) * m := by rw [Nat.add_mul]; omega
    _ ≤ k * m := Nat.mul_le_mul_right _ (by omega)

/-! ### counting loops -/

/-- a `_defined` flag whose truth is only seen after unfolding generated helpers is discharged by `exact`, not by rewriting -/
theorem guard_and {a b c : Bool} (ha : a = true) (h : b = c) : (a && b) = c := by rw [ha, Bool.true_and, h]

theorem exists_fuel {d fuel : Nat} (h : d < fuel) : ∃ f, fuel = f + 1 := ⟨fuel - 1, by omega⟩

/-- a translated counting loop `for (j = j₀; j < m; j++) s = body j s` followed by some code (`L` the value of both, `D` their
definedness, by fuel): with an invariant kept by the body, what holds of the value on leaving the loop holds of the run, and the
run is defined -/
theorem for_loop {σ ρ : Type} (m : Nat) (Inv : Nat → σ → Prop) (Post : ρ → Prop) (body : Nat → σ → σ) (L : Nat → σ → Nat → ρ)
    (D : Nat → σ → Nat → Bool)
    (hstep : ∀ f s j, j < m → Inv j s → L (f + 1) s j = L f (body j s) (j + 1) ∧ D (f + 1) s j = D f (body j s) (j + 1))
    (hexit : ∀ f s, Inv m s → Post (L (f + 1) s m) ∧ D (f + 1) s m = true)
    (hinv : ∀ s j, j < m → Inv j s → Inv (j + 1) (body j s)) :
    ∀ (d j : Nat) (s : σ) (fuel : Nat), j + d = m → d < fuel → Inv j s → Post (L fuel s j) ∧ D fuel s j = true := by
  intro d
  induction d with
  | zero =>
    intro j s fuel hj hf hs
    obtain ⟨f, rfl⟩ := exists_fuel hf
    obtain rfl : j = m := by omega
    exact hexit f s hs
  | succ d ih =>
    intro j s fuel hj hf hs
    obtain ⟨f, rfl⟩ := exists_fuel hf
    rw [(hstep f s j (by omega) hs).1, (hstep f s j (by omega) hs).2]
    exact ih (j + 1) _ f (by omega) (by omega) (hinv s j (by omega) hs)

/-- a translated loop `for (i < n) acc = g acc arr[i]` over an array that it only reads (`L` its value with what follows, `D`
its definedness; the accumulator is the `a` of type `σ` with `P i a` kept along): the run from 0 folds `g` over the array -/
theorem fold_loop {α σ ρ : Type} (arr : List α) (g : σ → α → σ) (E : σ → ρ) (P : Nat → σ → Prop)
    (L : Nat → σ → Nat → ρ) (D : Nat → σ → Nat → Bool)
    (hstep : ∀ f done x rest a, arr = done ++ x :: rest → P done.length a →
      L (f + 1) a done.length = L f (g a x) (done.length + 1) ∧ D (f + 1) a done.length = D f (g a x) (done.length + 1) ∧
      P (done.length + 1) (g a x))
    (hexit : ∀ f a, L (f + 1) a arr.length = E a ∧ D (f + 1) a arr.length = true) (a : σ) (ha : P 0 a) :
    L (arr.length + 1) a 0 = E (arr.foldl g a) ∧ D (arr.length + 1) a 0 = true := by
  have loop : ∀ (rest done : List α) (a : σ) (fuel : Nat), arr = done ++ rest → rest.length < fuel → P done.length a →
      L fuel a done.length = E (rest.foldl g a) ∧ D fuel a done.length = true := by
    intro rest
    induction rest with
    | nil =>
      intro done a fuel harr hf _
      obtain ⟨f, rfl⟩ := exists_fuel hf
      rw [show done.length = arr.length by rw [harr, List.append_nil]]
      exact hexit f a
    | cons x xs ih =>
      intro done a fuel harr hf hp
      obtain ⟨f, rfl⟩ := exists_fuel hf
      obtain ⟨h1, h2, h3⟩ := hstep f done x xs a harr hp
      rw [h1, h2]
      have := ih (done ++ [x]) (g a x) f (by rw [harr, List.append_assoc, List.singleton_append])
        (Nat.lt_of_succ_lt_succ hf) (by rw [List.length_append, List.length_singleton]; exact h3)
      rwa [List.length_append, List.length_singleton] at this
  exact loop arr [] a (arr.length + 1) rfl (Nat.lt_succ_self _) ha

end Carquet.Proofs.CFunB
