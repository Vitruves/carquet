import Carquet.Proofs.CFunB.Enc
import Carquet.Proofs.PlainBool
/-
`carquet_decode_plain_boolean` (src/encoding/plain.c) as translated from the current C source: the argument checks, the loop over
whole input bytes (eight unrolled stores `output[i++] = (byte >> k) & 1`) and the loop over the remaining bits of one more byte,
against Impl.Plain.decodeBoolean / boolLoop.
-/
namespace Carquet.Proofs.CFunB
open Carquet Carquet.Impl Carquet.Impl.CSem Carquet.Proofs.CSem

/-- flag `k` of a byte as the C code computes it (in `int`, stored into a `uint8_t`) -/
theorem flag_const : ∀ (b : BitVec 8),
    [BitVec.setWidth 8 ((BitVec.sshiftRight (BitVec.setWidth 32 b) 0) &&& 1#32),
     BitVec.setWidth 8 ((BitVec.sshiftRight (BitVec.setWidth 32 b) 1) &&& 1#32),
     BitVec.setWidth 8 ((BitVec.sshiftRight (BitVec.setWidth 32 b) 2) &&& 1#32),
     BitVec.setWidth 8 ((BitVec.sshiftRight (BitVec.setWidth 32 b) 3) &&& 1#32),
     BitVec.setWidth 8 ((BitVec.sshiftRight (BitVec.setWidth 32 b) 4) &&& 1#32),
     BitVec.setWidth 8 ((BitVec.sshiftRight (BitVec.setWidth 32 b) 5) &&& 1#32),
     BitVec.setWidth 8 ((BitVec.sshiftRight (BitVec.setWidth 32 b) 6) &&& 1#32),
     BitVec.setWidth 8 ((BitVec.sshiftRight (BitVec.setWidth 32 b) 7) &&& 1#32)] =
    (Plain.unpackByte (UInt8.ofBitVec b)).map (·.toBitVec) := by
  intro b
  simp only [shr_and_one_bv, Plain.unpackByte, List.map_cons, List.map_nil, UInt8.toBitVec_and, UInt8.toBitVec_shiftRight]
  rfl

theorem unpackByte_eq (x : UInt8) :
    Plain.unpackByte x = (List.range' 0 8).map fun j => (x >>> UInt8.ofNat j) &&& 1 := rfl

/-- the remaining-bits loop: `output[i++] = (byte >> bit) & 1; bit++` -/
theorem bool_tail (input : List UInt8) (isz bn bidx : BitVec 64) (x : UInt8) (n : Nat) (hn : n < 2 ^ 62) :
    ∀ (d t k : Nat) (out : List UInt8) (fuel : Nat), k + d = n → n ≤ out.length → t + d ≤ 8 → d < fuel →
      Gen.CFun.carquet_decode_plain_boolean_loop2 fuel input isz out (BitVec.ofNat 64 n) bn (BitVec.ofNat 64 k)
          bidx x.toBitVec (BitVec.ofNat 32 t) =
        (bn, setRun out k ((List.range' t d).map fun j => (x >>> UInt8.ofNat j) &&& 1)) ∧
      Gen.CFun.carquet_decode_plain_boolean_loop2_defined fuel input isz out (BitVec.ofNat 64 n) bn
          (BitVec.ofNat 64 k) bidx x.toBitVec (BitVec.ofNat 32 t) = true := by
  intro d
  induction d with
  | zero =>
    intro t k out fuel hk _ _ hf
    obtain ⟨f, rfl⟩ := exists_fuel hf
    have hge : BitVec.slt (BitVec.ofNat 64 k) (BitVec.ofNat 64 n) = false := by
      rw [ofNat_slt _ _ (by omega) (by omega)]; simp; omega
    simp [Gen.CFun.carquet_decode_plain_boolean_loop2, Gen.CFun.carquet_decode_plain_boolean_loop2_defined, hge, setRun]
  | succ d ih =>
    intro t k out fuel hk ho ht hf
    obtain ⟨f, rfl⟩ := exists_fuel hf
    have hlt : BitVec.slt (BitVec.ofNat 64 k) (BitVec.ofNat 64 n) = true := by
      rw [ofNat_slt _ _ (by omega) (by omega)]; simp; omega
    have hk63 : k + 1 < 2 ^ 63 := by omega
    simp only [Gen.CFun.carquet_decode_plain_boolean_loop2, Gen.CFun.carquet_decode_plain_boolean_loop2_defined, hlt, if_true,
      ofNat_toInt_toNat _ (show k < 2 ^ 63 by omega), ofNat_msb _ (show k < 2 ^ 63 by omega), inb_of_lt out k (by omega),
      ofNat_toNat (v := 31) t (by omega), shr_and_one _ t (by omega), ofNat_add, ofNat_sAddOk _ 1 hk63,
      ofNat_shCountOk (v := 31) true 32 t (by omega) (by omega), ofNat_sAddOk (v := 31) t 1 (by omega), List.range'_succ, List.map_cons, setRun, wr8,
      Bool.true_and, Bool.not_false]
    exact ih (t + 1) (k + 1) _ f (by omega) (by rw [List.length_set]; exact ho) (by omega) (by omega)

/-- one round of the loop over whole bytes: eight stores `output[i++] = (byte >> k) & 1` of the flags of `x = input[byte_idx]` -/
theorem bool_step (f : Nat) (inp out : List UInt8) (isz bn : BitVec 64) (n k q : Nat) (x : UInt8) (hk : k + 8 ≤ n)
    (hn : n < 2 ^ 62) (ho : n ≤ out.length) (hq : q < 2 ^ 64) (hx : rd8 inp q = x.toBitVec) (hxi : inb inp q 1 = true) :
    Gen.CFun.carquet_decode_plain_boolean_loop1 (f + 1) inp isz out (BitVec.ofNat 64 n) bn (BitVec.ofNat 64 k) (BitVec.ofNat 64 q) =
      Gen.CFun.carquet_decode_plain_boolean_loop1 f inp isz (setRun out k (Plain.unpackByte x))
        (BitVec.ofNat 64 n) bn (BitVec.ofNat 64 (k + 8)) (BitVec.ofNat 64 (q + 1)) ∧
    Gen.CFun.carquet_decode_plain_boolean_loop1_defined (f + 1) inp isz out (BitVec.ofNat 64 n) bn (BitVec.ofNat 64 k)
        (BitVec.ofNat 64 q) =
      Gen.CFun.carquet_decode_plain_boolean_loop1_defined f inp isz (setRun out k (Plain.unpackByte x))
        (BitVec.ofNat 64 n) bn (BitVec.ofNat 64 (k + 8)) (BitVec.ofNat 64 (q + 1)) := by
  have hsle : BitVec.sle (BitVec.ofNat 64 k + 8#64) (BitVec.ofNat 64 n) = true := by
    rw [show (8#64 : BitVec 64) = BitVec.ofNat 64 8 from rfl, ofNat_add, BitVec.sle_eq_decide, ofNat_toInt _ (by omega), ofNat_toInt _ (by omega)]
    simp; omega
  have hs8 : sAddOk (BitVec.ofNat 64 k) 8#64 = true := ofNat_sAddOk (v := 63) _ 8 (by omega)
  have h8 : k + 8 < 2 ^ 63 := by omega
  have ho8 : k + 8 ≤ out.length := by omega
  -- the round as the C text has it: store number `s` puts flag `s` of `input[byte_idx]` at `p`
  let st (o : List UInt8) (p : BitVec 64) (s : Nat) : List UInt8 :=
    wr8 o p.toInt.toNat (BitVec.setWidth 8 (BitVec.sshiftRight (BitVec.setWidth 32 (rd8 inp (BitVec.ofNat 64 q).toNat)) s &&& 1#32))
  let i := BitVec.ofNat 64 k
  let o8 := st (st (st (st (st (st (st (st out i 0) (i + 1#64) 1) (i + 1#64 + 1#64) 2) (i + 1#64 + 1#64 + 1#64) 3)
    (i + 1#64 + 1#64 + 1#64 + 1#64) 4) (i + 1#64 + 1#64 + 1#64 + 1#64 + 1#64) 5) (i + 1#64 + 1#64 + 1#64 + 1#64 + 1#64 + 1#64) 6)
    (i + 1#64 + 1#64 + 1#64 + 1#64 + 1#64 + 1#64 + 1#64) 7
  let i8 := i + 1#64 + 1#64 + 1#64 + 1#64 + 1#64 + 1#64 + 1#64 + 1#64
  have hL : Gen.CFun.carquet_decode_plain_boolean_loop1 (f + 1) inp isz out (BitVec.ofNat 64 n) bn i (BitVec.ofNat 64 q) =
      Gen.CFun.carquet_decode_plain_boolean_loop1 f inp isz o8 (BitVec.ofNat 64 n) bn i8 (BitVec.ofNat 64 q + 1#64) := by
    rw [Gen.CFun.carquet_decode_plain_boolean_loop1, if_pos hsle]; rfl
  have hD : Gen.CFun.carquet_decode_plain_boolean_loop1_defined (f + 1) inp isz out (BitVec.ofNat 64 n) bn i (BitVec.ofNat 64 q) =
      Gen.CFun.carquet_decode_plain_boolean_loop1_defined f inp isz o8 (BitVec.ofNat 64 n) bn i8 (BitVec.ofNat 64 q + 1#64) := by
    simp only [i, i8, o8, st]
    simp [Gen.CFun.carquet_decode_plain_boolean_loop1_defined, hsle, hs8, ofNat_add _ 1, Nat.add_assoc,
      ofNat_toInt_toNat (v := 63) k (by omega), i64_toIntNat_add _ _ _ h8, ofNat_msb (v := 63) k (by omega), i64_msb_add _ _ _ h8,
      ofNat_sAddOk (v := 63) k 1 (by omega), i64_sAddOk_one_add _ _ _ h8, toNat_ofNat q hq, hxi, inb_set, inb_of_lt out k (by omega),
      inb_add _ _ _ _ ho8, wr8]
  have ho : o8 = setRun out k (Plain.unpackByte x) := by
    simp only [o8, st, i, ofNat_add _ 1, Nat.add_assoc, Nat.reduceAdd, ofNat_toInt_toNat (v := 63) k (by omega),
      i64_toIntNat_add _ _ _ h8, toNat_ofNat q hq, hx, wr8, shr_and_one, Nat.reduceLeDiff, Nat.reduceLT, UInt8.ofBitVec_toBitVec,
      Plain.unpackByte, setRun]
    rfl
  have hi : i8 = BitVec.ofNat 64 (k + 8) := by simp only [i8, i, ofNat_add _ 1, Nat.add_assoc, Nat.reduceAdd]
  rw [hL, hD, ho, hi, ofNat_add]
  exact ⟨rfl, rfl⟩

/-- fewer than eight values left: the loop over whole bytes is left for the remaining-bits loop -/
theorem bool_exit (f : Nat) (inp out : List UInt8) (isz bn : BitVec 64) (n k q : Nat) (hk : n < k + 8) (hkn : k ≤ n)
    (hn : n < 2 ^ 62) (hq : q < 2 ^ 64) :
    Gen.CFun.carquet_decode_plain_boolean_loop1 (f + 1) inp isz out (BitVec.ofNat 64 n) bn (BitVec.ofNat 64 k) (BitVec.ofNat 64 q) =
      (if k < n then Gen.CFun.carquet_decode_plain_boolean_loop2 9 inp isz out (BitVec.ofNat 64 n) bn (BitVec.ofNat 64 k)
        (BitVec.ofNat 64 q + 1#64) (rd8 inp q) 0#32 else (bn, out)) ∧
    Gen.CFun.carquet_decode_plain_boolean_loop1_defined (f + 1) inp isz out (BitVec.ofNat 64 n) bn (BitVec.ofNat 64 k)
        (BitVec.ofNat 64 q) =
      (if k < n then inb inp q 1 && Gen.CFun.carquet_decode_plain_boolean_loop2_defined 9 inp isz out (BitVec.ofNat 64 n) bn
        (BitVec.ofNat 64 k) (BitVec.ofNat 64 q + 1#64) (rd8 inp q) 0#32 else true) := by
  have hsle : BitVec.sle (BitVec.ofNat 64 k + 8#64) (BitVec.ofNat 64 n) = false := by
    rw [show (8#64 : BitVec 64) = BitVec.ofNat 64 8 from rfl, ofNat_add, BitVec.sle_eq_decide, ofNat_toInt _ (by omega), ofNat_toInt _ (by omega)]
    simp; omega
  have hs8 : sAddOk (BitVec.ofNat 64 k) 8#64 = true := ofNat_sAddOk (v := 63) _ 8 (by omega)
  have hlt : BitVec.slt (BitVec.ofNat 64 k) (BitVec.ofNat 64 n) = decide (k < n) := ofNat_slt (v := 63) _ _ (by omega) (by omega)
  simp only [Gen.CFun.carquet_decode_plain_boolean_loop1, Gen.CFun.carquet_decode_plain_boolean_loop1_defined, hsle, hs8, hlt,
    toNat_ofNat q hq, decide_eq_true_eq, Bool.false_eq_true, if_false, Bool.true_and, and_self]

theorem boolLoop_zero (bs : List UInt8) : Plain.boolLoop bs 0 = some [] := by
  cases bs <;> rfl

/-- the loop over whole bytes followed by the remaining bits -/
theorem bool_full (isz bn : BitVec 64) :
    ∀ (fuel : Nat) (idone irest done rest L : List UInt8) (k q n : Nat), k = done.length → q = idone.length →
      n = k + rest.length → n < 2 ^ 62 → q ≤ k → rest.length < 8 * fuel → Plain.boolLoop irest rest.length = some L →
      Gen.CFun.carquet_decode_plain_boolean_loop1 fuel (idone ++ irest) isz (done ++ rest) (BitVec.ofNat 64 n) bn (BitVec.ofNat 64 k)
          (BitVec.ofNat 64 q) = (bn, done ++ L) ∧
        Gen.CFun.carquet_decode_plain_boolean_loop1_defined fuel (idone ++ irest) isz (done ++ rest) (BitVec.ofNat 64 n) bn
          (BitVec.ofNat 64 k) (BitVec.ofNat 64 q) = true := by
  intro fuel
  induction fuel with
  | zero => intro _ _ _ _ _ _ _ _ _ _ _ _ _ hf; omega
  | succ f ih =>
    intro idone irest done rest L k q n hk hq hn hn62 hq63 hf hL
    have hlen : n ≤ (done ++ rest).length := by rw [List.length_append]; omega
    by_cases h0 : rest.length = 0
    · rw [h0, boolLoop_zero] at hL
      have hex := bool_exit f (idone ++ irest) (done ++ rest) isz bn n k q (by omega) (by omega) hn62 (by omega)
      rw [if_neg (by omega), if_neg (by omega)] at hex
      rw [hex.1, hex.2, List.length_eq_zero_iff.mp h0, ← Option.some.inj hL]
      exact ⟨rfl, rfl⟩
    · cases irest with
      | nil => rw [Plain.boolLoop, if_neg h0] at hL; cases hL
      | cons x irest' =>
        have hx : rd8 (idone ++ x :: irest') q = x.toBitVec := rd8_at' _ _ _ _ hq
        have hxi : inb (idone ++ x :: irest') q 1 = true := inb_at' _ _ _ _ hq
        rw [Plain.boolLoop, if_neg h0] at hL
        by_cases h8 : 8 ≤ rest.length
        · rw [if_pos h8] at hL
          cases hL' : Plain.boolLoop irest' (rest.length - 8) with
          | none => simp [hL'] at hL
          | some L' =>
            simp only [hL', Option.some.injEq] at hL
            have hu : (Plain.unpackByte x).length = 8 := rfl
            have hstep := bool_step f (idone ++ x :: irest') (done ++ rest) isz bn n k q x (by omega) hn62 hlen (by omega) hx hxi
            rw [setRun_append _ _ _ _ hk (hu ▸ h8), hu] at hstep
            rw [hstep.1, hstep.2, ← hL, ← List.append_assoc, List.append_cons idone]
            have hd8 : (rest.drop 8).length = rest.length - 8 := List.length_drop
            refine ih _ _ _ _ L' _ _ n ?_ ?_ ?_ hn62 (by omega) ?_ ?_
            · rw [List.length_append, hu, hk]
            · rw [List.length_append, List.length_singleton, hq]
            · omega
            · rw [hd8]; omega
            · rw [hd8]; exact hL'
        · rw [if_neg h8] at hL
          have hex := bool_exit f (idone ++ x :: irest') (done ++ rest) isz bn n k q (by omega) (by omega) hn62 (by omega)
          rw [if_pos (by omega), if_pos (by omega), hx, hxi] at hex
          have ht := bool_tail (idone ++ x :: irest') isz bn (BitVec.ofNat 64 q + 1#64) x n hn62 rest.length 0 k (done ++ rest) 9
            (by omega) hlen (by omega) (by omega)
          rw [hex.1, hex.2, ht.1, ht.2, setRun_append _ _ _ _ hk (by simp)] at *
          simp only [List.length_map, List.length_range', List.drop_length, List.append_nil, Bool.true_and, and_true]
          rw [← Option.some.inj hL, unpackByte_eq, ← List.map_take, List.take_range'_of_length_ge (by omega)]

theorem decode_plain_boolean_eq (input output : List UInt8) (hn : output.length < 2 ^ 62) (hin : input.length < 2 ^ 64) :
    (∀ vals consumed, Plain.decodeBoolean input (output.length : Int) = .ok vals consumed →
      Gen.CFun.carquet_decode_plain_boolean input (BitVec.ofNat 64 input.length) output (BitVec.ofNat 64 output.length) =
        (BitVec.ofNat 64 consumed, vals)) ∧
    (Plain.decodeBoolean input (output.length : Int) = .err →
      Gen.CFun.carquet_decode_plain_boolean input (BitVec.ofNat 64 input.length) output (BitVec.ofNat 64 output.length) =
        (BitVec.allOnes 64, output)) ∧
    Plain.decodeBoolean input (output.length : Int) ≠ .oob ∧
    Gen.CFun.carquet_decode_plain_boolean_defined input (BitVec.ofNat 64 input.length) output (BitVec.ofNat 64 output.length) = true := by
  have hslt : BitVec.slt (BitVec.ofNat 64 output.length) 0#64 = false := by
    rw [show (0#64 : BitVec 64) = BitVec.ofNat 64 0 from rfl, ofNat_slt _ _ (by omega) (by omega)]; simp
  have hbn : (BitVec.ofNat 64 output.length + 7#64) / 8#64 = BitVec.ofNat 64 ((output.length + 7) / 8) := by
    rw [show (7#64 : BitVec 64) = BitVec.ofNat 64 7 from rfl, ofNat_add]
    apply BitVec.eq_of_toNat_eq
    simp only [BitVec.toNat_udiv, BitVec.toNat_ofNat]
    rw [Nat.mod_eq_of_lt (show output.length + 7 < 2 ^ 64 by omega), show (8 : Nat) % 2 ^ 64 = 8 from rfl,
      Nat.mod_eq_of_lt (show (output.length + 7) / 8 < 2 ^ 64 by omega)]
  have hcmp : decide (BitVec.ofNat 64 input.length < BitVec.ofNat 64 ((output.length + 7) / 8)) =
      decide (input.length < (output.length + 7) / 8) := ofNat_lt _ _ hin (by omega)
  have hneg : ¬ ((output.length : Int) < 0) := by omega
  unfold Plain.decodeBoolean
  simp only [hneg, if_false, Int.toNat_natCast]
  by_cases hshort : input.length < (output.length + 7) / 8
  · simp only [hshort, if_true]
    refine ⟨fun _ _ h => by simp at h, fun _ => ?_, by simp, ?_⟩
    · simp only [Gen.CFun.carquet_decode_plain_boolean, Bool.or_self, hslt, Bool.false_eq_true, if_false, hbn, hcmp,
        hshort, decide_true, if_true]
      rfl
    · simp only [Gen.CFun.carquet_decode_plain_boolean_defined, Bool.or_self, hslt, Bool.false_eq_true, if_false,
        hbn, hcmp, hshort, decide_true, if_true]
  · simp only [hshort, if_false]
    have hL := Proofs.Plain.boolLoop_eq input output.length (by omega)
    obtain ⟨hv, hdf⟩ := bool_full (BitVec.ofNat 64 input.length) (BitVec.ofNat 64 ((output.length + 7) / 8))
      (output.length / 8 + 1) [] input [] output _ 0 0 output.length rfl rfl (Nat.zero_add _).symm hn (Nat.le_refl _) (by omega) hL
    simp only [List.nil_append] at hv hdf
    rw [hL]
    refine ⟨fun vals consumed h => ?_, fun h => by simp at h, by simp, ?_⟩
    · simp only [Plain.Res.ok.injEq] at h
      obtain ⟨rfl, rfl⟩ := h
      simp only [Gen.CFun.carquet_decode_plain_boolean, Bool.or_self, hslt, Bool.false_eq_true, if_false, hbn, hcmp,
        hshort, decide_false, ofNat_toInt_toNat _ (show output.length < 2 ^ 63 by omega)]
      exact hv
    · simp only [Gen.CFun.carquet_decode_plain_boolean_defined, Bool.or_self, hslt, Bool.false_eq_true, if_false,
        hbn, hcmp, hshort, decide_false, ofNat_toInt_toNat _ (show output.length < 2 ^ 63 by omega)]
      exact hdf

end Carquet.Proofs.CFunB
