import Carquet.Proofs.CFunB.Basic
import Carquet.Proofs.CFun2.Varint
import Carquet.Gen.CFun
import Carquet.Impl.Snappy
/-
The encoder helpers of src/compression/snappy.c as translated from the current C source: `snappy_write_varint` (the stream
header), `snappy_emit_literal` (tag byte, 0..4 length bytes, `memcpy` of the literal; pointer result), `snappy_emit_copy`
(64-byte copies while `len >= 68`, one 60-byte copy, the final 1- or 2-byte-offset element; pointer result), `snappy_read32`,
against Impl.Snappy.writeVarint / literalHeader / copyBytes.
-/
namespace Carquet.Proofs.CFunB
open Carquet Carquet.Impl Carquet.Impl.CSem Carquet.Proofs.CSem

theorem ofInt_off (k : Nat) : BitVec.ofInt 64 (Int.ofNat k - Int.ofNat 0) = BitVec.ofNat 64 k := by
  have : Int.ofNat k - Int.ofNat 0 = (k : Int) := by simp
  rw [this]; rfl

theorem or128 : ∀ r : Fin 256, (r.val ||| 128) = r.val % 128 + 128 := by decide +kernel

theorem ofNat8_congr (a b : Nat) (h : a % 256 = b % 256) : UInt8.ofNat a = UInt8.ofNat b := by
  apply UInt8.toNat_inj.mp
  simp [h]

theorem cont_byte (x : BitVec 32) : UInt8.ofBitVec (BitVec.setWidth 8 (x ||| 128#32)) = UInt8.ofNat (x.toNat % 128 + 128) := by
  rw [CFun2.byte_of_setWidth, BitVec.toNat_or, show (128#32 : BitVec 32).toNat = 128 from rfl]
  apply ofNat8_congr
  rw [show (256 : Nat) = 2 ^ 8 from rfl, Nat.or_mod_two_pow]
  have h := or128 ⟨x.toNat % 256, Nat.mod_lt _ (by omega)⟩
  simp only at h
  rw [show (2 : Nat) ^ 8 = 256 from rfl, show 128 % 256 = 128 from rfl, h]
  omega

/-! ### snappy_write_varint -/

theorem write_varint_loop :
    ∀ (k : Nat) (v : BitVec 32) (p : List UInt8) (off fuel : Nat), v.toNat < 2 ^ (7 * (k + 1)) → k < fuel →
      off + (Snappy.writeVarint k v.toNat).length ≤ p.length →
      Gen.CFun.snappy_write_varint_loop1 fuel p off v =
        (BitVec.ofNat 64 (off + (Snappy.writeVarint k v.toNat).length), setRun p off (Snappy.writeVarint k v.toNat)) ∧
      Gen.CFun.snappy_write_varint_loop1_defined fuel p off v = true := by
  intro k
  induction k with
  | zero =>
    intro v p off fuel hv hf hl
    obtain ⟨f, rfl⟩ := exists_fuel hf
    have hc : decide (128#32 ≤ v) = false := by
      simp only [decide_eq_false_iff_not, BitVec.le_def, show (128#32 : BitVec 32).toNat = 128 from rfl]; omega
    simp only [Gen.CFun.snappy_write_varint_loop1, Gen.CFun.snappy_write_varint_loop1_defined, hc, Bool.false_eq_true, if_false,
      wr8, inb_of_lt p off hl, ofInt_off, CFun2.byte_of_setWidth, Snappy.writeVarint, List.length_singleton, setRun, and_self]
  | succ k ih =>
    intro v p off fuel hv hf hl
    obtain ⟨f, rfl⟩ := exists_fuel hf
    rw [Snappy.writeVarint] at hl ⊢
    by_cases h128 : 128 ≤ v.toNat
    · have hc : decide (128#32 ≤ v) = true := by
        simp only [decide_eq_true_eq, BitVec.le_def, show (128#32 : BitVec 32).toNat = 128 from rfl]; exact h128
      have hv7 : (v >>> 7).toNat = v.toNat / 128 := by simp [BitVec.toNat_ushiftRight, Nat.shiftRight_eq_div_pow]
      have hlt : v.toNat / 128 < 2 ^ (7 * (k + 1)) := by
        have : 2 ^ (7 * (k + 1 + 1)) = 2 ^ (7 * (k + 1)) * 128 := by
          rw [show 7 * (k + 1 + 1) = 7 * (k + 1) + 7 by omega, Nat.pow_add]
        omega
      rw [if_pos h128] at hl ⊢
      rw [List.length_cons] at hl
      have hnext := ih (v >>> 7) (p.set off (UInt8.ofNat (v.toNat % 128 + 128))) (off + 1) f (by rw [hv7]; exact hlt)
        (Nat.lt_of_succ_lt_succ hf) (by rw [hv7, List.length_set]; omega)
      rw [hv7] at hnext
      simp only [Gen.CFun.snappy_write_varint_loop1, Gen.CFun.snappy_write_varint_loop1_defined, hc, if_true,
        inb_of_lt p off (by omega), List.length_cons, setRun, wr8, cont_byte, Bool.true_and]
      rwa [show off + ((Snappy.writeVarint k (v.toNat / 128)).length + 1) = off + 1 + (Snappy.writeVarint k (v.toNat / 128)).length
        by omega]
    · have hc : decide (128#32 ≤ v) = false := by
        simp only [decide_eq_false_iff_not, BitVec.le_def, show (128#32 : BitVec 32).toNat = 128 from rfl]; exact h128
      rw [if_neg h128] at hl ⊢
      simp only [Gen.CFun.snappy_write_varint_loop1, Gen.CFun.snappy_write_varint_loop1_defined, hc, Bool.false_eq_true, if_false,
        wr8, inb_of_lt p off hl, ofInt_off, CFun2.byte_of_setWidth, List.length_singleton, setRun, and_self]

theorem snappy_write_varint_eq (p : List UInt8) (v : BitVec 32) (h : (Snappy.writeVarint 4 v.toNat).length ≤ p.length) :
    Gen.CFun.snappy_write_varint p v =
      (BitVec.ofNat 64 (Snappy.writeVarint 4 v.toNat).length,
       Snappy.writeVarint 4 v.toNat ++ p.drop (Snappy.writeVarint 4 v.toNat).length) ∧
    Gen.CFun.snappy_write_varint_defined p v = true := by
  have := write_varint_loop 4 v p 0 6 (by have := v.isLt; omega) (by omega) (by omega)
  rw [setRun_zero _ p h] at this
  simpa [Gen.CFun.snappy_write_varint, Gen.CFun.snappy_write_varint_defined] using this

/-! ### snappy_emit_literal -/

theorem wr8_length (a : List UInt8) (i : Nat) (v : BitVec 8) : (wr8 a i v).length = a.length := by simp [wr8]

theorem inb_wr8 (a : List UInt8) (i j n : Nat) (v : BitVec 8) : inb (wr8 a i v) j n = inb a j n := by simp [inb, wr8]

theorem u64_and255 (k : Nat) : UInt8.ofBitVec (BitVec.setWidth 8 (BitVec.ofNat 64 k &&& 255#64)) = UInt8.ofNat (k % 256) := by
  rw [CFun2.byte_of_setWidth]
  apply ofNat8_congr
  simp only [BitVec.toNat_and, BitVec.toNat_ofNat, show (255 : Nat) % 2 ^ 64 = 2 ^ 8 - 1 from rfl, Nat.and_two_pow_sub_one_eq_mod]
  omega

theorem u64_trunc8 (k : Nat) : UInt8.ofBitVec (BitVec.setWidth 8 (BitVec.ofNat 64 k)) = UInt8.ofNat k := by
  rw [CFun2.byte_of_setWidth]
  apply ofNat8_congr
  simp only [BitVec.toNat_ofNat]; omega

/-- how many bytes `snappy_emit_literal` stores before the literal: the tag byte and 0 to 4 bytes of `len - 1` -/
def litCount (len : BitVec 64) : Nat :=
  if decide (len ≤ 60#64) then 1 else if decide (len ≤ 256#64) then 2 else if decide (len ≤ 65536#64) then 3
  else if decide (len ≤ 16777216#64) then 4 else 5

/-- the buffer after those stores, as the C text computes the bytes -/
def litStores (op : List UInt8) (len : BitVec 64) : List UInt8 :=
  if decide (len ≤ 60#64) then wr8 op 0 (BitVec.setWidth 8 ((len - 1#64) <<< 2))
  else if decide (len ≤ 256#64) then wr8 (wr8 op 0 (BitVec.setWidth 8 (60#32 <<< 2))) 1 (BitVec.setWidth 8 (len - 1#64))
  else if decide (len ≤ 65536#64) then
    wr8 (wr8 (wr8 op 0 (BitVec.setWidth 8 (61#32 <<< 2))) 1 (BitVec.setWidth 8 ((len - 1#64) &&& 255#64))) 2
      (BitVec.setWidth 8 ((len - 1#64) >>> 8))
  else if decide (len ≤ 16777216#64) then
    wr8 (wr8 (wr8 (wr8 op 0 (BitVec.setWidth 8 (62#32 <<< 2))) 1 (BitVec.setWidth 8 ((len - 1#64) &&& 255#64))) 2
      (BitVec.setWidth 8 (((len - 1#64) >>> 8) &&& 255#64))) 3 (BitVec.setWidth 8 (((len - 1#64) >>> 16) &&& 255#64))
  else
    wr8 (wr8 (wr8 (wr8 (wr8 op 0 (BitVec.setWidth 8 (63#32 <<< 2))) 1 (BitVec.setWidth 8 ((len - 1#64) &&& 255#64))) 2
      (BitVec.setWidth 8 (((len - 1#64) >>> 8) &&& 255#64))) 3 (BitVec.setWidth 8 (((len - 1#64) >>> 16) &&& 255#64))) 4
      (BitVec.setWidth 8 (((len - 1#64) >>> 24) &&& 255#64))

theorem snappy_emit_literal_eq (op lit : List UInt8) (len : Nat) (h0 : 0 < len) (hl : len < 2 ^ 64) (hlit : len ≤ lit.length)
    (hop : (Snappy.literalHeader len).length + len ≤ op.length) :
    Gen.CFun.snappy_emit_literal op lit (BitVec.ofNat 64 len) =
      ((Snappy.literalHeader len).length + len,
       Snappy.literalHeader len ++ lit.take len ++ op.drop ((Snappy.literalHeader len).length + len)) ∧
    Gen.CFun.snappy_emit_literal_defined op lit (BitVec.ofNat 64 len) = true := by
  have hsub : BitVec.ofNat 64 len - 1#64 = BitVec.ofNat 64 (len - 1) := ofNat_sub len 1 (by omega) hl
  have hle : ∀ c : Nat, c < 2 ^ 64 → decide (BitVec.ofNat 64 len ≤ BitVec.ofNat 64 c) = decide (len ≤ c) :=
    fun c hc => ofNat_le len c hl hc
  have hlm : len - 1 < 2 ^ 64 := by omega
  have hb : UInt8.ofBitVec (BitVec.setWidth 8 (BitVec.ofNat 64 (len - 1) <<< 2)) = UInt8.ofNat ((len - 1) * 4) := by
    rw [CFun2.byte_of_setWidth]; apply ofNat8_congr
    simp only [BitVec.toNat_shiftLeft, BitVec.toNat_ofNat, Nat.shiftLeft_eq]; omega
  -- the generated function stores `litStores`, `litCount` bytes of it, then copies the literal (up to unfolding)
  have hF : Gen.CFun.snappy_emit_literal op lit (BitVec.ofNat 64 len) =
      (litCount (BitVec.ofNat 64 len) + (BitVec.ofNat 64 len).toNat,
        blit (litStores op (BitVec.ofNat 64 len)) (litCount (BitVec.ofNat 64 len)) lit 0 (BitVec.ofNat 64 len).toNat) := rfl
  have hv : litCount (BitVec.ofNat 64 len) = (Snappy.literalHeader len).length ∧
      litStores op (BitVec.ofNat 64 len) = setRun op 0 (Snappy.literalHeader len) := by
    simp only [litCount, litStores, Snappy.literalHeader, hle 60 (by decide), hle 256 (by decide), hle 65536 (by decide),
      hle 16777216 (by decide), decide_eq_true_eq, hsub, hb, wr8, u64_trunc8, u64_and255, ofNat_ushr _ 8 hlm, ofNat_ushr _ 16 hlm,
      ofNat_ushr _ 24 hlm, apply_ite List.length, apply_ite (setRun op 0), List.length_cons, List.length_nil, setRun]
    exact ⟨trivial, rfl⟩
  have hlen : (BitVec.ofNat 64 len).toNat = len := toNat_ofNat len hl
  have hhdr : (Snappy.literalHeader len).length ≤ op.length := by omega
  constructor
  · rw [hF, hv.1, hv.2, hlen, blit_setRun _ _ _ _ hhdr]
  · have hj : ∀ j, j < (Snappy.literalHeader len).length → inb op j 1 = true := fun j hj => inb_of_lt _ _ (by omega)
    have hin : inb (setRun op 0 (Snappy.literalHeader len)) (Snappy.literalHeader len).length len = true := by
      simp only [inb, setRun_length, decide_eq_true_eq]; exact hop
    have hlitb : inb lit 0 len = true := by simp only [inb, decide_eq_true_eq]; omega
    rw [Gen.CFun.snappy_emit_literal_defined, hlen]
    simp only [hlitb]
    conv in inb _ _ len => change inb (litStores op (BitVec.ofNat 64 len)) (litCount (BitVec.ofNat 64 len)) len
    simp only [hv.1, hv.2, hle 60 (by decide), hle 256 (by decide), hle 65536 (by decide),
      hle 16777216 (by decide), decide_eq_true_eq, inb_wr8, hin, Bool.and_true, show sShlOk 60#32 2 = true from rfl,
      show sShlOk 61#32 2 = true from rfl, show sShlOk 62#32 2 = true from rfl, show sShlOk 63#32 2 = true from rfl, Bool.true_and]
    unfold Snappy.literalHeader at hj
    repeat' split
    all_goals simp only [*, if_true, if_false, List.length_cons, List.length_nil] at hj
    all_goals simp (disch := decide) only [hj, Bool.and_self]

/-! ### snappy_emit_copy -/

theorem or2 (m : Nat) : (m * 4 ||| 2) = m * 4 + 2 := by
  have := Nat.shiftLeft_add_eq_or_of_lt (show 2 < 2 ^ 2 by omega) m
  simp only [Nat.shiftLeft_eq, show (2 : Nat) ^ 2 = 4 from rfl] at this
  exact this.symm

theorem or1_4 : ∀ m : Fin 8, (m.val * 4 ||| 1) = m.val * 4 + 1 := by decide

theorem or_tag1 (q m : Nat) (hm : m < 8) : (q * 32 ||| m * 4 ||| 1) = q * 32 + m * 4 + 1 := by
  have h1 := or1_4 ⟨m, hm⟩
  simp only at h1
  rw [Nat.or_assoc, h1]
  have := Nat.shiftLeft_add_eq_or_of_lt (show m * 4 + 1 < 2 ^ 5 by omega) q
  simp only [Nat.shiftLeft_eq, show (2 : Nat) ^ 5 = 32 from rfl] at this
  rw [← this]; omega

/-- tag byte of a COPY_2 element -/
theorem tag2_byte (l : Nat) (hl : 1 ≤ l) (hl2 : l < 2 ^ 61) :
    UInt8.ofBitVec (BitVec.setWidth 8 (((BitVec.ofNat 64 l - 1#64) <<< 2) ||| 2#64)) = UInt8.ofNat ((l - 1) * 4 + 2) := by
  rw [ofNat_sub l 1 hl (by omega), CFun2.byte_of_setWidth]
  apply ofNat8_congr
  simp only [BitVec.toNat_or, BitVec.toNat_shiftLeft, BitVec.toNat_ofNat, Nat.shiftLeft_eq]
  rw [Nat.mod_eq_of_lt (show l - 1 < 2 ^ 64 by omega), Nat.mod_eq_of_lt (show (l - 1) * 2 ^ 2 < 2 ^ 64 by omega),
    show (2 : Nat) % 2 ^ 64 = 2 from rfl, show (2 : Nat) ^ 2 = 4 from rfl, or2]

/-- tag byte of a COPY_1 element -/
theorem tag1_byte (off l : Nat) (hoff : off < 2 ^ 64) (hl : 4 ≤ l) (hl2 : l < 12) :
    UInt8.ofBitVec (BitVec.setWidth 8 ((((BitVec.ofNat 64 off >>> 8) <<< 5) ||| ((BitVec.ofNat 64 l - 4#64) <<< 2)) ||| 1#64)) =
      UInt8.ofNat (off / 256 * 32 + (l - 4) * 4 + 1) := by
  rw [show (4#64 : BitVec 64) = BitVec.ofNat 64 4 from rfl, ofNat_sub l 4 hl (by omega), ofNat_ushr off 8 hoff, CFun2.byte_of_setWidth]
  apply ofNat8_congr
  have h1 : off / 2 ^ 8 < 2 ^ 56 := by
    rw [Nat.div_lt_iff_lt_mul (by omega)]; omega
  simp only [BitVec.toNat_or, BitVec.toNat_shiftLeft, BitVec.toNat_ofNat, Nat.shiftLeft_eq]
  rw [Nat.mod_eq_of_lt (show off / 2 ^ 8 < 2 ^ 64 by omega), Nat.mod_eq_of_lt (show off / 2 ^ 8 * 2 ^ 5 < 2 ^ 64 by omega),
    Nat.mod_eq_of_lt (show l - 4 < 2 ^ 64 by omega), Nat.mod_eq_of_lt (show (l - 4) * 2 ^ 2 < 2 ^ 64 by omega),
    show (1 : Nat) % 2 ^ 64 = 1 from rfl, show (2 : Nat) ^ 5 = 32 from rfl, show (2 : Nat) ^ 2 = 4 from rfl,
    show (2 : Nat) ^ 8 = 256 from rfl, or_tag1 _ _ (show l - 4 < 8 by omega)]

theorem off_hi (off : Nat) (hoff : off < 2 ^ 64) :
    UInt8.ofBitVec (BitVec.setWidth 8 (BitVec.ofNat 64 off >>> 8)) = UInt8.ofNat (off / 256) := by
  rw [ofNat_ushr off 8 hoff, u64_trunc8]

/-- the three stores of a COPY_2 element whose tag byte is `tag` -/
theorem copy2_store (op : List UInt8) (k off m : Nat) (hoff : off < 2 ^ 64) (tag : BitVec 8)
    (htag : UInt8.ofBitVec tag = UInt8.ofNat ((m - 1) * 4 + 2)) :
    wr8 (wr8 (wr8 op k tag) (k + 1) (BitVec.setWidth 8 (BitVec.ofNat 64 off &&& 255#64))) (k + 2)
      (BitVec.setWidth 8 (BitVec.ofNat 64 off >>> 8)) = setRun op k (Snappy.copy2Bytes off m) := by
  simp only [wr8, htag, u64_and255, off_hi off hoff, Snappy.copy2Bytes, setRun]

/-- the last element of `snappy_emit_copy` as the C text stores it at `k`: a 2-byte-offset copy if `l >= 12 || offset >= 2048`,
else a 1-byte-offset copy -/
def tailStores (op : List UInt8) (k : Nat) (off l : BitVec 64) : List UInt8 :=
  if (decide (12#64 ≤ l) || decide (2048#64 ≤ off)) = true then
    wr8 (wr8 (wr8 op k (BitVec.setWidth 8 (((l - 1#64) <<< 2) ||| 2#64))) (k + 1) (BitVec.setWidth 8 (off &&& 255#64))) (k + 2)
      (BitVec.setWidth 8 (off >>> 8))
  else wr8 (wr8 op k (BitVec.setWidth 8 ((((off >>> 8) <<< 5) ||| ((l - 4#64) <<< 2)) ||| 1#64))) (k + 1)
    (BitVec.setWidth 8 (off &&& 255#64))

/-- where `op` stands after that element -/
def tailEnd (k : Nat) (off l : BitVec 64) : Nat :=
  if (decide (12#64 ≤ l) || decide (2048#64 ≤ off)) = true then k + 3 else k + 2

/-- the 60-byte copy `snappy_emit_copy` emits after its loop if `len > 64` -/
def exit60 (op : List UInt8) (k : Nat) (off len : BitVec 64) : List UInt8 :=
  if decide (64#64 < len) then
    wr8 (wr8 (wr8 op k (BitVec.setWidth 8 ((59#32 <<< 2) ||| 2#32))) (k + 1) (BitVec.setWidth 8 (off &&& 255#64))) (k + 2)
      (BitVec.setWidth 8 (off >>> 8))
  else op

/-- what `snappy_emit_copy` does after its loop: that copy, then the last element -/
def afterLoop (op : List UInt8) (k : Nat) (off len : BitVec 64) : Nat × List UInt8 :=
  let l := if decide (64#64 < len) then len - 60#64 else len
  let p := if decide (64#64 < len) then k + 3 else k
  (tailEnd p off l, tailStores (exit60 op k off len) p off l)

theorem inb_exit60 (op : List UInt8) (k : Nat) (off len : BitVec 64) (p n : Nat) : inb (exit60 op k off len) p n = inb op p n := by
  rw [exit60]; split
  · rw [inb_wr8, inb_wr8, inb_wr8]
  · rfl

theorem copyTail_store (op : List UInt8) (k off l : Nat) (hoff : off < 2 ^ 64) (hl : 4 ≤ l) (hl2 : l < 2 ^ 61) :
    tailStores op k (BitVec.ofNat 64 off) (BitVec.ofNat 64 l) = setRun op k (Snappy.copyTail off l) ∧
    tailEnd k (BitVec.ofNat 64 off) (BitVec.ofNat 64 l) = k + (Snappy.copyTail off l).length := by
  rw [tailStores, tailEnd, ofNat_le 12 l (by decide) (by omega), ofNat_le 2048 off (by decide) hoff]
  unfold Snappy.copyTail
  by_cases c : 12 ≤ l ∨ 2048 ≤ off
  · have hc : (decide (12 ≤ l) || decide (2048 ≤ off)) = true := by simpa using c
    rw [if_pos c]
    simp only [hc, if_true, copy2_store op k off l hoff _ (tag2_byte l (by omega) hl2), Snappy.copy2Bytes, List.length_cons,
      List.length_nil, and_self]
  · have hc : (decide (12 ≤ l) || decide (2048 ≤ off)) = false := by simpa using c
    rw [if_neg c]
    simp only [hc, Bool.false_eq_true, if_false, wr8, tag1_byte off l hoff hl (by omega), u64_and255, Snappy.copy1Bytes, setRun,
      List.length_cons, List.length_nil, and_self]

theorem emit_copy_loop (off : Nat) (hoff : off < 2 ^ 64) :
    ∀ (fuel len k : Nat) (op : List UInt8), 4 ≤ len → len < 2 ^ 61 → len / 64 < fuel →
      k + (Snappy.copyBytes off len).length ≤ op.length →
      Gen.CFun.snappy_emit_copy_loop1 fuel op k (BitVec.ofNat 64 off) (BitVec.ofNat 64 len) =
        (k + (Snappy.copyBytes off len).length, setRun op k (Snappy.copyBytes off len)) ∧
      Gen.CFun.snappy_emit_copy_loop1_defined fuel op k (BitVec.ofNat 64 off) (BitVec.ofNat 64 len) = true := by
  intro fuel
  induction fuel with
  | zero => intro len k op _ _ hf; omega
  | succ f ih =>
    intro len k op h4 hl hf hr
    have h68 : decide (68#64 ≤ BitVec.ofNat 64 len) = decide (68 ≤ len) := ofNat_le (w := 64) 68 len (by omega) (by omega)
    have h64 : decide (64#64 < BitVec.ofNat 64 len) = decide (64 < len) := ofNat_lt (w := 64) 64 len (by omega) (by omega)
    rw [Snappy.copyBytes] at hr ⊢
    by_cases c68 : 68 ≤ len
    · rw [if_pos c68] at hr ⊢
      rw [List.length_append, ← Nat.add_assoc] at hr
      have hk3 : k + 3 ≤ op.length := Nat.le_trans (Nat.le_add_right _ _) hr
      have hnext := ih (len - 64) (k + 3) (setRun op k (Snappy.copy2Bytes off 64)) (by omega) (by omega) (by omega)
        (by rw [setRun_length]; exact hr)
      simp only [Gen.CFun.snappy_emit_copy_loop1, Gen.CFun.snappy_emit_copy_loop1_defined, h68, c68, decide_true, if_true,
        inb_wr8, inb_add op k _ 3 hk3, Nat.reduceLT, inb_of_lt op k (by omega), show sShlOk 63#32 2 = true from rfl,
        ofNat_sub (w := 64) len 64 (by omega) (by omega), Bool.true_and,
        copy2_store op k off 64 hoff (BitVec.setWidth 8 (63#32 <<< 2 ||| 2#32)) (by decide), setRun_app,
        List.length_append, show (Snappy.copy2Bytes off 64).length = 3 from rfl, ← Nat.add_assoc]
      exact hnext
    · rw [if_neg c68] at hr ⊢
      have d68 : decide (68 ≤ len) = false := decide_eq_false c68
      -- the loop is left: the generated text returns `afterLoop`, up to unfolding
      have hexit : Gen.CFun.snappy_emit_copy_loop1 (f + 1) op k (BitVec.ofNat 64 off) (BitVec.ofNat 64 len) =
          afterLoop op k (BitVec.ofNat 64 off) (BitVec.ofNat 64 len) := by
        rw [Gen.CFun.snappy_emit_copy_loop1, if_neg (by rw [h68, d68]; exact Bool.false_ne_true)]; rfl
      -- its `_defined`: the bounds checks of the stores, where the buffer written to is `exit60` up to unfolding
      have hok : ∀ p l, l < 2 ^ 64 → p + (Snappy.copyTail off l).length ≤ op.length → (if 64 < len then k + 3 else k) = p →
          (if 64 < len then BitVec.ofNat 64 len - 60#64 else BitVec.ofNat 64 len) = BitVec.ofNat 64 l → (64 < len → k + 3 ≤ op.length) →
          Gen.CFun.snappy_emit_copy_loop1_defined (f + 1) op k (BitVec.ofNat 64 off) (BitVec.ofNat 64 len) = true := by
        intro p l hl64 hp hpk hlk h60
        rw [Gen.CFun.snappy_emit_copy_loop1_defined, if_neg (by rw [h68, d68]; exact Bool.false_ne_true)]
        simp only [h64, decide_eq_true_eq, hpk, inb_wr8]
        have e : ∀ q, inb (exit60 op k (BitVec.ofNat 64 off) (BitVec.ofNat 64 len)) q 1 = inb op q 1 := fun q => inb_exit60 ..
        generalize h0 : inb _ p 1 = b0
        obtain rfl : b0 = inb op p 1 := h0.symm.trans (e p)
        generalize h1 : inb _ (p + 1) 1 = b1
        obtain rfl : b1 = inb op (p + 1) 1 := h1.symm.trans (e (p + 1))
        generalize h2 : inb _ (p + 2) 1 = b2
        obtain rfl : b2 = inb op (p + 2) 1 := h2.symm.trans (e (p + 2))
        have h1 : (if 64 < len then sShlOk 59#32 2 && inb op k 1 && (inb op (k + 1) 1 && inb op (k + 2) 1) else true) = true := by
          split
          · next h => simp only [show sShlOk 59#32 2 = true from rfl, inb_add op k _ 3 (h60 h), Nat.reduceLT,
              inb_of_lt op k (by have := h60 h; omega), Bool.and_self]
          · rfl
        rw [h1, Bool.true_and, hlk, ofNat_le 12 l (by decide) hl64, ofNat_le 2048 off (by decide) hoff]
        unfold Snappy.copyTail at hp
        by_cases c : 12 ≤ l ∨ 2048 ≤ off
        · rw [if_pos c] at hp
          have hp3 : p + 3 ≤ op.length := hp
          simp only [show (decide (12 ≤ l) || decide (2048 ≤ off)) = true by simpa using c, if_true, inb_add op p _ 3 hp3,
            Nat.reduceLT, inb_of_lt op p (by omega), Bool.and_self]
        · rw [if_neg c] at hp
          have hp2 : p + 2 ≤ op.length := hp
          simp only [show (decide (12 ≤ l) || decide (2048 ≤ off)) = false by simpa using c, Bool.false_eq_true, if_false,
            inb_add op p _ 2 hp2, Nat.reduceLT, inb_of_lt op p (by omega), Bool.and_self]
      rw [hexit, afterLoop, h64]
      by_cases c64 : 64 < len
      · rw [if_pos c64] at hr ⊢
        rw [List.length_append, ← Nat.add_assoc] at hr
        have hk3 : k + 3 ≤ op.length := Nat.le_trans (Nat.le_add_right _ _) hr
        obtain ⟨hv, hn⟩ := copyTail_store (setRun op k (Snappy.copy2Bytes off 60)) (k + 3) off (len - 60) hoff (by omega)
          (by omega)
        refine ⟨?_, hok (k + 3) (len - 60) (by omega) hr (if_pos c64)
          (by rw [if_pos c64, ofNat_sub (w := 64) len 60 (by omega) (by omega)]) (fun _ => hk3)⟩
        simp only [exit60, h64, c64, decide_true, if_true, ofNat_sub (w := 64) len 60 (by omega) (by omega),
          copy2_store op k off 60 hoff (BitVec.setWidth 8 (59#32 <<< 2 ||| 2#32)) (by decide), hv, hn, setRun_app,
          List.length_append, show (Snappy.copy2Bytes off 60).length = 3 from rfl, ← Nat.add_assoc]
      · rw [if_neg c64] at hr ⊢
        have d64 : decide (64 < len) = false := decide_eq_false c64
        obtain ⟨hv, hn⟩ := copyTail_store op k off len hoff h4 hl
        refine ⟨?_, hok k len (by omega) hr (if_neg c64) (if_neg c64) (fun h => absurd h c64)⟩
        simp only [exit60, h64, d64, Bool.false_eq_true, if_false, hv, hn]

theorem snappy_emit_copy_eq (op : List UInt8) (off len : Nat) (hoff : off < 2 ^ 64) (h4 : 4 ≤ len) (hl : len < 2 ^ 61)
    (hop : (Snappy.copyBytes off len).length ≤ op.length) :
    Gen.CFun.snappy_emit_copy op (BitVec.ofNat 64 off) (BitVec.ofNat 64 len) =
      ((Snappy.copyBytes off len).length, Snappy.copyBytes off len ++ op.drop (Snappy.copyBytes off len).length) ∧
    Gen.CFun.snappy_emit_copy_defined op (BitVec.ofNat 64 off) (BitVec.ofNat 64 len) = true := by
  have := emit_copy_loop off hoff (len / 64 + 1) len 0 op h4 hl (by omega) (by omega)
  rw [setRun_zero _ op hop] at this
  simpa [Gen.CFun.snappy_emit_copy, Gen.CFun.snappy_emit_copy_defined, toNat_ofNat (w := 64) len (by omega)] using this

end Carquet.Proofs.CFunB
