import Carquet.Proofs.CFunB.Basic
import Carquet.Gen.CFun
import Carquet.Impl.SimdMore
import Carquet.Proofs.SimdGather
/-
Prefix sums and dictionary gathers among the scalar reference kernels of src/simd/dispatch.c, as translated from the current C
source (`Gen.CFun.scalar_*`), against `Impl.Simd.scalarPrefixSum` / `scalarGather`.  Each family is proved once, for any loop
given by its unfolding equations; the kernels of the single widths are instances by `rfl`.
-/
namespace Carquet.Proofs.CFunB
open Carquet Carquet.Impl Carquet.Impl.CSem Carquet.Impl.Simd Carquet.Proofs.CSem
open Carquet.Proofs.SimdGather (loadZx_memOf)

/-! ### prefix sums -/

/-- a prefix-sum function `F(values, count, initial)` (with `FD` its definedness) running the loop
`for (i < count) { sum += values[i]; values[i] = sum; }` (`L`, `D`, given by their unfolding) from 0, on exactly `count` values -/
theorem prefix_sum_eq {w : Nat} (L : Nat → List (BitVec w) → BitVec 64 → BitVec w → BitVec w → BitVec 64 → List (BitVec w))
    (D : Nat → List (BitVec w) → BitVec 64 → BitVec w → BitVec w → BitVec 64 → Bool)
    (F : List (BitVec w) → BitVec 64 → BitVec w → List (BitVec w)) (FD : List (BitVec w) → BitVec 64 → BitVec w → Bool)
    (hL : ∀ f vals c init sum i, L (f + 1) vals c init sum i =
      if BitVec.slt i c then L f (wr vals i.toInt.toNat (sum + rd vals i.toInt.toNat)) c init (sum + rd vals i.toInt.toNat) (i + 1#64)
      else vals)
    (hD : ∀ f vals c init sum i, D (f + 1) vals c init sum i =
      if BitVec.slt i c then
        (!i.msb) && inb vals i.toInt.toNat 1 && ((!i.msb) && inb vals i.toInt.toNat 1 &&
          (sAddOk i 1#64 && D f (wr vals i.toInt.toNat (sum + rd vals i.toInt.toNat)) c init (sum + rd vals i.toInt.toNat) (i + 1#64)))
      else true)
    (hF : ∀ vals c init, F vals c init = L (c.toInt.toNat + 1) vals c init init 0#64)
    (hFD : ∀ vals c init, FD vals c init = D (c.toInt.toNat + 1) vals c init init 0#64)
    (vals : List (BitVec w)) (init : BitVec w) (h : vals.length < 2 ^ 63) :
    F vals (BitVec.ofNat 64 vals.length) init = scalarPrefixSum init vals ∧ FD vals (BitVec.ofNat 64 vals.length) init = true := by
  have loop : ∀ (rest done : List (BitVec w)) (sum : BitVec w) (fuel : Nat), rest.length < fuel →
      done.length + rest.length = vals.length →
      L fuel (done ++ rest) (BitVec.ofNat 64 vals.length) init sum (BitVec.ofNat 64 done.length) =
        done ++ (scalarScan psStep sum rest).1 ∧
      D fuel (done ++ rest) (BitVec.ofNat 64 vals.length) init sum (BitVec.ofNat 64 done.length) = true := by
    intro rest
    induction rest with
    | nil =>
      intro done sum fuel hf hl
      obtain ⟨f, rfl⟩ := exists_fuel hf
      simp only [List.length_nil, Nat.add_zero] at hl
      simp [hL, hD, ofNat_slt_of_ge _ _ (Nat.le_of_eq hl.symm) (hl ▸ h), scalarScan]
    | cons x xs ih =>
      intro done sum fuel hf hl
      obtain ⟨f, rfl⟩ := exists_fuel hf
      simp only [List.length_cons] at hf hl
      have hdl : done.length < 2 ^ 63 := by omega
      have hn := ih (done ++ [sum + x]) (sum + x) f (by omega) (by simp; omega)
      simp only [List.length_append, List.length_singleton, List.append_assoc, List.singleton_append] at hn
      simp only [hL, hD, ofNat_slt_of_lt _ _ (show done.length < vals.length by omega) h, if_true, ofNat_toInt_toNat _ hdl, rd_at, wr_at,
        inb_at, ofNat_msb _ hdl, ofNat_add, ofNat_sAddOk _ 1 (show done.length + 1 < 2 ^ 63 by omega), scalarScan, psStep]
      exact ⟨hn.1, by simpa using hn.2⟩
  have := loop vals [] init (vals.length + 1) (Nat.lt_succ_self _) (Nat.zero_add _)
  simpa [hF, hFD, scalarPrefixSum, ofNat_toInt_toNat _ h] using this

theorem scalar_prefix_sum_i32_eq (vals : List (BitVec 32)) (init : BitVec 32) (h : vals.length < 2 ^ 63) :
    Gen.CFun.scalar_prefix_sum_i32 vals (BitVec.ofNat 64 vals.length) init = scalarPrefixSum init vals ∧
    Gen.CFun.scalar_prefix_sum_i32_defined vals (BitVec.ofNat 64 vals.length) init = true :=
  prefix_sum_eq _ _ _ _ (fun _ _ _ _ _ _ => rfl) (fun _ _ _ _ _ _ => rfl) (fun _ _ _ => rfl) (fun _ _ _ => rfl) vals init h

theorem scalar_prefix_sum_i64_eq (vals : List (BitVec 64)) (init : BitVec 64) (h : vals.length < 2 ^ 63) :
    Gen.CFun.scalar_prefix_sum_i64 vals (BitVec.ofNat 64 vals.length) init = scalarPrefixSum init vals ∧
    Gen.CFun.scalar_prefix_sum_i64_defined vals (BitVec.ofNat 64 vals.length) init = true :=
  prefix_sum_eq _ _ _ _ (fun _ _ _ _ _ _ => rfl) (fun _ _ _ _ _ _ => rfl) (fun _ _ _ => rfl) (fun _ _ _ => rfl) vals init h

/-! ### dictionary gathers -/

/-- what the link theorems of the four gathers say: value when every index is inside the dictionary, `_defined = false`
otherwise -/
def GatherLink {w : Nat} (dict : List (BitVec w)) (ri : List (BitVec 32)) (dOut : List (BitVec w))
    (v : List (BitVec w)) (d : Bool) : Prop :=
  (∀ r, allLoaded (gatherTail (memOf dict) ri) = some r → v = dOut ++ r) ∧
  d = (allLoaded (gatherTail (memOf dict) ri)).isSome

/-! the facts of Proofs/CSem.lean at 64 bits under the names `gather_loop_proof` is written with -/
theorem i64_slt (a b : Nat) (ha : a < 2 ^ 63) (hb : b < 2 ^ 63) :
    BitVec.slt (BitVec.ofNat 64 a) (BitVec.ofNat 64 b) = decide (a < b) := ofNat_slt a b ha hb
theorem i64_toIntNat (k : Nat) (h : k < 2 ^ 63) : (BitVec.ofNat 64 k).toInt.toNat = k := ofNat_toInt_toNat k h
theorem i64_msb (k : Nat) (h : k < 2 ^ 63) : (BitVec.ofNat 64 k).msb = false := ofNat_msb k h
theorem i64_add_one (k : Nat) : BitVec.ofNat 64 k + 1#64 = BitVec.ofNat 64 (k + 1) := ofNat_add k 1
theorem i64_sAddOk_one (k : Nat) (h : k + 1 < 2 ^ 63) : sAddOk (BitVec.ofNat 64 k) 1#64 = true := ofNat_sAddOk k 1 h

set_option hygiene false in
local macro "gather_loop_proof" l:ident ld:ident : tactic => `(tactic| (

  intro ri
  induction ri with
  | nil =>
    intro di dOut rOut fuel hf hd hr hl
    obtain ⟨f, rfl⟩ : ∃ f, fuel = f + 1 := ⟨fuel - 1, by simp at hf; omega⟩
    have hr0 : rOut = [] := by simpa using hr.symm
    subst hr0
    simp only [List.length_nil, Nat.add_zero, List.append_nil] at hl ⊢
    have hge : BitVec.slt (BitVec.ofNat 64 di.length) (BitVec.ofNat 64 di.length) = false := by
      rw [i64_slt _ _ hl hl]; simp
    simp [GatherLink, $l:ident, $ld:ident, hge, allLoaded, gatherTail]
  | cons x xs ih =>
    intro di dOut rOut fuel hf hd hr hl
    obtain ⟨f, rfl⟩ : ∃ f, fuel = f + 1 := ⟨fuel - 1, by simp at hf; omega⟩
    obtain ⟨y, ys, rfl⟩ : ∃ y ys, rOut = y :: ys := by
      cases rOut with
      | nil => simp at hr
      | cons y ys => exact ⟨y, ys, rfl⟩
    simp only [List.length_cons] at hf hl hr
    have hlt : BitVec.slt (BitVec.ofNat 64 di.length) (BitVec.ofNat 64 (di.length + (xs.length + 1))) = true := by
      rw [i64_slt _ _ (by omega) hl]; simp
    have hdi : di.length < 2 ^ 63 := by omega
    simp only [$l:ident, $ld:ident, List.length_cons, hlt, if_true, i64_toIntNat _ hdi, rd_at, inb_at, i64_msb _ hdi,
      i64_add_one, i64_sAddOk_one _ (show di.length + 1 < 2 ^ 63 by omega)]
    simp only [wr_at' _ _ _ _ _ hd, inb_at' _ _ _ _ hd]
    by_cases hx : x.toNat < dict.length
    · have h := ih (di ++ [x]) (dOut ++ [rd dict x.toNat]) ys f (by omega) (by simp [hd]) (by omega) (by simp; omega)
      simp only [List.length_append, List.length_cons, List.length_nil, List.append_assoc, List.cons_append, List.nil_append,
        Nat.zero_add] at h
      rw [show di.length + 1 + xs.length = di.length + (xs.length + 1) by omega] at h
      simp only [GatherLink, gatherTail, List.map_cons, loadZx_memOf, List.getElem?_eq_getElem hx, allLoaded] at h ⊢
      rw [inb_of_lt _ _ hx, rd_of_lt _ _ hx] at *
      cases hA : allLoaded (List.map (loadZx (memOf dict)) xs) with
      | none => simp only [hA] at h ⊢; simpa using h.2
      | some r =>
        simp only [hA] at h ⊢
        simp only [Option.map_some, Option.some.injEq, Option.isSome_some]
        exact ⟨fun r' hr' => by rw [← hr', h.1 r rfl]; simp, by simpa using h.2⟩
    · have hx' : dict.length ≤ x.toNat := by omega
      simp only [GatherLink, gatherTail, List.map_cons, loadZx_memOf, List.getElem?_eq_none hx', allLoaded,
        inb_false_of_ge _ _ hx']
      simp))

/-- a gather function `F(dict, indices, count, output)` (with `FD` its definedness) that runs the loop
`for (i < count) output[i] = dict[indices[i]]` (`L`, `D`, given by their unfolding) from 0, on `count` indices and `count` output
slots: the model's result when every index is inside the dictionary; otherwise `FD` is false (a read
outside `dict`) -/
theorem gather_eq {w : Nat} (L : Nat → List (BitVec w) → List (BitVec 32) → BitVec 64 → List (BitVec w) → BitVec 64 → List (BitVec w))
    (D : Nat → List (BitVec w) → List (BitVec 32) → BitVec 64 → List (BitVec w) → BitVec 64 → Bool)
    (F : List (BitVec w) → List (BitVec 32) → BitVec 64 → List (BitVec w) → List (BitVec w))
    (FD : List (BitVec w) → List (BitVec 32) → BitVec 64 → List (BitVec w) → Bool)
    (hL : ∀ f dict idx c out i, L (f + 1) dict idx c out i =
      if BitVec.slt i c then L f dict idx c (wr out i.toInt.toNat (rd dict (rd idx i.toInt.toNat).toNat)) (i + 1#64) else out)
    (hD : ∀ f dict idx c out i, D (f + 1) dict idx c out i =
      if BitVec.slt i c then
        (!i.msb) && inb idx i.toInt.toNat 1 && inb dict (rd idx i.toInt.toNat).toNat 1 && inb out i.toInt.toNat 1 &&
          (sAddOk i 1#64 && D f dict idx c (wr out i.toInt.toNat (rd dict (rd idx i.toInt.toNat).toNat)) (i + 1#64))
      else true)
    (hF : ∀ dict idx c out, F dict idx c out = L (c.toInt.toNat + 1) dict idx c out 0#64)
    (hFD : ∀ dict idx c out, FD dict idx c out = D (c.toInt.toNat + 1) dict idx c out 0#64)
    (dict : List (BitVec w)) (idx : List (BitVec 32)) (out : List (BitVec w)) (ho : out.length = idx.length)
    (h : idx.length < 2 ^ 63) :
    (∀ r, scalarGather (memOf dict) idx = some r → F dict idx (BitVec.ofNat 64 idx.length) out = r) ∧
    FD dict idx (BitVec.ofNat 64 idx.length) out = (scalarGather (memOf dict) idx).isSome := by
  have loop : ∀ (ri di : List (BitVec 32)) (dOut rOut : List (BitVec w)) (fuel : Nat), ri.length < fuel →
      di.length = dOut.length → ri.length = rOut.length → di.length + ri.length < 2 ^ 63 →
      GatherLink dict ri dOut
        (L fuel dict (di ++ ri) (BitVec.ofNat 64 (di.length + ri.length)) (dOut ++ rOut) (BitVec.ofNat 64 di.length))
        (D fuel dict (di ++ ri) (BitVec.ofNat 64 (di.length + ri.length)) (dOut ++ rOut) (BitVec.ofNat 64 di.length)) := by
    gather_loop_proof hL hD
  have := loop idx [] [] out (idx.length + 1) (by omega) rfl ho.symm (by simpa using h)
  simpa [GatherLink, hF, hFD, scalarGather, ofNat_toInt_toNat _ h] using this

theorem scalar_gather_i32_eq (dict : List (BitVec 32)) (idx : List (BitVec 32)) (out : List (BitVec 32))
    (ho : out.length = idx.length) (h : idx.length < 2 ^ 63) :
    (∀ r, scalarGather (memOf dict) idx = some r → Gen.CFun.scalar_gather_i32 dict idx (BitVec.ofNat 64 idx.length) out = r) ∧
    Gen.CFun.scalar_gather_i32_defined dict idx (BitVec.ofNat 64 idx.length) out = (scalarGather (memOf dict) idx).isSome :=
  gather_eq _ _ _ _ (fun _ _ _ _ _ _ => rfl) (fun _ _ _ _ _ _ => rfl) (fun _ _ _ _ => rfl) (fun _ _ _ _ => rfl) dict idx out ho h

theorem scalar_gather_i64_eq (dict : List (BitVec 64)) (idx : List (BitVec 32)) (out : List (BitVec 64))
    (ho : out.length = idx.length) (h : idx.length < 2 ^ 63) :
    (∀ r, scalarGather (memOf dict) idx = some r → Gen.CFun.scalar_gather_i64 dict idx (BitVec.ofNat 64 idx.length) out = r) ∧
    Gen.CFun.scalar_gather_i64_defined dict idx (BitVec.ofNat 64 idx.length) out = (scalarGather (memOf dict) idx).isSome :=
  gather_eq _ _ _ _ (fun _ _ _ _ _ _ => rfl) (fun _ _ _ _ _ _ => rfl) (fun _ _ _ _ => rfl) (fun _ _ _ _ => rfl) dict idx out ho h

theorem scalar_gather_float_eq (dict : List (BitVec 32)) (idx : List (BitVec 32)) (out : List (BitVec 32))
    (ho : out.length = idx.length) (h : idx.length < 2 ^ 63) :
    (∀ r, scalarGather (memOf dict) idx = some r → Gen.CFun.scalar_gather_float dict idx (BitVec.ofNat 64 idx.length) out = r) ∧
    Gen.CFun.scalar_gather_float_defined dict idx (BitVec.ofNat 64 idx.length) out = (scalarGather (memOf dict) idx).isSome :=
  gather_eq _ _ _ _ (fun _ _ _ _ _ _ => rfl) (fun _ _ _ _ _ _ => rfl) (fun _ _ _ _ => rfl) (fun _ _ _ _ => rfl) dict idx out ho h

theorem scalar_gather_double_eq (dict : List (BitVec 64)) (idx : List (BitVec 32)) (out : List (BitVec 64))
    (ho : out.length = idx.length) (h : idx.length < 2 ^ 63) :
    (∀ r, scalarGather (memOf dict) idx = some r → Gen.CFun.scalar_gather_double dict idx (BitVec.ofNat 64 idx.length) out = r) ∧
    Gen.CFun.scalar_gather_double_defined dict idx (BitVec.ofNat 64 idx.length) out = (scalarGather (memOf dict) idx).isSome :=
  gather_eq _ _ _ _ (fun _ _ _ _ _ _ => rfl) (fun _ _ _ _ _ _ => rfl) (fun _ _ _ _ => rfl) (fun _ _ _ _ => rfl) dict idx out ho h

end Carquet.Proofs.CFunB
