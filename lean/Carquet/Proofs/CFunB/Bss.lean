import Carquet.Proofs.CFunB.Basic
import Carquet.Gen.CFun
import Carquet.Impl.SimdMore
import Carquet.Proofs.SimdScalar
/-
BYTE_STREAM_SPLIT: the four scalar transposition loops of src/simd/dispatch.c (`scalar_byte_split_encode/decode_float/_double`,
the value array seen as bytes through the `(const uint8_t*)values` cast) as translated from the current C source.
Pointwise characterisation: after the call, `output[b * count + i] = src[i * k + b]` (encode), `dst[i * k + b] =
data[b * count + i]` (decode) for every `b < k`, `i < count`; nothing else is written; no access outside the arrays.
-/
namespace Carquet.Proofs.CFunB
open Carquet Carquet.Impl Carquet.Impl.CSem Carquet.Impl.Simd Carquet.Proofs.CSem

theorem getD_wr8 (a : List UInt8) (p q : Nat) (v : BitVec 8) (hp : p < a.length) :
    (wr8 a p v).getD q 0 = if q = p then UInt8.ofBitVec v else a.getD q 0 := by
  simp only [wr8, List.getD, List.getElem?_set]
  by_cases h : p = q
  · subst h; simp [hp]
  · simp [h, Ne.symm h]

/-- state of a transposition loop nest after `i` whole values and `b` bytes of value `i`: every position `wp b' i'` written
so far holds `src[rp b' i']`; the length is unchanged.  (`wp`, `rp`: write and read position of byte `b` of value `i`.) -/
def TrInv (wp rp : Nat → Nat → Nat) (k n : Nat) (src : List UInt8) (i b : Nat) (out : List UInt8) : Prop :=
  out.length = k * n ∧
  ∀ b' i', b' < k → i' < n → (i' < i ∨ (i' = i ∧ b' < b)) → out.getD (wp b' i') 0 = src.getD (rp b' i') 0

theorem TrInv_step (wp rp : Nat → Nat → Nat) (k n : Nat) (src out : List UInt8) (i b : Nat) (hi : i < n) (hb : b < k)
    (hinj : ∀ b' i', b' < k → i' < n → wp b' i' = wp b i → b' = b ∧ i' = i) (hlt : wp b i < k * n)
    (h : TrInv wp rp k n src i b out) :
    TrInv wp rp k n src i (b + 1) (wr8 out (wp b i) (rd8 src (rp b i))) := by
  refine ⟨by simp [wr8, h.1], ?_⟩
  intro b' i' hb' hi' hc
  rw [getD_wr8 _ _ _ _ (by rw [h.1]; exact hlt)]
  by_cases he : wp b' i' = wp b i
  · obtain ⟨e1, e2⟩ := hinj b' i' hb' hi' he
    subst e1; subst e2
    simp [rd8]
  · rw [if_neg he]
    apply h.2 b' i' hb' hi'
    rcases hc with hc | ⟨e, hc⟩
    · exact Or.inl hc
    · subst e
      by_cases hbb : b' = b
      · subst hbb; exact absurd rfl he
      · exact Or.inr ⟨rfl, by omega⟩

theorem TrInv_next (wp rp : Nat → Nat → Nat) (k n : Nat) (src out : List UInt8) (i : Nat) (h : TrInv wp rp k n src i k out) :
    TrInv wp rp k n src (i + 1) 0 out := by
  refine ⟨h.1, ?_⟩
  intro b' i' hb' hi' hc
  apply h.2 b' i' hb' hi'
  rcases hc with hc | ⟨_, hc⟩
  · by_cases he : i' = i
    · exact Or.inr ⟨he, hb'⟩
    · exact Or.inl (by omega)
  · omega

theorem TrInv_init (wp rp : Nat → Nat → Nat) (k n : Nat) (src out : List UInt8) (h : out.length = k * n) :
    TrInv wp rp k n src 0 0 out := ⟨h, fun _ _ _ _ hc => by omega⟩

/-- stream-major position `b * n + i` -/
abbrev posS (n : Nat) (b i : Nat) : Nat := b * n + i
/-- value-major position `i * k + b` -/
abbrev posV (k : Nat) (b i : Nat) : Nat := i * k + b

theorem posS_inj (k n b i : Nat) (hi : i < n) : ∀ b' i', b' < k → i' < n → posS n b' i' = posS n b i → b' = b ∧ i' = i :=
  fun b' i' _ hi' h => mul_add_inj b' b i' i n hi' hi h

theorem posV_inj (k n b i : Nat) (hb : b < k) : ∀ b' i', b' < k → i' < n → posV k b' i' = posV k b i → b' = b ∧ i' = i :=
  fun b' i' hb' _ h => (mul_add_inj i' i b' b k hb' hb h).symm

set_option hygiene false in
/-- inner loop (`for (int b = 0; b < k; b++)`) of one of the four functions -/
local macro "tr_inner" l:ident ld:ident k:num wp:term ", " rp:term ", " hinj:term : tactic => `(tactic| (
  intro d
  induction d with
  | zero =>
    intro b out fuel hb hf hinv
    obtain ⟨f, rfl⟩ : ∃ f, fuel = f + 1 := ⟨fuel - 1, by omega⟩
    have : b = $k := by omega
    subst this
    simpa [$l:ident, $ld:ident, show BitVec.slt (BitVec.ofNat 32 $k) (BitVec.ofNat 32 $k) = false by decide] using hinv
  | succ d ih =>
    intro b out fuel hb hf hinv
    obtain ⟨f, rfl⟩ : ∃ f, fuel = f + 1 := ⟨fuel - 1, by omega⟩
    have hbk : b < $k := by omega
    have hlt : BitVec.slt (BitVec.ofNat 32 b) (BitVec.ofNat 32 $k) = true := by
      rw [slt_ofNat _ _ (by omega) (by omega)]; simp [hbk]
    have hbn : b * n + i < $k * n := mul_add_lt b i n $k hi hbk
    have hik : i * $k + b < $k * n := by rw [Nat.mul_comm $k n]; exact mul_add_lt i b $k n hbk hi
    have hnext := ih (b + 1) (wr8 out ($wp b i) (rd8 src ($rp b i))) f (by omega) (by omega)
      (TrInv_step $wp $rp $k n src out i b hi hbk $hinj (by first | exact hbn | exact hik) hinv)
    simp only [$l:ident, $ld:ident, hlt, if_true,
      sext64 b (by omega), i64_mul, i64_add, i64_toIntNat _ (show b * n + i < 2 ^ 63 by omega),
      i64_toIntNat _ (show i * $k + b < 2 ^ 63 by omega), i64_msb _ (show b * n + i < 2 ^ 63 by omega),
      i64_msb _ (show i * $k + b < 2 ^ 63 by omega),
      i64_sMulOk b n (by omega) (by omega) (by omega), i64_sMulOk i $k (by omega) (by omega) (by omega),
      i64_sAddOk (b * n) i (by omega), i64_sAddOk (i * $k) b (by omega), ofNat_add_one, sAddOk_small b (by omega),
      inb_of_lt src _ (show $rp b i < src.length by first | (rw [hs]; exact hbn) | (rw [hs]; exact hik)),
      inb_of_lt out _ (show $wp b i < out.length by first | (rw [hinv.1]; exact hbn) | (rw [hinv.1]; exact hik))]
    exact ⟨hnext.1, by simpa using hnext.2⟩))

set_option hygiene false in
/-- outer loop (`for (int64_t i = 0; i < count; i++)`) -/
local macro "tr_outer" l:ident ld:ident inner:ident k:num wp:term ", " rp:term : tactic => `(tactic| (
  intro d
  induction d with
  | zero =>
    intro i out fuel hi hf hinv
    obtain ⟨f, rfl⟩ : ∃ f, fuel = f + 1 := ⟨fuel - 1, by omega⟩
    have : i = n := by omega
    subst this
    have hge : BitVec.slt (BitVec.ofNat 64 i) (BitVec.ofNat 64 i) = false := by
      rw [i64_slt _ _ (by omega) (by omega)]; simp
    simpa [$l:ident, $ld:ident, hge] using hinv
  | succ d ih =>
    intro i out fuel hi hf hinv
    obtain ⟨f, rfl⟩ : ∃ f, fuel = f + 1 := ⟨fuel - 1, by omega⟩
    have hlt : BitVec.slt (BitVec.ofNat 64 i) (BitVec.ofNat 64 n) = true := by
      rw [i64_slt _ _ (by omega) (by omega)]; simp; omega
    have hin := $inner src n hs hn i (by omega) $k 0 out ($k + 1) (by omega) (by omega) hinv
    have hnext := ih (i + 1) _ f (by omega) (by omega) (TrInv_next $wp $rp $k n src _ i hin.1)
    simp only [$l:ident, $ld:ident, hlt, if_true] at hin ⊢
    simp only [hin.2, i64_add_one, i64_sAddOk_one _ (show i + 1 < 2 ^ 63 by omega), Bool.true_and]
    exact ⟨hnext.1, hnext.2⟩))

theorem tr_bounds (k n b i : Nat) (hb : b < k) (hi : i < n) (hkn : k * n < 2 ^ 63) (hk : k < 2 ^ 30) :
    b * n + i < k * n ∧ i * k + b < k * n ∧ b * n + i < 2 ^ 63 ∧ i * k + b < 2 ^ 63 ∧ b < 2 ^ 31 ∧ b + 1 < 2 ^ 31 ∧ b < 2 ^ 63 ∧
      n < 2 ^ 63 ∧ i < 2 ^ 63 ∧ k < 2 ^ 63 := by
  have hS : b * n + i < k * n := mul_add_lt b i n k hi hb
  have hV : i * k + b < k * n := by rw [Nat.mul_comm k n]; exact mul_add_lt i b k n hb hi
  have hn : n ≤ k * n := Nat.le_mul_of_pos_left n (Nat.zero_lt_of_lt hb)
  have hb30 : b < 2 ^ 30 := Nat.lt_trans hb hk
  have h30 : 2 ^ 30 < 2 ^ 63 := by decide
  exact ⟨hS, hV, Nat.lt_trans hS hkn, Nat.lt_trans hV hkn, Nat.lt_trans hb30 (by decide), Nat.lt_of_lt_of_le (Nat.succ_lt_succ hb30) (by decide), Nat.lt_trans hb30 h30,
    Nat.lt_of_le_of_lt hn hkn, Nat.lt_trans hi (Nat.lt_of_le_of_lt hn hkn), Nat.lt_trans hk h30⟩

/-- a nest `for (i < n) for (b < k) out[wp b i] = src[rp b i]` of two translated loops (`L1`/`D1` the outer one with what
follows it, `L2`/`D2` the inner one), given one round of each: what holds on leaving the outer loop with everything
written holds of the run from `i = 0`, and the run is defined -/
theorem tr_nest {ρ : Type} (wp rp : Nat → Nat → Nat) (k n : Nat) (src : List UInt8) (Post : ρ → Prop)
    (L2 : Nat → List UInt8 → Nat → Nat → List UInt8) (D2 : Nat → List UInt8 → Nat → Nat → Bool)
    (L1 : Nat → List UInt8 → Nat → ρ) (D1 : Nat → List UInt8 → Nat → Bool)
    (hinj : ∀ b i, b < k → i < n → ∀ b' i', b' < k → i' < n → wp b' i' = wp b i → b' = b ∧ i' = i)
    (hlt : ∀ b i, b < k → i < n → wp b i < k * n)
    (h2 : ∀ f out i b, i < n → b < k → out.length = k * n →
      L2 (f + 1) out i b = L2 f (wr8 out (wp b i) (rd8 src (rp b i))) i (b + 1) ∧
      D2 (f + 1) out i b = D2 f (wr8 out (wp b i) (rd8 src (rp b i))) i (b + 1))
    (h2e : ∀ f out i, L2 (f + 1) out i k = out ∧ D2 (f + 1) out i k = true)
    (h1 : ∀ f out i, i < n → L1 (f + 1) out i = L1 f (L2 (k + 1) out i 0) (i + 1) ∧
      D1 (f + 1) out i = (D2 (k + 1) out i 0 && D1 f (L2 (k + 1) out i 0) (i + 1)))
    (h1e : ∀ f out, TrInv wp rp k n src n 0 out → Post (L1 (f + 1) out n) ∧ D1 (f + 1) out n = true)
    (out : List UInt8) (ho : out.length = k * n) : Post (L1 (n + 1) out 0) ∧ D1 (n + 1) out 0 = true := by
  have inner : ∀ i out, i < n → TrInv wp rp k n src i 0 out →
      TrInv wp rp k n src i k (L2 (k + 1) out i 0) ∧ D2 (k + 1) out i 0 = true := fun i out hi hinv =>
    for_loop k (TrInv wp rp k n src i) (TrInv wp rp k n src i k) (fun b out => wr8 out (wp b i) (rd8 src (rp b i)))
      (fun f out b => L2 f out i b) (fun f out b => D2 f out i b) (fun f out b hb hinv => h2 f out i b hi hb hinv.1)
      (fun f out hinv => by rw [(h2e f out i).1, (h2e f out i).2]; exact ⟨hinv, rfl⟩)
      (fun out b hb hinv => TrInv_step wp rp k n src out i b hi hb (hinj b i hb hi) (hlt b i hb hi) hinv)
      k 0 out (k + 1) (Nat.zero_add k) (Nat.lt_succ_self k) hinv
  exact for_loop n (fun i out => TrInv wp rp k n src i 0 out) Post (fun i out => L2 (k + 1) out i 0) L1 D1
    (fun f out i hi hinv => by rw [(h1 f out i hi).1, (h1 f out i hi).2, (inner i out hi hinv).2, Bool.true_and]; exact ⟨rfl, rfl⟩)
    h1e (fun out i hi hinv => TrInv_next wp rp k n src _ i (inner i out hi hinv).1)
    n 0 out (n + 1) (Nat.zero_add n) (Nat.lt_succ_self n) (TrInv_init wp rp k n src out ho)

theorem enc_float_nest (src out : List UInt8) (n : Nat) (hs : src.length = 4 * n) (ho : out.length = 4 * n) (hn : 4 * n + 8 < 2 ^ 63) :
    TrInv (posS n) (posV 4) 4 n src n 0 (Gen.CFun.scalar_byte_split_encode_float_loop1 (n + 1) src (BitVec.ofNat 64 n) out (BitVec.ofNat 64 0)) ∧
    Gen.CFun.scalar_byte_split_encode_float_loop1_defined (n + 1) src (BitVec.ofNat 64 n) out (BitVec.ofNat 64 0) = true := by
  refine tr_nest (posS n) (posV 4) 4 n src _
    (fun f out i b => (Gen.CFun.scalar_byte_split_encode_float_loop2 f src (BitVec.ofNat 64 n) out (BitVec.ofNat 64 i) (BitVec.ofNat 32 b)).1)
    (fun f out i b => Gen.CFun.scalar_byte_split_encode_float_loop2_defined f src (BitVec.ofNat 64 n) out (BitVec.ofNat 64 i) (BitVec.ofNat 32 b))
    (fun f out i => Gen.CFun.scalar_byte_split_encode_float_loop1 f src (BitVec.ofNat 64 n) out (BitVec.ofNat 64 i))
    (fun f out i => Gen.CFun.scalar_byte_split_encode_float_loop1_defined f src (BitVec.ofNat 64 n) out (BitVec.ofNat 64 i))
    (fun b i hb hi => posS_inj 4 n b i hi) (fun b i hb hi => (tr_bounds 4 n b i hb hi (by omega) (by decide)).1) ?_ ?_ ?_ ?_ out ho
  · intro f out i b hi hb hout
    obtain ⟨hS, hV, hS63, hV63, hb31, hb30, hb63, hn63, hi63, hk63⟩ := tr_bounds 4 n b i hb hi (by omega) (by decide)
    simp (disch := first | assumption | decide) only [Gen.CFun.scalar_byte_split_encode_float_loop2, Gen.CFun.scalar_byte_split_encode_float_loop2_defined, ofNat_slt_of_lt, if_true,
      ofNat_sext, i64_mulAdd_toIntNat, i64_mulAdd_msb, i64_mulAdd_sMulOk, i64_mulAdd_sAddOk, ofNat_add, ofNat_sAddOk,
      inb_of_lt_eq _ _ _ hV hs, inb_of_lt_eq _ _ _ hS hout,
      Bool.true_and, Bool.not_false, and_self]
  · intro f out i
    simp (disch := omega) [Gen.CFun.scalar_byte_split_encode_float_loop2, Gen.CFun.scalar_byte_split_encode_float_loop2_defined, ofNat_slt_of_ge]
  · intro f out i hi
    simp (disch := omega) only [Gen.CFun.scalar_byte_split_encode_float_loop1, Gen.CFun.scalar_byte_split_encode_float_loop1_defined, ofNat_slt_of_lt, if_true, ofNat_add, ofNat_sAddOk,
      Bool.true_and, and_self]
  · intro f out hinv
    simpa (disch := omega) [Gen.CFun.scalar_byte_split_encode_float_loop1, Gen.CFun.scalar_byte_split_encode_float_loop1_defined, ofNat_slt_of_ge] using hinv

theorem enc_double_nest (src out : List UInt8) (n : Nat) (hs : src.length = 8 * n) (ho : out.length = 8 * n) (hn : 8 * n + 8 < 2 ^ 63) :
    TrInv (posS n) (posV 8) 8 n src n 0 (Gen.CFun.scalar_byte_split_encode_double_loop1 (n + 1) src (BitVec.ofNat 64 n) out (BitVec.ofNat 64 0)) ∧
    Gen.CFun.scalar_byte_split_encode_double_loop1_defined (n + 1) src (BitVec.ofNat 64 n) out (BitVec.ofNat 64 0) = true := by
  refine tr_nest (posS n) (posV 8) 8 n src _
    (fun f out i b => (Gen.CFun.scalar_byte_split_encode_double_loop2 f src (BitVec.ofNat 64 n) out (BitVec.ofNat 64 i) (BitVec.ofNat 32 b)).1)
    (fun f out i b => Gen.CFun.scalar_byte_split_encode_double_loop2_defined f src (BitVec.ofNat 64 n) out (BitVec.ofNat 64 i) (BitVec.ofNat 32 b))
    (fun f out i => Gen.CFun.scalar_byte_split_encode_double_loop1 f src (BitVec.ofNat 64 n) out (BitVec.ofNat 64 i))
    (fun f out i => Gen.CFun.scalar_byte_split_encode_double_loop1_defined f src (BitVec.ofNat 64 n) out (BitVec.ofNat 64 i))
    (fun b i hb hi => posS_inj 8 n b i hi) (fun b i hb hi => (tr_bounds 8 n b i hb hi (by omega) (by decide)).1) ?_ ?_ ?_ ?_ out ho
  · intro f out i b hi hb hout
    obtain ⟨hS, hV, hS63, hV63, hb31, hb30, hb63, hn63, hi63, hk63⟩ := tr_bounds 8 n b i hb hi (by omega) (by decide)
    simp (disch := first | assumption | decide) only [Gen.CFun.scalar_byte_split_encode_double_loop2, Gen.CFun.scalar_byte_split_encode_double_loop2_defined, ofNat_slt_of_lt, if_true,
      ofNat_sext, i64_mulAdd_toIntNat, i64_mulAdd_msb, i64_mulAdd_sMulOk, i64_mulAdd_sAddOk, ofNat_add, ofNat_sAddOk,
      inb_of_lt_eq _ _ _ hV hs, inb_of_lt_eq _ _ _ hS hout,
      Bool.true_and, Bool.not_false, and_self]
  · intro f out i
    simp (disch := omega) [Gen.CFun.scalar_byte_split_encode_double_loop2, Gen.CFun.scalar_byte_split_encode_double_loop2_defined, ofNat_slt_of_ge]
  · intro f out i hi
    simp (disch := omega) only [Gen.CFun.scalar_byte_split_encode_double_loop1, Gen.CFun.scalar_byte_split_encode_double_loop1_defined, ofNat_slt_of_lt, if_true, ofNat_add, ofNat_sAddOk,
      Bool.true_and, and_self]
  · intro f out hinv
    simpa (disch := omega) [Gen.CFun.scalar_byte_split_encode_double_loop1, Gen.CFun.scalar_byte_split_encode_double_loop1_defined, ofNat_slt_of_ge] using hinv

theorem dec_float_nest (src out : List UInt8) (n : Nat) (hs : src.length = 4 * n) (ho : out.length = 4 * n) (hn : 4 * n + 8 < 2 ^ 63) :
    TrInv (posV 4) (posS n) 4 n src n 0 (Gen.CFun.scalar_byte_split_decode_float_loop1 (n + 1) src (BitVec.ofNat 64 n) out (BitVec.ofNat 64 0)) ∧
    Gen.CFun.scalar_byte_split_decode_float_loop1_defined (n + 1) src (BitVec.ofNat 64 n) out (BitVec.ofNat 64 0) = true := by
  refine tr_nest (posV 4) (posS n) 4 n src _
    (fun f out i b => (Gen.CFun.scalar_byte_split_decode_float_loop2 f src (BitVec.ofNat 64 n) out (BitVec.ofNat 64 i) (BitVec.ofNat 32 b)).1)
    (fun f out i b => Gen.CFun.scalar_byte_split_decode_float_loop2_defined f src (BitVec.ofNat 64 n) out (BitVec.ofNat 64 i) (BitVec.ofNat 32 b))
    (fun f out i => Gen.CFun.scalar_byte_split_decode_float_loop1 f src (BitVec.ofNat 64 n) out (BitVec.ofNat 64 i))
    (fun f out i => Gen.CFun.scalar_byte_split_decode_float_loop1_defined f src (BitVec.ofNat 64 n) out (BitVec.ofNat 64 i))
    (fun b i hb hi => posV_inj 4 n b i hb) (fun b i hb hi => (tr_bounds 4 n b i hb hi (by omega) (by decide)).2.1) ?_ ?_ ?_ ?_ out ho
  · intro f out i b hi hb hout
    obtain ⟨hS, hV, hS63, hV63, hb31, hb30, hb63, hn63, hi63, hk63⟩ := tr_bounds 4 n b i hb hi (by omega) (by decide)
    simp (disch := first | assumption | decide) only [Gen.CFun.scalar_byte_split_decode_float_loop2, Gen.CFun.scalar_byte_split_decode_float_loop2_defined, ofNat_slt_of_lt, if_true,
      ofNat_sext, i64_mulAdd_toIntNat, i64_mulAdd_msb, i64_mulAdd_sMulOk, i64_mulAdd_sAddOk, ofNat_add, ofNat_sAddOk,
      inb_of_lt_eq _ _ _ hS hs, inb_of_lt_eq _ _ _ hV hout,
      Bool.true_and, Bool.not_false, and_self]
  · intro f out i
    simp (disch := omega) [Gen.CFun.scalar_byte_split_decode_float_loop2, Gen.CFun.scalar_byte_split_decode_float_loop2_defined, ofNat_slt_of_ge]
  · intro f out i hi
    simp (disch := omega) only [Gen.CFun.scalar_byte_split_decode_float_loop1, Gen.CFun.scalar_byte_split_decode_float_loop1_defined, ofNat_slt_of_lt, if_true, ofNat_add, ofNat_sAddOk,
      Bool.true_and, and_self]
  · intro f out hinv
    simpa (disch := omega) [Gen.CFun.scalar_byte_split_decode_float_loop1, Gen.CFun.scalar_byte_split_decode_float_loop1_defined, ofNat_slt_of_ge] using hinv

theorem dec_double_nest (src out : List UInt8) (n : Nat) (hs : src.length = 8 * n) (ho : out.length = 8 * n) (hn : 8 * n + 8 < 2 ^ 63) :
    TrInv (posV 8) (posS n) 8 n src n 0 (Gen.CFun.scalar_byte_split_decode_double_loop1 (n + 1) src (BitVec.ofNat 64 n) out (BitVec.ofNat 64 0)) ∧
    Gen.CFun.scalar_byte_split_decode_double_loop1_defined (n + 1) src (BitVec.ofNat 64 n) out (BitVec.ofNat 64 0) = true := by
  refine tr_nest (posV 8) (posS n) 8 n src _
    (fun f out i b => (Gen.CFun.scalar_byte_split_decode_double_loop2 f src (BitVec.ofNat 64 n) out (BitVec.ofNat 64 i) (BitVec.ofNat 32 b)).1)
    (fun f out i b => Gen.CFun.scalar_byte_split_decode_double_loop2_defined f src (BitVec.ofNat 64 n) out (BitVec.ofNat 64 i) (BitVec.ofNat 32 b))
    (fun f out i => Gen.CFun.scalar_byte_split_decode_double_loop1 f src (BitVec.ofNat 64 n) out (BitVec.ofNat 64 i))
    (fun f out i => Gen.CFun.scalar_byte_split_decode_double_loop1_defined f src (BitVec.ofNat 64 n) out (BitVec.ofNat 64 i))
    (fun b i hb hi => posV_inj 8 n b i hb) (fun b i hb hi => (tr_bounds 8 n b i hb hi (by omega) (by decide)).2.1) ?_ ?_ ?_ ?_ out ho
  · intro f out i b hi hb hout
    obtain ⟨hS, hV, hS63, hV63, hb31, hb30, hb63, hn63, hi63, hk63⟩ := tr_bounds 8 n b i hb hi (by omega) (by decide)
    simp (disch := first | assumption | decide) only [Gen.CFun.scalar_byte_split_decode_double_loop2, Gen.CFun.scalar_byte_split_decode_double_loop2_defined, ofNat_slt_of_lt, if_true,
      ofNat_sext, i64_mulAdd_toIntNat, i64_mulAdd_msb, i64_mulAdd_sMulOk, i64_mulAdd_sAddOk, ofNat_add, ofNat_sAddOk,
      inb_of_lt_eq _ _ _ hS hs, inb_of_lt_eq _ _ _ hV hout,
      Bool.true_and, Bool.not_false, and_self]
  · intro f out i
    simp (disch := omega) [Gen.CFun.scalar_byte_split_decode_double_loop2, Gen.CFun.scalar_byte_split_decode_double_loop2_defined, ofNat_slt_of_ge]
  · intro f out i hi
    simp (disch := omega) only [Gen.CFun.scalar_byte_split_decode_double_loop1, Gen.CFun.scalar_byte_split_decode_double_loop1_defined, ofNat_slt_of_lt, if_true, ofNat_add, ofNat_sAddOk,
      Bool.true_and, and_self]
  · intro f out hinv
    simpa (disch := omega) [Gen.CFun.scalar_byte_split_decode_double_loop1, Gen.CFun.scalar_byte_split_decode_double_loop1_defined, ofNat_slt_of_ge] using hinv

/-! ### from the pointwise characterisation to the models -/

theorem flatMap_range_length {α : Type} (f : Nat → List α) (n : Nat) (hf : ∀ b, (f b).length = n) :
    ∀ k, ((List.range k).flatMap f).length = k * n := by
  intro k
  induction k with
  | zero => simp
  | succ k ih => rw [List.range_succ, List.flatMap_append, List.length_append, ih]; simp [hf, Nat.add_mul]

theorem flatMap_range_getElem? {α : Type} (f : Nat → List α) (n : Nat) (hf : ∀ b, (f b).length = n) :
    ∀ k b i, b < k → i < n → ((List.range k).flatMap f)[b * n + i]? = (f b)[i]? := by
  intro k
  induction k with
  | zero => intro b i hb; omega
  | succ k ih =>
    intro b i hb hi
    have hlen := flatMap_range_length f n hf k
    rw [List.range_succ, List.flatMap_append]
    by_cases hbk : b < k
    · rw [List.getElem?_append_left (by rw [hlen]; exact mul_add_lt b i n k hi hbk)]
      exact ih b i hbk hi
    · have : b = k := by omega
      subst this
      rw [List.getElem?_append_right (by rw [hlen]; omega), hlen]
      simp

theorem ext_pointwise (k n : Nat) (a b : List UInt8) (ha : a.length = k * n) (hb : b.length = k * n)
    (h : ∀ b', b' < k → ∀ i', i' < n → a.getD (b' * n + i') 0 = b.getD (b' * n + i') 0) : a = b := by
  apply List.ext_getElem (by rw [ha, hb])
  intro p h1 h2
  have hn : 0 < n := by
    rcases Nat.eq_zero_or_pos n with h0 | h0
    · subst h0; simp at ha; rw [ha] at h1; omega
    · exact h0
  have hp : p < k * n := by rw [← ha]; exact h1
  have hdiv : p / n < k := by
    rw [Nat.div_lt_iff_lt_mul hn]; exact hp
  have := h (p / n) hdiv (p % n) (Nat.mod_lt _ hn)
  rw [Nat.mul_comm, Nat.div_add_mod] at this
  simpa [List.getD, List.getElem?_eq_getElem h1, List.getElem?_eq_getElem h2] using this

theorem bssEncode_getD (k : Nat) (vals : List (BitVec (8 * k))) (b i : Nat) (hb : b < k) (hi : i < vals.length) :
    (Spec.Kernels.bssEncode vals).getD (b * vals.length + i) 0 = Spec.Kernels.byteOf vals[i] b := by
  unfold Spec.Kernels.bssEncode
  simp only [List.getD]
  rw [flatMap_range_getElem? _ vals.length (by simp) k b i hb hi]
  simp [List.getElem?_map, List.getElem?_eq_getElem hi]

theorem bytesOf_getD (k : Nat) (vals : List (BitVec (8 * k))) (b i : Nat) (hb : b < k) (hi : i < vals.length) :
    (vals.flatMap (bytesLE k)).getD (i * k + b) 0 = Spec.Kernels.byteOf vals[i] b := by
  simp only [List.getD]
  rw [Lists.flatMap_getElem? _ k (SimdScalar.bytesLE_length k) vals i b hi hb]
  simp [bytesLE, List.getElem?_map, List.getElem?_range hb]

theorem bssEncode_length (k : Nat) (vals : List (BitVec (8 * k))) : (Spec.Kernels.bssEncode vals).length = k * vals.length :=
  flatMap_range_length _ vals.length (by simp) k

theorem bytesOf_length (k : Nat) (vals : List (BitVec (8 * k))) : (vals.flatMap (bytesLE k)).length = k * vals.length := by
  induction vals with
  | nil => simp
  | cons v vs ih => simp [List.flatMap_cons, ih, SimdScalar.bytesLE_length, Nat.mul_add]; omega

theorem bssEncode_of_inv (k : Nat) (vals : List (BitVec (8 * k))) (out : List UInt8)
    (h : TrInv (posS vals.length) (posV k) k vals.length (vals.flatMap (bytesLE k)) vals.length 0 out) :
    out = Spec.Kernels.bssEncode vals := by
  apply ext_pointwise k vals.length _ _ h.1 (bssEncode_length k vals)
  intro b hb i hi
  rw [h.2 b i hb hi (Or.inl hi), bssEncode_getD k vals b i hb hi]
  exact bytesOf_getD k vals b i hb hi

theorem bytesLE32_eq (v : BitVec 32) : bytesLE32 v = bytesLE 4 v := by
  simp [bytesLE32, bytesLE, List.range, List.range.loop]

theorem scalar_bss_encode_float_eq (vals : List (BitVec 32)) (out : List UInt8) (ho : out.length = 4 * vals.length)
    (hn : 4 * vals.length + 8 < 2 ^ 63) :
    Gen.CFun.scalar_byte_split_encode_float (vals.flatMap bytesLE32) (BitVec.ofNat 64 vals.length) out =
      scalarBssEncodeFloat vals ∧
    Gen.CFun.scalar_byte_split_encode_float_defined (vals.flatMap bytesLE32) (BitVec.ofNat 64 vals.length) out = true := by
  have hsrc : vals.flatMap bytesLE32 = vals.flatMap (bytesLE 4) := by congr 1
  have hs : (vals.flatMap bytesLE32).length = 4 * vals.length := by rw [hsrc]; exact bytesOf_length 4 vals
  have h := enc_float_nest _ out vals.length hs ho hn
  simp only [Gen.CFun.scalar_byte_split_encode_float, Gen.CFun.scalar_byte_split_encode_float_defined,
    ofNat_toInt_toNat _ (show vals.length < 2 ^ 63 by omega)]
  rw [hsrc] at h
  rw [SimdScalar.scalar_bss_enc_float]
  exact ⟨bssEncode_of_inv 4 vals _ h.1, h.2⟩

theorem scalar_bss_encode_double_eq (vals : List (BitVec 64)) (out : List UInt8) (ho : out.length = 8 * vals.length)
    (hn : 8 * vals.length + 8 < 2 ^ 63) :
    Gen.CFun.scalar_byte_split_encode_double (vals.flatMap (bytesLE 8)) (BitVec.ofNat 64 vals.length) out =
      scalarBssEncodeDouble vals ∧
    Gen.CFun.scalar_byte_split_encode_double_defined (vals.flatMap (bytesLE 8)) (BitVec.ofNat 64 vals.length) out = true := by
  have hs : (vals.flatMap (bytesLE 8)).length = 8 * vals.length := bytesOf_length 8 vals
  have h := enc_double_nest _ out vals.length hs ho hn
  simp only [Gen.CFun.scalar_byte_split_encode_double, Gen.CFun.scalar_byte_split_encode_double_defined,
    ofNat_toInt_toNat _ (show vals.length < 2 ^ 63 by omega)]
  rw [SimdScalar.scalar_bss_enc_double]
  exact ⟨bssEncode_of_inv 8 vals _ h.1, h.2⟩

/-- the `n` little-endian `k`-byte values an array of bytes holds (how the C caller reads `float* values`) -/
def valuesOf (k n : Nat) (bytes : List UInt8) : List (BitVec (8 * k)) :=
  (List.range n).map fun i => Spec.Kernels.leValue k ((List.range k).map fun b => bytes.getD (i * k + b) 0)

theorem valuesOf_of_inv (k n : Nat) (data out : List UInt8) (hd : data.length = k * n)
    (h : TrInv (posV k) (posS n) k n data n 0 out) : scalarBssDecode k n data = some (valuesOf k n out) := by
  rw [SimdScalar.scalar_bss_dec k n data hd, Spec.Kernels.bssDecode, if_pos hd]
  congr 1
  apply List.map_congr_left
  intro i hi
  congr 1
  apply List.map_congr_left
  intro b hb
  exact (h.2 b i (by simpa using hb) (by simpa using hi) (Or.inl (by simpa using hi))).symm

theorem scalar_bss_decode_float_eq (data out : List UInt8) (n : Nat) (hd : data.length = 4 * n) (ho : out.length = 4 * n)
    (hn : 4 * n + 8 < 2 ^ 63) :
    scalarBssDecodeFloat n data = some (valuesOf 4 n (Gen.CFun.scalar_byte_split_decode_float data (BitVec.ofNat 64 n) out)) ∧
    Gen.CFun.scalar_byte_split_decode_float_defined data (BitVec.ofNat 64 n) out = true := by
  have h := dec_float_nest data out n hd ho hn
  simp only [Gen.CFun.scalar_byte_split_decode_float, Gen.CFun.scalar_byte_split_decode_float_defined,
    ofNat_toInt_toNat _ (show n < 2 ^ 63 by omega)]
  exact ⟨valuesOf_of_inv 4 n data _ hd h.1, h.2⟩

theorem scalar_bss_decode_double_eq (data out : List UInt8) (n : Nat) (hd : data.length = 8 * n) (ho : out.length = 8 * n)
    (hn : 8 * n + 8 < 2 ^ 63) :
    scalarBssDecodeDouble n data = some (valuesOf 8 n (Gen.CFun.scalar_byte_split_decode_double data (BitVec.ofNat 64 n) out)) ∧
    Gen.CFun.scalar_byte_split_decode_double_defined data (BitVec.ofNat 64 n) out = true := by
  have h := dec_double_nest data out n hd ho hn
  simp only [Gen.CFun.scalar_byte_split_decode_double, Gen.CFun.scalar_byte_split_decode_double_defined,
    ofNat_toInt_toNat _ (show n < 2 ^ 63 by omega)]
  exact ⟨valuesOf_of_inv 8 n data _ hd h.1, h.2⟩

end Carquet.Proofs.CFunB
