import Carquet.Proofs.CFunB.Bss
import Carquet.Impl.Bss
import Carquet.Proofs.Bss
/-
`carquet_byte_stream_split_encode` / `_decode` (src/encoding/byte_stream_split.c: the generic FIXED_LEN_BYTE_ARRAY loops,
with their argument checks) as translated from the current C source, against Impl.Bss.encode / decode.
-/
namespace Carquet.Proofs.CFunB
open Carquet Carquet.Impl Carquet.Impl.CSem Carquet.Proofs.CSem

/-! ### encode: `for (b < type_length) for (i < count) output[b * count + i] = values[i * type_length + b]` -/

/-- write / read position of the encoder, inner index first -/
abbrev encW (n : Nat) (i b : Nat) : Nat := b * n + i
abbrev encR (k : Nat) (i b : Nat) : Nat := i * k + b

theorem bss_enc_nest (src out : List UInt8) (n k : Nat) (hs : src.length = n * k) (ho : out.length = n * k)
    (hn : n * k + k + n < 2 ^ 63) (hk : k < 2 ^ 30) (cap bw req : BitVec 64) :
    ((Gen.CFun.carquet_byte_stream_split_encode_loop1 (k + 1) src (BitVec.ofNat 64 n) (BitVec.ofNat 32 k) out cap bw req
        (BitVec.ofNat 32 0)).1 = 0#32 ∧
      TrInv (encW n) (encR k) n k src k 0 (Gen.CFun.carquet_byte_stream_split_encode_loop1 (k + 1) src (BitVec.ofNat 64 n)
        (BitVec.ofNat 32 k) out cap bw req (BitVec.ofNat 32 0)).2.1 ∧
      (Gen.CFun.carquet_byte_stream_split_encode_loop1 (k + 1) src (BitVec.ofNat 64 n) (BitVec.ofNat 32 k) out cap bw req
        (BitVec.ofNat 32 0)).2.2 = req) ∧
    Gen.CFun.carquet_byte_stream_split_encode_loop1_defined (k + 1) src (BitVec.ofNat 64 n) (BitVec.ofNat 32 k) out cap bw req
      (BitVec.ofNat 32 0) = true := by
  refine tr_nest (encW n) (encR k) n k src (fun r => r.1 = 0#32 ∧ TrInv (encW n) (encR k) n k src k 0 r.2.1 ∧ r.2.2 = req)
    (fun f out b i => (Gen.CFun.carquet_byte_stream_split_encode_loop2 f src (BitVec.ofNat 64 n) (BitVec.ofNat 32 k) out cap bw req
      (BitVec.ofNat 32 b) (BitVec.ofNat 64 i)).1)
    (fun f out b i => Gen.CFun.carquet_byte_stream_split_encode_loop2_defined f src (BitVec.ofNat 64 n) (BitVec.ofNat 32 k) out cap bw
      req (BitVec.ofNat 32 b) (BitVec.ofNat 64 i))
    (fun f out b => Gen.CFun.carquet_byte_stream_split_encode_loop1 f src (BitVec.ofNat 64 n) (BitVec.ofNat 32 k) out cap bw req
      (BitVec.ofNat 32 b))
    (fun f out b => Gen.CFun.carquet_byte_stream_split_encode_loop1_defined f src (BitVec.ofNat 64 n) (BitVec.ofNat 32 k) out cap bw
      req (BitVec.ofNat 32 b))
    (fun i b hi hb i' b' hi' _ h => (mul_add_inj b' b i' i n hi' hi h).symm)
    (fun i b hi hb => by rw [Nat.mul_comm n k]; exact mul_add_lt b i n k hi hb) ?_ ?_ ?_ ?_ out ho
  · intro f out b i hb hi hout
    obtain ⟨hS, hV, hS63, hV63, hb31, hb30, hb63, hn63, hi63, hk63⟩ := tr_bounds k n b i hb hi (by rw [Nat.mul_comm]; omega) hk
    have hi1 : i + 1 < 2 ^ 63 := by omega
    have hk31 : k < 2 ^ 31 := by omega
    simp (disch := first | assumption | decide) only [Gen.CFun.carquet_byte_stream_split_encode_loop2,
      Gen.CFun.carquet_byte_stream_split_encode_loop2_defined, ofNat_slt_of_lt, if_true, ofNat_sext, i64_mulAdd_toIntNat, i64_mulAdd_msb,
      i64_mulAdd_sMulOk, i64_mulAdd_sAddOk, ofNat_add, ofNat_sAddOk, inb_of_lt_eq _ _ _ hV (Nat.mul_comm n k ▸ hs),
      inb_of_lt_eq _ _ _ hS (Nat.mul_comm n k ▸ hout), Bool.true_and, Bool.not_false, and_self]
  · intro f out b
    simp (disch := omega) [Gen.CFun.carquet_byte_stream_split_encode_loop2, Gen.CFun.carquet_byte_stream_split_encode_loop2_defined,
      ofNat_slt_of_ge]
  · intro f out b hb
    simp (disch := omega) only [Gen.CFun.carquet_byte_stream_split_encode_loop1,
      Gen.CFun.carquet_byte_stream_split_encode_loop1_defined, ofNat_slt_of_lt, if_true, ofNat_toInt_toNat, ofNat_add, ofNat_sAddOk,
      Bool.true_and, and_self]
  · intro f out hinv
    simpa (disch := omega) [Gen.CFun.carquet_byte_stream_split_encode_loop1,
      Gen.CFun.carquet_byte_stream_split_encode_loop1_defined, ofNat_slt_of_ge] using hinv

/-- a grid of `A × B` reads `l[pos a b]`, all inside `l`, collected row by row as `Bss.scatterSeq` and `Bss.gather` do -/
theorem mapOpt_grid (l : List UInt8) (pos : Nat → Nat → Nat) (A B : Nat) (h : ∀ a, a < A → ∀ b, b < B → pos a b < l.length) :
    ∃ rows, Bss.mapOpt (fun a => Bss.mapOpt (fun b => l[pos a b]?) (List.range B)) (List.range A) = some rows ∧
      rows.flatten.length = A * B ∧ ∀ a, a < A → ∀ b, b < B → rows.flatten.getD (a * B + b) 0 = l.getD (pos a b) 0 := by
  refine ⟨(List.range A).map fun a => (List.range B).map fun b => l.getD (pos a b) 0, ?_, ?_, ?_⟩
  · apply Bss.mapOpt_eq_some_map
    intro a ha
    apply Bss.mapOpt_eq_some_map
    intro b hb
    have := h a (by simpa using ha) b (by simpa using hb)
    simp [List.getD, List.getElem?_eq_getElem this]
  · rw [← List.flatMap_def]; exact flatMap_range_length _ B (by simp) A
  · intro a ha b hb
    rw [← List.flatMap_def]
    simp only [List.getD]
    rw [flatMap_range_getElem? _ B (by simp) A a b ha hb]
    simp [List.getElem?_map, List.getElem?_range hb]

theorem scatterSeq_pointwise (k n : Nat) (values : List UInt8) (hs : values.length = n * k) :
    ∃ L, Bss.scatterSeq k values n = some L ∧ L.length = k * n ∧
      ∀ b, b < k → ∀ i, i < n → L.getD (b * n + i) 0 = values.getD (i * k + b) 0 := by
  obtain ⟨rows, hrows, hlen, hp⟩ := mapOpt_grid values (fun b i => i * k + b) k n
    (fun b hb i hi => by rw [hs]; exact mul_add_lt i b k n hb hi)
  exact ⟨rows.flatten, by rw [Bss.scatterSeq, hrows], hlen, hp⟩

theorem requiredSize_nat (n k : Nat) (hn : n < 2 ^ 63) (h : n * k < 2 ^ 64) : Bss.requiredSize (n : Int) k = n * k := by
  have : ((n : Int) % 2 ^ 64).toNat = n := by omega
  rw [Bss.requiredSize, Bss.sizeT, this, Nat.mod_eq_of_lt h]

/-- past the argument checks: the capacity test, then the loops -/
theorem bss_encode_entry (values out : List UInt8) (n k cap : Nat) (bw : BitVec 64) (hk0 : 0 < k) (hk : k < 2 ^ 30)
    (hn : n * k < 2 ^ 63) (hn2 : n < 2 ^ 63) (hc : cap < 2 ^ 64) :
    Gen.CFun.carquet_byte_stream_split_encode values (BitVec.ofNat 64 n) (BitVec.ofNat 32 k) out (BitVec.ofNat 64 cap) bw =
      (if cap < n * k then (41#32, out, bw) else
        Gen.CFun.carquet_byte_stream_split_encode_loop1 (k + 1) values (BitVec.ofNat 64 n) (BitVec.ofNat 32 k) out (BitVec.ofNat 64 cap)
          bw (BitVec.ofNat 64 (n * k)) (BitVec.ofNat 32 0)) ∧
    Gen.CFun.carquet_byte_stream_split_encode_defined values (BitVec.ofNat 64 n) (BitVec.ofNat 32 k) out (BitVec.ofNat 64 cap) bw =
      (if cap < n * k then true else
        Gen.CFun.carquet_byte_stream_split_encode_loop1_defined (k + 1) values (BitVec.ofNat 64 n) (BitVec.ofNat 32 k) out
          (BitVec.ofNat 64 cap) bw (BitVec.ofNat 64 (n * k)) (BitVec.ofNat 32 0)) ∧
    Bss.encode values (n : Int) (k : Int) cap =
      (if cap < n * k then .error .encode else match Bss.scatterSeq k values n with | some out => .ok out | none => .oob) := by
  have h1 : ¬ ((k : Int) ≤ 0) := by omega
  simp only [Gen.CFun.carquet_byte_stream_split_encode, Gen.CFun.carquet_byte_stream_split_encode_defined, Bss.encode, Bool.or_self,
    ofNat_sle (v := 31) k 0 (by omega) (by decide), decide_eq_false (show ¬ k ≤ 0 from Nat.not_le.mpr hk0), Bool.false_eq_true, if_false, ofNat_sext (v := 31) (u := 64) k (by omega) (by decide), ofNat_mul, ofNat_lt cap (n * k) hc (by omega),
    decide_eq_true_eq, ofNat_toInt (v := 31) k (by omega), Int.toNat_natCast, h1, requiredSize_nat n k hn2 (by omega)]
  exact ⟨trivial, trivial, rfl⟩

theorem bss_encode_ok (values out : List UInt8) (n k : Nat) (cap : Nat) (bw : BitVec 64) (hk0 : 0 < k) (hk : k < 2 ^ 30)
    (hs : values.length = n * k) (ho : out.length = n * k) (hn : n * k + k + n < 2 ^ 63) (hcap : n * k ≤ cap) (hc : cap < 2 ^ 64) :
    (∃ L, Bss.encode values (n : Int) (k : Int) cap = .ok L ∧
      Gen.CFun.carquet_byte_stream_split_encode values (BitVec.ofNat 64 n) (BitVec.ofNat 32 k) out (BitVec.ofNat 64 cap) bw =
        (0#32, L, BitVec.ofNat 64 L.length)) ∧
    Gen.CFun.carquet_byte_stream_split_encode_defined values (BitVec.ofNat 64 n) (BitVec.ofNat 32 k) out (BitVec.ofNat 64 cap) bw
      = true := by
  obtain ⟨L, hL, hLlen, hLp⟩ := scatterSeq_pointwise k n values hs
  obtain ⟨hv, hd, hm⟩ := bss_encode_entry values out n k cap bw hk0 hk (by omega) (by omega) hc
  have h := bss_enc_nest values out n k hs ho hn hk (BitVec.ofNat 64 cap) bw (BitVec.ofNat 64 (n * k))
  rw [if_neg (by omega)] at hv hd hm
  rw [hv, hd, hm, hL]
  refine ⟨⟨L, rfl, Prod.ext h.1.1 (Prod.ext ?_ ?_)⟩, h.2⟩
  · apply ext_pointwise k n _ _ (by rw [h.1.2.1.1, Nat.mul_comm]) hLlen
    intro b hb i hi
    rw [hLp b hb i hi]
    exact h.1.2.1.2 i b hi hb (Or.inl hb)
  · simp only [h.1.2.2, hLlen, Nat.mul_comm]

theorem bss_encode_invalid (values out : List UInt8) (count cap bw : BitVec 64) (tl : BitVec 32) (h : tl.toInt ≤ 0) :
    Gen.CFun.carquet_byte_stream_split_encode values count tl out cap bw = (1#32, out, bw) ∧
    Gen.CFun.carquet_byte_stream_split_encode_defined values count tl out cap bw = true ∧
    Bss.encode values count.toInt tl.toInt cap.toNat = .error .invalidArgument := by
  have hsle : BitVec.sle tl 0#32 = true := by rw [BitVec.sle_eq_decide]; simpa using h
  simp [Gen.CFun.carquet_byte_stream_split_encode, Gen.CFun.carquet_byte_stream_split_encode_defined, hsle, Bss.encode, h]

theorem bss_encode_small (values out : List UInt8) (n k cap : Nat) (bw : BitVec 64) (hk0 : 0 < k) (hk : k < 2 ^ 30)
    (hn : n * k < 2 ^ 63) (hn2 : n < 2 ^ 63) (hcap : cap < n * k) :
    Gen.CFun.carquet_byte_stream_split_encode values (BitVec.ofNat 64 n) (BitVec.ofNat 32 k) out (BitVec.ofNat 64 cap) bw =
      (41#32, out, bw) ∧
    Gen.CFun.carquet_byte_stream_split_encode_defined values (BitVec.ofNat 64 n) (BitVec.ofNat 32 k) out (BitVec.ofNat 64 cap) bw
      = true ∧
    Bss.encode values (n : Int) (k : Int) cap = .error .encode := by
  have h := bss_encode_entry values out n k cap bw hk0 hk hn hn2 (by omega)
  rwa [if_pos hcap, if_pos hcap, if_pos hcap] at h

/-! ### decode: `for (i < count) for (b < type_length) values[i * type_length + b] = data[b * count + i]` -/

theorem bss_dec_nest (src out : List UInt8) (n k : Nat) (hs : k * n ≤ src.length) (ho : out.length = k * n)
    (hn : k * n + k + n < 2 ^ 63) (hk : k < 2 ^ 30) (dsz req : BitVec 64) :
    ((Gen.CFun.carquet_byte_stream_split_decode_loop1 (n + 1) src dsz (BitVec.ofNat 32 k) out (BitVec.ofNat 64 n) req
        (BitVec.ofNat 64 0)).1 = 0#32 ∧
      TrInv (posV k) (posS n) k n src n 0 (Gen.CFun.carquet_byte_stream_split_decode_loop1 (n + 1) src dsz (BitVec.ofNat 32 k) out
        (BitVec.ofNat 64 n) req (BitVec.ofNat 64 0)).2) ∧
    Gen.CFun.carquet_byte_stream_split_decode_loop1_defined (n + 1) src dsz (BitVec.ofNat 32 k) out (BitVec.ofNat 64 n) req
      (BitVec.ofNat 64 0) = true := by
  refine tr_nest (posV k) (posS n) k n src (fun r => r.1 = 0#32 ∧ TrInv (posV k) (posS n) k n src n 0 r.2)
    (fun f out i b => (Gen.CFun.carquet_byte_stream_split_decode_loop2 f src dsz (BitVec.ofNat 32 k) out (BitVec.ofNat 64 n) req
      (BitVec.ofNat 64 i) (BitVec.ofNat 32 b)).1)
    (fun f out i b => Gen.CFun.carquet_byte_stream_split_decode_loop2_defined f src dsz (BitVec.ofNat 32 k) out (BitVec.ofNat 64 n) req
      (BitVec.ofNat 64 i) (BitVec.ofNat 32 b))
    (fun f out i => Gen.CFun.carquet_byte_stream_split_decode_loop1 f src dsz (BitVec.ofNat 32 k) out (BitVec.ofNat 64 n) req
      (BitVec.ofNat 64 i))
    (fun f out i => Gen.CFun.carquet_byte_stream_split_decode_loop1_defined f src dsz (BitVec.ofNat 32 k) out (BitVec.ofNat 64 n) req
      (BitVec.ofNat 64 i))
    (fun b i hb hi => posV_inj k n b i hb) (fun b i hb hi => (tr_bounds k n b i hb hi (by omega) hk).2.1) ?_ ?_ ?_ ?_ out ho
  · intro f out i b hi hb hout
    obtain ⟨hS, hV, hS63, hV63, hb31, hb30, hb63, hn63, hi63, hk63⟩ := tr_bounds k n b i hb hi (by omega) hk
    have hk31 : k < 2 ^ 31 := by omega
    simp (disch := first | assumption | decide) only [Gen.CFun.carquet_byte_stream_split_decode_loop2,
      Gen.CFun.carquet_byte_stream_split_decode_loop2_defined, ofNat_slt_of_lt, if_true, ofNat_sext, i64_mulAdd_toIntNat, i64_mulAdd_msb,
      i64_mulAdd_sMulOk, i64_mulAdd_sAddOk, ofNat_add, ofNat_sAddOk, inb_of_lt src _ (Nat.lt_of_lt_of_le hS hs),
      inb_of_lt_eq _ _ _ hV hout, Bool.true_and, Bool.not_false, and_self]
  · intro f out i
    simp (disch := omega) [Gen.CFun.carquet_byte_stream_split_decode_loop2, Gen.CFun.carquet_byte_stream_split_decode_loop2_defined,
      ofNat_slt_of_ge]
  · intro f out i hi
    simp (disch := omega) only [Gen.CFun.carquet_byte_stream_split_decode_loop1,
      Gen.CFun.carquet_byte_stream_split_decode_loop1_defined, ofNat_slt_of_lt, if_true, ofNat_toInt, Int.toNat_natCast,
      ofNat_add, ofNat_sAddOk, Bool.true_and, and_self]
  · intro f out hinv
    simpa (disch := omega) [Gen.CFun.carquet_byte_stream_split_decode_loop1,
      Gen.CFun.carquet_byte_stream_split_decode_loop1_defined, ofNat_slt_of_ge] using hinv

theorem gather_pointwise (k n : Nat) (data : List UInt8) (hs : k * n ≤ data.length) :
    ∃ L, Bss.gather k data n = some L ∧ L.length = n * k ∧
      ∀ i, i < n → ∀ b, b < k → L.getD (i * k + b) 0 = data.getD (b * n + i) 0 := by
  obtain ⟨rows, hrows, hlen, hp⟩ := mapOpt_grid data (fun i b => b * n + i) n k
    (fun i hi b hb => Nat.lt_of_lt_of_le (mul_add_lt b i n k hi hb) hs)
  exact ⟨rows.flatten, by rw [Bss.gather, hrows], hlen, hp⟩

/-- past the argument checks: the size test, then the loops -/
theorem bss_decode_entry (data out : List UInt8) (n k : Nat) (hk0 : 0 < k) (hk : k < 2 ^ 30) (hn : n * k < 2 ^ 63)
    (hn2 : n < 2 ^ 63) (hd : data.length < 2 ^ 64) :
    Gen.CFun.carquet_byte_stream_split_decode data (BitVec.ofNat 64 data.length) (BitVec.ofNat 32 k) out (BitVec.ofNat 64 n) =
      (if data.length < n * k then (40#32, out) else
        Gen.CFun.carquet_byte_stream_split_decode_loop1 (n + 1) data (BitVec.ofNat 64 data.length) (BitVec.ofNat 32 k) out
          (BitVec.ofNat 64 n) (BitVec.ofNat 64 (n * k)) (BitVec.ofNat 64 0)) ∧
    Gen.CFun.carquet_byte_stream_split_decode_defined data (BitVec.ofNat 64 data.length) (BitVec.ofNat 32 k) out
        (BitVec.ofNat 64 n) =
      (if data.length < n * k then true else
        Gen.CFun.carquet_byte_stream_split_decode_loop1_defined (n + 1) data (BitVec.ofNat 64 data.length) (BitVec.ofNat 32 k) out
          (BitVec.ofNat 64 n) (BitVec.ofNat 64 (n * k)) (BitVec.ofNat 64 0)) ∧
    Bss.decode data (k : Int) (n : Int) =
      (if data.length < n * k then .error .decode else match Bss.gather k data n with | some vals => .ok vals | none => .oob) := by
  have h1 : ¬ ((k : Int) ≤ 0) := by omega
  simp only [Gen.CFun.carquet_byte_stream_split_decode, Gen.CFun.carquet_byte_stream_split_decode_defined, Bss.decode, Bool.or_self,
    ofNat_sle (v := 31) k 0 (by omega) (by decide), decide_eq_false (show ¬ k ≤ 0 from Nat.not_le.mpr hk0), Bool.false_eq_true, if_false, ofNat_sext (v := 31) (u := 64) k (by omega) (by decide), ofNat_mul, ofNat_lt _ (n * k) hd (by omega),
    decide_eq_true_eq, ofNat_toInt_toNat n hn2, Int.toNat_natCast, h1, requiredSize_nat n k hn2 (by omega)]
  exact ⟨trivial, trivial, rfl⟩

theorem bss_decode_ok (data out : List UInt8) (n k : Nat) (hk0 : 0 < k) (hk : k < 2 ^ 30)
    (hs : k * n ≤ data.length) (hd : data.length < 2 ^ 64) (ho : out.length = k * n) (hn : k * n + k + n < 2 ^ 63) :
    (∃ L, Bss.decode data (k : Int) (n : Int) = .ok L ∧
      Gen.CFun.carquet_byte_stream_split_decode data (BitVec.ofNat 64 data.length) (BitVec.ofNat 32 k) out (BitVec.ofNat 64 n) =
        (0#32, L)) ∧
    Gen.CFun.carquet_byte_stream_split_decode_defined data (BitVec.ofNat 64 data.length) (BitVec.ofNat 32 k) out
      (BitVec.ofNat 64 n) = true := by
  obtain ⟨L, hL, hLlen, hLp⟩ := gather_pointwise k n data hs
  have hnk : n * k = k * n := Nat.mul_comm n k
  obtain ⟨hv, hdf, hm⟩ := bss_decode_entry data out n k hk0 hk (by omega) (by omega) hd
  have h := bss_dec_nest data out n k hs ho hn hk (BitVec.ofNat 64 data.length) (BitVec.ofNat 64 (n * k))
  rw [if_neg (by omega)] at hv hdf hm
  rw [hv, hdf, hm, hL]
  refine ⟨⟨L, rfl, Prod.ext h.1.1 ?_⟩, h.2⟩
  apply ext_pointwise n k _ _ (by rw [h.1.2.1, Nat.mul_comm]) hLlen
  intro i hi b hb
  rw [hLp i hi b hb]
  exact h.1.2.2 b i hb hi (Or.inl hi)

theorem bss_decode_short (data out : List UInt8) (n k : Nat) (hk0 : 0 < k) (hk : k < 2 ^ 30) (hn : n * k < 2 ^ 63)
    (hn2 : n < 2 ^ 63) (hs : data.length < n * k) :
    Gen.CFun.carquet_byte_stream_split_decode data (BitVec.ofNat 64 data.length) (BitVec.ofNat 32 k) out (BitVec.ofNat 64 n) =
      (40#32, out) ∧
    Gen.CFun.carquet_byte_stream_split_decode_defined data (BitVec.ofNat 64 data.length) (BitVec.ofNat 32 k) out
      (BitVec.ofNat 64 n) = true ∧
    Bss.decode data (k : Int) (n : Int) = .error .decode := by
  have h := bss_decode_entry data out n k hk0 hk hn hn2 (by omega)
  rwa [if_pos hs, if_pos hs, if_pos hs] at h

end Carquet.Proofs.CFunB
