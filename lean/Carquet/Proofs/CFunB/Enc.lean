import Carquet.Proofs.CFunB.Snappy
import Carquet.Proofs.CFunB.Match
import Carquet.Impl.Dictionary
import Carquet.Impl.Delta
import Carquet.Impl.DeltaStrings
import Carquet.Impl.Plain
import Carquet.Impl.Lz4
import Carquet.Proofs.CFun2.Loads
/-
Small array loops of the encodings and codecs as translated from the current C source: `dict_hash` (dictionary.c),
`write_uleb128` (delta.c), `common_prefix_length` (delta_strings.c), `carquet_decode_plain_fixed_byte_array` (plain.c),
`snappy_read32` / `lz4_read32`.
-/
namespace Carquet.Proofs.CFunB
open Carquet Carquet.Impl Carquet.Impl.CSem Carquet.Proofs.CSem

/-! ### dict_hash (FNV-1a) -/

def fnvStep (h : UInt32) (b : UInt8) : UInt32 := (h ^^^ b.toUInt32) * UInt32.ofNat Gen.dictHashPrime

theorem fnvStep_bv (h : UInt32) (b : UInt8) :
    (fnvStep h b).toBitVec = (h.toBitVec ^^^ BitVec.setWidth 32 b.toBitVec) * 16777619#32 := by
  simp [fnvStep, Gen.dictHashPrime]

theorem dict_hash_eq (data : List UInt8) (h : data.length < 2 ^ 64) :
    Gen.CFun.dict_hash data (BitVec.ofNat 64 data.length) = (Dictionary.dictHash data).toBitVec ∧
    Gen.CFun.dict_hash_defined data (BitVec.ofNat 64 data.length) = true := by
  simp only [Gen.CFun.dict_hash, Gen.CFun.dict_hash_defined, toNat_ofNat _ h]
  refine fold_loop data fnvStep UInt32.toBitVec (fun _ _ => True)
    (fun f a i => Gen.CFun.dict_hash_loop1 f data (BitVec.ofNat 64 data.length) a.toBitVec (BitVec.ofNat 64 i))
    (fun f a i => Gen.CFun.dict_hash_loop1_defined f data (BitVec.ofNat 64 data.length) a.toBitVec (BitVec.ofNat 64 i)) ?_ ?_
    (UInt32.ofNat Gen.dictHashOffset) trivial
  · intro f done x rest a harr _
    have hl : done.length + (rest.length + 1) < 2 ^ 64 := by rw [harr, List.length_append, List.length_cons] at h; exact h
    have hlt : decide (BitVec.ofNat 64 done.length < BitVec.ofNat 64 (done.length + (rest.length + 1))) = true := by
      rw [ofNat_lt _ _ (by omega) hl]; simp
    -- the new `h` of the round, read off the generated text up to unfolding
    have hv : (a.toBitVec ^^^ BitVec.setWidth 32 (rd8 (done ++ x :: rest) (BitVec.ofNat 64 done.length).toNat)) * 16777619#32 =
        (fnvStep a x).toBitVec := by
      rw [toNat_ofNat _ (show done.length < 2 ^ 64 by omega), rd8_at, fnvStep_bv]
    simp only [Gen.CFun.dict_hash_loop1, Gen.CFun.dict_hash_loop1_defined, harr, List.length_append, List.length_cons, hlt, if_true,
      toNat_ofNat _ (show done.length < 2 ^ 64 by omega), inb_at, ofNat_add, Bool.true_and, and_true]
    exact ⟨congrArg (Gen.CFun.dict_hash_loop1 f _ _ · _) hv, congrArg (Gen.CFun.dict_hash_loop1_defined f _ _ · _) hv⟩
  · intro f a
    simp [Gen.CFun.dict_hash_loop1, Gen.CFun.dict_hash_loop1_defined]

/-! ### write_uleb128 -/

theorem or128_64 (x : BitVec 64) : UInt8.ofBitVec (BitVec.setWidth 8 (x ||| 128#64)) = UInt8.ofNat (x.toNat ||| 0x80) := by
  rw [CFun2.byte_of_setWidth, BitVec.toNat_or]; rfl

theorem shr7_lt (v : BitVec 64) (k : Nat) (h : v.toNat < 2 ^ (7 * (k + 1 + 1))) : (v >>> 7).toNat < 2 ^ (7 * (k + 1)) := by
  rw [BitVec.toNat_ushiftRight]; exact CFun2.shr7_lt _ k h

theorem write_uleb_loop :
    ∀ (k : Nat) (v : BitVec 64) (data : List UInt8) (off fuel : Nat), v.toNat < 2 ^ (7 * (k + 1)) → k < fuel →
      off + k + 1 < 2 ^ 64 → off + (Delta.writeUlebLoop k v).length ≤ data.length →
      Gen.CFun.write_uleb128_loop1 fuel data v (BitVec.ofNat 64 off) =
        (BitVec.ofNat 64 (off + (Delta.writeUlebLoop k v).length), setRun data off (Delta.writeUlebLoop k v)) ∧
      Gen.CFun.write_uleb128_loop1_defined fuel data v (BitVec.ofNat 64 off) = true := by
  intro k
  induction k with
  | zero =>
    intro v data off fuel hv hf hp hl
    obtain ⟨f, rfl⟩ := exists_fuel hf
    have hc : decide (128#64 ≤ v) = false := by
      simp only [decide_eq_false_iff_not, BitVec.le_def, show (128#64 : BitVec 64).toNat = 128 from rfl]; omega
    simp only [Gen.CFun.write_uleb128_loop1, Gen.CFun.write_uleb128_loop1_defined, hc, Bool.false_eq_true, if_false,
      toNat_ofNat (w := 64) off (by omega), wr8, inb_of_lt data off hl, CFun2.byte_of_setWidth, Delta.writeUlebLoop, List.length_singleton, ofNat_add,
      setRun, and_self]
  | succ k ih =>
    intro v data off fuel hv hf hp hl
    obtain ⟨f, rfl⟩ := exists_fuel hf
    rw [Delta.writeUlebLoop] at hl ⊢
    by_cases h128 : 0x80 ≤ v.toNat
    · have hc : decide (128#64 ≤ v) = true := by
        simp only [decide_eq_true_eq, BitVec.le_def, show (128#64 : BitVec 64).toNat = 128 from rfl]; exact h128
      rw [if_pos h128] at hl ⊢
      rw [List.length_cons] at hl
      have hnext := ih (v >>> 7) (data.set off (UInt8.ofNat (v.toNat ||| 0x80))) (off + 1) f (shr7_lt v k hv) (Nat.lt_of_succ_lt_succ hf)
        (by omega) (by rw [List.length_set]; omega)
      simp only [Gen.CFun.write_uleb128_loop1, Gen.CFun.write_uleb128_loop1_defined, hc, if_true, toNat_ofNat (w := 64) off (by omega),
        inb_of_lt data off (by omega), List.length_cons, setRun, wr8, or128_64, ofNat_add, Bool.true_and]
      rwa [show off + ((Delta.writeUlebLoop k (v >>> 7)).length + 1) = off + 1 + (Delta.writeUlebLoop k (v >>> 7)).length by omega]
    · have hc : decide (128#64 ≤ v) = false := by
        simp only [decide_eq_false_iff_not, BitVec.le_def, show (128#64 : BitVec 64).toNat = 128 from rfl]; exact h128
      rw [if_neg h128] at hl ⊢
      simp only [Gen.CFun.write_uleb128_loop1, Gen.CFun.write_uleb128_loop1_defined, hc, Bool.false_eq_true, if_false,
        toNat_ofNat (w := 64) off (by omega), wr8, inb_of_lt data off hl, CFun2.byte_of_setWidth, List.length_singleton, ofNat_add, setRun, and_self]

theorem write_uleb128_eq (data : List UInt8) (v : BitVec 64) (h : (Delta.writeUleb128 v).length ≤ data.length) :
    Gen.CFun.write_uleb128 data v =
      (BitVec.ofNat 64 (Delta.writeUleb128 v).length, Delta.writeUleb128 v ++ data.drop (Delta.writeUleb128 v).length) ∧
    Gen.CFun.write_uleb128_defined data v = true := by
  have hf : Delta.writeUlebLoop 10 v = Delta.writeUlebLoop 9 v := by
    -- the tenth iteration cannot continue: after nine shifts by 7 a 64-bit value is below 2
    have key : ∀ (k : Nat) (w : BitVec 64), w.toNat < 2 ^ (7 * (k + 1)) → Delta.writeUlebLoop (k + 1) w = Delta.writeUlebLoop k w := by
      intro k
      induction k with
      | zero => intro w hw; simp [Delta.writeUlebLoop]; omega
      | succ k ih =>
        intro w hw
        conv => lhs; rw [Delta.writeUlebLoop]
        conv => rhs; rw [Delta.writeUlebLoop]
        rw [ih _ (shr7_lt w k hw)]
    exact key 9 v (by have := v.isLt; omega)
  unfold Delta.writeUleb128 at h ⊢
  rw [hf] at h ⊢
  have := write_uleb_loop 9 v data 0 11 (by have := v.isLt; omega) (by omega) (by omega) (by omega)
  rw [setRun_zero _ data h] at this
  simpa [Gen.CFun.write_uleb128, Gen.CFun.write_uleb128_defined] using this

/-! ### common_prefix_length -/

theorem common_prefix_loop (a b : List UInt8) (alen blen : BitVec 32) (m : Nat) (hm : m ≤ a.length) (hm2 : m ≤ b.length)
    (hm3 : m < 2 ^ 31) :
    ∀ (d k fuel : Nat), k + d = m → d < fuel →
      Gen.CFun.common_prefix_length_loop1 fuel a b alen blen (BitVec.ofNat 32 m) (BitVec.ofNat 32 k) (BitVec.ofNat 32 k) =
        BitVec.ofNat 32 (k + DeltaStrings.commonPrefixLength ((a.take m).drop k) ((b.take m).drop k)) ∧
      Gen.CFun.common_prefix_length_loop1_defined fuel a b alen blen (BitVec.ofNat 32 m) (BitVec.ofNat 32 k) (BitVec.ofNat 32 k)
        = true := by
  intro d
  induction d with
  | zero =>
    intro k fuel hk hf
    obtain ⟨f, rfl⟩ := exists_fuel hf
    have hlt : decide (BitVec.ofNat 32 k < BitVec.ofNat 32 m) = false := by
      rw [ofNat_lt _ _ (by omega) (by omega)]; simp; omega
    have hdrop : (a.take m).drop k = [] := by simp; omega
    simp only [Gen.CFun.common_prefix_length_loop1, Gen.CFun.common_prefix_length_loop1_defined, Gen.CFun.common_prefix_length_k1,
      Gen.CFun.common_prefix_length_k1_defined, hlt, hdrop, DeltaStrings.commonPrefixLength, Bool.false_eq_true, if_false]
    simp
  | succ d ih =>
    intro k fuel hk hf
    obtain ⟨f, rfl⟩ := exists_fuel hf
    have hkm : k < m := by omega
    have hlt : decide (BitVec.ofNat 32 k < BitVec.ofNat 32 m) = true := by
      rw [ofNat_lt _ _ (by omega) (by omega)]; simp [hkm]
    have hka : k < a.length := by omega
    have hkb : k < b.length := by omega
    have hda : (a.take m).drop k = a[k] :: (a.take m).drop (k + 1) := by
      rw [List.drop_eq_getElem_cons (by simp; omega)]; simp
    have hdb : (b.take m).drop k = b[k] :: (b.take m).drop (k + 1) := by
      rw [List.drop_eq_getElem_cons (by simp; omega)]; simp
    have hnext := ih (k + 1) f (by omega) (by omega)
    have hne : ((BitVec.setWidth 32 a[k].toBitVec) != (BitVec.setWidth 32 b[k].toBitVec)) = !(a[k] == b[k]) := by
      rw [bne, zext_beq, u8_beq]
    simp only [Gen.CFun.common_prefix_length_loop1, Gen.CFun.common_prefix_length_loop1_defined,
      Gen.CFun.common_prefix_length_k1, Gen.CFun.common_prefix_length_k1_defined, hlt, if_true,
      toNat_ofNat _ (show k < 2 ^ 32 by omega), rd8_of_lt _ _ hka, rd8_of_lt _ _ hkb, inb_of_lt _ _ hka, inb_of_lt _ _ hkb, hne,
      ofNat_add, ofNat_sAddOk (v := 31) k 1 (by omega), hda, hdb, DeltaStrings.commonPrefixLength, Bool.true_and]
    by_cases he : a[k] = b[k]
    · simp only [he, beq_self_eq_true, Bool.not_true, Bool.false_eq_true, if_false, if_true]
      refine ⟨?_, hnext.2⟩
      rw [hnext.1]; congr 1; omega
    · have h1 : (a[k] == b[k]) = false := by simpa using he
      simp [h1, he]

theorem common_prefix_length_eq (a b : List UInt8) (ha : a.length < 2 ^ 31) (hb : b.length < 2 ^ 31) :
    Gen.CFun.common_prefix_length a (BitVec.ofNat 32 a.length) b (BitVec.ofNat 32 b.length) =
      BitVec.ofNat 32 (DeltaStrings.commonPrefixLength a b) ∧
    Gen.CFun.common_prefix_length_defined a (BitVec.ofNat 32 a.length) b (BitVec.ofNat 32 b.length) = true := by
  have hmin : (if decide (BitVec.ofNat 32 a.length < BitVec.ofNat 32 b.length) = true then BitVec.ofNat 32 a.length
      else BitVec.ofNat 32 b.length) = BitVec.ofNat 32 (min a.length b.length) := by
    rw [ofNat_lt _ _ (by omega) (by omega)]
    by_cases h : a.length < b.length
    · simp [h]; congr 1; omega
    · simp [h]; congr 1; omega
  have hpre : ∀ (x y : List UInt8), DeltaStrings.commonPrefixLength (x.take (min x.length y.length)) (y.take (min x.length y.length)) =
      DeltaStrings.commonPrefixLength x y := by
    intro x
    induction x with
    | nil => intro y; simp [DeltaStrings.commonPrefixLength]
    | cons p ps ih =>
      intro y
      cases y with
      | nil => simp [DeltaStrings.commonPrefixLength]
      | cons q qs =>
        simp only [List.length_cons, Nat.add_min_add_right, List.take_succ_cons, DeltaStrings.commonPrefixLength, ih qs]
  have := common_prefix_loop a b (BitVec.ofNat 32 a.length) (BitVec.ofNat 32 b.length) (min a.length b.length) (by omega) (by omega)
    (by omega) (min a.length b.length) 0 (a.length + 1) (by omega) (by omega)
  simp only [List.drop_zero, Nat.zero_add, hpre] at this
  simp only [Gen.CFun.common_prefix_length, Gen.CFun.common_prefix_length_defined, hmin,
    toNat_ofNat _ (show a.length < 2 ^ 32 by omega)]
  exact this

/-! ### carquet_decode_plain_fixed_byte_array -/

theorem toInt_toNat_nonneg {w : Nat} (x : BitVec w) (h : 0 ≤ x.toInt) : x.toInt.toNat = x.toNat := by
  have := BitVec.toInt_eq_toNat_cond x
  split at this
  · rw [this]; simp
  · have hlt := x.isLt
    rw [this] at h
    omega

theorem sext64_pos (fl : BitVec 32) (h : 0 < fl.toInt) : (BitVec.signExtend 64 fl).toNat = fl.toInt.toNat := by
  have h1 : (BitVec.signExtend 64 fl).toInt = fl.toInt := BitVec.toInt_signExtend_of_le (by omega)
  have h2 := toInt_toNat_nonneg (BitVec.signExtend 64 fl) (by rw [h1]; omega)
  rw [← h2, h1]

theorem decode_plain_flba_eq (input output : List UInt8) (count : BitVec 64) (fl : BitVec 32) (hin : input.length < 2 ^ 64) :
    (∀ vals consumed, Plain.decodeFlba input count.toInt fl.toInt = .ok vals consumed → consumed ≤ output.length →
      Gen.CFun.carquet_decode_plain_fixed_byte_array input (BitVec.ofNat 64 input.length) output count fl =
        (BitVec.ofNat 64 consumed, vals ++ output.drop consumed) ∧
      Gen.CFun.carquet_decode_plain_fixed_byte_array_defined input (BitVec.ofNat 64 input.length) output count fl = true) ∧
    (Plain.decodeFlba input count.toInt fl.toInt = .err →
      Gen.CFun.carquet_decode_plain_fixed_byte_array input (BitVec.ofNat 64 input.length) output count fl =
        (BitVec.allOnes 64, output) ∧
      Gen.CFun.carquet_decode_plain_fixed_byte_array_defined input (BitVec.ofNat 64 input.length) output count fl = true) := by
  have hslt : BitVec.slt count 0#64 = decide (count.toInt < 0) := by rw [BitVec.slt_eq_decide]; rfl
  have hsle : BitVec.sle fl 0#32 = decide (fl.toInt ≤ 0) := by rw [BitVec.sle_eq_decide]; rfl
  unfold Plain.decodeFlba
  by_cases hbad : count.toInt < 0 ∨ fl.toInt ≤ 0
  · have hb : (BitVec.slt count 0#64 || BitVec.sle fl 0#32) = true := by
      rw [hslt, hsle]; simpa using hbad
    rw [if_pos hbad]
    refine ⟨fun _ _ h => by simp at h, fun _ => ?_⟩
    simp only [Gen.CFun.carquet_decode_plain_fixed_byte_array, Gen.CFun.carquet_decode_plain_fixed_byte_array_defined, Bool.or_self,
      Bool.false_or, hb, if_true]
    exact ⟨rfl, trivial⟩
  · have hb : (BitVec.slt count 0#64 || BitVec.sle fl 0#32) = false := by
      rw [hslt, hsle]; simp only [Bool.or_eq_false_iff, decide_eq_false_iff_not]; omega
    rw [if_neg hbad]
    have hc0 : 0 ≤ count.toInt := by omega
    have hf0 : 0 < fl.toInt := by omega
    have hsz : (count * BitVec.signExtend 64 fl).toNat = Plain.sizeMul count.toInt.toNat fl.toInt.toNat := by
      simp only [BitVec.toNat_mul, Plain.sizeMul, sext64_pos fl hf0, toInt_toNat_nonneg count hc0]
    have hcmp : decide (BitVec.ofNat 64 input.length < count * BitVec.signExtend 64 fl) =
        decide (input.length < Plain.sizeMul count.toInt.toNat fl.toInt.toNat) := by
      simp only [BitVec.lt_def, toNat_ofNat _ hin, hsz]
    by_cases hshort : input.length < Plain.sizeMul count.toInt.toNat fl.toInt.toNat
    · rw [if_pos hshort]
      refine ⟨fun _ _ h => by simp at h, fun _ => ?_⟩
      simp only [Gen.CFun.carquet_decode_plain_fixed_byte_array, Gen.CFun.carquet_decode_plain_fixed_byte_array_defined, Bool.or_self,
        Bool.false_or, hb, Bool.false_eq_true, if_false, hcmp, hshort, decide_true, if_true]
      exact ⟨rfl, trivial⟩
    · rw [if_neg hshort]
      refine ⟨fun vals consumed h ho => ?_, fun h => by simp at h⟩
      simp only [Plain.Res.ok.injEq] at h
      obtain ⟨rfl, rfl⟩ := h
      have hinb1 : inb output 0 (Plain.sizeMul count.toInt.toNat fl.toInt.toNat) = true := by simp [inb]; exact ho
      have hinb2 : inb input 0 (Plain.sizeMul count.toInt.toNat fl.toInt.toNat) = true := by simp [inb]; omega
      simp only [Gen.CFun.carquet_decode_plain_fixed_byte_array, Gen.CFun.carquet_decode_plain_fixed_byte_array_defined, Bool.or_self,
        Bool.false_or, hb, Bool.false_eq_true, if_false, hcmp, hshort, decide_false, hsz, hinb1, hinb2, Bool.and_self]
      refine ⟨?_, trivial⟩
      apply Prod.ext
      · apply BitVec.eq_of_toNat_eq
        rw [hsz, toNat_ofNat _ (by simp [Plain.sizeMul]; omega)]
      · simp [blit]

/-! ### snappy_read32 / lz4_read32 -/

theorem read32_nat (p : List UInt8) (h : 4 ≤ p.length) :
    (ld32le p 0).toNat = p[0].toNat + 256 * p[1].toNat + 65536 * p[2].toNat + 16777216 * p[3].toNat := by
  rw [CFun2.ld32le_toNat]
  simp only [List.getD, Nat.zero_add, List.getElem?_eq_getElem (show 0 < p.length by omega),
    List.getElem?_eq_getElem (show 1 < p.length by omega), List.getElem?_eq_getElem (show 2 < p.length by omega),
    List.getElem?_eq_getElem (show 3 < p.length by omega), Option.getD_some]
  omega

theorem snappy_read32_eq (p : List UInt8) (h : 4 ≤ p.length) :
    (Gen.CFun.snappy_read32 p).toNat = Snappy.read32 p.toArray 0 (by simp; omega) ∧ Gen.CFun.snappy_read32_defined p = true := by
  refine ⟨?_, by simp [Gen.CFun.snappy_read32_defined, inb]; omega⟩
  simp only [Gen.CFun.snappy_read32, read32_nat p h, Snappy.read32]
  simp

theorem lz4_read32_eq (p : List UInt8) (h : 4 ≤ p.length) :
    (Gen.CFun.lz4_read32 p).toNat = Lz4.read32 p.toArray 0 ∧ Gen.CFun.lz4_read32_defined p = true := by
  refine ⟨?_, by simp [Gen.CFun.lz4_read32_defined, inb]; omega⟩
  simp only [Gen.CFun.lz4_read32, read32_nat p h, Lz4.read32, Lz4.byteAt]
  simp [Array.getD, show 0 < p.length by omega, show 1 < p.length by omega, show 2 < p.length by omega, show 3 < p.length by omega]

end Carquet.Proofs.CFunB
