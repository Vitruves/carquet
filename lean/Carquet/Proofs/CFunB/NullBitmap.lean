import Carquet.Proofs.CFunB.Bools
/-
`scalar_build_null_bitmap` of src/simd/dispatch.c as translated from the current C source, against
Impl.Simd.scalarBuildNullBitmap: a loop over the full bytes (eight unrolled tests each; the levels are split as
`ldone ++ blk ++ lrest`), then the partial last byte is set to 0 and the remaining levels are or-ed into it.
-/
namespace Carquet.Proofs.CFunB
open Carquet Carquet.Impl Carquet.Impl.CSem Carquet.Impl.Simd Carquet.Proofs.CSem
open Carquet.Spec.Kernels (packBits packByte)

/-- the bits of the bitmap: level below the maximum (signed) -/
def nullBits (levels : List (BitVec 16)) (mx : BitVec 16) : List Bool := levels.map fun l => l.slt mx

/-- `if (def_levels[base + o] < max_def_level) null_bits |= m`, computed in `int` as the C text does -/
def orLevel (levels : List (BitVec 16)) (mx : BitVec 16) (base o : BitVec 64) (m : BitVec 32) (nb : BitVec 8) : BitVec 8 :=
  if BitVec.slt (BitVec.signExtend 32 (rd levels (base + o).toInt.toNat)) (BitVec.signExtend 32 mx)
  then BitVec.setWidth 8 (BitVec.setWidth 32 nb ||| m) else nb

/-- the byte the eight unrolled tests of block `b` leave in `null_bits` -/
def blockByte (levels : List (BitVec 16)) (mx : BitVec 16) (b : BitVec 64) : BitVec 8 :=
  orLevel levels mx (b * 8#64) 7#64 128#32 (orLevel levels mx (b * 8#64) 6#64 64#32 (orLevel levels mx (b * 8#64) 5#64 32#32
    (orLevel levels mx (b * 8#64) 4#64 16#32 (orLevel levels mx (b * 8#64) 3#64 8#32 (orLevel levels mx (b * 8#64) 2#64 4#32
      (orLevel levels mx (b * 8#64) 1#64 2#32 (orLevel levels mx (b * 8#64) 0#64 1#32 0#8)))))))

theorem nb_byte (ldone blk lrest : List (BitVec 16)) (mx : BitVec 16) (b : Nat)
    (hblk : blk.length = 8) (hd : ldone.length = 8 * b) (hb : 8 * b + 8 < 2 ^ 63) :
    blockByte (ldone ++ blk ++ lrest) mx (BitVec.ofNat 64 b) = (packByte (nullBits blk mx)).toBitVec := by
  match blk, hblk with
  | [l0, l1, l2, l3, l4, l5, l6, l7], _ =>
    rw [← orBits_packByte]
    simp only [blockByte, orLevel, ofNat_mul, ofNat_add, Nat.mul_comm b 8, ← hd, sext_slt, i64_toIntNat_add _ _ 8 (hd ▸ hb),
      Nat.reduceLeDiff, List.append_assoc, List.cons_append, List.nil_append, rd_app, rd_succ, rd_zero, or_mask, nullBits,
      List.map_cons, List.map_nil, orBits]
    rfl

/-- one round of the loop over the full bytes; the generated round is `blockByte` up to unfolding -/
theorem nb_step (f : Nat) (ldone blk lrest : List (BitVec 16)) (mx : BitVec 16) (cnt : BitVec 64) (bm : List UInt8) (full b : Nat)
    (hblk : blk.length = 8) (hd : ldone.length = 8 * b) (hbf : b < full) (hfull : 8 * full + 8 < 2 ^ 63) (hbm : b < bm.length) :
    Gen.CFun.scalar_build_null_bitmap_loop1 (f + 1) (ldone ++ blk ++ lrest) cnt mx bm (BitVec.ofNat 64 full) (BitVec.ofNat 64 b) =
      Gen.CFun.scalar_build_null_bitmap_loop1 f (ldone ++ blk ++ lrest) cnt mx (bm.set b (packByte (nullBits blk mx)))
        (BitVec.ofNat 64 full) (BitVec.ofNat 64 (b + 1)) ∧
    Gen.CFun.scalar_build_null_bitmap_loop1_defined (f + 1) (ldone ++ blk ++ lrest) cnt mx bm (BitVec.ofNat 64 full)
        (BitVec.ofNat 64 b) =
      Gen.CFun.scalar_build_null_bitmap_loop1_defined f (ldone ++ blk ++ lrest) cnt mx (bm.set b (packByte (nullBits blk mx)))
        (BitVec.ofNat 64 full) (BitVec.ofNat 64 (b + 1)) := by
  have hlt : BitVec.slt (BitVec.ofNat 64 b) (BitVec.ofNat 64 full) = true := by
    rw [ofNat_slt _ _ (by omega) (by omega)]; simpa using hbf
  have hbyte := nb_byte ldone blk lrest mx b hblk hd (by omega)
  have hlen : 8 * b + 8 ≤ (ldone ++ blk ++ lrest).length := by simp only [List.length_append, hblk, hd]; omega
  have h8 : 8 * b + 8 < 2 ^ 63 := by omega
  constructor
  · simp only [Gen.CFun.scalar_build_null_bitmap_loop1, hlt, if_true, ofNat_toInt_toNat (v := 63) b (by omega), ofNat_add, wr8]
    exact congrArg (fun z => Gen.CFun.scalar_build_null_bitmap_loop1 f _ _ _ (bm.set b (UInt8.ofBitVec z)) _ _) hbyte
  · simp only [Gen.CFun.scalar_build_null_bitmap_loop1_defined, hlt, if_true, ofNat_mul, ofNat_add, Nat.mul_comm b 8,
      ofNat_sMulOk (v := 63) b 8 (by omega) (by omega) (by omega), i64_sAddOk_add _ _ _ h8, i64_msb_add _ _ _ h8, i64_toIntNat_add _ _ _ h8,
      inb_add _ _ _ _ hlen, Nat.reduceLeDiff, Nat.reduceLT, ofNat_msb (v := 63) b (by omega), ofNat_toInt_toNat (v := 63) b (by omega),
      ofNat_sAddOk (v := 63) b 1 (by omega), inb_of_lt bm b hbm, wr8, Bool.true_and, Bool.not_false]
    exact congrArg (fun z => Gen.CFun.scalar_build_null_bitmap_loop1_defined f _ _ _ (bm.set b (UInt8.ofBitVec z)) _ _) hbyte

/-- after the loop over the full bytes: the partial last byte (if there is one) is set to 0, then the remaining levels
are or-ed into it -/
theorem nb_exit (f : Nat) (levels : List (BitVec 16)) (mx : BitVec 16) (bm : List UInt8) (n full : Nat) (hfull : 8 * full ≤ n)
    (hn : n < 2 ^ 63) :
    Gen.CFun.scalar_build_null_bitmap_loop1 (f + 1) levels (BitVec.ofNat 64 n) mx bm (BitVec.ofNat 64 full) (BitVec.ofNat 64 full) =
      Gen.CFun.scalar_build_null_bitmap_loop2 9 levels (BitVec.ofNat 64 n) mx (if 8 * full < n then bm.set full 0 else bm)
        (BitVec.ofNat 64 full) (BitVec.ofNat 64 (8 * full)) ∧
    Gen.CFun.scalar_build_null_bitmap_loop1_defined (f + 1) levels (BitVec.ofNat 64 n) mx bm (BitVec.ofNat 64 full)
        (BitVec.ofNat 64 full) =
      ((if 8 * full < n then inb bm full 1 else true) &&
        Gen.CFun.scalar_build_null_bitmap_loop2_defined 9 levels (BitVec.ofNat 64 n) mx (if 8 * full < n then bm.set full 0 else bm)
          (BitVec.ofNat 64 full) (BitVec.ofNat 64 (8 * full))) := by
  have hge : BitVec.slt (BitVec.ofNat 64 full) (BitVec.ofNat 64 full) = false := by
    rw [ofNat_slt _ _ (by omega) (by omega)]; simp
  have hmul : BitVec.ofNat 64 full * 8#64 = BitVec.ofNat 64 (8 * full) := by rw [ofNat_mul, Nat.mul_comm]
  have hmulok : sMulOk (BitVec.ofNat 64 full) 8#64 = true := ofNat_sMulOk (v := 63) _ 8 (by omega) (by omega) (by omega)
  have hlt : BitVec.slt (BitVec.ofNat 64 (8 * full)) (BitVec.ofNat 64 n) = decide (8 * full < n) :=
    ofNat_slt _ _ (by omega) hn
  -- the bitmap the tail loop starts from, read off the generated text up to unfolding
  have hval : (if BitVec.slt (BitVec.ofNat 64 full * 8#64) (BitVec.ofNat 64 n) then wr8 bm (BitVec.ofNat 64 full).toInt.toNat 0#8
      else bm) = if 8 * full < n then bm.set full 0 else bm := by
    simp only [hmul, hlt, decide_eq_true_eq, ofNat_toInt_toNat (v := 63) full (by omega), wr8]; rfl
  simp only [Gen.CFun.scalar_build_null_bitmap_loop1, Gen.CFun.scalar_build_null_bitmap_loop1_defined, hge, Bool.false_eq_true,
    if_false, hmul, hmulok, hlt, decide_eq_true_eq, ofNat_toInt_toNat (v := 63) full (by omega),
    ofNat_msb (v := 63) full (by omega), Bool.true_and, Bool.not_false]
  exact ⟨congrArg (Gen.CFun.scalar_build_null_bitmap_loop2 9 _ _ _ · _ _) hval,
    congrArg (fun z => (if 8 * full < n then inb bm full 1 else true) &&
      Gen.CFun.scalar_build_null_bitmap_loop2_defined 9 levels _ mx z _ _) hval⟩

/-- the partial last byte: `null_bitmap[j / 8] |= 1 << (j % 8)` for the remaining levels `lrest`, from bit `t` on -/
theorem nb_tail (mx : BitVec 16) (full n : Nat) (hn : n < 2 ^ 63) (done r2 : List UInt8) (hdn : done.length = full) :
    ∀ (lrest ldone : List (BitVec 16)) (t : Nat) (cur : BitVec 8) (fuel : Nat), ldone.length = 8 * full + t →
      ldone.length + lrest.length = n → t + lrest.length ≤ 8 → lrest.length < fuel →
      Gen.CFun.scalar_build_null_bitmap_loop2 fuel (ldone ++ lrest) (BitVec.ofNat 64 n) mx (done ++ UInt8.ofBitVec cur :: r2)
          (BitVec.ofNat 64 full) (BitVec.ofNat 64 (8 * full + t)) =
        done ++ UInt8.ofBitVec (orBits (nullBits lrest mx) t cur) :: r2 ∧
      Gen.CFun.scalar_build_null_bitmap_loop2_defined fuel (ldone ++ lrest) (BitVec.ofNat 64 n) mx
          (done ++ UInt8.ofBitVec cur :: r2) (BitVec.ofNat 64 full) (BitVec.ofNat 64 (8 * full + t)) = true := by
  intro lrest
  induction lrest with
  | nil =>
    intro ldone t cur fuel hd hl ht hf
    obtain ⟨f, rfl⟩ := exists_fuel hf
    have hge : BitVec.slt (BitVec.ofNat 64 (8 * full + t)) (BitVec.ofNat 64 n) = false := by
      rw [ofNat_slt _ _ (by omega) hn]; simp at hl ⊢; omega
    simp [Gen.CFun.scalar_build_null_bitmap_loop2, Gen.CFun.scalar_build_null_bitmap_loop2_defined, hge, nullBits, orBits]
  | cons x xs ih =>
    intro ldone t cur fuel hd hl ht hf
    obtain ⟨f, rfl⟩ := exists_fuel hf
    simp only [List.length_cons] at hl ht hf
    have hlt : BitVec.slt (BitVec.ofNat 64 (8 * full + t)) (BitVec.ofNat 64 n) = true := by
      rw [ofNat_slt _ _ (by omega) hn]; simp; omega
    have hj : 8 * full + t < 2 ^ 63 := by omega
    have hdiv : (8 * full + t) / 8 = full := by omega
    have hmod : (8 * full + t) % 8 = t := by omega
    have hsc : shCountOk true 32 (BitVec.ofNat 64 t) = true := by
      simp only [shCountOk, ofNat_msb _ (show t < 2 ^ 63 by omega), ofNat_toNat _ (show t < 2 ^ 63 by omega)]; simp; omega
    have hnext := ih (ldone ++ [x]) (t + 1) (if x.slt mx then cur ||| (1#8 <<< t) else cur) f
      (by rw [List.length_append, hd]; rfl) (by rw [List.length_append, ← hl]; simp; omega) (by omega) (by omega)
    rw [List.append_assoc, List.singleton_append, ← Nat.add_assoc] at hnext
    -- the bitmap after the round, read off the generated text up to unfolding
    have hval : (if BitVec.slt (BitVec.signExtend 32 (rd (ldone ++ x :: xs) (BitVec.ofNat 64 (8 * full + t)).toInt.toNat))
          (BitVec.signExtend 32 mx) then
        wr8 (done ++ UInt8.ofBitVec cur :: r2) (BitVec.sdiv (BitVec.ofNat 64 (8 * full + t)) 8#64).toInt.toNat
          (BitVec.setWidth 8 (BitVec.setWidth 32 (rd8 (done ++ UInt8.ofBitVec cur :: r2)
            (BitVec.sdiv (BitVec.ofNat 64 (8 * full + t)) 8#64).toInt.toNat) |||
            (1#32 <<< (BitVec.srem (BitVec.ofNat 64 (8 * full + t)) 8#64).toNat)))
        else done ++ UInt8.ofBitVec cur :: r2) =
        done ++ UInt8.ofBitVec (if x.slt mx then cur ||| (1#8 <<< t) else cur) :: r2 := by
      simp only [ofNat_toInt_toNat _ hj, rd_at' _ _ _ _ hd.symm, sext_slt, ofNat_sdiv _ 8 hj (by omega),
        ofNat_srem _ 8 hj (by omega), hdiv, hmod, ofNat_toInt_toNat _ (show full < 2 ^ 63 by omega),
        ofNat_toNat _ (show t < 2 ^ 63 by omega), rd8_at' _ _ _ _ hdn.symm, wr8_at' _ _ _ _ _ hdn.symm, or_bit_int]
      cases x.slt mx <;> rfl
    simp only [Gen.CFun.scalar_build_null_bitmap_loop2, Gen.CFun.scalar_build_null_bitmap_loop2_defined, hlt, if_true,
      ofNat_toInt_toNat _ hj, ofNat_msb _ hj, rd_at' _ _ _ _ hd.symm, inb_at' _ _ _ _ hd.symm,
      ofNat_add, ofNat_sAddOk _ 1 (show 8 * full + t + 1 < 2 ^ 63 by omega), nullBits, List.map_cons, orBits, sext_slt,
      ofNat_sdiv _ 8 hj (by omega), ofNat_srem _ 8 hj (by omega),
      hdiv, hmod, ofNat_toInt_toNat _ (show full < 2 ^ 63 by omega), ofNat_msb _ (show full < 2 ^ 63 by omega),
      ofNat_toNat _ (show t < 2 ^ 63 by omega), inb_at' _ _ _ _ hdn.symm, hsc, sShlOk_one ⟨t, by omega⟩, Bool.true_and,
      Bool.not_false, Bool.and_self, ite_self]
    exact ⟨(congrArg (Gen.CFun.scalar_build_null_bitmap_loop2 f _ _ _ · _ _) hval).trans hnext.1,
      (congrArg (Gen.CFun.scalar_build_null_bitmap_loop2_defined f _ _ _ · _ _) hval).trans hnext.2⟩

theorem nb_full (mx : BitVec 16) (n full : Nat) (hn : n + 8 < 2 ^ 63) :
    ∀ (fuel : Nat) (ldone lrest : List (BitVec 16)) (done rest : List UInt8) (b : Nat), ldone.length = 8 * b → b = done.length →
      8 * full ≤ n → n < 8 * full + 8 → n = ldone.length + lrest.length → n ≤ 8 * (done.length + rest.length) →
      8 * (done.length + rest.length) < n + 8 → lrest.length < 8 * fuel →
      Gen.CFun.scalar_build_null_bitmap_loop1 fuel (ldone ++ lrest) (BitVec.ofNat 64 n) mx (done ++ rest) (BitVec.ofNat 64 full)
          (BitVec.ofNat 64 b) = done ++ packBits (nullBits lrest mx) ∧
      Gen.CFun.scalar_build_null_bitmap_loop1_defined fuel (ldone ++ lrest) (BitVec.ofNat 64 n) mx (done ++ rest)
          (BitVec.ofNat 64 full) (BitVec.ofNat 64 b) = true := by
  intro fuel
  induction fuel with
  | zero => intro _ _ _ _ _ _ _ _ _ _ _ _ hf; omega
  | succ f ih =>
    intro ldone lrest done rest b hd hb hfull hfull' hnl hl hl' hf
    by_cases h8 : 8 ≤ lrest.length
    · obtain ⟨hr, hbf, hf8, hbm, h1, h3, h4, h5, h6⟩ : 0 < rest.length ∧ b < full ∧ 8 * full + 8 < 2 ^ 63 ∧
          b < done.length + rest.length ∧ ldone.length + 8 = 8 * (b + 1) ∧ n = ldone.length + 8 + (lrest.length - 8) ∧
          n ≤ 8 * (done.length + 1 + (rest.length - 1)) ∧ 8 * (done.length + 1 + (rest.length - 1)) < n + 8 ∧
          lrest.length - 8 < 8 * f := by omega
      obtain ⟨y, ys, rfl⟩ := exists_cons rest hr
      rw [List.length_cons, Nat.add_sub_cancel] at h4 h5
      have hblk : (lrest.take 8).length = 8 := by rw [List.length_take]; exact Nat.min_eq_left h8
      have hstep := nb_step f ldone (lrest.take 8) (lrest.drop 8) mx (BitVec.ofNat 64 n) (done ++ y :: ys) full b hblk hd
        hbf hf8 (by rw [List.length_append]; exact hbm)
      rw [List.append_assoc, List.take_append_drop, set_at _ _ _ _ _ hb] at hstep
      have hne : nullBits lrest mx ≠ [] :=
        List.ne_nil_of_length_pos (by rw [nullBits, List.length_map]; exact Nat.lt_of_lt_of_le (by decide) h8)
      rw [hstep.1, hstep.2, SimdBools.packBits_unfold _ hne]
      have := ih (ldone ++ lrest.take 8) (lrest.drop 8) (done ++ [packByte (nullBits (lrest.take 8) mx)]) ys (b + 1)
        (by rw [List.length_append, hblk]; exact h1) (by rw [List.length_append, hb]; rfl) hfull hfull'
        (by rw [List.length_append, hblk, List.length_drop]; exact h3)
        (by rw [List.length_append, List.length_singleton]; exact h4) (by rw [List.length_append, List.length_singleton]; exact h5)
        (by rw [List.length_drop]; exact h6)
      simpa only [List.append_assoc, List.take_append_drop, List.singleton_append, nullBits, List.map_take, List.map_drop]
        using this
    · obtain ⟨rfl, hb8, hn63, hr⟩ : b = full ∧ 8 * b ≤ n ∧ n < 2 ^ 63 ∧ rest.length = (if lrest.length = 0 then 0 else 1) := by
        split <;> omega
      have hex := nb_exit f (ldone ++ lrest) mx (done ++ rest) n b hb8 hn63
      by_cases h0 : lrest.length = 0
      · rw [if_pos h0] at hr
        obtain rfl : rest = [] := List.eq_nil_of_length_eq_zero hr
        obtain rfl : lrest = [] := List.eq_nil_of_length_eq_zero h0
        have hnb : ¬ 8 * b < n := by rw [List.length_nil] at hnl; omega
        rw [if_neg hnb, if_neg hnb] at hex
        rw [hex.1, hex.2]
        simp [Gen.CFun.scalar_build_null_bitmap_loop2, Gen.CFun.scalar_build_null_bitmap_loop2_defined,
          ofNat_slt_of_ge _ _ (Nat.le_of_not_lt hnb) (Nat.lt_of_le_of_lt hb8 hn63), nullBits, packBits]
      · rw [if_neg h0] at hr
        obtain ⟨y, ys, rfl⟩ := exists_cons rest (by omega)
        obtain rfl : ys = [] := List.eq_nil_of_length_eq_zero (Nat.succ.inj hr)
        have hbn : 8 * b < n := by omega
        rw [if_pos hbn, if_pos hbn, set_at _ _ _ _ _ hb, inb_at' _ _ _ _ hb] at hex
        have ht := nb_tail mx b n hn63 done [] hb.symm lrest ldone 0 0#8 9 hd hnl.symm (by omega) (by omega)
        have hne : nullBits lrest mx ≠ [] := List.ne_nil_of_length_pos (by rw [nullBits, List.length_map]; omega)
        rw [hex.1, hex.2]
        refine ⟨ht.1.trans ?_, ht.2⟩
        rw [orBits_packByte, packBits_short _ hne (by rw [nullBits, List.length_map]; omega)]

theorem scalar_build_null_bitmap_eq (levels : List (BitVec 16)) (mx : BitVec 16) (bm : List UInt8)
    (hb : bm.length = (levels.length + 7) / 8) (hn : levels.length + 8 < 2 ^ 63) :
    Gen.CFun.scalar_build_null_bitmap levels (BitVec.ofNat 64 levels.length) mx bm = scalarBuildNullBitmap levels mx ∧
    Gen.CFun.scalar_build_null_bitmap_defined levels (BitVec.ofNat 64 levels.length) mx bm = true := by
  have := nb_full mx levels.length (levels.length / 8) hn (levels.length / 8 + 1) [] levels [] bm 0 rfl rfl (by omega) (by omega)
    (by simp) (by simp; omega) (by simp; omega) (by omega)
  rw [SimdKernels.scalar_null_bitmap]
  simpa [Gen.CFun.scalar_build_null_bitmap, Gen.CFun.scalar_build_null_bitmap_defined, Spec.Kernels.buildNullBitmap, nullBits,
    ofNat_toInt_toNat _ (show levels.length < 2 ^ 63 by omega), ofNat_sdiv (v := 63) _ 8 (show levels.length < 2 ^ 63 by omega) (by omega)] using this

end Carquet.Proofs.CFunB
