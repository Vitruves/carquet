import Carquet.Proofs.CFunB.Basic
import Carquet.Gen.CFun
import Carquet.Gen.Dispatch
import Carquet.Impl.SimdMore
import Carquet.Proofs.SimdCrc
/-
Definition levels (`fill_def_levels`, `count_non_nulls`), run length and CRC-32C among the scalar reference kernels of
src/simd/dispatch.c as translated from the current C source, against the `Impl.Simd.scalar*` definitions.
-/
namespace Carquet.Proofs.CFunB
open Carquet Carquet.Impl Carquet.Impl.CSem Carquet.Impl.Simd Carquet.Proofs.CSem

/-! ### fill_def_levels -/

theorem fill_loop (value : BitVec 16) (n : Nat) (hn : n < 2 ^ 63) :
    ∀ (rest done : List (BitVec 16)) (fuel : Nat), rest.length < fuel → done.length + rest.length = n →
      Gen.CFun.scalar_fill_def_levels_loop1 fuel (done ++ rest) (BitVec.ofNat 64 n) value (BitVec.ofNat 64 done.length) =
        done ++ rest.map (fun _ => value) ∧
      Gen.CFun.scalar_fill_def_levels_loop1_defined fuel (done ++ rest) (BitVec.ofNat 64 n) value (BitVec.ofNat 64 done.length) =
        true := by
  intro rest
  induction rest with
  | nil =>
    intro done fuel hf hl
    obtain ⟨f, rfl⟩ := exists_fuel hf
    obtain rfl : done.length = n := hl
    simp (disch := omega) [Gen.CFun.scalar_fill_def_levels_loop1, Gen.CFun.scalar_fill_def_levels_loop1_defined, ofNat_slt_of_ge]
  | cons x xs ih =>
    intro done fuel hf hl
    obtain ⟨f, rfl⟩ := exists_fuel hf
    simp only [List.length_cons] at hf hl
    have h := ih (done ++ [value]) f (by omega) (by simp; omega)
    simp only [List.length_append, List.length_singleton, List.append_assoc, List.singleton_append] at h
    simpa (disch := omega) only [Gen.CFun.scalar_fill_def_levels_loop1, Gen.CFun.scalar_fill_def_levels_loop1_defined,
      ofNat_slt_of_lt, if_true, ofNat_toInt_toNat, wr_at, inb_at, ofNat_msb, ofNat_add, ofNat_sAddOk, List.map_cons, Bool.true_and,
      Bool.not_false] using h

theorem scalar_fill_def_levels_eq (old : List (BitVec 16)) (value : BitVec 16) (h : old.length < 2 ^ 63) :
    Gen.CFun.scalar_fill_def_levels old (BitVec.ofNat 64 old.length) value = scalarFillDefLevels old value ∧
    Gen.CFun.scalar_fill_def_levels_defined old (BitVec.ofNat 64 old.length) value = true := by
  have := fill_loop value old.length h old [] (old.length + 1) (by omega) (by simp)
  simpa [Gen.CFun.scalar_fill_def_levels, Gen.CFun.scalar_fill_def_levels_defined, scalarFillDefLevels, ofNat_toInt_toNat _ h] using this

/-! ### count_non_nulls -/

theorem scalar_count_non_nulls_eq (levels : List (BitVec 16)) (mx : BitVec 16) (h : levels.length < 2 ^ 63) :
    Gen.CFun.scalar_count_non_nulls levels (BitVec.ofNat 64 levels.length) mx =
      BitVec.ofNat 64 (scalarCountNonNulls levels mx) ∧
    Gen.CFun.scalar_count_non_nulls_defined levels (BitVec.ofNat 64 levels.length) mx = true := by
  simp only [Gen.CFun.scalar_count_non_nulls, Gen.CFun.scalar_count_non_nulls_defined, ofNat_toInt_toNat _ h, scalarCountNonNulls]
  refine fold_loop levels (cnnStep mx) (BitVec.ofNat 64) (fun i c => c ≤ i)
    (fun f c i => Gen.CFun.scalar_count_non_nulls_loop1 f levels (BitVec.ofNat 64 levels.length) mx (BitVec.ofNat 64 c)
      (BitVec.ofNat 64 i))
    (fun f c i => Gen.CFun.scalar_count_non_nulls_loop1_defined f levels (BitVec.ofNat 64 levels.length) mx (BitVec.ofNat 64 c)
      (BitVec.ofNat 64 i)) ?_ ?_ 0 (Nat.le_refl 0)
  · intro f done x rest c harr hc
    have hl : done.length + (rest.length + 1) < 2 ^ 63 := by rw [harr, List.length_append, List.length_cons] at h; exact h
    -- what the round leaves in `non_null_count`, read off the generated text up to unfolding
    have hv : (if BitVec.signExtend 32 (rd (done ++ x :: rest) (BitVec.ofNat 64 done.length).toInt.toNat) == BitVec.signExtend 32 mx
        then BitVec.ofNat 64 c + 1#64 else BitVec.ofNat 64 c) = BitVec.ofNat 64 (cnnStep mx c x) := by
      simp (disch := omega) only [ofNat_toInt_toNat, rd_at, sext_beq, ofNat_add, cnnStep]; split <;> rfl
    simp (disch := omega) only [Gen.CFun.scalar_count_non_nulls_loop1, Gen.CFun.scalar_count_non_nulls_loop1_defined, harr,
      List.length_append, List.length_cons, ofNat_slt_of_lt, if_true, ofNat_toInt_toNat, rd_at, inb_at, ofNat_msb, ofNat_add,
      ofNat_sAddOk, ite_self, Bool.true_and, Bool.not_false]
    refine ⟨congrArg (Gen.CFun.scalar_count_non_nulls_loop1 f _ _ mx · _) hv,
      congrArg (Gen.CFun.scalar_count_non_nulls_loop1_defined f _ _ mx · _) hv, ?_⟩
    rw [cnnStep]; split <;> omega
  · intro f c
    simp (disch := omega) [Gen.CFun.scalar_count_non_nulls_loop1, Gen.CFun.scalar_count_non_nulls_loop1_defined, ofNat_slt_of_ge]

/-! ### find_run_length_i32 -/

theorem run_loop (first : BitVec 32) (n : Nat) (hn : n < 2 ^ 63) :
    ∀ (rest done : List (BitVec 32)) (fuel : Nat), rest.length < fuel → done.length + rest.length = n →
      Gen.CFun.scalar_find_run_length_i32_loop1 fuel (done ++ rest) (BitVec.ofNat 64 n) first (BitVec.ofNat 64 done.length) =
        BitVec.ofNat 64 (done.length + firstIdx (· != first) rest) ∧
      Gen.CFun.scalar_find_run_length_i32_loop1_defined fuel (done ++ rest) (BitVec.ofNat 64 n) first
        (BitVec.ofNat 64 done.length) = true := by
  intro rest
  induction rest with
  | nil =>
    intro done fuel hf hl
    obtain ⟨f, rfl⟩ := exists_fuel hf
    obtain rfl : done.length = n := hl
    simp (disch := omega) [Gen.CFun.scalar_find_run_length_i32_loop1, Gen.CFun.scalar_find_run_length_i32_loop1_defined,
      ofNat_slt_of_ge, firstIdx]
  | cons x xs ih =>
    intro done fuel hf hl
    obtain ⟨f, rfl⟩ := exists_fuel hf
    simp only [List.length_cons] at hf hl
    have h := ih (done ++ [x]) f (by omega) (by simp; omega)
    simp only [List.length_append, List.length_singleton, List.append_assoc, List.singleton_append] at h
    simp (disch := omega) only [Gen.CFun.scalar_find_run_length_i32_loop1, Gen.CFun.scalar_find_run_length_i32_loop1_defined,
      ofNat_slt_of_lt, if_true, ofNat_toInt_toNat, rd_at, inb_at, ofNat_msb, ofNat_add, ofNat_sAddOk, firstIdx]
    by_cases hx : (x != first) = true
    · simp [hx]
    · simp only [hx, if_false, Bool.false_eq_true]
      refine ⟨?_, by simpa using h.2⟩
      rw [h.1]; congr 1; omega

theorem scalar_find_run_length_i32_eq (vals : List (BitVec 32)) (h : vals.length < 2 ^ 63) :
    Gen.CFun.scalar_find_run_length_i32 vals (BitVec.ofNat 64 vals.length) = BitVec.ofNat 64 (scalarFindRunLength vals) ∧
    Gen.CFun.scalar_find_run_length_i32_defined vals (BitVec.ofNat 64 vals.length) = true := by
  cases vals with
  | nil => simp [Gen.CFun.scalar_find_run_length_i32, Gen.CFun.scalar_find_run_length_i32_defined, scalarFindRunLength]
  | cons x xs =>
    simp only [List.length_cons] at h
    have := run_loop x (xs.length + 1) h xs [x] (xs.length + 1 + 1) (by omega) (by simp; omega)
    have hz : (BitVec.ofNat 64 (xs.length + 1) == 0#64) = false := by rw [ofNat_beq_zero _ (Nat.lt_trans h (by decide))]; simp
    simp only [List.length_cons, List.length_nil, Nat.zero_add, List.cons_append, List.nil_append] at this
    simp only [Gen.CFun.scalar_find_run_length_i32, Gen.CFun.scalar_find_run_length_i32_defined, List.length_cons, hz,
      Bool.false_eq_true, if_false, ofNat_toInt_toNat _ h, scalarFindRunLength]
    refine ⟨by simpa [rd] using this.1, ?_⟩
    have hin : inb (x :: xs) 0 1 = true := by simp [inb]
    simpa [rd, hin] using this.2

/-! ### crc32c -/

theorem rd_map_ofNat (T : List Nat) (i : Nat) : rd (T.map (BitVec.ofNat 32)) i = BitVec.ofNat 32 (T.getD i 0) := by
  simp only [rd, List.getD, List.getElem?_map]
  cases T[i]? <;> simp

/-- the table the translator read from the initialiser in the AST is the table the regex translator extracted
(`Gen.Dispatch.crc32cTable`, which `C15_crc32c_table` proves to be the Castagnoli table) -/
theorem crc32c_table_eq : Gen.CFun.dispatch_crc32c_table = Gen.Dispatch.crc32cTable.map (BitVec.ofNat 32) := by decide +kernel

theorem scalar_crc32c_eq (crc : BitVec 32) (data : List UInt8) (h : data.length < 2 ^ 64) :
    Gen.CFun.scalar_crc32c crc data (BitVec.ofNat 64 data.length) = scalarCrc32c Gen.Dispatch.crc32cTable crc data ∧
    Gen.CFun.scalar_crc32c_defined crc data (BitVec.ofNat 64 data.length) = true := by
  simp only [Gen.CFun.scalar_crc32c, Gen.CFun.scalar_crc32c_defined, toNat_ofNat _ h]
  refine fold_loop data (SimdCrc.tableStep Gen.Dispatch.crc32cTable) (~~~ ·) (fun _ _ => True)
    (fun f c i => Gen.CFun.scalar_crc32c_loop1 f data c (BitVec.ofNat 64 data.length) (BitVec.ofNat 64 i))
    (fun f c i => Gen.CFun.scalar_crc32c_loop1_defined f data c (BitVec.ofNat 64 data.length) (BitVec.ofNat 64 i)) ?_ ?_ (~~~crc)
    trivial
  · intro f done x rest c harr _
    have hl : done.length + (rest.length + 1) < 2 ^ 64 := by rw [harr, List.length_append, List.length_cons] at h; exact h
    have hlt : decide (BitVec.ofNat 64 done.length < BitVec.ofNat 64 (done.length + (rest.length + 1))) = true := by
      rw [ofNat_lt _ _ (by omega) hl]; simp
    -- the new `crc` of the round, read off the generated text up to unfolding
    have hv : rd Gen.CFun.dispatch_crc32c_table
        ((c ^^^ BitVec.setWidth 32 (rd8 (done ++ x :: rest) (BitVec.ofNat 64 done.length).toNat)) &&& 255#32).toNat ^^^ (c >>> 8) =
        SimdCrc.tableStep Gen.Dispatch.crc32cTable c x := by
      rw [toNat_ofNat _ (show done.length < 2 ^ 64 by omega), rd8_at, crc32c_table_eq, rd_map_ofNat]; rfl
    simp only [Gen.CFun.scalar_crc32c_loop1, Gen.CFun.scalar_crc32c_loop1_defined, harr, List.length_append, List.length_cons, hlt,
      if_true, toNat_ofNat _ (show done.length < 2 ^ 64 by omega), inb_at, ofNat_add, Bool.true_and, and_true]
    exact ⟨congrArg (Gen.CFun.scalar_crc32c_loop1 f _ · _ _) hv,
      guard_and (decide_eq_true (Lfsr.and255_lt _)) (congrArg (Gen.CFun.scalar_crc32c_loop1_defined f _ · _ _) hv)⟩
  · intro f c
    simp [Gen.CFun.scalar_crc32c_loop1, Gen.CFun.scalar_crc32c_loop1_defined]

end Carquet.Proofs.CFunB
