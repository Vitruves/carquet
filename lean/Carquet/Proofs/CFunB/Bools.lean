import Carquet.Proofs.CFunB.Basic
import Carquet.Proofs.SimdScalar
import Carquet.Gen.CFun
import Carquet.Impl.SimdMore
/-
`scalar_unpack_bools` / `scalar_pack_bools` of src/simd/dispatch.c as translated from the current C source, against
Impl.Simd.scalarUnpackBools / scalarPackBools.  `orBits` (flags or-ed into a byte one by one) is what both `pack_bools` and
`build_null_bitmap` compute; `orBits_eq` relates it to the model's `packByte`.
-/
namespace Carquet.Proofs.CFunB
open Carquet Carquet.Impl Carquet.Impl.CSem Carquet.Impl.Simd Carquet.Proofs.CSem

/-! ### unpack_bools -/

/-- flag `i`: `(input[i / 8] >> (i % 8)) & 1` -/
def ubAt (bytes : List UInt8) (i : Nat) : UInt8 := ((bytes.getD (i / 8) 0) >>> UInt8.ofNat (i % 8)) &&& 1

theorem unpack_loop (bytes : List UInt8) (n : Nat) (hn : n < 2 ^ 34) (hb : n ≤ 8 * bytes.length) :
    ∀ (rest done : List UInt8) (fuel : Nat), rest.length < fuel → done.length + rest.length = n →
      Gen.CFun.scalar_unpack_bools_loop1 fuel bytes (done ++ rest) (BitVec.ofNat 64 n) (BitVec.ofNat 64 done.length) =
        done ++ (List.range' done.length rest.length).map (ubAt bytes) ∧
      Gen.CFun.scalar_unpack_bools_loop1_defined fuel bytes (done ++ rest) (BitVec.ofNat 64 n) (BitVec.ofNat 64 done.length) =
        true := by
  intro rest
  induction rest with
  | nil =>
    intro done fuel hf hl
    obtain ⟨f, rfl⟩ := exists_fuel hf
    obtain rfl : done.length = n := hl
    simp (disch := omega) [Gen.CFun.scalar_unpack_bools_loop1, Gen.CFun.scalar_unpack_bools_loop1_defined, ofNat_slt_of_ge]
  | cons x xs ih =>
    intro done fuel hf hl
    obtain ⟨f, rfl⟩ := exists_fuel hf
    simp only [List.length_cons] at hf hl
    have h := ih (done ++ [ubAt bytes done.length]) f (by omega) (by simp; omega)
    simp only [List.length_append, List.length_singleton, List.append_assoc, List.singleton_append] at h
    have hval : BitVec.setWidth 8 ((BitVec.sshiftRight (BitVec.setWidth 32 (rd8 bytes (done.length / 8))) (done.length % 8)) &&& 1#32) =
        (ubAt bytes done.length).toBitVec := by
      have := congrArg UInt8.toBitVec (shr_and_one (rd8 bytes (done.length / 8)) (done.length % 8) (Nat.mod_lt _ (by decide)))
      simpa [ubAt, rd8] using this
    simpa (disch := omega) only [Gen.CFun.scalar_unpack_bools_loop1, Gen.CFun.scalar_unpack_bools_loop1_defined, ofNat_slt_of_lt,
      if_true, ofNat_toInt_toNat, wr8_at, inb_at, ofNat_msb, ofNat_add, ofNat_sAddOk, ofNat_sdiv, ofNat_srem, ofNat_setWidth, ofNat_toInt_toNat,
      ofNat_msb, ofNat_toNat, ofNat_shCountOk, inb_of_lt, hval, List.length_cons, List.range'_succ, List.map_cons,
      Bool.true_and,
      Bool.not_false, UInt8.ofBitVec_toBitVec] using h

/-- beyond the input: the read of `input[8 * |input| / 8]` is outside, whatever happened before -/
theorem unpack_undefined (bytes : List UInt8) (n : Nat) (hn : 8 * bytes.length < n) (hn2 : n < 2 ^ 34) :
    ∀ (d fuel : Nat) (o : List UInt8) (k : Nat), k + d = 8 * bytes.length →
      Gen.CFun.scalar_unpack_bools_loop1_defined fuel bytes o (BitVec.ofNat 64 n) (BitVec.ofNat 64 k) = false := by
  intro d
  induction d with
  | zero =>
    intro fuel o k hk
    cases fuel with
    | zero => rfl
    | succ f =>
      simp (disch := omega) [Gen.CFun.scalar_unpack_bools_loop1_defined, ofNat_slt_of_lt, ofNat_sdiv, ofNat_toInt_toNat, inb_false_of_ge]
  | succ d ih =>
    intro fuel o k hk
    cases fuel with
    | zero => rfl
    | succ f =>
      simp (disch := omega) [Gen.CFun.scalar_unpack_bools_loop1_defined, ofNat_slt_of_lt, ofNat_add, ih f _ (k + 1)]

theorem scalarUnpackBools_some (bytes : List UInt8) (n : Nat) (h : n ≤ 8 * bytes.length) :
    scalarUnpackBools bytes n = some ((List.range n).map (ubAt bytes)) := by
  unfold scalarUnpackBools
  apply Lists.mapM_some
  intro i hi
  have hi' : i < n := by simpa using hi
  have : i / 8 < bytes.length := by omega
  simp [ubAt, List.getD, List.getElem?_eq_getElem this]

theorem scalarUnpackBools_none (bytes : List UInt8) (n : Nat) (h : 8 * bytes.length < n) : scalarUnpackBools bytes n = none := by
  rw [SimdScalar.scalar_unpack]; simp [Spec.Kernels.unpackBools]; omega

theorem scalar_unpack_bools_eq (bytes out : List UInt8) (h : out.length < 2 ^ 34) :
    (∀ r, scalarUnpackBools bytes out.length = some r →
      Gen.CFun.scalar_unpack_bools bytes out (BitVec.ofNat 64 out.length) = r) ∧
    Gen.CFun.scalar_unpack_bools_defined bytes out (BitVec.ofNat 64 out.length) = (scalarUnpackBools bytes out.length).isSome := by
  have h63 : out.length < 2 ^ 63 := by omega
  by_cases hb : out.length ≤ 8 * bytes.length
  · have := unpack_loop bytes out.length h hb out [] (out.length + 1) (by omega) (by simp)
    rw [scalarUnpackBools_some bytes _ hb]
    simp only [Gen.CFun.scalar_unpack_bools, Gen.CFun.scalar_unpack_bools_defined, ofNat_toInt_toNat _ h63]
    simp only [List.nil_append, List.length_nil] at this
    refine ⟨fun r hr => ?_, by simpa using this.2⟩
    rw [← Option.some.inj hr, show (0#64 : BitVec 64) = BitVec.ofNat 64 0 from rfl, this.1, List.range_eq_range']
  · rw [scalarUnpackBools_none bytes _ (by omega)]
    refine ⟨fun r hr => by simp at hr, ?_⟩
    simp only [Gen.CFun.scalar_unpack_bools_defined, Option.isSome_none]
    exact unpack_undefined bytes out.length (by omega) h (8 * bytes.length) _ out 0 (by omega)

open Carquet.Spec.Kernels (packBits packByte)

/-! ### pack_bools -/

/-- the inner loop: `if (flag) byte |= 1 << j` for successive `j` -/
def orBits : List Bool → Nat → BitVec 8 → BitVec 8
  | [], _, acc => acc
  | b :: bs, j, acc => orBits bs (j + 1) (if b then acc ||| (1#8 <<< j) else acc)

theorem or_bit_int (b : BitVec 8) (j : Nat) :
    BitVec.setWidth 8 (BitVec.setWidth 32 b ||| (1#32 <<< j)) = b ||| (1#8 <<< j) := by
  rw [or_mask, BitVec.setWidth_shiftLeft_of_le (by omega)]
  rfl

theorem sShlOk_one : ∀ j : Fin 8, sShlOk 1#32 j.val = true := by decide

theorem packByte_cons (b : Bool) (bs : List Bool) :
    (packByte (b :: bs)).toBitVec = (if b then 1#8 else 0#8) ||| ((packByte bs).toBitVec <<< 1) := by
  have h2 : (2 : UInt8).toBitVec * (packByte bs).toBitVec = (packByte bs).toBitVec <<< 1 := by
    rw [BitVec.shiftLeft_eq_mul_twoPow, BitVec.mul_comm]; rfl
  have hb : (if b = true then (1 : UInt8) else 0).toBitVec = if b then 1#8 else 0#8 := by cases b <;> rfl
  rw [packByte, UInt8.toBitVec_add, UInt8.toBitVec_mul, h2, hb]
  apply BitVec.add_eq_or_of_and_eq_zero
  ext i hi
  cases b <;> simp
  omega

theorem orBits_eq : ∀ (bits : List Bool) (j : Nat) (acc : BitVec 8),
    orBits bits j acc = acc ||| ((packByte bits).toBitVec <<< j) := by
  intro bits
  induction bits with
  | nil => intro j acc; simp [orBits, packByte]
  | cons b bs ih =>
    intro j acc
    rw [orBits, ih, packByte_cons, BitVec.shiftLeft_or_distrib, ← BitVec.shiftLeft_add, Nat.add_comm 1 j]
    cases b <;> simp [BitVec.or_assoc]

theorem orBits_packByte (bits : List Bool) : orBits bits 0 0#8 = (packByte bits).toBitVec := by
  rw [orBits_eq]; simp

theorem packBits_short (l : List Bool) (h0 : l ≠ []) (h : l.length < 8) : packBits l = [packByte l] := by
  apply packBits.eq_3
  · intro a b c d e f g h' rest hl
    rw [hl] at h; simp at h; omega
  · exact h0

theorem pack_inner (xs out : List UInt8) (i : Nat) (hi : i + 8 < 2 ^ 63) (hn : xs.length < 2 ^ 63) :
    ∀ (d j : Nat) (byte : BitVec 8) (fuel : Nat), j + d = 8 → d < fuel →
      (∃ j', Gen.CFun.scalar_pack_bools_loop2 fuel xs out (BitVec.ofNat 64 xs.length) (BitVec.ofNat 64 i) byte (BitVec.ofNat 64 j) =
        (orBits (((xs.drop (i + j)).take d).map (· != 0)) j byte, j')) ∧
      Gen.CFun.scalar_pack_bools_loop2_defined fuel xs out (BitVec.ofNat 64 xs.length) (BitVec.ofNat 64 i) byte
        (BitVec.ofNat 64 j) = true := by
  intro d
  induction d with
  | zero =>
    intro j byte fuel hj hf
    obtain ⟨f, rfl⟩ := exists_fuel hf
    obtain rfl : j = 8 := hj
    simp [Gen.CFun.scalar_pack_bools_loop2, Gen.CFun.scalar_pack_bools_loop2_defined, orBits,
      show BitVec.slt (8#64) (8#64) = false by decide]
  | succ d ih =>
    intro j byte fuel hj hf
    obtain ⟨f, rfl⟩ := exists_fuel hf
    have hj8 : BitVec.slt (BitVec.ofNat 64 j) 8#64 = true := ofNat_slt_of_lt (v := 63) j 8 (by omega) (by decide)
    by_cases hin : i + j < xs.length
    · have hb : (xs[i + j].toBitVec != 0#8) = (xs[i + j] != 0) := by
        rw [Bool.eq_iff_iff]; simp [← UInt8.toBitVec_inj]
      obtain ⟨⟨j', hv⟩, hd⟩ := ih (j + 1) (if (xs[i + j] != 0) = true then byte ||| (1#8 <<< j) else byte) f (by omega)
        (Nat.lt_of_succ_lt_succ hf)
      rw [← Nat.add_assoc] at hv
      have hsc : shCountOk true 32 (BitVec.ofNat 64 j) = true := by
        simp only [shCountOk, ofNat_msb _ (show j < 2 ^ 63 by omega), ofNat_toNat _ (show j < 2 ^ 63 by omega)]; simp; omega
      -- the new `byte` of the round, read off the generated text up to unfolding
      have hval : (if rd8 xs (BitVec.ofNat 64 i + BitVec.ofNat 64 j).toInt.toNat != 0#8
          then BitVec.setWidth 8 (BitVec.setWidth 32 byte ||| (1#32 <<< (BitVec.ofNat 64 j).toNat)) else byte) =
          if (xs[i + j] != 0) = true then byte ||| (1#8 <<< j) else byte := by
        simp (disch := omega) only [ofNat_add, ofNat_toInt_toNat, ofNat_toNat, rd8_of_lt, or_bit_int, hb]
      simp (disch := omega) only [Gen.CFun.scalar_pack_bools_loop2, Gen.CFun.scalar_pack_bools_loop2_defined, hj8, ofNat_add,
        ofNat_slt_of_lt, Bool.and_self, if_true, ofNat_sAddOk, ofNat_toInt_toNat, ofNat_toNat, ofNat_msb, inb_of_lt, rd8_of_lt,
        List.drop_eq_getElem_cons hin, List.take_succ_cons, List.map_cons, orBits, hsc, sShlOk_one ⟨j, by omega⟩, Bool.not_false,
        ite_self, Bool.true_and, Bool.or_true]
      exact ⟨⟨j', (congrArg (Gen.CFun.scalar_pack_bools_loop2 f _ _ _ _ · _) hval).trans hv⟩,
        (congrArg (Gen.CFun.scalar_pack_bools_loop2_defined f _ _ _ _ · _) hval).trans hd⟩
    · simp (disch := omega) [Gen.CFun.scalar_pack_bools_loop2, Gen.CFun.scalar_pack_bools_loop2_defined, hj8, ofNat_add,
        ofNat_slt_of_ge, ofNat_sAddOk, List.drop_eq_nil_of_le (Nat.le_of_not_lt hin), orBits]

theorem pack_outer (xs : List UInt8) (hn : xs.length + 8 < 2 ^ 63) :
    ∀ (rest done : List UInt8) (fuel : Nat), rest.length < fuel → done.length + rest.length = (xs.length + 7) / 8 →
      Gen.CFun.scalar_pack_bools_loop1 fuel xs (done ++ rest) (BitVec.ofNat 64 xs.length) (BitVec.ofNat 64 (8 * done.length)) =
        done ++ packBits ((xs.drop (8 * done.length)).map (· != 0)) ∧
      Gen.CFun.scalar_pack_bools_loop1_defined fuel xs (done ++ rest) (BitVec.ofNat 64 xs.length)
        (BitVec.ofNat 64 (8 * done.length)) = true := by
  intro rest
  induction rest with
  | nil =>
    intro done fuel hf hl
    obtain ⟨f, rfl⟩ := exists_fuel hf
    simp only [List.length_nil, Nat.add_zero] at hl
    simp (disch := omega) [Gen.CFun.scalar_pack_bools_loop1, Gen.CFun.scalar_pack_bools_loop1_defined, ofNat_slt_of_ge,
      List.drop_eq_nil_of_le (show xs.length ≤ 8 * done.length by omega), packBits]
  | cons y ys ih =>
    intro done fuel hf hl
    obtain ⟨f, rfl⟩ := exists_fuel hf
    simp only [List.length_cons] at hf hl
    obtain ⟨⟨j', hv⟩, hd⟩ := pack_inner xs (done ++ y :: ys) (8 * done.length) (by omega) (by omega) 8 0 0#8 9 rfl (by decide)
    have hne : (xs.drop (8 * done.length)).map (· != 0) ≠ [] :=
      List.ne_nil_of_length_pos (by rw [List.length_map, List.length_drop]; omega)
    have h := ih (done ++ [packByte (((xs.drop (8 * done.length)).map (· != 0)).take 8)]) f (by omega) (by simp; omega)
    simp only [List.length_append, List.length_singleton, List.append_assoc, List.singleton_append, Nat.mul_add, Nat.mul_one] at h
    simp (disch := omega) only [Gen.CFun.scalar_pack_bools_loop1, Gen.CFun.scalar_pack_bools_loop1_defined, ofNat_slt_of_lt, if_true,
      hv, hd, Nat.add_zero, ofNat_sdiv, Nat.mul_div_cancel_left _ (show 0 < 8 by decide), ofNat_toInt_toNat, ofNat_msb, wr8_at, inb_at,
      orBits_packByte, UInt8.ofBitVec_toBitVec, List.map_take, ofNat_add, ofNat_sAddOk, Bool.true_and, Bool.not_false]
    refine ⟨?_, h.2⟩
    rw [h.1, SimdBools.packBits_unfold _ hne, ← List.map_drop, List.drop_drop]

theorem scalar_pack_bools_eq (xs out : List UInt8) (ho : out.length = (xs.length + 7) / 8) (h : xs.length + 8 < 2 ^ 63) :
    Gen.CFun.scalar_pack_bools xs out (BitVec.ofNat 64 xs.length) = scalarPackBools xs ∧
    Gen.CFun.scalar_pack_bools_defined xs out (BitVec.ofNat 64 xs.length) = true := by
  have := pack_outer xs h out [] (xs.length / 8 + 2) (by omega) (by simpa using ho)
  simpa [Gen.CFun.scalar_pack_bools, Gen.CFun.scalar_pack_bools_defined, scalarPackBools, packScalar,
    ofNat_toInt_toNat _ (show xs.length < 2 ^ 63 by omega)] using this

end Carquet.Proofs.CFunB
