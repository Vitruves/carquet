import Carquet.Proofs.CFunB.Enc
import Carquet.Proofs.CodecBytes
/-
`lz4_count(p, match, limit)` (src/compression/lz4.c: 8 bytes at a time through two `memcpy`s into `uint64_t`, the first differing
byte found by a byte loop, then byte by byte up to `limit`) as translated from the current C source, against Impl.Lz4.count.
`match` is the start of the buffer, `p` and `limit` are offsets into it.
-/
namespace Carquet.Proofs.CFunB
open Carquet Carquet.Impl Carquet.Impl.CSem Carquet.Proofs.CSem

theorem byteAt_list (buf : List UInt8) (i : Nat) : Lz4.byteAt buf.toArray i = buf.getD i 0 := by
  simp [Lz4.byteAt, List.getD]

/-- the little-endian number of the bytes `f 0 … f (k - 1)` -/
def leSum (f : Nat → UInt8) : Nat → Nat
  | 0 => 0
  | k + 1 => leSum f k + (f k).toNat * 2 ^ (8 * k)

theorem leSum_eq_leNat (f : Nat → UInt8) : ∀ k, leSum f k = Bitpack.leNat ((List.range k).map f) := by
  intro k
  induction k with
  | zero => rfl
  | succ k ih =>
    rw [leSum, List.range_succ, List.map_append, NatBits.leNat_append, List.length_map, List.length_range, ih,
      List.map_singleton, Bitpack.leNat, Bitpack.leNat, Nat.mul_zero, Nat.add_zero, Nat.mul_comm]

theorem leSum_inj (f g : Nat → UInt8) (k : Nat) (h : leSum f k = leSum g k) (j : Nat) (hj : j < k) : f j = g j :=
  List.map_inj_left.mp
    (CodecBytes.leNat_inj (by rw [List.length_map, List.length_map]) (by rw [← leSum_eq_leNat, ← leSum_eq_leNat, h]))
    j (List.mem_range.mpr hj)

theorem ld64le_leSum (buf : List UInt8) (p : Nat) : (ld64le buf p).toNat = leSum (fun j => buf.getD (p + j) 0) 8 := by
  rw [CFun2.ld64le_toNat]; simp only [leSum, Nat.zero_add, Nat.mul_zero, Nat.pow_zero, Nat.mul_one, Nat.add_zero, Nat.reduceMul]

theorem ld64_eq_iff (buf : List UInt8) (p m : Nat) :
    (ld64le buf p == ld64le buf m) = Lz4.eq8 buf.toArray p m := by
  rw [Bool.eq_iff_iff]
  simp only [beq_iff_eq, Lz4.eq8, byteAt_list, Bool.and_eq_true]
  constructor
  · intro h
    have h2 := congrArg BitVec.toNat h
    rw [ld64le_leSum, ld64le_leSum] at h2
    have hj := leSum_inj _ _ 8 h2
    exact ⟨⟨⟨⟨⟨⟨⟨hj 0 (by decide), hj 1 (by decide)⟩, hj 2 (by decide)⟩, hj 3 (by decide)⟩, hj 4 (by decide)⟩, hj 5 (by decide)⟩,
      hj 6 (by decide)⟩, hj 7 (by decide)⟩
  · intro ⟨⟨⟨⟨⟨⟨⟨e0, e1⟩, e2⟩, e3⟩, e4⟩, e5⟩, e6⟩, e7⟩
    apply BitVec.eq_of_toNat_eq
    rw [CFun2.ld64le_toNat, CFun2.ld64le_toNat, e0, e1, e2, e3, e4, e5, e6, e7]

theorem byte_beq (buf : List UInt8) (p m : Nat) :
    (BitVec.setWidth 32 (rd8 buf p) == BitVec.setWidth 32 (rd8 buf m)) = decide (Lz4.byteAt buf.toArray p = Lz4.byteAt buf.toArray m) := by
  rw [zext_beq, byteAt_list, byteAt_list, CFun2.rd8_eq, CFun2.rd8_eq, u8_beq, Bool.beq_eq_decide_eq]

/-- the byte loop up to `limit` (loop #3); `p = start + k` -/
theorem lz4_tail (buf : List UInt8) (limit start : Nat) (hl : limit ≤ buf.length) :
    ∀ (d k m fuel : Nat), start + k + d = limit → m ≤ start + k → d < fuel →
      Gen.CFun.lz4_count_loop3 fuel buf m limit (start + k) start =
        BitVec.ofNat 64 (Lz4.countTail buf.toArray limit d (start + k) m k) ∧
      Gen.CFun.lz4_count_loop3_defined fuel buf m limit (start + k) start = true := by
  intro d
  induction d with
  | zero =>
    intro k m fuel hp hm hf
    obtain ⟨f, rfl⟩ := exists_fuel hf
    simp only [Gen.CFun.lz4_count_loop3, Gen.CFun.lz4_count_loop3_defined, show ¬ start + k < limit by omega, decide_false,
      Bool.false_and, Bool.false_eq_true, if_false, Lz4.countTail, ofInt_sub_start]
    simp
  | succ d ih =>
    intro k m fuel hp hm hf
    obtain ⟨f, rfl⟩ := exists_fuel hf
    have hnext := ih (k + 1) (m + 1) f (by omega) (by omega) (Nat.lt_of_succ_lt_succ hf)
    simp only [Gen.CFun.lz4_count_loop3, Gen.CFun.lz4_count_loop3_defined, show start + k < limit by omega, decide_true,
      Bool.true_and, Bool.not_true, Bool.false_or, byte_beq, inb_of_lt buf (start + k) (by omega), inb_of_lt buf m (by omega),
      Lz4.countTail, true_and, ofInt_sub_start]
    by_cases he : Lz4.byteAt buf.toArray (start + k) = Lz4.byteAt buf.toArray m
    · simpa only [he, decide_true, if_true, Nat.add_assoc] using hnext
    · simp [he]

/-- the byte loop that finds the first differing byte after two 8-byte words differed (nested loop #2) -/
theorem lz4_first_diff (buf : List UInt8) (limit start : Nat) (a b : BitVec 64) :
    ∀ (k p m fuel : Nat), ¬ (∀ j, j < k → Lz4.byteAt buf.toArray (p + j) = Lz4.byteAt buf.toArray (m + j)) → p + k ≤ buf.length →
      m ≤ p → k < fuel → ∀ acc,
      Gen.CFun.lz4_count_loop2 fuel buf m limit p start a b =
        (m + (Lz4.firstDiff buf.toArray k p m acc - acc), p + (Lz4.firstDiff buf.toArray k p m acc - acc)) ∧
      Gen.CFun.lz4_count_loop2_defined fuel buf m limit p start a b = true ∧ acc ≤ Lz4.firstDiff buf.toArray k p m acc := by
  intro k
  induction k with
  | zero => intro p m fuel h; exact absurd (fun j hj => absurd hj (Nat.not_lt_zero j)) h
  | succ k ih =>
    intro p m fuel hne hlen hm hf acc
    obtain ⟨f, rfl⟩ := exists_fuel hf
    simp only [Gen.CFun.lz4_count_loop2, Gen.CFun.lz4_count_loop2_defined, byte_beq buf p m,
      inb_of_lt buf p (by omega), inb_of_lt buf m (by omega), Lz4.firstDiff, Bool.true_and]
    by_cases he : Lz4.byteAt buf.toArray p = Lz4.byteAt buf.toArray m
    · have hne' : ¬ (∀ j, j < k → Lz4.byteAt buf.toArray (p + 1 + j) = Lz4.byteAt buf.toArray (m + 1 + j)) := by
        intro hall
        apply hne
        intro j hj
        cases j with
        | zero => exact he
        | succ j =>
          have := hall j (Nat.lt_of_succ_lt_succ hj)
          rwa [Nat.add_assoc, Nat.add_comm 1, Nat.add_assoc m, Nat.add_comm 1] at this
      obtain ⟨h1, h2, h3⟩ := ih (p + 1) (m + 1) f hne' (by omega) (by omega) (Nat.lt_of_succ_lt_succ hf) (acc + 1)
      simp only [he, decide_true, if_true, h1, h2, true_and]
      exact ⟨by apply Prod.ext <;> simp <;> omega, by omega⟩
    · simp [he]

theorem eq8_false_exists (buf : List UInt8) (p m : Nat) (h : Lz4.eq8 buf.toArray p m = false) :
    ¬ (∀ j, j < 8 → Lz4.byteAt buf.toArray (p + j) = Lz4.byteAt buf.toArray (m + j)) := by
  intro hall
  have : Lz4.eq8 buf.toArray p m = true := by
    simp only [Lz4.eq8, Bool.and_eq_true, beq_iff_eq]
    exact ⟨⟨⟨⟨⟨⟨⟨hall 0 (by decide), hall 1 (by decide)⟩, hall 2 (by decide)⟩, hall 3 (by decide)⟩, hall 4 (by decide)⟩,
      hall 5 (by decide)⟩, hall 6 (by decide)⟩, hall 7 (by decide)⟩
  rw [this] at h; exact Bool.noConfusion h

theorem firstDiff_acc (arr : Lz4.Bytes) : ∀ (k p m acc : Nat), Lz4.firstDiff arr k p m acc = acc + Lz4.firstDiff arr k p m 0 := by
  intro k
  induction k with
  | zero => intro p m acc; simp [Lz4.firstDiff]
  | succ k ih =>
    intro p m acc
    simp only [Lz4.firstDiff]
    split
    · rw [ih _ _ (acc + 1), ih _ _ (0 + 1)]; omega
    · simp

/-- the 8-bytes-at-a-time loop (#1) with what follows it; `p = start + k` -/
theorem lz4_fast (buf : List UInt8) (limit start : Nat) (hl : limit ≤ buf.length) (h7 : 7 ≤ limit) :
    ∀ (fC fM k m : Nat), start + k ≤ limit → m ≤ start + k → limit - (start + k) < fM → limit - (start + k) < 8 * fC →
      Gen.CFun.lz4_count_loop1 fC buf m limit (start + k) start =
        BitVec.ofNat 64 (Lz4.countFast buf.toArray limit fM (start + k) m k) ∧
      Gen.CFun.lz4_count_loop1_defined fC buf m limit (start + k) start = true := by
  intro fC
  induction fC with
  | zero => intro _ _ _ _ _ _ hf; omega
  | succ fc ih =>
    intro fM k m hpl hm hfM hfC
    obtain ⟨fm, rfl⟩ := exists_fuel hfM
    by_cases hfast : start + k + 7 < limit
    · have hne : (ld64le buf (start + k) != ld64le buf m) = !Lz4.eq8 buf.toArray (start + k) m := by rw [bne, ld64_eq_iff]
      simp only [Gen.CFun.lz4_count_loop1, Gen.CFun.lz4_count_loop1_defined, decide_eq_true h7,
        decide_eq_true (show start + k < limit - 7 by omega), if_true, show inb buf (start + k) 8 = true by simp [inb]; omega,
        show inb buf m 8 = true by simp [inb]; omega, hne, Bool.true_and, Lz4.countFast, hfast]
      cases he : Lz4.eq8 buf.toArray (start + k) m with
      | true =>
        have hnext := ih fm (k + 8) (m + 8) (by omega) (by omega) (by omega) (by omega)
        simpa only [Bool.not_true, Bool.false_eq_true, if_false, if_true, Nat.add_assoc] using hnext
      | false =>
        obtain ⟨h1, h2, h3⟩ := lz4_first_diff buf limit start (ld64le buf (start + k)) (ld64le buf m) 8 (start + k) m 9
          (eq8_false_exists buf _ m he) (by omega) hm (by decide) k
        simp only [Bool.not_false, if_true, Bool.false_eq_true, if_false, h1, h2, and_true, Nat.add_assoc, ofInt_sub_start]
        congr 1; omega
    · have ht := lz4_tail buf limit start hl (limit - (start + k)) k m (limit + 1) (by omega) hm (by omega)
      simpa only [Gen.CFun.lz4_count_loop1, Gen.CFun.lz4_count_loop1_defined, decide_eq_true h7,
        decide_eq_false (show ¬ start + k < limit - 7 by omega), Bool.false_eq_true, if_false, Lz4.countFast, hfast,
        Bool.true_and] using ht

theorem lz4_count_eq (buf : List UInt8) (off limit : Nat) (ho : off ≤ limit) (hl : limit ≤ buf.length) (h7 : 7 ≤ limit) :
    Gen.CFun.lz4_count off buf limit = BitVec.ofNat 64 (Lz4.count buf.toArray off 0 limit) ∧
    Gen.CFun.lz4_count_defined off buf limit = true := by
  have := lz4_fast buf limit off hl h7 (limit / 8 + 1) (limit - off + 1) 0 0 ho (Nat.zero_le _) (by omega) (by omega)
  simpa [Gen.CFun.lz4_count, Gen.CFun.lz4_count_defined, Lz4.count] using this

end Carquet.Proofs.CFunB
