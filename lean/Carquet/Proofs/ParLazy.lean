import Carquet.Proofs.Par
/-
C07, lazy initialisation: the invariant "every written cell is acceptable, a set flag means the
table is complete" holds in every state reachable by ANY schedule in which every worker follows the
initialiser discipline, and every snapshot a reader logs satisfies it too.
-/
namespace Carquet.Proofs.Par
open Carquet.Impl.Par

theorem proj_flat (w : Worker) (s : List (Worker × Action)) :
    proj w (flat s) = (proj w s).flatMap Action.prims := by
  induction s with
  | nil => rfl
  | cons e s ih =>
    cases e with
    | mk w0 a =>
      by_cases h : w0 = w
      · subst h
        have : proj w0 (solo w0 a.prims) = a.prims := proj_solo_self w0 a.prims
        simp only [solo] at this
        simp [flat, proj_append, proj_cons_self, ih, this]
      · have : proj w (solo w0 a.prims) = [] := proj_solo_other w w0 a.prims h
        simp only [solo] at this
        simp [flat, proj_append, proj_cons_other _ _ _ _ h, ih, this]

theorem initDiscipline_prefix {n : Nat} {good : Nat → Nat → Prop} {l1 l2 : List Prim}
    (h : InitDiscipline n good (l1 ++ l2)) : InitDiscipline n good l1 := by
  refine ⟨fun i v hm => h.1 i v (List.mem_append_left _ hm), ?_⟩
  intro pre post e i hi
  exact h.2 pre (post ++ l2) (by simp [e]) i hi

/-- invariant carried along a primitive-level history `h` -/
structure LazyInv (n : Nat) (good : Nat → Nat → Prop) (h : List (Worker × Prim)) (st : State) : Prop where
  table : TableOK n good st.sh.flag st.sh.table
  own : ∀ w i v, Prim.initCell i v ∈ proj w h → ∃ v', st.sh.table[i]? = some (some v')
  obs : ∀ w, ∀ o ∈ st.pr w, ObsOK n good o

theorem lazyInv_step {n : Nat} {good : Nat → Nat → Prop} {h : List (Worker × Prim)} {st : State}
    (inv : LazyInv n good h st) (w0 : Worker) (p : Prim)
    (hd : InitDiscipline n good (proj w0 h ++ [p])) :
    LazyInv n good (h ++ [(w0, p)]) (st.run w0 [p]) := by
  obtain ⟨hlen, hgood, hfull⟩ := inv.table
  -- a step that stores no cell: the cells stored so far are those of `h`
  have hown : (∀ i v, p ≠ .initCell i v) → ∀ w i v, Prim.initCell i v ∈ proj w (h ++ [(w0, p)]) →
      ∃ v', st.sh.table[i]? = some (some v') := fun hp w i v hm =>
    (mem_proj_snoc hm).elim (inv.own w i v) fun e => absurd e.2.symm (hp i v)
  -- the logs after a step that appends `q` to the log of `w0`
  have hobs : ∀ q : Priv, (∀ o ∈ q, ObsOK n good o) → ∀ w, ∀ o ∈ setPriv st.pr w0 (st.pr w0 ++ q) w, ObsOK n good o := by
    intro q hq w o ho
    by_cases e : w = w0
    · subst e
      rw [setPriv_self] at ho
      exact (List.mem_append.1 ho).elim (inv.obs w o) (hq o)
    · rw [setPriv_other _ _ _ _ e] at ho; exact inv.obs w o ho
  have hobs0 := hobs [] (by simp)
  rw [List.append_nil] at hobs0
  cases p with
  | seek f o => exact ⟨inv.table, hown nofun, hobs0⟩
  | read f k => exact ⟨inv.table, hown nofun, hobs [_] (by simp [ObsOK])⟩
  | load o k => exact ⟨inv.table, hown nofun, hobs [_] (by simp [ObsOK])⟩
  | useTable => exact ⟨inv.table, hown nofun, hobs [_] (by simpa [ObsOK] using inv.table)⟩
  | setFlag =>
    refine ⟨⟨hlen, hgood, fun _ i hi => ?_⟩, hown nofun, hobs0⟩
    obtain ⟨v, hv⟩ := hd.2 (proj w0 h) [] rfl i hi
    exact inv.own w0 i v hv
  | initCell i v =>
    have hiv := hd.1 i v (by simp)
    have hset : ∀ j, (st.sh.table.set i (some v))[j]? = if i = j then some (some v) else st.sh.table[j]? := by
      intro j
      by_cases e : i = j
      · subst e; simp [List.getElem?_set_self (hlen ▸ hiv.1)]
      · simp [List.getElem?_set_ne e, e]
    -- a cell that was stored stays stored
    have hkeep : ∀ j : Nat, (∃ v', st.sh.table[j]? = some (some v')) → ∃ v', (st.sh.table.set i (some v))[j]? = some (some v') := by
      intro j hj; rw [hset]; split
      · exact ⟨v, rfl⟩
      · exact hj
    show LazyInv n good _ ⟨{ st.sh with table := st.sh.table.set i (some v) }, setPriv st.pr w0 (st.pr w0)⟩
    refine ⟨⟨by simpa using hlen, fun j v' hj => ?_, fun hf j hj => hkeep j (hfull hf j hj)⟩, fun w j v' hm => ?_, hobs0⟩
    · rw [hset] at hj
      split at hj
      · next e => cases hj; exact e ▸ hiv.2
      · exact hgood j v' hj
    · rcases mem_proj_snoc hm with hm | ⟨-, e⟩
      · exact hkeep j (inv.own w j v' hm)
      · cases e; exact ⟨v, by rw [hset, if_pos rfl]⟩
theorem lazyInv_exec {n : Nat} {good : Nat → Nat → Prop} (s : List (Worker × Prim)) :
    ∀ (h : List (Worker × Prim)) (st : State), LazyInv n good h st →
      (∀ w, InitDiscipline n good (proj w (h ++ s))) →
      LazyInv n good (h ++ s) (execPrims s st) := by
  induction s with
  | nil => intro h st inv _; simpa [execPrims] using inv
  | cons e s ih =>
    intro h st inv hd
    cases e with
    | mk w0 p =>
      have e1 : h ++ (w0, p) :: s = (h ++ [(w0, p)]) ++ s := by simp
      rw [e1]
      simp only [execPrims]
      apply ih
      · apply lazyInv_step inv
        have := hd w0
        rw [e1, proj_append, proj_append, proj_cons_self] at this
        simp only [proj_nil] at this
        exact initDiscipline_prefix this
      · intro w; rw [← e1]; exact hd w

theorem lazyInv_init (file : List UInt8) (n : Nat) (good : Nat → Nat → Prop) :
    LazyInv n good [] (initState file n) := by
  refine ⟨⟨by simp [initState, emptyTable], ?_, ?_⟩, ?_, ?_⟩
  · intro i v hi
    simp [initState, emptyTable, List.getElem?_replicate] at hi
  · intro hf; simp [initState] at hf
  · intro w i v hm; simp at hm
  · intro w o ho; simp [initState] at ho

theorem tableOK_final (final : List Nat) (fl : Bool) (cells : List (Option Nat))
    (h : TableOK final.length (fun i v => final[i]? = some v) fl cells) :
    (∀ i, i < final.length → cells[i]? = some none ∨ cells[i]? = some final[i]?) ∧
    (fl = true → cells = final.map some) := by
  obtain ⟨hl, hg, hf⟩ := h
  refine ⟨fun i hi => ?_, fun hfl => List.ext_getElem? fun i => ?_⟩
  · obtain ⟨c, hc⟩ : ∃ c, cells[i]? = some c := ⟨_, List.getElem?_eq_getElem (hl ▸ hi)⟩
    cases c with
    | none => exact .inl hc
    | some v => exact .inr (by rw [hc, hg i v hc])
  · by_cases hi : i < final.length
    · obtain ⟨v, hv⟩ := hf hfl i hi
      simp [hv, hg i v hv]
    · simp [List.getElem?_eq_none (Nat.le_of_not_lt (hl ▸ hi)), List.getElem?_eq_none (Nat.le_of_not_lt hi)]

/-! ### the initialisers of the C code follow the discipline -/

theorem mem_cellsFrom (i0 : Nat) (vs : List Nat) (i v : Nat) (h : (i, v) ∈ cellsFrom i0 vs) :
    i0 ≤ i ∧ vs[i - i0]? = some v := by
  induction vs generalizing i0 with
  | nil => simp [cellsFrom] at h
  | cons x xs ih =>
    simp only [cellsFrom, List.mem_cons, Prod.mk.injEq] at h
    rcases h with ⟨rfl, rfl⟩ | h
    · simp
    · have := ih (i0 + 1) h
      have e : i - i0 = (i - (i0 + 1)) + 1 := by omega
      refine ⟨by omega, ?_⟩
      rw [e]; simpa using this.2

theorem cellsFrom_covers (i0 : Nat) (vs : List Nat) (j : Nat) (hj : j < vs.length) :
    ∃ v, (i0 + j, v) ∈ cellsFrom i0 vs := by
  induction vs generalizing i0 j with
  | nil => simp at hj
  | cons x xs ih =>
    cases j with
    | zero => exact ⟨x, by simp [cellsFrom]⟩
    | succ j =>
      obtain ⟨v, hv⟩ := ih (i0 + 1) j (by simpa using hj)
      refine ⟨v, ?_⟩
      simp only [cellsFrom, List.mem_cons, Prod.mk.injEq]
      right
      have e : i0 + (j + 1) = i0 + 1 + j := by omega
      rw [e]; exact hv

theorem initialiser_prims (writes : List (Nat × Nat)) :
    (initialiser writes).flatMap Action.prims =
      writes.map (fun iv => Prim.initCell iv.1 iv.2) ++ [Prim.setFlag] := by
  have hfm : ∀ (l : List (Nat × Nat)),
      l.flatMap (fun a => [Prim.initCell a.1 a.2]) = l.map (fun iv => Prim.initCell iv.1 iv.2) := by
    intro l; induction l with
    | nil => rfl
    | cons a l ih => simp [ih]
  simp [initialiser, List.flatMap_append, List.flatMap_map, Action.prims, hfm]

theorem initialiser_discipline (writes : List (Nat × Nat)) (n : Nat) (good : Nat → Nat → Prop)
    (hgood : ∀ iv ∈ writes, iv.1 < n ∧ good iv.1 iv.2)
    (hcover : ∀ i, i < n → ∃ v, (i, v) ∈ writes) (k : Nat) :
    InitDiscipline n good (((initialiser writes).take k).flatMap Action.prims) := by
  have hrest : (initialiser writes).flatMap Action.prims =
      ((initialiser writes).take k).flatMap Action.prims ++
      ((initialiser writes).drop k).flatMap Action.prims := by
    rw [← List.flatMap_append, List.take_append_drop]
  have hD : InitDiscipline n good ((initialiser writes).flatMap Action.prims) := by
    rw [initialiser_prims]
    refine ⟨?_, ?_⟩
    · intro i v hm
      simp only [List.mem_append, List.mem_map, List.mem_singleton, reduceCtorEq, or_false] at hm
      obtain ⟨iv, hiv, e⟩ := hm
      simp only [Prim.initCell.injEq] at e
      obtain ⟨rfl, rfl⟩ := e
      exact hgood iv hiv
    · intro pre post e i hi
      have hnot : Prim.setFlag ∉ writes.map (fun iv => Prim.initCell iv.1 iv.2) := by simp
      obtain ⟨v, hv⟩ := hcover i hi
      have hmem : Prim.initCell i v ∈ writes.map (fun iv => Prim.initCell iv.1 iv.2) :=
        List.mem_map.2 ⟨(i, v), hv, rfl⟩
      rcases List.append_eq_append_iff.1 e with ⟨a', h1, h2⟩ | ⟨c', h1, h2⟩
      · cases a' with
        | nil => exact ⟨v, by rw [h1]; simpa using hmem⟩
        | cons x xs =>
          simp only [List.cons_append, List.cons.injEq] at h2
          have := h2.2
          simp at this
      · cases c' with
        | nil => exact ⟨v, by simp only [List.append_nil] at h1; rw [← h1]; exact hmem⟩
        | cons x xs =>
          simp only [List.cons_append, List.cons.injEq] at h2
          have hx : x = Prim.setFlag := h2.1.symm
          exact absurd (by rw [h1]; simp [hx]) hnot
  rw [hrest] at hD
  exact initDiscipline_prefix hD

/-- `crc32_init_tables`-shaped initialisers (cell `i` gets `vals[i]`, once, in index order, then the flag) and their
prefixes follow the idempotent discipline -/
theorem tableInitialiser_discipline (vals : List Nat) (k : Nat) :
    InitDiscipline vals.length (fun i v => vals[i]? = some v)
      (((tableInitialiser vals).take k).flatMap Action.prims) := by
  apply initialiser_discipline
  · intro iv hiv
    have := (mem_cellsFrom 0 vals iv.1 iv.2 hiv).2
    simp only [Nat.sub_zero] at this
    exact ⟨(List.getElem?_eq_some_iff.mp this).1, this⟩
  · intro i hi
    obtain ⟨v, hv⟩ := cellsFrom_covers 0 vals i hi
    exact ⟨v, by simpa using hv⟩

end Carquet.Proofs.Par
