import Carquet.Proofs.RoundtripChunk
/-
C01, file level — stage "loops" and the whole-file statement over the facts of a completed run
(`RunFacts`, Proofs/WriterRun.lean):

* `readRowGroup` (columns `0 … n-1` of one row group) and `readRowGroups` (row groups `0 … n-1`) by
  induction on the counter, each step being `get_column` (stage "open") + one chunk read completely
  (stage "one chunk");
* `readAll` = open (stage "open") + the loops up to `num_row_groups` / `num_columns`, which are the
  lengths of the writer's lists; `num_rows` of the footer is the sum over the row groups of the rows
  of their first column.
-/
namespace Carquet.Proofs.Roundtrip
open Carquet.Impl Carquet.Impl.Reader
open Carquet.Impl.Writer (ChunkMeta RgMeta FooterData PageRec Op readerColOf readerTableOf readerRowGroupsOf readerNumRows tableOf)
open Carquet.Proofs.SpecWriter Carquet.Proofs.WriterTable Carquet.Proofs.WriterPages Carquet.Proofs.WriterLayout
open Carquet.Proofs.ReaderPageRoundtrip

/-- the row group the reader returns for the page records of a written row group -/
def groupRead (cols : List Writer.Col) (g : List (List PageRec)) : List ColumnData :=
  List.zipWith readerColOf cols (g.map pagesData)

/-- the size conditions of the file-level round trip, in their direct form -/
structure ReadSmall (file : List UInt8) (md : FooterData) : Prop where
  fileLen : file.length < 2 ^ 64
  numValues : ∀ g ∈ md.rowGroups, ∀ ch ∈ g.chunks, ch.numValues < 2147483648

/-- the rows the footer states for the row groups are those of the first columns of the page records -/
theorem groups_rows_sum {D : Writer.Deps} {pp : WriterInv.Pred D} (hwf : pp.WF) {codec : Nat} {cols : List Writer.Col}
    {gms : List RgMeta} {gs : List (List (List PageRec))} {off ord : Nat} (h : WriterInv.Groups D pp codec cols gms gs off ord) :
    (gms.map (·.numRows)).sum = (gs.map (fun g => Writer.firstRecs cols (g.map pagesData))).sum := by
  induction h with
  | nil => rfl
  | cons h _ ih => simp [h.rows hwf, ih]

section run
variable (L : Libs) (verify : Bool) (mode : Mode) (codec : Nat) (o : FileReal.Oracle) (hst : StoredOk L o codec)
  (cols : List Writer.Col) (hcols : ∀ c ∈ cols, ColOk c) (ops : List Op)
  (file : List UInt8) (md : FooterData) (gs : List (List (List PageRec)))
  (hf : RunFacts (FileReal.deps o) (goodPred o) cols codec ops file md gs) (hsm : RunSmall md gs)
  (hrs : ReadSmall file md)
include hst hcols hf hsm hrs

/-- **columns of one row group** -/
theorem readRowGroup_written (i : Nat) (gm : RgMeta) (g : List (List PageRec)) (hg : md.rowGroups[i]? = some gm)
    (hgs : gs[i]? = some g) :
    ∀ n, n ≤ cols.length →
      readRowGroup Fixes.all L verify mode file ⟨FileReal.fileMetaData md, leavesOfCols md.cols⟩ i n =
        .ok ((groupRead cols g).take n)
  | 0, _ => by simp [readRowGroup]
  | n + 1, hn => by
    have ih := readRowGroup_written i gm g hg hgs n (by omega)
    obtain ⟨c, hc⟩ : ∃ c, cols[n]? = some c := ⟨cols[n], List.getElem?_eq_getElem (by omega)⟩
    obtain ⟨g', m, ps, h1, h2, h3, hcell⟩ := cell_of_run o codec cols ops file md gs hf hsm i n gm c hg hc
    rw [hgs] at h1
    simp only [Option.some.injEq] at h1
    subst h1
    have hck := hcols c (List.mem_of_getElem? hc)
    have hcol : md.cols[n]? = some c := by rw [hf.cols_eq]; exact hc
    have hgc := getColumn_written md i n gm m c hck hg h2 hcol hcell.ptype
    have hnv := hrs.numValues gm (List.mem_of_getElem? hg) m (List.mem_of_getElem? h2)
    have hrc := readCell L verify mode codec o hst file c hck m ps hcell hnv hrs.fileLen
    have hget : (groupRead cols g)[n]? = some (readerColOf c (pagesData ps)) := by
      simp [groupRead, List.getElem?_zipWith, hc, List.getElem?_map, h3]
    rw [Lists.take_succ_of_get _ n _ hget]
    unfold readRowGroup
    rw [ih]
    simp only [hgc, hrc]

/-- **row groups** -/
theorem readRowGroups_written :
    ∀ n, n ≤ md.rowGroups.length →
      readRowGroups Fixes.all L verify mode file ⟨FileReal.fileMetaData md, leavesOfCols md.cols⟩ n =
        .ok ((gs.map (groupRead cols)).take n)
  | 0, _ => by simp [readRowGroups]
  | n + 1, hn => by
    have ih := readRowGroups_written n (by omega)
    have hlen := hf.groups.length
    obtain ⟨gm, hg⟩ : ∃ gm, md.rowGroups[n]? = some gm := ⟨md.rowGroups[n], List.getElem?_eq_getElem (by omega)⟩
    obtain ⟨g, hgs⟩ : ∃ g, gs[n]? = some g := ⟨gs[n]'(by omega), List.getElem?_eq_getElem (by omega)⟩
    have hnc : (⟨FileReal.fileMetaData md, leavesOfCols md.cols⟩ : Opened).numColumns = cols.length := by
      simp [Opened.numColumns, leavesOfCols, hf.cols_eq]
    have hrg := readRowGroup_written L verify mode codec o hst cols hcols ops file md gs hf hsm hrs n gm g hg hgs
      cols.length (Nat.le_refl _)
    have hfull : (groupRead cols g).take cols.length = groupRead cols g := by
      apply List.take_of_length_le
      simp only [groupRead, List.length_zipWith]
      omega
    rw [hfull] at hrg
    have hget : (gs.map (groupRead cols))[n]? = some (groupRead cols g) := by simp [List.getElem?_map, hgs]
    rw [Lists.take_succ_of_get _ n _ hget]
    unfold readRowGroups
    rw [ih]
    simp only [hnc, hrg]

omit hst hcols hrs in
/-- **open**: every open path accepts the written file and holds the writer's metadata and one leaf per column -/
theorem openFile_written (hne : cols ≠ []) :
    openFile mode file = .ok ⟨FileReal.fileMetaData md, leavesOfCols md.cols⟩ := by
  have hfoot : (FileReal.deps o).footer md = FileReal.footer md := rfl
  rw [hf.file_eq, hfoot]
  exact openFile_envelope mode _ _ hsm.footerLen _ (parseFooter_written md hsm.footer (by rw [hf.cols_eq]; exact hne))

/-- **whole-file stage**: over the facts of a completed run, carquet's reader model — in any mode,
with or without checksum verification; for any codec tag whose stored bodies the reader's libraries
decompress (`StoredOk`: a theorem for UNCOMPRESSED / SNAPPY / LZ4 / LZ4_RAW, the library contract for
GZIP / ZSTD) — returns the table the history denotes -/
theorem readAll_written (hne : cols ≠ []) :
    readAll Fixes.all L verify mode file = .ok (readerTableOf cols ops) := by
  have hopen := openFile_written mode codec o cols ops file md gs hf hsm hne
  have hlen := hf.groups.length
  have hnrg : (⟨FileReal.fileMetaData md, leavesOfCols md.cols⟩ : Opened).numRowGroups = md.rowGroups.length := by
    simp [Opened.numRowGroups, FileReal.fileMetaData]
  have hrgs := readRowGroups_written L verify mode codec o hst cols hcols ops file md gs hf hsm hrs
    md.rowGroups.length (Nat.le_refl _)
  rw [List.take_of_length_le (by simp [hlen])] at hrgs
  unfold readAll
  rw [hopen]
  simp only [hnrg, hrgs]
  have hrows : ((FileReal.fileMetaData md).numRows : Int) = ((readerNumRows cols ops : Nat) : Int) := by
    show ((md.numRows : Nat) : Int) = _
    rw [hf.numRows_eq, groups_rows_sum (goodPred_wf o) hf.groups]
    unfold readerNumRows
    rw [← hf.table, List.map_map]
    rfl
  have hgroups : gs.map (groupRead cols) = readerRowGroupsOf cols ops := by
    unfold readerRowGroupsOf
    rw [← hf.table, List.map_map]
    rfl
  rw [hgroups]
  unfold readerTableOf
  rw [← hrows]

end run

end Carquet.Proofs.Roundtrip
