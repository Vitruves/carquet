import Carquet.Impl.Delta
/-
Arithmetic safety facts of the Impl decoder (C08 part): the geometry after `init`, the position
invariant `pos + |rest| = size`, the number of values produced.
-/
namespace Carquet.Impl.Delta

theorem readUlebLoop_le (f : Nat) : ∀ (shift : Nat) (acc : BitVec 64) (i : Nat) (data : List UInt8) (v : BitVec 64) (n : Nat),
    readUlebLoop f shift acc i data = some (v, n) → i < n ∧ n ≤ i + data.length := by
  induction f with
  | zero => intro shift acc i data v n h; simp [readUlebLoop] at h
  | succ f ih =>
    intro shift acc i data v n h
    cases data with
    | nil => simp [readUlebLoop] at h
    | cons b bs =>
      simp only [readUlebLoop] at h
      split at h
      · simp only [Option.some.injEq, Prod.mk.injEq] at h
        obtain ⟨_, rfl⟩ := h
        simp
      · have := ih _ _ _ _ _ _ h
        simp only [List.length_cons]
        omega

theorem readUleb128_le (data : List UInt8) (v : BitVec 64) (n : Nat) (h : readUleb128 data = some (v, n)) :
    n ≤ data.length := by
  have := readUlebLoop_le 10 0 0#64 0 data v n h
  omega

/-! ### `delta_decoder_init` -/

theorem ite6_same {α : Type} (e x : α) {c1 c2 c3 c4 c5 c6 : Prop} [Decidable c1] [Decidable c2]
    [Decidable c3] [Decidable c4] [Decidable c5] [Decidable c6] (h : c1 ∨ c2 ∨ c3 ∨ c4 ∨ c5 ∨ c6) :
    (if c1 then e else if c2 then e else if c3 then e else if c4 then e else if c5 then e
      else if c6 then e else x) = e := by
  rcases h with h | h | h | h | h | h <;> simp [h]

theorem geometry_tests (bs mb : Nat) (h : ¬ (bs = 128 ∧ mb = 4)) :
    blockSize < bs ∨ miniBlocks < mb ∨ mb = 0 ∨ bs = 0 ∨ miniBlockSize < bs / mb ∨
      (bs % 128 ≠ 0 ∨ bs % mb ≠ 0 ∨ bs / mb % 32 ≠ 0) := by
  simp only [blockSize, miniBlocks, miniBlockSize]
  by_cases hb : bs = 128
  · subst hb
    have : mb = 0 ∨ mb = 1 ∨ mb = 2 ∨ mb = 3 ∨ 4 < mb := by omega
    rcases this with rfl | rfl | rfl | rfl | h4 <;> simp
    omega
  · omega

theorem init_eq (data : List UInt8) : init data =
    match readUleb128 data with
    | none => .error .decode
    | some (bs, n1) =>
      match readUleb128 (data.drop n1) with
      | none => .error .decode
      | some (mb, n2) =>
        if bs.toNat = 128 ∧ mb.toNat = 4 then
          match readUleb128 (data.drop (n1 + n2)) with
          | none => .error .decode
          | some (total, n3) =>
            if 2147483647 < total.toNat then .error .decode
            else match readUleb128 (data.drop (n1 + n2 + n3)) with
            | none => .error .decode
            | some (first, n4) =>
              .ok { rest := data.drop (n1 + n2 + n3 + n4), pos := n1 + n2 + n3 + n4,
                    blockSize := 128, miniBlocksPerBlock := 4, totalValues := total.toNat,
                    valuesDecoded := 0, firstValue := zigzagDecode64 first, lastValue := zigzagDecode64 first,
                    minDelta := 0#64, widthsLeft := [], pending := [] }
        else .error .decode := by
  unfold init
  cases readUleb128 data with
  | none => rfl
  | some p1 =>
    obtain ⟨bs, n1⟩ := p1
    simp only []
    cases readUleb128 (data.drop n1) with
    | none => simp only []; split <;> rfl
    | some p2 =>
      obtain ⟨mb, n2⟩ := p2
      simp only []
      by_cases hg : bs.toNat = 128 ∧ mb.toNat = 4
      · rw [if_pos hg, hg.1, hg.2, if_neg (by decide), if_neg (by decide), if_neg (by decide), if_neg (by decide),
          if_neg (by decide), if_neg (by decide)]
        rfl
      · rw [if_neg hg, ite6_same _ _ (geometry_tests _ _ hg)]

theorem init_ok (data : List UInt8) (d : Dec) (h : init data = .ok d) :
    d.blockSize = 128 ∧ d.miniBlocksPerBlock = 4 ∧ d.totalValues ≤ 2147483647 ∧
    d.pos + d.rest.length = data.length ∧ d.valuesDecoded = 0 ∧ d.pending = [] ∧ d.widthsLeft = [] := by
  rw [init_eq] at h
  split at h
  · cases h
  · rename_i bs n1 h1
    split at h
    · cases h
    · rename_i mb n2 h2
      split at h
      · split at h
        · cases h
        · rename_i tot n3 h3
          split at h
          · cases h
          · rename_i htot
            split at h
            · cases h
            · rename_i fst n4 h4
              simp only [Except.ok.injEq] at h
              subst h
              have l1 := readUleb128_le _ _ _ h1
              have l2 := readUleb128_le _ _ _ h2
              have l3 := readUleb128_le _ _ _ h3
              have l4 := readUleb128_le _ _ _ h4
              rw [List.length_drop] at l2 l3 l4
              refine ⟨rfl, rfl, Nat.le_of_not_lt htot, ?_, rfl, rfl, rfl⟩
              show n1 + n2 + n3 + n4 + (data.drop (n1 + n2 + n3 + n4)).length = data.length
              rw [List.length_drop]; omega
      · cases h

/-! ### `pos + |rest|` is the input size, at every step -/

theorem readBlock_pos (d d' : Dec) (h : readBlock d = .ok d') :
    d'.pos + d'.rest.length = d.pos + d.rest.length := by
  unfold readBlock at h
  split at h
  · cases h
  · split at h
    · cases h
    · rename_i zz n h1
      split at h
      · cases h
      · rename_i hlen
        cases h
        have := readUleb128_le _ _ _ h1
        simp only [List.length_drop] at hlen ⊢
        omega

theorem readMiniData_pos (pre : Bool) (d d' : Dec) (w : UInt8) (ws : List UInt8)
    (h : readMiniData pre d w ws = .ok d') : d'.pos + d'.rest.length = d.pos + d.rest.length := by
  unfold readMiniData at h
  split at h
  · cases h; rfl
  · split at h
    · split at h
      · cases h
      · cases h; simp only [List.length_drop]; omega
    · split at h
      · split at h
        · cases h
        · cases h; simp only [List.length_drop]; omega
      · cases h

theorem readMiniBlock_pos (pre : Bool) (d d' : Dec) (h : readMiniBlock pre d = .ok d') :
    d'.pos + d'.rest.length = d.pos + d.rest.length := by
  unfold readMiniBlock at h
  split at h
  · exact readMiniData_pos pre d d' _ _ h
  · split at h
    · cases h
    · rename_i db hb
      split at h
      · rw [readMiniData_pos pre db d' _ _ h, readBlock_pos d db hb]
      · cases h

theorem popDelta_pos (d d' : Dec) (v : BitVec 64) (h : popDelta d = .ok (v, d')) :
    d'.pos + d'.rest.length = d.pos + d.rest.length := by
  unfold popDelta at h
  split at h
  · cases h; rfl
  · cases h

theorem next_pos (pre : Bool) (d d' : Dec) (v : BitVec 64) (h : next pre d = .ok (v, d')) :
    d'.pos + d'.rest.length = d.pos + d.rest.length := by
  unfold next at h
  split at h
  · cases h
  · split at h
    · cases h; rfl
    · split at h
      · exact popDelta_pos d d' v h
      · split at h
        · cases h
        · rename_i dm hr
          rw [popDelta_pos dm d' v h, readMiniBlock_pos pre d dm hr]

theorem decodeLoop_pos (pre : Bool) : ∀ (n : Nat) (d d' : Dec) (vs : List (BitVec 64)),
    decodeLoop pre n d = .ok (vs, d') → d'.pos + d'.rest.length = d.pos + d.rest.length ∧ vs.length = n
  | 0, d, d', vs, h => by
    simp only [decodeLoop, Except.ok.injEq, Prod.mk.injEq] at h
    obtain ⟨rfl, rfl⟩ := h
    exact ⟨rfl, rfl⟩
  | n + 1, d, d', vs, h => by
    simp only [decodeLoop] at h
    split at h
    · cases h
    · rename_i v d1 hn
      split at h
      · cases h
      · rename_i vs' d2 hl
        cases h
        obtain ⟨j1, j2⟩ := decodeLoop_pos pre n d1 d' vs' hl
        exact ⟨by rw [j1, next_pos pre d d1 v hn], by rw [List.length_cons, j2]⟩

theorem decodeV_ok (pre : Bool) (data : List UInt8) (n : Nat) (vs : List (BitVec 64)) (c : Nat)
    (h : decodeV pre data n = .ok (vs, c)) : vs.length = n ∧ c ≤ data.length := by
  unfold decodeV at h
  split at h
  · cases h
  · rename_i d hi
    split at h
    · cases h
    · rename_i vs' d' hl
      cases h
      obtain ⟨j1, j2⟩ := decodeLoop_pos pre n d d' vs hl
      have := (init_ok data d hi).2.2.2.1
      exact ⟨j2, by omega⟩

end Carquet.Impl.Delta
