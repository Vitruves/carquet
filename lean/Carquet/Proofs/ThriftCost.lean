import Carquet.Impl.ThriftCost
import Carquet.Proofs.ThriftSafe
/-
Step accounting for the Thrift decoder on arbitrary input (repaired code): the field loops in
general, and `thrift_skip`, which takes a number of steps LINEAR in the bytes it consumes:
`skipSteps ≤ 36 · (consumed + 1)`.

Accounting.  Every step is paid 36-fold by a consumed byte, except after the first error.  A
`thrift_skip` call that consumes bytes or ends in an error pays for itself; the only calls that do
neither are bool fields (their header byte was paid by the loop).  (Before fix F62 the three
`carquet_buffer_reader_skip` cases — BYTE, DOUBLE, UUID on a buffer with fewer than 1 / 8 / 16 bytes
left — were a second kind; with `skip_fixed` a stream that ends inside such a value is
THRIFT_TRUNCATED, an error like any other.)  The element loops of parquet_types.c are not guarded by
the decoder status, so after an error each enclosing loop still visits the rest of its
`count ≤ remaining bytes` cells (two steps each).  `pen B M d d'` is that surcharge: nothing when
`d'` is OK, `B + M·|remaining at d|` otherwise; `M` grows by 2 per level of list nesting, `B` by 1
per level of struct nesting; `thrift_skip`, whose loops are guarded, has `M = 0`: its half is stated with
`Pays k d d' n` (`n` steps, `k` to spare, 36 per byte consumed, 36 for an error at the end).  That a reader
which ends without error has consumed a byte is its `Fwd` index (Proofs.ThriftSafe).
-/
namespace Carquet.Proofs.ThriftSafe
open Carquet.Impl.Thrift
open Carquet.Proofs.Thrift (lengthGe_iff fieldLoop_end fieldLoop_iter skip_ok setError_status_ne setError_of_some
  readFieldBegin_of_err fieldLoop_of_err)

/-- 1 when the decoder carries an error -/
def err (d : Dec) : Nat := match d.status with | none => 0 | some _ => 1

theorem err_ok {d : Dec} (h : d.status = none) : err d = 0 := by unfold err; rw [h]
theorem err_bad {d : Dec} (h : d.status ≠ none) : err d = 1 := by
  unfold err; cases hs : d.status with
  | none => exact absurd hs h
  | some _ => rfl
theorem err_le (d : Dec) : err d ≤ 1 := by unfold err; cases d.status <;> simp

/-- the `n` steps from `d` to `d'` are paid for with `k` to spare: 36 for every byte consumed, 36 for an error at the
end (the accounting of `thrift_skip`, whose loops stop at the first error).  Reducible, so that `omega` reads it. -/
abbrev Pays (k : Nat) (d d' : Dec) (n : Nat) : Prop := n + k + 36 * d'.rest.length ≤ 36 * (d.rest.length + err d')

theorem repeatOk_of_err (g : Dec → Dec) (n : Nat) (d : Dec) (h : d.status ≠ none) : repeatOk g n d = d := by
  cases n with
  | zero => rfl
  | succ k =>
    unfold repeatOk
    cases hs : d.status with
    | none => exact absurd hs h
    | some x => rfl

theorem repeatSteps_of_err (g : Dec → Dec) (c : Dec → Nat) (n : Nat) (d : Dec) (h : d.status ≠ none) :
    repeatSteps g c n d = 0 := by
  cases n with
  | zero => rfl
  | succ k =>
    unfold repeatSteps
    cases hs : d.status with
    | none => exact absurd hs h
    | some x => rfl

def pen (B M : Nat) (d d' : Dec) : Nat :=
  match d'.status with
  | none => 0
  | some _ => B + M * d.rest.length

theorem pen_ok {B M : Nat} {d d' : Dec} (h : d'.status = none) : pen B M d d' = 0 := by unfold pen; rw [h]
theorem pen_bad {B M : Nat} {d d' : Dec} (h : d'.status ≠ none) : pen B M d d' = B + M * d.rest.length := by
  unfold pen
  cases hs : d'.status with
  | none => exact absurd hs h
  | some _ => rfl

theorem pen_mono {B M B' M' : Nat} (hB : B ≤ B') (hM : M ≤ M') (d d' : Dec) : pen B M d d' ≤ pen B' M' d d' := by
  unfold pen
  cases d'.status with
  | none => exact Nat.le_refl _
  | some _ => exact Nat.add_le_add hB (Nat.mul_le_mul_right _ hM)

/-- a struct parser or an element reader: pays for itself with two steps to spare -/
structure SClaim (B M : Nat) (d d' : Dec) (n : Nat) : Prop where
  ok : d.status = none → n + 2 + 36 * d'.rest.length ≤ 36 * d.rest.length + pen B M d d'
  bad : d.status ≠ none → n ≤ 1

/-- a field handler: may also spend 33 steps of the header byte its loop has consumed -/
structure PClaim (B M : Nat) (d d' : Dec) (n : Nat) : Prop where
  ok : d.status = none → n + 36 * d'.rest.length ≤ 36 * d.rest.length + 33 + pen B M d d'
  bad : d.status ≠ none → n ≤ 2 * d.rest.length + 1

theorem SClaim.mono {B M B' M' : Nat} {d d' : Dec} {n : Nat} (h : SClaim B M d d' n) (hB : B ≤ B') (hM : M ≤ M') :
    SClaim B' M' d d' n :=
  ⟨fun hs => by have := h.ok hs; have := pen_mono hB hM d d'; omega, h.bad⟩

theorem PClaim.mono {B M B' M' : Nat} {d d' : Dec} {n : Nat} (h : PClaim B M d d' n) (hB : B ≤ B') (hM : M ≤ M') :
    PClaim B' M' d d' n :=
  ⟨fun hs => by have := h.ok hs; have := pen_mono hB hM d d'; omega, h.bad⟩

theorem SClaim.toP {B M : Nat} {d d' : Dec} {n : Nat} (h : SClaim B M d d' n) : PClaim B M d d' n :=
  ⟨fun hs => by have := h.ok hs; omega, fun hs => by have := h.bad hs; omega⟩

theorem PClaim.congr {B M : Nat} {d d1 d2 : Dec} {n : Nat} (h : PClaim B M d d1 n) (hr : d2.rest = d1.rest)
    (hs : d2.status = d1.status) : PClaim B M d d2 n := by
  have hp : pen B M d d2 = pen B M d d1 := by unfold pen; rw [hs]
  exact ⟨fun h0 => by rw [hr, hp]; exact h.ok h0, h.bad⟩

/-- straight-line handler (scalar, string, binary): no step of its own -/
theorem scalar_pclaim {B M : Nat} {d d' : Dec} (ha : Adv d d') : PClaim B M d d' 0 :=
  ⟨fun _ => by have := ha.len; omega, fun _ => by omega⟩

/-- element reader without steps of its own (`thrift_read_i32`, `arena_strdup_thrift`) -/
theorem read_sclaim {B M : Nat} {d d' : Dec} (hB : 2 ≤ B) (ha : Adv d d')
    (hok : d'.status = none → d'.rest.length + 1 ≤ d.rest.length) : SClaim B M d d' 0 := by
  refine ⟨fun _ => ?_, fun _ => by omega⟩
  have := ha.len
  cases hs : d'.status with
  | none => have := hok hs; rw [pen_ok hs]; omega
  | some x => rw [pen_bad (by rw [hs]; simp)]; omega

theorem pen_le (B M : Nat) (d d' : Dec) : pen B M d d' ≤ B + M * d.rest.length := by
  unfold pen
  cases d'.status with
  | none => exact Nat.zero_le _
  | some _ => exact Nat.le_refl _

theorem pen_err (B : Nat) (d d' : Dec) : pen B 0 d d' = B * err d' := by
  unfold pen err
  cases d'.status <;> simp

theorem pen_base {B M : Nat} {e d : Dec} (h : e.rest.length ≤ d.rest.length) (d' : Dec) :
    pen B M e d' ≤ pen B M d d' := by
  unfold pen
  cases d'.status with
  | none => exact Nat.le_refl _
  | some _ => exact Nat.add_le_add_left (Nat.mul_le_mul_left _ h) _

/-! ### `while (read_field_begin) switch (field_id) …` -/

theorem fieldLoopSteps_end {σ : Type} (stop : σ → Bool) (body : Nat → Int → Dec → σ → σ × Dec)
    (c : Nat → Int → Dec → σ → Nat) (f : Nat) (d : Dec) (s : σ) (h : (readFieldBegin d).more = false) :
    fieldLoopSteps stop body c (f + 1) d s = 1 := by
  rw [fieldLoopSteps, h]

theorem fieldLoopSteps_iter {σ : Type} (stop : σ → Bool) (body : Nat → Int → Dec → σ → σ × Dec)
    (c : Nat → Int → Dec → σ → Nat) (f : Nat) (d : Dec) (s : σ) (h : (readFieldBegin d).more = true) :
    fieldLoopSteps stop body c (f + 1) d s =
      if stop (body (readFieldBegin d).ty (readFieldBegin d).fid (readFieldBegin d).dec s).1 then
        1 + c (readFieldBegin d).ty (readFieldBegin d).fid (readFieldBegin d).dec s
      else 1 + c (readFieldBegin d).ty (readFieldBegin d).fid (readFieldBegin d).dec s +
        fieldLoopSteps stop body c f (body (readFieldBegin d).ty (readFieldBegin d).fid (readFieldBegin d).dec s).2
          (body (readFieldBegin d).ty (readFieldBegin d).fid (readFieldBegin d).dec s).1 := by
  rw [fieldLoopSteps, h]

theorem fieldLoopSteps_of_err {σ : Type} (stop : σ → Bool) (body : Nat → Int → Dec → σ → σ × Dec)
    (c : Nat → Int → Dec → σ → Nat) (fuel : Nat) (d : Dec) (s : σ) (x : Err) (h : d.status = some x) :
    fieldLoopSteps stop body c fuel d s ≤ 1 := by
  cases fuel with
  | zero => rw [fieldLoopSteps]; omega
  | succ f => rw [fieldLoopSteps_end _ _ _ _ _ _ (readFieldBegin_of_err d x h).1]; omega

/-- **the field loop pays for itself**, with two steps to spare, when its handlers do: at nesting
levels satisfying `Q` they are `PClaim B M`, and on a decoder in error they take at most
`M·|remaining| + 1` steps (which is what `PClaim` says when `2 ≤ M`; the guarded `thrift_skip` has
`M = 0`) -/
theorem fieldLoop_steps {σ : Type} (stop : σ → Bool) (body : Nat → Int → Dec → σ → σ × Dec)
    (c : Nat → Int → Dec → σ → Nat) (Q : Nat → Prop) (B M : Nat) (hB : 2 ≤ B)
    (hb : ∀ ty fid d s, Good d → (d.status = none → Q d.lastId.length) →
      Adv d (body ty fid d s).2 ∧ PClaim B M d (body ty fid d s).2 (c ty fid d s) ∧
        (d.status ≠ none → c ty fid d s ≤ M * d.rest.length + 1)) :
    ∀ (fuel : Nat) (d : Dec) (s : σ), Good d → d.status = none → Q d.lastId.length → d.rest.length < fuel →
      fieldLoopSteps stop body c fuel d s + 2 + 36 * (fieldLoop stop body fuel d s).2.rest.length ≤
        36 * d.rest.length + pen (B + 1) M d (fieldLoop stop body fuel d s).2
  | 0, d, _, _, _, _, hf => by omega
  | f + 1, d, s, hg, hs, hq, hf => by
    have h1 := fwd_readFieldBegin.adv d
    have hl1 := h1.len
    cases hm : (readFieldBegin d).more with
    | false =>
      rw [fieldLoop_end _ _ _ _ _ hm, fieldLoopSteps_end _ _ _ _ _ _ hm]
      dsimp only
      cases hs1 : (readFieldBegin d).dec.status with
      | none => have := fwd_readFieldBegin.prog d _ rfl hs1; rw [pen_ok hs1]; omega
      | some x => rw [pen_bad (by rw [hs1]; simp)]; omega
    | true =>
      rw [fieldLoop_iter _ _ _ _ _ hm, fieldLoopSteps_iter _ _ _ _ _ _ hm]
      have hp := readFieldBegin_progress d hm
      generalize (readFieldBegin d).ty = ty
      generalize (readFieldBegin d).fid = fid
      generalize (readFieldBegin d).dec = y at h1 hl1 hp ⊢
      have hgy := h1.good hg
      obtain ⟨ha, hc, hcb⟩ := hb ty fid y s hgy (fun h => by rw [h1.depth h]; exact hq)
      have hl2 := ha.len
      generalize body ty fid y s = r at ha hc hl2 ⊢
      -- what one iteration costs, whether or not the header was read without error
      have hS : c ty fid y s + 3 + 36 * r.2.rest.length ≤ 36 * d.rest.length + pen B M d r.2 := by
        cases hsy : y.status with
        | none =>
          have := hc.ok hsy
          have := pen_base (B := B) (M := M) (Nat.le_of_lt hp) r.2
          omega
        | some x =>
          have hne : y.status ≠ none := by rw [hsy]; simp
          have := hcb hne
          have := Nat.mul_le_mul_left M (Nat.le_of_lt hp)
          rw [pen_bad (fun h => hne (ha.ok h))]
          omega
      generalize c ty fid y s = n at hS ⊢
      cases hsr : r.2.status with
      | some x =>
        have hne : r.2.status ≠ none := by rw [hsr]; simp
        rw [pen_bad hne] at hS
        have := fieldLoopSteps_of_err stop body c f r.2 r.1 x hsr
        rw [fieldLoop_of_err stop body f r.2 r.1 x hsr, Prod.eta, ite_self, pen_bad hne]
        split <;> omega
      | none =>
        rw [pen_ok hsr] at hS
        split
        · rw [pen_ok hsr]; omega
        · have ih := fieldLoop_steps stop body c Q B M hB hb f r.2 r.1 (ha.good hgy) hsr
            (by rw [ha.depth hsr, h1.depth (ha.ok hsr)]; exact hq) (by omega)
          have := pen_base (B := B + 1) (M := M) (Nat.le_trans hl2 hl1) (fieldLoop stop body f r.2 r.1).2
          omega

/-- `thrift_read_struct_begin; while (read_field_begin) …; thrift_read_struct_end` around such
handlers, one nesting level deeper -/
theorem structLoop_steps {σ : Type} (body : Nat → Int → Dec → σ → σ × Dec) (c : Nat → Int → Dec → σ → Nat)
    (Q : Nat → Prop) (B M : Nat) (hB : 2 ≤ B)
    (hb : ∀ ty fid d s, Good d → (d.status = none → Q d.lastId.length) →
      Adv d (body ty fid d s).2 ∧ PClaim B M d (body ty fid d s).2 (c ty fid d s) ∧
        (d.status ≠ none → c ty fid d s ≤ M * d.rest.length + 1))
    (init : σ) (d : Dec) (hg : Good d) (hq : d.lastId.length < maxNesting → Q (d.lastId.length + 1)) :
    SClaim (B + 1) M d (structEnd (fieldLoop (fun _ => false) body d.budget (structBegin d) init).2)
      (fieldLoopSteps (fun _ => false) body c d.budget (structBegin d) init) := by
  have hrs : ∀ x : Dec, (structEnd x).rest = x.rest := fun _ => rfl
  have hps : ∀ x : Dec, pen (B + 1) M d (structEnd x) = pen (B + 1) M d x := fun _ => rfl
  refine ⟨fun hs => ?_, fun hs => ?_⟩
  · rw [hrs, hps]
    unfold structBegin
    split
    · have hne := setError_status_ne d Err.decode
      cases hse : (d.setError Err.decode).status with
      | none => exact absurd hse hne
      | some x =>
        have := fieldLoopSteps_of_err (fun _ => false) body c d.budget _ init x hse
        rw [fieldLoop_of_err _ _ _ _ init x hse, pen_bad hne, setError_rest]
        omega
    · rename_i hlt
      exact fieldLoop_steps (fun _ => false) body c Q B M hB hb d.budget { d with lastId := 0 :: d.lastId } init
        ⟨hg.bud, hg.nofuel, hg.nostack⟩ hs (by simpa using hq (by omega)) hg.bud
  · cases hsd : d.status with
    | none => exact absurd hsd hs
    | some x =>
      refine fieldLoopSteps_of_err _ _ _ _ _ init x ?_
      unfold structBegin
      split
      · rw [setError_of_some d _ x hsd]; exact hsd
      · exact hsd

/-! ### element loops -/

/-- every iteration pays for itself -/
theorem repeat_prog (g : Dec → Dec) (c : Dec → Nat) (Q : Nat → Prop)
    (hg : ∀ x, Good x → x.status = none → Q x.lastId.length →
      Adv x (g x) ∧ Pays 0 x (g x) (c x)) :
    ∀ (n : Nat) (d : Dec), Good d → d.status = none → Q d.lastId.length → Pays 0 d (repeatOk g n d) (repeatSteps g c n d)
  | 0, d, _, _, _ => by simp only [repeatSteps, repeatOk]; omega
  | n + 1, d, hgd, hs, hq => by
    obtain ⟨ha, hc⟩ := hg d hgd hs hq
    unfold repeatSteps repeatOk
    simp only [hs]
    cases hs' : (g d).status with
    | some x =>
      have hne : (g d).status ≠ none := by rw [hs']; simp
      rw [repeatOk_of_err g n _ hne, repeatSteps_of_err g c n _ hne]
      omega
    | none =>
      have ih := repeat_prog g c Q hg n (g d) (ha.good hgd) hs' (by rw [ha.depth hs']; exact hq)
      have := err_ok hs'
      omega

/-! ### the claim about one `thrift_skip` invocation -/

def boolTy (ty : Nat) : Prop := ty = 1 ∨ ty = 2

/-- `thrift_skip(dec, ty)` from an OK state `d` to `d'` in `steps` steps -/
structure Claim (ty : Nat) (d d' : Dec) (steps : Nat) : Prop where
  bool : boolTy ty → steps = 1 ∧ d'.rest.length = d.rest.length ∧ d'.status = none
  prog : ¬boolTy ty → Pays 1 d d' steps

theorem Claim.of_prog {ty : Nat} {d d' : Dec} {steps : Nat} (hb : ¬boolTy ty)
    (h : Pays 1 d d' steps) : Claim ty d d' steps :=
  ⟨fun h' => absurd h' hb, fun _ => h⟩

/-- a read that consumes at least one byte unless it fails -/
theorem prog_of_read (d d' : Dec) (ha : Adv d d') (hok : d'.status = none → d'.rest.length + 1 ≤ d.rest.length) :
    Pays 1 d d' 1 := by
  have := ha.len
  cases hs : d'.status with
  | none => have := hok hs; have := err_ok hs; omega
  | some x => have := err_bad (d := d') (by rw [hs]; simp); omega

/-- `skip_fixed` (fix F62) that does not find its `n` bytes reports THRIFT_TRUNCATED -/
theorem skipFixed_short (d : Dec) (n : Nat) (hs : d.status = none) (h : d.rest.length < n) :
    (Dec.skipFixed Cfg.fixed d n).status = some .truncated := by
  unfold Dec.skipFixed
  have : d.has n = false := by
    cases hh : d.has n with
    | false => rfl
    | true => unfold Dec.has at hh; rw [lengthGe_iff] at hh; omega
  simp only [Cfg.fixed, if_true, this, Bool.false_eq_true, if_false]
  unfold Dec.setError
  rw [hs]

theorem skipElement_of_err (sk : Nat → Dec → Dec) (ty : Nat) (d : Dec) (h : d.status ≠ none) :
    skipElement Cfg.fixed sk ty d = d := by
  unfold skipElement
  cases hs : d.status with
  | none => exact absurd hs h
  | some x => simp [Cfg.fixed]

theorem skipElementSteps_of_err (skS : Nat → Dec → Nat) (ty : Nat) (d : Dec) (h : d.status ≠ none) :
    skipElementSteps Cfg.fixed skS ty d = 1 := by
  unfold skipElementSteps
  cases hs : d.status with
  | none => exact absurd hs h
  | some x => simp [Cfg.fixed]

theorem elem_claim (sk : Nat → Dec → Dec) (skS : Nat → Dec → Nat) (ty : Nat) (x : Dec) (hs : x.status = none)
    (hsk : ¬boolTy ty → Claim ty x (sk ty x) (skS ty x)) :
    Pays 1 x (skipElement Cfg.fixed sk ty x) (skipElementSteps Cfg.fixed skS ty x) := by
  unfold skipElement skipElementSteps
  simp only [Cfg.fixed, if_true, hs]
  by_cases hb : ty = 1 ∨ ty = 2
  · simp only [hb, if_true]
    exact prog_of_read x _ (fwd_readByteRaw.adv x) (fwd_readByteRaw.prog x _ rfl)
  · simp only [hb, if_false]
    exact (hsk hb).prog hb

/-- one map entry: `skip_element(key); skip_element(value)` -/
theorem pair_claim (sk : Nat → Dec → Dec) (skS : Nat → Dec → Nat) (kt vt : Nat) (x : Dec)
    (hak : Adv x (skipElement Cfg.fixed sk kt x))
    (hk : Pays 1 x (skipElement Cfg.fixed sk kt x) (skipElementSteps Cfg.fixed skS kt x))
    (hav : Adv (skipElement Cfg.fixed sk kt x) (skipElement Cfg.fixed sk vt (skipElement Cfg.fixed sk kt x)))
    (hv : (skipElement Cfg.fixed sk kt x).status = none →
      Pays 1 (skipElement Cfg.fixed sk kt x) (skipElement Cfg.fixed sk vt (skipElement Cfg.fixed sk kt x))
        (skipElementSteps Cfg.fixed skS vt (skipElement Cfg.fixed sk kt x))) :
    Pays 0 x (skipElement Cfg.fixed sk vt (skipElement Cfg.fixed sk kt x))
      (skipElementSteps Cfg.fixed skS kt x + skipElementSteps Cfg.fixed skS vt (skipElement Cfg.fixed sk kt x)) := by
  have hl1 := hak.len
  have hl2 := hav.len
  generalize hx1 : skipElement Cfg.fixed sk kt x = x1 at *
  cases hs1 : x1.status with
  | some e =>
    have hne : x1.status ≠ none := by rw [hs1]; simp
    rw [skipElement_of_err sk vt x1 hne, skipElementSteps_of_err skS vt x1 hne]
    omega
  | none =>
    have h2 := hv hs1
    have := err_ok hs1
    omega

/-! ### containers -/

/-- a container body — the header read, then `for (i < count && status == OK) step` — when every step pays for itself -/
theorem headerRepeat_pays {ρ α : Type} {val : ρ → α} {dec : ρ → Dec} {hdr : Dec → ρ} (hh : Fwd 1 val dec hdr)
    (g : Dec → Dec) (c : Dec → Nat) (L n : Nat) (d1 : Dec) (hg1 : Good d1) (hl1 : d1.status = none → d1.lastId.length = L)
    (hg : ∀ x, Good x → x.status = none → x.lastId.length = L → Adv x (g x) ∧ Pays 0 x (g x) (c x)) :
    Pays 2 d1 (repeatOk g n (dec (hdr d1))) (repeatSteps g c n (dec (hdr d1))) := by
  have h1 := hh.adv d1
  have hl := h1.len
  have hprog := hh.prog d1 _ rfl
  generalize dec (hdr d1) = y at *
  cases hsy : y.status with
  | some x =>
    have hne : y.status ≠ none := by rw [hsy]; simp
    rw [repeatOk_of_err _ n y hne, repeatSteps_of_err _ _ n y hne]
    have := err_bad hne
    omega
  | none =>
    have hly : y.lastId.length = L := by rw [h1.depth hsy]; exact hl1 (h1.ok hsy)
    have := repeat_prog g c (· = L) hg n y (h1.good hg1) hsy hly
    have := hprog hsy
    omega

theorem listBody_claim (sk : Nat → Dec → Dec) (skS : Nat → Dec → Nat) (L : Nat)
    (hrec : ∀ ty x, Good x → x.status = none → x.lastId.length = L → Adv x (sk ty x) ∧ Claim ty x (sk ty x) (skS ty x))
    (d1 : Dec) (hg1 : Good d1) (hl1 : d1.status = none → d1.lastId.length = L) :
    Pays 2 d1 (skipListBody Cfg.fixed sk d1) (skipListBodySteps Cfg.fixed sk skS d1) :=
  headerRepeat_pays fwd_readListBegin _ _ L _ d1 hg1 hl1 fun x hx hsx hlx =>
    ⟨skipElement_adv sk _ x fun _ => (hrec _ x hx hsx hlx).1,
      Nat.le_trans (by omega) (elem_claim sk skS _ x hsx fun _ => (hrec _ x hx hsx hlx).2)⟩

theorem mapBody_claim (sk : Nat → Dec → Dec) (skS : Nat → Dec → Nat) (L : Nat)
    (hrec : ∀ ty x, Good x → x.status = none → x.lastId.length = L → Adv x (sk ty x) ∧ Claim ty x (sk ty x) (skS ty x))
    (d1 : Dec) (hg1 : Good d1) (hl1 : d1.status = none → d1.lastId.length = L) :
    Pays 2 d1 (skipMapBody Cfg.fixed sk d1) (skipMapBodySteps Cfg.fixed sk skS d1) :=
  headerRepeat_pays fwd_readMapBegin _ _ L _ d1 hg1 hl1 fun x hx hsx hlx =>
    have hk := skipElement_adv sk (readMapBegin d1).keyTy x fun _ => (hrec _ x hx hsx hlx).1
    have hv := skipElement_adv sk (readMapBegin d1).valTy _ fun h => (hrec _ _ (hk.good hx) h ((hk.depth h).trans hlx)).1
    ⟨hk.trans hv, pair_claim sk skS _ _ x hk (elem_claim sk skS _ x hsx fun _ => (hrec _ x hx hsx hlx).2) hv fun h =>
      elem_claim sk skS _ _ h fun _ => (hrec _ _ (hk.good hx) h ((hk.depth h).trans hlx)).2⟩

theorem container_claim (ty : Nat) (hb : ¬boolTy ty) (d : Dec) (body : Dec → Dec) (bodyS : Dec → Nat)
    (hbody : d.lastId.length < maxNesting →
      Pays 2 d (body { d with lastId := 0 :: d.lastId }) (bodyS { d with lastId := 0 :: d.lastId })) :
    Claim ty d (skipContainer Cfg.fixed body d) (1 + skipContainerSteps Cfg.fixed bodyS d) := by
  refine Claim.of_prog hb ?_
  unfold skipContainer skipContainerSteps enterContainer
  simp only [Cfg.fixed, if_true]
  split
  · simp only [Bool.false_eq_true, if_false]
    have := err_bad (setError_status_ne d .decode)
    unfold Pays
    rw [setError_rest]
    omega
  · rename_i hlt
    simp only [if_true]
    have := hbody (by omega)
    show Pays 1 d (body { d with lastId := 0 :: d.lastId }) _
    omega


/-! ### `thrift_skip`: linear in the bytes consumed -/

abbrev skBody (sk : Nat → Dec → Dec) : Nat → Int → Dec → Unit → Unit × Dec := fun ty _ d s => (s, sk ty d)
abbrev skBodyS (skS : Nat → Dec → Nat) : Nat → Int → Dec → Unit → Nat := fun ty _ d _ => skS ty d

theorem skipSteps_ok (cfg : Cfg) (stk ty : Nat) (d : Dec) (hs : d.status = none) :
    skipSteps cfg (stk + 1) ty d = 1 + skipCaseSteps cfg (skip cfg stk) (skipSteps cfg stk) ty d := by
  rw [skipSteps]; simp only [hs]

theorem skipSteps_of_err (cfg : Cfg) (stk ty : Nat) (d : Dec) (h : d.status ≠ none) : skipSteps cfg stk ty d = 1 := by
  cases stk with
  | zero => rfl
  | succ k =>
    rw [skipSteps]
    cases hs : d.status with
    | none => exact absurd hs h
    | some x => rfl

theorem Claim.pclaim {ty : Nat} {d d' : Dec} {n B M : Nat} (hB : 2 ≤ B) (h : Claim ty d d' n) :
    n + 36 * d'.rest.length ≤ 36 * d.rest.length + 33 + pen B M d d' := by
  by_cases hb : boolTy ty
  · obtain ⟨h1, h2, _⟩ := h.bool hb; omega
  · have := h.prog hb
    cases hs' : d'.status with
    | none => have := err_ok hs'; omega
    | some x =>
      have hne : d'.status ≠ none := by rw [hs']; simp
      have := err_bad hne
      rw [pen_bad hne]
      omega

theorem skipCaseSteps_scalar (cfg : Cfg) (sk : Nat → Dec → Dec) (skS : Nat → Dec → Nat) (ty : Nat) (d : Dec)
    (h : ty < 9 ∨ 12 < ty) : skipCaseSteps cfg sk skS ty d = 0 := by
  unfold skipCaseSteps
  rw [if_neg (by omega), if_neg (by omega), if_neg (by omega)]

theorem skipCaseSteps_list (cfg : Cfg) (sk : Nat → Dec → Dec) (skS : Nat → Dec → Nat) (ty : Nat) (d : Dec)
    (h : ty = 9 ∨ ty = 10) :
    skipCaseSteps cfg sk skS ty d = skipContainerSteps cfg (skipListBodySteps cfg sk skS) d := by
  unfold skipCaseSteps
  rw [if_pos h]

theorem skipCaseSteps_map (cfg : Cfg) (sk : Nat → Dec → Dec) (skS : Nat → Dec → Nat) (ty : Nat) (d : Dec)
    (h : ty = 11) : skipCaseSteps cfg sk skS ty d = skipContainerSteps cfg (skipMapBodySteps cfg sk skS) d := by
  unfold skipCaseSteps
  rw [if_neg (by omega), if_pos h]

theorem skipCaseSteps_struct (cfg : Cfg) (sk : Nat → Dec → Dec) (skS : Nat → Dec → Nat) (ty : Nat) (d : Dec)
    (h : ty = 12) : skipCaseSteps cfg sk skS ty d =
      fieldLoopSteps (fun _ => false) (skBody sk) (skBodyS skS) d.budget (structBegin d) () := by
  unfold skipCaseSteps
  rw [if_neg (by omega), if_neg (by omega), if_pos h]

/-- a case of the `switch` that is a straight-line reader consuming at least one byte -/
theorem scalar_claim {ρ α : Type} {val : ρ → α} {dec : ρ → Dec} {f : Dec → ρ} {m : Nat} (hf : Fwd (m + 1) val dec f)
    (sk : Nat → Dec → Dec) (skS : Nat → Dec → Nat) (ty : Nat) (d : Dec) (h : ty < 9 ∨ 12 < ty) (hb : ¬boolTy ty) :
    Claim ty d (dec (f d)) (1 + skipCaseSteps Cfg.fixed sk skS ty d) := by
  rw [skipCaseSteps_scalar _ _ _ _ _ h]
  refine Claim.of_prog hb ?_
  have := prog_of_read d _ (hf.adv d) fun hs => by have := hf.prog d _ rfl hs; omega
  omega

theorem skipCase_claim (sk : Nat → Dec → Dec) (skS : Nat → Dec → Nat) (ty : Nat) (d : Dec) (hg : Good d)
    (hs : d.status = none)
    (hrec : ∀ ty' x, Good x → x.status = none → x.lastId.length = d.lastId.length + 1 → d.lastId.length < maxNesting →
      Adv x (sk ty' x) ∧ Claim ty' x (sk ty' x) (skS ty' x))
    (hskE : ∀ ty' x, x.status ≠ none → sk ty' x = x ∧ skS ty' x = 1) :
    Claim ty d (skipCase Cfg.fixed sk ty d) (1 + skipCaseSteps Cfg.fixed sk skS ty d) := by
  refine skipCase_cases (P := fun d' => Claim ty d d' (1 + skipCaseSteps Cfg.fixed sk skS ty d)) Cfg.fixed sk ty d
    (fun h => scalar_claim (m := 0) (fwd_setError .decode) sk skS ty d (by omega) (by unfold boolTy; omega))
    (fun h => ?bool)
    (fun h => scalar_claim (fwd_skipFixed 1) sk skS ty d (by omega) (by unfold boolTy; omega))
    (fun h => scalar_claim fwd_readVarint sk skS ty d (by omega) (by unfold boolTy; omega))
    (fun h => scalar_claim (fwd_skipFixed 8) sk skS ty d (by omega) (by unfold boolTy; omega))
    (fun h => scalar_claim (fwd_readBinary fun _ => ()) sk skS ty d (by omega) (by unfold boolTy; omega))
    (fun h => ?list) (fun h => ?map) (fun h => ?struct)
    (fun h => scalar_claim (fwd_skipFixed 16) sk skS ty d (by omega) (by unfold boolTy; omega))
    (fun h => scalar_claim (m := 0) (fwd_setError .invalidType) sk skS ty d (by omega) (by unfold boolTy; omega))
  case bool =>
    rw [skipCaseSteps_scalar _ _ _ _ _ (by omega)]
    exact ⟨fun _ => ⟨rfl, rfl, hs⟩, fun hnb => absurd h hnb⟩
  case list =>
    rw [skipCaseSteps_list _ _ _ _ _ h]
    refine container_claim ty (by unfold boolTy; omega) d _ _ (fun hlt => ?_)
    exact listBody_claim _ _ (d.lastId.length + 1) (fun ty' x hx hsx hlx => hrec ty' x hx hsx hlx hlt)
      { d with lastId := 0 :: d.lastId } ⟨hg.bud, hg.nofuel, hg.nostack⟩ (fun _ => by simp)
  case map =>
    rw [skipCaseSteps_map _ _ _ _ _ h]
    refine container_claim ty (by unfold boolTy; omega) d _ _ (fun hlt => ?_)
    exact mapBody_claim _ _ (d.lastId.length + 1) (fun ty' x hx hsx hlx => hrec ty' x hx hsx hlx hlt)
      { d with lastId := 0 :: d.lastId } ⟨hg.bud, hg.nofuel, hg.nostack⟩ (fun _ => by simp)
  case struct =>
    rw [skipCaseSteps_struct _ _ _ _ _ h]
    refine Claim.of_prog (by unfold boolTy; omega) ?_
    -- the loop of the STRUCT case is the general field loop, its handler `thrift_skip` at surcharge 35 + 0·n
    have hb : ∀ ty' (fid : Int) x (u : Unit), Good x →
        (x.status = none → x.lastId.length = d.lastId.length + 1 ∧ d.lastId.length < maxNesting) →
        Adv x (skBody sk ty' fid x u).2 ∧ PClaim 35 0 x (skBody sk ty' fid x u).2 (skBodyS skS ty' fid x u) ∧
          (x.status ≠ none → skBodyS skS ty' fid x u ≤ 0 * x.rest.length + 1) := by
      intro ty' _ x _ hx hq
      cases hsx : x.status with
      | none =>
        obtain ⟨ha, hc⟩ := hrec ty' x hx hsx (hq hsx).1 (hq hsx).2
        exact ⟨ha, ⟨fun _ => hc.pclaim (by omega), fun h => absurd hsx h⟩, fun h => absurd rfl h⟩
      | some e =>
        have hne : x.status ≠ none := by rw [hsx]; simp
        obtain ⟨e1, e2⟩ := hskE ty' x hne
        show Adv x (sk ty' x) ∧ PClaim 35 0 x (sk ty' x) (skS ty' x) ∧ (_ → skS ty' x ≤ _)
        rw [e1, e2]
        exact ⟨Adv.refl x, ⟨fun h => absurd h hne, fun _ => by omega⟩, fun _ => by omega⟩
    have := (structLoop_steps (skBody sk) (skBodyS skS)
      (fun l => l = d.lastId.length + 1 ∧ d.lastId.length < maxNesting) 35 0 (by omega) hb () d hg
      (fun hlt => ⟨rfl, hlt⟩)).ok hs
    rw [pen_err] at this
    show Pays 1 d (structEnd (fieldLoop (fun _ => false) (skBody sk) d.budget (structBegin d) ()).2) _
    omega

/-- **`thrift_skip` on arbitrary bytes takes at most 36 steps per byte consumed (plus 36 for a
final error)** — for every wire type, every decoder state and every sufficient stack grant. -/
theorem skip_claim : ∀ (stk ty : Nat) (d : Dec), Good d → d.status = none → StackOK stk d →
    Claim ty d (skip Cfg.fixed stk ty d) (skipSteps Cfg.fixed stk ty d)
  | 0, _, _, _, _, hst => by have := hst.1; omega
  | stk + 1, ty, d, hg, hs, hst => by
    rw [skip_ok _ _ _ _ hs, skipSteps_ok _ _ _ _ hs]
    refine skipCase_claim _ _ ty d hg hs (fun ty' x hx hsx hlx hlt => ?_) (fun ty' x hx => ?_)
    · have hso : StackOK stk x := by
        unfold StackOK maxNesting at *
        omega
      exact ⟨skip_adv stk ty' x hx (fun _ => hso), skip_claim stk ty' x hx hsx hso⟩
    · cases hsx : x.status with
      | none => exact absurd hsx hx
      | some e => exact ⟨skip_of_err _ _ _ _ e hsx, skipSteps_of_err _ _ _ _ hx⟩

/-- the bound in one line: from an OK state, `steps ≤ 36 · (bytes consumed) + 36` -/
theorem skipSteps_le (stk ty : Nat) (d : Dec) (hg : Good d) (hs : d.status = none) (hst : StackOK stk d) :
    skipSteps Cfg.fixed stk ty d + 36 * (skip Cfg.fixed stk ty d).rest.length ≤ 36 * d.rest.length + 36 := by
  have hc := skip_claim stk ty d hg hs hst
  have hl := (skip_adv stk ty d hg (fun _ => hst)).len
  have he := err_le (skip Cfg.fixed stk ty d)
  by_cases hb : boolTy ty
  · obtain ⟨h1, h2, _⟩ := hc.bool hb; omega
  · have := hc.prog hb; omega


/-- width of the fixed-width wire types `thrift_skip` skips with `skip_fixed` -/
def fixedWidth (ty : Nat) : Nat := if ty = 3 then 1 else if ty = 7 then 8 else if ty = 13 then 16 else 0

/-- fix F62 as seen from the parsers: `thrift_skip` of a BYTE / DOUBLE / UUID that the stream ends
inside reports THRIFT_TRUNCATED (before the fix it reported nothing and consumed nothing) -/
theorem skipField_short (ty : Nat) (d : Dec) (hs : d.status = none) (h : d.rest.length < fixedWidth ty) :
    (skipField Cfg.fixed ty d).status = some .truncated := by
  unfold skipField stackBudget
  rw [skip_ok _ _ _ _ hs]
  unfold fixedWidth at h
  by_cases h3 : ty = 3
  · subst h3
    have : skipCase Cfg.fixed (skip Cfg.fixed 4095) 3 d = Dec.skipFixed Cfg.fixed d 1 := by simp [skipCase]
    rw [this]; exact skipFixed_short d 1 hs (by simpa using h)
  · by_cases h7 : ty = 7
    · subst h7
      have : skipCase Cfg.fixed (skip Cfg.fixed 4095) 7 d = Dec.skipFixed Cfg.fixed d 8 := by simp [skipCase]
      rw [this]; exact skipFixed_short d 8 hs (by simpa using h)
    · by_cases h13 : ty = 13
      · subst h13
        have : skipCase Cfg.fixed (skip Cfg.fixed 4095) 13 d = Dec.skipFixed Cfg.fixed d 16 := by simp [skipCase]
        rw [this]; exact skipFixed_short d 16 hs (by simpa using h)
      · simp [h3, h7, h13] at h

/-- every skip of a value that has bytes (any wire type but the two bool codes) consumes at least
one byte or ends in an error -/
theorem skipField_progress (ty : Nat) (d : Dec) (hg : Good d) (hs : d.status = none) (hb : ¬(ty = 1 ∨ ty = 2))
    (hok : (skipField Cfg.fixed ty d).status = none) : (skipField Cfg.fixed ty d).rest.length + 1 ≤ d.rest.length := by
  have hc := (skip_claim stackBudget ty d hg hs (stackBudget_ok d)).prog hb
  unfold skipField at hok ⊢
  have := err_ok hok
  omega

end Carquet.Proofs.ThriftSafe
