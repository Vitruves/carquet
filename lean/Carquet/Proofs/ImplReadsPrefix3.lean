import Carquet.Proofs.ImplReadsPrefix2
import Carquet.Proofs.ThriftSafeParquet
import Carquet.Impl.ThriftParquetReq
/-
C06, implementation half — PREFIX MONOTONICITY of the Thrift decoder (code after fix F62), part 2:
the struct parsers the page-header parser is made of (`parse_statistics`, the three member structs, the
page-header loop), each run in lock-step on an input and on an extension of it.
-/
namespace Carquet.Proofs.ImplReads.Prefix
open Carquet.Impl Carquet.Impl.Thrift Carquet.Impl.ThriftParquet Carquet.Impl.ThriftParquetReq

open Carquet.Proofs.ThriftSafe (fwd_readI32 fwd_readI64 fwd_readBool fwd_bindupThrift)

variable {x : List UInt8} {N : Nat}

/-! ### lock-step of the struct parsers -/

theorem good_parseStruct {σ : Type} (body : Nat → Int → Dec → σ → σ × Dec)
    (hb : ∀ ty fid s, GoodP x N (fun d => body ty fid d s)) (init : σ) : GoodP x N (parseStruct body init) :=
  good_structLoop body hb init

theorem Good.leaf {α β : Type} {f : Dec → β × Dec} (hf : GoodP x N f) {V : Dec → α}
    (hV : ∀ d d', (f d').1 = (f d).1 → V d' = V d := by exact fun _ _ h => h ▸ rfl) : GoodP x N (fun d => (V d, (f d).2)) :=
  ⟨fun d h => hf.1 d h, fun d d' hE hs => ⟨hV d d' (hf.2 d d' hE hs).1, (hf.2 d d' hE hs).2⟩⟩

theorem good_default {α : Type} (s : α) (ty : Nat) : GoodP x N (fun d => (s, skipField Cfg.fixed ty d)) :=
  (good_skipField ty).map fun _ => s

/- The bodies below are `if fid = … then … else if …` chains whose leaves are `({ s with x := (read d).1 }, (read d).2)`
for a reader `read` that is `Good`, closed by `(s, skipField … d)`; each proof follows its chain. -/

/-! ### `parse_statistics` -/

theorem good_statisticsBody (ty : Nat) (fid : Int) (s : Statistics) :
    GoodP x N (fun d => statisticsBody Cfg.fixed ty fid d s) := by
  unfold statisticsBody
  exact .ite (.leaf fwd_bindupThrift.ext) <|
    .ite (.leaf fwd_bindupThrift.ext) <|
    .ite (.leaf fwd_readI64.ext) <|
    .ite (.leaf fwd_readI64.ext) <|
    .ite (.leaf fwd_bindupThrift.ext) <|
    .ite (.leaf fwd_bindupThrift.ext) <|
    .ite (.leaf fwd_readBool.ext) <|
    .ite (.leaf fwd_readBool.ext) <| good_default _ _

theorem good_parseStatistics : GoodP x N (parseStatistics Cfg.fixed) := good_parseStruct _ good_statisticsBody _

/-! ### the three members of the page-header union -/

theorem dataPageHeaderBody_eq (ty : Nat) (fid : Int) (d : Dec) (s : DataPageHeader) :
    dataPageHeaderBody Cfg.fixed ty fid d s =
      if fid = 1 then ({ s with numValues := (readI32 d).1 }, (readI32 d).2)
      else if fid = 2 then ({ s with encoding := (readI32 d).1 }, (readI32 d).2)
      else if fid = 3 then ({ s with definitionLevelEncoding := (readI32 d).1 }, (readI32 d).2)
      else if fid = 4 then ({ s with repetitionLevelEncoding := (readI32 d).1 }, (readI32 d).2)
      else if fid = 5 then
        ({ s with statistics := some (parseStatistics Cfg.fixed d).1 }, (parseStatistics Cfg.fixed d).2)
      else (s, skipField Cfg.fixed ty d) := rfl

theorem good_dataPageHeaderBody (ty : Nat) (fid : Int) (s : DataPageHeader) :
    GoodP x N (fun d => dataPageHeaderBody Cfg.fixed ty fid d s) := by
  simp only [dataPageHeaderBody_eq]
  exact .ite (.leaf fwd_readI32.ext) <|
    .ite (.leaf fwd_readI32.ext) <|
    .ite (.leaf fwd_readI32.ext) <|
    .ite (.leaf fwd_readI32.ext) <|
    .ite (.leaf good_parseStatistics) <| good_default _ _

theorem good_dictionaryPageHeaderBody (ty : Nat) (fid : Int) (s : DictionaryPageHeader) :
    GoodP x N (fun d => dictionaryPageHeaderBody Cfg.fixed ty fid d s) := by
  unfold dictionaryPageHeaderBody
  exact .ite (.leaf fwd_readI32.ext) <|
    .ite (.leaf fwd_readI32.ext) <|
    .ite (.leaf fwd_readBool.ext) <| good_default _ _

theorem dataPageHeaderV2Body_eq (ty : Nat) (fid : Int) (d : Dec) (s : DataPageHeaderV2) :
    dataPageHeaderV2Body Cfg.fixed ty fid d s =
      if fid = 1 then ({ s with numValues := (readI32 d).1 }, (readI32 d).2)
      else if fid = 2 then ({ s with numNulls := (readI32 d).1 }, (readI32 d).2)
      else if fid = 3 then ({ s with numRows := (readI32 d).1 }, (readI32 d).2)
      else if fid = 4 then ({ s with encoding := (readI32 d).1 }, (readI32 d).2)
      else if fid = 5 then ({ s with definitionLevelsByteLength := (readI32 d).1 }, (readI32 d).2)
      else if fid = 6 then ({ s with repetitionLevelsByteLength := (readI32 d).1 }, (readI32 d).2)
      else if fid = 7 then ({ s with isCompressed := (readBool d).1 }, (readBool d).2)
      else if fid = 8 then
        ({ s with statistics := some (parseStatistics Cfg.fixed d).1 }, (parseStatistics Cfg.fixed d).2)
      else (s, skipField Cfg.fixed ty d) := rfl

theorem good_dataPageHeaderV2Body (ty : Nat) (fid : Int) (s : DataPageHeaderV2) :
    GoodP x N (fun d => dataPageHeaderV2Body Cfg.fixed ty fid d s) := by
  simp only [dataPageHeaderV2Body_eq]
  exact .ite (.leaf fwd_readI32.ext) <|
    .ite (.leaf fwd_readI32.ext) <|
    .ite (.leaf fwd_readI32.ext) <|
    .ite (.leaf fwd_readI32.ext) <|
    .ite (.leaf fwd_readI32.ext) <|
    .ite (.leaf fwd_readI32.ext) <|
    .ite (.leaf fwd_readBool.ext) <|
    .ite (.leaf good_parseStatistics) <| good_default _ _

/-! ### the page-header loop body -/

theorem good_pageHdrBody (ty : Nat) (fid : Int) (s : Top PageHdr) : GoodP x N (fun d => pageHdrBody Cfg.fixed ty fid d s) := by
  unfold pageHdrBody topVal
  refine .guard (dec := Prod.snd) (r := fun e d => ({ s with abort := some e }, d)) ?_
  dsimp only
  exact
    .ite (.leaf fwd_readI32.ext) <|
    .ite (.leaf fwd_readI32.ext) <|
    .ite (.leaf fwd_readI32.ext) <|
    .ite (.leaf fwd_readI32.ext) <|
    .ite (.leaf (good_parseStruct _ good_dataPageHeaderBody _)) <|
    .ite (.leaf (good_parseStruct _ good_dictionaryPageHeaderBody _)) <|
    .ite (.leaf (good_parseStruct _ good_dataPageHeaderV2Body _)) <| good_default _ _

theorem pageHdrBody_st (ty : Nat) (fid : Int) (d : Dec) (s : Top PageHdr)
    (h : (pageHdrBody Cfg.fixed ty fid d s).2.status = none) : d.status = none :=
  (good_pageHdrBody (x := []) (N := 0) ty fid s).1 d h

theorem pageHdrBody_ext (ty : Nat) (fid : Int) (s : Top PageHdr) {d d' : Dec} (hE : Ext x N d d')
    (hs : (pageHdrBody Cfg.fixed ty fid d s).2.status = none) :
    (pageHdrBody Cfg.fixed ty fid d' s).1 = (pageHdrBody Cfg.fixed ty fid d s).1 ∧
      Ext x N (pageHdrBody Cfg.fixed ty fid d s).2 (pageHdrBody Cfg.fixed ty fid d' s).2 :=
  (good_pageHdrBody ty fid s).2 d d' hE hs

end Carquet.Proofs.ImplReads.Prefix
