import Carquet.Proofs.CSem
/-
What the stage-3 link proofs share beyond Proofs/CSem.lean: a byte promoted to `int`, one store into an array.
-/
namespace Carquet.Proofs.CFun3
open Carquet.Impl.CSem Carquet.Proofs.CSem

/-! ### a byte promoted to `int` -/

/-- `byte & (2^k - 1)` -/
theorem byte_and_low (r : BitVec 8) (k : Nat) (hk : k ≤ 8) :
    BitVec.setWidth 32 r &&& BitVec.ofNat 32 (2 ^ k - 1) = BitVec.ofNat 32 (r.toNat % 2 ^ k) := by
  have h1 : 2 ^ k ≤ 2 ^ 8 := Nat.pow_le_pow_right (by decide) hk
  have h2 := Nat.mod_lt r.toNat (Nat.two_pow_pos k)
  apply BitVec.eq_of_toNat_eq
  rw [BitVec.toNat_and, BitVec.toNat_setWidth_of_le (by decide), BitVec.toNat_ofNat, BitVec.toNat_ofNat,
    Nat.mod_eq_of_lt (by omega), Nat.mod_eq_of_lt (by omega), Nat.and_two_pow_sub_one_eq_mod]

/-- `byte >> k` (an arithmetic shift of a non-negative `int`) -/
theorem byte_shr (r : BitVec 8) (k : Nat) :
    BitVec.sshiftRight (BitVec.setWidth 32 r) k = BitVec.ofNat 32 (r.toNat >>> k) := by
  have hm : (BitVec.setWidth 32 r).msb = false := msb_small _ (by rw [BitVec.toNat_setWidth_of_le (by decide)]; omega)
  have := Nat.shiftRight_le r.toNat k
  apply BitVec.eq_of_toNat_eq
  rw [BitVec.sshiftRight_eq_of_msb_false hm, BitVec.toNat_ushiftRight, BitVec.toNat_setWidth_of_le (by decide),
    BitVec.toNat_ofNat, Nat.mod_eq_of_lt (by omega)]

/-- `(byte >> 4) & 0x0F` -/
theorem byte_hi4 (r : BitVec 8) :
    (BitVec.sshiftRight (BitVec.setWidth 32 r) 4) &&& 15#32 = BitVec.ofNat 32 (r.toNat / 16) := by
  have h : r.toNat / 16 < 2 ^ 4 := Nat.div_lt_of_lt_mul r.isLt
  apply BitVec.eq_of_toNat_eq
  rw [byte_shr, BitVec.toNat_and, Nat.shiftRight_eq_div_pow]
  show (BitVec.ofNat 32 (r.toNat / 16)).toNat &&& 2 ^ 4 - 1 = _
  rw [Nat.and_two_pow_sub_one_eq_mod, BitVec.toNat_ofNat, Nat.mod_mod_of_dvd _ (by decide), Nat.mod_eq_of_lt h,
    Nat.mod_eq_of_lt (Nat.lt_trans h (by decide))]

/-- `byte & 0x0F` -/
theorem byte_lo4 (r : BitVec 8) : (BitVec.setWidth 32 r) &&& 15#32 = BitVec.ofNat 32 (r.toNat % 16) :=
  byte_and_low r 4 (by decide)

/-! ### `a[i] = v` -/

theorem take_set_succ {α : Type} (l : List α) (i : Nat) (a : α) (h : i < l.length) :
    (l.set i a).take (i + 1) = l.take i ++ [a] := by
  rw [List.take_add_one, List.take_set_of_le (Nat.le_refl i)]
  simp [h]

theorem drop_set_succ {α : Type} (l : List α) (i : Nat) (a : α) : (l.set i a).drop (i + 1) = l.drop (i + 1) := by
  rw [List.drop_set]; simp

end Carquet.Proofs.CFun3
