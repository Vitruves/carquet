import Carquet.Proofs.CFun3.Bitunpack
import Carquet.Properties.C11.CFun
/-
Stage-3 link: `carquet_bitunpack_32` (src/core/bitpack.c) as translated in Gen/CFun.lean
(`carquet_bitunpack_32`, `_loop1` = the groups of 8, `_loop2` = the copy of the tail values out of `temp`) against
`Impl.Bitpack.unpack`.  Each lemma gives the value and the `_defined` flag of one piece together.
-/
namespace Carquet.Proofs.CFun3.Bitunpack32
open Carquet Carquet.Impl Carquet.Impl.CSem Carquet.Proofs.CSem Carquet.Proofs.CFun2 Carquet.Proofs.CFun3.Bitunpack

theorem packedSize_le (r w : Nat) (hr : r < 8) (hw : w ≤ 32) : Bitpack.packedSize r w ≤ 28 := by
  have h1 : r * w ≤ 7 * 32 := Nat.mul_le_mul (by omega) hw
  unfold Bitpack.packedSize
  omega

/-- `carquet_packed_size(r, bit_width)` on small arguments (stage 1) -/
theorem packed_size_small (r w : Nat) (hr : r < 8) (hw : w ≤ 32) :
    Gen.CFun.carquet_packed_size (BitVec.ofNat 64 r) (BitVec.ofNat 32 w) = BitVec.ofNat 64 (Bitpack.packedSize r w) := by
  have h1 := packedSize_le r w hr hw
  have h2 : r * w ≤ 7 * 32 := Nat.mul_le_mul (by omega) hw
  have hi : (BitVec.ofNat 32 w).toInt = (w : Int) := ofNat_toInt w (by omega)
  have h := Carquet.Properties.C11.C11_cfun_packed_size (BitVec.ofNat 64 r) (BitVec.ofNat 32 w) (by rw [hi]; omega)
    (by rw [hi, toNat_ofNat r (by omega)]; show r * w + 7 < _; omega)
  rw [hi, toNat_ofNat r (by omega)] at h
  apply BitVec.eq_of_toNat_eq
  rw [h, toNat_ofNat _ (by omega)]; rfl

/-! ### list facts -/

theorem take_app3 {α : Type} (A B C : List α) (m : Nat) (h : A.length + B.length = m) :
    (A ++ B ++ C).take m = A ++ B := by
  rw [List.take_append_of_le_length (by simp; omega), List.take_of_length_le (by simp; omega)]

theorem drop_app3 {α : Type} (A B C : List α) (m : Nat) (h : A.length + B.length ≤ m) :
    (A ++ B ++ C).drop m = C.drop (m - (A.length + B.length)) := by
  rw [List.drop_append, List.drop_of_length_le (by simp; omega)]
  simp

/-! ### loop #2: `for (j = 0; j < count - i; j++) values[i + j] = temp[j];` -/

theorem loop2_spec (input : List UInt8) (ti : List (BitVec 32)) (bw : BitVec 32) (bc rb : BitVec 64)
    (temp : List (BitVec 32)) (packed : List UInt8) (count i r : Nat) (hcount : count = i + r) (hc : count < 2 ^ 63)
    (ht : r ≤ temp.length) (hr : r ≤ 8) :
    ∀ (fuel j : Nat) (values : List (BitVec 32)), j ≤ r → r - j < fuel → count ≤ values.length →
    Gen.CFun.carquet_bitunpack_32_loop2 fuel input ti (BitVec.ofNat 64 count) bw values bc (BitVec.ofNat 64 i) temp
      packed rb (BitVec.ofNat 64 j) =
    (bc + rb, values.take (i + j) ++ (temp.drop j).take (r - j) ++ values.drop count) ∧
    Gen.CFun.carquet_bitunpack_32_loop2_defined fuel input ti (BitVec.ofNat 64 count) bw values bc (BitVec.ofNat 64 i)
      temp packed rb (BitVec.ofNat 64 j) = true := by
  have hsub : BitVec.ofNat 64 count - BitVec.ofNat 64 i = BitVec.ofNat 64 r := by
    rw [ofNat_sub count i (by omega) (by omega)]; congr 1; omega
  intro fuel
  induction fuel with
  | zero => intro _ _ _ hf; omega
  | succ f ih =>
    intro j values hj hf hv
    rw [Gen.CFun.carquet_bitunpack_32_loop2, Gen.CFun.carquet_bitunpack_32_loop2_defined, hsub,
      ofNat_lt j r (by omega) (by omega)]
    by_cases hlt : j < r
    · have hjt : j < temp.length := by omega
      obtain ⟨ih1, ih2⟩ := ih (j + 1) (wr values (i + j) (rd temp j)) (by omega) (by omega)
        (by rw [wr, List.length_set]; exact hv)
      have e2 : (temp.drop j).take (r - j) = rd temp j :: (temp.drop (j + 1)).take (r - (j + 1)) := by
        rw [show r - j = r - (j + 1) + 1 by omega, List.drop_eq_getElem_cons hjt, List.take_succ_cons, rd,
          List.getD_eq_getElem?_getD, List.getElem?_eq_getElem hjt]; rfl
      rw [if_pos (decide_eq_true hlt), if_pos (decide_eq_true hlt), ofNat_add, ofNat_add, toNat_ofNat (i + j) (by omega),
        toNat_ofNat j (by omega), ih1, ih2, e2, ← Nat.add_assoc, wr, take_set_succ values (i + j) _ (by omega),
        List.drop_set_of_lt (by omega), decide_eq_true (show j < 8 by omega), (inb_iff values (i + j) 1).mpr (by omega)]
      simp only [List.append_assoc, List.cons_append, List.nil_append, Bool.and_self, and_self]
    · have hd : ¬ decide (j < r) = true := by rwa [decide_eq_true_eq]
      rw [if_neg hd, if_neg hd, show r - j = 0 by omega, List.take_zero, List.append_nil,
        show i + j = count by omega, List.take_append_drop]
      exact ⟨rfl, rfl⟩

/-! ### the tail: `if (i < count) { … }` -/

/-- the zero-padded local `packed[32]` after the `memcpy` of the tail bytes -/
def padded (w : Nat) (input : List UInt8) (count : Nat) : List UInt8 :=
  ((input.drop (count / 8 * w)).take (Bitpack.packedSize (count % 8) w)) ++
    List.replicate (32 - Bitpack.packedSize (count % 8) w) 0

def tailVals (w : Nat) (input : List UInt8) (count : Nat) : List Nat :=
  if count % 8 = 0 then [] else (Bitpack.unpack8 w (padded w input count)).take (count % 8)

def tailBytes (w count : Nat) : Nat := if count % 8 = 0 then 0 else Bitpack.packedSize (count % 8) w

theorem unpack_split (w : Nat) (input : List UInt8) (count : Nat) (h0 : w ≠ 0) :
    Bitpack.unpack w input count =
      (Bitpack.unpackGroups w (count / 8) input ++ tailVals w input count, count / 8 * w + tailBytes w count) := by
  unfold Bitpack.unpack tailVals tailBytes padded
  rw [if_neg h0]
  split <;> simp

theorem padded_length (w : Nat) (input : List UInt8) (count : Nat) (hw : w ≤ 32)
    (hi : count / 8 * w + Bitpack.packedSize (count % 8) w ≤ input.length) : (padded w input count).length = 32 := by
  have := packedSize_le (count % 8) w (Nat.mod_lt _ (by decide)) hw
  simp only [padded, List.length_append, List.length_take, List.length_drop, List.length_replicate]
  omega

/-- `remaining_bytes = carquet_packed_size(count - i, bit_width)` at `i = 8 * (count / 8)` -/
theorem rem_packed_size (w count : Nat) (hw : w ≤ 32) (hc : count < 2 ^ 61) :
    Gen.CFun.carquet_packed_size (BitVec.ofNat 64 count - BitVec.ofNat 64 (8 * (count / 8))) (BitVec.ofNat 32 w) =
      BitVec.ofNat 64 (Bitpack.packedSize (count % 8) w) := by
  have hsub : BitVec.ofNat 64 count - BitVec.ofNat 64 (8 * (count / 8)) = BitVec.ofNat 64 (count % 8) := by
    rw [ofNat_sub count _ (by omega) (by omega)]; congr 1; omega
  rw [hsub, packed_size_small _ _ (Nat.mod_lt _ (by decide)) hw]

/-- `uint8_t packed[32] = {0}; memcpy(packed, input + bytes_consumed, remaining_bytes);` -/
theorem copyInto_padded (Z input : List UInt8) (w count : Nat) (hZ : Z = List.replicate 32 0) :
    copyInto Z 0 input (count / 8 * w) (Bitpack.packedSize (count % 8) w) = padded w input count := by
  subst hZ
  simp only [copyInto, padded, List.take_zero, List.nil_append, Nat.zero_add, List.drop_replicate]

/-- the tail block, entered with `i = count / 8 * 8 < count`, `bytes_consumed = count / 8 * w`: the `memcpy` of
`packed_size(count % 8, w) ≤ 32` bytes that lie inside `input`, a whole group unpacked from the 32-byte local into the
8-entry local (whatever it held), `count % 8` stores inside `values[0 .. count)` -/
theorem tail_spec (input : List UInt8) (values ti : List (BitVec 32)) (w count : Nat) (hw : w ≤ 32)
    (hc : count < 2 ^ 61) (hi : count / 8 * w + tailBytes w count ≤ input.length) (hv : count ≤ values.length)
    (ht : ti.length = 8) (hr : count % 8 ≠ 0) (pk : List UInt8) :
    ∃ L, Gen.CFun.carquet_bitunpack_32_loop2 9 input ti (BitVec.ofNat 64 count) (BitVec.ofNat 32 w) values
      (BitVec.ofNat 64 (count / 8 * w)) (BitVec.ofNat 64 (8 * (count / 8)))
      (Gen.CFun.carquet_bitunpack8_32 (padded w input count) (BitVec.ofNat 32 w) ti) pk
      (BitVec.ofNat 64 (Bitpack.packedSize (count % 8) w)) 0#64 =
        (BitVec.ofNat 64 (count / 8 * w + tailBytes w count), L) ∧
    L.map BitVec.toNat =
      (values.take (8 * (count / 8))).map BitVec.toNat ++ tailVals w input count ++
        (values.drop count).map BitVec.toNat ∧
    (Bitpack.packedSize (count % 8) w ≤ 32 ∧
      inb input (count / 8 * w) (Bitpack.packedSize (count % 8) w) = true ∧
      Gen.CFun.carquet_bitunpack8_32_defined (padded w input count) (BitVec.ofNat 32 w) ti = true ∧
      Gen.CFun.carquet_bitunpack_32_loop2_defined 9 input ti (BitVec.ofNat 64 count) (BitVec.ofNat 32 w) values
        (BitVec.ofNat 64 (count / 8 * w)) (BitVec.ofNat 64 (8 * (count / 8)))
        (Gen.CFun.carquet_bitunpack8_32 (padded w input count) (BitVec.ofNat 32 w) ti) pk
        (BitVec.ofNat 64 (Bitpack.packedSize (count % 8) w)) 0#64 = true) := by
  have hr8 : count % 8 < 8 := Nat.mod_lt _ (by decide)
  have hgw : count / 8 * w ≤ count / 8 * 32 := Nat.mul_le_mul_left _ hw
  have hps := packedSize_le (count % 8) w hr8 hw
  have htb : tailBytes w count = Bitpack.packedSize (count % 8) w := by rw [tailBytes, if_neg hr]
  rw [htb] at hi ⊢
  have hpl := padded_length w input count hw hi
  obtain ⟨hfull, hdef⟩ := bitunpack8_32_spec (padded w input count) ti w hw (by omega) (by omega)
  rw [List.drop_of_length_le (by omega : ti.length ≤ 8), List.map_nil, List.append_nil] at hfull
  have hlen8 : (Gen.CFun.carquet_bitunpack8_32 (padded w input count) (BitVec.ofNat 32 w) ti).length = 8 := by
    have := congrArg List.length hfull
    rwa [List.length_map, Carquet.Proofs.BitpackImpl.unpack8_length hw] at this
  obtain ⟨hl, hld⟩ := loop2_spec input ti (BitVec.ofNat 32 w) (BitVec.ofNat 64 (count / 8 * w))
    (BitVec.ofNat 64 (Bitpack.packedSize (count % 8) w))
    (Gen.CFun.carquet_bitunpack8_32 (padded w input count) (BitVec.ofNat 32 w) ti) pk count (8 * (count / 8)) (count % 8)
    (by omega) (by omega) (by omega) (by omega) 9 0 values (by omega) (by omega) hv
  rw [show BitVec.ofNat 64 0 = 0#64 from rfl] at hl hld
  refine ⟨_, by rw [hl, ofNat_add], ?_, by omega, by rw [inb_iff]; omega, hdef, hld⟩
  simp only [Nat.add_zero, Nat.sub_zero, List.drop_zero, List.map_append, List.map_take, hfull, tailVals, if_neg hr]

/-! ### loop #1: `for (; i + 8 <= count; i += 8)` and what follows it -/

/-- one group: `values + i` comes back through `splice` -/
theorem group_step (input : List UInt8) (values : List (BitVec 32)) (w g count : Nat) (hw : w ≤ 32)
    (hin : g * w + w ≤ input.length) (hg : 8 * g + 8 ≤ count) (hv : count ≤ values.length) :
    (splice values (8 * g) (Gen.CFun.carquet_bitunpack8_32 (input.drop (g * w)) (BitVec.ofNat 32 w)
      (values.drop (8 * g)))).map BitVec.toNat =
      (values.take (8 * g)).map BitVec.toNat ++ Bitpack.unpack8 w (input.drop (g * w)) ++
        (values.drop (8 * g + 8)).map BitVec.toNat ∧
    Gen.CFun.carquet_bitunpack8_32_defined (input.drop (g * w)) (BitVec.ofNat 32 w) (values.drop (8 * g)) = true := by
  obtain ⟨h, hd⟩ := bitunpack8_32_spec (input.drop (g * w)) (values.drop (8 * g)) w hw (by rw [List.length_drop]; omega)
    (by rw [List.length_drop]; omega)
  exact ⟨by rw [splice, List.map_append, h, List.drop_drop, List.append_assoc], hd⟩

theorem loop1_spec (input : List UInt8) (ti : List (BitVec 32)) (w count : Nat) (hw : w ≤ 32) (hc : count < 2 ^ 61)
    (hi : count / 8 * w + tailBytes w count ≤ input.length) (ht : ti.length = 8) :
    ∀ (fuel g : Nat) (values : List (BitVec 32)), g ≤ count / 8 → count / 8 - g < fuel → count ≤ values.length →
    ∃ L, Gen.CFun.carquet_bitunpack_32_loop1 fuel input ti (BitVec.ofNat 64 count) (BitVec.ofNat 32 w) values
      (BitVec.ofNat 64 (g * w)) (BitVec.ofNat 64 (8 * g)) = (BitVec.ofNat 64 (count / 8 * w + tailBytes w count), L) ∧
    L.map BitVec.toNat =
      (values.take (8 * g)).map BitVec.toNat ++ Bitpack.unpackGroups w (count / 8 - g) (input.drop (g * w)) ++
        tailVals w input count ++ (values.drop count).map BitVec.toNat ∧
    Gen.CFun.carquet_bitunpack_32_loop1_defined fuel input ti (BitVec.ofNat 64 count) (BitVec.ofNat 32 w) values
      (BitVec.ofNat 64 (g * w)) (BitVec.ofNat 64 (8 * g)) = true := by
  have hGw : count / 8 * w ≤ count / 8 * 32 := Nat.mul_le_mul_left _ hw
  intro fuel
  induction fuel with
  | zero => intro _ _ _ hf; omega
  | succ f ih =>
    intro g values hg hf hv
    have hgG : g * w ≤ count / 8 * w := Nat.mul_le_mul_right _ hg
    rw [Gen.CFun.carquet_bitunpack_32_loop1, Gen.CFun.carquet_bitunpack_32_loop1_defined, ofNat_add,
      ofNat_le _ _ (by omega) (by omega)]
    by_cases hy : 8 * g + 8 ≤ count
    · -- the arithmetic first, while the context is small
      have hg1 : g + 1 ≤ count / 8 := by omega
      have hf1 : count / 8 - (g + 1) < f := by omega
      have hsub : count / 8 - g = count / 8 - (g + 1) + 1 := by omega
      have hgG' : (g + 1) * w ≤ count / 8 * w := Nat.mul_le_mul_right _ hg1
      have e1 : g * w + w = (g + 1) * w := (Nat.succ_mul g w).symm
      have e2 : 8 * g + 8 = 8 * (g + 1) := (Nat.mul_succ 8 g).symm
      have hin : g * w + w ≤ input.length := by omega
      have b1 := toNat_ofNat (w := 64) (g * w) (by omega)
      have b2 := toNat_ofNat (w := 64) (8 * g) (by omega)
      have hl8 := Carquet.Proofs.BitpackImpl.unpack8_length hw (input.drop (g * w))
      have hta : (List.map BitVec.toNat (values.take (8 * g))).length +
          (Bitpack.unpack8 w (input.drop (g * w))).length = 8 * g + 8 := by
        rw [List.length_map, List.length_take, hl8, Nat.min_eq_left (by omega)]
      obtain ⟨hs, hsd⟩ := group_step input values w g count hw hin hy hv
      have hlen : count ≤ (splice values (8 * g) (Gen.CFun.carquet_bitunpack8_32 (input.drop (g * w))
          (BitVec.ofNat 32 w) (values.drop (8 * g)))).length := by
        have := congrArg List.length hs
        simp only [List.length_map, List.length_append, List.length_take, List.length_drop, hl8] at this
        omega
      obtain ⟨L, r1, r2, r3⟩ := ih (g + 1) _ hg1 hf1 hlen
      rw [if_pos (decide_eq_true hy), if_pos (decide_eq_true hy)]
      simp only [ofNat_sext (v := 31) (u := 64) w (by omega) (by decide), ofNat_add, b1, b2, e1, e2, r3, hsd, Bool.and_self]
      refine ⟨L, r1, ?_, trivial⟩
      rw [r2, List.map_take, List.map_drop, hs, ← e2, take_app3 _ _ _ _ hta,
        drop_app3 _ _ _ _ (Nat.le_trans (Nat.le_of_eq hta) hy), hta, ← List.map_drop, List.drop_drop,
        Nat.add_sub_cancel' hy, hsub, Bitpack.unpackGroups, List.drop_drop, ← e1]
      simp only [List.append_assoc]
    · obtain rfl : g = count / 8 := by omega
      have hn : ¬ decide (8 * (count / 8) + 8 ≤ count) = true := by rwa [decide_eq_true_eq]
      have hps := packedSize_le (count % 8) w (Nat.mod_lt _ (by decide)) hw
      rw [ofNat_lt _ _ (by omega) (by omega), if_neg hn, if_neg hn, Nat.sub_self, Bitpack.unpackGroups, List.append_nil]
      by_cases hr : count % 8 = 0
      · have hn2 : ¬ decide (8 * (count / 8) < count) = true := by rw [decide_eq_true_eq]; omega
        rw [if_neg hn2, if_neg hn2, tailBytes, tailVals, if_pos hr, if_pos hr, List.append_nil, Nat.add_zero]
        exact ⟨values, rfl, by rw [← List.map_append, show 8 * (count / 8) = count by omega, List.take_append_drop], rfl⟩
      · have hy : decide (8 * (count / 8) < count) = true := decide_eq_true (by omega)
        obtain ⟨L, t1, t2, t3, t4, t5, t6⟩ := tail_spec input values ti w count hw hc hi hv ht hr (padded w input count)
        rw [if_pos hy, if_pos hy]
        simp (disch := decide) only [rem_packed_size w count hw hc, toNat_ofNat (w := 64) (count / 8 * w) (by omega),
          toNat_ofNat (w := 64) (Bitpack.packedSize (count % 8) w) (by omega), copyInto_padded, t3, t4, t5, t6, ht,
          Carquet.Properties.C11.C11_cfun_packed_size_defined, Bool.and_true, BEq.rfl, decide_true]
        exact ⟨L, t1, t2, trivial⟩

/-! ### `carquet_bitunpack_32` -/

/-- `memset(values, 0, count * sizeof(uint32_t))` -/
theorem memset_len (count : Nat) (hc : count < 2 ^ 61) :
    (BitVec.ofNat 64 count * 4#64).toNat % 4 = 0 ∧ (BitVec.ofNat 64 count * 4#64).toNat / 4 = count := by
  have e : (BitVec.ofNat 64 count * 4#64).toNat = count * 4 := by
    rw [BitVec.toNat_mul, toNat_ofNat count (by omega)]
    exact Nat.mod_eq_of_lt (by show count * 4 < _; omega)
  rw [e]
  omega

/-- **`carquet_bitunpack_32(input, count, bit_width, values)`** for a width 0..32 and an input that holds the bytes the
function reports as consumed: the return value and the `count` values are those of `Bitpack.unpack`, the rest of `values`
is untouched — whatever the uninitialised local `temp` contained (`temp_indet`); and it reaches no undefined behaviour:
every read of `input` lies inside `input[0 .. bytes_consumed)` (the tail group reads `packed_size(count % 8, w)` bytes of
it, through the padded local), every write inside `values[0 .. count)`, the locals `packed[32]` / `temp[8]` are not
overrun, `size_t` arithmetic does not matter, the loop fuels are not exhausted -/
theorem bitunpack_32_spec (input : List UInt8) (values temp_indet : List (BitVec 32)) (w count : Nat) (hw : w ≤ 32)
    (hc : count < 2 ^ 61) (hi : (Bitpack.unpack w input count).2 ≤ input.length) (hv : count ≤ values.length)
    (ht : temp_indet.length = 8) :
    (Gen.CFun.carquet_bitunpack_32 input (BitVec.ofNat 64 count) (BitVec.ofNat 32 w) values temp_indet).1.toNat =
      (Bitpack.unpack w input count).2 ∧
    (Gen.CFun.carquet_bitunpack_32 input (BitVec.ofNat 64 count) (BitVec.ofNat 32 w) values temp_indet).2.map BitVec.toNat =
      (Bitpack.unpack w input count).1 ++ (values.drop count).map BitVec.toNat ∧
    Gen.CFun.carquet_bitunpack_32_defined input (BitVec.ofNat 64 count) (BitVec.ofNat 32 w) values temp_indet = true := by
  have hb : (BitVec.ofNat 32 w == 0#32) = decide (w = 0) := by
    rw [beq_toNat, ofNat_toNat w (by omega)]; rfl
  rw [Gen.CFun.carquet_bitunpack_32, Gen.CFun.carquet_bitunpack_32_defined, hb]
  by_cases h0 : w = 0
  · subst h0
    obtain ⟨m1, m2⟩ := memset_len count hc
    simp only [decide_true, if_true, m1, m2, Bitpack.unpack, fill, List.take_zero, List.nil_append, Nat.zero_add,
      List.map_append, List.map_replicate, (inb_iff values 0 count).mpr (by omega), BEq.rfl, Bool.and_true]
    exact ⟨rfl, rfl, trivial⟩
  · rw [unpack_split w input count h0] at hi ⊢
    obtain ⟨L, e, hL, hd⟩ := loop1_spec input temp_indet w count hw hc hi ht (count / 8 + 1) 0 values (by omega)
      (by omega) hv
    simp only [Nat.zero_mul, Nat.mul_zero, Nat.sub_zero, List.take_zero, List.map_nil, List.nil_append, List.drop_zero]
      at e hL hd
    have hGw : count / 8 * w ≤ count / 8 * 32 := Nat.mul_le_mul_left _ hw
    have htb : tailBytes w count ≤ 28 := by
      unfold tailBytes; split
      · omega
      · exact packedSize_le _ w (Nat.mod_lt _ (by decide)) hw
    rw [if_neg (by rwa [decide_eq_true_eq]), if_neg (by rwa [decide_eq_true_eq]), toNat_ofNat count (by omega), e]
    exact ⟨toNat_ofNat _ (by omega), hL, hd⟩

end Carquet.Proofs.CFun3.Bitunpack32
