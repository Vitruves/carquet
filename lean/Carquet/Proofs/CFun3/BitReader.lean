import Carquet.Impl.CFun3.BitReader
import Carquet.Proofs.BitIO
import Carquet.Proofs.CFun3.CSem
/-
Stage-3 link: the bit reader of src/core/bitpack.c as translated in Gen/CFun.lean (`carquet_bit_reader_init`,
`refill_buffer` + `refill_buffer_loop1`, `carquet_bit_reader_read_bit / _read_bits / _read_bits64 / _has_more /
_remaining_bits`) against `Impl.BitIO` through `Impl.CFun3.rdAbs / rdInv`.

  * `rdInv_iff`        `rdInv s data` = `data` field 0, `size` = length, and the model invariant `RInv (rdAbs s data)`, so
                       preservation of the invariant is inherited from Proofs/BitIO.lean once the states agree;
  * `RSpec`            the form of every result: the new state is the model's, the invariant holds again, `bit_pos` is
                       untouched, the `_defined` flag is true;
  * `refillLoop_fuel`  the model loop gives the same result for every fuel that covers `56 < buffer_bits` (8 in the
                       model, 9 condition tests in the generated loop);
  * `loop1_spec`       the generated loop and `refillLoop` unroll in lockstep (any fuel); no out-of-bounds read, shift
                       count `0..56`, no overflow of `buffer_bits + 8`, one spare condition test;
  * `takeC_spec`       the straight-line part after the conditional refill (take `k ≤ buffer_bits` bits);
  * `…_eq`             per function: value and `RSpec`.
The generated `_vN` helpers are never named: they are unfolded by definitional unification against `takeC`.
-/
namespace Carquet.Proofs.CFun3.BitReader
open Carquet Carquet.Impl Carquet.Impl.CSem Carquet.Proofs.CSem Carquet.Impl.CFun3 Carquet.Impl.BitIO Carquet.Proofs.BitIO
open Carquet.Gen.CFun (carquet_bit_reader_t)

/-! ### the invariant -/

theorem shr_eq_zero_iff (x k : Nat) : x >>> k = 0 ↔ x < 2 ^ k := by
  rw [Nat.shiftRight_eq_div_pow, Nat.div_eq_zero_iff]
  have := Nat.two_pow_pos k
  omega

theorem rdInv_iff (s : carquet_bit_reader_t) (data : List UInt8) :
    rdInv s data = true ↔ s.data = 0 ∧ s.size.toNat = data.length ∧ RInv (rdAbs s data) := by
  simp only [rdInv, rdAbs, Bool.and_eq_true, beq_iff_eq, decide_eq_true_eq, shr_eq_zero_iff]
  constructor
  · rintro ⟨⟨⟨⟨h1, h2⟩, h3⟩, h4⟩, h5⟩
    exact ⟨h1, h2, ⟨by simpa [h2] using h3, h4, h5⟩⟩
  · rintro ⟨h1, h2, ⟨h3, h4, h5⟩⟩
    exact ⟨⟨⟨⟨h1, h2⟩, by simpa [h2] using h3⟩, h4⟩, h5⟩

/-- a call took `s` (over `data`) to `s'`: the model state of `s'` is `r'`, the invariant holds again, `bit_pos` is
untouched, and `b` is the call's `_defined` -/
structure RSpec (s : carquet_bit_reader_t) (data : List UInt8) (s' : carquet_bit_reader_t) (r' : Reader) (b : Bool) :
    Prop where
  abs : rdAbs s' data = r'
  inv : rdInv s' data = true
  bitpos : s'.bit_pos = s.bit_pos
  defined : b = true

theorem RSpec.refl {s : carquet_bit_reader_t} {data : List UInt8} (h : rdInv s data = true) :
    RSpec s data s (rdAbs s data) true := ⟨rfl, h, rfl, rfl⟩

theorem RSpec.trans {s s1 s2 : carquet_bit_reader_t} {data : List UInt8} {r1 r2 : Reader} {b1 b2 : Bool}
    (h1 : RSpec s data s1 r1 b1) (h2 : RSpec s1 data s2 r2 b2) : RSpec s data s2 r2 (b1 && b2) :=
  ⟨h2.abs, h2.inv, h2.bitpos.trans h1.bitpos, by rw [h1.defined, h2.defined]; rfl⟩

/-- a returned value `p` and the new state, in the order of the link theorems -/
theorem RSpec.link {p : Prop} {s s' : carquet_bit_reader_t} {data : List UInt8} {r' : Reader} {b : Bool}
    (h : p ∧ RSpec s data s' r' b) : p ∧ rdAbs s' data = r' ∧ rdInv s' data = true ∧ s'.bit_pos = s.bit_pos :=
  ⟨h.1, h.2.abs, h.2.inv, h.2.bitpos⟩

/-! ### `refill_buffer` -/

variable (s : carquet_bit_reader_t) (data : List UInt8)

/-- the model loop has stopped once the fuel covers `56 < buffer_bits`: any larger fuel gives the same result (the
model runs with fuel 8, the generated loop with 9 condition tests) -/
theorem refillLoop_fuel : ∀ (f g : Nat) (r : Reader), 56 < r.bufferBits + 8 * f → f ≤ g →
    refillLoop g r = refillLoop f r := by
  intro f
  induction f with
  | zero =>
    intro g r h _
    cases g with
    | zero => rfl
    | succ g =>
      have : ¬ (r.bufferBits ≤ 56 ∧ r.bytePos < r.data.length) := by omega
      simp only [refillLoop, this, if_false]
  | succ f ih =>
    intro g r h hg
    cases g with
    | zero => omega
    | succ g =>
      simp only [refillLoop]
      split
      · rw [ih g (refillStep r) (by simp only [refillStep]; omega) (by omega)]
      · rfl

/-- `buffer |= (uint64_t)data[byte_pos] << buffer_bits` -/
theorem step_buf (i k : Nat) (buf : BitVec 64) :
    (buf ||| (BitVec.setWidth 64 (rd8 data i) <<< k)).toNat = (buf.toNat ||| (data.getD i 0).toNat <<< k) % 2 ^ 64 := by
  rw [or_shl_toNat, BitVec.toNat_setWidth_of_le (by decide)]
  rfl

/-- the generated loop and the model loop unroll in lockstep (same fuel); no undefined behaviour once the fuel covers
`56 < buffer_bits`: every `data[byte_pos]` is inside the buffer, the shift count is `0..56`, and one more condition test
than the number of iterations is available -/
theorem loop1_spec : ∀ (f : Nat) (data : List UInt8) (size bp : BitVec 64) (bitpos : BitVec 32) (buf : BitVec 64)
    (bits : BitVec 32), size.toNat = data.length → bp.toNat ≤ data.length → bits.toNat ≤ 64 →
    rdAbs (Gen.CFun.refill_buffer_loop1 f data 0 size bp bitpos buf bits) data =
      (refillLoop f ⟨data, bp.toNat, buf.toNat, bits.toNat⟩).1 ∧
    (Gen.CFun.refill_buffer_loop1 f data 0 size bp bitpos buf bits).data = 0 ∧
    (Gen.CFun.refill_buffer_loop1 f data 0 size bp bitpos buf bits).size = size ∧
    (Gen.CFun.refill_buffer_loop1 f data 0 size bp bitpos buf bits).bit_pos = bitpos ∧
    (56 < bits.toNat + 8 * f → Gen.CFun.refill_buffer_loop1_defined (f + 1) data 0 size bp bitpos buf bits = true) := by
  intro f
  induction f with
  | zero =>
    intro data size bp bitpos buf bits hs _ hb
    refine ⟨rfl, rfl, rfl, rfl, fun hf => ?_⟩
    rw [Gen.CFun.refill_buffer_loop1_defined, sle_small _ _ (by omega) (by decide),
      if_neg (by rw [Bool.and_eq_true, decide_eq_true_eq]; exact fun h => absurd h.1 (by show ¬ _ ≤ 56; omega))]
  | succ f ih =>
    intro data size bp bitpos buf bits hs hp hb
    have hlen : data.length < 2 ^ 64 := by rw [← hs]; exact size.isLt
    have hcond : (BitVec.sle bits 56#32 && decide (bp < size)) = decide (bits.toNat ≤ 56 ∧ bp.toNat < data.length) := by
      rw [Bool.eq_iff_iff]
      simp only [sle_small bits 56#32 (by omega) (by decide), BitVec.lt_def, hs, Bool.and_eq_true, decide_eq_true_eq]
      rfl
    rw [Gen.CFun.refill_buffer_loop1, Gen.CFun.refill_buffer_loop1_defined, refillLoop, hcond]
    by_cases hc : bits.toNat ≤ 56 ∧ bp.toNat < data.length
    · have e1 : (bp + 1#64).toNat = bp.toNat + 1 := BitVec.toNat_add_of_lt (by show _ + 1 < _; omega)
      have e2 : (bits + 8#32).toNat = bits.toNat + 8 := BitVec.toNat_add_of_lt (by show _ + 8 < _; omega)
      have key := fun b => ih data size (bp + 1#64) bitpos b (bits + 8#32) hs (by omega) (by omega)
      rw [if_pos (decide_eq_true hc), if_pos (decide_eq_true hc), if_pos hc]
      refine ⟨(key _).1.trans ?_, (key _).2.1, (key _).2.2.1, (key _).2.2.2.1, fun hf => ?_⟩
      · rw [e1, e2]
        show (refillLoop f ⟨data, bp.toNat + 1,
          (buf ||| (BitVec.setWidth 64 (rd8 data (0 + bp.toNat)) <<< bits.toNat)).toNat, bits.toNat + 8⟩).1 = _
        rw [Nat.zero_add, step_buf]; rfl
      · rw [(key _).2.2.2.2 (by omega), inb, decide_eq_true (show 0 + bp.toNat + 1 ≤ data.length by omega),
          shCountOk_small true 64 bits (by omega) (by omega), sAddOk_small bits 8#32 (by show _ + 8 < _; omega)]
        rfl
    · have hd : ¬ decide (bits.toNat ≤ 56 ∧ bp.toNat < data.length) = true := by rwa [decide_eq_true_eq]
      rw [if_neg hd, if_neg hd, if_neg hc]
      exact ⟨rfl, rfl, rfl, rfl, fun _ => rfl⟩

theorem refill_buffer_spec (h : rdInv s data = true) :
    RSpec s data (Gen.CFun.refill_buffer s data) (refill (rdAbs s data)).1 (Gen.CFun.refill_buffer_defined s data) ∧
    (Gen.CFun.refill_buffer s data).data = s.data ∧ (Gen.CFun.refill_buffer s data).size = s.size := by
  obtain ⟨hd, hs, hi⟩ := (rdInv_iff s data).mp h
  obtain ⟨a, b, c, d, _⟩ := loop1_spec 9 data s.size s.byte_pos s.bit_pos s.buffer s.buffer_bits hs hi.pos hi.bits
  obtain ⟨_, _, _, _, e⟩ := loop1_spec 8 data s.size s.byte_pos s.bit_pos s.buffer s.buffer_bits hs hi.pos hi.bits
  rw [Gen.CFun.refill_buffer, Gen.CFun.refill_buffer_defined, hd]
  have habs := a.trans (congrArg Prod.fst (refillLoop_fuel 8 9 (rdAbs s data) (by omega) (by omega)))
  refine ⟨⟨habs, ?_, d, e (by omega)⟩, b, c⟩
  rw [rdInv_iff, c, habs]
  exact ⟨b, hs, (refill_spec _ hi).1.inv⟩

/-! ### taking `k ≤ buffer_bits` bits out of the accumulator -/

/-- `reader->buffer >>= k; reader->buffer_bits -= k;` -/
def takeC (s : carquet_bit_reader_t) (k : BitVec 32) : carquet_bit_reader_t :=
  { s with buffer := s.buffer >>> k.toNat, buffer_bits := s.buffer_bits - k }

theorem takeC_abs (k : BitVec 32) (hk : k.toNat ≤ s.buffer_bits.toNat) :
    rdAbs (takeC s k) data =
      { rdAbs s data with buffer := (rdAbs s data).buffer >>> k.toNat, bufferBits := (rdAbs s data).bufferBits - k.toNat } := by
  simp only [rdAbs, takeC, BitVec.toNat_ushiftRight, BitVec.toNat_sub_of_le (BitVec.le_def.mpr hk)]

theorem takeC_spec (k : BitVec 32) (h : rdInv s data = true) (hk : k.toNat ≤ s.buffer_bits.toNat) :
    RSpec s data (takeC s k)
      { rdAbs s data with buffer := (rdAbs s data).buffer >>> k.toNat, bufferBits := (rdAbs s data).bufferBits - k.toNat }
      (sSubOk s.buffer_bits k) := by
  obtain ⟨hd, hs, hi⟩ := (rdInv_iff s data).mp h
  have hb : s.buffer_bits.toNat ≤ 64 := hi.bits
  refine ⟨takeC_abs s data k hk, ?_, rfl, ?_⟩
  · rw [rdInv_iff, takeC_abs s data k hk]
    exact ⟨hd, hs, (take_bits (rdAbs s data) hi k.toNat hk).2.1⟩
  · exact sSubOk_small _ _ (by omega) (by omega)

/-! ### `carquet_bit_reader_read_bit` -/

/-- `int bit = reader->buffer & 1` -/
theorem bit_val (b : BitVec 64) : (BitVec.setWidth 32 (b &&& 1#64)).toInt = ((b.toNat &&& 1 : Nat) : Int) := by
  have h1 : b.toNat &&& 1 ≤ 1 := Nat.and_le_right
  have h2 : (BitVec.setWidth 32 (b &&& 1#64)).toNat = b.toNat &&& 1 := by
    rw [BitVec.toNat_setWidth, BitVec.toNat_and]
    exact Nat.mod_eq_of_lt (Nat.lt_of_le_of_lt h1 (by decide))
  rw [toInt_small _ (by rw [h2]; omega), h2]

/-- the part of `read_bit` after the conditional refill (`l`: the indices the model has read so far) -/
theorem read_bit_tail (h : rdInv s data = true) (l : List Nat) :
    (if s.buffer_bits == 0#32 then (4294967295#32, s)
      else (BitVec.setWidth 32 (s.buffer &&& 1#64), takeC s 1#32)).1.toInt =
      (if (rdAbs s data).bufferBits = 0 then ((-1 : Int), rdAbs s data, l)
        else ((((rdAbs s data).buffer &&& 1 : Nat) : Int),
          { rdAbs s data with buffer := (rdAbs s data).buffer >>> 1, bufferBits := (rdAbs s data).bufferBits - 1 },
          l)).1 ∧
    RSpec s data (if s.buffer_bits == 0#32 then (4294967295#32, s)
      else (BitVec.setWidth 32 (s.buffer &&& 1#64), takeC s 1#32)).2
      (if (rdAbs s data).bufferBits = 0 then ((-1 : Int), rdAbs s data, l)
        else ((((rdAbs s data).buffer &&& 1 : Nat) : Int),
          { rdAbs s data with buffer := (rdAbs s data).buffer >>> 1, bufferBits := (rdAbs s data).bufferBits - 1 },
          l)).2.1
      (if s.buffer_bits == 0#32 then true else sSubOk s.buffer_bits 1#32) := by
  rw [show (s.buffer_bits == 0#32) = decide (s.buffer_bits.toNat = 0) from beq_toNat _ _,
    show (rdAbs s data).bufferBits = s.buffer_bits.toNat from rfl]
  by_cases h0 : s.buffer_bits.toNat = 0
  · simp only [h0, decide_true, if_true]
    exact ⟨by decide, RSpec.refl h⟩
  · simp only [h0, decide_false, Bool.false_eq_true, if_false]
    exact ⟨bit_val _, takeC_spec s data 1#32 h (by show 1 ≤ _; omega)⟩

theorem read_bit_eq (h : rdInv s data = true) :
    (Gen.CFun.carquet_bit_reader_read_bit s data).1.toInt = (readBit (rdAbs s data)).1 ∧
    RSpec s data (Gen.CFun.carquet_bit_reader_read_bit s data).2 (readBit (rdAbs s data)).2.1
      (Gen.CFun.carquet_bit_reader_read_bit_defined s data) := by
  obtain ⟨r, _, _⟩ := refill_buffer_spec s data h
  simp only [Gen.CFun.carquet_bit_reader_read_bit, Gen.CFun.carquet_bit_reader_read_bit_defined, readBit, refillIfEmpty]
  rw [show (s.buffer_bits == 0#32) = decide (s.buffer_bits.toNat = 0) from beq_toNat _ _]
  by_cases h0 : s.buffer_bits.toNat = 0
  · obtain ⟨t1, t2⟩ := read_bit_tail _ data r.inv (refill (rdAbs s data)).2
    rw [r.abs] at t1 t2
    simp only [h0, show (rdAbs s data).bufferBits = 0 from h0, decide_true, if_true]
    exact ⟨t1, r.trans t2⟩
  · simp only [h0, show ¬ (rdAbs s data).bufferBits = 0 from h0, decide_false, Bool.false_eq_true, if_false]
    exact ⟨bit_val _, takeC_spec s data 1#32 h (by show 1 ≤ _; omega)⟩

/-! ### `carquet_bit_reader_read_bits` -/

/-- `(uint32_t)(buffer & ((1ULL << k) - 1))` for `k < 64` -/
theorem mask_val (b : BitVec 64) (k : Nat) (hk : k < 64) :
    (BitVec.setWidth 32 (b &&& ((1#64 <<< k) - 1#64))).toNat = (b.toNat &&& ((1 <<< k) - 1)) % 2 ^ 32 := by
  rw [BitVec.toNat_setWidth, BitVec.toNat_and, lowmask_toNat k hk]

/-- the part of `read_bits` after the conditional refill: `k` bits are taken, `k = min(num_bits, buffer_bits)` -/
theorem read_bits_tail (h : rdInv s data = true) (m : Nat) (k : BitVec 32) (hm : m ≤ 32)
    (hk : k.toNat = min m s.buffer_bits.toNat) :
    (BitVec.setWidth 32 (s.buffer &&& ((1#64 <<< k.toNat) - 1#64))).toNat =
      ((rdAbs s data).buffer &&& ((1 <<< min m (rdAbs s data).bufferBits) - 1)) % 2 ^ 32 ∧
    RSpec s data (takeC s k)
      ⟨(rdAbs s data).data, (rdAbs s data).bytePos, (rdAbs s data).buffer >>> min m (rdAbs s data).bufferBits,
       (rdAbs s data).bufferBits - min m (rdAbs s data).bufferBits⟩
      (shCountOk true 64 k && (shCountOk true 64 k && sSubOk s.buffer_bits k)) := by
  have ht := takeC_spec s data k h (by omega)
  rw [show (rdAbs s data).bufferBits = s.buffer_bits.toNat from rfl, ← hk]
  exact ⟨mask_val _ _ (by omega), ht.abs, ht.inv, rfl, by
    rw [ht.defined, shCountOk_small true 64 k (by omega) (by omega)]; rfl⟩

theorem read_bits_eq (n : BitVec 32) (h : rdInv s data = true) (hn : 0 ≤ n.toInt) :
    (Gen.CFun.carquet_bit_reader_read_bits s data n).1.toNat = (readBits (rdAbs s data) n.toNat).1 ∧
    RSpec s data (Gen.CFun.carquet_bit_reader_read_bits s data n).2 (readBits (rdAbs s data) n.toNat).2.1
      (Gen.CFun.carquet_bit_reader_read_bits_defined s data n) := by
  obtain ⟨r, _, _⟩ := refill_buffer_spec s data h
  obtain ⟨_, _, hi⟩ := (rdInv_iff s data).mp h
  obtain ⟨_, _, hi1⟩ := (rdInv_iff _ data).mp r.inv
  have hb : s.buffer_bits.toNat ≤ 64 := hi.bits
  have hb1 : (Gen.CFun.refill_buffer s data).buffer_bits.toNat ≤ 64 := hi1.bits
  have hn31 := small_of_nonneg n hn
  have hm : (if BitVec.slt 32#32 n then 32#32 else n).toNat = min n.toNat 32 := clamp_toNat 32#32 n (by decide) hn31
  have hm32 : min n.toNat 32 ≤ 32 := Nat.min_le_right _ _
  simp only [Gen.CFun.carquet_bit_reader_read_bits, Gen.CFun.carquet_bit_reader_read_bits_defined, readBits]
  rw [show (n == 0#32) = decide (n.toNat = 0) from beq_toNat _ _]
  by_cases hz : n.toNat = 0
  · simp only [hz, decide_true, if_true]
    exact ⟨rfl, RSpec.refl h⟩
  · rw [slt_small _ _ (by omega) (by omega), hm]
    simp only [hz, decide_false, if_false, Bool.false_eq_true, readBitsCore, refillIfShort]
    by_cases hlt : s.buffer_bits.toNat < min n.toNat 32
    · simp only [hlt, show (rdAbs s data).bufferBits < min n.toNat 32 from hlt, decide_true, if_true]
      rw [← r.abs]
      obtain ⟨t1, t2⟩ := read_bits_tail (Gen.CFun.refill_buffer s data) data r.inv (min n.toNat 32) _ hm32
        (by rw [← hm]; exact clamp_toNat _ _ (by omega) (by omega))
      exact ⟨t1, r.trans t2⟩
    · simp only [hlt, show ¬ (rdAbs s data).bufferBits < min n.toNat 32 from hlt, decide_false, if_false,
        Bool.false_eq_true]
      exact read_bits_tail s data h (min n.toNat 32) (if BitVec.slt 32#32 n then 32#32 else n) hm32 (by rw [hm]; omega)

/-! ### `carquet_bit_reader_read_bits64` -/

/-- `low | (high << 32)` -/
theorem lowhigh_val (lo hi : BitVec 32) :
    (BitVec.setWidth 64 lo ||| (BitVec.setWidth 64 hi <<< 32)).toNat = (lo.toNat ||| hi.toNat <<< 32) % 2 ^ 64 := by
  rw [or_shl_toNat, BitVec.toNat_setWidth_of_le (by decide), BitVec.toNat_setWidth_of_le (by decide)]

theorem read_bits64_eq (n : BitVec 32) (h : rdInv s data = true) (hn : 0 ≤ n.toInt) :
    (Gen.CFun.carquet_bit_reader_read_bits64 s data n).1.toNat = (readBits64 (rdAbs s data) n.toNat).1 ∧
    RSpec s data (Gen.CFun.carquet_bit_reader_read_bits64 s data n).2 (readBits64 (rdAbs s data) n.toNat).2.1
      (Gen.CFun.carquet_bit_reader_read_bits64_defined s data n) := by
  have hn31 := small_of_nonneg n hn
  have hm : (if BitVec.slt 64#32 n then 64#32 else n).toNat = min n.toNat 64 := clamp_toNat 64#32 n (by decide) hn31
  simp only [Gen.CFun.carquet_bit_reader_read_bits64, Gen.CFun.carquet_bit_reader_read_bits64_defined, readBits64]
  rw [show (n == 0#32) = decide (n.toNat = 0) from beq_toNat _ _, sle_small _ _ (by omega) (by decide), hm]
  by_cases hz : n.toNat = 0
  · simp only [hz, decide_true, if_true]
    exact ⟨rfl, RSpec.refl h⟩
  · by_cases hle : min n.toNat 64 ≤ 32
    · obtain ⟨a1, a2⟩ := read_bits_eq s data _ h (show 0 ≤ (if BitVec.slt 64#32 n then 64#32 else n).toInt by
        rw [toInt_small _ (by omega)]; omega)
      rw [hm] at a1 a2
      simp only [hz, show min n.toNat 64 ≤ (32#32).toNat from hle, hle, decide_true, decide_false, if_true, if_false,
        Bool.false_eq_true]
      exact ⟨by rw [← a1]; exact BitVec.toNat_setWidth_of_le (by decide), a2⟩
    · obtain ⟨b1, b2⟩ := read_bits_eq s data 32#32 h (by decide)
      rw [show (32#32).toNat = 32 from rfl] at b1 b2
      have hk : ((if BitVec.slt 64#32 n then 64#32 else n) - 32#32).toNat = min n.toNat 64 - 32 := by
        rw [BitVec.toNat_sub_of_le (BitVec.le_def.mpr (by rw [hm]; show 32 ≤ _; omega)), hm]; rfl
      obtain ⟨c1, c2⟩ := read_bits_eq _ data ((if BitVec.slt 64#32 n then 64#32 else n) - 32#32) b2.inv
        (by rw [toInt_small _ (by omega)]; omega)
      rw [b2.abs, hk] at c1 c2
      simp only [hz, show ¬ min n.toNat 64 ≤ (32#32).toNat from hle, hle, decide_false, if_false, Bool.false_eq_true]
      rw [← b1, ← c1, sSubOk_small (if BitVec.slt 64#32 n then 64#32 else n) 32#32 (by omega) (by decide), Bool.true_and]
      exact ⟨lowhigh_val _ _, b2.trans c2⟩

/-! ### `carquet_bit_reader_has_more`, `carquet_bit_reader_remaining_bits` -/

theorem has_more_eq (h : rdInv s data = true) :
    Gen.CFun.carquet_bit_reader_has_more s = hasMore (rdAbs s data) := by
  obtain ⟨_, hs, hi⟩ := (rdInv_iff s data).mp h
  have hb : s.buffer_bits.toNat ≤ 64 := hi.bits
  rw [Gen.CFun.carquet_bit_reader_has_more, slt_small 0#32 _ (by decide) (by omega)]
  simp only [BitVec.lt_def, hs]
  rfl

theorem remaining_bits_eq (h : rdInv s data = true) :
    (Gen.CFun.carquet_bit_reader_remaining_bits s).toNat = remainingBits (rdAbs s data) := by
  obtain ⟨_, hs, hi⟩ := (rdInv_iff s data).mp h
  have hb : s.buffer_bits.toNat ≤ 64 := hi.bits
  have hp : s.byte_pos.toNat ≤ s.size.toNat := by rw [hs]; exact hi.pos
  rw [Gen.CFun.carquet_bit_reader_remaining_bits, BitVec.toNat_add, BitVec.toNat_mul, sext_small _ (by omega) (by decide),
    BitVec.toNat_sub_of_le (BitVec.le_def.mpr hp), hs, remainingBits, Nat.add_mod_mod]
  rfl

end Carquet.Proofs.CFun3.BitReader
