import Carquet.Proofs.CFun2.Bitpack2
import Carquet.Proofs.BitpackImpl
import Carquet.Proofs.CFun3.CSem
/-
Stage-3 link: the general loop nest of `carquet_bitunpack8_32` (src/core/bitpack.c, widths 9..32) as translated in
Gen/CFun.lean (`carquet_bitunpack8_32_loop1/_loop2`) against `Impl.Bitpack.genStep / genInner / genOuter`.

The C variables are all far below `INT_MAX`, so the BitVec state of the inner loop is `BitVec.ofNat` of a `Bitpack.GenSt`
(`atSt`) satisfying `Inv` (bit_pos + bits_needed ≤ 256, bits_in_buffer + bits_needed ≤ 32, byte_pos = bit_pos / 8):
  * `step_vals`      the C expressions of one iteration of `while (bits_needed > 0)` are `genStep` on that representation;
  * `loop2_spec`     the translated inner loop and `genInner` unroll in lockstep, and there is no UB in it when
                     `bit_pos + bits_needed ≤ 8 * input.length` and the fuel exceeds `bits_needed`;
  * `loop1_spec`     induction over `for (i = 0; i < 8; i++)` against `genOuter` (bit_pos = w·i), where
                     `BitpackImpl.genInner_eq` tells where the inner loop ends whatever its fuel (33 in C, `w` in the model);
  * `bitunpack8_32_spec`  all widths 0..32 (0..8: `bitunpack8_32_small` and the straight-line `_defined` facts of the
                     specialised unpackers, `small_defined`).
Every lemma about a piece of the C text gives its value and its `_defined` flag together.
-/
namespace Carquet.Proofs.CFun3.Bitunpack
open Carquet Carquet.Impl Carquet.Impl.CSem Carquet.Proofs.CSem Carquet.Proofs.CFun2

/-! ### the C expressions of one iteration on naturals -/

/-- `bits_from_byte` -/
theorem bfb_eq (s : Bitpack.GenSt) (hp : s.bitPos < 2 ^ 31) (hn : s.bitsNeeded < 2 ^ 31) :
    (if BitVec.slt (BitVec.ofNat 32 s.bitsNeeded) (8#32 - BitVec.srem (BitVec.ofNat 32 s.bitPos) 8#32) then
      BitVec.ofNat 32 s.bitsNeeded else 8#32 - BitVec.srem (BitVec.ofNat 32 s.bitPos) 8#32) =
    BitVec.ofNat 32 (Bitpack.bitsFromByte s) := by
  have h8 : s.bitPos % 8 < 8 := Nat.mod_lt _ (by decide)
  rw [ofNat_srem _ 8 hp (by decide), ofNat_sub 8 _ (by omega) (by decide), ofNat_slt _ _ hn (by omega)]
  unfold Bitpack.bitsFromByte
  by_cases h : s.bitsNeeded < 8 - s.bitPos % 8
  · simp [h]; congr 1; omega
  · simp [h]; congr 1; omega

/-- `extracted`: `(input[byte_pos] >> (bit_pos % 8)) & ((1U << bits_from_byte) - 1)` -/
theorem ext_eq (inp : List UInt8) (byp sh k : Nat) (hb : byp < 2 ^ 31) (hs : sh < 8) (hk : k ≤ 8) :
    BitVec.setWidth 64 ((BitVec.sshiftRight (BitVec.setWidth 32 (rd8 inp (BitVec.ofNat 32 byp).toInt.toNat))
        (BitVec.ofNat 32 sh).toNat) &&& ((1#32 <<< (BitVec.ofNat 32 k).toNat) - 1#32)) =
      BitVec.ofNat 64 ((Bitpack.byteAt inp byp >>> sh) &&& ((1 <<< k) - 1)) := by
  have := Nat.shiftRight_le (rd8 inp byp).toNat sh
  have := (rd8 inp byp).isLt
  rw [show Bitpack.byteAt inp byp = (rd8 inp byp).toNat from rfl, ofNat_toInt_toNat byp hb,
    ofNat_toNat sh (by omega), ofNat_toNat k (by omega), byte_shr]
  apply BitVec.eq_of_toNat_eq
  rw [BitVec.toNat_setWidth_of_le (by decide), BitVec.toNat_and, lowmask_toNat k (by omega), ofNat_toNat _ (by omega),
    BitVec.toNat_ofNat,
    Nat.mod_eq_of_lt (Nat.lt_of_le_of_lt Nat.and_le_left (by omega))]

/-- `bits |= extracted << bits_in_buffer` on 64 bits -/
theorem or_shl64 (b e k : Nat) (hk : k < 2 ^ 31) :
    BitVec.ofNat 64 b ||| BitVec.ofNat 64 e <<< (BitVec.ofNat 32 k).toNat = BitVec.ofNat 64 (b ||| e <<< k) := by
  apply BitVec.eq_of_toNat_eq
  rw [ofNat_toNat k hk]
  simp only [BitVec.toNat_or, BitVec.toNat_shiftLeft, BitVec.toNat_ofNat, Nat.or_mod_two_pow]
  congr 1
  simp only [Nat.shiftLeft_eq]
  rw [Nat.mod_mul_mod]

/-! ### the inner loop -/

/-- the invariant of `while (bits_needed > 0)`: everything stays far below `INT_MAX`, `byte_pos` follows `bit_pos` -/
structure Inv (s : Bitpack.GenSt) : Prop where
  pos : s.bitPos + s.bitsNeeded ≤ 256
  buf : s.bitsInBuf + s.bitsNeeded ≤ 32
  byte : s.bytePos = s.bitPos / 8

theorem bfb_bounds (s : Bitpack.GenSt) :
    (0 < s.bitsNeeded → 0 < Bitpack.bitsFromByte s) ∧ Bitpack.bitsFromByte s ≤ s.bitsNeeded ∧
    Bitpack.bitsFromByte s ≤ 8 - s.bitPos % 8 := by
  unfold Bitpack.bitsFromByte; omega

theorem Inv.step (inp : List UInt8) {s : Bitpack.GenSt} (h : Inv s) (hn : 0 < s.bitsNeeded) :
    Inv (Bitpack.genStep inp s) := by
  obtain ⟨h0, h1, h2⟩ := bfb_bounds s
  have h0 := h0 hn
  obtain ⟨hp, hb, hy⟩ := h
  refine ⟨?_, ?_, ?_⟩
  · simp only [Bitpack.genStep]; omega
  · simp only [Bitpack.genStep]; omega
  · simp only [Bitpack.genStep]
    split <;> omega

/-- a function of the C variables `bit_pos, byte_pos, i, bits, bits_needed, bits_in_buffer` at the state that stands
for `s` -/
abbrev atSt {α : Type} (f : BitVec 32 → BitVec 32 → BitVec 32 → BitVec 64 → BitVec 32 → BitVec 32 → α) (i : BitVec 32)
    (s : Bitpack.GenSt) : α :=
  f (BitVec.ofNat 32 s.bitPos) (BitVec.ofNat 32 s.bytePos) i (BitVec.ofNat 64 s.bits) (BitVec.ofNat 32 s.bitsNeeded)
    (BitVec.ofNat 32 s.bitsInBuf)

/-- `bits_from_byte = min(8 - bit_pos % 8, bits_needed)` as the C text computes it -/
def bfbC (bp bn : BitVec 32) : BitVec 32 :=
  if BitVec.slt bn (8#32 - BitVec.srem bp 8#32) then bn else 8#32 - BitVec.srem bp 8#32

/-- `extracted = (input[byte_pos] >> (bit_pos % 8)) & ((1U << bits_from_byte) - 1)`, widened to `uint64_t` -/
def extC (input : List UInt8) (bp byp bn : BitVec 32) : BitVec 64 :=
  BitVec.setWidth 64 ((BitVec.sshiftRight (BitVec.setWidth 32 (rd8 input byp.toInt.toNat)) (BitVec.srem bp 8#32).toNat) &&&
    ((1#32 <<< (bfbC bp bn).toNat) - 1#32))

/-- `if (bit_pos % 8 == 0) byte_pos++` after `bit_pos += bits_from_byte` -/
def bypC (bp byp bn : BitVec 32) : BitVec 32 :=
  if BitVec.srem (bp + bfbC bp bn) 8#32 == 0#32 then byp + 1#32 else byp

/-- what one iteration of `while (bits_needed > 0)` needs in order to be defined (in the order of this file: the
generated flag is compared with it up to the order of its conjuncts) -/
def stepOkC (input : List UInt8) (bp byp bn bib : BitVec 32) : Bool :=
  sSubOk 8#32 (BitVec.srem bp 8#32) && !byp.msb && inb input byp.toInt.toNat 1 &&
  shCountOk true 32 (BitVec.srem bp 8#32) && shCountOk true 32 (bfbC bp bn) && shCountOk true 64 bib &&
  sAddOk bp (bfbC bp bn) && sAddOk bib (bfbC bp bn) && sSubOk bn (bfbC bp bn) &&
  (if BitVec.srem (bp + bfbC bp bn) 8#32 == 0#32 then sAddOk byp 1#32 else true)

section
variable (input : List UInt8) (bw : BitVec 32) (values : List (BitVec 32)) (mask i : BitVec 32)

/-- the C expressions of one iteration, at the state that stands for `s`, are the fields of `genStep`; and the iteration
is defined when the byte it reads lies inside `input` -/
theorem step_vals (s : Bitpack.GenSt) (h : Inv s) :
    bfbC (BitVec.ofNat 32 s.bitPos) (BitVec.ofNat 32 s.bitsNeeded) = BitVec.ofNat 32 (Bitpack.bitsFromByte s) ∧
    BitVec.ofNat 32 s.bitPos + BitVec.ofNat 32 (Bitpack.bitsFromByte s) = BitVec.ofNat 32 (Bitpack.genStep input s).bitPos ∧
    bypC (BitVec.ofNat 32 s.bitPos) (BitVec.ofNat 32 s.bytePos) (BitVec.ofNat 32 s.bitsNeeded) =
      BitVec.ofNat 32 (Bitpack.genStep input s).bytePos ∧
    BitVec.ofNat 64 s.bits ||| extC input (BitVec.ofNat 32 s.bitPos) (BitVec.ofNat 32 s.bytePos)
        (BitVec.ofNat 32 s.bitsNeeded) <<< (BitVec.ofNat 32 s.bitsInBuf).toNat =
      BitVec.ofNat 64 (Bitpack.genStep input s).bits ∧
    BitVec.ofNat 32 s.bitsNeeded - BitVec.ofNat 32 (Bitpack.bitsFromByte s) =
      BitVec.ofNat 32 (Bitpack.genStep input s).bitsNeeded ∧
    BitVec.ofNat 32 s.bitsInBuf + BitVec.ofNat 32 (Bitpack.bitsFromByte s) =
      BitVec.ofNat 32 (Bitpack.genStep input s).bitsInBuf ∧
    (0 < s.bitsNeeded → s.bitPos + s.bitsNeeded ≤ 8 * input.length →
      stepOkC input (BitVec.ofNat 32 s.bitPos) (BitVec.ofNat 32 s.bytePos) (BitVec.ofNat 32 s.bitsNeeded)
        (BitVec.ofNat 32 s.bitsInBuf) = true) := by
  obtain ⟨hp, hb, hy⟩ := h
  obtain ⟨h0, h1, h2⟩ := bfb_bounds s
  have h8 : s.bitPos % 8 < 8 := Nat.mod_lt _ (by decide)
  have e1 : bfbC (BitVec.ofNat 32 s.bitPos) (BitVec.ofNat 32 s.bitsNeeded) = BitVec.ofNat 32 (Bitpack.bitsFromByte s) :=
    bfb_eq s (by omega) (by omega)
  have e7 : bypC (BitVec.ofNat 32 s.bitPos) (BitVec.ofNat 32 s.bytePos) (BitVec.ofNat 32 s.bitsNeeded) =
      BitVec.ofNat 32 (Bitpack.genStep input s).bytePos := by
    rw [bypC, e1, ofNat_add, ofNat_srem _ 8 (by omega) (by decide), ofNat_beq _ 0 (by omega) (by decide), ofNat_add]
    simp only [Bitpack.genStep, decide_eq_true_eq]
    split <;> rfl
  refine ⟨e1, ofNat_add _ _, e7, ?_, ofNat_sub _ _ h1 (by omega), ofNat_add _ _, fun hn hlen => ?_⟩
  · rw [extC, e1, ofNat_srem s.bitPos 8 (by omega) (by decide), ext_eq input _ _ _ (by omega) h8 (by omega),
      or_shl64 _ _ _ (by omega)]
    rfl
  · have h0 := h0 hn
    rw [stepOkC, e1, ofNat_add, ofNat_srem s.bitPos 8 (by omega) (by decide),
      ofNat_srem (s.bitPos + Bitpack.bitsFromByte s) 8 (by omega) (by decide), ofNat_toInt_toNat _ (by omega),
      (inb_iff input s.bytePos 1).mpr (by omega), ofNat_sSubOk 8 (s.bitPos % 8) (by omega) (by omega),
      ofNat_msb s.bytePos (by omega), ofNat_shCountOk true 32 (s.bitPos % 8) (by omega) (by omega),
      ofNat_shCountOk true 32 (Bitpack.bitsFromByte s) (by omega) (by omega),
      ofNat_shCountOk true 64 s.bitsInBuf (by omega) (by omega),
      ofNat_sAddOk s.bitPos (Bitpack.bitsFromByte s) (by omega),
      ofNat_sAddOk s.bitsInBuf (Bitpack.bitsFromByte s) (by omega),
      ofNat_sSubOk s.bitsNeeded (Bitpack.bitsFromByte s) (by omega) (by omega), ofNat_sAddOk s.bytePos 1 (by omega)]
    simp

-- so that the comparison of conjuncts in `hD` below fails at once on conjuncts of different kinds
attribute [local irreducible] sAddOk sSubOk shCountOk inb in
/-- the translated inner loop and `genInner` unroll in lockstep; no undefined behaviour: the byte read lies inside `input`,
every `int` stays small, the fuel is not exhausted (each iteration takes at least one bit) -/
theorem loop2_spec : ∀ (f : Nat) (s : Bitpack.GenSt), Inv s → s.bitsNeeded < f →
    s.bitPos + s.bitsNeeded ≤ 8 * input.length →
    atSt (Gen.CFun.carquet_bitunpack8_32_loop2 f input bw values mask) i s =
      (BitVec.ofNat 32 (Bitpack.genInner input f s).bitPos, BitVec.ofNat 32 (Bitpack.genInner input f s).bytePos,
        BitVec.ofNat 64 (Bitpack.genInner input f s).bits, BitVec.ofNat 32 (Bitpack.genInner input f s).bitsNeeded,
        BitVec.ofNat 32 (Bitpack.genInner input f s).bitsInBuf) ∧
    atSt (Gen.CFun.carquet_bitunpack8_32_loop2_defined f input bw values mask) i s = true := by
  -- the generated loop in the words of this file; its `_defined` twin is compared up to the order of its conjuncts
  have hL : ∀ f bp byp bits bn bib, Gen.CFun.carquet_bitunpack8_32_loop2 (f + 1) input bw values mask bp byp i bits bn bib =
      if BitVec.slt 0#32 bn then
        Gen.CFun.carquet_bitunpack8_32_loop2 f input bw values mask (bp + bfbC bp bn) (bypC bp byp bn) i
          (bits ||| extC input bp byp bn <<< bib.toNat) (bn - bfbC bp bn) (bib + bfbC bp bn)
      else (bp, byp, bits, bn, bib) := fun _ _ _ _ _ _ => rfl
  have hD : ∀ f bp byp bits bn bib, BitVec.slt 0#32 bn = true → stepOkC input bp byp bn bib = true →
      Gen.CFun.carquet_bitunpack8_32_loop2_defined f input bw values mask (bp + bfbC bp bn) (bypC bp byp bn) i
        (bits ||| extC input bp byp bn <<< bib.toNat) (bn - bfbC bp bn) (bib + bfbC bp bn) = true →
      Gen.CFun.carquet_bitunpack8_32_loop2_defined (f + 1) input bw values mask bp byp i bits bn bib = true :=
    fun _ _ _ _ _ _ hc ok hr => by
      simp only [stepOkC, Bool.and_eq_true] at ok
      obtain ⟨⟨⟨⟨⟨⟨⟨⟨⟨a1, a2⟩, a3⟩, a4⟩, a5⟩, a6⟩, a7⟩, a8⟩, a9⟩, a10⟩ := ok
      rw [Gen.CFun.carquet_bitunpack8_32_loop2_defined, if_pos hc]
      simp only [Bool.and_eq_true]
      -- every conjunct of the generated flag is one of ours or the recursive call, whatever their order
      repeat' apply And.intro
      all_goals assumption
  intro f
  induction f with
  | zero => intro s _ h; omega
  | succ f ih =>
    intro s h hf hlen
    have hc : BitVec.slt 0#32 (BitVec.ofNat 32 s.bitsNeeded) = decide (0 < s.bitsNeeded) :=
      ofNat_slt 0 s.bitsNeeded (by decide) (by have := h.buf; omega)
    simp only [atSt]
    rw [hL, Bitpack.genInner]
    by_cases hn : s.bitsNeeded = 0
    · have hd : ¬ BitVec.slt 0#32 (BitVec.ofNat 32 s.bitsNeeded) = true := by rw [hc, decide_eq_true_eq]; omega
      rw [if_neg hd, if_pos hn, Gen.CFun.carquet_bitunpack8_32_loop2_defined, if_neg hd]
      exact ⟨rfl, rfl⟩
    · obtain ⟨_, h1, _⟩ := bfb_bounds s
      obtain ⟨i1, i2⟩ := ih _ (h.step input (by omega)) (by simp only [Bitpack.genStep]; omega)
        (by simp only [Bitpack.genStep]; omega)
      obtain ⟨e1, e4, e7, e3, e6, e5, ok⟩ := step_vals input s h
      have hd : BitVec.slt 0#32 (BitVec.ofNat 32 s.bitsNeeded) = true := by rw [hc]; exact decide_eq_true (by omega)
      refine ⟨?_, hD _ _ _ _ _ _ hd (ok (by omega) hlen) ?_⟩
      · rw [if_pos hd, if_neg hn, e7, e3, e1, e4, e6, e5]; exact i1
      · rw [e7, e3, e1, e4, e6, e5]; exact i2

/-! ### the outer loop -/

/-- `values[i] = (uint32_t)(bits & mask)` -/
theorem stored_toNat (b : Nat) (m : BitVec 32) :
    (BitVec.setWidth 32 (BitVec.ofNat 64 b &&& BitVec.setWidth 64 m)).toNat = b &&& m.toNat := by
  have hm : m.toNat < 2 ^ 32 := m.isLt
  simp only [BitVec.toNat_setWidth, BitVec.toNat_and, BitVec.toNat_ofNat]
  apply Nat.eq_of_testBit_eq
  intro j
  simp only [Nat.testBit_mod_two_pow, Nat.testBit_and]
  by_cases hj : j < 32
  · simp [hj, (by omega : j < 64)]
  · have : m.toNat.testBit j = false :=
      Nat.testBit_lt_two_pow (Nat.lt_of_lt_of_le hm (Nat.pow_le_pow_right (by decide) (by omega)))
    simp [this]

/-- `uint32_t mask = (uint32_t)((1ULL << bit_width) - 1)` -/
theorem mask_toNat (w : Nat) (hw : w ≤ 32) :
    (BitVec.setWidth 32 ((1#64 <<< (BitVec.ofNat 32 w).toNat) - 1#64)).toNat = Bitpack.mask w := by
  have h2 : (2 : Nat) ^ w ≤ 2 ^ 32 := Nat.pow_le_pow_right (by decide) hw
  have h3 := Nat.two_pow_pos w
  rw [Carquet.Proofs.BitpackImpl.mask_eq hw, ofNat_toNat w (by omega), BitVec.toNat_setWidth,
    lowmask_toNat w (by omega), Nat.one_shiftLeft]
  omega

/-- the state at the start of the inner loop for value `i` -/
def start (w i : Nat) : Bitpack.GenSt := ⟨0, w, 0, w * i, w * i / 8⟩

/-- where the inner loop for value `i` ends (any fuel ≥ `w`) -/
theorem start_run (w k f : Nat) (hf : w ≤ f) :
    (Bitpack.genInner input f (start w k)).bits = (Bitpack.genInner input w (start w k)).bits ∧
    (Bitpack.genInner input f (start w k)).bitPos = w * (k + 1) ∧
    (Bitpack.genInner input f (start w k)).bytePos = w * (k + 1) / 8 := by
  obtain ⟨a1, a2, a3⟩ := Carquet.Proofs.BitpackImpl.genInner_eq input f (start w k) (w * k) hf rfl rfl
    (by simp [start, Nat.mod_one])
  obtain ⟨b1, _, _⟩ := Carquet.Proofs.BitpackImpl.genInner_eq input w (start w k) (w * k) (Nat.le_refl _) rfl rfl
    (by simp [start, Nat.mod_one])
  exact ⟨by rw [a1, b1], by rw [a2, Nat.mul_succ]; rfl, by rw [a3, Nat.mul_succ]; rfl⟩

/-- the translated inner loop for value `k`, run from the state the outer loop is in -/
theorem loop2_run (w k : Nat) (hw : w ≤ 32) (hk : k < 8) (hlen : w ≤ input.length) :
    (∃ bn bib, Gen.CFun.carquet_bitunpack8_32_loop2 33 input bw values mask (BitVec.ofNat 32 (w * k))
      (BitVec.ofNat 32 (w * k / 8)) i 0#64 (BitVec.ofNat 32 w) 0#32 =
      (BitVec.ofNat 32 (w * (k + 1)), BitVec.ofNat 32 (w * (k + 1) / 8),
        BitVec.ofNat 64 (Bitpack.genInner input w (start w k)).bits, bn, bib)) ∧
    Gen.CFun.carquet_bitunpack8_32_loop2_defined 33 input bw values mask (BitVec.ofNat 32 (w * k))
      (BitVec.ofNat 32 (w * k / 8)) i 0#64 (BitVec.ofNat 32 w) 0#32 = true := by
  have h1 : w * (k + 1) ≤ 32 * 8 := Nat.mul_le_mul hw (by omega)
  have h2 : w * (k + 1) ≤ w * 8 := Nat.mul_le_mul_left w (by omega)
  rw [Nat.mul_succ] at h1 h2
  obtain ⟨h, hd⟩ := loop2_spec input bw values mask i 33 (start w k)
    ⟨by simp only [start]; omega, by simp only [start]; omega, rfl⟩ (by simp only [start]; omega)
    (by simp only [start]; omega)
  obtain ⟨r1, r2, r3⟩ := start_run input w k 33 (by omega)
  rw [r1, r2, r3] at h
  exact ⟨⟨_, _, h⟩, hd⟩

end

theorem genOuter_succ (input : List UInt8) (w n i : Nat) :
    Bitpack.genOuter w input (n + 1) (w * i) (w * i / 8) =
      ((Bitpack.genInner input w (start w i)).bits &&& Bitpack.mask w) ::
        Bitpack.genOuter w input n (w * (i + 1)) (w * (i + 1) / 8) := by
  obtain ⟨_, r2, r3⟩ := start_run input w i w (Nat.le_refl _)
  simp only [start] at r2 r3
  simp only [Bitpack.genOuter, start, r2, r3]

/-- the translated outer loop from value `i` on (`n` values left): the values before `i` and after 8 are untouched; no
undefined behaviour: `values[i]` with `i < 8 ≤` its length, fuel 9 for 8 iterations -/
theorem loop1_spec (input : List UInt8) (w : Nat) (hw : w ≤ 32) (hlen : w ≤ input.length) (mask : BitVec 32)
    (hm : mask.toNat = Bitpack.mask w) :
    ∀ (fuel i : Nat) (values : List (BitVec 32)), i ≤ 8 → 8 - i < fuel → 8 ≤ values.length →
    (Gen.CFun.carquet_bitunpack8_32_loop1 fuel input (BitVec.ofNat 32 w) values mask (BitVec.ofNat 32 (w * i))
      (BitVec.ofNat 32 (w * i / 8)) (BitVec.ofNat 32 i)).map BitVec.toNat =
    (values.take i).map BitVec.toNat ++ Bitpack.genOuter w input (8 - i) (w * i) (w * i / 8) ++
      (values.drop 8).map BitVec.toNat ∧
    Gen.CFun.carquet_bitunpack8_32_loop1_defined fuel input (BitVec.ofNat 32 w) values mask (BitVec.ofNat 32 (w * i))
      (BitVec.ofNat 32 (w * i / 8)) (BitVec.ofNat 32 i) = true := by
  intro fuel
  induction fuel with
  | zero => intro _ _ _ hf; omega
  | succ f ih =>
    intro i values hi hf hv
    rw [Gen.CFun.carquet_bitunpack8_32_loop1, Gen.CFun.carquet_bitunpack8_32_loop1_defined,
      show BitVec.slt (BitVec.ofNat 32 i) 8#32 = decide (i < 8) from ofNat_slt i 8 (by omega) (by decide)]
    by_cases hlt : i < 8
    · obtain ⟨⟨bn, bib, hrun⟩, hrd⟩ := loop2_run input (BitVec.ofNat 32 w) values mask (BitVec.ofNat 32 i) w i hw
        hlt hlen
      obtain ⟨i1, i2⟩ := ih (i + 1) (wr values i (BitVec.setWidth 32 (BitVec.ofNat 64
        (Bitpack.genInner input w (start w i)).bits &&& BitVec.setWidth 64 mask))) (by omega) (by omega)
        (by rw [wr, List.length_set]; exact hv)
      rw [if_pos (decide_eq_true hlt), if_pos (decide_eq_true hlt), hrun, hrd]
      simp only [ofNat_toInt_toNat (v := 31) i (by omega), ofNat_add]
      rw [i1, i2, show 8 - i = 8 - (i + 1) + 1 by omega, genOuter_succ, ofNat_msb i (by omega),
        ofNat_sAddOk i 1 (by omega), (inb_iff values i 1).mpr (by omega)]
      refine ⟨?_, rfl⟩
      simp only [wr, take_set_succ values i _ (by omega), List.drop_set_of_lt hlt, List.map_append,
        List.map_cons, List.map_nil, stored_toNat, hm, List.append_assoc, List.cons_append, List.nil_append]
    · obtain rfl : i = 8 := by omega
      have hd : ¬ decide (8 < 8) = true := by decide
      rw [if_neg hd, if_neg hd, Bitpack.genOuter, List.append_nil, ← List.map_append, List.take_append_drop]
      exact ⟨rfl, rfl⟩

/-! ### the specialised unpackers are straight-line code: only the bounds of `input` and `values` matter -/

theorem inb_wr {w : Nat} (a : List (BitVec w)) (i j n : Nat) (v : BitVec w) : inb (wr a i v) j n = inb a j n := by
  rw [inb, inb, wr, List.length_set]

theorem sShlOk_byte8 (x : BitVec 8) : sShlOk (BitVec.setWidth 32 x) 8 = true := by
  have := x.isLt
  simp [sShlOk, BitVec.msb_eq_decide, Nat.shiftLeft_eq]
  omega

/-- widths 0..8: a read of `w` bytes of `input`, eight stores into `values` -/
theorem small_defined (input : List UInt8) (values : List (BitVec 32)) (w : Nat) (h8 : w ≤ 8)
    (hi : w ≤ input.length) (hv : 8 ≤ values.length) :
    Gen.CFun.carquet_bitunpack8_32_defined input (BitVec.ofNat 32 w) values = true := by
  have hin : ∀ k, k < 8 → inb values k 1 = true := fun k hk => (inb_iff values k 1).mpr (by omega)
  have hrd : ∀ k, k < w → inb input k 1 = true := fun k hk => (inb_iff input k 1).mpr (by omega)
  have hc : w = 0 ∨ w = 1 ∨ w = 2 ∨ w = 3 ∨ w = 4 ∨ w = 5 ∨ w = 6 ∨ w = 7 ∨ w = 8 := by omega
  rcases hc with rfl | rfl | rfl | rfl | rfl | rfl | rfl | rfl | rfl
  · simpa [Gen.CFun.carquet_bitunpack8_32_defined, inb] using hv
  · simp [Gen.CFun.carquet_bitunpack8_32_defined, Gen.CFun.carquet_bitunpack8_1bit_defined, inb_wr, hin, hrd]
  · simp [Gen.CFun.carquet_bitunpack8_32_defined, Gen.CFun.carquet_bitunpack8_2bit_defined,
      Gen.CFun.read_le16_defined, sShlOk_byte8, inb_wr, hin, hrd]
  · simp [Gen.CFun.carquet_bitunpack8_32_defined, bitunpack8_3bit_defined input values hi hv]
  · simp [Gen.CFun.carquet_bitunpack8_32_defined, Gen.CFun.carquet_bitunpack8_4bit_defined,
      Gen.CFun.read_le32_defined, inb_wr, hin, hrd]
  · simp [Gen.CFun.carquet_bitunpack8_32_defined, Gen.CFun.carquet_bitunpack8_5bit_defined,
      Gen.CFun.read_le40_defined, inb_wr, hin, hrd]
  · simp [Gen.CFun.carquet_bitunpack8_32_defined, Gen.CFun.carquet_bitunpack8_6bit_defined,
      Gen.CFun.read_le48_defined, inb_wr, hin, hrd]
  · simp [Gen.CFun.carquet_bitunpack8_32_defined, Gen.CFun.carquet_bitunpack8_7bit_defined,
      Gen.CFun.read_le56_defined, inb_wr, hin, hrd]
  · simp [Gen.CFun.carquet_bitunpack8_32_defined, Gen.CFun.carquet_bitunpack8_8bit_defined, inb_wr, hin, hrd]

/-! ### `carquet_bitunpack8_32` -/

/-- **`carquet_bitunpack8_32(input, bit_width, values)`**, every width 0..32: the eight values of `Bitpack.unpack8`, the rest
of `values` untouched; and it reaches no undefined behaviour: reads inside `input[0 .. w)`, writes inside
`values[0 .. 8)`, no `int` overflow, no out-of-range shift, loop fuels (33 inner, 9 outer) not exhausted -/
theorem bitunpack8_32_spec (input : List UInt8) (values : List (BitVec 32)) (w : Nat) (hw : w ≤ 32)
    (hi : w ≤ input.length) (hv : 8 ≤ values.length) :
    (Gen.CFun.carquet_bitunpack8_32 input (BitVec.ofNat 32 w) values).map BitVec.toNat =
      Bitpack.unpack8 w input ++ (values.drop 8).map BitVec.toNat ∧
    Gen.CFun.carquet_bitunpack8_32_defined input (BitVec.ofNat 32 w) values = true := by
  by_cases h8 : w ≤ 8
  · exact ⟨bitunpack8_32_small input values w h8 hi hv, small_defined input values w h8 hi hv⟩
  · have hne : ∀ k, k ≤ 8 → (BitVec.ofNat 32 w == BitVec.ofNat 32 k) = false := fun k hk => by
      rw [beq_toNat, ofNat_toNat w (by omega), ofNat_toNat k (by omega)]; simp; omega
    obtain ⟨hl, hd⟩ := loop1_spec input w hw hi _ (mask_toNat w hw) 9 0 values (by omega) (by omega) hv
    simp only [Nat.mul_zero, Nat.zero_div, List.take_zero, List.map_nil, List.nil_append] at hl hd
    have e : Bitpack.unpack8 w input = Bitpack.unpack8Generic w input := by
      rw [Bitpack.unpack8, if_neg (by omega), if_neg (by omega), if_neg (by omega), if_neg (by omega),
        if_neg (by omega), if_neg (by omega), if_neg (by omega), if_neg (by omega), if_neg (by omega)]
    simp only [Gen.CFun.carquet_bitunpack8_32, Gen.CFun.carquet_bitunpack8_32_defined, hne 0 (by decide),
      hne 1 (by decide), hne 2 (by decide), hne 3 (by decide), hne 4 (by decide), hne 5 (by decide), hne 6 (by decide),
      hne 7 (by decide), hne 8 (by decide), Bool.false_eq_true, if_false,
      ofNat_shCountOk (v := 31) true 64 w (by omega) (by omega), Bool.true_and, e]
    exact ⟨hl, hd⟩

end Carquet.Proofs.CFun3.Bitunpack
