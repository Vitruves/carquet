import Carquet.Proofs.CFun3.ThriftDecB
/-
Stage-3 link of the Thrift compact decoder, part C: `thrift_read_field_begin`.  The generated definition is first
brought into a closed form over small named pieces (`hiC`, `loC`, `prevC`, `fidShort`, `setTopC`, `noteBoolC`: the C
expressions of the function body); each piece is then linked to the model separately.
-/
namespace Carquet.Proofs.CFun3.ThriftDec
open Carquet Carquet.Impl Carquet.Impl.CSem Carquet.Proofs.CSem Carquet.Impl.CFun3
open Carquet.Gen.CFun (thrift_decoder_t)

variable (ov : Bool) (bd : Nat) (s : thrift_decoder_t) (data : List UInt8)

/-! ### `thrift_read_field_begin` -/

/-- `delta = (header >> 4) & 0x0F` as an `int16_t` -/
def hiC (r : BitVec 8) : BitVec 16 := BitVec.setWidth 16 ((BitVec.sshiftRight (BitVec.setWidth 32 r) 4) &&& 15#32)
/-- `header & 0x0F` -/
def loC (r : BitVec 8) : BitVec 32 := (BitVec.setWidth 32 r) &&& 15#32
/-- `prev_field_id` -/
def prevC (d : thrift_decoder_t) : BitVec 16 :=
  if BitVec.slt 0#32 d.nesting_level then rd d.last_field_id (d.nesting_level - 1#32).toInt.toNat else 0#16
/-- `prev_field_id + delta` (computed in `int`) converted to `int16_t` -/
def fidShort (d : thrift_decoder_t) (r : BitVec 8) : BitVec 16 :=
  BitVec.setWidth 16 (BitVec.signExtend 32 (prevC d) + BitVec.signExtend 32 (hiC r))
/-- "Update last field ID" -/
def setTopC (d : thrift_decoder_t) (v : BitVec 16) : thrift_decoder_t :=
  { d with last_field_id := (if BitVec.slt 0#32 d.nesting_level then
      wr d.last_field_id (d.nesting_level - 1#32).toInt.toNat v else d.last_field_id) }
/-- "Handle embedded boolean values" -/
def noteBoolC (t : BitVec 32) (d : thrift_decoder_t) : thrift_decoder_t :=
  { d with bool_pending := if t == 1#32 then true else if t == 2#32 then true else d.bool_pending,
           bool_value := if t == 1#32 then true else if t == 2#32 then false else d.bool_value }
def tyOutC (t : BitVec 32) : BitVec 32 := if t == 1#32 then 1#32 else if t == 2#32 then 2#32 else t

/-- `thrift_read_field_begin` after a non-zero header byte `r` has been read (state `d`) -/
def fieldKC (d : thrift_decoder_t) (r : BitVec 8) (data : List UInt8) :
    Bool × thrift_decoder_t × BitVec 32 × BitVec 16 :=
  if BitVec.signExtend 32 (hiC r) == 0#32 then
    (true, noteBoolC (loC r) (setTopC (Gen.CFun.thrift_read_i16 d data).2 (Gen.CFun.thrift_read_i16 d data).1),
      tyOutC (loC r), (Gen.CFun.thrift_read_i16 d data).1)
  else (true, noteBoolC (loC r) (setTopC d (fidShort d r)), tyOutC (loC r), fidShort d r)

/-- `thrift_read_field_begin` in closed form (no hypothesis: the generated definition unfolds to this) -/
theorem field_begin_eq (ty0 : BitVec 32) (fid0 : BitVec 16) :
    Gen.CFun.thrift_read_field_begin s data ty0 fid0 =
      if s.status != 0#32 then (false, s, 0#32, 0#16)
      else if BitVec.setWidth 32 (Gen.CFun.read_byte_raw s data).1 == 0#32 then
        (false, (Gen.CFun.read_byte_raw s data).2, 0#32, 0#16)
      else fieldKC (Gen.CFun.read_byte_raw s data).2 (Gen.CFun.read_byte_raw s data).1 data := by
  -- unfolding the pieces first leaves two terms of the same shape: `rfl` alone would unfold `read_byte_raw` instead
  simp only [Gen.CFun.thrift_read_field_begin, fieldKC, noteBoolC, setTopC, tyOutC, fidShort, prevC, hiC, loC]
  rfl

theorem tyOutC_eq (t : BitVec 32) : tyOutC t = t := by
  unfold tyOutC
  split
  · rename_i h; exact (eq_of_beq h).symm
  · split
    · rename_i h; exact (eq_of_beq h).symm
    · rfl

theorem hiC_toInt16 (r : BitVec 8) : (hiC r).toInt = ((r.toNat / 16 : Nat) : Int) := by
  have h : r.toNat / 16 < 16 := Nat.div_lt_of_lt_mul r.isLt
  rw [hiC, byte_hi4, BitVec.toInt_eq_toNat_of_lt, BitVec.toNat_setWidth, ofNat_toNat _ (by omega),
    Nat.mod_eq_of_lt (by omega)]
  rw [BitVec.toNat_setWidth, ofNat_toNat _ (by omega), Nat.mod_eq_of_lt (by omega)]; omega

theorem sext32_toInt (x : BitVec 16) : (BitVec.signExtend 32 x).toInt = x.toInt :=
  BitVec.toInt_signExtend_of_le (by decide)

theorem hiC_is0 (r : BitVec 8) : (BitVec.signExtend 32 (hiC r) == 0#32) = decide (r.toNat / 16 = 0) := by
  rw [Bool.eq_iff_iff, beq_iff_eq, decide_eq_true_eq, ← BitVec.toInt_inj, sext32_toInt, hiC_toInt16]
  show ((r.toNat / 16 : Nat) : Int) = 0 ↔ _
  omega

/-- "Update last field ID" against the model's `setTop` -/
theorem setTopC_spec (h : DecInvP s data) (v : BitVec 16) :
    decAbs ov bd (setTopC s v) data =
      { decAbs ov bd s data with lastId := Thrift.setTop (decAbs ov bd s data).lastId v.toInt } ∧
    DecInvP (setTopC s v) data := by
  have hnl := h.nl
  unfold setTopC
  rw [h.slt0]
  by_cases hpos : 0 < s.nesting_level.toNat
  · obtain ⟨_, hi⟩ := h.top hpos
    obtain ⟨j, hj⟩ : ∃ j, s.nesting_level.toNat = j + 1 := ⟨s.nesting_level.toNat - 1, by omega⟩
    have := stk_setTop s.last_field_id j v (by rw [h.lf]; omega)
    unfold stk at this
    rw [if_pos (decide_eq_true hpos), hi, hj]
    refine ⟨?_, h.off, h.size, h.pos, h.nl, by show (wr s.last_field_id _ v).length = 32; rw [wr, List.length_set, h.lf],
      h.st⟩
    unfold decAbs
    simp only [hj, Nat.add_sub_cancel, wr, this]
  · rw [if_neg (by rwa [decide_eq_true_eq])]
    refine ⟨?_, h⟩
    unfold decAbs
    rw [show s.nesting_level.toNat = 0 by omega]; rfl

theorem prevC_toInt (h : DecInvP s data) :
    (prevC s).toInt = (decAbs ov bd s data).lastId.headD 0 := by
  have hnl := h.nl
  rw [prevC, h.slt0, abs_lastId]
  by_cases hpos : 0 < s.nesting_level.toNat
  · obtain ⟨_, hi⟩ := h.top hpos
    obtain ⟨j, hj⟩ : ∃ j, s.nesting_level.toNat = j + 1 := ⟨s.nesting_level.toNat - 1, by omega⟩
    rw [if_pos (decide_eq_true hpos), hi, hj, stk_head _ _ (by rw [h.lf]; omega)]; rfl
  · rw [if_neg (by rwa [decide_eq_true_eq]), show s.nesting_level.toNat = 0 by omega]; rfl

theorem i16_range (x : BitVec 16) : -32768 ≤ x.toInt ∧ x.toInt < 32768 := by
  have := x.isLt
  rw [BitVec.toInt_eq_toNat_cond]; split <;> omega

/-- `prev_field_id + delta` in `int`: no overflow, and the model's sum -/
theorem fidShort_spec (h : DecInvP s data) (r : BitVec 8) :
    (fidShort s r).toInt = Thrift.toI16 ((decAbs ov bd s data).lastId.headD 0 + ((r.toNat / 16 : Nat) : Int)) ∧
    sAddOk (BitVec.signExtend 32 (prevC s)) (BitVec.signExtend 32 (hiC r)) = true := by
  have hr := r.isLt
  have hp := i16_range (prevC s)
  have hadd : (BitVec.signExtend 32 (prevC s) + BitVec.signExtend 32 (hiC r)).toInt =
      (prevC s).toInt + ((r.toNat / 16 : Nat) : Int) := by
    rw [BitVec.toInt_add, sext32_toInt, sext32_toInt, hiC_toInt16, Int.bmod_def]
    simp only [Nat.reducePow]
    split <;> omega
  constructor
  · rw [fidShort, setWidth_toInt 16 (by decide), hadd, prevC_toInt ov bd s data h, toI16_bmod]
  · simp only [sAddOk, BitVec.saddOverflow, sext32_toInt, hiC_toInt16]
    simp
    omega

theorem abs_noteBoolC (ov : Bool) (bd : Nat) (n : Nat) (hn : n < 16) (d : thrift_decoder_t) (data : List UInt8) :
    decAbs ov bd (noteBoolC (BitVec.ofNat 32 n) d) data = Thrift.notePendingBool n (decAbs ov bd d data) := by
  have e : ∀ k, k < 16 → (BitVec.ofNat 32 n == BitVec.ofNat 32 k) = decide (n = k) := fun k hk => by
    rw [beq_toNat, ofNat_toNat _ (by omega), ofNat_toNat _ (by omega)]
  unfold noteBoolC Thrift.notePendingBool
  rw [e 1 (by decide), e 2 (by decide)]
  by_cases h1 : n = 1
  · simp [h1, decAbs]
  · by_cases h2 : n = 2
    · simp [h2, decAbs]
    · simp [h1, h2, decAbs]

theorem fieldKC_abs (h : DecInvP s data) (r : BitVec 8) (b : UInt8) (hb : r.toNat = b.toNat) :
    (fieldKC s r data).1 = (Thrift.readFieldBeginK b (decAbs ov bd s data)).more ∧
    (fieldKC s r data).2.2.1.toNat = (Thrift.readFieldBeginK b (decAbs ov bd s data)).ty ∧
    (fieldKC s r data).2.2.2.toInt = (Thrift.readFieldBeginK b (decAbs ov bd s data)).fid ∧
    Rep ov bd data (fieldKC s r data).2.1 (Thrift.readFieldBeginK b (decAbs ov bd s data)).dec := by
  have hr := r.isLt
  have hty := ofNat_toNat (v := 31) (r.toNat % 16) (by omega)
  have hinv : ∀ {d' v t}, DecInvP d' data → DecInvP (noteBoolC t (setTopC d' v)) data := fun h' =>
    have h2 := (setTopC_spec ov bd _ data h' _).2
    ⟨h2.off, h2.size, h2.pos, h2.nl, h2.lf, h2.st⟩
  unfold fieldKC Thrift.readFieldBeginK
  rw [hiC_is0, tyOutC_eq, loC, byte_lo4, ← hb]
  by_cases h0 : r.toNat / 16 = 0
  · obtain ⟨v1, v2⟩ := i16_abs ov bd s data h
    rw [if_pos (decide_eq_true h0), if_pos h0, ← v2.abs, ← v1]
    exact ⟨rfl, hty, rfl, by rw [abs_noteBoolC ov bd _ (by omega), (setTopC_spec ov bd _ data v2.inv _).1], hinv v2.inv⟩
  · rw [if_neg (by rwa [decide_eq_true_eq]), if_neg h0, ← (fidShort_spec ov bd s data h r).1]
    exact ⟨rfl, hty, rfl, by rw [abs_noteBoolC ov bd _ (by omega), (setTopC_spec ov bd _ data h _).1], hinv h⟩

/-- the model's `readFieldBegin` on a decoder without error, through `readByteRaw` as in the C text (which returns the
byte 0 when it fails) -/
theorem readFieldBegin_ok (d : Thrift.Dec) (hs : d.status = none) :
    Thrift.readFieldBegin d =
      if (Thrift.readByteRaw d).1 = 0 then ⟨false, 0, 0, (Thrift.readByteRaw d).2⟩
      else Thrift.readFieldBeginK (Thrift.readByteRaw d).1 (Thrift.readByteRaw d).2 := by
  unfold Thrift.readFieldBegin Thrift.readByteRaw
  split
  · rename_i x hx; rw [hs] at hx; cases hx
  · split <;> rfl

theorem field_begin_abs (h : DecInvP s data) (ty0 : BitVec 32) (fid0 : BitVec 16) :
    (Gen.CFun.thrift_read_field_begin s data ty0 fid0).1 = (Thrift.readFieldBegin (decAbs ov bd s data)).more ∧
    (Gen.CFun.thrift_read_field_begin s data ty0 fid0).2.2.1.toNat = (Thrift.readFieldBegin (decAbs ov bd s data)).ty ∧
    (Gen.CFun.thrift_read_field_begin s data ty0 fid0).2.2.2.toInt = (Thrift.readFieldBegin (decAbs ov bd s data)).fid ∧
    Rep ov bd data (Gen.CFun.thrift_read_field_begin s data ty0 fid0).2.1
      (Thrift.readFieldBegin (decAbs ov bd s data)).dec := by
  rw [field_begin_eq]
  by_cases h0 : s.status = 0#32
  · obtain ⟨b1, b2⟩ := read_byte_raw_abs ov bd s data h
    rw [if_neg (by simp [h0]), readFieldBegin_ok _ (abs_status_ok ov bd s data h0), beq_toNat,
      BitVec.toNat_setWidth_of_le (by decide), b1]
    by_cases hz : (Thrift.readByteRaw (decAbs ov bd s data)).1 = 0
    · rw [if_pos (by rw [hz]; rfl), if_pos hz]
      exact ⟨rfl, rfl, rfl, b2⟩
    · rw [if_neg (by rw [decide_eq_true_eq]; exact fun hh => hz (UInt8.toNat_inj.mp hh)), if_neg hz, ← b2.abs]
      exact fieldKC_abs ov bd _ data b2.inv _ _ b1
  · obtain ⟨x, hx⟩ := abs_status_err ov bd s data h h0
    rw [if_pos (by simp [h0]), Thrift.readFieldBegin, hx]
    exact ⟨rfl, rfl, rfl, Rep.refl h⟩

/-- the index `nesting_level - 1` into `last_field_id` is computed without overflow and lies in `0..31` -/
theorem idx_ok (h : DecInvP s data) :
    (if BitVec.slt 0#32 s.nesting_level then
      (sSubOk s.nesting_level 1#32 && !(s.nesting_level - 1#32).msb && decide ((s.nesting_level - 1#32).toInt < 32))
    else true) = true := by
  have hnl := h.nl
  rw [h.slt0]
  by_cases hpos : 0 < s.nesting_level.toNat
  · obtain ⟨n1, _⟩ := h.top hpos
    rw [if_pos (decide_eq_true hpos), sSubOk_small _ _ (by omega) (by decide), msb_small _ (by omega),
      toInt_small _ (by omega), n1]
    simp; omega
  · rw [if_neg (by rwa [decide_eq_true_eq])]

theorem field_begin_defined (h : DecInvP s data) (ty0 : BitVec 32) (fid0 : BitVec 16) :
    Gen.CFun.thrift_read_field_begin_defined s data ty0 fid0 = true := by
  have b := (read_byte_raw_abs false 0 s data h).2.inv
  simp only [Gen.CFun.thrift_read_field_begin_defined, read_byte_raw_defined s data h, idx_ok _ data b,
    idx_ok _ data (i16_abs false 0 _ data b).2.inv, Gen.CFun.thrift_read_i16_defined, zigzag_defined _ data b,
    Bool.true_and, Bool.and_true, Bool.and_self]
  -- what is left: the three tests of the C text around `prev_field_id + delta`
  split
  · rfl
  · split
    · rfl
    · split
      · rfl
      · exact (fidShort_spec false 0 _ data b _).2

end Carquet.Proofs.CFun3.ThriftDec
