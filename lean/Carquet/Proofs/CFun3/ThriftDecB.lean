import Carquet.Proofs.CFun3.ThriftDecA
import Carquet.Properties.C11.CFun
import Carquet.Properties.C13.CFun
/-
Stage-3 link of the Thrift compact decoder, part B: `thrift_read_varint` and the scalar readers built on it,
`thrift_read_bool`, `thrift_read_struct_begin/_end`, `thrift_read_list_begin`.
-/
namespace Carquet.Proofs.CFun3.ThriftDec
open Carquet Carquet.Impl Carquet.Impl.CSem Carquet.Proofs.CSem Carquet.Impl.CFun3
open Carquet.Gen.CFun (thrift_decoder_t)

variable (ov : Bool) (bd : Nat) (s : thrift_decoder_t) (data : List UInt8)

/-! ### `thrift_read_varint` -/

theorem varint_abs (h : DecInvP s data) :
    (Gen.CFun.thrift_read_varint s data).1.toNat = (Thrift.readVarint (decAbs ov bd s data)).1 ∧
    Rep ov bd data (Gen.CFun.thrift_read_varint s data).2 (Thrift.readVarint (decAbs ov bd s data)).2 :=
  have h := varint_loop_spec ov bd data 11 0 s 0#64 0 (by omega) (by omega) h (by decide) (by decide)
  ⟨h.1, h.2.1⟩

theorem varint_defined (h : DecInvP s data) :
    Gen.CFun.thrift_read_varint_defined s data = true :=
  (varint_loop_spec false 0 data 11 0 s 0#64 0 (by omega) (by omega) h (by decide) (by decide)).2.2

/-! ### zigzag and the casts -/

/-- a conversion to a narrower signed type, on the signed value -/
theorem setWidth_toInt {w : Nat} (k : Nat) (hk : k ≤ w) (r : BitVec w) :
    (BitVec.setWidth k r).toInt = Int.bmod r.toInt (2 ^ k) := by
  rw [BitVec.toInt_setWidth, BitVec.toInt_eq_toNat_bmod r, Int.bmod_bmod_of_dvd]
  exact Nat.pow_dvd_pow 2 hk

theorem toI8_bmod (x : Int) : Thrift.toI8 x = Int.bmod x (2 ^ 8) := by
  unfold Thrift.toI8; rw [Int.bmod_def]; split <;> omega
theorem toI16_bmod (x : Int) : Thrift.toI16 x = Int.bmod x (2 ^ 16) := by
  unfold Thrift.toI16; rw [Int.bmod_def]; split <;> omega
theorem toI32_bmod (x : Int) : Thrift.toI32 x = Int.bmod x (2 ^ 32) := by
  unfold Thrift.toI32; rw [Int.bmod_def]; split <;> omega

theorem zigzag_abs (h : DecInvP s data) :
    (Gen.CFun.thrift_read_zigzag s data).1.toInt = (Thrift.readZigzag (decAbs ov bd s data)).1 ∧
    Rep ov bd data (Gen.CFun.thrift_read_zigzag s data).2 (Thrift.readZigzag (decAbs ov bd s data)).2 := by
  obtain ⟨v1, v2⟩ := varint_abs ov bd s data h
  simp only [Gen.CFun.thrift_read_zigzag, Thrift.readZigzag]
  exact ⟨by rw [Properties.C13.C13_cfun_zigzag_decode64, v1], v2⟩

theorem zigzag_defined (h : DecInvP s data) :
    Gen.CFun.thrift_read_zigzag_defined s data = true := by
  simp only [Gen.CFun.thrift_read_zigzag_defined, varint_defined s data h,
    Properties.C11.C11_cfun_zigzag_decode64_defined, Bool.and_self]

theorem i16_abs (h : DecInvP s data) :
    (Gen.CFun.thrift_read_i16 s data).1.toInt = (Thrift.readI16 (decAbs ov bd s data)).1 ∧
    Rep ov bd data (Gen.CFun.thrift_read_i16 s data).2 (Thrift.readI16 (decAbs ov bd s data)).2 := by
  obtain ⟨v1, v2⟩ := zigzag_abs ov bd s data h
  simp only [Gen.CFun.thrift_read_i16, Thrift.readI16]
  exact ⟨by rw [← v1, toI16_bmod, setWidth_toInt 16 (by decide)], v2⟩

theorem i32_abs (h : DecInvP s data) :
    (Gen.CFun.thrift_read_i32 s data).1.toInt = (Thrift.readI32 (decAbs ov bd s data)).1 ∧
    Rep ov bd data (Gen.CFun.thrift_read_i32 s data).2 (Thrift.readI32 (decAbs ov bd s data)).2 := by
  obtain ⟨v1, v2⟩ := zigzag_abs ov bd s data h
  simp only [Gen.CFun.thrift_read_i32, Thrift.readI32]
  exact ⟨by rw [← v1, toI32_bmod, setWidth_toInt 32 (by decide)], v2⟩

theorem i64_abs (h : DecInvP s data) :
    (Gen.CFun.thrift_read_i64 s data).1.toInt = (Thrift.readI64 (decAbs ov bd s data)).1 ∧
    Rep ov bd data (Gen.CFun.thrift_read_i64 s data).2 (Thrift.readI64 (decAbs ov bd s data)).2 := by
  simp only [Gen.CFun.thrift_read_i64, Thrift.readI64]
  exact zigzag_abs ov bd s data h

theorem byte_abs (h : DecInvP s data) :
    (Gen.CFun.thrift_read_byte s data).1.toInt = (Thrift.readI8 (decAbs ov bd s data)).1 ∧
    Rep ov bd data (Gen.CFun.thrift_read_byte s data).2 (Thrift.readI8 (decAbs ov bd s data)).2 := by
  obtain ⟨v1, v2⟩ := read_byte_raw_abs ov bd s data h
  simp only [Gen.CFun.thrift_read_byte, Thrift.readI8]
  exact ⟨by rw [← v1, toI8_bmod, BitVec.toInt_eq_toNat_bmod], v2⟩

/-! ### `thrift_read_bool` -/

theorem u8_is1 (b : UInt8) : (b == 1) = decide (b.toNat = 1) := by
  rw [Bool.eq_iff_iff, beq_iff_eq, decide_eq_true_eq, ← UInt8.toNat_inj]; rfl

theorem bool_abs (h : DecInvP s data) :
    (Gen.CFun.thrift_read_bool s data).1 = (Thrift.readBool (decAbs ov bd s data)).1 ∧
    Rep ov bd data (Gen.CFun.thrift_read_bool s data).2 (Thrift.readBool (decAbs ov bd s data)).2 := by
  obtain ⟨v1, v2⟩ := read_byte_raw_abs ov bd s data h
  simp only [Gen.CFun.thrift_read_bool, Thrift.readBool, show (decAbs ov bd s data).boolPending = s.bool_pending from rfl]
  cases s.bool_pending
  · simp only [Bool.false_eq_true, if_false]
    refine ⟨?_, v2⟩
    rw [beq_toNat, BitVec.toNat_setWidth_of_le (by decide), u8_is1, v1]; rfl
  · exact ⟨rfl, rfl, h.off, h.size, h.pos, h.nl, h.lf, h.st⟩

theorem bool_defined (h : DecInvP s data) :
    Gen.CFun.thrift_read_bool_defined s data = true := by
  rw [Gen.CFun.thrift_read_bool_defined, read_byte_raw_defined s data h, ite_self]

/-! ### the stack `last_field_id[0 .. nesting_level)` (the model keeps it innermost first) -/

/-- the model's `lastId` of the first `n` cells of `last_field_id` -/
def stk (lf : List (BitVec 16)) (n : Nat) : List Int := ((lf.take n).reverse).map (·.toInt)

theorem abs_lastId :
    (decAbs ov bd s data).lastId = stk s.last_field_id s.nesting_level.toNat := rfl

theorem stk_length (lf : List (BitVec 16)) (n : Nat) (h : n ≤ lf.length) : (stk lf n).length = n := by
  simp [stk]; omega

theorem stk_succ (lf : List (BitVec 16)) (j : Nat) (h : j < lf.length) :
    stk lf (j + 1) = lf[j].toInt :: stk lf j := by
  unfold stk
  rw [List.take_succ_eq_append_getElem h, List.reverse_append]
  rfl

theorem stk_set_ge (lf : List (BitVec 16)) (j i : Nat) (v : BitVec 16) (h : j ≤ i) : stk (lf.set i v) j = stk lf j := by
  simp [stk, List.take_set_of_le h]

theorem stk_push (lf : List (BitVec 16)) (j : Nat) (v : BitVec 16) (h : j < lf.length) :
    stk (lf.set j v) (j + 1) = v.toInt :: stk lf j := by
  rw [stk_succ _ _ (by simpa using h), stk_set_ge _ _ _ _ (Nat.le_refl _)]
  simp

theorem stk_setTop (lf : List (BitVec 16)) (j : Nat) (v : BitVec 16) (h : j < lf.length) :
    stk (lf.set j v) (j + 1) = Thrift.setTop (stk lf (j + 1)) v.toInt := by
  rw [stk_push _ _ _ h, stk_succ _ _ h]; rfl

theorem stk_head (lf : List (BitVec 16)) (j : Nat) (h : j < lf.length) :
    (stk lf (j + 1)).headD 0 = (rd lf j).toInt := by
  rw [stk_succ _ _ h]
  simp [rd, List.getD_eq_getElem?_getD, List.getElem?_eq_getElem h]

/-! ### `thrift_read_struct_begin`, `thrift_read_struct_end` -/

section
variable {s : thrift_decoder_t} {data : List UInt8}

theorem DecInvP.sle32 (h : DecInvP s data) :
    BitVec.sle 32#32 s.nesting_level = decide (32 ≤ s.nesting_level.toNat) :=
  sle_small _ _ (by decide) (by have := h.nl; omega)

theorem DecInvP.slt0 (h : DecInvP s data) :
    BitVec.slt 0#32 s.nesting_level = decide (0 < s.nesting_level.toNat) :=
  slt_small _ _ (by decide) (by have := h.nl; omega)

/-- the index `nesting_level - 1` of the innermost struct -/
theorem DecInvP.top (h : DecInvP s data) (h0 : 0 < s.nesting_level.toNat) :
    (s.nesting_level - 1#32).toNat = s.nesting_level.toNat - 1 ∧
    (s.nesting_level - 1#32).toInt.toNat = s.nesting_level.toNat - 1 := by
  have h1 : (s.nesting_level - 1#32).toNat = s.nesting_level.toNat - 1 := BitVec.toNat_sub_of_le (BitVec.le_def.mpr h0)
  have := h.nl
  exact ⟨h1, by rw [toInt_small _ (by omega), h1]; rfl⟩

end

theorem struct_begin_abs (h : DecInvP s data) :
    decAbs ov bd (Gen.CFun.thrift_read_struct_begin s) data = Thrift.structBegin (decAbs ov bd s data) ∧
    DecInvP (Gen.CFun.thrift_read_struct_begin s) data ∧
    (Gen.CFun.thrift_read_struct_begin s).reader = s.reader := by
  have hlen : (decAbs ov bd s data).lastId.length = s.nesting_level.toNat := by
    rw [abs_lastId, stk_length _ _ (by rw [h.lf]; exact h.nl)]
  rw [Gen.CFun.thrift_read_struct_begin, Thrift.structBegin, h.sle32, hlen]
  by_cases hge : 32 ≤ s.nesting_level.toNat
  · have hl := link_decode ov bd s data h
    rw [if_pos (show Thrift.maxNesting ≤ _ from hge), if_pos (decide_eq_true hge)]
    exact ⟨hl.abs, hl.inv, rfl⟩
  · have n1 : (s.nesting_level + 1#32).toNat = s.nesting_level.toNat + 1 :=
      BitVec.toNat_add_of_lt (by show _ + 1 < _; omega)
    have hi : s.nesting_level.toInt.toNat = s.nesting_level.toNat := by rw [h.nli]; rfl
    rw [if_neg (show ¬ Thrift.maxNesting ≤ _ from hge), if_neg (by rwa [decide_eq_true_eq])]
    refine ⟨?_, ⟨h.off, h.size, h.pos, by show (s.nesting_level + 1#32).toNat ≤ 32; omega, ?_, h.st⟩, rfl⟩
    · have := stk_push s.last_field_id s.nesting_level.toNat 0#16 (by rw [h.lf]; omega)
      unfold stk at this
      unfold decAbs
      simp only [n1, hi, wr, this]; rfl
    · show (wr s.last_field_id _ 0#16).length = 32
      rw [wr, List.length_set, h.lf]

theorem struct_begin_defined (h : DecInvP s data) :
    Gen.CFun.thrift_read_struct_begin_defined s = true := by
  rw [Gen.CFun.thrift_read_struct_begin_defined, h.sle32]
  by_cases hge : 32 ≤ s.nesting_level.toNat
  · rw [if_pos (decide_eq_true hge)]; rfl
  · rw [if_neg (by rwa [decide_eq_true_eq]), msb_small _ (by omega), sAddOk_small _ _ (by show _ + 1 < _; omega), h.nli]
    simp; omega

/-- `thrift_read_struct_end` in closed form (the generated definition unfolds to this) -/
theorem struct_end_eq (s : thrift_decoder_t) :
    Gen.CFun.thrift_read_struct_end s =
      { s with nesting_level := (if BitVec.slt 0#32 s.nesting_level then s.nesting_level - 1#32 else s.nesting_level) } :=
  rfl

theorem struct_end_abs (h : DecInvP s data) :
    decAbs ov bd (Gen.CFun.thrift_read_struct_end s) data = Thrift.structEnd (decAbs ov bd s data) ∧
    DecInvP (Gen.CFun.thrift_read_struct_end s) data ∧
    (Gen.CFun.thrift_read_struct_end s).reader = s.reader ∧
    (Gen.CFun.thrift_read_struct_end s).last_field_id = s.last_field_id := by
  have hnl := h.nl
  rw [struct_end_eq, Thrift.structEnd, h.slt0]
  by_cases hpos : 0 < s.nesting_level.toNat
  · obtain ⟨n1, _⟩ := h.top hpos
    rw [if_pos (decide_eq_true hpos)]
    refine ⟨?_, ⟨h.off, h.size, h.pos, by show (s.nesting_level - 1#32).toNat ≤ 32; omega, h.lf, h.st⟩, rfl, rfl⟩
    obtain ⟨j, hj⟩ : ∃ j, s.nesting_level.toNat = j + 1 := ⟨s.nesting_level.toNat - 1, by omega⟩
    have := stk_succ s.last_field_id j (by rw [h.lf]; omega)
    unfold stk at this
    unfold decAbs
    simp only [n1, hj, this]; rfl
  · rw [if_neg (by rwa [decide_eq_true_eq])]
    refine ⟨?_, h, rfl, rfl⟩
    unfold decAbs
    rw [show s.nesting_level.toNat = 0 by omega]; rfl

theorem struct_end_defined (h : DecInvP s data) :
    Gen.CFun.thrift_read_struct_end_defined s = true := by
  rw [Gen.CFun.thrift_read_struct_end_defined, sSubOk_small _ _ (by have := h.nl; omega) (by decide), ite_self]

/-! ### `thrift_read_list_begin` -/

/-- the two checks on `*count` at the end of `thrift_read_list_begin` -/
def listTail (d : thrift_decoder_t) (et c : BitVec 32) : thrift_decoder_t × BitVec 32 × BitVec 32 :=
  if BitVec.slt c 0#32 then (Gen.CFun.set_error d 30#32, et, 0#32)
  else if Gen.CFun.carquet_buffer_reader_remaining d.reader.pos d.reader.size < BitVec.signExtend 64 c then
    (Gen.CFun.set_error d 30#32, et, 0#32)
  else (d, et, c)

theorem list_begin_eq (et0 c0 : BitVec 32) :
    Gen.CFun.thrift_read_list_begin s data et0 c0 =
      if (Gen.CFun.read_byte_raw s data).1.toNat / 16 = 15 then
        listTail (Gen.CFun.thrift_read_varint (Gen.CFun.read_byte_raw s data).2 data).2
          (BitVec.ofNat 32 ((Gen.CFun.read_byte_raw s data).1.toNat % 16))
          (BitVec.setWidth 32 (Gen.CFun.thrift_read_varint (Gen.CFun.read_byte_raw s data).2 data).1)
      else
        listTail (Gen.CFun.read_byte_raw s data).2
          (BitVec.ofNat 32 ((Gen.CFun.read_byte_raw s data).1.toNat % 16))
          (BitVec.ofNat 32 ((Gen.CFun.read_byte_raw s data).1.toNat / 16)) := by
  have h15 : ∀ r : BitVec 8, (BitVec.ofNat 32 (r.toNat / 16) == 15#32) = decide (r.toNat / 16 = 15) := fun r => by
    have := r.isLt
    rw [beq_toNat, ofNat_toNat _ (by omega)]; rfl
  unfold Gen.CFun.thrift_read_list_begin listTail
  simp only [byte_hi4, byte_lo4, h15, decide_eq_true_eq]

theorem remaining_toNat (h : DecInvP s data) :
    (Gen.CFun.carquet_buffer_reader_remaining s.reader.pos s.reader.size).toNat = data.length - s.reader.pos.toNat := by
  rw [Gen.CFun.carquet_buffer_reader_remaining,
    BitVec.toNat_sub_of_le (BitVec.le_def.mpr (by rw [h.size]; exact h.pos)), h.size]

theorem listTail_abs (h : DecInvP s data) (et c : BitVec 32) (etN : Nat) :
    (listTail s et c).2.1 = et ∧
    (listTail s et c).2.2.toInt = (Thrift.listCountChecks etN c.toInt (decAbs ov bd s data)).count ∧
    (Thrift.listCountChecks etN c.toInt (decAbs ov bd s data)).elemTy = etN ∧
    Rep ov bd data (listTail s et c).1 (Thrift.listCountChecks etN c.toInt (decAbs ov bd s data)).dec := by
  have hl := link_decode ov bd s data h
  unfold listTail Thrift.listCountChecks
  rw [BitVec.slt_eq_decide, show (0#32 : BitVec 32).toInt = 0 from rfl]
  by_cases hneg : c.toInt < 0
  · rw [if_pos (decide_eq_true hneg), if_pos hneg]
    exact ⟨rfl, rfl, rfl, hl⟩
  · rw [if_neg (by rwa [decide_eq_true_eq]), if_neg hneg]
    have hhas :=
      (BufReader.Sees.mk rfl rfl : BufReader.Sees (decAbs ov bd s data) data s.reader.pos.toNat).has c.toInt.toNat
    have hcond : Gen.CFun.carquet_buffer_reader_remaining s.reader.pos s.reader.size < BitVec.signExtend 64 c ↔
        data.length - s.reader.pos.toNat < c.toInt.toNat := by
      rw [BitVec.lt_def, remaining_toNat s data h, sext_small c (small_of_nonneg c (by omega)) (by decide),
        toInt_small c (small_of_nonneg c (by omega))]
      rfl
    rw [hhas]
    by_cases hrem : data.length - s.reader.pos.toNat < c.toInt.toNat
    · rw [if_pos (hcond.mpr hrem), if_pos (by simp; omega)]
      exact ⟨rfl, rfl, rfl, hl⟩
    · rw [if_neg (fun hh => hrem (hcond.mp hh)), if_neg (by simp; omega)]
      exact ⟨rfl, rfl, rfl, Rep.refl h⟩

theorem list_begin_abs (h : DecInvP s data) (et0 c0 : BitVec 32) :
    (Gen.CFun.thrift_read_list_begin s data et0 c0).2.1.toNat = (Thrift.readListBegin (decAbs ov bd s data)).elemTy ∧
    (Gen.CFun.thrift_read_list_begin s data et0 c0).2.2.toInt = (Thrift.readListBegin (decAbs ov bd s data)).count ∧
    Rep ov bd data (Gen.CFun.thrift_read_list_begin s data et0 c0).1
      (Thrift.readListBegin (decAbs ov bd s data)).dec := by
  obtain ⟨b1, b2⟩ := read_byte_raw_abs ov bd s data h
  have hlt : (Gen.CFun.read_byte_raw s data).1.toNat < 256 := (Gen.CFun.read_byte_raw s data).1.isLt
  have m1 := ofNat_toNat (v := 31) ((Gen.CFun.read_byte_raw s data).1.toNat % 16) (by omega)
  rw [list_begin_eq, Thrift.readListBegin, ← b1, ← b2.abs]
  by_cases h15 : (Gen.CFun.read_byte_raw s data).1.toNat / 16 = 15
  · obtain ⟨v1, v2⟩ := varint_abs ov bd (Gen.CFun.read_byte_raw s data).2 data b2.inv
    rw [if_pos h15, if_pos h15, ← v1, ← v2.abs, toI32_bmod, ← BitVec.toInt_setWidth]
    obtain ⟨t1, t2, t4, t5⟩ := listTail_abs ov bd _ data v2.inv
      (BitVec.ofNat 32 ((Gen.CFun.read_byte_raw s data).1.toNat % 16))
      (BitVec.setWidth 32 (Gen.CFun.thrift_read_varint (Gen.CFun.read_byte_raw s data).2 data).1)
      ((Gen.CFun.read_byte_raw s data).1.toNat % 16)
    exact ⟨by rw [t1, t4, m1], t2, t5⟩
  · have m2 := ofNat_toInt (v := 31) ((Gen.CFun.read_byte_raw s data).1.toNat / 16) (by omega)
    rw [if_neg h15, if_neg h15, ← m2]
    obtain ⟨t1, t2, t4, t5⟩ := listTail_abs ov bd _ data b2.inv
      (BitVec.ofNat 32 ((Gen.CFun.read_byte_raw s data).1.toNat % 16))
      (BitVec.ofNat 32 ((Gen.CFun.read_byte_raw s data).1.toNat / 16))
      ((Gen.CFun.read_byte_raw s data).1.toNat % 16)
    exact ⟨by rw [t1, t4, m1], t2, t5⟩

theorem list_begin_defined (h : DecInvP s data) (et0 c0 : BitVec 32) :
    Gen.CFun.thrift_read_list_begin_defined s data et0 c0 = true := by
  have hv := varint_defined _ data (read_byte_raw_abs false 0 s data h).2.inv
  unfold Gen.CFun.thrift_read_list_begin_defined
  simp [read_byte_raw_defined s data h, hv, Gen.CFun.set_error_defined,
    Gen.CFun.carquet_buffer_reader_remaining_defined]

end Carquet.Proofs.CFun3.ThriftDec
