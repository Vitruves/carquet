import Carquet.Impl.CFun3.BufReader
import Carquet.Impl.Thrift
import Carquet.Proofs.BufferReader
import Carquet.Proofs.CFun2.Bitpack
import Carquet.Proofs.CFun2.Mem
import Carquet.Proofs.CFun.Thrift
/-
Stage-3 link of the buffer read cursor (src/core/buffer.c `carquet_buffer_reader_*` as translated in Gen/CFun.lean): what
the sections CFun3BufReader of Properties/C08/CFun3.lean and Properties/C13/CFun3.lean, and the Thrift decoder's reader
(Proofs/CFun3/ThriftDecA.lean), rest on.  The cursor functions in closed form under the invariant `brInv` (`has_c`,
`skip_eq`, `read_eq`, `read_byte_eq`, `typed_link` for the typed reads) against `Impl.BufferReader`; and the same cursor
as the Thrift model sees it: `Sees d data p` (the unread bytes of the model decoder `d` are `data` from `p` on), under
which `d.has` and `Thrift.readByteRaw d` are read off `data` and `p`.
-/
namespace Carquet.Proofs.CFun3.BufReader
open Carquet Carquet.Impl Carquet.Impl.CSem Carquet.Impl.CFun3 Carquet.Impl.BufferReader

variable (s : Gen.CFun.carquet_buffer_reader_t) (data : List UInt8)

theorem brInv_iff :
    brInv s data = true ↔ s.data = 0 ∧ s.size.toNat = data.length ∧ s.pos.toNat ≤ s.size.toNat := by
  simp [brInv, BitVec.le_def, and_assoc]

/-- the C test `n <= size - pos` when `pos ≤ size`: no wrap-around -/
theorem has_c (pos size n : BitVec 64) (h : pos.toNat ≤ size.toNat) :
    Gen.CFun.carquet_buffer_reader_has pos size n = decide (pos.toNat + n.toNat ≤ size.toNat) := by
  unfold Gen.CFun.carquet_buffer_reader_has
  rw [decide_eq_decide]
  bv_omega

theorem abs_has (n : Nat) (h : brInv s data = true) :
    BufferReader.has true ⟨data, s.pos.toNat⟩ n = decide (s.pos.toNat + n ≤ data.length) ∧
    (s.pos.toNat + n ≤ data.length → addSz s.pos.toNat n = s.pos.toNat + n) := by
  obtain ⟨_, hs, hp⟩ := (brInv_iff s data).mp h
  have hsz : data.length < 2 ^ 64 := by rw [← hs]; exact s.size.isLt
  refine ⟨?_, fun hle => Proofs.BufferReader.addSz_of_le hle hsz⟩
  rw [BufferReader.has, if_pos rfl, Bool.eq_iff_iff, decide_eq_true_eq]
  exact Proofs.BufferReader.hasFixed_iff ⟨data, s.pos.toNat⟩ n (by show s.pos.toNat ≤ data.length; omega) hsz

theorem add_toNat (pos n : BitVec 64) (size : Nat) (h : pos.toNat + n.toNat ≤ size) (hs : size < 2 ^ 64) :
    (pos + n).toNat = pos.toNat + n.toNat := by
  rw [BitVec.toNat_add]; exact Nat.mod_eq_of_lt (by omega)

theorem leVal_eq_leNat (l : List UInt8) : BufferReader.leVal l = Bitpack.leNat l := by
  induction l with
  | nil => rfl
  | cons b r ih => simp [BufferReader.leVal, Bitpack.leNat, ih]

theorem readFixed_abs (k : Nat) (h : brInv s data = true) :
    readFixed true (brAbs s data) k =
      if s.pos.toNat + k ≤ data.length then
        ⟨.val .ok (leVal (bytesAt data s.pos.toNat k)), ⟨data, s.pos.toNat + k⟩, [⟨s.pos.toNat, k⟩]⟩
      else ⟨.val .truncated 0, brAbs s data, []⟩ := by
  obtain ⟨hm, ha⟩ := abs_has s data k h
  unfold readFixed
  by_cases hle : s.pos.toNat + k ≤ data.length
  · simp [brAbs, hm, hle, ha hle]
  · simp [brAbs, hm, hle]

/-- the common shape of the typed reads: `if (!has(reader, k)) return TRUNCATED; *value = load(data + pos); pos += k;
return OK`, against `readFixed k` -/
theorem typed_link {w : Nat} (v : BitVec w) (k : Nat)
    (kb : BitVec 64) (hk : kb.toNat = k) (load : BitVec w)
    (hload : s.pos.toNat + k ≤ data.length → load.toNat = leVal (bytesAt data s.pos.toNat k))
    (h : brInv s data = true) (res : BitVec 32 × Gen.CFun.carquet_buffer_reader_t × BitVec w)
    (hres : res = if (!(Gen.CFun.carquet_buffer_reader_has s.pos s.size kb)) then (15#32, s, v)
      else (0#32, { s with pos := s.pos + kb }, load)) :
    brAbs res.2.1 data = (readFixed true (brAbs s data) k).next ∧
    brInv res.2.1 data = true ∧
    valObs res.1 res.2.2.toNat = (readFixed true (brAbs s data) k).obs ∧
    (res.1 = 0#32 ∨ res = (15#32, s, v)) := by
  obtain ⟨hd, hs, hp⟩ := (brInv_iff s data).mp h
  have hsz : data.length < 2 ^ 64 := by rw [← hs]; exact s.size.isLt
  have hhas : Gen.CFun.carquet_buffer_reader_has s.pos s.size kb = decide (s.pos.toNat + k ≤ data.length) := by
    rw [has_c _ _ _ hp, hk, hs]
  rw [readFixed_abs s data k h]
  by_cases hle : s.pos.toNat + k ≤ data.length
  · have ha := add_toNat s.pos kb data.length (by omega) hsz
    have hr : res = (0#32, { s with pos := s.pos + kb }, load) := by rw [hres, hhas]; simp [hle]
    subst hr
    rw [if_pos hle]
    refine ⟨?_, ?_, ?_, Or.inl rfl⟩
    · simp [brAbs, ha, hk]
    · rw [brInv_iff]; simp only [ha]; omega
    · simp [valObs, statusOf, hload hle]
  · have hr : res = (15#32, s, v) := by rw [hres, hhas]; simp [hle]
    subst hr
    rw [if_neg hle]
    exact ⟨rfl, h, by simp [valObs, statusOf], Or.inr rfl⟩

/-- `_defined` of a typed read: the load is only reached when `k` bytes are left -/
theorem typed_defined (k : Nat) (kb : BitVec 64)
    (hk : kb.toNat = k) (ok : Bool) (hok : s.pos.toNat + k ≤ data.length → ok = true) (h : brInv s data = true) :
    (Gen.CFun.carquet_buffer_reader_has_defined s.pos s.size kb &&
      (if (!(Gen.CFun.carquet_buffer_reader_has s.pos s.size kb)) then true else ok)) = true := by
  obtain ⟨_, hs, hp⟩ := (brInv_iff s data).mp h
  rw [has_c _ _ _ hp, hk, hs]
  by_cases hle : s.pos.toNat + k ≤ data.length
  · simp [hle, hok hle, Gen.CFun.carquet_buffer_reader_has_defined]
  · simp [hle, Gen.CFun.carquet_buffer_reader_has_defined]

/-! ### the loads -/

theorem load8 (data : List UInt8) (p : Nat) (h : p + 1 ≤ data.length) :
    (rd8 data p).toNat = leVal (bytesAt data p 1) := by
  rw [bytesAt, Proofs.CFun2.drop_eq_cons data p (by omega)]
  simp only [List.take_succ_cons, List.take_zero, leVal, rd8]
  simp

theorem load16 (data : List UInt8) (p : Nat) :
    (Gen.CFun.carquet_read_u16_le (data.drop p)).toNat = leVal (bytesAt data p 2) := by
  rw [Proofs.CFun2.read_u16_le_toNat, leVal_eq_leNat, bytesAt]

theorem load32 (data : List UInt8) (p : Nat) :
    (Gen.CFun.carquet_read_u32_le (data.drop p)).toNat = leVal (bytesAt data p 4) := by
  rw [Proofs.CFun2.read_u32_le_toNat, leVal_eq_leNat, bytesAt]

theorem load64 (data : List UInt8) (p : Nat) (h : p + 8 ≤ data.length) :
    (Gen.CFun.carquet_read_u64_le (data.drop p)).toNat = leVal (bytesAt data p 8) := by
  rw [Proofs.CFun2.read_u64_le_toNat _ (by rw [List.length_drop]; omega), leVal_eq_leNat, bytesAt]

/-! ### `skip` and `read` -/

theorem step_skip_abs (n : Nat) (h : brInv s data = true) :
    step true (brAbs s data) (.skip n) =
      if s.pos.toNat + n ≤ data.length then ⟨.st .ok, ⟨data, s.pos.toNat + n⟩, []⟩
      else ⟨.st .truncated, brAbs s data, []⟩ := by
  obtain ⟨hm, ha⟩ := abs_has s data n h
  unfold step
  by_cases hle : s.pos.toNat + n ≤ data.length
  · simp [brAbs, hm, hle, ha hle]
  · simp [brAbs, hm, hle]

theorem step_read_abs (n : Nat) (h : brInv s data = true) :
    step true (brAbs s data) (.read n) =
      if s.pos.toNat + n ≤ data.length then
        ⟨.bytes .ok (bytesAt data s.pos.toNat n), ⟨data, s.pos.toNat + n⟩, [⟨s.pos.toNat, n⟩]⟩
      else ⟨.bytes .truncated [], brAbs s data, []⟩ := by
  obtain ⟨hm, ha⟩ := abs_has s data n h
  unfold step
  by_cases hle : s.pos.toNat + n ≤ data.length
  · simp [brAbs, hm, hle, ha hle]
  · simp [brAbs, hm, hle]

theorem skip_eq (n : BitVec 64) (h : brInv s data = true) :
    Gen.CFun.carquet_buffer_reader_skip s n =
      if s.pos.toNat + n.toNat ≤ data.length then (0#32, { s with pos := s.pos + n }) else (15#32, s) := by
  obtain ⟨_, hs, hp⟩ := (brInv_iff s data).mp h
  unfold Gen.CFun.carquet_buffer_reader_skip
  rw [has_c _ _ _ hp, hs]
  by_cases hle : s.pos.toNat + n.toNat ≤ data.length <;> simp [hle]

theorem read_eq (s : Gen.CFun.carquet_buffer_reader_t) (data dest : List UInt8) (n : BitVec 64)
    (h : brInv s data = true) :
    Gen.CFun.carquet_buffer_reader_read s data dest n =
      if s.pos.toNat + n.toNat ≤ data.length then
        (0#32, { s with pos := s.pos + n }, bytesAt data s.pos.toNat n.toNat ++ dest.drop n.toNat)
      else (15#32, s, dest) := by
  obtain ⟨hd, hs, hp⟩ := (brInv_iff s data).mp h
  unfold Gen.CFun.carquet_buffer_reader_read
  rw [has_c _ _ _ hp, hs]
  by_cases hle : s.pos.toNat + n.toNat ≤ data.length <;> simp [hle, copyInto, bytesAt, hd]

theorem bytesAt_length (data : List UInt8) (p n : Nat) (h : p + n ≤ data.length) : (bytesAt data p n).length = n := by
  simp only [bytesAt, List.length_take, List.length_drop]; omega

theorem advance_inv (n : BitVec 64) (h : brInv s data = true)
    (hle : s.pos.toNat + n.toNat ≤ data.length) :
    brInv { s with pos := s.pos + n } data = true ∧ (s.pos + n).toNat = s.pos.toNat + n.toNat := by
  obtain ⟨hd, hs, hp⟩ := (brInv_iff s data).mp h
  have hsz : data.length < 2 ^ 64 := by rw [← hs]; exact s.size.isLt
  have ha := add_toNat s.pos n data.length hle hsz
  refine ⟨?_, ha⟩
  rw [brInv_iff]; simp only [ha]; omega


/-! ### `read_byte` in closed form -/

theorem read_byte_eq (v : BitVec 8) (h : brInv s data = true) :
    Gen.CFun.carquet_buffer_reader_read_byte s data v =
      if s.pos.toNat < data.length then (0#32, { s with pos := s.pos + 1#64 }, rd8 data s.pos.toNat)
      else (15#32, s, v) := by
  obtain ⟨h0, hs, hp⟩ := (brInv_iff s data).mp h
  unfold Gen.CFun.carquet_buffer_reader_read_byte
  rw [has_c _ _ _ hp, hs, h0]
  by_cases hlt : s.pos.toNat < data.length
  · simp [hlt]; omega
  · simp [hlt]; omega

theorem read_byte_defined (v : BitVec 8) (h : brInv s data = true) :
    Gen.CFun.carquet_buffer_reader_read_byte_defined s data v = true := by
  have h0 : s.data = 0 := ((brInv_iff s data).mp h).1
  unfold Gen.CFun.carquet_buffer_reader_read_byte_defined
  refine typed_defined s data 1 1#64 rfl _ (fun hle => ?_) h
  rw [inb, h0, Nat.zero_add]; exact decide_eq_true hle

/-! ### the cursor as the Thrift model sees it -/

/-- the unread bytes of the model decoder `d` are `data` from `p` on -/
structure Sees (d : Thrift.Dec) (data : List UInt8) (p : Nat) : Prop where
  rest : d.rest = data.drop p
  pos : d.pos = p

section
variable {d : Thrift.Dec} {data : List UInt8} {p : Nat} (h : Sees d data p)
include h

theorem Sees.has (n : Nat) : d.has n = decide (n ≤ data.length - p) := by
  rw [Thrift.Dec.has, Proofs.CFun.lengthGe_eq, h.rest, List.length_drop]

theorem Sees.readByteRaw (hlt : p < data.length) :
    Thrift.readByteRaw d = (data[p], { d with rest := data.drop (p + 1), pos := p + 1 }) := by
  unfold Thrift.readByteRaw
  rw [h.rest, List.drop_eq_getElem_cons hlt, h.pos]

theorem Sees.readByteRaw_end (hge : ¬ p < data.length) : Thrift.readByteRaw d = (0, d.setError .truncated) := by
  unfold Thrift.readByteRaw
  rw [h.rest, List.drop_eq_nil_of_le (by omega)]

end

theorem rd8_lt (data : List UInt8) (i : Nat) (hlt : i < data.length) : rd8 data i = data[i].toBitVec := by
  simp [rd8, List.getD_eq_getElem?_getD, List.getElem?_eq_getElem hlt]

end Carquet.Proofs.CFun3.BufReader