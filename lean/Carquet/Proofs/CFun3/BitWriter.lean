import Carquet.Impl.CFun3.BitWriter
import Carquet.Proofs.CFun3.CSem
/-
Stage-3 link: the bit WRITER of src/core/bitpack.c as translated in Gen/CFun.lean (`carquet_bit_writer_*`, `flush_buffer`
with `flush_buffer_loop1`) against `Impl.BitIO.Writer` through `Impl.CFun3.wrAbs`.

  * `WrInvP m`            the Bool invariant `wrInvUpTo m` as a structure of propositions;
  * `Frame`               what a call leaves alone (length, stored bytes, bytes from the new `byte_pos` on, the fields
                          `capacity` / `data` / `bit_pos`), reflexive and transitive;
  * `Spec m s data w r b` the form of every result: the call returned `r` on `s`, `data`; the abstraction of `r` is the
                          model state `w`, `Frame`, `WrInvP m` again, and the `_defined` flag `b` is true;
                          `Spec.andThen` chains two calls;
  * `storeC`, `setAcc`    the two state changes the C text is made of: `data[byte_pos++] = (uint8_t)buffer` and a new
                          accumulator (`buffer`, `buffer_bits`);
  * `flush_loop_spec`     the translated loop and the model's `flushLoop` unroll in lockstep for every sufficient fuel on
                          both sides (model: `buffer_bits / 8`, translation: 9), no UB;
  * `flush_buffer_spec`, `flushIf56_spec`, `pushC_spec`   the building blocks of the C text;
  * `write_bit_spec`, `write_bits_spec`, `write_bits64_spec`, `flush_spec`, `init_spec`   one lemma per function.
The generated functions are, by unfolding, compositions of these building blocks: the last `exact` of each `…_spec`
checks that (the `_vN` helper definitions are never named).
-/
namespace Carquet.Proofs.CFun3.BitWriter
open Carquet Carquet.Impl Carquet.Impl.CSem Carquet.Proofs.CSem Carquet.Impl.CFun3
open Carquet.Gen.CFun (carquet_bit_writer_t)

/-! ### the invariant as propositions -/

/-- `0 ≤ buffer_bits ≤ m` as an `int` is `small` and `bits` -/
structure WrInvP (m : Nat) (s : carquet_bit_writer_t) (data : List UInt8) : Prop where
  dat : s.data = 0
  pos : s.byte_pos.toNat ≤ s.capacity.toNat
  cap : s.capacity.toNat ≤ data.length
  small : s.buffer_bits.toNat < 2 ^ 31
  bits : s.buffer_bits.toNat ≤ m
  buf : s.buffer.toNat < 2 ^ s.buffer_bits.toNat

theorem wrInvUpTo_iff (m : Nat) (s : carquet_bit_writer_t) (data : List UInt8) :
    wrInvUpTo m s data = true ↔ WrInvP m s data := by
  simp only [wrInvUpTo, Bool.and_eq_true, decide_eq_true_eq, BitVec.le_def]
  constructor
  · rintro ⟨⟨⟨⟨⟨a, b⟩, c⟩, d⟩, e⟩, f⟩
    have := toInt_small _ (small_of_nonneg _ d)
    exact ⟨a, b, c, small_of_nonneg _ d, by omega, f⟩
  · rintro ⟨a, b, c, d, e, f⟩
    have := toInt_small _ d
    exact ⟨⟨⟨⟨⟨a, b⟩, c⟩, by omega⟩, by omega⟩, f⟩

section
variable {m m' : Nat} {s : carquet_bit_writer_t} {data : List UInt8}

theorem WrInvP.mono (h : WrInvP m s data) (hm : m ≤ m') : WrInvP m' s data :=
  ⟨h.dat, h.pos, h.cap, h.small, Nat.le_trans h.bits hm, h.buf⟩

theorem WrInvP.tighten (h : WrInvP m s data) (hb : s.buffer_bits.toNat ≤ m') : WrInvP m' s data :=
  ⟨h.dat, h.pos, h.cap, h.small, hb, h.buf⟩

end

/-- what a call leaves alone: the length of the array, the bytes from the new `byte_pos` on, the fields the model does
not carry; `byte_pos` never decreases -/
structure Frame (s : carquet_bit_writer_t) (data : List UInt8) (s' : carquet_bit_writer_t) (data' : List UInt8) : Prop where
  len : data'.length = data.length
  mono : s.byte_pos.toNat ≤ s'.byte_pos.toNat
  head : data'.take s.byte_pos.toNat = data.take s.byte_pos.toNat
  tail : data'.drop s'.byte_pos.toNat = data.drop s'.byte_pos.toNat
  cap : s'.capacity = s.capacity
  dat : s'.data = s.data
  bitpos : s'.bit_pos = s.bit_pos

theorem Frame.refl (s : carquet_bit_writer_t) (data : List UInt8) : Frame s data s data :=
  ⟨rfl, Nat.le_refl _, rfl, rfl, rfl, rfl, rfl⟩

theorem take_of_take_eq {a b : List UInt8} {i j : Nat} (h : i ≤ j) (e : a.take j = b.take j) : a.take i = b.take i := by
  have := congrArg (List.take i) e
  rwa [List.take_take, List.take_take, Nat.min_eq_left h] at this

theorem drop_of_drop_eq {a b : List UInt8} {i j : Nat} (h : i ≤ j) (e : a.drop i = b.drop i) : a.drop j = b.drop j := by
  have e2 : j = i + (j - i) := by omega
  rw [e2, ← List.drop_drop, ← List.drop_drop, e]

theorem Frame.trans {s0 s1 s2 : carquet_bit_writer_t} {d0 d1 d2 : List UInt8} (a : Frame s0 d0 s1 d1)
    (b : Frame s1 d1 s2 d2) : Frame s0 d0 s2 d2 := by
  refine ⟨b.len.trans a.len, Nat.le_trans a.mono b.mono, (take_of_take_eq a.mono b.head).trans a.head, ?_, b.cap.trans a.cap, b.dat.trans a.dat, b.bitpos.trans a.bitpos⟩
  rw [b.tail]
  exact drop_of_drop_eq b.mono a.tail

/-- the call returned `r` on `s`, `data`: the model state is `w`, at most `m` bits are pending, `b` is its `_defined` -/
structure Spec (m : Nat) (s : carquet_bit_writer_t) (data : List UInt8) (w : BitIO.Writer)
    (r : carquet_bit_writer_t × List UInt8) (b : Bool) : Prop where
  abs : wrAbs r.1 r.2 = w
  frame : Frame s data r.1 r.2
  inv : WrInvP m r.1 r.2
  defined : b = true

theorem Spec.refl {m : Nat} {s : carquet_bit_writer_t} {data : List UInt8} (h : WrInvP m s data) :
    Spec m s data (wrAbs s data) (s, data) true := ⟨rfl, Frame.refl _ _, h, rfl⟩

theorem Spec.mono {m m' : Nat} {s : carquet_bit_writer_t} {data : List UInt8} {w : BitIO.Writer}
    {r : carquet_bit_writer_t × List UInt8} {b : Bool} (h : Spec m s data w r b) (hm : m ≤ m') : Spec m' s data w r b :=
  ⟨h.abs, h.frame, h.inv.mono hm, h.defined⟩

/-- a call on the result of a call (the model state of the second call is still stated over `wrAbs r.1 r.2`) -/
theorem Spec.andThen {m m' : Nat} {s : carquet_bit_writer_t} {data : List UInt8} {w w' : BitIO.Writer}
    {r r' : carquet_bit_writer_t × List UInt8} {b b' : Bool}
    (h1 : Spec m s data w r b) (h2 : Spec m' r.1 r.2 w' r' b') : Spec m' s data w' r' (b && b') :=
  ⟨h2.abs, h1.frame.trans h2.frame, h2.inv, by rw [h1.defined, h2.defined]; rfl⟩

/-! ### the two state changes -/

variable (s : carquet_bit_writer_t) (data : List UInt8)

theorem ofBitVec_setWidth8 (x : BitVec 64) : UInt8.ofBitVec (BitVec.setWidth 8 x) = UInt8.ofNat x.toNat := by
  apply UInt8.toNat_inj.mp
  simp [UInt8.toNat_ofNat']

/-- `data[byte_pos++] = (uint8_t)buffer` -/
def storeC (s : carquet_bit_writer_t) (data : List UInt8) : carquet_bit_writer_t × List UInt8 :=
  ({ s with byte_pos := s.byte_pos + 1#64 }, wr8 data (s.data + s.byte_pos.toNat) (BitVec.setWidth 8 s.buffer))

theorem storeC_spec {m : Nat} (h : WrInvP m s data) (hlt : s.byte_pos.toNat < s.capacity.toNat) :
    Spec m s data { wrAbs s data with out := (wrAbs s data).out ++ [UInt8.ofNat s.buffer.toNat] } (storeC s data)
      (inb data (s.data + s.byte_pos.toNat) 1) := by
  have hc := h.cap
  have hbp : (s.byte_pos + 1#64).toNat = s.byte_pos.toNat + 1 :=
    BitVec.toNat_add_of_lt (by have := s.capacity.isLt; show _ + 1 < _; omega)
  refine ⟨?_, ⟨?_, ?_, ?_, ?_, rfl, rfl, rfl⟩, ⟨h.dat, ?_, ?_, h.small, h.bits, h.buf⟩, ?_⟩
  · simp only [wrAbs, storeC, h.dat, Nat.zero_add, hbp, wr8, take_set_succ data s.byte_pos.toNat _ (by omega), ofBitVec_setWidth8]
  · simp only [storeC, wr8, List.length_set]
  · simp only [storeC, hbp]; omega
  · simp only [storeC, wr8, h.dat, Nat.zero_add]; exact List.take_set_of_le (Nat.le_refl _)
  · simp only [storeC, wr8, h.dat, Nat.zero_add, hbp]; exact drop_set_succ _ _ _
  · simp only [storeC, hbp]; omega
  · simp only [storeC, wr8, List.length_set]; exact hc
  · simp only [inb, h.dat, Nat.zero_add, decide_eq_true_eq]; omega

def setAcc (s : carquet_bit_writer_t) (b : BitVec 64) (k : BitVec 32) : carquet_bit_writer_t :=
  { s with buffer := b, buffer_bits := k }

theorem setAcc_spec {m m' : Nat} (h : WrInvP m s data) (b : BitVec 64)
    (k : BitVec 32) (hk : k.toNat ≤ m') (hs : k.toNat < 2 ^ 31) (hb : b.toNat < 2 ^ k.toNat) :
    Spec m' s data { wrAbs s data with buffer := b.toNat, bufferBits := k.toNat } (setAcc s b k, data) true :=
  ⟨rfl, ⟨rfl, Nat.le_refl _, rfl, rfl, rfl, rfl, rfl⟩, ⟨h.dat, h.pos, h.cap, hs, hk, hb⟩, rfl⟩

/-! ### `flush_buffer` -/

theorem shr8_lt (b n : Nat) (h8 : 8 ≤ n) (h : b < 2 ^ n) : b >>> 8 < 2 ^ (n - 8) := by
  rw [Nat.shiftRight_eq_div_pow]
  apply Nat.div_lt_of_lt_mul
  rw [← Nat.pow_add]
  have : 8 + (n - 8) = n := by omega
  rw [this]; exact h

/-- one iteration: `if (byte_pos < capacity) data[byte_pos++] = (uint8_t)buffer; buffer >>= 8; buffer_bits -= 8;` -/
def flushStepC (s : carquet_bit_writer_t) (data : List UInt8) : carquet_bit_writer_t × List UInt8 :=
  ({ s with byte_pos := if decide (s.byte_pos < s.capacity) then s.byte_pos + 1#64 else s.byte_pos,
            buffer := s.buffer >>> 8, buffer_bits := s.buffer_bits - 8#32 },
   if decide (s.byte_pos < s.capacity) then wr8 data (s.data + s.byte_pos.toNat) (BitVec.setWidth 8 s.buffer) else data)

theorem flushStepC_spec {m : Nat} (h : WrInvP m s data) (h8 : 8 ≤ s.buffer_bits.toNat) :
    Spec m s data
      { wrAbs s data with
        out := if (wrAbs s data).out.length < (wrAbs s data).cap then
          (wrAbs s data).out ++ [UInt8.ofNat (wrAbs s data).buffer] else (wrAbs s data).out,
        buffer := (wrAbs s data).buffer >>> 8, bufferBits := (wrAbs s data).bufferBits - 8 }
      (flushStepC s data)
      ((if decide (s.byte_pos < s.capacity) then inb data (s.data + s.byte_pos.toNat) 1 else true) &&
        sSubOk s.buffer_bits 8#32) := by
  have hsub : (s.buffer_bits - 8#32).toNat = s.buffer_bits.toNat - 8 := BitVec.toNat_sub_of_le (BitVec.le_def.mpr h8)
  have hb := h.bits
  have hsm := h.small
  have hbuf : (s.buffer >>> 8).toNat < 2 ^ (s.buffer_bits - 8#32).toNat := by
    rw [BitVec.toNat_ushiftRight, hsub]; exact shr8_lt _ _ h8 h.buf
  have hlen : (wrAbs s data).out.length = s.byte_pos.toNat := by
    simp only [wrAbs, List.length_take]; have := h.pos; have := h.cap; omega
  rw [flushStepC, hlen, sSubOk_small s.buffer_bits 8#32 hsm (by decide), Bool.and_true]
  by_cases hlt : s.byte_pos < s.capacity
  · have h1 := storeC_spec s data h (BitVec.lt_def.mp hlt)
    have h2 := h1.andThen (setAcc_spec (m' := m) _ _ h1.inv (s.buffer >>> 8) (s.buffer_bits - 8#32) (by omega)
      (by omega) hbuf)
    rw [h1.abs, BitVec.toNat_ushiftRight, hsub] at h2
    rw [if_pos (show s.byte_pos.toNat < (wrAbs s data).cap from BitVec.lt_def.mp hlt), if_pos (decide_eq_true hlt),
      if_pos (decide_eq_true hlt), if_pos (decide_eq_true hlt)]
    exact ⟨h2.abs, h2.frame, h2.inv, h1.defined⟩
  · have h2 := setAcc_spec (m' := m) s data h (s.buffer >>> 8) (s.buffer_bits - 8#32) (by omega) (by omega) hbuf
    have hd : ¬ decide (s.byte_pos < s.capacity) = true := by rwa [decide_eq_true_eq]
    rw [BitVec.toNat_ushiftRight, hsub] at h2
    rw [if_neg (show ¬ s.byte_pos.toNat < (wrAbs s data).cap from fun hh => hlt (BitVec.lt_def.mpr hh)), if_neg hd,
      if_neg hd, if_neg hd]
    exact h2

/-- the translated loop of `flush_buffer` against the model's `flushLoop`, for every sufficient fuel on both sides (the
model runs with `buffer_bits / 8`, the translation with 9); fewer than 8 bits stay -/
theorem flush_loop_spec {m : Nat} : ∀ (fuel : Nat) (s : carquet_bit_writer_t) (data : List UInt8), WrInvP m s data →
    s.buffer_bits.toNat / 8 < fuel →
    Spec 7 s data (BitIO.flushLoop (s.buffer_bits.toNat / 8) (wrAbs s data))
      (Gen.CFun.flush_buffer_loop1 fuel data s.data s.capacity s.byte_pos s.bit_pos s.buffer s.buffer_bits)
      (Gen.CFun.flush_buffer_loop1_defined fuel data s.data s.capacity s.byte_pos s.bit_pos s.buffer s.buffer_bits) := by
  intro fuel
  induction fuel with
  | zero => intro _ _ _ hf; omega
  | succ f ih =>
    intro s data h hf
    have hc : BitVec.sle 8#32 s.buffer_bits = decide (8 ≤ s.buffer_bits.toNat) := sle_small _ _ (by decide) h.small
    rw [Gen.CFun.flush_buffer_loop1, Gen.CFun.flush_buffer_loop1_defined, hc]
    by_cases h8 : 8 ≤ s.buffer_bits.toNat
    · -- one more byte leaves the accumulator
      have hs := flushStepC_spec s data h h8
      have hdiv : s.buffer_bits.toNat / 8 = (s.buffer_bits.toNat - 8) / 8 + 1 := by omega
      have hsub : (s.buffer_bits - 8#32).toNat = s.buffer_bits.toNat - 8 :=
        BitVec.toNat_sub_of_le (BitVec.le_def.mpr h8)
      have hi := ih (flushStepC s data).1 (flushStepC s data).2 hs.inv (by show (s.buffer_bits - 8#32).toNat / 8 < f; omega)
      have := hs.andThen hi
      rw [hs.abs] at this
      rw [show (flushStepC s data).1.buffer_bits.toNat = s.buffer_bits.toNat - 8 from hsub] at this
      rw [hdiv, BitIO.flushLoop, if_pos (show (wrAbs s data).bufferBits ≥ 8 from h8), if_pos (decide_eq_true h8),
        if_pos (decide_eq_true h8)]
      refine ⟨this.abs, this.frame, this.inv, ?_⟩
      have hd := this.defined
      rw [Bool.and_assoc] at hd
      exact hd
    · -- fewer than 8 bits left: done
      have hdiv : s.buffer_bits.toNat / 8 = 0 := by omega
      have hs : (⟨s.data, s.capacity, s.byte_pos, s.bit_pos, s.buffer, s.buffer_bits⟩ : carquet_bit_writer_t) = s := rfl
      rw [if_neg (by rwa [decide_eq_true_eq]), if_neg (by rwa [decide_eq_true_eq]), hdiv, hs]
      exact Spec.refl (h.tighten (by omega))

theorem flush_buffer_spec (h : WrInvP 71 s data) :
    Spec 7 s data (BitIO.flushBuffer (wrAbs s data)) (Gen.CFun.flush_buffer s data)
      (Gen.CFun.flush_buffer_defined s data) :=
  flush_loop_spec 9 s data h (by have := h.bits; omega)

/-- `if (writer->buffer_bits >= 56) flush_buffer(writer);` -/
def flushIf56 (s : carquet_bit_writer_t) (data : List UInt8) : carquet_bit_writer_t × List UInt8 :=
  if BitVec.sle 56#32 s.buffer_bits then Gen.CFun.flush_buffer s data else (s, data)

def flushIf56_defined (s : carquet_bit_writer_t) (data : List UInt8) : Bool :=
  if BitVec.sle 56#32 s.buffer_bits then Gen.CFun.flush_buffer_defined s data else true

theorem flushIf56_spec (h : WrInvP 64 s data) :
    Spec 55 s data (BitIO.flushIfFull (wrAbs s data)) (flushIf56 s data) (flushIf56_defined s data) := by
  rw [flushIf56, flushIf56_defined, BitIO.flushIfFull, show BitVec.sle 56#32 s.buffer_bits =
    decide (56 ≤ s.buffer_bits.toNat) from sle_small _ _ (by decide) h.small]
  by_cases hp : 56 ≤ s.buffer_bits.toNat
  · rw [if_pos (show (wrAbs s data).bufferBits ≥ 56 from hp), if_pos (decide_eq_true hp), if_pos (decide_eq_true hp)]
    exact (flush_buffer_spec s data (h.mono (by decide))).mono (by decide)
  · have hd : ¬ decide (56 ≤ s.buffer_bits.toNat) = true := by rwa [decide_eq_true_eq]
    rw [if_neg (show ¬ (wrAbs s data).bufferBits ≥ 56 from hp), if_neg hd, if_neg hd]
    exact Spec.refl (h.tighten (by omega))

/-! ### `buffer |= x << buffer_bits; buffer_bits += k` -/

theorem or_shl_lt (b e k m : Nat) (hb : b < 2 ^ k) (he : e < 2 ^ m) : (b ||| e <<< k) % 2 ^ 64 < 2 ^ (k + m) := by
  apply Nat.lt_of_le_of_lt (Nat.mod_le _ _)
  apply Nat.or_lt_two_pow
  · exact Nat.lt_of_lt_of_le hb (Nat.pow_le_pow_right (by decide) (by omega))
  · rw [Nat.shiftLeft_eq, Nat.add_comm k m, Nat.pow_add]
    exact Nat.mul_lt_mul_of_pos_right he (Nat.two_pow_pos k)

def pushC (s : carquet_bit_writer_t) (x : BitVec 64) (k : BitVec 32) : carquet_bit_writer_t :=
  setAcc s (s.buffer ||| x <<< s.buffer_bits.toNat) (s.buffer_bits + k)

/-- `k ≤ 32` bits on top of at most `m ≤ 55` pending ones: the shift count and the sum are in range -/
theorem pushC_spec {m : Nat} (x : BitVec 64) (k : BitVec 32) (h : WrInvP m s data)
    (hm : m ≤ 55) (hk : k.toNat ≤ 32) (hx : x.toNat < 2 ^ k.toNat) :
    Spec (m + k.toNat) s data
      { wrAbs s data with buffer := ((wrAbs s data).buffer ||| (x.toNat <<< (wrAbs s data).bufferBits)) % 2 ^ 64,
                          bufferBits := (wrAbs s data).bufferBits + k.toNat }
      (pushC s x k, data) (shCountOk true 64 s.buffer_bits && sAddOk s.buffer_bits k) := by
  have hb := h.bits
  have hadd : (s.buffer_bits + k).toNat = s.buffer_bits.toNat + k.toNat := BitVec.toNat_add_of_lt (by omega)
  have hor := or_shl_toNat s.buffer x s.buffer_bits.toNat
  have := setAcc_spec (m' := m + k.toNat) s data h (s.buffer ||| x <<< s.buffer_bits.toNat) (s.buffer_bits + k)
    (by omega) (by omega) (by rw [hadd, hor]; exact or_shl_lt _ _ _ _ h.buf hx)
  rw [hadd, hor] at this
  exact ⟨this.abs, this.frame, this.inv, by
    rw [shCountOk_small true 64 _ (by omega) h.small, sAddOk_small _ _ (by omega)]; rfl⟩

/-! ### `carquet_bit_writer_write_bit` -/

theorem bit_and_one (bit : BitVec 32) : (BitVec.signExtend 64 (bit &&& 1#32)).toNat = bit.toNat &&& 1 := by
  have hm : (bit &&& 1#32).msb = false := by simp [BitVec.msb_and]
  rw [BitVec.signExtend_eq_setWidth_of_msb_false hm, BitVec.toNat_setWidth, BitVec.toNat_and]
  have : bit.toNat &&& (1#32).toNat ≤ 1 := Nat.and_le_right
  exact Nat.mod_eq_of_lt (by omega)

theorem write_bit_spec (bit : BitVec 32) (h : WrInvP 55 s data) :
    Spec 55 s data (BitIO.writeBit (wrAbs s data) bit.toNat) (Gen.CFun.carquet_bit_writer_write_bit s data bit)
      (Gen.CFun.carquet_bit_writer_write_bit_defined s data bit) := by
  have hx : (BitVec.signExtend 64 (bit &&& 1#32)).toNat < 2 ^ (1#32).toNat := by
    rw [bit_and_one]; have : bit.toNat &&& 1 ≤ 1 := Nat.and_le_right; show _ < 2; omega
  have hp := pushC_spec s data (BitVec.signExtend 64 (bit &&& 1#32)) 1#32 h (by decide) (by decide) hx
  have := hp.andThen (flushIf56_spec _ data (hp.inv.mono (by decide)))
  rw [hp.abs, bit_and_one] at this
  rw [Gen.CFun.carquet_bit_writer_write_bit_defined, ← Bool.and_assoc]
  -- the generated function is `flushIf56 (pushC s …) data` by unfolding
  exact this

/-! ### `carquet_bit_writer_write_bits` -/

/-- `if (num_bits > 32) num_bits = 32;` -/
def clamp32 (n : BitVec 32) : BitVec 32 := if BitVec.slt 32#32 n then 32#32 else n

/-- `num_bits == 32 ? ~0U : (1U << num_bits) - 1` -/
def maskC (k : BitVec 32) : BitVec 32 := if k == 32#32 then ~~~0#32 else (1#32 <<< k.toNat) - 1#32

def maskC_defined (k : BitVec 32) : Bool := if k == 32#32 then true else shCountOk true 32 k

theorem maskC_spec (k : BitVec 32) (h32 : k.toNat ≤ 32) :
    (maskC k).toNat = BitIO.mask32 k.toNat ∧ maskC_defined k = true := by
  unfold maskC maskC_defined BitIO.mask32
  by_cases h : k = 32#32
  · subst h; exact ⟨by decide, by decide⟩
  · have hne : k.toNat ≠ 32 := fun e => h (BitVec.eq_of_toNat_eq e)
    rw [if_neg (by rwa [beq_iff_eq]), if_neg hne, if_neg (by rwa [beq_iff_eq])]
    exact ⟨lowmask_toNat k.toNat (by omega), shCountOk_small true 32 k (by omega) (by omega)⟩

theorem mask32_lt (k : Nat) (h32 : k ≤ 32) : BitIO.mask32 k < 2 ^ k := by
  unfold BitIO.mask32
  split
  · subst k; decide
  · have h3 := Nat.two_pow_pos k
    rw [Nat.one_shiftLeft]; omega

/-- `(uint64_t)(value & mask)` -/
theorem masked_toNat (v k : BitVec 32) (h32 : k.toNat ≤ 32) :
    (BitVec.setWidth 64 (v &&& maskC k)).toNat = (v.toNat % 2 ^ 32) &&& BitIO.mask32 k.toNat := by
  rw [BitVec.toNat_setWidth_of_le (by decide), BitVec.toNat_and, (maskC_spec k h32).1, Nat.mod_eq_of_lt v.isLt]

theorem beq_zero_iff (n : BitVec 32) : (n == 0#32) = decide (n.toNat = 0) := beq_toNat n 0#32

theorem write_bits_spec (v n : BitVec 32) (h : WrInvP 55 s data) (hn : 0 ≤ n.toInt) :
    Spec 55 s data (BitIO.writeBits (wrAbs s data) v.toNat n.toNat) (Gen.CFun.carquet_bit_writer_write_bits s data v n)
      (Gen.CFun.carquet_bit_writer_write_bits_defined s data v n) := by
  have hc : (clamp32 n).toNat = min n.toNat 32 := clamp_toNat 32#32 n (by decide) (small_of_nonneg n hn)
  have hc32 : (clamp32 n).toNat ≤ 32 := by omega
  have hx : (BitVec.setWidth 64 (v &&& maskC (clamp32 n))).toNat < 2 ^ (clamp32 n).toNat := by
    rw [masked_toNat v _ hc32]
    exact Nat.lt_of_le_of_lt Nat.and_le_right (mask32_lt _ hc32)
  -- the C text after `if (buffer_bits > 32) flush_buffer(writer);`, which left `r` with at most 32 pending bits
  have tail : ∀ {r w b}, Spec 32 s data w r b →
      Spec 55 s data (BitIO.flushIfFull { w with
          buffer := (w.buffer ||| (((v.toNat % 2 ^ 32) &&& BitIO.mask32 (min n.toNat 32)) <<< w.bufferBits)) % 2 ^ 64,
          bufferBits := w.bufferBits + min n.toNat 32 })
        (flushIf56 (pushC r.1 (BitVec.setWidth 64 (v &&& maskC (clamp32 n))) (clamp32 n)) r.2)
        (b && (maskC_defined (clamp32 n) && (shCountOk true 64 r.1.buffer_bits && (sAddOk r.1.buffer_bits (clamp32 n) &&
          flushIf56_defined (pushC r.1 (BitVec.setWidth 64 (v &&& maskC (clamp32 n))) (clamp32 n)) r.2)))) := fun h1 => by
    have h2 := pushC_spec _ _ (BitVec.setWidth 64 (v &&& maskC (clamp32 n))) (clamp32 n) h1.inv (by decide) hc32 hx
    have := (h1.andThen h2).andThen (flushIf56_spec _ _ (h2.inv.mono (by omega)))
    rw [h2.abs, h1.abs, masked_toNat v _ hc32, hc, Bool.and_assoc, Bool.and_assoc] at this
    rw [(maskC_spec _ hc32).2, Bool.true_and]
    exact this
  simp only [Gen.CFun.carquet_bit_writer_write_bits, Gen.CFun.carquet_bit_writer_write_bits_defined, Prod.eta,
    BitIO.writeBits, BitIO.makeRoom]
  rw [beq_zero_iff, show BitVec.slt 32#32 s.buffer_bits = decide (32 < s.buffer_bits.toNat) from
    slt_small 32#32 _ (by decide) h.small]
  by_cases h0 : n.toNat = 0
  · simp only [h0, decide_true, if_true]
    exact Spec.refl h
  · simp only [h0, decide_false, Bool.false_eq_true, if_false]
    by_cases h32 : 32 < s.buffer_bits.toNat
    · simp only [h32, show (wrAbs s data).bufferBits > 32 from h32, decide_true, if_true]
      -- stated first, compared with the goal afterwards: `exact tail …` sends the unifier into the generated definition
      have := tail ((flush_buffer_spec s data (h.mono (by decide))).mono (by decide))
      exact this
    · simp only [h32, show ¬ (wrAbs s data).bufferBits > 32 from h32, decide_false, Bool.false_eq_true, if_false]
      have := tail (Spec.refl (h.tighten (by omega)))
      exact this

/-! ### `carquet_bit_writer_write_bits64` -/

theorem hi32_toNat (value : BitVec 64) : (BitVec.setWidth 32 (value >>> 32)).toNat = (value.toNat % 2 ^ 64) >>> 32 := by
  rw [BitVec.toNat_setWidth, BitVec.toNat_ushiftRight, Nat.mod_eq_of_lt value.isLt]
  apply Nat.mod_eq_of_lt
  rw [Nat.shiftRight_eq_div_pow]
  have := value.isLt
  omega

/-- at most 32 bits (after `if (num_bits > 64) num_bits = 64;`) go in one `write_bits` call, more in two -/
theorem write_bits64_spec (value : BitVec 64) (n : BitVec 32) (h : WrInvP 55 s data) (hn : 0 ≤ n.toInt) :
    Spec 55 s data (BitIO.writeBits64 (wrAbs s data) value.toNat n.toNat)
      (Gen.CFun.carquet_bit_writer_write_bits64 s data value n)
      (Gen.CFun.carquet_bit_writer_write_bits64_defined s data value n) := by
  have hc : (if BitVec.slt 64#32 n then 64#32 else n).toNat = min n.toNat 64 :=
    clamp_toNat 64#32 n (by decide) (small_of_nonneg n hn)
  have hlo : (BitVec.setWidth 32 value).toNat = value.toNat % 2 ^ 32 := BitVec.toNat_setWidth 32 value
  simp only [Gen.CFun.carquet_bit_writer_write_bits64, Gen.CFun.carquet_bit_writer_write_bits64_defined, Prod.eta,
    BitIO.writeBits64]
  rw [beq_zero_iff, sle_small _ 32#32 (by omega) (by decide), hc]
  by_cases h0 : n.toNat = 0
  · simp only [h0, decide_true, if_true]
    exact Spec.refl h
  · simp only [h0, decide_false, Bool.false_eq_true, if_false]
    by_cases h32 : min n.toNat 64 ≤ 32
    · simp only [show min n.toNat 64 ≤ (32#32).toNat from h32, h32, decide_true, if_true]
      rw [← hlo, ← hc]
      exact write_bits_spec s data _ _ h (by rw [toInt_small _ (by omega)]; omega)
    · simp only [show ¬ min n.toNat 64 ≤ (32#32).toNat from h32, h32, decide_false, Bool.false_eq_true, if_false]
      have hsub : ((if BitVec.slt 64#32 n then 64#32 else n) - 32#32).toNat = min n.toNat 64 - 32 := by
        rw [BitVec.toNat_sub_of_le (BitVec.le_def.mpr (show (32#32).toNat ≤ _ by rw [hc]; show 32 ≤ _; omega)), hc]; rfl
      have h1 := write_bits_spec s data (BitVec.setWidth 32 value) 32#32 h (by decide)
      have h2 := write_bits_spec _ _ (BitVec.setWidth 32 (value >>> 32)) ((if BitVec.slt 64#32 n then 64#32 else n) - 32#32)
        h1.inv (by rw [toInt_small _ (by omega)]; omega)
      have := h1.andThen h2
      rw [h1.abs, hlo, hi32_toNat, hsub] at this
      rw [sSubOk_small (if BitVec.slt 64#32 n then 64#32 else n) 32#32 (by omega) (by decide), Bool.true_and]
      exact this

/-! ### `carquet_bit_writer_flush` -/

/-- `buffer_bits > 0 && byte_pos < capacity` -/
def tailCond (s : carquet_bit_writer_t) : Bool := BitVec.slt 0#32 s.buffer_bits && decide (s.byte_pos < s.capacity)

/-- the partial byte: `if (…) { data[byte_pos++] = (uint8_t)buffer; buffer = 0; buffer_bits = 0; }` -/
def flushTail (s : carquet_bit_writer_t) (data : List UInt8) : carquet_bit_writer_t × List UInt8 :=
  ({ s with byte_pos := if tailCond s then s.byte_pos + 1#64 else s.byte_pos,
            buffer := if tailCond s then 0#64 else s.buffer,
            buffer_bits := if tailCond s then 0#32 else s.buffer_bits },
   if tailCond s then wr8 data (s.data + s.byte_pos.toNat) (BitVec.setWidth 8 s.buffer) else data)

def flushTail_defined (s : carquet_bit_writer_t) (data : List UInt8) : Bool :=
  if tailCond s then inb data (s.data + s.byte_pos.toNat) 1 else true

theorem flushTail_spec (h : WrInvP 7 s data) :
    Spec 7 s data
      (if (wrAbs s data).bufferBits > 0 ∧ (wrAbs s data).out.length < (wrAbs s data).cap then
        { wrAbs s data with out := (wrAbs s data).out ++ [UInt8.ofNat (wrAbs s data).buffer], buffer := 0, bufferBits := 0 }
      else wrAbs s data)
      (flushTail s data) (flushTail_defined s data) := by
  have hlen : (wrAbs s data).out.length = s.byte_pos.toNat := by
    simp only [wrAbs, List.length_take]; have := h.pos; have := h.cap; omega
  have hc : tailCond s = decide (0 < s.buffer_bits.toNat ∧ s.byte_pos.toNat < s.capacity.toNat) := by
    rw [tailCond, slt_small _ _ (by decide) h.small, Bool.eq_iff_iff, Bool.and_eq_true, decide_eq_true_eq,
      decide_eq_true_eq, decide_eq_true_eq, BitVec.lt_def]; rfl
  rw [flushTail, flushTail_defined, hc, hlen]
  by_cases hp : 0 < s.buffer_bits.toNat ∧ s.byte_pos.toNat < s.capacity.toNat
  · have h1 := storeC_spec s data h hp.2
    have := h1.andThen (setAcc_spec (m' := 7) _ _ h1.inv 0#64 0#32 (by decide) (by decide) (by decide))
    rw [h1.abs] at this
    rw [if_pos (show (wrAbs s data).bufferBits > 0 ∧ s.byte_pos.toNat < (wrAbs s data).cap from hp)]
    simp only [decide_eq_true hp, if_true]
    exact ⟨this.abs, this.frame, this.inv, h1.defined⟩
  · have hd : ¬ decide (0 < s.buffer_bits.toNat ∧ s.byte_pos.toNat < s.capacity.toNat) = true := by
      rwa [decide_eq_true_eq]
    rw [if_neg (show ¬ ((wrAbs s data).bufferBits > 0 ∧ s.byte_pos.toNat < (wrAbs s data).cap) from hp)]
    simp only [hd]
    exact Spec.refl h

theorem flush_spec (h : WrInvP 55 s data) :
    Spec 7 s data (BitIO.flush (wrAbs s data)) (Gen.CFun.carquet_bit_writer_flush s data)
      (Gen.CFun.carquet_bit_writer_flush_defined s data) := by
  have h1 := flush_buffer_spec s data (h.mono (by decide))
  have h2 := flushTail_spec _ _ h1.inv
  rw [h1.abs] at h2
  have := h1.andThen h2
  -- the generated function is `flushTail` on the result of `flush_buffer`, by unfolding
  exact this

/-! ### packaging for the property fragments -/

theorem wrInv_iff : wrInv s data = true ↔ WrInvP 55 s data :=
  wrInvUpTo_iff 55 s data

theorem wrFlushInv_iff : wrFlushInv s data = true ↔ WrInvP 71 s data :=
  wrInvUpTo_iff 71 s data

/-- from `Spec` to the statement of the link theorems -/
theorem Spec.link {r : carquet_bit_writer_t × List UInt8} {s : carquet_bit_writer_t} {data : List UInt8}
    {w : BitIO.Writer} {m : Nat} {b : Bool} (h : Spec m s data w r b) (hm : m ≤ 55)
    (s' : carquet_bit_writer_t) (data' : List UInt8) (e : r = (s', data')) :
    wrAbs s' data' = w ∧ wrInv s' data' = true ∧ data'.length = data.length ∧
    data'.take s.byte_pos.toNat = data.take s.byte_pos.toNat ∧
    data'.drop s'.byte_pos.toNat = data.drop s'.byte_pos.toNat ∧
    s.byte_pos.toNat ≤ s'.byte_pos.toNat ∧ s'.capacity = s.capacity ∧ s'.data = s.data ∧ s'.bit_pos = s.bit_pos := by
  subst e
  exact ⟨h.abs, (wrInv_iff _ _).mpr (h.inv.mono hm), h.frame.len, h.frame.head, h.frame.tail, h.frame.mono, h.frame.cap,
    h.frame.dat, h.frame.bitpos⟩

/-- `carquet_bit_writer_init` on an array of at least `cap` bytes -/
theorem init_spec (s0 : carquet_bit_writer_t) (data : List UInt8) (cap : Nat) (hl : data.length < 2 ^ 64)
    (hc : cap ≤ data.length) :
    wrAbs (Gen.CFun.carquet_bit_writer_init s0 data (BitVec.ofNat 64 cap)).1
        (Gen.CFun.carquet_bit_writer_init s0 data (BitVec.ofNat 64 cap)).2 = BitIO.Writer.init cap ∧
    WrInvP 0 (Gen.CFun.carquet_bit_writer_init s0 data (BitVec.ofNat 64 cap)).1
        (Gen.CFun.carquet_bit_writer_init s0 data (BitVec.ofNat 64 cap)).2 := by
  have hcap : (BitVec.ofNat 64 cap).toNat = cap := by
    rw [BitVec.toNat_ofNat]; exact Nat.mod_eq_of_lt (by omega)
  refine ⟨?_, rfl, Nat.zero_le _, ?_, show (0#32).toNat < 2 ^ 31 by decide, Nat.le_refl 0,
    show (0#64).toNat < 2 ^ (0#32).toNat by decide⟩
  · simp only [Gen.CFun.carquet_bit_writer_init, wrAbs, hcap, BitIO.Writer.init]
    rfl
  · show (BitVec.ofNat 64 cap).toNat ≤ data.length
    rw [hcap]; exact hc

end Carquet.Proofs.CFun3.BitWriter
