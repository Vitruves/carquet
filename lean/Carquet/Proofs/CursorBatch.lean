import Carquet.Proofs.CursorBatchCol
/-
C02 / C03, batch reader, one row group: valid files (`FileOk`) and projections, the readers of the projected
columns (`ColsInv`: one `Rep` per column, opened by `open_row_group_readers`), and all columns of one batch
(`readColumns_ok`: the columns are `absCols`, a `zipWith` of `specCol` over columns and rows).
-/
namespace Carquet.Proofs.Cursor
open Carquet.Spec.Cursor (Row)
open Carquet.Impl.ColumnReader (Fixes Reader Page)
open Carquet.Impl.BatchReader

/-! ### valid files and projections -/

/-- rows of a stored column chunk -/
def chunkDataRows (col : Column) (cd : ChunkData α) : List (Row α) := rowsOfPages col.maxDef cd.pages

/-- A valid file as far as the readers are concerned: every row group has one chunk per column,
every chunk's pages load and are well formed, `num_values` is the chunk's row count, and all chunks
of a row group have the same number of rows. -/
structure FileOk (f : File α) : Prop where
  shape : ∀ rg ∈ f.rowGroups, rg.length = f.columns.length
  chunks : ∀ rg ∈ f.rowGroups, ∀ (i : Nat) (col : Column) (cd : ChunkData α),
    f.columns[i]? = some col → rg[i]? = some cd →
    (∀ p ∈ cd.pages, ∃ q, p = some q ∧ PageOk col.maxDef q) ∧ cd.numValues = (chunkDataRows col cd).length
  sameRows : ∀ rg ∈ f.rowGroups, ∃ n : Nat, ∀ (i : Nat) (col : Column) (cd : ChunkData α),
    f.columns[i]? = some col → rg[i]? = some cd → (chunkDataRows col cd).length = n

/-- schema leaves of the projected columns -/
def projCols (f : File α) (proj : List Nat) : List Column := proj.filterMap (fun c => f.columns[c]?)

/-- rows of the projected columns of one row group -/
def projRows (f : File α) (proj : List Nat) (rg : List (ChunkData α)) : List (List (Row α)) :=
  proj.filterMap (fun c =>
    match f.columns[c]?, rg[c]? with
    | some col, some cd => some (chunkDataRows col cd)
    | _, _ => none)

theorem projectedColumns_eq (f : File α) (proj : List Nat) :
    projectedColumns f (proj.map Int.ofNat) = projCols f proj := by
  simp [projectedColumns, projCols, List.filterMap_map, Function.comp_def]

/-! ### readers of a row group -/

/-- readers `rs` of the columns `cols` represent the pending rows `Ps` -/
inductive ColsInv : List Column → List (Reader α) → List (List (Row α)) → Prop
  | nil : ColsInv [] [] []
  | cons {c : Impl.ColumnReader.Chunk α} {col : Column} {r : Reader α} {P : List (Row α)} {cols rs Ps} :
    Rep c P r → c.maxDef = col.maxDef → ColsInv cols rs Ps → ColsInv (col :: cols) (r :: rs) (P :: Ps)

theorem getColumn_ok (mode : IOMode) (f : File α) (hf : FileOk f) (g c : Nat) (rg : List (ChunkData α))
    (col : Column) (hrg : f.rowGroups[g]? = some rg) (hcol : f.columns[c]? = some col) :
    ∃ r cd, rg[c]? = some cd ∧ getColumn mode f (g : Int) (c : Int) = .ok r ∧
      ∃ ch, Rep ch (chunkDataRows col cd) r ∧ ch.maxDef = col.maxDef := by
  have hg : g < f.rowGroups.length := by
    rcases Nat.lt_or_ge g f.rowGroups.length with h | h
    · exact h
    · rw [List.getElem?_eq_none h] at hrg; cases hrg
  have hc : c < f.columns.length := by
    rcases Nat.lt_or_ge c f.columns.length with h | h
    · exact h
    · rw [List.getElem?_eq_none h] at hcol; cases hcol
  have hmem : rg ∈ f.rowGroups := List.mem_of_getElem? hrg
  have hshape := hf.shape rg hmem
  obtain ⟨cd, hcd⟩ : ∃ cd, rg[c]? = some cd := ⟨_, List.getElem?_eq_getElem (hshape ▸ hc)⟩
  obtain ⟨hpages, hnum⟩ := hf.chunks rg hmem c col cd hcol hcd
  refine ⟨Carquet.Impl.ColumnReader.getColumn
      ⟨cd.pages, cd.numValues, col.maxDef, chunkIsView mode col cd, chunkRetains mode col cd⟩,
    cd, hcd, ?_, ⟨cd.pages, cd.numValues, col.maxDef, chunkIsView mode col cd, chunkRetains mode col cd⟩,
    rep_getColumn _ ⟨hpages, hnum⟩, rfl⟩
  unfold getColumn
  have h1 : ¬ ((g : Int) < 0 ∨ (g : Int) ≥ f.rowGroups.length) := by omega
  have h2 : ¬ ((c : Int) < 0 ∨ (c : Int) ≥ f.columns.length) := by omega
  simp only [h1, h2, if_false, Int.toNat_natCast, hrg, hcol, hcd]

theorem openReaders_ok (mode : IOMode) (f : File α) (hf : FileOk f) (g : Nat) (rg : List (ChunkData α))
    (hrg : f.rowGroups[g]? = some rg) (proj : List Nat) (hproj : ∀ c ∈ proj, c < f.columns.length) :
    ∃ rs, openReaders mode f (g : Int) (proj.map Int.ofNat) = .ok rs ∧
      ColsInv (projCols f proj) rs (projRows f proj rg) := by
  induction proj with
  | nil => exact ⟨[], rfl, .nil⟩
  | cons c proj ih =>
    have hc : c < f.columns.length := hproj c (by simp)
    have hcol : f.columns[c]? = some f.columns[c] := List.getElem?_eq_getElem hc
    obtain ⟨r, cd, hcd, hget, ch, hrep, hmd⟩ := getColumn_ok mode f hf g c rg _ hrg hcol
    obtain ⟨rs, hopen, hcols⟩ := ih (fun x hx => hproj x (by simp [hx]))
    refine ⟨r :: rs, ?_, ?_⟩
    · simp only [List.map_cons, openReaders]
      have : getColumn mode f (g : Int) (Int.ofNat c) = .ok r := hget
      rw [this, hopen]
    · simp only [projCols, projRows, List.filterMap_cons, hcol, hcd]
      exact .cons hrep hmd hcols

theorem colsInv_prefetch {cols : List Column} {rs : List (Reader α)} {Ps : List (List (Row α))}
    (h : ColsInv cols rs Ps) : ColsInv cols (rs.map (prefetch Fixes.all)) Ps := by
  induction h with
  | nil => exact .nil
  | cons hr hmd _ ih => exact .cons (prefetch_ok hr) hmd ih

/-- a batch column without its ownership flag (the only thing that distinguishes a zero-copy view) -/
def ColData.erase (cd : ColData α) : ColData α := { cd with view := false }
def Batch.erase (b : Batch α) : Batch α := ⟨b.numRows, b.cols.map ColData.erase⟩

theorem specCol_erase (maxDef rtr : Nat) (rows : List (Row α)) (view : Bool) :
    ColData.erase (specCol maxDef rtr rows view) = specCol maxDef rtr rows false := rfl

/-- the columns of one abstract batch -/
def absCols (rtr : Nat) (cols : List Column) (Ps : List (List (Row α))) : List (ColData α) :=
  List.zipWith (fun col P => specCol col.maxDef rtr (P.take rtr) false) cols Ps

/-- **All columns of one batch**: each delivers its next `rtr` pending rows. -/
theorem readColumns_ok (mode : IOMode) (rtr : Nat) (h0 : 0 < rtr) (h31 : rtr < 2147483648)
    {cols : List Column} {rs : List (Reader α)} {Ps : List (List (Row α))} (h : ColsInv cols rs Ps) :
    (∀ P ∈ Ps, rtr ≤ P.length) → (∀ col ∈ cols, ColFits col rtr) →
      ∃ rs' cds, readColumns Fixes.all mode (rtr : Int) cols rs = (rs', some cds) ∧
        ColsInv cols rs' (Ps.map (List.drop rtr)) ∧ cds.map ColData.erase = absCols rtr cols Ps := by
  induction h with
  | nil => exact fun _ _ => ⟨[], [], by simp [readColumns], .nil, rfl⟩
  | @cons c col r P cols rs Ps hr hmd _ ih =>
    intro hlen hfit
    obtain ⟨r', view, heq, hr'⟩ := readColumn_ok mode col hr hmd rtr h0 (hlen P (by simp)) h31 (hfit col (by simp))
    obtain ⟨rs', cds, heq2, hcols', hcds⟩ := ih (fun Q hQ => hlen Q (by simp [hQ])) (fun c hc => hfit c (by simp [hc]))
    refine ⟨r' :: rs', specCol col.maxDef rtr (P.take rtr) view :: cds, ?_, .cons hr' hmd hcols', ?_⟩
    · simp only [readColumns, heq, heq2]
    · simp only [List.map_cons, specCol_erase, absCols, List.zipWith_cons_cons] at hcds ⊢
      rw [hcds]

end Carquet.Proofs.Cursor
