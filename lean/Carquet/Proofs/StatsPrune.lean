import Carquet.Proofs.StatsBuilder
/-
No false negatives: the reader's row-group pruning, the statistics helpers and the column-index
page filter answer "might match" whenever a row satisfying the predicate exists and the
statistics are true bounds; `filter_row_groups` returns exactly the capped ascending list.
-/
namespace Carquet.Proofs.StatsPrune
open Carquet.Spec.Order Carquet.Impl.Stats Carquet.Proofs.StatsOrder Carquet.Proofs.StatsCmp
open Carquet.Proofs.StatsBuilder

/-! ### predicates in terms of the statistics order -/

theorem sat_not_nan {t : PType} {op : Op} {v q : List UInt8} (hop : op ≠ .ne) (h : sat t op v q = true) :
    isNaN t v = false ∧ isNaN t q = false := by
  unfold sat cmpT at h
  cases hv : isNaN t v <;> cases hq : isNaN t q <;> simp [hv, hq] at h ⊢ <;> cases op <;> simp_all [satOrd]

theorem sat_le_tle {t : PType} {v q : List UInt8} (h : sat t .le v q = true) : tle t v q := by
  obtain ⟨hv, hq⟩ := sat_not_nan (by decide) h
  unfold tle; rw [tcmp_of_not_nan hv hq]
  simp only [sat, cmpT_of_not_nan hv hq, satOrd] at h
  cases hc : keyCmp t v q <;> simp_all

theorem sat_ge_tle {t : PType} {v q : List UInt8} (h : sat t .ge v q = true) : tle t q v := by
  obtain ⟨hv, hq⟩ := sat_not_nan (by decide) h
  unfold tle; rw [tcmp_of_not_nan hq hv, (keyCmp_good t).swap v q]
  simp only [sat, cmpT_of_not_nan hv hq, satOrd] at h
  cases hc : keyCmp t v q <;> simp_all [Ordering.swap]

theorem sat_eq_tle {t : PType} {v q : List UInt8} (h : sat t .eq v q = true) : tle t v q ∧ tle t q v := by
  obtain ⟨hv, hq⟩ := sat_not_nan (by decide) h
  unfold tle; rw [tcmp_of_not_nan hq hv, tcmp_of_not_nan hv hq, (keyCmp_good t).swap v q]
  simp only [sat, cmpT_of_not_nan hv hq, satOrd] at h
  cases hc : keyCmp t v q <;> simp_all [Ordering.swap]

theorem below_lo {t : PType} {q lo v : List UInt8} (hq : tcmp t q lo = .lt) (hlo : tle t lo v) : ¬ tle t v q := by
  intro hvq
  have h1 : tcmp t v lo = .lt := (tcmp_good t).lt_of_le_of_lt hvq hq
  have h2 : tcmp t lo v = .gt := ((tcmp_good t).lt_iff_gt v lo).1 h1
  exact hlo h2

theorem above_hi {t : PType} {q hi v : List UInt8} (hq : tcmp t q hi = .gt) (hhi : tle t v hi) : ¬ tle t q v := by
  intro hqv
  exact (tle_trans hqv hhi) hq

/-! ### the operator table of row_group_matches -/

theorem opTable_sound (t : PType) (op : Op) (p lo hi v : List UInt8)
    (hp : isNaN t p = false) (hlo : isNaN t lo = false) (hhi : isNaN t hi = false)
    (h1 : tle t lo v) (h2 : tle t v hi) (hs : sat t op v p = true) :
    opTable op (ordInt (keyCmp t p lo)) (ordInt (keyCmp t p hi)) = true := by
  have G := keyCmp_good t
  -- v is not a NaN: it is below the non-NaN upper bound
  have hv : isNaN t v = false := by
    cases hv : isNaN t v
    · rfl
    · exfalso; apply h2; simp [tcmp, hv, hhi]
  have k1 : keyCmp t lo v ≠ .gt := by have := h1; unfold tle at this; rwa [tcmp_of_not_nan hlo hv] at this
  have k2 : keyCmp t v hi ≠ .gt := by have := h2; unfold tle at this; rwa [tcmp_of_not_nan hv hhi] at this
  simp only [sat, cmpT_of_not_nan hv hp] at hs
  cases op
  · -- eq
    have hvp : keyCmp t v p = .eq := by simpa [satOrd] using hs
    have hpv : keyCmp t p v = .eq := (G.eq_comm v p).1 hvp
    simp only [opTable, ordInt_lt_zero, ordInt_gt_zero]
    have a1 : keyCmp t p lo ≠ .lt := by
      intro h
      have := G.lt_of_lt_of_le h k1
      rw [hpv] at this; exact absurd this (by decide)
    have a2 : keyCmp t p hi ≠ .gt := by
      intro h
      have h' : keyCmp t hi p = .lt := (G.gt_iff_lt p hi).1 h
      have := G.lt_of_le_of_lt k2 h'
      rw [hvp] at this; exact absurd this (by decide)
    simp [a1, a2]
  · -- ne
    have hvp : keyCmp t v p ≠ .eq := by simpa [satOrd] using hs
    simp only [opTable, ordInt_eq_zero]
    have : ¬ (keyCmp t p lo = .eq ∧ keyCmp t p hi = .eq) := by
      rintro ⟨e1, e2⟩
      apply hvp
      have p_le_v : keyCmp t p v ≠ .gt := G.trans p lo v (by rw [e1]; decide) k1
      have hi_le_p : keyCmp t hi p ≠ .gt := by rw [(G.eq_comm p hi).1 e2]; decide
      have v_le_p : keyCmp t v p ≠ .gt := G.trans v hi p k2 hi_le_p
      exact G.eq_of_le_of_ge v_le_p p_le_v
    by_cases e1 : keyCmp t p lo = .eq <;> by_cases e2 : keyCmp t p hi = .eq <;> simp_all
  · -- lt
    have hvp : keyCmp t v p = .lt := by simpa [satOrd] using hs
    simp only [opTable, ordInt_le_zero]
    have : ¬ keyCmp t p lo ≠ .gt := by
      intro h
      have p_le_v : keyCmp t p v ≠ .gt := G.trans p lo v h k1
      exact p_le_v ((G.lt_iff_gt v p).1 hvp)
    simp [this]
  · -- le
    have hvp : keyCmp t v p ≠ .gt := by
      cases hc : keyCmp t v p <;> simp_all [satOrd]
    simp only [opTable, ordInt_lt_zero]
    have : keyCmp t p lo ≠ .lt := by
      intro h
      have := G.lt_of_lt_of_le h k1
      exact hvp ((G.lt_iff_gt p v).1 this)
    simp [this]
  · -- gt
    have hvp : keyCmp t v p = .gt := by simpa [satOrd] using hs
    simp only [opTable, ordInt_ge_zero]
    have : ¬ keyCmp t p hi ≠ .lt := by
      intro h
      have hi_le_p : keyCmp t hi p ≠ .gt := by
        rw [G.swap p hi]; cases hc : keyCmp t p hi <;> simp_all [Ordering.swap]
      exact (G.trans v hi p k2 hi_le_p) hvp
    simp [this]
  · -- ge
    have hvp : keyCmp t v p ≠ .lt := by
      cases hc : keyCmp t v p <;> simp_all [satOrd]
    simp only [opTable, ordInt_gt_zero]
    have : keyCmp t p hi ≠ .gt := by
      intro h
      have h' : keyCmp t hi p = .lt := (G.gt_iff_lt p hi).1 h
      exact hvp (G.lt_of_le_of_lt k2 h')
    simp [this]

theorem cmpWidth_none (t : PType) (h : cmpWidth t = none) : t = .byteArray ∨ t = .flba := by
  cases t <;> simp_all [cmpWidth]

theorem decideMatch_sound (t : PType) (op : Op) (p : List UInt8) (st : ColStats) (v : List UInt8)
    (h1 : tle t st.minValue v) (h2 : tle t v st.maxValue) (hs : sat t op v p = true) :
    decideMatch t op p st = true := by
  unfold decideMatch
  cases hw : cmpWidth t with
  | none =>
    have ht := cmpWidth_none t hw
    have hn : ∀ a, isNaN t a = false := fun a => isNaN_false_of t (by rcases ht with h | h <;> subst h <;> decide) a
    simp only [cmpBytes_eq_keyCmp t ht]
    exact opTable_sound t op p _ _ v (hn _) (hn _) (hn _) h1 h2 hs
  | some w =>
    simp only [isNanValue_eq]
    by_cases hl : p.length ≠ w ∨ st.minValue.length ≠ w ∨ st.maxValue.length ≠ w
    · simp [hl]
    · simp only [hl, if_false]
      by_cases hnan : isNaN t p = true ∨ isNaN t st.minValue = true ∨ isNaN t st.maxValue = true
      · simp [hnan]
      · simp only [hnan, if_false]
        have hp : isNaN t p = false := by cases h : isNaN t p <;> simp_all
        have hlo : isNaN t st.minValue = false := by cases h : isNaN t st.minValue <;> simp_all
        have hhi : isNaN t st.maxValue = false := by cases h : isNaN t st.maxValue <;> simp_all
        rw [cmpReader_eq t _ _ hp hlo, cmpReader_eq t _ _ hp hhi]
        exact opTable_sound t op p _ _ v hp hlo hhi h1 h2 hs

/-! ### filter_row_groups -/

theorem filterLoop_spec (pred : Nat → Bool) (max : Nat) (is acc : List Nat) (h : acc.length ≤ max) :
    filterLoop pred max is acc = acc ++ (is.filter pred).take (max - acc.length) := by
  induction is generalizing acc with
  | nil => simp [filterLoop]
  | cons i r ih =>
    unfold filterLoop
    by_cases hlt : acc.length < max
    · simp only [hlt, if_true]
      by_cases hp : pred i = true
      · simp only [hp, if_true, List.filter_cons_of_pos]
        rw [ih (acc ++ [i]) (by simp; omega)]
        have : max - acc.length = (max - (acc ++ [i]).length) + 1 := by simp; omega
        rw [this, List.take_succ_cons]; simp
      · have hp' : pred i = false := by cases h : pred i <;> simp_all
        simp only [hp', List.filter_cons_of_neg, Bool.false_eq_true, if_false, not_false_eq_true]
        exact ih acc h
    · have : max - acc.length = 0 := by omega
      simp [hlt, this]

/-! ### statistics_compare, range_overlaps, page_might_match -/

theorem inRange_parts {t : PType} {qmin qmax : Option (List UInt8)} {v : List UInt8}
    (h : inRange t qmin qmax v = true) :
    (∀ q, qmin = some q → tle t q v) ∧ (∀ q, qmax = some q → tle t v q) := by
  unfold inRange at h
  simp only [Bool.and_eq_true] at h
  constructor
  · intro q hq; subst hq; exact sat_ge_tle h.1
  · intro q hq; subst hq; exact sat_le_tle h.2

theorem statsCompare_sound (s : PStats) (t : PType) (value : List UInt8) (rows : List Row)
    (hb : TrueBounds t { min := present s.minValue, max := present s.maxValue } rows)
    (hm : ∃ v, some v ∈ rows ∧ sat t .eq v value = true) : (statsCompare s t value).2 = 0 := by
  obtain ⟨v, hv, hs⟩ := hm
  obtain ⟨hvq, hqv⟩ := sat_eq_tle hs
  have F1 : ∀ lo, present s.minValue = some lo → ¬ (cmpTyped t value lo < 0) := by
    intro lo hlo; rw [cmpTyped_eq, ordInt_lt_zero]; intro h
    exact below_lo h (hb.1 lo hlo v hv) hvq
  have F2 : ∀ hi, present s.maxValue = some hi → ¬ (cmpTyped t value hi > 0) := by
    intro hi hhi; rw [cmpTyped_eq, ordInt_gt_zero]; intro h
    exact above_hi h (hb.2.1 hi hhi v hv) hqv
  unfold statsCompare
  cases h1 : present s.minValue <;> cases h2 : present s.maxValue <;> simp only []
  all_goals (repeat' split)
  all_goals first | rfl | (exfalso; first | exact F1 _ h1 ‹_› | exact F2 _ h2 ‹_›)

theorem rangeOverlapsWith_sound (cmp : PType → List UInt8 → List UInt8 → Int)
    (s : PStats) (t : PType) (qmin qmax : Option (List UInt8)) (rows : List Row)
    (hc1 : ∀ q lo, qmax = some q → present s.minValue = some lo → cmp t q lo = ordInt (tcmp t q lo))
    (hc2 : ∀ q hi, qmin = some q → present s.maxValue = some hi → cmp t q hi = ordInt (tcmp t q hi))
    (hb : TrueBounds t { min := present s.minValue, max := present s.maxValue } rows)
    (hm : ∃ v, some v ∈ rows ∧ inRange t qmin qmax v = true) :
    (rangeOverlapsWith cmp s t qmin qmax).2 = true := by
  obtain ⟨v, hv, hin⟩ := hm
  obtain ⟨hlo, hhi⟩ := inRange_parts hin
  have F1 : ∀ q lo, qmax = some q → present s.minValue = some lo → ¬ (cmp t q lo < 0) := by
    intro q lo hq hl; rw [hc1 q lo hq hl, ordInt_lt_zero]; intro h
    exact below_lo h (hb.1 lo hl v hv) (hhi q hq)
  have F2 : ∀ q hi, qmin = some q → present s.maxValue = some hi → ¬ (cmp t q hi > 0) := by
    intro q hi hq hh; rw [hc2 q hi hq hh, ordInt_gt_zero]; intro h
    exact above_hi h (hb.2.1 hi hh v hv) (hlo q hq)
  have upper : (match (generalizing := false) qmin, present s.maxValue with
      | some q', some hi => if cmp t q' hi > 0 then (Status.ok, false) else (.ok, true)
      | _, _ => (.ok, true)).2 = true := by
    cases h2 : qmin <;> cases h4 : present s.maxValue <;> try rfl
    exact congrArg Prod.snd (if_neg (F2 _ _ h2 h4))
  unfold rangeOverlapsWith
  cases h1 : qmax <;> cases h3 : present s.minValue <;> try exact upper
  exact (congrArg Prod.snd (if_neg (F1 _ _ h1 h3))).trans upper

theorem cmpRange_eq (t : PType) (a b : List UInt8) (ha : Valid t a) (hb : Valid t b) :
    cmpRange t a b = ordInt (tcmp t a b) := by
  cases t
  case boolean =>
    simp only [cmpRange]
    rw [cmpBytes_bool a b ha hb, tcmp_of_not_nan rfl rfl]
  all_goals simp only [cmpRange, cmpTyped_eq]

theorem pageDecide_sound (t : PType) (p : PageEntry) (qmin qmax : Option (List UInt8)) (rows : List Row)
    (hnull : p.nullPage = true → ∀ x, some x ∉ rows)
    (hb : TrueBounds t { min := p.minV, max := p.maxV } rows)
    (hm : ∃ v, some v ∈ rows ∧ inRange t qmin qmax v = true) :
    pageDecide t p qmin qmax = true := by
  obtain ⟨v, hv, hin⟩ := hm
  obtain ⟨hlo, hhi⟩ := inRange_parts hin
  have hnp : p.nullPage = false := by
    cases h : p.nullPage
    · rfl
    · exact absurd hv (hnull h v)
  have F1 : ∀ q lo, qmax = some q → p.minV = some lo → ¬ (boundUsable t lo ∧ cmpTyped t q lo < 0) := by
    intro q lo hq hl h
    rw [cmpTyped_eq, ordInt_lt_zero] at h
    exact below_lo h.2 (hb.1 lo hl v hv) (hhi q hq)
  have F2 : ∀ q hi, qmin = some q → p.maxV = some hi → ¬ (boundUsable t hi ∧ cmpTyped t q hi > 0) := by
    intro q hi hq hh h
    rw [cmpTyped_eq, ordInt_gt_zero] at h
    exact above_hi h.2 (hb.2.1 hi hh v hv) (hlo q hq)
  have upper : (match (generalizing := false) qmin, p.maxV with
      | some q', some hi => if boundUsable t hi ∧ cmpTyped t q' hi > 0 then false else true
      | _, _ => true) = true := by
    cases h2 : qmin <;> cases h4 : p.maxV <;> try rfl
    exact if_neg (F2 _ _ h2 h4)
  unfold pageDecide
  rw [hnp, if_neg Bool.false_ne_true]
  cases h1 : qmax <;> cases h3 : p.minV <;> try exact upper
  exact (if_neg (F1 _ _ h1 h3)).trans upper

end Carquet.Proofs.StatsPrune
