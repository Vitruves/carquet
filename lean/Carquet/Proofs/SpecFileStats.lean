import Carquet.Spec.File.Write
import Carquet.Proofs.StatsOrder
import Carquet.Proofs.SpecFilePage
/-
Statistics layer: the min / max the reference writer computes (`minOf`, `maxOf`: folds in the
statistics order `Spec.Order.tcmp`) are true bounds, so the independent reader's check of
page-header statistics (`checkStats`) accepts what `statsFor` produces.
-/
namespace Carquet.Proofs.SpecFile
open Carquet.Spec Carquet.Spec.File Carquet.Spec.Order Carquet.Proofs.StatsOrder

theorem foldBest_spec {le : Bytes → Bytes → Prop} {better : Bytes → Bytes → Bool} (hrefl : ∀ a, le a a)
    (htrans : ∀ {a b c}, le a b → le b c → le a c) (hyes : ∀ x m, better x m = true → le x m)
    (hno : ∀ x m, better x m = false → le m x) : ∀ (vals : List Bytes) (m : Bytes),
    le (vals.foldl (fun m x => if better x m then x else m) m) m ∧
    (∀ v ∈ vals, le (vals.foldl (fun m x => if better x m then x else m) m) v) ∧
    ((vals.foldl (fun m x => if better x m then x else m) m) = m ∨
     (vals.foldl (fun m x => if better x m then x else m) m) ∈ vals)
  | [], m => ⟨hrefl m, fun _ h => absurd h List.not_mem_nil, Or.inl rfl⟩
  | x :: r, m => by
    simp only [List.foldl_cons]
    obtain ⟨h1, h2, h3⟩ := foldBest_spec hrefl htrans hyes hno r (if better x m then x else m)
    have hm : le (if better x m then x else m) m ∧ le (if better x m then x else m) x := by
      cases hb : better x m
      · exact ⟨hrefl m, hno x m hb⟩
      · exact ⟨hyes x m hb, hrefl x⟩
    refine ⟨htrans h1 hm.1, ?_, ?_⟩
    · intro v hv
      rcases List.mem_cons.mp hv with rfl | hv'
      · exact htrans h1 hm.2
      · exact h2 v hv'
    · rcases h3 with h | h
      · rw [h]
        split
        · exact Or.inr (by simp)
        · exact Or.inl rfl
      · exact Or.inr (List.mem_cons_of_mem _ h)

theorem minOf_spec (t : PType) (vals : List Bytes) (b : Bytes) (h : minOf t vals = some b) :
    b ∈ vals ∧ ∀ v ∈ vals, tle t b v := by
  cases vals with
  | nil => simp [minOf] at h
  | cons x r =>
    simp only [minOf, Option.some.injEq] at h
    obtain ⟨h1, h2, h3⟩ := foldBest_spec (le := tle t) (better := fun x m => tcmp t x m == .lt) (tle_refl t) tle_trans
      (fun x m hb => by unfold tle; rw [beq_iff_eq.mp hb]; decide)
      (fun x m hb hgt => by simp [((tcmp_good t).gt_iff_lt m x).mp hgt] at hb) r x
    rw [h] at h1 h2 h3
    exact ⟨by rcases h3 with h | h <;> simp [h], fun v hv => (List.mem_cons.mp hv).elim (fun e => e ▸ h1) (h2 v)⟩

theorem maxOf_spec (t : PType) (vals : List Bytes) (b : Bytes) (h : maxOf t vals = some b) :
    b ∈ vals ∧ ∀ v ∈ vals, tle t v b := by
  cases vals with
  | nil => simp [maxOf] at h
  | cons x r =>
    simp only [maxOf, Option.some.injEq] at h
    obtain ⟨h1, h2, h3⟩ := foldBest_spec (le := fun a b => tle t b a) (better := fun x m => tcmp t x m == .gt) (tle_refl t)
      (fun h1 h2 => tle_trans h2 h1)
      (fun x m hb => by unfold tle; rw [(tcmp_good t).swap x m, beq_iff_eq.mp hb]; decide)
      (fun x m hb hgt => by simp [hgt] at hb) r x
    rw [h] at h1 h2 h3
    exact ⟨by rcases h3 with h | h <;> simp [h], fun v hv => (List.mem_cons.mp hv).elim (fun e => e ▸ h1) (h2 v)⟩

theorem validStat_of_validValue {leaf : LeafInfo} {v : Bytes} (h : validValue leaf v = true) : validStat leaf v = true := by
  unfold validValue at h
  unfold validStat
  cases hp : leaf.ptype <;> rw [hp] at h <;> simp only [] at h ⊢
  · have : v = [0] ∨ v = [1] := by simpa using h
    rcases this with rfl | rfl <;> decide
  · exact h
  · exact h
  · exact h
  · exact h
  · exact h
  · exact decide_eq_true (by simp [Order.Valid, Order.PType.width])
  · exact h

theorem checkBound_min (leaf : LeafInfo) (vals : List Bytes) (hv : ∀ v ∈ vals, validValue leaf v = true) :
    checkBound leaf true vals (minOf leaf.ptype vals) = .ok () := by
  cases h : minOf leaf.ptype vals with
  | none => rfl
  | some b =>
    obtain ⟨hm, hb⟩ := minOf_spec leaf.ptype vals b h
    have hall : vals.all (fun v => decide (tle leaf.ptype b v)) = true := by
      rw [List.all_eq_true]; intro v hv'; simpa using hb v hv'
    simp [checkBound, validStat_of_validValue (hv b hm), hall]

theorem checkBound_max (leaf : LeafInfo) (vals : List Bytes) (hv : ∀ v ∈ vals, validValue leaf v = true) :
    checkBound leaf false vals (maxOf leaf.ptype vals) = .ok () := by
  cases h : maxOf leaf.ptype vals with
  | none => rfl
  | some b =>
    obtain ⟨hm, hb⟩ := maxOf_spec leaf.ptype vals b h
    have hall : vals.all (fun v => decide (tle leaf.ptype v b)) = true := by
      rw [List.all_eq_true]; intro v hv'; simpa using hb v hv'
    simp [checkBound, validStat_of_validValue (hv b hm), hall]

/-- **the statistics the reference writer puts into a page header pass the reader's truth check** -/
theorem checkStats_statsFor (leaf : LeafInfo) (sel : StatsSel) (dls : List Nat) (vals : List Bytes)
    (hv : ∀ v ∈ vals, validValue leaf v = true) :
    checkStats leaf dls vals (statsFor leaf sel dls vals) = .ok () := by
  have hmin := checkBound_min leaf vals hv
  have hmax := checkBound_max leaf vals hv
  have hnone1 : checkBound leaf true vals none = .ok () := rfl
  have hnone2 : checkBound leaf false vals none = .ok () := rfl
  unfold statsFor
  by_cases hany : sel.any = true
  · simp only [hany, Bool.not_true, Bool.false_eq_true, if_false, checkStats]
    cases sel.nullCount <;> cases sel.minMaxValue <;> cases sel.minMaxOld <;>
      simp [hmin, hmax, hnone1, hnone2, andThen, checkNullCount]
  · simp [hany, checkStats]

end Carquet.Proofs.SpecFile
