import Carquet.Impl.WriterSink
/-
The writer's control model (Impl/Writer.lean, generic in `Deps`) as a machine.

The ways its operations can go: `flushRowGroup_cases`, `writeBatch_cases` for the two calls, `flushPage_cases`,
`colWriteBatch_cases` for the column writer.  From them, the four elementary state changes (`Move`): write the header,
open a row group, let a column writer take a batch, commit the row group.  Every call, every history and `close` are
sequences of them (`step_moves`, `stateAfter_moves`, `closing_moves`), so an invariant of writer states is proved by
looking at the four record updates (`Moves.inv`) and not at `ensureHeader`, `ensureRowGroup`, `writeBatch`,
`flushRowGroup`, `step` again.  `run_eq`, `fileOf_eq`: a run is the calls one after the other, then close.
-/
namespace Carquet.Proofs.Writer
open Carquet.Impl.Writer
open Carquet.Impl.WriterSink (commitRowGroup)

/-! ### the two calls -/

/-- the ways `flush_row_group` can go: no row group open; a page could not be finalised; the row group is committed -/
theorem flushRowGroup_cases (D : Deps) (w : W) :
    (w.rg = none ∧ flushRowGroup D w = (w, .ok)) ∨
    (∃ cws, w.rg = some cws ∧ finalizeCols D w w.cols cws w.fileOffset = none ∧ flushRowGroup D w = (w, .other)) ∨
    ∃ cws bytes metas, w.rg = some cws ∧ finalizeCols D w w.cols cws w.fileOffset = some (bytes, metas) ∧
      flushRowGroup D w = (commitRowGroup D w cws bytes metas, .ok) := by
  unfold flushRowGroup
  cases hr : w.rg with
  | none => exact .inl ⟨rfl, rfl⟩
  | some cws =>
    simp only
    cases hf : finalizeCols D w w.cols cws w.fileOffset with
    | none => exact .inr (.inl ⟨cws, rfl, hf, rfl⟩)
    | some p => exact .inr (.inr ⟨cws, p.1, p.2, rfl, hf, rfl⟩)

/-- the ways `write_batch` can go: refused for its column index; the row group or the column writer is missing after
`ensure_row_group` (impossible when there is a column writer per column); the column writer could not take the batch;
or it took it -/
theorem writeBatch_cases (D : Deps) (w : W) (b : Batch) :
    (w.cols[b.col]? = none ∧ writeBatch D w b = (w, .invalidArgument)) ∨
    ((∀ cws, (ensureRowGroup (ensureHeader w)).rg = some cws → cws[b.col]? = none) ∧ writeBatch D w b = (w, .other)) ∨
    writeBatch D w b = (ensureRowGroup (ensureHeader w), .other) ∨
    ∃ c cws cw cw', w.cols[b.col]? = some c ∧ (ensureRowGroup (ensureHeader w)).rg = some cws ∧
      cws[b.col]? = some cw ∧ colWriteBatch D w.codec (targetPageSize w) c cw b = some cw' ∧
      writeBatch D w b = ({ ensureRowGroup (ensureHeader w) with
        rg := some (setAt cws b.col cw'),
        rgRows := (ensureRowGroup (ensureHeader w)).rgRows + (if b.col = 0 then batchRows c b else 0) }, .ok) := by
  unfold writeBatch
  cases hc : w.cols[b.col]? with
  | none => exact .inl ⟨rfl, rfl⟩
  | some c =>
    simp only
    cases hrg : (ensureRowGroup (ensureHeader w)).rg with
    | none => exact .inr (.inl ⟨nofun, rfl⟩)
    | some cws =>
      simp only
      cases hcw : cws[b.col]? with
      | none => exact .inr (.inl ⟨fun _ h => Option.some.inj h ▸ hcw, rfl⟩)
      | some cw =>
        simp only
        cases hcb : colWriteBatch D w.codec (targetPageSize w) c cw b with
        | none => exact .inr (.inr (.inl rfl))
        | some cw' => exact .inr (.inr (.inr ⟨c, cws, cw, cw', rfl, rfl, hcw, hcb, rfl⟩))

theorem ensureRowGroup_header (w : W) : (ensureRowGroup w).headerWritten = w.headerWritten := by
  unfold ensureRowGroup; cases w.rg <;> rfl

/-! ### the column writer -/

/-- `flush_current_page` on a page that is not empty and compresses: the page record is appended, in the terms of
`PageRec` (`bytes`, `usize`) -/
def cutPage (D : Deps) (codec : Nat) (c : Col) (cw : ColW) : ColW :=
  { cw with page := {}, buffer := cw.buffer ++ (pageRecOf D codec c cw.page).bytes D,
            totalUncompressed := cw.totalUncompressed + (pageRecOf D codec c cw.page).usize D,
            numPages := cw.numPages + 1, pages := cw.pages ++ [pageRecOf D codec c cw.page] }

theorem flushPage_cases (D : Deps) (codec : Nat) (c : Col) (cw : ColW) :
    (cw.page.numValues = 0 ∧ flushPage D codec c cw = some cw) ∨ flushPage D codec c cw = none ∨
    (cw.page.numValues ≠ 0 ∧ D.compress codec (pageBody D c cw.page) = some (pageRecOf D codec c cw.page).comp ∧
      flushPage D codec c cw = some (cutPage D codec c cw)) := by
  unfold flushPage
  by_cases h0 : cw.page.numValues = 0
  · exact .inl ⟨h0, if_pos h0⟩
  · rw [if_neg h0]
    unfold finalizePage
    cases hc : D.compress codec (pageBody D c cw.page) with
    | none => exact .inr (.inl rfl)
    | some comp =>
      refine .inr (.inr ⟨h0, by simp [pageRecOf, hc], ?_⟩)
      -- `page_size - compressed_size` is the length of the header
      simp only [cutPage, pageRecOf, hc, PageRec.bytes, PageRec.usize, PageRec.header, Option.getD_some,
        List.length_append, Nat.add_sub_cancel]

/-- the column writer after `add_values` -/
def addBatch (D : Deps) (c : Col) (cw : ColW) (b : Batch) : ColW :=
  { cw with page := addValues D c cw.page b, totalValues := cw.totalValues + b.nrows }

theorem colWriteBatch_cases (D : Deps) (codec target : Nat) (c : Col) (cw : ColW) (b : Batch) :
    colWriteBatch D codec target c cw b = some (addBatch D c cw b) ∨
    colWriteBatch D codec target c cw b = flushPage D codec c (addBatch D c cw b) := by
  unfold colWriteBatch
  split
  · exact .inr rfl
  · exact .inl rfl

/-! ### the four moves -/

/-- the elementary state changes of the file writer: `ensure_header_written` writes the magic; `ensure_row_group`
opens a row group; a column writer takes a batch (`carquet_column_writer_write_batch` returned OK); `flush_row_group`
commits the finalised row group.  `B` is what is known of the batches taken. -/
inductive Move (D : Deps) (B : Col → Batch → Prop) : W → W → Prop
  | header {w : W} : w.headerWritten = false →
      Move D B w { w with out := w.out ++ [magic], fileOffset := 4, headerWritten := true }
  | openRg {w : W} : w.rg = none →
      Move D B w { w with rg := some (w.cols.map (fun _ => ({} : ColW))), rgRows := 0 }
  | batch {w : W} {c : Col} {cws : List ColW} {cw cw' : ColW} {b : Batch} :
      w.cols[b.col]? = some c → B c b → w.rg = some cws → cws[b.col]? = some cw →
      colWriteBatch D w.codec (targetPageSize w) c cw b = some cw' →
      Move D B w { w with rg := some (setAt cws b.col cw'),
                          rgRows := w.rgRows + (if b.col = 0 then batchRows c b else 0) }
  | commit {w : W} {cws : List ColW} {bytes : Bytes} {metas : List ChunkMeta} :
      w.headerWritten = true → w.rg = some cws → finalizeCols D w w.cols cws w.fileOffset = some (bytes, metas) →
      Move D B w (commitRowGroup D w cws bytes metas)

/-- a sequence of moves -/
inductive Moves (D : Deps) (B : Col → Batch → Prop) : W → W → Prop
  | refl {w : W} : Moves D B w w
  | tail {w w' w'' : W} : Moves D B w w' → Move D B w' w'' → Moves D B w w''

variable {D : Deps} {B : Col → Batch → Prop}

theorem Moves.trans {w w' w'' : W} (h : Moves D B w w') (h' : Moves D B w' w'') : Moves D B w w'' := by
  induction h' with
  | refl => exact h
  | tail _ m ih => exact ih.tail m

/-- what the four moves keep, every sequence of them keeps -/
theorem Moves.inv {P : W → Prop} (hP : ∀ w w', Move D B w w' → P w → P w') {w w' : W} (h : Moves D B w w')
    (h0 : P w) : P w' := by
  induction h with
  | refl => exact h0
  | tail _ m ih => exact hP _ _ m ih

/-- the schema and the options stay -/
theorem Move.params {w w' : W} (h : Move D B w w') :
    w'.cols = w.cols ∧ w'.codec = w.codec ∧ w'.pageSize = w.pageSize ∧ w'.createdBy = w.createdBy := by
  cases h <;> exact ⟨rfl, rfl, rfl, rfl⟩

theorem Moves.params {w w' : W} (h : Moves D B w w') :
    w'.cols = w.cols ∧ w'.codec = w.codec ∧ w'.pageSize = w.pageSize ∧ w'.createdBy = w.createdBy :=
  h.inv (P := fun v => v.cols = w.cols ∧ v.codec = w.codec ∧ v.pageSize = w.pageSize ∧ v.createdBy = w.createdBy)
    (fun _ _ m p => ⟨m.params.1.trans p.1, m.params.2.1.trans p.2.1, m.params.2.2.1.trans p.2.2.1,
      m.params.2.2.2.trans p.2.2.2⟩) ⟨rfl, rfl, rfl, rfl⟩

theorem ensureHeader_header (w : W) : (ensureHeader w).headerWritten = true := by
  unfold ensureHeader
  cases h : w.headerWritten <;> simp [h]

theorem ensureHeader_moves (w : W) : Moves D B w (ensureHeader w) := by
  unfold ensureHeader
  cases h : w.headerWritten with
  | true => exact .refl
  | false => exact Moves.refl.tail (.header h)

theorem ensureRowGroup_moves (w : W) : Moves D B w (ensureRowGroup w) := by
  unfold ensureRowGroup
  cases h : w.rg with
  | some _ => exact .refl
  | none => exact Moves.refl.tail (.openRg h)

theorem flushRowGroup_moves (w : W) (hh : w.headerWritten = true) : Moves D B w (flushRowGroup D w).1 := by
  rcases flushRowGroup_cases D w with ⟨-, e⟩ | ⟨_, -, -, e⟩ | ⟨cws, bytes, metas, hr, hf, e⟩ <;> rw [e]
  · exact .refl
  · exact .refl
  · exact Moves.refl.tail (.commit hh hr hf)

theorem writeBatch_moves (w : W) (b : Batch) (hB : ∀ c, w.cols[b.col]? = some c → B c b) :
    Moves D B w (writeBatch D w b).1 := by
  have hR : Moves D B w (ensureRowGroup (ensureHeader w)) := (ensureHeader_moves w).trans (ensureRowGroup_moves _)
  rcases writeBatch_cases D w b with ⟨-, e⟩ | ⟨-, e⟩ | e | ⟨c, cws, cw, cw', hc, hrg, hcw, hcb, e⟩ <;> rw [e]
  · exact .refl
  · exact .refl
  · exact hR
  · obtain ⟨p1, p2, p3, -⟩ := hR.params
    refine hR.tail (.batch (p1 ▸ hc) (hB c hc) hrg hcw ?_)
    rw [p2, targetPageSize, p3]; exact hcb

theorem step_moves (w : W) (op : Op) (hB : ∀ b, op = .batch b → ∀ c, w.cols[b.col]? = some c → B c b) :
    Moves D B w (step D w op).1 := by
  cases op with
  | batch b => exact writeBatch_moves w b (hB b rfl)
  | newRowGroup => exact (ensureHeader_moves w).trans (flushRowGroup_moves _ (ensureHeader_header w))


end Carquet.Proofs.Writer

namespace Carquet.Proofs.WriterLayout
open Carquet.Impl.Writer

def stateAfter (D : Deps) (w : W) (ops : List Op) : W := ops.foldl (fun w op => (step D w op).1) w

/-- the state whose footer `close` writes -/
def closing (D : Deps) (w : W) : W := (flushRowGroup D (ensureHeader w)).1

end Carquet.Proofs.WriterLayout

namespace Carquet.Proofs.Writer
open Carquet.Impl.Writer Carquet.Proofs.WriterLayout

variable {D : Deps} {B : Col → Batch → Prop}

/-! ### histories and close -/

theorem stateAfter_moves : ∀ (ops : List Op) (w : W),
    (∀ b, Op.batch b ∈ ops → ∀ c, w.cols[b.col]? = some c → B c b) → Moves D B w (stateAfter D w ops) := by
  intro ops
  induction ops with
  | nil => intro w _; exact .refl
  | cons op ops ih =>
    intro w hB
    have hs : Moves D B w (step D w op).1 := step_moves w op (fun b hb c hc => hB b (by simp [hb]) c hc)
    exact hs.trans (ih _ (fun b hb c hc => hB b (List.mem_cons_of_mem _ hb) c (hs.params.1 ▸ hc)))

theorem closing_moves (w : W) : Moves D B w (closing D w) :=
  (ensureHeader_moves w).trans (flushRowGroup_moves _ (ensureHeader_header w))

theorem closing_header (D : Deps) (w : W) : (closing D w).headerWritten = true := by
  unfold closing
  rcases flushRowGroup_cases D (ensureHeader w) with ⟨-, e⟩ | ⟨_, -, -, e⟩ | ⟨_, _, _, -, -, e⟩ <;> rw [e] <;>
    exact ensureHeader_header w

theorem close_status (D : Deps) (w : W) : (close D w).2 = (flushRowGroup D (ensureHeader w)).2 := by
  unfold close
  generalize flushRowGroup D (ensureHeader w) = r
  obtain ⟨w', st⟩ := r
  cases st <;> rfl

/-- the writes of a close that returns OK: those of the closing state, its footer, the footer's length, the magic -/
theorem close_writes (D : Deps) (w : W) (h : (close D w).2 = .ok) :
    (close D w).1 = (closing D w).out ++ [footerOf D (closing D w), le32 (footerOf D (closing D w)).length, magic] := by
  unfold close closing at *
  generalize flushRowGroup D (ensureHeader w) = r at h
  obtain ⟨w', st⟩ := r
  cases st <;> first | rfl | cases h

/-- the statuses of the calls of a history -/
def stepStatuses (D : Deps) : W → List Op → List Status
  | _, [] => []
  | w, op :: ops => (step D w op).2 :: stepStatuses D (step D w op).1 ops

/-- `run` is: the calls one after the other, then close -/
theorem run_eq (D : Deps) : ∀ (ops : List Op) (w : W) (acc : List Status),
    run D w ops acc =
      ((close D (stateAfter D w ops)).1, acc ++ stepStatuses D w ops ++ [(close D (stateAfter D w ops)).2]) := by
  intro ops
  induction ops with
  | nil => intro w acc; simp [run, stepStatuses, stateAfter]
  | cons op ops ih => intro w acc; simp [run, stepStatuses, stateAfter, ih, List.append_assoc]

/-- the state `fileOf` starts from -/
abbrev init (cols : List Col) (codec pageSize : Nat) (createdBy : String) : W :=
  { cols := cols, codec := codec, pageSize := pageSize, createdBy := createdBy }

theorem fileOf_eq (D : Deps) (cols : List Col) (codec pageSize : Nat) (createdBy : String) (ops : List Op) :
    fileOf D cols codec pageSize createdBy ops =
      ((close D (stateAfter D (init cols codec pageSize createdBy) ops)).1.flatten,
       stepStatuses D (init cols codec pageSize createdBy) ops ++
         [(close D (stateAfter D (init cols codec pageSize createdBy) ops)).2]) := by
  simp [fileOf, writesOf, run_eq]

theorem fileOf_last_ok (D : Deps) (cols : List Col) (codec pageSize : Nat) (createdBy : String) (ops : List Op)
    (hok : ∀ s ∈ (fileOf D cols codec pageSize createdBy ops).2, s = .ok) :
    (fileOf D cols codec pageSize createdBy ops).2.getLast? = some .ok := by
  rw [fileOf_eq] at hok ⊢
  simp [hok _ (List.mem_append_right _ List.mem_cons_self)]

end Carquet.Proofs.Writer
