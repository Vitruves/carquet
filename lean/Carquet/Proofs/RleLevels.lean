import Carquet.Proofs.RleGrammar
import Carquet.Proofs.RleLevelsIter
/-
The separate fast path `carquet_rle_decode_levels` on legal streams: it returns the first `n` values
as int16, provided they are below 2^15 (where the saturating and the truncating conversion it mixes
agree) — for every loop that iterates `iter` and stops only where a legal stream never makes it stop.
-/
namespace Carquet.Proofs.RleLevels
open Carquet.Impl Carquet.Impl.Rle Carquet.Spec Carquet.Spec.RleHybrid
open Carquet.Proofs.NatBits Carquet.Proofs.BitpackImpl Carquet.Proofs.BitPackSpec Carquet.Proofs.RleGrammar

theorem truncI16_small {v : Nat} (h : v < 32768) : truncI16 v = Int.ofNat v := by
  unfold truncI16
  have : v % 65536 = v := Nat.mod_eq_of_lt (by omega)
  rw [this, if_pos h]; rfl

theorem satI16_small {v : Nat} (h : v < 32768) : satI16 v = Int.ofNat v := by
  unfold satI16
  have : v % 4294967296 = v := Nat.mod_eq_of_lt (by omega)
  rw [this, if_pos (by omega), if_neg (by omega)]; rfl

theorem storeGroup_small (temp : List Nat) (want : Nat) (hlen : temp.length = 8)
    (h : ∀ v ∈ temp.take want, v < 32768) :
    storeGroup temp want = (temp.take want).map Int.ofNat := by
  unfold storeGroup
  by_cases h8 : want ≥ 8
  · rw [if_pos h8]
    have ht : temp.take want = temp := List.take_of_length_le (by omega)
    rw [ht] at h ⊢
    exact List.map_congr_left (fun v hv => satI16_small (h v hv))
  · rw [if_neg h8]
    exact List.map_congr_left (fun v hv => truncI16_small (h v hv))

/-- the `for` loop over the groups of a complete bit-packed run: no group is cut short -/
theorem levelsGroups_spec {w : Nat} (hw : w ≤ 32) : ∀ (g : Nat) (data rest : List UInt8) (want : Nat),
    data.length = g * w →
    (∀ v ∈ (Bitpack.unpackGroups w g data).take want, v < 32768) →
    (levelsGroups w g (data ++ rest) want).1 = ((Bitpack.unpackGroups w g data).take want).map Int.ofNat ∧
    (8 * g ≤ want → (levelsGroups w g (data ++ rest) want).2 = rest) ∧
    groupsCut w g (data ++ rest) want = false := by
  intro g
  induction g with
  | zero =>
    intro data rest want hlen _
    have : data = [] := List.eq_nil_of_length_eq_zero (by simpa using hlen)
    subst this
    exact ⟨by rw [Bitpack.unpackGroups, List.take_nil]; rfl, fun _ => rfl, rfl⟩
  | succ g ih =>
    intro data rest want hlen hsmall
    obtain ⟨hnot, hdrop, hu, hlen'⟩ := first_group hw hlen rest
    rw [levelsGroups, groupsCut]
    by_cases h0 : want = 0
    · subst h0
      exact ⟨rfl, fun h => by omega, rfl⟩
    rw [if_neg h0, if_neg h0, if_neg hnot, if_neg hnot, hdrop, hu, sub_min]
    have hl8 : (Bitpack.unpack8 w data).length = 8 := unpack8_length hw data
    simp only [Bitpack.unpackGroups, List.take_append, hl8] at hsmall ⊢
    obtain ⟨i1, i2, i3⟩ := ih (data.drop w) rest (want - 8) hlen'
      (fun v hv => hsmall v (List.mem_append_right _ hv))
    refine ⟨?_, fun h8 => i2 (by omega), i3⟩
    rw [i1, storeGroup_small _ want hl8 (fun v hv => hsmall v (List.mem_append_left _ hv)), List.map_append]

theorem iter_rle {w : Nat} (hw : w ≤ 32) {hdr : List UInt8} {cnt v : Nat} (hh : IsHeader hdr (2 * cnt))
    (hv : v < 2 ^ w) (rest : List UInt8) (n : Nat) :
    iter w (hdr ++ RleHybrid.leBytes (RleHybrid.valueBytes w) v ++ rest) n =
      ⟨List.replicate (min cnt n) (truncI16 v), rest, false, false⟩ := by
  have hvb : (Bitpack.leBytes (Rle.valueBytes w) v).length = Rle.valueBytes w := leBytes_length _ _
  unfold iter
  rw [List.append_assoc, VarintImpl.readHeaderLevels_of_readVarintRle (read_header hh _)]
  unfold iterOf
  rw [if_pos (two_mul_and_one cnt), two_mul_shr, spec_leBytes_eq, valueBytes_eq,
    if_neg (by rw [List.length_append, hvb]; omega), rle_value_read hw hv, List.drop_left' hvb]

theorem iter_packed {w : Nat} (hw : w ≤ 32) {hdr : List UInt8} {g : Nat} {data : List UInt8}
    (hh : IsHeader hdr (2 * g + 1)) (hlen : data.length = g * w) (rest : List UInt8) (n : Nat)
    (hsmall : ∀ v ∈ (Bitpack.unpackGroups w g data).take n, v < 32768) :
    (iter w (hdr ++ data ++ rest) n).vals = ((Bitpack.unpackGroups w g data).take n).map Int.ofNat ∧
    (8 * g ≤ n → (iter w (hdr ++ data ++ rest) n).rest = rest) ∧
    (iter w (hdr ++ data ++ rest) n).short = false ∧ (iter w (hdr ++ data ++ rest) n).cut = false := by
  unfold iter
  rw [List.append_assoc, VarintImpl.readHeaderLevels_of_readVarintRle (read_header hh _)]
  unfold iterOf
  rw [if_neg (two_mul_add_and_one g), two_mul_add_shr]
  obtain ⟨l1, l2, l3⟩ := levelsGroups_spec hw g data rest n hlen hsmall
  exact ⟨l1, l2, rfl, l3⟩

/-- a loop that iterates `iter` and stops only at missing value bytes or a cut group delivers, from a
legal stream, the first `n` values -/
theorem complete_of_iter {w : Nat} (hw : w ≤ 32) {L : Nat → List UInt8 → Nat → List Int} {stop : Iter → Bool}
    (hL : ∀ f bs want, L (f + 1) bs want =
      if want = 0 then [] else if bs.length = 0 then []
      else if stop (iter w bs want) then (iter w bs want).vals
      else (iter w bs want).vals ++ L f (iter w bs want).rest (want - (iter w bs want).vals.length))
    (hstop : ∀ s : Iter, s.short = false → s.cut = false → stop s = false)
    {bs : List UInt8} {xs : List Nat} (h : Runs w bs xs) :
    ∀ (f n : Nat), bs.length < f → n ≤ xs.length → (∀ v ∈ xs.take n, v < 32768) →
      L f bs n = (xs.take n).map Int.ofNat := by
  have hzero : ∀ f bs, L (f + 1) bs 0 = [] := fun f bs => by rw [hL, if_pos rfl]
  have hgo : ∀ {s : Iter}, s.short = false → s.cut = false → ¬ stop s = true := fun h1 h2 => by
    rw [hstop _ h1 h2]; exact Bool.false_ne_true
  induction h with
  | nil =>
    intro f n hf hn _
    obtain ⟨f, rfl⟩ := Nat.exists_eq_add_one_of_ne_zero (Nat.ne_zero_of_lt hf)
    rw [Nat.le_zero.mp hn, hzero]; rfl
  | rle hdr cnt v rest vals hh hv _ ih =>
    intro f n hf hn hsmall
    obtain ⟨f, rfl⟩ := Nat.exists_eq_add_one_of_ne_zero (Nat.ne_zero_of_lt hf)
    by_cases hn0 : n = 0
    · rw [hn0, hzero]; rfl
    rw [List.length_append, List.length_replicate] at hn
    rw [take_run, List.length_replicate, List.take_replicate, Nat.min_eq_left (Nat.min_le_left _ _)] at hsmall ⊢
    rw [hL, if_neg hn0, if_neg (mt List.eq_nil_of_length_eq_zero (header_append_ne_nil hh _ _)), iter_rle hw hh hv,
      if_neg (hgo rfl rfl)]
    simp only [List.length_replicate]
    rw [ih f _ (rest_lt_of_header hh _ _ hf) (sub_min_le hn) (fun x hx => hsmall x (List.mem_append_right _ hx)),
      List.map_append, List.map_replicate]
    cases hk : min cnt n with
    | zero => rfl
    | succ k =>
      rw [hk] at hsmall
      rw [truncI16_small (hsmall v (List.mem_append_left _ (List.mem_replicate.mpr ⟨Nat.succ_ne_zero k, rfl⟩)))]
  | packed hdr g data xs rest vals hh hlen hu _ ih =>
    intro f n hf hn hsmall
    obtain ⟨f, rfl⟩ := Nat.exists_eq_add_one_of_ne_zero (Nat.ne_zero_of_lt hf)
    by_cases hn0 : n = 0
    · rw [hn0, hzero]; rfl
    rw [unpackGroups_eq_spec hw g data hlen] at hu
    cases hu
    have hxl := unpackGroups_length hw g data
    rw [List.length_append, hxl] at hn
    rw [take_run, hxl, ← List.take_take, List.take_of_length_le (l := List.take n _)
      (by rw [List.length_take, hxl]; exact Nat.min_le_right _ _)] at hsmall ⊢
    obtain ⟨i1, i2, i3, i4⟩ := iter_packed hw hh hlen rest n (fun v hv => hsmall v (List.mem_append_left _ hv))
    rw [hL, if_neg hn0, if_neg (mt List.eq_nil_of_length_eq_zero (header_append_ne_nil hh _ _)),
      if_neg (hgo i3 i4), i1, List.length_map, List.length_take, hxl, List.map_append, Nat.min_comm]
    congr 1
    by_cases hfull : 8 * g ≤ n
    · rw [i2 hfull]
      exact ih f _ (rest_lt_of_header hh _ _ hf) (sub_min_le hn)
        (fun v hv => hsmall v (List.mem_append_right _ hv))
    · have hf' := rest_lt_of_header hh _ _ hf
      obtain ⟨f, rfl⟩ := Nat.exists_eq_add_one_of_ne_zero (Nat.ne_zero_of_lt hf')
      rw [Nat.min_eq_right (Nat.le_of_lt (Nat.not_le.mp hfull)), Nat.sub_self, hzero]; rfl

/-- **`carquet_rle_decode_levels` before repair F58 on a legal stream** -/
theorem decodeLevelsPreF58_of_runs {w : Nat} (hw : w ≤ 32) {bs : List UInt8} {xs : List Nat} (h : Runs w bs xs)
    (n : Nat) (hn : n ≤ xs.length) (hsmall : ∀ v ∈ xs.take n, v < 32768) :
    decodeLevelsPreF58 w bs n = (xs.take n).map Int.ofNat :=
  complete_of_iter hw (stop := Iter.short) (levelsLoopPreF58_succ w) (fun _ h _ => h) h
    (bs.length + 1) n (Nat.lt_succ_self _) hn hsmall

end Carquet.Proofs.RleLevels
