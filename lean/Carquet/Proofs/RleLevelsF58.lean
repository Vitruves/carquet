import Carquet.Proofs.RleLevels
/-
`carquet_rle_decode_levels` after repair F58 (`Impl.Rle.levelsLoop`: a bit-packed group that is cut
short ends the decoding) on legal streams: in a legal stream no group is cut short, so the repaired
loop too is an instance of `RleLevels.complete_of_iter`.  `RleLevels.decodeLevels_of_runs` below is
the statement C11 and C12 use.
-/
namespace Carquet.Proofs.RleLevels
open Carquet.Impl Carquet.Impl.Rle Carquet.Spec Carquet.Spec.RleHybrid
open Carquet.Proofs.NatBits Carquet.Proofs.BitpackImpl Carquet.Proofs.BitPackSpec Carquet.Proofs.RleGrammar

/-- the repaired fast path on a legal stream: the first `n` values as int16 (provided they are
below 2^15) -/
theorem decodeLevels_of_runs {w : Nat} (hw : w ≤ 32) {bs : List UInt8} {xs : List Nat} (h : Runs w bs xs)
    (n : Nat) (hn : n ≤ xs.length) (hsmall : ∀ v ∈ xs.take n, v < 32768) :
    decodeLevels w bs n = (xs.take n).map Int.ofNat := by
  unfold decodeLevels
  rw [if_pos (show w ≤ maxWidth from hw)]
  exact complete_of_iter hw (stop := fun s => s.short || s.cut) (levelsLoop_succ w)
    (fun _ h1 h2 => by rw [h1, h2]; rfl) h (bs.length + 1) n (Nat.lt_succ_self _) hn hsmall

end Carquet.Proofs.RleLevels
