import Carquet.Proofs.ImplReadsWalk
import Carquet.Proofs.ImplReadsFooter
import Carquet.Proofs.ImplReadsSchema
import Carquet.Proofs.RoundtripOpen
/-
C06, implementation half — the whole file: `carquet_reader_open*` (envelope, footer, schema),
`carquet_reader_get_column` for every cell, one complete read per chunk, the loops over columns and row
groups — `Impl.Reader.readAll` on the file of the reference writer returns `readerTableOfSpec t`.
-/
namespace Carquet.Proofs.ImplReads
open Carquet.Spec Carquet.Spec.File Carquet.Spec.Thrift Carquet.Spec.ParquetThrift
open Carquet.Impl
open Carquet.Impl.Reader hiding Bytes
open Carquet.Proofs.SpecFile (ChunkAdm CcDesc RgDesc2 chunkDesc fmFields2 statsFieldsOf LayoutAdm layoutAdm_iff)
open Carquet.Proofs.Cursor (ResOk)
open Carquet.Impl.Reader.Claim (zipWith3)

/-! ### index-wise reading of the decidable claims -/

theorem zipWith3_all {α β γ : Type} (f : α → β → γ → Bool) : ∀ (as : List α) (bs : List β) (cs : List γ),
    (zipWith3 f as bs cs).all id = true →
    ∀ (j : Nat) (a : α) (b : β) (c : γ), as[j]? = some a → bs[j]? = some b → cs[j]? = some c → f a b c = true
  | [], _, _, _, j, a, _, _, h, _, _ => by simp at h
  | _ :: _, [], _, _, j, _, b, _, _, h, _ => by simp at h
  | _ :: _, _ :: _, [], _, j, _, _, c, _, _, h => by simp at h
  | x :: as, y :: bs, z :: cs, hall, j, a, b, c, h1, h2, h3 => by
    simp only [zipWith3, List.all_cons, Bool.and_eq_true, id] at hall
    cases j with
    | zero =>
      simp only [List.getElem?_cons_zero, Option.some.injEq] at h1 h2 h3
      subst h1 h2 h3
      exact hall.1
    | succ j =>
      simp only [List.getElem?_cons_succ] at h1 h2 h3
      exact zipWith3_all f as bs cs hall.2 j a b c h1 h2 h3

theorem zipWith_all {α β : Type} (f : α → β → Bool) : ∀ (as : List α) (bs : List β),
    (List.zipWith f as bs).all id = true → ∀ (i : Nat) (a : α) (b : β), as[i]? = some a → bs[i]? = some b → f a b = true
  | [], _, _, i, a, _, h, _ => by simp at h
  | _ :: _, [], _, i, _, b, _, h => by simp at h
  | x :: as, y :: bs, hall, i, a, b, h1, h2 => by
    simp only [List.zipWith_cons_cons, List.all_cons, Bool.and_eq_true, id] at hall
    cases i with
    | zero =>
      simp only [List.getElem?_cons_zero, Option.some.injEq] at h1 h2
      subst h1 h2
      exact hall.1
    | succ i =>
      simp only [List.getElem?_cons_succ] at h1 h2
      exact zipWith_all f as bs hall.2 i a b h1 h2

theorem chunkClaim_of (mode : Mode) (leaf : LeafInfo) (cl : ChunkLayout) (es : Chunk) (hadm : ChunkAdm cl)
    (hflba : leaf.ptype = .flba → 0 < leaf.typeLength)
    (h : chunkClaimed (decide (mode = .fread)) leaf cl es = true) :
    ChunkClaim mode leaf cl es ∧ leaf.path.length ≤ 100 ∧ (usedEncodings cl).length ≤ 100 := by
  unfold Carquet.Impl.Reader.Claim.chunkClaimed at h
  simp only [Bool.and_eq_true, decide_eq_true_eq, Bool.or_eq_true, Bool.not_eq_true', decide_eq_false_iff_not] at h
  obtain ⟨⟨⟨⟨⟨⟨h1, h3⟩, h4⟩, h5⟩, h6⟩, h7⟩, h8⟩ := h
  refine ⟨⟨hadm, h1, ?_, ⟨hflba, h4, h5⟩, ?_⟩, h6, h7⟩
  · intro hd
    rcases h3 with h3 | h3
    · cases hdd : cl.dict with
      | none => rw [hdd] at hd; cases hd
      | some x => rw [hdd] at h3; cases h3
    · simpa using h3
  · intro hm
    rcases h8 with h8 | h8
    · exact absurd hm h8
    · exact h8

/-! ### get_column -/

theorem getColumn_written (o : Opened) (gs : List RgDesc2) (els : List Schema.Element)
    (hrg : o.md.rowGroups = gs.map implRG) (hsch : o.md.schema = els.map implSE)
    (i j : Nat) (rd : RgDesc2) (d : CcDesc) (lf : Schema.Leaf) (leaf : LeafInfo)
    (hi : gs[i]? = some rd) (hj : rd.chunks[j]? = some d) (hlf : o.leaves[j]? = some lf)
    (hmd : lf.maxDef = leaf.maxDef) (hmr : lf.maxRep = leaf.maxRep)
    (hel : ∃ el, (els.map implSE)[lf.elemIdx]? = some el ∧ el.type = some (ptypeCode leaf.ptype : Int) ∧
      el.typeLength = (leaf.typeLength : Int) ∧ (leaf.ptype = .flba → 0 < leaf.typeLength))
    (hpt : d.m.ptype = ptypeCode leaf.ptype) :
    getColumn o (i : Int) (j : Int) = .ok (colOfLeaf leaf (implCM d.m d.stats)) := by
  obtain ⟨el, hel1, hel2, hel3, hel4⟩ := hel
  have hilt : i < gs.length := (List.getElem?_eq_some_iff.mp hi).1
  have hjlt : j < o.leaves.length := (List.getElem?_eq_some_iff.mp hlf).1
  have hjlt2 : j < rd.chunks.length := (List.getElem?_eq_some_iff.mp hj).1
  have hg : o.md.rowGroups[i]? = some (implRG rd) := by rw [hrg, List.getElem?_map, hi]; rfl
  have hch : (implRG rd).columns[j]? = some (implCC d) := by simp only [implRG, List.getElem?_map, hj]; rfl
  unfold getColumn
  rw [if_neg (by rw [hrg, List.length_map]; omega), if_neg (by omega)]
  simp only [Int.toNat_natCast, hg, hlf]
  rw [if_neg (by simp only [implRG, List.length_map]; omega)]
  simp only [hch, implCC]
  rw [hsch, hel1]
  simp only
  have hmis : chunkMismatch (implCM d.m d.stats) el = false := by
    unfold chunkMismatch
    simp only [hel2, hel3, implCM, hpt, Option.isNone_some, Bool.false_or, ne_eq, not_true_eq_false, decide_false,
      Bool.or_eq_false_iff, Bool.and_eq_false_iff, decide_eq_false_iff_not]
    refine ⟨?_, by omega⟩
    by_cases h7 : (ptypeCode leaf.ptype : Int) = 7
    · right
      have := hel4 (ptypeCode_flba _ h7)
      omega
    · left
      intro h; exact h7 (by simpa using h)
  rw [hmis]
  simp only [Bool.false_eq_true, if_false, colOfLeaf, hmd, hmr, hel3]
  congr 1
  simp [implCM, hpt]

/-! ### one cell -/

/-- **one cell of the file, read completely** by the single `read_batch` of `num_values` entries, with or
without level arrays: every entry comes back -/
theorem cell_read (L : Libs) (verify : Bool) (mode : Mode) (data tail : Bytes) (oracle : Oracle) (leaf : LeafInfo)
    (cl : ChunkLayout) (es : Chunk) (d : CcDesc) (hcell : CellOf data 4 oracle leaf cl es d)
    (hclaim : ChunkClaim mode leaf cl es) (hlen : (File.magic ++ data ++ tail).length < 2 ^ 31) (hes : es.length < 2 ^ 31)
    (hL : LibsDecode L oracle) (htail : 8 ≤ tail.length) (wd wr : Bool) :
    ∃ rows, ResOk wd wr es.length
        (ColumnReader.readBatch ColumnReader.Fixes.all
          (ColumnReader.getColumn (chunkOf Fixes.all L verify mode (File.magic ++ data ++ tail) (colOfLeaf leaf (implCM d.m d.stats))))
          (colOfLeaf leaf (implCM d.m d.stats)).cm.numValues wd wr).2 rows ∧
      rows.map (·.defLevel) = es.map (·.dl) ∧ rows.map (·.repLevel) = es.map (·.rep) ∧
      rows.filterMap (·.val) = es.filterMap (·.val) ∧ rows.length = es.length ∧
      ∀ row ∈ rows, Carquet.Spec.Cursor.Row.WF leaf.maxDef row := by
  obtain ⟨posj, c, a, b, dp, pages, h1, h2, h3, h4, h5, h6, h7⟩ := hcell
  subst h4
  have hfile : File.magic ++ data ++ tail = (File.magic ++ a) ++ c.bytes ++ (b ++ tail) := by
    rw [h2]; simp [List.append_assoc]
  have hml : File.magic.length = 4 := rfl
  rw [hfile] at hlen ⊢
  have hlen' := hlen
  simp only [List.length_append, hml] at hlen'
  refine chunk_read L verify mode leaf cl es posj c _ h1 hclaim ?_ ?_ ?_ ?_ (File.magic ++ a) (b ++ tail) ?_ ?_ ?_ h7 hes ?_ ?_ wd wr
  · simp [implCM, chunkDesc]
  · simp [implCM, chunkDesc]
  · simp only [implCM, chunkDesc]
    cases cl.dict with
    | none => rfl
    | some dl => cases hop : dl.offsetPresent <;> simp [hop]
  · intro hno
    simp only [implCM, chunkDesc]
    cases hd : cl.dict with
    | none => rfl
    | some dl => simp [hno dl hd]
  · simp only [List.length_append, hml]; omega
  · simp only [List.length_append]; omega
  · omega
  · omega
  · exact hL.mono h6

/-! ### the loops -/

theorem getElem?_of_lt {α : Type} (l : List α) (n : Nat) (h : n < l.length) : ∃ x, l[n]? = some x :=
  ⟨l[n], List.getElem?_eq_getElem h⟩

/-- everything the loops need to know about the opened file -/
structure Opening (L : Libs) (verify : Bool) (mode : Mode) (file : Bytes) (o : Opened) (leaves : List LeafInfo)
    (groups : List RowGroup) : Prop where
  numColumns : o.numColumns = leaves.length
  numRowGroups : o.numRowGroups = groups.length
  chunks : ∀ g ∈ groups, g.chunks.length = leaves.length
  cell : ∀ (i j : Nat) (g : RowGroup) (es : Chunk), groups[i]? = some g → g.chunks[j]? = some es →
    ∃ (leaf : LeafInfo) (cm : ThriftParquet.ColumnMetaData), getColumn o (i : Int) (j : Int) = .ok (colOfLeaf leaf cm) ∧
      ∀ wd wr, ∃ rows, ResOk wd wr es.length
        (ColumnReader.readBatch ColumnReader.Fixes.all
          (ColumnReader.getColumn (chunkOf Fixes.all L verify mode file (colOfLeaf leaf cm)))
          (colOfLeaf leaf cm).cm.numValues wd wr).2 rows ∧
        rows.map (·.defLevel) = es.map (·.dl) ∧ rows.map (·.repLevel) = es.map (·.rep) ∧
        rows.filterMap (·.val) = es.filterMap (·.val) ∧ rows.length = es.length ∧
        (colOfLeaf leaf cm).cm.numValues = (es.length : Int) ∧
        ∀ row ∈ rows, Carquet.Spec.Cursor.Row.WF leaf.maxDef row

section loops
variable (L : Libs) (verify : Bool) (mode : Mode) (file : Bytes) (o : Opened) (leaves : List LeafInfo) (groups : List RowGroup)
  (hop : Opening L verify mode file o leaves groups)
include hop

theorem readRowGroup_spec (i : Nat) (g : RowGroup) (hg : groups[i]? = some g) :
    ∀ n, n ≤ leaves.length →
      readRowGroup Fixes.all L verify mode file o i n = .ok ((g.chunks.map columnDataOfSpec).take n)
  | 0, _ => by simp [readRowGroup]
  | n + 1, hn => by
    have ih := readRowGroup_spec i g hg n (by omega)
    have hglen := hop.chunks g (List.mem_of_getElem? hg)
    obtain ⟨es, hes⟩ := getElem?_of_lt g.chunks n (by omega)
    obtain ⟨leaf, cm, hgc, hread⟩ := hop.cell i n g es hg hes
    obtain ⟨rows, hres, hd, _, hv, hlen, hnv, hwf⟩ := hread true false
    have hget : (g.chunks.map columnDataOfSpec)[n]? = some (columnDataOfSpec es) := by simp [List.getElem?_map, hes]
    rw [Lists.take_succ_of_get _ n _ hget]
    have hcd := Carquet.Proofs.Roundtrip.columnData_of_resOk leaf.maxDef es.length _ rows false hres hwf
    rw [hlen, hnv] at hcd
    unfold readRowGroup
    rw [ih]
    simp only [hgc]
    have hmd : (colOfLeaf leaf cm).maxDef = leaf.maxDef := rfl
    rw [hmd, hnv, hcd, hd, hv]
    rfl

theorem readRowGroups_spec :
    ∀ n, n ≤ groups.length →
      Reader.readRowGroups Fixes.all L verify mode file o n = .ok ((groups.map (fun g => g.chunks.map columnDataOfSpec)).take n)
  | 0, _ => by simp [Reader.readRowGroups]
  | n + 1, hn => by
    have ih := readRowGroups_spec n (by omega)
    obtain ⟨g, hg⟩ := getElem?_of_lt groups n (by omega)
    have hrg := readRowGroup_spec L verify mode file o leaves groups hop n g hg leaves.length (Nat.le_refl _)
    have hglen := hop.chunks g (List.mem_of_getElem? hg)
    rw [List.take_of_length_le (by simp [hglen])] at hrg
    have hget : (groups.map (fun g => g.chunks.map columnDataOfSpec))[n]? = some (g.chunks.map columnDataOfSpec) := by
      simp [List.getElem?_map, hg]
    rw [Lists.take_succ_of_get _ n _ hget]
    unfold Reader.readRowGroups
    rw [ih]
    simp only [hop.numColumns, hrg]

end loops

end Carquet.Proofs.ImplReads
