import Carquet.Proofs.ReaderPageRoundtrip
import Carquet.Proofs.ReaderHeaderReads
import Carquet.Proofs.ReaderModes
import Carquet.Proofs.ReaderCrc
import Carquet.Properties.C09.Snappy
import Carquet.Properties.C09.Lz4
import Carquet.Proofs.ReaderSteps
import Carquet.Proofs.ImplReadsPages
import Carquet.Proofs.CursorRun
import Carquet.Proofs.WriterDefs
import Carquet.Impl.ReaderTable
/-
The reader half of the write-then-read round trip at page and chunk level: a page as the writer
lays it out in a file (`PageRec.bytes`: hand-written header ++ stored body) is a described page of
Proofs/ImplReadsPages (`dataPageOk_of_rec`: its header parses whatever follows and lies inside the first
fread window, its checksum is right, its stored body decompresses to the page body, which decodes to
the page builder content it was made from).  Hence `load_next_page` — in every mode — returns exactly
that content (`loadPage_writerPage`), the pages of a chunk come out of the page iteration in order
(`chunkOf_writer`), and the rows they stand for (`writtenRows`) carry the levels and values of the
history (`writtenRows_content`).  Helper lemmas for C01_page_load_roundtrip, C01_chunk_pages_roundtrip,
C01_chunk_roundtrip.
-/
namespace Carquet.Proofs.ReaderChunkRoundtrip
open Carquet.Impl Carquet.Impl.Reader
open Carquet.Proofs.ReaderPageRoundtrip Carquet.Proofs.ReaderHeaderReads Carquet.Proofs.ReaderModes
open Carquet.Proofs.ReaderBounds Carquet.Proofs.ReaderPlain

abbrev D : Writer.Deps := FileReal.deps []

/-- the header the page writer puts in front of the stored body of record `r` -/
def hdrBytes (r : Writer.PageRec) : Reader.Bytes :=
  FileReal.pageHeader r.body.length r.comp.length (FileReal.crc32 r.comp) r.rows r.stats

theorem recBytes_eq (r : Writer.PageRec) : Writer.PageRec.bytes D r = hdrBytes r ++ r.comp := rfl

/-- What the reader needs of a page record of column `c` written with `codec` (all of it is
established by the writer theorems C05_pages_chain / C05_written_table, plus size bounds that
hold for every page that fits the C types). -/
structure RecOk (c : Writer.Col) (codec : Nat) (r : Writer.PageRec) : Prop where
  codecOk : codec = 0 ∨ codec = 1 ∨ codec = 5 ∨ codec = 7
  comp : FileReal.compress [] codec r.body = some r.comp
  body : r.body = Writer.pageBody D c r.src
  rows : r.rows = r.src.numValues
  shape : PageShape c r.src
  fits : HdrFits r.body.length r.comp.length (FileReal.crc32 r.comp) r.rows r.stats
  hdrShort : (hdrBytes r).length ≤ 256
  pos : 0 < r.rows

/-- The part of `RecOk` that does not depend on how the stored body was made: the record's body is
the page body of its content, the content has the page builder's shape, the header fields fit and
the header lies inside the first 256-byte window. -/
structure RecShape (c : Writer.Col) (r : Writer.PageRec) : Prop where
  body : r.body = Writer.pageBody D c r.src
  rows : r.rows = r.src.numValues
  shape : PageShape c r.src
  fits : HdrFits r.body.length r.comp.length (FileReal.crc32 r.comp) r.rows r.stats
  hdrShort : (hdrBytes r).length ≤ 256
  pos : 0 < r.rows

/-- The general form of `RecOk`, for ANY codec tag (GZIP and ZSTD included) and library behaviour
`L`: instead of "the stored body is `compress_data` of the body for one of the byte-exact codecs" it
asks for what the reader needs of it — the loaders' decompression step (`pageData`, with the
header's `uncompressed_page_size`) turns the stored body back into the body. -/
structure RecOkL (L : Libs) (c : Writer.Col) (codec : Nat) (r : Writer.PageRec) : Prop extends RecShape c r where
  stored : pageData L (codec : Int) r.comp r.body.length = .ok r.body

theorem RecOk.toShape {c : Writer.Col} {codec : Nat} {r : Writer.PageRec} (h : RecOk c codec r) : RecShape c r :=
  ⟨h.body, h.rows, h.shape, h.fits, h.hdrShort, h.pos⟩

/-- the decoded page a record stands for -/
def decodedOf (c : Writer.Col) (r : Writer.PageRec) : Decoded :=
  ⟨if c.maxDef > 0 then r.src.defs else List.replicate r.src.numValues 0,
   if c.maxRep > 0 then r.src.reps else List.replicate r.src.numValues 0, r.src.values⟩

theorem asI32_mod (x : Nat) (h : x < 2 ^ 32) : ((FileReal.asI32 x) % 4294967296).toNat = x := by
  unfold FileReal.asI32
  split <;> omega

theorem crc32_lt (x : Reader.Bytes) : FileReal.crc32 x < 2 ^ 32 := by
  unfold FileReal.crc32; exact (Crc32.crc32 x).isLt

/-- the header of record `r` as the loaders read it -/
def hdrOf (r : Writer.PageRec) : ThriftParquetReq.PageHdr × Nat :=
  (⟨0, r.body.length, r.comp.length, some (FileReal.asI32 (FileReal.crc32 r.comp)), r.rows, 0⟩, (hdrBytes r).length)

theorem header_parse (r : Writer.PageRec) (c : Writer.Col) (hr : RecShape c r) (rest : Reader.Bytes) :
    ThriftParquetReq.parsePageHeaderC (hdrBytes r ++ rest) = .ok (hdrOf r) :=
  parsePageHeaderC_pageWriter _ _ _ _ _ hr.fits rest

theorem stored_body_roundtrip (L : Libs) (codec : Nat) (body comp : Reader.Bytes)
    (hc : codec = 0 ∨ codec = 1 ∨ codec = 5 ∨ codec = 7) (hsz : body.length < 2 ^ 32)
    (hcomp : FileReal.compress [] codec body = some comp) :
    pageData L (codec : Int) comp body.length = .ok body := by
  rcases hc with rfl | rfl | rfl | rfl
  · simp only [FileReal.compress, Option.some.injEq] at hcomp
    subst hcomp
    simp [pageData]
  · simp only [FileReal.compress, Option.some.injEq] at hcomp
    subst hcomp
    simp only [pageData, decompressPage, Carquet.Properties.C09.C09_snappy_roundtrip body hsz, mapSnappy]
    simp
  -- LZ4 and LZ4_RAW are the same block format
  all_goals
    simp only [FileReal.compress] at hcomp
    split at hcomp
    · rename_i out hout
      cases hcomp
      simp only [pageData, decompressPage, Carquet.Properties.C09.C09_lz4_roundtrip body _ _ hout, mapLz4]
      simp
    · cases hcomp

theorem colValid_of_shape (c : Writer.Col) (cm : ThriftParquet.ColumnMetaData) (p : Writer.Page) (h : PageShape c p) :
    ColValid (colOf c cm) := by
  intro h7
  have hv := h.vals
  unfold ValsOk at hv
  cases hp : c.ptype <;> simp only [colOf, hp, Writer.PType.code] at h7 <;> try omega
  rw [hp] at hv
  simp only [colOf]
  exact_mod_cast hv.1

theorem decodedOf_defs_length (c : Writer.Col) (r : Writer.PageRec) (hr : RecShape c r) :
    (decodedOf c r).defs.length = r.rows := by
  unfold decodedOf
  simp only
  split
  · rename_i hd
    rw [(hr.shape.defsLen hd).1, hr.rows]
  · rw [List.length_replicate, hr.rows]

/-- the page of record `r` as the loaders meet it (Proofs/ImplReadsPages) -/
def rpageOf (r : Writer.PageRec) : ImplReads.RPage := ⟨hdrBytes r, r.comp, (hdrOf r).1⟩

/-- **a writer page is a described page**: header (inside the first fread window), checksum, stored body
and page body are what `DataPageOk` asks for, with the page-builder content as the decoded page -/
theorem dataPageOk_of_rec (L : Libs) (verify : Bool) (mode : Mode) (c : Writer.Col) (cm : ThriftParquet.ColumnMetaData)
    (codec : Nat) (dict : Option Dict) (r : Writer.PageRec) (hr : RecOkL L c codec r) (hcodec : cm.codec = (codec : Int)) :
    ImplReads.DataPageOk L verify mode (colOf c cm) dict (rpageOf r) (decodedOf c r) := by
  have hrows := decodedOf_defs_length c r hr.toRecShape
  refine ⟨⟨header_parse r c hr.toRecShape, rfl, Int.natCast_nonneg _, fun _ => ImplReads.windowOk_short _ hr.hdrShort⟩,
    rfl, congrArg Int.ofNat hrows.symm, ?_, ⟨r.body, ?_, ?_⟩, fun h0 => absurd hr.pos (by omega)⟩
  · apply Carquet.Proofs.ReaderCrc.crcBad_clean
    rw [asI32_mod _ (crc32_lt _)]; rfl
  · simp only [colOf, hcodec, rpageOf, hdrOf, Int.toNat_natCast]
    exact hr.stored
  · rw [hrows, hr.body, hr.rows]
    exact readDataPageV1_pageBody c r.src hr.shape cm dict

/-- **one page**, general form (any codec tag, `RecOkL`): `load_next_page` on a writer page, in any mode, in any
state that points at it -/
theorem loadPage_writerPage (L : Libs) (verify : Bool) (mode : Mode) (pre post : Reader.Bytes) (c : Writer.Col)
    (cm : ThriftParquet.ColumnMetaData) (codec : Nat) (r : Writer.PageRec) (st : PState)
    (hr : RecOkL L c codec r) (hcodec : cm.codec = (codec : Int)) (hnd : cm.dictionaryPageOffset = none)
    (hoff : st.dataStart + st.currentPage = (pre.length : Int)) (hrem : (r.rows : Int) ≤ st.valuesRemaining)
    (hpost : 8 ≤ post.length) (hsz : (pre ++ (hdrBytes r ++ r.comp) ++ post).length < 2 ^ 64) :
    (okOf (loadPage Fixes.all L verify mode (pre ++ (hdrBytes r ++ r.comp) ++ post) (colOf c cm) st).result).map proj =
      some (decodedOf c r, (hdrBytes r).length, r.comp.length) ∧
    stateAfterLoad Fixes.all L verify mode (pre ++ (hdrBytes r ++ r.comp) ++ post) (colOf c cm) st = st :=
  ImplReads.loadPage_rpage L verify mode pre post (colOf c cm) (rpageOf r) (decodedOf c r) st
    (dataPageOk_of_rec L verify mode c cm codec st.dict r hr hcodec) (Or.inl hnd) hoff
    (by rw [decodedOf_defs_length c r hr.toRecShape]; exact hrem) (colValid_of_shape c cm r.src hr.shape) hpost hsz

theorem RecOk.toL (L : Libs) {c : Writer.Col} {codec : Nat} {r : Writer.PageRec} (h : RecOk c codec r) : RecOkL L c codec r :=
  { toRecShape := h.toShape,
    stored := stored_body_roundtrip L codec r.body r.comp h.codecOk (by have := h.fits.1; omega) h.comp }

/-! ### the pages of a chunk, one after the other -/

/-- the page the column reader model (`Impl.ColumnReader.Page`) receives for a record -/
def cursorPage (c : Writer.Col) (r : Writer.PageRec) : ColumnReader.Page Reader.Bytes :=
  ⟨(decodedOf c r).defs, (decodedOf c r).reps, (decodedOf c r).vals⟩

def chunkBytes (ps : List Writer.PageRec) : Reader.Bytes := (ps.map (fun r => hdrBytes r ++ r.comp)).flatten

def sumRows (ps : List Writer.PageRec) : Nat := (ps.map (·.rows)).sum

theorem sumRows_pagesData (c : Writer.Col) (ps : List Writer.PageRec) (h : ∀ r ∈ ps, RecShape c r) :
    sumRows ps = (Carquet.Proofs.WriterTable.pagesData ps).rows := by
  unfold sumRows Carquet.Proofs.WriterTable.pagesData
  exact congrArg List.sum (List.map_congr_left fun r hr => (h r hr).rows)

/-! ### the chunk as the column reader consumes it -/

/-- **the chunk**, general form (any codec tag, `RecOkL`): for a chunk whose metadata point at the writer's
pages, the chunk description the column reader model consumes (`chunkOf`) has exactly the writer's pages, in any mode -/
theorem chunkOf_writer (L : Libs) (verify : Bool) (mode : Mode) (c : Writer.Col) (cm : ThriftParquet.ColumnMetaData)
    (codec : Nat) (ps : List Writer.PageRec) (pre post : Reader.Bytes)
    (hcodec : cm.codec = (codec : Int)) (hnd : cm.dictionaryPageOffset = none)
    (hoff : cm.dataPageOffset = (pre.length : Int)) (hnv : cm.numValues = (sumRows ps : Int))
    (hall : ∀ r ∈ ps, RecOkL L c codec r) (hpost : 8 ≤ post.length) (hsz : (pre ++ chunkBytes ps ++ post).length < 2 ^ 64) :
    (chunkOf Fixes.all L verify mode (pre ++ chunkBytes ps ++ post) (colOf c cm)).pages = ps.map (fun r => some (cursorPage c r)) ∧
    (chunkOf Fixes.all L verify mode (pre ++ chunkBytes ps ++ post) (colOf c cm)).numValues = (sumRows ps : Int) ∧
    (chunkOf Fixes.all L verify mode (pre ++ chunkBytes ps ++ post) (colOf c cm)).maxDef = c.maxDef := by
  refine ⟨?_, hnv, rfl⟩
  -- the writer's pages as described pages: none of them is empty, so the iteration delivers them all
  have hbytes : ImplReads.pagesBytes (ps.map (fun r => (rpageOf r, decodedOf c r))) = chunkBytes ps := by
    simp only [ImplReads.pagesBytes, chunkBytes, List.map_map]; rfl
  have hcount : ImplReads.pagesCount (ps.map (fun r => (rpageOf r, decodedOf c r))) = sumRows ps := by
    simp only [ImplReads.pagesCount, sumRows, List.map_map]
    exact congrArg List.sum (List.map_congr_left fun r hr => decodedOf_defs_length c r (hall r hr).toRecShape)
  -- without pages there is nothing to load (and no page to take the column's validity from)
  by_cases hne : ps = []
  · subst hne
    exact ImplReads.chunkPages_done _ _ _ _ _ _ _ _ (by simp [PState.init, colOf, hnv, sumRows])
  obtain ⟨r0, hr0⟩ : ∃ r, r ∈ ps := by
    cases ps with
    | nil => exact absurd rfl hne
    | cons r _ => exact ⟨r, by simp⟩
  have hcol := colValid_of_shape c cm r0.src (hall r0 hr0).shape
  have hdp : ∀ q ∈ ps.map (fun r => (rpageOf r, decodedOf c r)),
      ImplReads.DataPageOk L verify mode (colOf c cm) none q.1 q.2 := fun q hq => by
    obtain ⟨r, hr, rfl⟩ := List.mem_map.mp hq
    exact dataPageOk_of_rec L verify mode c cm codec none r (hall r hr) hcodec
  have := ImplReads.chunkOf_pages L verify mode (colOf c cm) hcol none (ps.map (fun r => (rpageOf r, decodedOf c r)))
    pre post (.plain hnd hoff) hdp (by simp only [colOf, hnv, hcount]) hpost
    (by rw [hbytes]; simpa only [ImplReads.dictBytes, List.append_nil] using hsz)
  simp only [ImplReads.dictBytes, List.append_nil] at this
  rw [hbytes, ImplReads.livePages, ImplReads.liveBy_of_pos, List.map_map] at this
  · exact this
  · intro q hq
    obtain ⟨r, hr, rfl⟩ := List.mem_map.mp hq
    simp only [decodedOf_defs_length c r (hall r hr).toRecShape]
    exact (hall r hr).pos

theorem cursorPage_pageOk (c : Writer.Col) (r : Writer.PageRec) (hr : RecShape c r) :
    Carquet.Proofs.Cursor.PageOk c.maxDef (cursorPage c r) := by
  have hsh := hr.shape
  have hrl : (decodedOf c r).reps.length = (decodedOf c r).defs.length := by
    rw [decodedOf_defs_length c r hr, hr.rows]
    show (if c.maxRep > 0 then r.src.reps else List.replicate r.src.numValues 0).length = _
    split
    · exact (hsh.repsLen ‹_›).1
    · exact List.length_replicate
  refine ⟨hrl, ?_⟩
  unfold cursorPage decodedOf Carquet.Proofs.Cursor.nn
  rw [hsh.count]
  by_cases hd : c.maxDef > 0
  · rw [if_pos hd, if_pos hd, show c.maxDef = 1 by have := maxDef_le_1 c; omega]
    exact ⟨rfl, hsh.defs01⟩
  · rw [if_neg hd, if_neg hd, show c.maxDef = 0 by omega, List.countP_replicate]
    exact ⟨rfl, fun d hdm => Nat.le_of_eq (List.mem_replicate.mp hdm).2⟩

/-! ### the rows of a written chunk -/

open Carquet.Proofs.Cursor in
/-- the logical rows the writer's pages of a chunk stand for -/
def writtenRows (c : Writer.Col) (ps : List Writer.PageRec) : List (Carquet.Spec.Cursor.Row Reader.Bytes) :=
  rowsOfPages c.maxDef (ps.map (fun r => some (cursorPage c r)))

open Carquet.Proofs.Cursor in
theorem writtenRows_cons (c : Writer.Col) (r : Writer.PageRec) (ps : List Writer.PageRec) :
    writtenRows c (r :: ps) = rowsOfPage c.maxDef (cursorPage c r) ++ writtenRows c ps := rfl

theorem flatten_map_replicate {β : Type} (f : β → Nat) (x : Nat) : ∀ l : List β,
    (l.map (fun b => List.replicate (f b) x)).flatten = List.replicate (l.map f).sum x
  | [] => rfl
  | b :: l => by
    rw [List.map_cons, List.flatten_cons, flatten_map_replicate f x l, List.map_cons, List.sum_cons,
      List.replicate_append_replicate]

open Carquet.Proofs.Cursor Carquet.Proofs.WriterTable in
theorem writtenRows_content (c : Writer.Col) (ps : List Writer.PageRec) (h : ∀ r ∈ ps, RecShape c r) :
    (writtenRows c ps).length = sumRows ps ∧
    (writtenRows c ps).map (·.defLevel) = Writer.readerDefs c (pagesData ps) ∧
    (writtenRows c ps).map (·.repLevel) = Writer.readerReps c (pagesData ps) ∧
    (writtenRows c ps).filterMap (·.val) = (pagesData ps).vals := by
  obtain ⟨c1, c2, c3⟩ := rowsOfPages_content c.maxDef (ps.map (cursorPage c)) (fun q hq => by
    obtain ⟨r, hr, rfl⟩ := List.mem_map.mp hq
    exact cursorPage_pageOk c r (h r hr))
  have hw : writtenRows c ps = rowsOfPages c.maxDef ((ps.map (cursorPage c)).map some) := by
    unfold writtenRows; rw [List.map_map]; rfl
  rw [← hw, List.map_map] at c1 c2 c3
  have hd : (writtenRows c ps).map (·.defLevel) = Writer.readerDefs c (pagesData ps) := by
    rw [c1]
    unfold Writer.readerDefs
    by_cases hm : c.maxDef > 0
    · simp only [Function.comp_def, cursorPage, decodedOf, if_pos hm]; rfl
    · simp only [Function.comp_def, cursorPage, decodedOf, if_neg hm]; exact flatten_map_replicate _ 0 ps
  refine ⟨?_, hd, ?_, c3⟩
  · rw [← List.length_map (f := (·.defLevel)), c1, List.length_flatten, List.map_map]
    exact congrArg List.sum (List.map_congr_left fun r hr => decodedOf_defs_length c r (h r hr))
  · rw [c2]
    unfold Writer.readerReps
    by_cases hm : c.maxRep > 0
    · simp only [Function.comp_def, cursorPage, decodedOf, if_pos hm]; rfl
    · simp only [Function.comp_def, cursorPage, decodedOf, if_neg hm]; exact flatten_map_replicate _ 0 ps
open Carquet.Proofs.Cursor in
theorem chunkOk_writer (ch : ColumnReader.Chunk Reader.Bytes) (c : Writer.Col) (ps : List Writer.PageRec)
    (hall : ∀ r ∈ ps, RecShape c r)
    (hp : ch.pages = ps.map (fun r => some (cursorPage c r))) (hn : ch.numValues = (sumRows ps : Int)) (hm : ch.maxDef = c.maxDef) :
    ChunkOk ch ∧ chunkRows ch = writtenRows c ps := by
  have hrows : chunkRows ch = writtenRows c ps := by unfold chunkRows writtenRows; rw [hp, hm]
  refine ⟨⟨?_, ?_⟩, hrows⟩
  · intro p hpm
    rw [hp, List.mem_map] at hpm
    obtain ⟨r, hr, rfl⟩ := hpm
    exact ⟨_, rfl, by rw [hm]; exact cursorPage_pageOk c r (hall r hr)⟩
  · rw [hrows, (writtenRows_content c ps hall).1, hn]

/-! ### the same for `RecOk` (one of the byte-exact codecs) -/

theorem decodedOf_rows (c : Writer.Col) (codec : Nat) (r : Writer.PageRec) (hr : RecOk c codec r) :
    (decodedOf c r).defs.length = r.rows := decodedOf_defs_length c r hr.toShape

theorem cursorPage_ok (c : Writer.Col) (codec : Nat) (r : Writer.PageRec) (hr : RecOk c codec r) :
    Carquet.Proofs.Cursor.PageOk c.maxDef (cursorPage c r) := cursorPage_pageOk c r hr.toShape

/-- `RecOk` from what the writer theorems establish (C05_pages_chain: `PageOk`; C05_written_table:
`PagesOf`, i.e. `r = pageRecOf …`) plus the shape of the page-builder content and the size bounds -/
theorem recOk_of_writer (c : Writer.Col) (codec : Nat) (r : Writer.PageRec)
    (hcodec : codec = 0 ∨ codec = 1 ∨ codec = 5 ∨ codec = 7)
    (hpage : Carquet.Proofs.WriterPages.PageOk D codec r) (hof : r = Writer.pageRecOf D codec c r.src)
    (hshape : PageShape c r.src)
    (hfits : HdrFits r.body.length r.comp.length (FileReal.crc32 r.comp) r.rows r.stats)
    (hshort : (hdrBytes r).length ≤ 256) : RecOk c codec r :=
  { codecOk := hcodec, comp := hpage.1, body := by rw [hof]; rfl, rows := by rw [hof]; rfl, shape := hshape, fits := hfits,
    hdrShort := hshort, pos := hpage.2 }

theorem chunkBytes_eq (ps : List Writer.PageRec) : chunkBytes ps = Carquet.Proofs.WriterPages.pagesBytes D ps := rfl
theorem sumRows_eq (ps : List Writer.PageRec) : sumRows ps = Carquet.Proofs.WriterPages.sumRows ps := rfl

end Carquet.Proofs.ReaderChunkRoundtrip
