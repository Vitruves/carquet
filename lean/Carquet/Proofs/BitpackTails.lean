import Carquet.Proofs.RleGrammar
/-
`carquet_bitpack_32` / `carquet_bitunpack_32` (groups of 8 plus a tail) in closed form, their
equality with Spec/BitPack.lean and their round trip.
-/
namespace Carquet.Proofs.BitpackTails
open Carquet.Impl.Bitpack Carquet.Spec
open Carquet.Proofs.NatBits Carquet.Proofs.BitpackImpl Carquet.Proofs.BitPackSpec Carquet.Proofs.RleGrammar

theorem concat_append (w : Nat) (l1 l2 : List Nat) :
    concat w (l1 ++ l2) = concat w l1 + 2 ^ (w * l1.length) * concat w l2 := by
  induction l1 with
  | nil => simp [concat]
  | cons v vs ih =>
    simp only [List.cons_append, concat, ih, List.length_cons]
    rw [show w * (vs.length + 1) = w + w * vs.length by rw [Nat.mul_add]; omega, Nat.pow_add,
      Nat.mul_add, Nat.mul_assoc]
    omega

theorem leBytes_concat_append {w a : Nat} (b : Nat) {l1 : List Nat} (l2 : List Nat) (h : w * l1.length = 8 * a) :
    leBytes a (concat w l1) ++ leBytes b (concat w l2) = leBytes (a + b) (concat w (l1 ++ l2)) := by
  rw [concat_append, h]
  exact leBytes_append a b _ _ (h ▸ concat_lt w l1)

theorem concat_zeros (w k : Nat) : concat w (List.replicate k 0) = 0 := by
  induction k with
  | zero => rfl
  | succ k ih => simp [List.replicate_succ, concat, ih]

/-- the loop over full groups of `carquet_bitpack_32` -/
theorem packGroups_eq {w : Nat} (hw : w ≤ 32) : ∀ (g : Nat) (vals : List Nat), 8 * g ≤ vals.length →
    packGroups w g vals = leBytes (g * w) (concat w (vals.take (8 * g))) := by
  intro g
  induction g with
  | zero => intro vals _; simp [packGroups, leBytes]
  | succ g ih =>
    intro vals h
    simp only [packGroups]
    have h8 : (vals.take 8).length = 8 := by rw [List.length_take]; omega
    rw [pack8_eq hw _ h8, ih (vals.drop 8) (by rw [List.length_drop]; omega),
      leBytes_concat_append _ _ (by rw [h8, Nat.mul_comm]), ← List.take_add, Nat.succ_mul g w, Nat.mul_succ 8 g,
      Nat.add_comm w, Nat.add_comm 8]

theorem packedSize_le (r w : Nat) (h : r < 8) : packedSize r w ≤ w := by
  unfold packedSize
  have : r * w ≤ 7 * w := Nat.mul_le_mul_right w (by omega)
  omega

theorem packedSize_split (n w : Nat) : packedSize n w = n / 8 * w + packedSize (n % 8) w := by
  unfold packedSize
  have e : n * w = 8 * (n / 8 * w) + n % 8 * w := by
    rw [← Nat.mul_assoc, ← Nat.add_mul, Nat.div_add_mod]
  rw [e]
  omega

/-- **`carquet_bitpack_32` writes the Spec packing.** -/
theorem impl_pack_eq_spec {w : Nat} (hw : w ≤ 32) (vals : List Nat) :
    pack w vals = BitPack.pack w vals := by
  rw [pack_eq]
  show _ = leBytes (packedSize vals.length w) _
  unfold pack
  by_cases h0 : w = 0 ∨ vals.length = 0
  · rw [if_pos h0]
    rcases h0 with h | h
    · subst h; simp [packedSize, leBytes]
    · rw [h]; simp [packedSize, leBytes]
  · rw [if_neg h0]
    by_cases hr : vals.length % 8 = 0
    · rw [if_pos hr, packGroups_eq hw _ _ (by omega)]
      have hfull : vals.take (8 * (vals.length / 8)) = vals := List.take_of_length_le (by omega)
      rw [hfull]
      rw [packedSize_split, hr, packedSize, Nat.zero_mul]
      rfl
    · rw [if_neg hr, packGroups_eq hw _ _ (by omega)]
      have htl : (vals.drop (vals.length / 8 * 8)).length = vals.length % 8 := by
        rw [List.length_drop]; omega
      have h8 : (vals.drop (vals.length / 8 * 8) ++ List.replicate (8 - vals.length % 8) 0).length = 8 := by
        rw [List.length_append, htl, List.length_replicate]; omega
      have hl : w * (vals.take (8 * (vals.length / 8))).length = 8 * (vals.length / 8 * w) := by
        rw [List.length_take, Nat.min_eq_left (by omega), Nat.mul_left_comm, Nat.mul_comm w]
      rw [pack8_eq hw _ h8, leBytes_take _ _ _ (packedSize_le _ _ (Nat.mod_lt _ (by decide))), concat_append,
        concat_zeros, Nat.mul_zero, Nat.add_zero, Nat.mul_comm (vals.length / 8) 8, leBytes_concat_append _ _ hl,
        List.take_append_drop]
      rw [← packedSize_split]

theorem leNat_zeros (k : Nat) : leNat (List.replicate k 0) = 0 := by
  induction k with
  | zero => rfl
  | succ k ih => simp [List.replicate_succ, leNat, ih]

/-- `carquet_bitunpack_32` in closed form: the first `n` fields of the input -/
theorem unpack_values {w : Nat} (hw : w ≤ 32) (h0 : w ≠ 0) (inp : List UInt8) (n : Nat) :
    (unpack w inp n).1 = (List.range n).map (nth w (leNat inp)) := by
  unfold unpack
  rw [if_neg h0]
  by_cases hr : n % 8 = 0
  · rw [if_pos hr]
    simp only
    rw [unpackGroups_eq' hw]
    congr 2; omega
  · rw [if_neg hr]
    simp only
    rw [unpackGroups_eq' hw, unpack8_eq hw]
    have hn : n = 8 * (n / 8) + n % 8 := by omega
    conv => rhs; rw [hn, List.range_add, List.map_append, List.map_map]
    congr 1
    rw [← List.map_take, List.take_range, Nat.min_eq_left (by omega)]
    apply List.map_congr_left
    intro i hi
    have hir : i < n % 8 := List.mem_range.mp hi
    have hps := packedSize_le (n % 8) w (Nat.mod_lt _ (by decide))
    simp only [Function.comp]
    rw [leNat_take, leNat_append, leNat_zeros, Nat.mul_zero, Nat.add_zero, leNat_take, leNat_drop,
      nth_mod w _ (Nat.lt_trans hir (Nat.mod_lt _ (by decide))) (by omega),
      nth_mod w _ hir (by unfold packedSize; rw [Nat.mul_comm (n % 8) w]; omega)]
    simp only [nth, shr_shr]
    congr 2
    rw [Nat.mul_add, ← Nat.mul_assoc 8, Nat.mul_comm (8 * (n / 8)) w]

theorem unpack_consumed {w : Nat} (h0 : w ≠ 0) (inp : List UInt8) (n : Nat) :
    (unpack w inp n).2 = packedSize n w := by
  unfold unpack
  rw [if_neg h0, packedSize_split n]
  by_cases hr : n % 8 = 0
  · rw [if_pos hr, hr, packedSize, Nat.zero_mul]
    rfl
  · rw [if_neg hr]

/-- **`carquet_bitunpack_32` reads the Spec unpacking** of an input that holds `n` values -/
theorem impl_unpack_eq_spec {w : Nat} (hw : w ≤ 32) (inp : List UInt8) (n : Nat) (hlen : n * w ≤ 8 * inp.length) :
    BitPack.unpack w inp n = some (unpack w inp n).1 := by
  rw [unpack_eq w n inp hlen]
  by_cases h0 : w = 0
  · subst h0
    simp only [unpack, if_true]
    congr 1
    apply List.ext_getElem
    · simp
    · intro i h1 h2; simp [nth, Nat.mod_one]
  · rw [unpack_values hw h0]

/-- **Round trip of `carquet_bitpack_32` / `carquet_bitunpack_32`, tails included** -/
theorem unpack_pack {w : Nat} (hw : w ≤ 32) (vals : List Nat) (hv : ∀ v ∈ vals, v < 2 ^ w) :
    unpack w (pack w vals) vals.length = (vals, (pack w vals).length) := by
  by_cases h0 : w = 0
  · subst h0
    have hz : vals = List.replicate vals.length 0 := by
      apply List.ext_getElem
      · simp
      · intro i h1 h2
        have := hv _ (List.getElem_mem h1)
        simp only [Nat.pow_zero, Nat.lt_one_iff] at this
        simp [this]
    simp only [unpack, pack, if_true, true_or, List.length_nil]
    rw [← hz]
  · have h1 : (unpack w (pack w vals) vals.length).1 = vals := by
      rw [unpack_values hw h0, impl_pack_eq_spec hw, pack_eq]
      exact fields_of_packed w _ vals hv (by omega)
    have h2 : (unpack w (pack w vals) vals.length).2 = (pack w vals).length := by
      rw [unpack_consumed h0, impl_pack_eq_spec hw, pack_eq, leBytes_length]; rfl
    exact Prod.ext h1 h2

end Carquet.Proofs.BitpackTails
