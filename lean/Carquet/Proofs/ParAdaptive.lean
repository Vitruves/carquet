import Carquet.Proofs.Par
/-
C07: non-interference for adaptive workers (the next action is a function of what the worker has
observed so far).  After any schedule of turns, worker `w`'s private store is what it has after the
same number of turns taken alone.
-/
namespace Carquet.Proofs.Par
open Carquet.Impl.Par

section Adaptive
variable {V : Type} (view : Worker → Shared → V) (progs : Worker → Prog)

theorem turns_congr (w : Worker)
    (hA : ∀ p a, progs w p = some a → OwnDet view id w a)
    (k : Nat) (st st' : State) (hp : st.pr w = st'.pr w) (hv : view w st.sh = view w st'.sh) :
    (execTurns progs (List.replicate k w) st).pr w = (execTurns progs (List.replicate k w) st').pr w ∧
    view w (execTurns progs (List.replicate k w) st).sh = view w (execTurns progs (List.replicate k w) st').sh := by
  induction k generalizing st st' with
  | zero => exact ⟨hp, hv⟩
  | succ k ih =>
    simp only [List.replicate_succ, execTurns]
    apply ih
    · simp only [State.turn]
      rw [← hp]
      cases hprog : progs w (st.pr w) with
      | none => exact hp
      | some a =>
        simp only [run_pr_self]
        rw [← hp]
        exact (hA _ a hprog st.sh st'.sh (st.pr w) _ hv rfl).1
    · simp only [State.turn]
      rw [← hp]
      cases hprog : progs w (st.pr w) with
      | none => exact hv
      | some a =>
        simp only [run_sh]
        rw [← hp]
        exact (hA _ a hprog st.sh st'.sh (st.pr w) _ hv rfl).2

theorem turns_noninterference
    (hA : ∀ w p a, progs w p = some a → OwnDet view id w a)
    (hB : ∀ w p a, progs w p = some a → OthersKept view w a)
    (s : List Worker) (st : State) (w : Worker) :
    (execTurns progs s st).pr w = (execTurns progs (List.replicate (s.count w) w) st).pr w ∧
    view w (execTurns progs s st).sh = view w (execTurns progs (List.replicate (s.count w) w) st).sh := by
  induction s generalizing st with
  | nil => exact ⟨rfl, rfl⟩
  | cons w0 s ih =>
    by_cases h : w0 = w
    · subst h
      simp only [List.count_cons_self, List.replicate_succ, execTurns]
      exact ih _
    · have hc : (w0 :: s).count w = s.count w := by
        simp [h]
      rw [hc]
      simp only [execTurns]
      have h1 := ih (st.turn progs w0)
      have hne : w ≠ w0 := fun e => h e.symm
      have hp : (st.turn progs w0).pr w = st.pr w := by
        simp only [State.turn]
        cases progs w0 (st.pr w0) with
        | none => rfl
        | some a => exact run_pr_other st w0 w a.prims hne
      have hv : view w (st.turn progs w0).sh = view w st.sh := by
        simp only [State.turn]
        cases hprog : progs w0 (st.pr w0) with
        | none => rfl
        | some a => simpa using hB w0 _ a hprog w hne st.sh (st.pr w0)
      have h2 := turns_congr view progs w (hA w) (s.count w) (st.turn progs w0) st hp hv
      exact ⟨h1.1.trans h2.1, h1.2.trans h2.2⟩

/-- turns of a finished worker change nothing it can see -/
theorem turns_finished (w : Worker) (k : Nat) (st : State) (hf : progs w (st.pr w) = none) :
    execTurns progs (List.replicate k w) st = st := by
  induction k with
  | zero => rfl
  | succ k ih =>
    simp only [List.replicate_succ, execTurns]
    have : st.turn progs w = st := by simp [State.turn, hf]
    rw [this]; exact ih

theorem execTurns_append (s t : List Worker) (st : State) :
    execTurns progs (s ++ t) st = execTurns progs t (execTurns progs s st) := by
  induction s generalizing st with
  | nil => rfl
  | cons w s ih => simp only [List.cons_append, execTurns, ih]

theorem solo_turns_mono (w : Worker) (k1 k2 : Nat) (hle : k1 ≤ k2) (st : State)
    (hf : progs w ((execTurns progs (List.replicate k1 w) st).pr w) = none) :
    execTurns progs (List.replicate k2 w) st = execTurns progs (List.replicate k1 w) st := by
  have e : List.replicate k2 w = List.replicate k1 w ++ List.replicate (k2 - k1) w := by
    rw [List.replicate_append_replicate]; congr 1; omega
  rw [e, execTurns_append, turns_finished progs w _ _ hf]

end Adaptive
end Carquet.Proofs.Par
