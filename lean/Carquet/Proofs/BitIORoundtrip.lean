import Carquet.Proofs.BitIOWriter
import Carquet.Proofs.BitPackSpec
/-
Writer followed by reader (C11), and both against the Spec's raw bit packing (C12).
-/
namespace Carquet.Proofs.BitIO
open Carquet.Impl.BitIO Carquet.Impl.Bitpack Carquet.Proofs.NatBits Carquet.Proofs.BitpackImpl

theorem cf_low (w v : Nat) (fs : List (Nat × Nat)) : concatFields ((w, v) :: fs) % 2 ^ w = v % 2 ^ w := by
  simp only [concatFields]
  rw [Nat.add_mul_mod_self_left, Nat.mod_mod]

theorem cf_high (w v : Nat) (fs : List (Nat × Nat)) : concatFields ((w, v) :: fs) >>> w = concatFields fs := by
  simp only [concatFields]
  rw [shr_eq, Nat.add_mul_div_left _ _ (Nat.two_pow_pos w),
    Nat.div_eq_of_lt (Nat.mod_lt _ (Nat.two_pow_pos w)), Nat.zero_add]

/-- the abstract reader, asked for the fields a history wrote, returns them -/
theorem arun_fields : ∀ (ops : List WOp) (A : Nat), WOp.flush ∉ ops → totalBits ops ≤ A →
    arun (concatFields (fieldsOf ops), A) (readsOf ops) = expectOf ops := by
  intro ops
  induction ops with
  | nil => intro A _ _; rfl
  | cons op ops ih =>
    intro A hn' hA
    have hn : WOp.flush ∉ ops := fun hm => hn' (List.mem_cons_of_mem _ hm)
    cases op with
    | flush => exact absurd List.mem_cons_self hn'
    | bit b =>
      simp only [totalBits, fieldsOf, List.map_cons, List.sum_cons] at hA
      have hA0 : A ≠ 0 := by omega
      simp only [fieldsOf, readsOf, expectOf, arun, astep, hA0, if_false]
      have h1 := cf_low 1 (b % 2) (fieldsOf ops)
      have h2 := cf_high 1 (b % 2) (fieldsOf ops)
      rw [Nat.pow_one] at h1
      rw [h1, h2, Nat.mod_mod, ih (A - 1) hn (by simp only [totalBits]; omega)]
    | bits v n =>
      simp only [totalBits, fieldsOf, List.map_cons, List.sum_cons] at hA
      simp only [fieldsOf, readsOf, expectOf, arun, astep]
      rw [cf_low, cf_high, Nat.mod_mod, ih _ hn (by simp only [totalBits]; omega)]
    | bits64 v n =>
      simp only [totalBits, fieldsOf, List.map_cons, List.sum_cons] at hA
      simp only [fieldsOf, readsOf, expectOf, arun, astep]
      rw [cf_low, cf_high, Nat.mod_mod, ih _ hn (by simp only [totalBits]; omega)]

/-- **round trip**: writes, one flush, enough capacity — the matching reads return what was written -/
theorem roundtrip (cap : Nat) (ops : List WOp) (hn : WOp.flush ∉ ops) (hcap : (totalBits ops + 7) / 8 ≤ cap) :
    (flush (wrun (Writer.init cap) ops)).out = leBytes ((totalBits ops + 7) / 8) (concatFields (fieldsOf ops)) ∧
    (rrun (Reader.init (flush (wrun (Writer.init cap) ops)).out) (readsOf ops)).1 = expectOf ops := by
  obtain ⟨hout, _⟩ := flush_wrun cap ops hn
  have hfull : (flush (wrun (Writer.init cap) ops)).out =
      leBytes ((totalBits ops + 7) / 8) (concatFields (fieldsOf ops)) := by
    rw [hout, List.take_of_length_le (by rw [leBytes_length]; exact hcap)]
  refine ⟨hfull, ?_⟩
  rw [hfull]
  obtain ⟨r1, _⟩ := rrun_spec (readsOf ops) (Reader.init (leBytes ((totalBits ops + 7) / 8) (concatFields (fieldsOf ops))))
    (RInv_init _)
  rw [r1, stream_init, avail_init, leNat_leBytes, leBytes_length]
  have hlt := concatFields_lt (fieldsOf ops)
  have hmod : concatFields (fieldsOf ops) % 2 ^ (8 * ((totalBits ops + 7) / 8)) = concatFields (fieldsOf ops) :=
    mod_two_pow_of_lt hlt (by unfold totalBits widthSum at *; omega)
  rw [hmod]
  exact arun_fields ops _ hn (by omega)

/-! ### uniform width = the Spec's raw bit packing -/

theorem fields_uniform (w : Nat) (hw : w ≤ 32) (vals : List Nat) :
    concatFields (fieldsOf (vals.map (fun v => WOp.bits v w))) = concat w vals ∧
    totalBits (vals.map (fun v => WOp.bits v w)) = vals.length * w ∧
    WOp.flush ∉ vals.map (fun v => WOp.bits v w) := by
  induction vals with
  | nil => exact ⟨rfl, by simp [totalBits, fieldsOf], fun h => by cases h⟩
  | cons v vs ih =>
    obtain ⟨a, b, c⟩ := ih
    have hm : min w 32 = w := Nat.min_eq_left hw
    refine ⟨?_, ?_, fun h => by rcases List.mem_cons.mp h with h | h; cases h; exact c h⟩
    · simp only [List.map_cons, fieldsOf, concatFields, concat, hm, a, Nat.mod_mod]
    · simp only [totalBits, List.map_cons, fieldsOf, List.sum_cons, hm, List.length_cons] at b ⊢
      rw [b, Nat.add_mul]; omega

/-- reading `n` values of `w ≤ 32` bits on the abstract machine: the fields of the stream -/
theorem arun_uniform (w : Nat) : ∀ (n S A : Nat),
    arun (S, A) (List.replicate n (ROp.bits w)) = (List.range n).map (fun i => RObs.val (nth (min w 32) S i)) := by
  intro n
  induction n with
  | zero => intro S A; rfl
  | succ n ih =>
    intro S A
    rw [List.replicate_succ, List.range_succ_eq_map, List.map_cons, List.map_map]
    simp only [arun, astep]
    rw [ih]
    congr 1
    apply List.map_congr_left
    intro i _
    simp only [Function.comp, nth, shr_shr]
    rw [show min w 32 + min w 32 * i = min w 32 * (i + 1) by rw [Nat.mul_add]; omega]

end Carquet.Proofs.BitIO
