import Carquet.Proofs.SpecFileExtras
/-
Unknown fields threaded through every extraction function of `Spec.File.Meta`: a struct value with
fields merged in whose ids avoid the struct's table is extracted exactly like the struct without them
(`C06_unknown_fields_ignored` applied to each getter the function uses).  Then the page-header structures:
each is extracted back from the Thrift value the reference writer builds for it.
-/
namespace Carquet.Proofs.SpecFile
open Carquet.Spec Carquet.Spec.File Carquet.Spec.Thrift Carquet.Spec.ParquetThrift

theorem statsOf_we (known extra : Fields) (h : extrasOk statistics extra = true) :
    statsOf (withExtras known extra) = statsOf known := by
  unfold statsOf
  rw [checkStruct_we h, getBin_we h known 1 (by decide), getBin_we h known 2 (by decide), getInt_we h known 3 (by decide),
    getBin_we h known 5 (by decide), getBin_we h known 6 (by decide)]

theorem dataHdrOf_we (known extra : Fields) (h : extrasOk dataPageHeader extra = true) :
    dataHdrOf (withExtras known extra) = dataHdrOf known := by
  unfold dataHdrOf
  rw [checkStruct_we h, natField_we h _ known 1 (by decide), getStruct_we h known 5 (by decide),
    getInt_we h known 2 (by decide), getInt_we h known 3 (by decide), getInt_we h known 4 (by decide)]

theorem dictHdrOf_we (known extra : Fields) (h : extrasOk dictionaryPageHeader extra = true) :
    dictHdrOf (withExtras known extra) = dictHdrOf known := by
  unfold dictHdrOf
  rw [checkStruct_we h, natField_we h _ known 1 (by decide), getInt_we h known 2 (by decide)]

theorem pageHdrOf_we (known extra : Fields) (h : extrasOk pageHeader extra = true) :
    pageHdrOf (withExtras known extra) = pageHdrOf known := by
  unfold pageHdrOf
  rw [checkStruct_we h, getInt_we h known 1 (by decide), getInt_we h known 2 (by decide), getInt_we h known 3 (by decide),
    getInt_we h known 4 (by decide), getStruct_we h known 5 (by decide), getStruct_we h known 7 (by decide)]

theorem optLogicalTypeOf_we (known extra : Fields) (h : extrasOk schemaElement extra = true) :
    optLogicalTypeOf (withExtras known extra) = optLogicalTypeOf known := by
  unfold optLogicalTypeOf
  rw [getStruct_we h known 10 (by decide)]

theorem schemaElementOf_we (known extra : Fields) (h : extrasOk schemaElement extra = true) :
    schemaElementOf (withExtras known extra) = schemaElementOf known := by
  unfold schemaElementOf
  rw [checkStruct_we h, getBin_we h known 4 (by decide), getInt_we h known 3 (by decide),
    optNatField_we h _ known 1 (by decide), optNatField_we h _ known 6 (by decide), getInt_we h known 2 (by decide),
    getInt_we h known 5 (by decide), optLogicalTypeOf_we known extra h]

theorem columnMetaOf_we (known extra : Fields) (h : extrasOk columnMetaData extra = true) :
    columnMetaOf (withExtras known extra) = columnMetaOf known := by
  unfold columnMetaOf
  rw [checkStruct_we h, natField_we h _ known 1 (by decide), natField_we h _ known 4 (by decide),
    natField_we h _ known 5 (by decide), natField_we h _ known 6 (by decide), natField_we h _ known 7 (by decide),
    natField_we h _ known 9 (by decide), optNatField_we h _ known 11 (by decide), getList_we h known 2 (by decide),
    getList_we h known 3 (by decide)]

theorem columnChunkOf_we (known extra : Fields) (h : extrasOk columnChunk extra = true) :
    columnChunkOf (withExtras known extra) = columnChunkOf known := by
  unfold columnChunkOf
  rw [checkStruct_we h, getStruct_we h known 3 (by decide)]

theorem rowGroupOf_we (known extra : Fields) (h : extrasOk rowGroup extra = true) :
    rowGroupOf (withExtras known extra) = rowGroupOf known := by
  unfold rowGroupOf
  rw [checkStruct_we h, getList_we h known 1 (by decide), natField_we h _ known 2 (by decide),
    natField_we h _ known 3 (by decide)]

theorem fileMetaOf_we (known extra : Fields) (h : extrasOk fileMetaData extra = true) :
    fileMetaOf (withExtras known extra) = fileMetaOf known := by
  unfold fileMetaOf
  rw [checkStruct_we h, getList_we h known 2 (by decide), natField_we h _ known 3 (by decide),
    getList_we h known 4 (by decide), getInt_we h known 1 (by decide)]

attribute [local simp] field?_nil field?_cons field?_append field?_optField
  knownTyped_nil knownTyped_cons knownTyped_append knownTyped_optField

/-! ### page headers -/

def statsFieldsOf (s : StatsMeta) : Fields :=
  optField 1 .binary s.max ++ optField 2 .binary s.min ++ optField 3 .i64 s.nullCount ++
    optField 5 .binary s.maxValue ++ optField 6 .binary s.minValue

theorem statsOf_statsFields (s : StatsMeta) : statsOf (statsFieldsOf s) = .ok s := by
  unfold statsOf
  rw [checkStruct_ok _ _ rfl (by simp [statsFieldsOf]; simp +decide [TVal.ty])]
  simp [statsFieldsOf, getBin_eq, asBin_map, getInt, bind_intOf_i64, bind, Except.bind, pure, Except.pure]

theorem statsOf_statsTV (s : StatsMeta) (se : Fields) (hse : extrasOk statistics se = true) :
    ∃ fs, statsTV s se = .struct fs ∧ statsOf fs = .ok s :=
  ⟨_, rfl, (statsOf_we _ _ hse).trans (statsOf_statsFields s)⟩

theorem dataHdrOf_TV (h : DataHdr) (se me : Fields)
    (hse : extrasOk statistics se = true) (hme : extrasOk dataPageHeader me = true) :
    ∃ fs, dataHdrTV h se me = .struct fs ∧ dataHdrOf fs = .ok h := by
  obtain ⟨n, enc, de, re, st⟩ := h
  refine ⟨_, rfl, ?_⟩
  rw [dataHdrOf_we _ _ hme]
  unfold dataHdrOf
  rw [checkStruct_ok _ _ (by rw [complete_eq]; simp [show (dataPageHeader.fields.filter (·.required)).map (·.id) = [1, 2, 3, 4] from rfl])
    (by simp; simp +decide [TVal.ty, statsTV]), natField_eq (n := n) (by simp [getInt, intOf])]
  cases st with
  | none => simp [getStruct_eq, asStruct, getInt, intOf, bind, Except.bind, pure, Except.pure]
  | some s =>
    obtain ⟨sfs, hs1, hs2⟩ := statsOf_statsTV s se hse
    simp [getStruct_eq, asStruct, hs1, hs2, getInt, intOf, bind, Except.bind, pure, Except.pure]

theorem dictHdrOf_TV (h : DictHdr) (sorted : Option Bool) (me : Fields)
    (hme : extrasOk dictionaryPageHeader me = true) :
    ∃ fs, dictHdrTV h sorted me = .struct fs ∧ dictHdrOf fs = .ok h := by
  obtain ⟨n, enc⟩ := h
  refine ⟨_, rfl, ?_⟩
  rw [dictHdrOf_we _ _ hme]
  unfold dictHdrOf
  rw [checkStruct_ok _ _ (by rw [complete_eq]; simp [show (dictionaryPageHeader.fields.filter (·.required)).map (·.id) = [1, 2] from rfl])
    (by simp; simp +decide [TVal.ty]), natField_eq (n := n) (by simp [getInt, intOf])]
  simp [getInt, intOf, bind, Except.bind, pure, Except.pure]

theorem pageHdrOf_member (ty : Int) (u c : Nat) (crc : Option Int) (mid : Int) (hmid : mid = 5 ∨ mid = 7) (mfs : Fields)
    (extra : Fields) (hx : extrasOk pageHeader extra = true) :
    ∃ fs, pageHdrTV ty u c crc mid (.struct mfs) extra = .struct fs ∧
      pageHdrOf fs = (do
        let d ← if mid = 5 then (dataHdrOf mfs).map some else pure none
        let k ← if mid = 7 then (dictHdrOf mfs).map some else pure none
        pure ⟨ty, u, c, crc, d, k⟩) := by
  refine ⟨_, rfl, ?_⟩
  rw [pageHdrOf_we _ _ hx]
  have hu : ¬ ((u : Int) < 0) := by omega
  have hc : ¬ ((c : Int) < 0) := by omega
  unfold pageHdrOf
  rw [checkStruct_ok _ _ (by rw [complete_eq]; simp [show (pageHeader.fields.filter (·.required)).map (·.id) = [1, 2, 3] from rfl])
    (by rcases hmid with rfl | rfl <;> simp <;> simp +decide [TVal.ty])]
  rcases hmid with rfl | rfl <;>
    simp [getStruct_eq, asStruct, getInt, intOf, bind_intOf_i32, hu, hc, bind, Except.bind, pure, Except.pure,
      Except.map] <;>
    split <;> rfl

theorem pageHdrOf_data (u c : Nat) (crc : Option Int) (dfs : Fields) (dh : DataHdr) (hd : dataHdrOf dfs = .ok dh)
    (extra : Fields) (hx : extrasOk pageHeader extra = true) :
    ∃ fs, pageHdrTV 0 u c crc 5 (.struct dfs) extra = .struct fs ∧
      pageHdrOf fs = .ok ⟨0, u, c, crc, some dh, none⟩ := by
  obtain ⟨fs, h1, h2⟩ := pageHdrOf_member 0 u c crc 5 (Or.inl rfl) dfs extra hx
  exact ⟨fs, h1, by rw [h2, hd]; rfl⟩

theorem pageHdrOf_dict (u c : Nat) (crc : Option Int) (kfs : Fields) (kh : DictHdr) (hd : dictHdrOf kfs = .ok kh)
    (extra : Fields) (hx : extrasOk pageHeader extra = true) :
    ∃ fs, pageHdrTV 2 u c crc 7 (.struct kfs) extra = .struct fs ∧
      pageHdrOf fs = .ok ⟨2, u, c, crc, none, some kh⟩ := by
  obtain ⟨fs, h1, h2⟩ := pageHdrOf_member 2 u c crc 7 (Or.inr rfl) kfs extra hx
  exact ⟨fs, h1, by rw [h2, hd]; rfl⟩

end Carquet.Proofs.SpecFile
