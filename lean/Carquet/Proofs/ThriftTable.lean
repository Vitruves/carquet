import Carquet.Proofs.ThriftParse
/-
A struct parser of parquet_types.c, seen from the Thrift value: a table `id ↦ (shape, update)`.
`parse_by_table`: if every table entry's handler reads values of its shape and every other id
is skipped, the parser maps any admitted encoding of a struct whose fields are acceptable
(`okT`) to the fold of the updates (`ofFields`).
-/
namespace Carquet.Proofs.Thrift
open Carquet.Spec.Thrift
open Carquet.Impl.Thrift
open Carquet.Impl.ThriftParquet

/-- what a handler does with its field's value: which values it can read, and the update -/
structure FieldSem (σ : Type) where
  shape : TVal → Prop
  upd : σ → TVal → σ

abbrev Table (σ : Type) := List (Int × FieldSem σ)

def lookupT {σ : Type} (tbl : Table σ) (id : Int) : Option (FieldSem σ) :=
  match tbl with
  | [] => none
  | (k, f) :: r => if id = k then some f else lookupT r id

/-- the parser's effect on the loop state of one field -/
def stepT {σ : Type} (tbl : Table σ) (s : σ) (id : Int) (v : TVal) : σ :=
  match lookupT tbl id with
  | some f => f.upd s v
  | none => s

/-- a field the parser handles as the writer meant: a known id carries a value of its shape, an
unknown id any value nested at most `R` deep -/
def okT {σ : Type} (tbl : Table σ) (R : Nat) (id : Int) (v : TVal) : Prop :=
  match lookupT tbl id with
  | some f => f.shape v
  | none => v.depth ≤ R

/-- the value a parser produces from a field list -/
def ofFields {σ : Type} (tbl : Table σ) (init : σ) (fs : List (Int × TVal)) : σ :=
  fs.foldl (fun s f => stepT tbl s f.1 f.2) init

/-- the handler of table entry `(id, f)` honours its contract -/
def EntryOK {σ : Type} (Inv : σ → Prop) (body : Nat → Int → Dec → σ → σ × Dec) (k : Nat) (e : Int × FieldSem σ) : Prop :=
  (∀ b, e.2.shape (.bool b) → BoolFieldOK Inv body (fun s _ v => e.2.upd s v) k e.1 b) ∧
  (∀ v, v.ty ≠ .bool → e.2.shape v → ValFieldOK Inv body (fun s _ v => e.2.upd s v) k e.1 v)

theorem lookupT_mem {σ : Type} (tbl : Table σ) (id : Int) (f : FieldSem σ) (h : lookupT tbl id = some f) : (id, f) ∈ tbl := by
  induction tbl with
  | nil => simp [lookupT] at h
  | cons e r ih =>
    obtain ⟨k, g⟩ := e
    simp only [lookupT] at h
    by_cases hk : id = k
    · simp only [hk, if_true, Option.some.injEq] at h; subst h; subst hk; exact List.mem_cons_self
    · simp only [hk, if_false] at h; exact List.mem_cons_of_mem _ (ih h)

theorem lookupT_eq_none_iff {σ : Type} (tbl : Table σ) (id : Int) : lookupT tbl id = none ↔ id ∉ tbl.map (·.1) := by
  induction tbl with
  | nil => simp [lookupT]
  | cons e r ih =>
    obtain ⟨k, g⟩ := e
    by_cases hk : id = k <;> simp [lookupT, hk, ih]

/-- what `fieldLoop_reads` asks of the loop body, from the entries of the table -/
theorem loop_by_table {σ : Type} (Inv : σ → Prop) (tbl : Table σ) (hinv : ∀ e ∈ tbl, ∀ s v, Inv s → Inv (e.2.upd s v))
    (body : Nat → Int → Dec → σ → σ × Dec) (R : Nat) (hR : R ≤ maxNesting)
    (hentries : ∀ e ∈ tbl, EntryOK Inv body R e)
    (hunknown : ∀ id, id ∉ tbl.map (·.1) → ∀ ty d s, d.status = none → body ty id d s = (s, skipField Cfg.fixed ty d))
    (fs : List (Int × TVal)) (hok : ∀ f ∈ fs, okT tbl R f.1 f.2) :
    (∀ s id v, Inv s → Inv (stepT tbl s id v)) ∧
    (∀ id b, (id, TVal.bool b) ∈ fs → BoolFieldOK Inv body (stepT tbl) R id b) ∧
    (∀ id v, (id, v) ∈ fs → v.ty ≠ .bool → ValFieldOK Inv body (stepT tbl) R id v) := by
  refine ⟨?_, ?_, ?_⟩
  · intro s id v hs
    unfold stepT
    cases hl : lookupT tbl id with
    | none => exact hs
    | some f => exact hinv _ (lookupT_mem tbl id f hl) s v hs
  · intro id b hm
    have h := hok _ hm
    unfold okT at h
    cases hl : lookupT tbl id with
    | some f =>
      rw [hl] at h
      have he := (hentries _ (lookupT_mem tbl id f hl)).1 b h
      intro d s hi hs hp hv hroom hbud
      obtain ⟨bv, hb⟩ := he d s hi hs hp hv hroom hbud
      exact ⟨bv, by rw [hb]; simp [stepT, hl]⟩
    | none =>
      have hu := hunknown id ((lookupT_eq_none_iff tbl id).1 hl)
      intro d s hi hs hp hv hroom hbud
      refine ⟨d.boolValue, ?_⟩
      rw [hu _ d s hs]
      have : stepT tbl s id (.bool b) = s := by simp [stepT, hl]
      rw [this, skipField_bool b d hs]
  · intro id v hm hnb
    have h := hok _ hm
    unfold okT at h
    cases hl : lookupT tbl id with
    | some f =>
      rw [hl] at h
      have he := (hentries _ (lookupT_mem tbl id f hl)).2 v hnb h
      intro b2 hb2 s hi d r hd
      obtain ⟨bv, hb⟩ := he b2 hb2 s hi d r hd
      exact ⟨bv, by rw [hb]; simp [stepT, hl]⟩
    | none =>
      rw [hl] at h
      have hu := hunknown id ((lookupT_eq_none_iff tbl id).1 hl)
      intro b2 hb2 s _ d r hd
      obtain ⟨bv, hsk⟩ := skipField_reads s v hnb R hR h b2 hb2 d r hd
      have : stepT tbl s id v = s := by simp [stepT, hl]
      exact ⟨bv, by show body v.ty.code id d s = _; rw [hu _ d s hd.ok, this]; exact hsk⟩

/-- **a table-described struct parser (`parseStruct`) reads every acceptable encoding** -/
theorem parse_by_table {σ : Type} (tbl : Table σ) (body : Nat → Int → Dec → σ → σ × Dec) (R : Nat) (hR : R ≤ maxNesting)
    (hentries : ∀ e ∈ tbl, EntryOK (fun _ => True) body R e)
    (hunknown : ∀ id, id ∉ tbl.map (·.1) → ∀ ty d s, d.status = none → body ty id d s = (s, skipField Cfg.fixed ty d))
    (init : σ) (fs : List (Int × TVal)) (bs : List UInt8) (henc : Enc (.val (.struct fs)) bs)
    (hok : ∀ f ∈ fs, okT tbl R f.1 f.2) :
    Reads (R + 1) (parseStruct body init) bs (ofFields tbl init fs) := by
  obtain ⟨_, hb, hv⟩ := loop_by_table (fun _ => True) tbl (fun _ _ _ _ _ => trivial)
    body R hR hentries hunknown fs hok
  exact parseStruct_reads body (stepT tbl) R init fs bs henc hb hv

/-! ### entries -/

variable {σ : Type}

def semI8 (set : σ → Int → σ) : FieldSem σ := ⟨fun v => ∃ x, v = .i8 x, fun s v => set s (asInt v)⟩
def semI16 (set : σ → Int → σ) : FieldSem σ := ⟨fun v => ∃ x, v = .i16 x, fun s v => set s (asInt v)⟩
def semI32 (set : σ → Int → σ) : FieldSem σ := ⟨fun v => ∃ x, v = .i32 x, fun s v => set s (asInt v)⟩
def semI64 (set : σ → Int → σ) : FieldSem σ := ⟨fun v => ∃ x, v = .i64 x, fun s v => set s (asInt v)⟩
def semBool (set : σ → Bool → σ) : FieldSem σ := ⟨fun v => ∃ b, v = .bool b, fun s v => set s (asBool v)⟩
def semBin (set : σ → Bytes → σ) : FieldSem σ := ⟨fun v => ∃ b, v = .binary b, fun s v => set s (asBin v)⟩
/-- a string member: stored as the C string the bytes denote (cut at the first NUL) -/
def semStr (set : σ → Option Bytes → σ) : FieldSem σ := ⟨fun v => ∃ b, v = .binary b, fun s v => set s (some (cstr (asBin v)))⟩

/-- entry read by `rd`, for the values of a non-bool shape -/
theorem entry_of_reads {α : Type} (Inv : σ → Prop) (body : Nat → Int → Dec → σ → σ × Dec) (k : Nat) (id : Int)
    (sem : FieldSem σ) (rd : Dec → α × Dec) (set : σ → α → σ) (conv : TVal → α)
    (hnb : ∀ b, ¬ sem.shape (.bool b))
    (hbody : ∀ ty d s, d.status = none → body ty id d s = (set s (rd d).1, (rd d).2))
    (hupd : ∀ s v, sem.shape v → sem.upd s v = set s (conv v))
    (hreads : ∀ v, sem.shape v → ∀ b2, Enc (.val v) b2 → Reads k rd b2 (conv v)) : EntryOK Inv body k (id, sem) := by
  refine ⟨fun b hb => absurd hb (hnb b), ?_⟩
  intro v _ hsh b2 hb2 s _ d r hd
  obtain ⟨bv, h⟩ := hreads v hsh b2 hb2 d r hd
  exact ⟨bv, by show body v.ty.code id d s = _; rw [hbody _ _ _ hd.ok, h]; simp [hupd s v hsh]⟩

theorem entry_i8 {Inv : σ → Prop} {body : Nat → Int → Dec → σ → σ × Dec} {k : Nat} {id : Int} {set : σ → Int → σ}
    (hbody : ∀ ty d s, d.status = none → body ty id d s = (set s (readI8 d).1, (readI8 d).2) := by intros; rfl) :
    EntryOK Inv body k (id, semI8 set) :=
  entry_of_reads Inv body k id _ readI8 set asInt (by rintro b ⟨x, h⟩; cases h) hbody (fun _ _ _ => rfl)
    (by rintro v ⟨x, rfl⟩; exact reads_enc_i8 x k)
theorem entry_i16 {Inv : σ → Prop} {body : Nat → Int → Dec → σ → σ × Dec} {k : Nat} {id : Int} {set : σ → Int → σ}
    (hbody : ∀ ty d s, d.status = none → body ty id d s = (set s (readI16 d).1, (readI16 d).2) := by intros; rfl) :
    EntryOK Inv body k (id, semI16 set) :=
  entry_of_reads Inv body k id _ readI16 set asInt (by rintro b ⟨x, h⟩; cases h) hbody (fun _ _ _ => rfl)
    (by rintro v ⟨x, rfl⟩; exact reads_enc_i16 x k)
theorem entry_i32 (Inv : σ → Prop) (body : Nat → Int → Dec → σ → σ × Dec) (k : Nat) (id : Int) (set : σ → Int → σ)
    (hbody : ∀ ty d s, d.status = none → body ty id d s = (set s (readI32 d).1, (readI32 d).2)) :
    EntryOK Inv body k (id, semI32 set) :=
  entry_of_reads Inv body k id _ readI32 set asInt (by rintro b ⟨x, h⟩; cases h) hbody (fun _ _ _ => rfl)
    (by rintro v ⟨x, rfl⟩; exact reads_enc_i32 x k)
theorem entry_i64 {Inv : σ → Prop} {body : Nat → Int → Dec → σ → σ × Dec} {k : Nat} {id : Int} {set : σ → Int → σ}
    (hbody : ∀ ty d s, d.status = none → body ty id d s = (set s (readI64 d).1, (readI64 d).2) := by intros; rfl) :
    EntryOK Inv body k (id, semI64 set) :=
  entry_of_reads Inv body k id _ readI64 set asInt (by rintro b ⟨x, h⟩; cases h) hbody (fun _ _ _ => rfl)
    (by rintro v ⟨x, rfl⟩; exact reads_enc_i64 x k)
theorem entry_bin {Inv : σ → Prop} {body : Nat → Int → Dec → σ → σ × Dec} {k : Nat} {id : Int} {set : σ → Bytes → σ}
    (hbody : ∀ ty d s, d.status = none → body ty id d s = (set s (bindupThrift d).1, (bindupThrift d).2) := by intros; rfl) :
    EntryOK Inv body k (id, semBin set) :=
  entry_of_reads Inv body k id _ bindupThrift set asBin (by rintro b ⟨x, h⟩; cases h) hbody (fun _ _ _ => rfl)
    (by rintro v ⟨x, rfl⟩; exact reads_enc_bindup x k)
theorem entry_str {Inv : σ → Prop} {body : Nat → Int → Dec → σ → σ × Dec} {k : Nat} {id : Int} {set : σ → Option Bytes → σ}
    (hbody : ∀ ty d s, d.status = none → body ty id d s = (set s (strdupThrift d).1, (strdupThrift d).2) := by intros; rfl) :
    EntryOK Inv body k (id, semStr set) :=
  entry_of_reads Inv body k id _ strdupThrift set (fun v => some (cstr (asBin v))) (by rintro b ⟨x, h⟩; cases h) hbody
    (fun _ _ _ => rfl) (by rintro v ⟨x, rfl⟩; exact reads_enc_strdup x k)

theorem entry_bool {Inv : σ → Prop} {body : Nat → Int → Dec → σ → σ × Dec} {k : Nat} {id : Int} {set : σ → Bool → σ}
    (hbody : ∀ ty d s, d.status = none → body ty id d s = (set s (readBool d).1, (readBool d).2) := by intros; rfl) :
    EntryOK Inv body k (id, semBool set) := by
  refine ⟨?_, ?_⟩
  · intro b _ d s _ hs hp hv _ _
    exact ⟨d.boolValue, by rw [hbody _ _ _ hs, readBool_pending d hp, hv]; rfl⟩
  · rintro v hnb ⟨b, rfl⟩
    exact absurd rfl hnb

end Carquet.Proofs.Thrift
