import Carquet.Proofs.SpecFileThrift
import Carquet.Proofs.SpecFileStats
import Carquet.Proofs.SpecFileRead
import Carquet.Proofs.SpecFileExtract
import Carquet.Proofs.SpecFileCodec
/-
Page headers: the data page header with any value-encoding tag, statistics and unknown fields at
all three levels; the dictionary page header with `is_sorted` and unknown fields; well-formedness of
the header values from explicit size bounds; and the raw-page stage on a page whose header is such a value
(`readRawPage_of`: header in any form, stored size, CRC, decompression under any plan, uncompressed size).
-/
namespace Carquet.Proofs.SpecFile
open Carquet.Spec Carquet.Spec.File Carquet.Spec.Thrift Carquet.Spec.ParquetThrift

/-! ### the header bytes -/

theorem parsePageHeader_of (F : ThriftForm) (fs : Fields) (h : PageHdr) (hwf : (TVal.struct fs).wf = true)
    (hp : pageHdrOf fs = .ok h) (rest : Bytes) :
    parsePageHeader (encodeValF F (.struct fs) ++ rest) = .ok (h, rest) := by
  have hd := decode_encodeValF F (.struct fs) hwf rest
  have hty : (TVal.struct fs).ty = .struct := rfl
  rw [hty] at hd
  unfold parsePageHeader
  rw [hd]
  simp only [hp]

/-! ### well-formedness -/

/-- bounds that make the statistics struct a well-formed Thrift value -/
def StatsOk (st : Option StatsMeta) : Prop :=
  ∀ s, st = some s →
    (∀ b, s.max = some b → b.length < 2 ^ 31) ∧ (∀ b, s.min = some b → b.length < 2 ^ 31) ∧
    (∀ b, s.maxValue = some b → b.length < 2 ^ 31) ∧ (∀ b, s.minValue = some b → b.length < 2 ^ 31) ∧
    (∀ k, s.nullCount = some k → inI64 k)

theorem statsTV_wf (s : StatsMeta) (se : Fields) (h : StatsOk (some s)) (hse : wfFields se = true) :
    (statsTV s se).wf = true := by
  obtain ⟨h1, h2, h3, h4, h5⟩ := h s rfl
  simp only [statsTV, TVal.wf]
  rw [wfFields_withExtras, hse, Bool.and_true]
  simp only [wfFields_append, wfFields_optField, Bool.and_eq_true, TVal.wf, decide_eq_true_eq]
  exact ⟨⟨⟨⟨fun b hb => ⟨by decide, h1 b hb⟩, fun b hb => ⟨by decide, h2 b hb⟩⟩, fun k hk => ⟨by decide, h5 k hk⟩⟩,
    fun b hb => ⟨by decide, h3 b hb⟩⟩, fun b hb => ⟨by decide, h4 b hb⟩⟩

theorem dataHdrTV_wf (n : Nat) (enc : Int) (st : Option StatsMeta) (se me : Fields) (hn : n < 2 ^ 31)
    (he : inI32 enc) (hst : StatsOk st) (hse : wfFields se = true) (hme : wfFields me = true) :
    (dataHdrTV ⟨n, enc, 3, 3, st⟩ se me).wf = true := by
  have hn' : inI32 (n : Int) := by unfold inI32; omega
  simp only [dataHdrTV, TVal.wf]
  rw [wfFields_withExtras, hme, Bool.and_true]
  simp only [wfFields_append, wfFields_optField, wfFields, Bool.and_eq_true, TVal.wf, decide_eq_true_eq]
  exact ⟨⟨⟨by decide, hn'⟩, ⟨by decide, he⟩, ⟨by decide, by decide⟩, ⟨by decide, by decide⟩, trivial⟩,
    fun s hs => ⟨by decide, statsTV_wf s se (hs ▸ hst) hse⟩⟩

theorem dictHdrTV_wf (n : Nat) (enc : Int) (sorted : Option Bool) (me : Fields) (hn : n < 2 ^ 31)
    (he : inI32 enc) (hme : wfFields me = true) :
    (dictHdrTV ⟨n, enc⟩ sorted me).wf = true := by
  have hn' : inI32 (n : Int) := by unfold inI32; omega
  simp only [dictHdrTV, TVal.wf]
  rw [wfFields_withExtras, hme, Bool.and_true]
  simp only [wfFields_append, wfFields_optField, wfFields, Bool.and_eq_true, TVal.wf, decide_eq_true_eq]
  exact ⟨⟨⟨by decide, hn'⟩, ⟨by decide, he⟩, trivial⟩, fun b _ => ⟨by decide, trivial⟩⟩

theorem pageHdrTV_wf (ty : Int) (u c : Nat) (crc : Option Int) (mid : Int) (member : TVal) (extra : Fields)
    (hty : inI32 ty) (hu : u < 2 ^ 31) (hc : c < 2 ^ 31) (hcrc : ∀ x, crc = some x → inI32 x) (hmid : inI16 mid)
    (hm : member.wf = true) (hx : wfFields extra = true) :
    (pageHdrTV ty u c crc mid member extra).wf = true := by
  have hu' : inI32 (u : Int) := by unfold inI32; omega
  have hc' : inI32 (c : Int) := by unfold inI32; omega
  simp only [pageHdrTV, TVal.wf]
  rw [wfFields_withExtras, hx, Bool.and_true]
  simp only [wfFields_append, wfFields_optField, wfFields, Bool.and_eq_true, TVal.wf, decide_eq_true_eq]
  exact ⟨⟨⟨⟨by decide, hty⟩, ⟨by decide, hu'⟩, ⟨by decide, hc'⟩, trivial⟩, fun x hx' => ⟨by decide, hcrc x hx'⟩⟩,
    ⟨hmid, hm⟩, trivial⟩

/-! ### the raw-page stage -/

theorem crcField_inI32 (bs : Bytes) : inI32 (crcField bs) := by
  have h := (Crc32.crc32 bs).isLt
  unfold crcField inI32
  split <;> omega

theorem crcField_check (bs : Bytes) :
    (Crc32.crc32 bs).toNat = (crcField bs % 4294967296).toNat := by
  have h := (Crc32.crc32 bs).isLt
  unfold crcField
  split <;> omega

theorem crc_inI32 (withCrc : Bool) (body : Bytes) :
    ∀ x, (if withCrc then some (crcField body) else none) = some x → inI32 x := by
  intro x hx
  cases withCrc with
  | false => simp at hx
  | true => simp at hx; rw [← hx]; exact crcField_inI32 body

/-- header (any form), stored size, checksum, decompression, uncompressed size — for a page whose
header value is `.struct fs` -/
theorem readRawPage_of (cfg : Config) (codec : Nat) (F : ThriftForm) (fs : Fields) (h : PageHdr) (withCrc : Bool)
    (body comp rest : Bytes)
    (hwf : (TVal.struct fs).wf = true) (hp : pageHdrOf fs = .ok h)
    (hty : h.type = 0 ∨ h.type = 2) (hco : h.compressed = comp.length) (hun : h.uncompressed = body.length)
    (hcrc : h.crc = if withCrc then some (crcField comp) else none)
    (hdec : decompress cfg.oracle codec comp body.length = .ok body) :
    readRawPage cfg codec (encodeValF F (.struct fs) ++ comp ++ rest) =
      .ok ⟨h, body, (encodeValF F (.struct fs)).length + comp.length, rest⟩ := by
  refine readRawPage_accepts (parsePageHeader_of F fs h hwf hp (comp ++ rest)) hty hco hun (fun c hc => ?_) hdec
  rw [hcrc] at hc
  cases withCrc <;> simp at hc
  rw [← hc]; exact crcField_check comp

end Carquet.Proofs.SpecFile
