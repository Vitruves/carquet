import Carquet.Proofs.RleEncoder
/-
Arbitrary put / put_repeat / flush histories of the (repaired) RLE encoder.

The invariant `RleEncoder.Inv w e D` is carried along the history, `D` being its *denotation* so far:
the values put, in order, with `flushPad` zeros after each flush.
-/
namespace Carquet.Proofs.RleHistory
open Carquet.Impl Carquet.Impl.Rle Carquet.Spec Carquet.Spec.RleHybrid
open Carquet.Proofs.RleGrammar Carquet.Proofs.RleEncoder

theorem inv_history {w : Nat} (hw : w ≤ 32) (ops : List EncOp) : ∀ (e : Enc) (D : List Nat), Inv w e D →
    (∀ v ∈ histValues ops, v < 2 ^ w) →
    Inv w (runEncOps e ops) (D ++ denoteWith (flushPads e ops) ops) ∧
    (flushPads e ops).length = (ops.filter (· = .flush)).length ∧ ∀ k ∈ flushPads e ops, k < 8 := by
  induction ops with
  | nil => intro e D h _; exact ⟨by simpa [runEncOps, denoteWith] using h, rfl, fun k hk => by simp [flushPads] at hk⟩
  | cons op ops ih =>
    intro e D h hv
    cases op with
    | put v =>
      have hv0 : v < 2 ^ w := hv v (by simp [histValues])
      obtain ⟨i1, i2, i3⟩ := ih (put e v) (D ++ [v]) (inv_put hw e D v h hv0)
        (fun x hx => hv x (by simp [histValues, hx]))
      refine ⟨by simpa [runEncOps, flushPads, denoteWith, List.append_assoc] using i1, ?_, by simpa [flushPads] using i3⟩
      simpa [flushPads] using i2
    | rep v n =>
      by_cases hn0 : n = 0
      · subst hn0
        obtain ⟨i1, i2, i3⟩ := ih e D h (fun x hx => hv x (by simp [histValues, hx]))
        refine ⟨by simpa [runEncOps, flushPads, denoteWith, putRepeat] using i1, ?_, by simpa [flushPads, putRepeat] using i3⟩
        simpa [flushPads, putRepeat] using i2
      · have hv0 : v < 2 ^ w := hv v (by
          simp only [histValues, List.mem_append, List.mem_replicate]
          exact Or.inl ⟨hn0, trivial⟩)
        obtain ⟨i1, i2, i3⟩ := ih (putRepeat e v n) (D ++ List.replicate n v) (inv_putRepeat hw v hv0 n e D h)
          (fun x hx => hv x (by simp [histValues, hx]))
        refine ⟨by simpa [runEncOps, flushPads, denoteWith, List.append_assoc] using i1, ?_, by simpa [flushPads] using i3⟩
        simpa [flushPads] using i2
    | flush =>
      obtain ⟨j1, _, j3⟩ := inv_flush hw e D h
      obtain ⟨i1, i2, i3⟩ := ih (flush e) (D ++ List.replicate (flushPad e) 0) j1
        (fun x hx => hv x (by simpa [histValues] using hx))
      refine ⟨by simpa [runEncOps, flushPads, denoteWith, List.append_assoc] using i1, ?_, ?_⟩
      · simp [flushPads, i2]
      · intro k hk
        simp only [flushPads, List.mem_cons] at hk
        rcases hk with rfl | hk
        · exact j3
        · exact i3 k hk

theorem histValues_append_flush (ops : List EncOp) : histValues (ops ++ [EncOp.flush]) = histValues ops := by
  induction ops with
  | nil => rfl
  | cons op ops ih => cases op <;> simp [histValues, ih]

theorem runEncOps_append (e : Enc) (a b : List EncOp) : runEncOps e (a ++ b) = runEncOps (runEncOps e a) b := by
  induction a generalizing e with
  | nil => rfl
  | cons op a ih => cases op <;> simp [runEncOps, ih]

/-- **Any history that ends with a flush writes complete runs denoting the values put, in order,
with `pads[i] < 8` zeros after the values preceding the i-th flush.** -/
theorem history_runs {w : Nat} (hw : w ≤ 32) (ops : List EncOp) (hv : ∀ v ∈ histValues ops, v < 2 ^ w) :
    Runs w (runEncOps (Enc.init w) (ops ++ [.flush])).out
      (denoteWith (flushPads (Enc.init w) (ops ++ [.flush])) (ops ++ [.flush])) ∧
    (flushPads (Enc.init w) (ops ++ [.flush])).length = (ops.filter (· = .flush)).length + 1 ∧
    ∀ k ∈ flushPads (Enc.init w) (ops ++ [.flush]), k < 8 := by
  have hv' : ∀ v ∈ histValues (ops ++ [.flush]), v < 2 ^ w := by
    intro v h
    apply hv
    rwa [histValues_append_flush] at h
  obtain ⟨i1, i2, i3⟩ := inv_history hw (ops ++ [.flush]) (Enc.init w) [] (inv_init w) hv'
  refine ⟨?_, by simpa using i2, i3⟩
  -- after the final flush nothing is pending
  refine i1.runs_of_idle ?_
  rw [runEncOps_append]
  exact (inv_flush hw _ _ (inv_history hw ops (Enc.init w) [] (inv_init w) hv).1).2.1

theorem denoteWith_zero (ops : List EncOp) (ps : List Nat) (h : ∀ k ∈ ps, k = 0) :
    denoteWith ps ops = histValues ops := by
  induction ops generalizing ps with
  | nil => cases ps <;> rfl
  | cons op ops ih =>
    cases op with
    | put v => simp [denoteWith, histValues, ih ps h]
    | rep v n => simp [denoteWith, histValues, ih ps h]
    | flush =>
      cases ps with
      | nil => simp [denoteWith, histValues, ih [] h]
      | cons k ps =>
        have hk : k = 0 := h k (by simp)
        subst hk
        simp [denoteWith, histValues, ih ps (fun x hx => h x (by simp [hx]))]

end Carquet.Proofs.RleHistory
