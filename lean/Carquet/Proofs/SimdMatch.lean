import Carquet.Impl.SimdMore
import Carquet.Spec.Kernels
import Carquet.Proofs.SimdBlocked
import Carquet.Proofs.SimdLevels
import Carquet.Proofs.Lz77
/-
C15 helper lemmas: the LZ77 match helpers.  `match_copy`: the byte-by-byte overlapping copy is `Lz77.backCopy`
(`copyBytes_eq`); block copies of `W ≤ offset` bytes and the pattern fills for offsets 1, 2, 4 all produce what it produces;
`match_length`: the 16-byte compare / movemask / ctz block finds the first mismatch.
-/
namespace Carquet.Proofs.SimdMatch
open Carquet Carquet.Impl.Simd Carquet.Proofs.SimdBlocked Carquet.Proofs.SimdLevels
open Carquet.Spec.Kernels (matchCopy commonPrefix matchLength)

/-! ### match_copy -/

theorem matchCopy_take : ∀ (n : Nat) (w : List UInt8), n ≤ w.length → matchCopy w n = w.take n
  | 0, w, _ => by cases w <;> rfl
  | n + 1, [], h => by simp at h
  | n + 1, x :: t, h => by
    have hn : n ≤ t.length := by simpa using h
    rw [matchCopy, matchCopy_take n (t ++ [x]) (by simp; omega), List.take_succ_cons,
      List.take_append_of_le_length hn]

/-- the byte loop of the helpers is the back-reference copy that Snappy and LZ4 share -/
theorem copyBytes_eq (o : Nat) : ∀ (n : Nat) (h : List UInt8), copyBytes o n h = Lz77.backCopy o n h
  | 0, _ => rfl
  | n + 1, h => by rw [copyBytes, copyBytes_eq o n, Lz77.backCopy, copyByte, List.take_one, List.head?_drop]

theorem copyBytes_add (o a b : Nat) (h : List UInt8) : copyBytes o (a + b) h = copyBytes o b (copyBytes o a h) := by
  rw [copyBytes_eq, copyBytes_eq, copyBytes_eq, Lz77.backCopy_add]

theorem copyBytes_length_ge (o n : Nat) (h : List UInt8) : h.length ≤ (copyBytes o n h).length :=
  copyBytes_eq o n h ▸ Lz77.length_le_backCopy o n h

theorem copyBytes_spec (o : Nat) (ho : 0 < o) : ∀ (n : Nat) (h : List UInt8), o ≤ h.length →
    copyBytes o n h = h ++ matchCopy (h.drop (h.length - o)) n
  | 0, h, _ => by
    cases hw : h.drop (h.length - o) <;> simp [copyBytes, matchCopy]
  | n + 1, h, hle => by
    have hwlen : (h.drop (h.length - o)).length = o := by rw [List.length_drop]; omega
    cases hw : h.drop (h.length - o) with
    | nil => rw [hw] at hwlen; simp at hwlen; omega
    | cons x t =>
      simp only [copyBytes, copyByte, hw, List.take_succ_cons, List.take_zero, matchCopy]
      rw [copyBytes_spec o ho n (h ++ [x]) (by simp; omega)]
      have ht : t = h.drop (h.length - o + 1) := by
        have := congrArg (List.drop 1) hw
        simpa [List.drop_drop, Nat.add_comm] using this.symm
      have hd : (h ++ [x]).drop ((h ++ [x]).length - o) = t ++ [x] := by
        have e : (h ++ [x]).length - o = h.length - o + 1 := by simp; omega
        rw [e, List.drop_append_of_le_length (by omega), ht]
      rw [hd, List.append_assoc]
      rfl

theorem copyBlock_eq (W o : Nat) (ho : 0 < o) (hW : W ≤ o) (h : List UInt8) (hle : o ≤ h.length) :
    copyBlock W o h = copyBytes o W h := by
  rw [copyBytes_eq, Lz77.backCopy_block ho hle W hW]; rfl

theorem copyBlocks_eq (W o : Nat) (ho : 0 < o) (hW : W ≤ o) : ∀ (k : Nat) (h : List UInt8), o ≤ h.length →
    copyBlocks W o k h = copyBytes o (W * k) h
  | 0, h, _ => by simp [copyBlocks, copyBytes]
  | k + 1, h, hle => by
    simp only [copyBlocks]
    rw [copyBlock_eq W o ho hW h hle, copyBlocks_eq W o ho hW k _ (by
      have := copyBytes_length_ge o W h; omega)]
    rw [← copyBytes_add, Nat.mul_succ, Nat.add_comm]

theorem copyBytes_window (w : List UInt8) (hw : 0 < w.length) (n : Nat) :
    (copyBytes w.length n w).drop w.length = matchCopy w n := by
  rw [copyBytes_spec w.length hw n w (Nat.le_refl _)]
  simp

theorem scalar_match_copy (w : List UInt8) (hw : 0 < w.length) (len : Nat) :
    scalarMatchCopy w len = matchCopy w len := by
  unfold scalarMatchCopy
  by_cases h8 : w.length ≥ 8
  · rw [if_pos h8, copyBlocks_eq 8 w.length hw h8 _ w (Nat.le_refl _), ← copyBytes_add]
    have : 8 * (len / 8) + len % 8 = len := Nat.div_add_mod len 8
    rw [this, copyBytes_window w hw]
  · rw [if_neg h8, copyBytes_window w hw]

theorem matchCopy_period (w : List UInt8) (hw : 0 < w.length) (n : Nat) :
    matchCopy w (w.length + n) = w ++ matchCopy w n := by
  rw [← copyBytes_window w hw, copyBytes_add, ← copyBlock_eq w.length w.length hw (Nat.le_refl _) w (Nat.le_refl _)]
  have e : copyBlock w.length w.length w = w ++ w := by simp [copyBlock]
  rw [e, copyBytes_spec w.length hw n (w ++ w) (by simp)]
  simp

theorem matchCopy_blocks (w : List UInt8) (hw : 0 < w.length) (r : Nat) : ∀ k,
    matchCopy w (w.length * k + r) = storeBlocks w k ++ matchCopy w r
  | 0 => by simp [storeBlocks]
  | k + 1 => by
    have : w.length * (k + 1) + r = w.length + (w.length * k + r) := by rw [Nat.mul_succ]; omega
    rw [this, matchCopy_period w hw, matchCopy_blocks w hw r k]
    simp [storeBlocks]

theorem storeBlocks_add (w : List UInt8) (b : Nat) : ∀ a, storeBlocks w a ++ storeBlocks w b = storeBlocks w (a + b)
  | 0 => by simp [storeBlocks]
  | a + 1 => by
    rw [Nat.add_right_comm]
    simp only [storeBlocks, List.append_assoc]
    rw [storeBlocks_add w b a]

theorem storeBlocks_quad (w : List UInt8) : ∀ k, storeBlocks (w ++ w ++ w ++ w) k = storeBlocks w (4 * k)
  | 0 => rfl
  | k + 1 => by
    have : 4 * (k + 1) = 4 + 4 * k := by omega
    rw [this, ← storeBlocks_add w (4 * k) 4, storeBlocks, storeBlocks_quad w k]
    simp [storeBlocks]

theorem storeBlocks_replicate (v : UInt8) (n : Nat) : ∀ k, storeBlocks (List.replicate n v) k = List.replicate (n * k) v
  | 0 => by simp [storeBlocks]
  | k + 1 => by
    rw [storeBlocks, storeBlocks_replicate v n k, List.replicate_append_replicate, Nat.mul_succ, Nat.add_comm]

theorem matchCopy_single (v : UInt8) : ∀ n, matchCopy [v] n = List.replicate n v
  | 0 => rfl
  | n + 1 => by
    show v :: matchCopy ([] ++ [v]) n = _
    rw [List.nil_append, matchCopy_single v n]; rfl

theorem eq_singleton_getD (w : List UInt8) (h : w.length = 1) : w = [w.getD 0 0] := by
  match w, h with
  | [a], _ => rfl

theorem eq_pair_getD (w : List UInt8) (h : w.length = 2) : w = [w.getD 0 0, w.getD 1 0] := by
  match w, h with
  | [a, b], _ => rfl

theorem copyBlockIf_eq (c : Bool) (W o : Nat) (ho : 0 < o) (hW : W ≤ o) (h : List UInt8) (hle : o ≤ h.length) :
    copyBlockIf c W o h = copyBytes o (if c then W else 0) h := by
  cases c
  · rfl
  · exact copyBlock_eq W o ho hW h hle

theorem matchCopy_fill (w : List UInt8) (hw : 0 < w.length) (k r : Nat) (hr : r ≤ w.length) :
    matchCopy w (w.length * k + r) = storeBlocks w k ++ w.take r := by
  rw [matchCopy_blocks w hw, matchCopy_take r w hr]

theorem sse_match_copy (w : List UInt8) (hw : 0 < w.length) (len : Nat) :
    sseMatchCopy w len = matchCopy w len := by
  unfold sseMatchCopy
  by_cases h16 : w.length ≥ 16
  · rw [if_pos h16, copyBlocks_eq 16 w.length hw h16 _ w (Nat.le_refl _),
      copyBlockIf_eq _ 8 w.length hw (by omega) _ (copyBytes_length_ge _ _ _), ← copyBytes_add, ← copyBytes_add,
      copyBytes_window w hw]
    congr 1
    by_cases h8 : len % 16 ≥ 8 <;> simp only [h8, decide_true, decide_false, if_true, Bool.false_eq_true, if_false] <;>
      omega
  · rw [if_neg h16]
    by_cases h1 : w.length = 1
    · rw [if_pos h1]
      have hw1 := eq_singleton_getD w h1
      generalize w.getD 0 0 = v at *
      subst hw1
      rw [set1, storeBlocks_replicate, List.replicate_append_replicate, matchCopy_single]
      congr 1
      exact Nat.div_add_mod len 16
    · rw [if_neg h1]
      by_cases h2 : w.length = 2
      · rw [if_pos h2, ← eq_pair_getD w h2]
        have hm := matchCopy_fill w hw (len / 2) (len % 2) (by omega)
        rw [h2, Nat.div_add_mod] at hm
        rw [hm]
        congr 1
        rcases Nat.mod_two_eq_zero_or_one len with e | e <;> rw [e, eq_pair_getD w h2] <;> rfl
      · rw [if_neg h2]
        by_cases h4 : w.length = 4
        · rw [if_pos h4, storeBlocks_quad, storeBlocks_add]
          have hm := matchCopy_fill w hw (4 * (len / 16) + len % 16 / 4) (len % 4) (by omega)
          rw [show w.length * (4 * (len / 16) + len % 16 / 4) + len % 4 = len by rw [h4]; omega] at hm
          exact hm.symm
        · rw [if_neg h4, copyBytes_window w hw]

/-! ### match_length -/

theorem commonPrefix_zip : ∀ a b : List UInt8,
    commonPrefix a b = firstIdx (fun pm : UInt8 × UInt8 => pm.1 != pm.2) (a.zip b)
  | [], _ => by simp [commonPrefix, firstIdx]
  | _ :: _, [] => by simp [commonPrefix, firstIdx]
  | x :: xs, y :: ys => by
    simp only [commonPrefix, List.zip_cons_cons, firstIdx]
    by_cases h : x = y
    · simp [h, commonPrefix_zip xs ys]
    · simp [h]

theorem scalar_match_length (buf : List UInt8) (off : Nat) : scalarMatchLength buf off = matchLength buf off := by
  unfold scalarMatchLength matchLength matchPairs
  rw [commonPrefix_zip]

theorem match_mask (pm : List (UInt8 × UInt8)) :
    movemaskEpi8 (cmpeqEpi8 (pm.map (·.1)) (pm.map (·.2))) = pm.map fun q => q.1 == q.2 := by
  induction pm with
  | nil => rfl
  | cons q qs ih =>
    simp only [List.map_cons, cmpeqEpi8, List.zipWith_cons_cons, movemaskEpi8] at *
    rw [ih]
    congr 1
    cases q.1 == q.2 <;> decide

theorem sse_match_block (b : List (UInt8 × UInt8)) (h : b.length = 16) :
    sseMatchBlk b = if firstIdx (fun pm => pm.1 != pm.2) b < 16 then some (firstIdx (fun pm => pm.1 != pm.2) b) else none := by
  simp only [sseMatchBlk, match_mask, ctzNot, firstIdx_not_map]
  exact search_result _ _ 16 _ (h ▸ all_id_map (fun q : UInt8 × UInt8 => q.1 == q.2) b) rfl

theorem sse_match_length (buf : List UInt8) (off : Nat) : sseMatchLength buf off = matchLength buf off := by
  unfold sseMatchLength
  rw [blockedSearch_eq 16 sseMatchBlk _ sse_match_block, ← scalar_match_length]
  rfl

end Carquet.Proofs.SimdMatch
