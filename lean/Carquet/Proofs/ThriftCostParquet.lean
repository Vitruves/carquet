import Carquet.Proofs.ThriftCost
import Carquet.Proofs.ThriftSafeParquet
/-
The parsers of parquet_types.c on arbitrary bytes (repaired code), handler by handler: every field
handler is safe (`Adv`, Proofs.ThriftSafe) and paid for (`PClaim`, Proofs.ThriftCost).  Hence the two
top-level parsers exhaust neither a loop budget nor the stack grant of `thrift_skip`, stay inside
the buffer, store no list with more cells than the input has bytes, and take a number of steps
LINEAR in the size of their input.  A step is a `thrift_read_field_begin`, a `thrift_skip`
invocation, or one cell of an array allocated for a list (Impl.ThriftCost), so the bound is also a
bound on the number of array cells allocated.
-/
namespace Carquet.Proofs.ThriftSafe
open Carquet.Impl.Thrift
open Carquet.Impl.ThriftParquet

/-- the handlers of a struct parser: safe and paid for -/
def BodyClaim {σ : Type} (B M : Nat) (body : Nat → Int → Dec → σ → σ × Dec) (c : Nat → Int → Dec → σ → Nat) : Prop :=
  ∀ ty fid d s, Good d → Adv d (body ty fid d s).2 ∧ PClaim B M d (body ty fid d s).2 (c ty fid d s)

theorem BodyClaim.adv {σ : Type} {B M : Nat} {body : Nat → Int → Dec → σ → σ × Dec} {c : Nat → Int → Dec → σ → Nat}
    (h : BodyClaim B M body c) : BodyAdv body :=
  fun ty fid d s hg => (h ty fid d s hg).1

theorem BodyClaim.safe {σ : Type} {B M : Nat} {body : Nat → Int → Dec → σ → σ × Dec} {c : Nat → Int → Dec → σ → Nat}
    (h : BodyClaim B M body c) (N : Nat) : BodySafe (fun _ => True) N (fun _ => True) body :=
  h.adv.safe N

theorem BodyClaim.handlers {σ : Type} {B M : Nat} {body : Nat → Int → Dec → σ → σ × Dec} {c : Nat → Int → Dec → σ → Nat}
    (hb : BodyClaim B M body c) (hM : 2 ≤ M) (ty : Nat) (fid : Int) (d : Dec) (s : σ) (hg : Good d)
    (_ : d.status = none → True) :
    Adv d (body ty fid d s).2 ∧ PClaim B M d (body ty fid d s).2 (c ty fid d s) ∧
      (d.status ≠ none → c ty fid d s ≤ M * d.rest.length + 1) := by
  obtain ⟨ha, hc⟩ := hb ty fid d s hg
  refine ⟨ha, hc, fun hne => ?_⟩
  have := hc.bad hne
  have := Nat.mul_le_mul_right d.rest.length hM
  omega

/-- every nested struct parser: `steps + 2 + 36·|left| ≤ 36·|before| + pen` -/
theorem struct_sclaim {σ : Type} (body : Nat → Int → Dec → σ → σ × Dec) (c : Nat → Int → Dec → σ → Nat)
    (B M : Nat) (hB : 2 ≤ B) (hM : 2 ≤ M) (hb : BodyClaim B M body c) (init : σ) (d : Dec) (hg : Good d) :
    SClaim (B + 1) M d (parseStruct body init d).2 (parseStructSteps body c init d) := by
  rw [parseStruct_snd]
  exact structLoop_steps body c (fun _ => True) B M hB (hb.handlers hM) init d hg (fun _ => trivial)

/-! ### element loops of parquet_types.c (not guarded by the status) -/

/-- element parsers: safe, and paid for (with two steps to spare) -/
def ElemClaim {α : Type} (B M : Nat) (elem : Dec → α × Dec) (c : Dec → Nat) : Prop :=
  ∀ d, Good d → Adv d (elem d).2 ∧ SClaim B M d (elem d).2 (c d)

theorem readMany_bad {α : Type} (elem : Dec → α × Dec) (c : Dec → Nat) (B M : Nat) (he : ElemClaim B M elem c) :
    ∀ (n : Nat) (d : Dec), Good d → d.status ≠ none → readManySteps elem c n d ≤ 2 * n
  | 0, _, _, _ => by simp [readManySteps]
  | n + 1, d, hg, hs => by
    obtain ⟨ha, hc⟩ := he d hg
    have := hc.bad hs
    have ih := readMany_bad elem c B M he n (elem d).2 (ha.good hg) (fun h => hs (ha.ok h))
    unfold readManySteps
    omega

theorem readMany_steps {α : Type} (elem : Dec → α × Dec) (c : Dec → Nat) (B M : Nat) (he : ElemClaim B M elem c) :
    ∀ (n : Nat) (d : Dec), Good d → d.status = none →
      readManySteps elem c n d + 36 * (readMany elem n d).2.rest.length ≤
        36 * d.rest.length + (match (readMany elem n d).2.status with
          | none => 0
          | some _ => B + M * d.rest.length + 2 * n)
  | 0, d, _, hs => by simp [readManySteps, readMany, hs]
  | n + 1, d, hg, hs => by
    obtain ⟨ha, hc⟩ := he d hg
    have hco := hc.ok hs
    have hl := ha.len
    have hfin := readMany_adv elem (fun x hx => (he x hx).1) n (elem d).2 (ha.good hg)
    have hlf := hfin.len
    rw [readMany_snd]
    unfold readManySteps
    have hMx : M * (elem d).2.rest.length ≤ M * d.rest.length := Nat.mul_le_mul_left _ hl
    cases hsx : (elem d).2.status with
    | some x =>
      have hne : (elem d).2.status ≠ none := by rw [hsx]; simp
      have hb := readMany_bad elem c B M he n (elem d).2 (ha.good hg) hne
      have hnf : (readMany elem n (elem d).2).2.status ≠ none := fun h => hne (hfin.ok h)
      rw [pen_bad hne] at hco
      cases hsf : (readMany elem n (elem d).2).2.status with
      | none => exact absurd hsf hnf
      | some xf => simp only []; omega
    | none =>
      rw [pen_ok hsx] at hco
      have ih := readMany_steps elem c B M he n (elem d).2 (ha.good hg) hsx
      cases hsf : (readMany elem n (elem d).2).2.status with
      | none => rw [hsf] at ih; simp only [] at ih ⊢; omega
      | some xf => rw [hsf] at ih; simp only [] at ih ⊢; omega

/-- a list-valued field below the top level, as a field handler -/
theorem list_pclaim {α : Type} (max : Int) (elem : Dec → α × Dec) (c : Dec → Nat) (B M : Nat) (he : ElemClaim B M elem c)
    (d : Dec) (hg : Good d) :
    PClaim B (M + 2) d (parseListOf max elem d).2 (parseListOfSteps max elem c d) := by
  have h1 := fwd_readListBegin.adv d
  have hl := h1.len
  have hcnt := (readListBegin_count d).2
  have hgy := h1.good hg
  unfold parseListOf parseListOfSteps
  split
  · -- count refused
    refine ⟨fun _ => ?_, fun _ => by omega⟩
    simp only []
    omega
  · generalize (readListBegin d).count.toNat = n at *
    generalize hy : (readListBegin d).dec = y at *
    have hsnd : ∀ p : List α × Dec, (match p with | (xs, d1) => (some xs, d1)).2 = p.2 := fun p => rfl
    rw [hsnd]
    have hfin := readMany_adv elem (fun x hx => (he x hx).1) n y hgy
    have hlf := hfin.len
    have hMy : M * y.rest.length ≤ M * d.rest.length := Nat.mul_le_mul_left _ hl
    refine ⟨fun hs => ?_, fun hs => ?_⟩
    · cases hsy : y.status with
      | some x =>
        have hne : y.status ≠ none := by rw [hsy]; simp
        have hb := readMany_bad elem c B M he n y hgy hne
        have hnf : (readMany elem n y).2.status ≠ none := fun h => hne (hfin.ok h)
        rw [pen_bad hnf, Nat.add_mul]
        omega
      | none =>
        have := readMany_steps elem c B M he n y hgy hsy
        cases hsf : (readMany elem n y).2.status with
        | none => rw [hsf] at this; simp only [] at this; rw [pen_ok hsf]; omega
        | some xf =>
          rw [hsf] at this; simp only [] at this
          rw [pen_bad (by rw [hsf]; simp), Nat.add_mul]
          omega
    · have hne : y.status ≠ none := fun h => hs (h1.ok h)
      have hb := readMany_bad elem c B M he n y hgy hne
      omega

/-- a top-level list (`VALIDATE_COUNT_STATUS`) -/
theorem topList_pclaim {σ α : Type} (max : Int) (elem : Dec → α × Dec) (c : Dec → Nat) (B M : Nat)
    (he : ElemClaim B M elem c) (set : σ → List α → σ) (d : Dec) (s : Top σ) (hg : Good d) :
    PClaim B (M + 2) d (topListOf max elem set d s).2 (topListOfSteps max elem c d) := by
  have hp := list_pclaim max elem c B M he d hg
  have h1 := fwd_readListBegin.adv d
  have hl := h1.len
  unfold topListOf topListOfSteps parseListOfSteps at *
  unfold parseListOf at hp
  split
  · rename_i hbad
    refine ⟨fun _ => ?_, fun _ => by omega⟩
    simp only []
    omega
  · rename_i hbad
    simp only [hbad, if_false] at hp
    exact hp



/-! ### the handlers, parser by parser

`Handled B M d r n`: the handler that returns `r` after `n` steps from the good state `d` is safe and
paid for.  A parser's claim is a term that follows the `if` chain of its `switch (field_id)`, and of
its step counter in lock step, one combinator per handler.  (Nothing may make Lean
compute the second component of a reader's result — on `(readBinary d).2.2` the kernel does not return —: the
combinators take it syntactically.) -/

def Handled {α : Type} (B M : Nat) (d : Dec) (r : α × Dec) (n : Nat) : Prop := Adv d r.2 ∧ PClaim B M d r.2 n

theorem BodyClaim.intro {σ : Type} {B M : Nat} {body : Nat → Int → Dec → σ → σ × Dec} {c : Nat → Int → Dec → σ → Nat}
    (h : ∀ ty fid d s, Good d → Handled B M d (body ty fid d s) (c ty fid d s)) : BodyClaim B M body c := h

namespace Handled
variable {α : Type} {B M : Nat} {d : Dec}

theorem ite {c : Prop} [Decidable c] {x y : α × Dec} {a b : Nat} (hx : Handled B M d x a) (hy : Handled B M d y b) :
    Handled B M d (if c then x else y) (if c then a else b) := by
  split
  · exact hx
  · exact hy

theorem read (a : α) {d' : Dec} (ha : Adv d d') : Handled B M d (a, d') 0 := ⟨ha, scalar_pclaim ha⟩

/-- a member set from what a straight-line reader returns -/
theorem fwd {β : Type} {m : Nat} {f : Dec → β × Dec} (hf : Fwd m Prod.fst Prod.snd f) {a : α} :
    Handled B M d (a, (f d).2) 0 := .read a (hf.adv d)

theorem skip (a : α) (ty : Nat) (hg : Good d) :
    Handled (B + 2) M d (a, skipField Cfg.fixed ty d) (skipFieldSteps Cfg.fixed ty d) :=
  ⟨skipField_adv ty d hg,
    fun hs => (skip_claim stackBudget ty d hg hs (stackBudget_ok d)).pclaim (by omega),
    fun hs => by unfold skipFieldSteps; rw [skipSteps_of_err _ _ _ _ hs]; omega⟩

theorem of_eq {β : Type} {x : α × Dec} {a : α} {d1 : Dec} {n : Nat} (b : β) (heq : x = (a, d1))
    (h : Handled B M d x n) : Handled B M d (b, d1) n := by
  subst heq; exact h

theorem mono {B' M' : Nat} {r : α × Dec} {n : Nat} (h : Handled B M d r n) (hB : B ≤ B' := by omega)
    (hM : M ≤ M' := by omega) : Handled B' M' d r n :=
  ⟨h.1, h.2.mono hB hM⟩

theorem struct {σ : Type} {body : Nat → Int → Dec → σ → σ × Dec} {c : Nat → Int → Dec → σ → Nat} {B' M' : Nat}
    (hb : BodyClaim B M body c) (init : σ) (hg : Good d) (hB : 2 ≤ B := by omega) (hM : 2 ≤ M := by omega)
    (hB' : B + 1 ≤ B' := by omega) (hM' : M ≤ M' := by omega) :
    Handled B' M' d (parseStruct body init d) (parseStructSteps body c init d) :=
  ⟨parseStruct_adv body hb.adv init d hg, ((struct_sclaim body c B M hB hM hb init d hg).mono hB' hM').toP⟩

theorem setList {σ β : Type} (s : σ) (set : σ → List β → σ) {r : Option (List β) × Dec} {n : Nat}
    (h : Handled B M d r n) : Handled B M d (setList s set r) n := h

end Handled

theorem BodyClaim.elem {σ : Type} {B M B' : Nat} {body : Nat → Int → Dec → σ → σ × Dec} {c : Nat → Int → Dec → σ → Nat}
    (hb : BodyClaim B M body c) (init : σ) (hB : 2 ≤ B := by omega) (hM : 2 ≤ M := by omega)
    (hB' : B + 1 ≤ B' := by omega) : ElemClaim B' M (parseStruct body init) (parseStructSteps body c init) :=
  fun d hg => ⟨parseStruct_adv body hb.adv init d hg,
    (struct_sclaim body c B M hB hM hb init d hg).mono hB' (Nat.le_refl _)⟩

theorem ElemClaim.list {β : Type} {B M B' M' : Nat} {elem : Dec → β × Dec} {c : Dec → Nat} (he : ElemClaim B M elem c)
    (max : Int) {d : Dec} (hg : Good d) (hB : B ≤ B' := by omega) (hM : M + 2 ≤ M' := by omega) :
    Handled B' M' d (parseListOf max elem d) (parseListOfSteps max elem c d) :=
  ⟨parseListOf_adv max elem (fun x hx => (he x hx).1) d hg, (list_pclaim max elem c B M he d hg).mono hB hM⟩

theorem ElemClaim.topList {σ β : Type} {B M B' M' : Nat} {elem : Dec → β × Dec} {c : Dec → Nat}
    (he : ElemClaim B M elem c) (max : Int) (set : σ → List β → σ) {d : Dec} (s : Top σ) (hg : Good d)
    (hB : B ≤ B' := by omega) (hM : M + 2 ≤ M' := by omega) :
    Handled B' M' d (topListOf max elem set d s) (topListOfSteps max elem c d) :=
  ⟨topListOf_adv max elem (fun x hx => (he x hx).1) set d s hg, (topList_pclaim max elem c B M he set d s hg).mono hB hM⟩

/-- an element reader without steps of its own (`thrift_read_i32`, the string copy of `path_in_schema`) -/
theorem ElemClaim.of_fwd {β : Type} {m : Nat} {f : Dec → β × Dec} (hf : Fwd (m + 1) Prod.fst Prod.snd f) :
    ElemClaim 3 2 f (fun _ => 0) :=
  fun d _ => ⟨hf.adv d, read_sclaim (by omega) (hf.adv d) fun hs => by have := hf.prog d _ rfl hs; omega⟩

theorem noteOverlay_rest (b : Bool) (d : Dec) : (noteOverlay b d).rest = d.rest := by
  unfold noteOverlay; split <;> rfl
theorem noteOverlay_status (b : Bool) (d : Dec) : (noteOverlay b d).status = d.status := by
  unfold noteOverlay; split <;> rfl

theorem Handled.noteOverlay {α β : Type} {B M : Nat} {d d1 : Dec} {x : α × Dec} {a : α} {n : Nat} (a' : β) (b : Bool)
    (heq : x = (a, d1)) (h : Handled B M d x n) : Handled B M d (a', noteOverlay b d1) n := by
  subst heq
  exact ⟨h.1.trans (noteOverlay_adv b d1), h.2.congr (noteOverlay_rest b d1) (noteOverlay_status b d1)⟩

theorem statisticsBody_claim : BodyClaim 2 2 (statisticsBody Cfg.fixed) (statisticsBodySteps Cfg.fixed) :=
  .intro fun ty fid d s hg => by
    unfold statisticsBody statisticsBodySteps
    exact .ite (.fwd fwd_bindupThrift) <| .ite (.fwd fwd_bindupThrift) <|
      .ite (.fwd fwd_readI64) <| .ite (.fwd fwd_readI64) <|
      .ite (.fwd fwd_bindupThrift) <| .ite (.fwd fwd_bindupThrift) <|
      .ite (.fwd fwd_readBool) <| .ite (.fwd fwd_readBool) <| .skip _ ty hg

theorem decimalBody_claim : BodyClaim 2 2 (decimalBody Cfg.fixed) (decimalBodySteps Cfg.fixed) :=
  .intro fun ty fid d s hg => by
    unfold decimalBody decimalBodySteps
    exact .ite (.fwd fwd_readI32) <| .ite (.fwd fwd_readI32) <| .skip _ ty hg

theorem timeUnitBody_claim : BodyClaim 2 2 (timeUnitBody Cfg.fixed) (timeUnitBodySteps Cfg.fixed) :=
  .intro fun ty fid d s hg => by
    unfold timeUnitBody timeUnitBodySteps
    exact .skip _ ty hg

theorem timeBody_claim : BodyClaim 3 2 (timeBody Cfg.fixed) (timeBodySteps Cfg.fixed) :=
  .intro fun ty fid d s hg => by
    unfold timeBody timeBodySteps
    exact .ite (.fwd fwd_readBool) <|
      .ite (by split; exact .of_eq _ ‹_› (.struct timeUnitBody_claim _ hg)) <| .skip _ ty hg

theorem integerBody_claim : BodyClaim 2 2 (integerBody Cfg.fixed) (integerBodySteps Cfg.fixed) :=
  .intro fun ty fid d s hg => by
    unfold integerBody integerBodySteps
    exact .ite (.fwd fwd_readI8) <| .ite (.fwd fwd_readBool) <| .skip _ ty hg

theorem logicalBody_claim : BodyClaim 4 2 (logicalBody Cfg.fixed) (logicalBodySteps Cfg.fixed) :=
  .intro fun ty fid d s hg => by
    unfold logicalBody logicalBodySteps plainMember
    exact .ite (.skip _ ty hg) <| .ite (.skip _ ty hg) <| .ite (.skip _ ty hg) <| .ite (.skip _ ty hg) <|
      .ite (by split; exact .of_eq _ ‹_› (.struct decimalBody_claim _ hg)) <| .ite (.skip _ ty hg) <|
      .ite (by split; exact .of_eq _ ‹_› (.struct timeBody_claim _ hg)) <|
      .ite (by split; exact .of_eq _ ‹_› (.struct timeBody_claim _ hg)) <|
      .ite (by split; exact .of_eq _ ‹_› (.struct integerBody_claim _ hg)) <|
      .ite (.skip _ ty hg) <| .ite (.skip _ ty hg) <| .ite (.skip _ ty hg) <| .ite (.skip _ ty hg) <|
      .ite (.skip _ ty hg) <| .skip _ ty hg

theorem schemaElementBody_claim : BodyClaim 5 2 (schemaElementBody Cfg.fixed) (schemaElementBodySteps Cfg.fixed) :=
  .intro fun ty fid d s hg => by
    unfold schemaElementBody schemaElementBodySteps
    exact .ite (.fwd fwd_readI32) <| .ite (.fwd fwd_readI32) <| .ite (.fwd fwd_readI32) <|
      .ite (.fwd fwd_strdupThrift) <| .ite (.fwd fwd_readI32) <| .ite (.fwd fwd_readI32) <|
      .ite (.fwd fwd_readI32) <| .ite (.fwd fwd_readI32) <| .ite (.fwd fwd_readI32) <|
      .ite (by split; exact .noteOverlay _ _ ‹_› (.struct logicalBody_claim _ hg)) <| .skip _ ty hg

theorem parseSchemaElement_claim : ElemClaim 6 2 (parseSchemaElement Cfg.fixed) (parseSchemaElementSteps Cfg.fixed) :=
  schemaElementBody_claim.elem {}

theorem keyValueBody_claim : BodyClaim 2 2 (keyValueBody Cfg.fixed) (keyValueBodySteps Cfg.fixed) :=
  .intro fun ty fid d s hg => by
    unfold keyValueBody keyValueBodySteps
    exact .ite (.fwd fwd_strdupThrift) <| .ite (.fwd fwd_strdupThrift) <| .skip _ ty hg

theorem parseKeyValue_claim : ElemClaim 3 2 (parseKeyValue Cfg.fixed) (parseKeyValueSteps Cfg.fixed) :=
  keyValueBody_claim.elem {}

theorem encodingStatsBody_claim : BodyClaim 2 2 (encodingStatsBody Cfg.fixed) (encodingStatsBodySteps Cfg.fixed) :=
  .intro fun ty fid d s hg => by
    unfold encodingStatsBody encodingStatsBodySteps
    exact .ite (.fwd fwd_readI32) <| .ite (.fwd fwd_readI32) <| .ite (.fwd fwd_readI32) <|
      .skip _ ty hg

theorem parseEncodingStats_claim : ElemClaim 3 2 (parseEncodingStats Cfg.fixed) (parseEncodingStatsSteps Cfg.fixed) :=
  encodingStatsBody_claim.elem {}

theorem columnMetaDataBody_claim : BodyClaim 3 4 (columnMetaDataBody Cfg.fixed) (columnMetaDataBodySteps Cfg.fixed) :=
  .intro fun ty fid d s hg => by
    unfold columnMetaDataBody columnMetaDataBodySteps
    exact .ite (.fwd fwd_readI32) <| .ite (.setList _ _ ((ElemClaim.of_fwd fwd_readI32).list _ hg)) <|
      .ite (.setList _ _ ((ElemClaim.of_fwd fwd_strdupBytes).list _ hg)) <| .ite (.fwd fwd_readI32) <|
      .ite (.fwd fwd_readI64) <| .ite (.fwd fwd_readI64) <| .ite (.fwd fwd_readI64) <|
      .ite (.setList _ _ (parseKeyValue_claim.list _ hg)) <| .ite (.fwd fwd_readI64) <|
      .ite (.fwd fwd_readI64) <| .ite (.fwd fwd_readI64) <|
      .ite (by split; exact .of_eq _ ‹_› (.struct statisticsBody_claim _ hg)) <|
      .ite (.setList _ _ (parseEncodingStats_claim.list _ hg)) <| .ite (.fwd fwd_readI64) <|
      .ite (.fwd fwd_readI32) <| .skip _ ty hg

theorem columnChunkBody_claim : BodyClaim 4 4 (columnChunkBody Cfg.fixed) (columnChunkBodySteps Cfg.fixed) :=
  .intro fun ty fid d s hg => by
    unfold columnChunkBody columnChunkBodySteps
    exact .ite (.fwd fwd_strdupThrift) <| .ite (.fwd fwd_readI64) <|
      .ite (by split; exact .of_eq _ ‹_› (.struct columnMetaDataBody_claim _ hg)) <|
      .ite (.fwd fwd_readI64) <| .ite (.fwd fwd_readI32) <| .ite (.fwd fwd_readI64) <|
      .ite (.fwd fwd_readI32) <| .skip _ ty hg

theorem parseColumnChunk_claim : ElemClaim 5 4 (parseColumnChunk Cfg.fixed) (parseColumnChunkSteps Cfg.fixed) :=
  columnChunkBody_claim.elem {}

theorem rowGroupBody_claim : BodyClaim 5 6 (rowGroupBody Cfg.fixed) (rowGroupBodySteps Cfg.fixed) :=
  .intro fun ty fid d s hg => by
    unfold rowGroupBody rowGroupBodySteps
    exact .ite (.setList _ _ (parseColumnChunk_claim.list _ hg)) <| .ite (.fwd fwd_readI64) <|
      .ite (.fwd fwd_readI64) <| .ite (.skip _ ty hg) <| .ite (.fwd fwd_readI64) <|
      .ite (.fwd fwd_readI64) <| .ite (.fwd fwd_readI16) <| .skip _ ty hg

theorem parseRowGroup_claim : ElemClaim 6 6 (parseRowGroup Cfg.fixed) (parseRowGroupSteps Cfg.fixed) :=
  rowGroupBody_claim.elem {}

theorem fileMetaDataBody_claim : BodyClaim 6 8 (fileMetaDataBody Cfg.fixed) (fileMetaDataBodySteps Cfg.fixed) :=
  .intro fun ty fid d s hg => by
    unfold fileMetaDataBody fileMetaDataBodySteps
    cases d.status with
    | some e => exact .read _ (Adv.refl d)
    | none =>
      exact .ite (.fwd fwd_readI32) <| .ite (parseSchemaElement_claim.topList _ _ s hg) <|
        .ite (.fwd fwd_readI64) <| .ite (parseRowGroup_claim.topList _ _ s hg) <|
        .ite (parseKeyValue_claim.topList _ _ s hg) <| .ite (.fwd fwd_strdupThrift) <| .skip _ ty hg

theorem pageStatsField_handled (ty : Nat) (d : Dec) (hg : Good d) :
    Handled 3 2 d (pageStatsField Cfg.fixed ty d) (pageStatsFieldSteps Cfg.fixed ty d) := by
  unfold pageStatsField pageStatsFieldSteps
  exact .ite (by split; exact .of_eq _ ‹_› (.struct statisticsBody_claim _ hg)) (.skip _ ty hg)

theorem dataPageHeaderBody_claim : BodyClaim 3 2 (dataPageHeaderBody Cfg.fixed) (dataPageHeaderBodySteps Cfg.fixed) :=
  .intro fun ty fid d s hg => by
    unfold dataPageHeaderBody dataPageHeaderBodySteps
    exact .ite (.fwd fwd_readI32) <| .ite (.fwd fwd_readI32) <| .ite (.fwd fwd_readI32) <|
      .ite (.fwd fwd_readI32) <| .ite (by split; exact .of_eq _ ‹_› (pageStatsField_handled ty d hg)) <|
      .skip _ ty hg

theorem dictionaryPageHeaderBody_claim :
    BodyClaim 2 2 (dictionaryPageHeaderBody Cfg.fixed) (dictionaryPageHeaderBodySteps Cfg.fixed) :=
  .intro fun ty fid d s hg => by
    unfold dictionaryPageHeaderBody dictionaryPageHeaderBodySteps
    exact .ite (.fwd fwd_readI32) <| .ite (.fwd fwd_readI32) <| .ite (.fwd fwd_readBool) <|
      .skip _ ty hg

theorem dataPageHeaderV2Body_claim :
    BodyClaim 3 2 (dataPageHeaderV2Body Cfg.fixed) (dataPageHeaderV2BodySteps Cfg.fixed) :=
  .intro fun ty fid d s hg => by
    unfold dataPageHeaderV2Body dataPageHeaderV2BodySteps
    exact .ite (.fwd fwd_readI32) <| .ite (.fwd fwd_readI32) <| .ite (.fwd fwd_readI32) <|
      .ite (.fwd fwd_readI32) <| .ite (.fwd fwd_readI32) <| .ite (.fwd fwd_readI32) <|
      .ite (.fwd fwd_readBool) <| .ite (by split; exact .of_eq _ ‹_› (pageStatsField_handled ty d hg)) <|
      .skip _ ty hg

theorem pageHeaderBody_claim : BodyClaim 4 2 (pageHeaderBody Cfg.fixed) (pageHeaderBodySteps Cfg.fixed) :=
  .intro fun ty fid d s hg => by
    unfold pageHeaderBody pageHeaderBodySteps
    cases d.status with
    | some e => exact .read _ (Adv.refl d)
    | none =>
      exact .ite (.fwd fwd_readI32) <| .ite (.fwd fwd_readI32) <| .ite (.fwd fwd_readI32) <|
        .ite (.fwd fwd_readI32) <|
        .ite (by split; exact .of_eq _ ‹_› (.struct dataPageHeaderBody_claim _ hg)) <|
        .ite (by split; exact .of_eq _ ‹_› (.struct dictionaryPageHeaderBody_claim _ hg)) <|
        .ite (by split; exact .of_eq _ ‹_› (.struct dataPageHeaderV2Body_claim _ hg)) <| .skip _ ty hg

/-! ### the two top-level parsers: safety -/

theorem ite_inv {σ : Type} (Inv : σ → Prop) {c : Prop} [Decidable c] {x y : σ × Dec} (hx : Inv x.1) (hy : Inv y.1) :
    Inv (if c then x else y).1 := by
  split
  · exact hx
  · exact hy

/-- the three top-level lists of the file metadata never have more cells than the input has bytes -/
def FmdInv (N : Nat) (s : Top (FileMetaData × Required)) : Prop :=
  TopInv s ∧ s.val.1.schema.length ≤ N ∧ s.val.1.rowGroups.length ≤ N ∧ s.val.1.keyValueMetadata.length ≤ N

theorem fileMetaDataBody_lens (N : Nat) : BodySafe (fun _ => True) N (FmdInv N) (fileMetaDataBody Cfg.fixed) := by
  intro ty fid d s hg hn _ hi
  refine ⟨(fileMetaDataBody_claim ty fid d s hg).1, ?_⟩
  have habort : FmdInv N { s with abort := some .invalidMetadata } := ⟨⟨by simp, by simp⟩, hi.2⟩
  unfold fileMetaDataBody
  split
  · exact ⟨topErr_inv s d _ hg ‹_›, hi.2⟩
  · exact ite_inv _ hi <|
      ite_inv _ (topListOf_inv _ _ _ _ d s habort fun xs hx _ => ⟨hi.1, Nat.le_trans hx hn, hi.2.2⟩) <|
      ite_inv _ hi <|
      ite_inv _ (topListOf_inv _ _ _ _ d s habort fun xs hx _ => ⟨hi.1, hi.2.1, Nat.le_trans hx hn, hi.2.2.2⟩) <|
      ite_inv _ (topListOf_inv _ _ _ _ d s habort fun xs hx _ => ⟨hi.1, hi.2.1, hi.2.2.1, Nat.le_trans hx hn⟩) <|
      ite_inv _ hi hi

theorem pageHeaderBody_safe (N : Nat) : BodySafe (fun _ => True) N TopInv (pageHeaderBody Cfg.fixed) := by
  intro ty fid d s hg _ _ hi
  refine ⟨(pageHeaderBody_claim ty fid d s hg).1, ?_⟩
  unfold pageHeaderBody
  split
  · exact topErr_inv s d _ hg ‹_›
  · exact ite_inv _ hi <| ite_inv _ hi <| ite_inv _ hi <| ite_inv _ hi <| ite_inv _ (by split; exact hi) <|
      ite_inv _ (by split; exact hi) <| ite_inv _ (by split; exact hi) hi

/-- **`parquet_parse_file_metadata` on arbitrary bytes**: no loop budget exhausted, no stack grant
exhausted, position inside the buffer, and none of the three top-level lists has more cells than
the input has bytes -/
theorem parseFileMetaDataX_safe (bs : Bytes) :
    (parseFileMetaDataX Cfg.fixed bs).status ≠ some .fuel ∧ (parseFileMetaDataX Cfg.fixed bs).status ≠ some .stack ∧
    (parseFileMetaDataX Cfg.fixed bs).consumed ≤ bs.length ∧
    (parseFileMetaDataX Cfg.fixed bs).val.schema.length ≤ bs.length ∧
    (parseFileMetaDataX Cfg.fixed bs).val.rowGroups.length ≤ bs.length ∧
    (parseFileMetaDataX Cfg.fixed bs).val.keyValueMetadata.length ≤ bs.length := by
  obtain ⟨h1, h2, h3, s, hs, hv⟩ := topParse_safe (fileMetaDataBody Cfg.fixed) (FmdInv bs.length) (fun _ h => h.1) bs
    (fileMetaDataBody_lens bs.length) (({}, {}) : FileMetaData × Required)
    ⟨⟨by simp, by simp⟩, Nat.zero_le _, Nat.zero_le _, Nat.zero_le _⟩
  unfold parseFileMetaDataX
  generalize topParse (fileMetaDataBody Cfg.fixed) (({}, {}) : FileMetaData × Required) bs = r at *
  obtain ⟨st, v, n, ov⟩ := r
  simp only at h1 h2 h3 hv ⊢
  obtain ⟨_, l1, l2, l3⟩ := hs
  rw [← hv] at l1 l2 l3
  refine ⟨?_, ?_, h3, l1, l2, l3⟩
  · unfold requiredCheck
    cases st with
    | some e => exact h1
    | none => simp only []; split <;> simp
  · unfold requiredCheck
    cases st with
    | some e => exact h2
    | none => simp only []; split <;> simp

/-- **`parquet_parse_page_header` on arbitrary bytes** -/
theorem parsePageHeaderX_safe (bs : Bytes) :
    (parsePageHeaderX Cfg.fixed bs).status ≠ some .fuel ∧ (parsePageHeaderX Cfg.fixed bs).status ≠ some .stack ∧
    (parsePageHeaderX Cfg.fixed bs).consumed ≤ bs.length := by
  obtain ⟨h1, h2, h3, _⟩ := topParse_safe (pageHeaderBody Cfg.fixed) TopInv (fun _ h => h) bs
    (pageHeaderBody_safe bs.length) (({}, {}) : PageHeader × Seen) ⟨by simp, by simp⟩
  unfold parsePageHeaderX
  generalize topParse (pageHeaderBody Cfg.fixed) (({}, {}) : PageHeader × Seen) bs = r at *
  obtain ⟨st, v, n, ov⟩ := r
  exact ⟨h1, h2, h3⟩

/-! ### the two top-level parsers: steps -/

/-- a top-level parser whose handlers are paid for takes `≤ (36 + M)·|bs| + B − 1` steps -/
theorem topParse_steps {α : Type} (body : Nat → Int → Dec → Top α → Top α × Dec) (c : Nat → Int → Dec → Top α → Nat)
    (B M : Nat) (hB : 2 ≤ B) (hM : 2 ≤ M) (hb : BodyClaim B M body c) (init : α) (bs : Bytes) :
    topParseSteps body c init bs + 2 ≤ 36 * bs.length + (B + 1) + M * bs.length := by
  unfold topParseSteps
  rw [structBegin_init]
  have h := fieldLoop_steps (fun s => s.abort.isSome) body c (fun _ => True) B M hB (hb.handlers hM) (bs.length + 1)
    { Dec.init bs with lastId := [0] } ⟨init, none⟩ (init_good' bs) rfl trivial (by simp [Dec.init])
  have hp := pen_le (B + 1) M { Dec.init bs with lastId := [0] }
    (fieldLoop (fun s => s.abort.isSome) body (bs.length + 1) { Dec.init bs with lastId := [0] } ⟨init, none⟩).2
  have hr : ({ Dec.init bs with lastId := [0] } : Dec).rest.length = bs.length := rfl
  rw [hr] at h hp
  omega

/-- **`parquet_parse_file_metadata` takes at most `44·|bs| + 5` steps on every byte string** -/
theorem parseFileMetaDataSteps_le (bs : Bytes) : parseFileMetaDataSteps Cfg.fixed bs ≤ 44 * bs.length + 5 := by
  have := topParse_steps (fileMetaDataBody Cfg.fixed) (fileMetaDataBodySteps Cfg.fixed) 6 8 (by omega) (by omega)
    fileMetaDataBody_claim (({}, {}) : FileMetaData × Required) bs
  unfold parseFileMetaDataSteps
  omega

/-- **`parquet_parse_page_header` takes at most `38·|bs| + 3` steps on every byte string** -/
theorem parsePageHeaderSteps_le (bs : Bytes) : parsePageHeaderSteps Cfg.fixed bs ≤ 38 * bs.length + 3 := by
  have := topParse_steps (pageHeaderBody Cfg.fixed) (pageHeaderBodySteps Cfg.fixed) 4 2 (by omega) (by omega)
    pageHeaderBody_claim (({}, {}) : PageHeader × Seen) bs
  unfold parsePageHeaderSteps
  omega

end Carquet.Proofs.ThriftSafe
