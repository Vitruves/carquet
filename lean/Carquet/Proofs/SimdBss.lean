import Carquet.Impl.Simd
import Carquet.Proofs.SimdBlocked
/-
C15 helper lemmas: the byte-stream-split (float) block steps of the SSE / AVX2 / AVX-512 kernels
are the 4 x W byte transposes the scalar loop performs.  Each is a fixed byte permutation, checked by
`rfl` on a block of `W` symbolic values.
-/
namespace Carquet.Proofs.SimdBss
open Carquet Carquet.Impl.Simd Carquet.Proofs.SimdBlocked

theorem sse_enc_block (b : List (BitVec 32)) (h : b.length = 4) : sseBssEncBlk b = bssEncScalar b := by
  obtain ⟨a0, a1, a2, a3, rfl⟩ := list_len4 b h
  rfl

theorem avx2_enc_block (b : List (BitVec 32)) (h : b.length = 8) : avx2BssEncBlk b = bssEncScalar b := by
  obtain ⟨a0, a1, a2, a3, a4, a5, a6, a7, rfl⟩ := list_len8 b h
  rfl

theorem avx512_enc_block (b : List (BitVec 32)) (h : b.length = 16) : avx512BssEncBlk b = bssEncScalar b := by
  obtain ⟨a0, a1, a2, a3, a4, a5, a6, a7, a8, a9, a10, a11, a12, a13, a14, a15, rfl⟩ := list_len16 b h
  rfl

theorem sse_dec_block (b : List T4) (h : b.length = 4) : sseBssDecBlk b = bssDecScalar b := by
  obtain ⟨a0, a1, a2, a3, rfl⟩ := list_len4 b h
  rfl

theorem avx2_dec_block (b : List T4) (h : b.length = 8) : avx2BssDecBlk b = bssDecScalar b := by
  obtain ⟨a0, a1, a2, a3, a4, a5, a6, a7, rfl⟩ := list_len8 b h
  rfl

theorem avx512_dec_block (b : List T4) (h : b.length = 16) : avx512BssDecBlk b = bssDecScalar b := by
  obtain ⟨a0, a1, a2, a3, a4, a5, a6, a7, a8, a9, a10, a11, a12, a13, a14, a15, rfl⟩ := list_len16 b h
  rfl

end Carquet.Proofs.SimdBss
