import Carquet.Spec.Lz4
import Carquet.Proofs.Lz77
/-
Lemmas about the LZ4 block Spec: the executable decoder accepts exactly the blocks of the grammar
(`decode_complete`, `decode_sound`), and the reference encoder writes such blocks (`encode_block`).
-/
namespace Carquet.Proofs.Lz4Spec
open Carquet.Spec.Lz4
open Carquet.Proofs.Lz77 (backCopy back_get backCopy_length)

theorem readChain_of_LenChain {n : Nat} {ext : List UInt8} (h : LenChain n ext) :
    ∀ (rest : List UInt8) (acc : Nat), readChain (ext ++ rest) acc = some (acc + n, rest) := by
  induction h with
  | stop b hb => intro rest acc; simp [readChain, hb]
  | cont _ ih => intro rest acc; simp [readChain, ih]; omega

theorem readLen_of_Len {nib len : Nat} {ext : List UInt8} (h : Len nib len ext) (rest : List UInt8) :
    readLen nib (ext ++ rest) = some (len, rest) := by
  cases h with
  | short hn => simp [readLen, hn]
  | long hc => simp [readLen, readChain_of_LenChain hc]

theorem readChain_add (k : Nat) : ∀ (l : List UInt8) (acc : Nat),
    readChain l (acc + k) = (readChain l acc).map (fun p => (p.1 + k, p.2)) := by
  intro l
  induction l with
  | nil => intro acc; simp [readChain]
  | cons b r ih =>
    intro acc
    simp only [readChain]
    split
    · rw [show acc + k + 255 = acc + 255 + k by omega, ih]
    · simp; omega

theorem applyMatch_eq (off : Nat) : ∀ (n : Nat) (l : List UInt8), applyMatch l off n = backCopy off n l
  | 0, _ => rfl
  | n + 1, l => by
    rw [applyMatch, applyMatch_eq off n, backCopy, copy1]
    cases l[l.length - off]? <;> simp

theorem applyMatch_length {off : Nat} (h0 : 0 < off) (n : Nat) (l : List UInt8) (h1 : off ≤ l.length) :
    (applyMatch l off n).length = l.length + n := by
  rw [applyMatch_eq, backCopy_length h0 n h1]

theorem applyMatch_add (off a b : Nat) (l : List UInt8) :
    applyMatch l off (a + b) = applyMatch (applyMatch l off a) off b := by
  simp only [applyMatch_eq, Lz77.backCopy_add]

theorem copyMatch_eq {off : Nat} (h0 : 0 < off) : ∀ (n : Nat) (l : List UInt8), off ≤ l.length →
    copyMatch l.toArray off n = (applyMatch l off n).toArray
  | 0, _, _ => rfl
  | n + 1, l, h1 => by
    rw [copyMatch, applyMatch, copy1]
    simp only [List.size_toArray, List.getElem?_toArray, back_get h0 h1, List.push_toArray]
    exact copyMatch_eq h0 n _ (by simp; omega)

theorem copyMatch_toList {off : Nat} (h0 : 0 < off) (n : Nat) (out : Array UInt8) (h1 : off ≤ out.size) :
    (copyMatch out off n).toList = applyMatch out.toList off n := by
  obtain ⟨l⟩ := out
  rw [copyMatch_eq h0 n l (by simpa using h1)]

theorem Seqs.length_le {pre bs out : List UInt8} (h : Seqs pre bs out) : pre.length ≤ out.length := by
  induction h with
  | last _ => simp
  | seq _ h0 h1 _ _ ih =>
    rw [applyMatch_length h0 _ _ h1] at ih
    simp at ih; omega

theorem size_appendList (a : Array UInt8) (l : List UInt8) : (a ++ l).size = a.size + l.length := by
  rw [← Array.length_toList, Array.toList_appendList, List.length_append, Array.length_toList]

theorem step_last {tok : UInt8} {ext lits : List UInt8} (hl : Len (tok.toNat / 16) lits.length ext)
    (out : Array UInt8) {cap : Nat} (hc : out.size + lits.length ≤ cap) :
    step (tok :: (ext ++ lits)) out cap = .done (.ok (out ++ lits)) := by
  simp only [step, readLen_of_Len hl, stepLits, List.take_length, List.drop_length, stepMatch]
  rw [if_neg (by omega), if_neg (by omega)]

theorem step_seq {tok lo hi : UInt8} {lext lits mext : List UInt8} {mcode : Nat} (rest : List UInt8)
    {out : Array UInt8} {cap : Nat}
    (hl : Len (tok.toNat / 16) lits.length lext) (h0 : 0 < lo.toNat + 256 * hi.toNat)
    (h1 : lo.toNat + 256 * hi.toNat ≤ out.size + lits.length) (hm : Len (tok.toNat % 16) mcode mext)
    (hc : out.size + lits.length + (mcode + 4) ≤ cap) :
    step (tok :: (lext ++ lits ++ [lo, hi] ++ mext ++ rest)) out cap =
      .more rest (copyMatch (out ++ lits) (lo.toNat + 256 * hi.toNat) (mcode + 4)) := by
  have e : lext ++ lits ++ [lo, hi] ++ mext ++ rest = lext ++ (lits ++ lo :: hi :: (mext ++ rest)) := by simp
  simp only [step, e, readLen_of_Len hl, stepLits, List.take_left, List.drop_left, stepMatch, stepOff,
    readLen_of_Len hm, size_appendList]
  rw [if_neg (by omega), if_neg (by omega), if_neg (by omega), if_neg (by omega), if_neg (by omega)]

theorem loop_complete {pre bs out : List UInt8} (h : Seqs pre bs out) :
    ∀ (fuel cap : Nat), bs.length < fuel → out.length ≤ cap →
      loop fuel bs pre.toArray cap = .ok out.toArray := by
  induction h with
  | @last pre tok ext lits hl =>
    intro fuel cap hf hc
    obtain ⟨fuel, rfl⟩ : ∃ f, fuel = f + 1 := ⟨fuel - 1, by omega⟩
    rw [loop, step_last hl _ (by simpa using hc), List.toArray_appendList]
  | @seq pre tok lo hi lext lits mext rest out mcode hl h0 h1 hm hs ih =>
    intro fuel cap hf hc
    obtain ⟨fuel, rfl⟩ : ∃ f, fuel = f + 1 := ⟨fuel - 1, by omega⟩
    have hlen := Seqs.length_le hs
    rw [applyMatch_length h0 _ _ h1] at hlen
    rw [List.length_append] at h1 hlen
    rw [loop, step_seq rest hl h0 h1 hm (by simp only [List.size_toArray]; omega), List.toArray_appendList,
      copyMatch_eq h0 _ _ (by simpa using h1)]
    exact ih fuel cap (by simp at hf; omega) hc

theorem decode_complete {bs out : List UInt8} (h : Block bs out) {cap : Nat} (hc : out.length ≤ cap) :
    decode bs cap = .ok out := by
  rw [decode, show (#[] : Array UInt8) = ([] : List UInt8).toArray from rfl,
    loop_complete h _ cap (Nat.lt_succ_self _) hc]

/-! ### the reference encoder produces blocks of the grammar -/

theorem lenNibble_le (len : Nat) : lenNibble len ≤ 15 := by unfold lenNibble; split <;> omega

theorem token_toNat (a b : Nat) : (token a b).toNat = lenNibble a * 16 + lenNibble b := by
  have := lenNibble_le a; have := lenNibble_le b
  simp only [token, UInt8.toNat_ofNat']
  omega

theorem lenChain_replicate (r : Nat) (hr : r < 255) : ∀ k : Nat,
    LenChain (255 * k + r) (List.replicate k 255 ++ [UInt8.ofNat r]) := by
  intro k
  induction k with
  | zero =>
    have h1 : (UInt8.ofNat r).toNat = r := by simp only [UInt8.toNat_ofNat']; omega
    have h2 : UInt8.ofNat r ≠ 255 := by
      intro h; have := congrArg UInt8.toNat h; rw [h1] at this; simp at this; omega
    have := LenChain.stop (UInt8.ofNat r) h2
    rw [h1] at this
    simpa using this
  | succ k ih =>
    have := LenChain.cont ih
    rw [show 255 * (k + 1) + r = 255 + (255 * k + r) by omega]
    simpa [List.replicate_succ] using this

theorem len_lenExt (len : Nat) : Len (lenNibble len) len (lenExt len) := by
  unfold lenNibble lenExt
  split
  · rename_i h; exact Len.short h
  · rename_i h
    have hc := lenChain_replicate ((len - 15) % 255) (Nat.mod_lt _ (by omega)) ((len - 15) / 255)
    rw [Nat.div_add_mod] at hc
    have := Len.long hc
    rw [show 15 + (len - 15) = len by omega] at this
    exact this

theorem len_token (a b : Nat) :
    Len ((token a b).toNat / 16) a (lenExt a) ∧ Len ((token a b).toNat % 16) b (lenExt b) := by
  have := lenNibble_le a
  have := lenNibble_le b
  rw [token_toNat, show (lenNibble a * 16 + lenNibble b) / 16 = lenNibble a by omega,
    show (lenNibble a * 16 + lenNibble b) % 16 = lenNibble b by omega]
  exact ⟨len_lenExt a, len_lenExt b⟩

theorem offset_bytes (off : Nat) (h : off ≤ 65535) :
    (UInt8.ofNat (off % 256)).toNat + 256 * (UInt8.ofNat (off / 256)).toNat = off := by
  simp only [UInt8.toNat_ofNat']
  omega

theorem encode_seqs : ∀ (seqs : List Seq) (pre last out : List UInt8),
    exec pre seqs last = some out → Seqs pre (encode seqs last) out := by
  intro seqs
  induction seqs with
  | nil =>
    intro pre last out h
    simp only [exec, Option.some.injEq] at h
    subst h
    exact Seqs.last (len_token last.length 0).1
  | cons s r ih =>
    intro pre last out h
    simp only [exec] at h
    split at h
    · rename_i hc
      obtain ⟨h0, h1, h2, h3⟩ := hc
      obtain ⟨hl, hm⟩ := len_token s.lits.length (s.mlen - 4)
      have hrest := ih _ _ _ h
      rw [← offset_bytes s.off h2, ← Nat.sub_add_cancel h3] at hrest
      rw [← offset_bytes s.off h2] at h0 h1
      have := Seqs.seq hl h0 h1 hm hrest
      simpa [encode, encodeSeq] using this
    · cases h

theorem encode_block {seqs : List Seq} {last out : List UInt8} (h : exec [] seqs last = some out) :
    Block (encode seqs last) out := encode_seqs seqs [] last out h

/-! ### what the decoder accepts is in the grammar -/

theorem readChain_inv : ∀ (l : List UInt8) (acc v : Nat) (rest : List UInt8), readChain l acc = some (v, rest) →
    ∃ n ext, v = acc + n ∧ LenChain n ext ∧ l = ext ++ rest := by
  intro l
  induction l with
  | nil => intro acc v rest h; simp [readChain] at h
  | cons b r ih =>
    intro acc v rest h
    simp only [readChain] at h
    split at h
    · rename_i hb
      obtain ⟨n, ext, h1, h2, h3⟩ := ih _ _ _ h
      exact ⟨255 + n, 255 :: ext, by omega, LenChain.cont h2, by rw [hb, h3]; rfl⟩
    · rename_i hb
      simp only [Option.some.injEq, Prod.mk.injEq] at h
      exact ⟨b.toNat, [b], by omega, LenChain.stop b hb, by rw [h.2]; rfl⟩

theorem readLen_inv {nib : Nat} (hn : nib < 16) {l : List UInt8} {len : Nat} {rest : List UInt8}
    (h : readLen nib l = some (len, rest)) : ∃ ext, Len nib len ext ∧ l = ext ++ rest := by
  unfold readLen at h
  split at h
  · rename_i h15
    simp only [Option.some.injEq, Prod.mk.injEq] at h
    obtain ⟨rfl, rfl⟩ := h
    exact ⟨[], Len.short h15, rfl⟩
  · obtain ⟨n, ext, h1, h2, h3⟩ := readChain_inv _ _ _ _ h
    have : nib = 15 := by omega
    subst this; subst h1
    exact ⟨ext, Len.long h2, h3⟩

/-- what one decoder step has read when it does not fail -/
theorem step_inv (bs : List UInt8) (out : Array UInt8) (cap : Nat) :
    (∀ o, step bs out cap = .done (.ok o) → ∃ tok ext lits, bs = tok :: (ext ++ lits) ∧
        Len (tok.toNat / 16) lits.length ext ∧ o = out ++ lits ∧ out.size + lits.length ≤ cap) ∧
    (∀ rest o', step bs out cap = .more rest o' → ∃ (tok lo hi : UInt8) (lext lits mext : List UInt8) (mc : Nat),
        bs = tok :: (lext ++ lits ++ [lo, hi] ++ mext ++ rest) ∧ Len (tok.toNat / 16) lits.length lext ∧
        0 < lo.toNat + 256 * hi.toNat ∧ lo.toNat + 256 * hi.toNat ≤ out.size + lits.length ∧
        Len (tok.toNat % 16) mc mext ∧
        o' = copyMatch (out ++ lits) (lo.toNat + 256 * hi.toNat) (mc + 4) ∧
        out.size + lits.length + (mc + 4) ≤ cap) := by
  cases bs with
  | nil => exact ⟨nofun, nofun⟩
  | cons tok r =>
    have ht16 : tok.toNat / 16 < 16 := by have := tok.toNat_lt; omega
    have ht15 : tok.toNat % 16 < 16 := Nat.mod_lt _ (by omega)
    simp only [step]
    cases hrl : readLen (tok.toNat / 16) r with
    | none => exact ⟨nofun, nofun⟩
    | some p =>
      obtain ⟨ll, r1⟩ := p
      obtain ⟨lext, hlen, rfl⟩ := readLen_inv ht16 hrl
      simp only [stepLits]
      by_cases c1 : (r1.take ll).length < ll
      · rw [if_pos c1]; exact ⟨nofun, nofun⟩
      by_cases c2 : cap < out.size + ll
      · rw [if_neg c1, if_pos c2]; exact ⟨nofun, nofun⟩
      rw [if_neg c1, if_neg c2]
      obtain ⟨lits, r2, rfl, rfl⟩ : ∃ lits r2, r1 = lits ++ r2 ∧ lits.length = ll :=
        ⟨r1.take ll, r1.drop ll, (List.take_append_drop ll r1).symm, by have := List.length_take_le ll r1; omega⟩
      rw [List.take_left, List.drop_left]
      match r2 with
      | [] => exact ⟨fun o ho => ⟨tok, lext, lits, by rw [List.append_nil], hlen, by cases ho; rfl, by omega⟩, nofun⟩
      | [_] => exact ⟨nofun, nofun⟩
      | lo :: hi :: r3 =>
        simp only [stepMatch, stepOff, size_appendList]
        by_cases c3 : lo.toNat + 256 * hi.toNat = 0
        · rw [if_pos c3]; exact ⟨nofun, nofun⟩
        by_cases c4 : out.size + lits.length < lo.toNat + 256 * hi.toNat
        · rw [if_neg c3, if_pos c4]; exact ⟨nofun, nofun⟩
        rw [if_neg c3, if_neg c4]
        cases hrm : readLen (tok.toNat % 16) r3 with
        | none => exact ⟨nofun, nofun⟩
        | some q =>
          obtain ⟨mc, r4⟩ := q
          obtain ⟨mext, hmlen, rfl⟩ := readLen_inv ht15 hrm
          simp only
          split
          · exact ⟨nofun, nofun⟩
          · refine ⟨nofun, fun rest o' ho => ?_⟩
            cases ho
            exact ⟨tok, lo, hi, lext, lits, mext, mc, by simp, hlen, by omega, by omega, hmlen, rfl, by omega⟩

theorem loop_sound : ∀ (fuel : Nat) (bs : List UInt8) (out : Array UInt8) (cap : Nat) (o : Array UInt8),
    loop fuel bs out cap = .ok o → Seqs out.toList bs o.toList ∧ o.size ≤ cap := by
  intro fuel
  induction fuel with
  | zero => intro bs out cap o h; simp [loop] at h
  | succ fuel ih =>
    intro bs out cap o h
    simp only [loop] at h
    obtain ⟨hdone, hmore⟩ := step_inv bs out cap
    cases hs : step bs out cap with
    | done r =>
      rw [hs] at h
      simp only at h
      subst h
      obtain ⟨tok, ext, lits, rfl, hlen, rfl, hc⟩ := hdone o hs
      have := Seqs.last (pre := out.toList) (tok := tok) hlen
      exact ⟨by simpa using this, by rw [size_appendList]; exact hc⟩
    | more rest o' =>
      rw [hs] at h
      simp only at h
      obtain ⟨tok, lo, hi, lext, lits, mext, mc, rfl, hlen, h0, h1, hmlen, rfl, _⟩ := hmore rest o' hs
      obtain ⟨hrec, hcap⟩ := ih _ _ _ _ h
      rw [copyMatch_toList h0 _ _ (by rw [size_appendList]; omega)] at hrec
      simp only [Array.toList_appendList] at hrec
      exact ⟨Seqs.seq hlen h0 (by simp only [List.length_append, Array.length_toList]; omega) hmlen hrec, hcap⟩

theorem decode_inv {bs out : List UInt8} {cap : Nat} (h : decode bs cap = .ok out) : Block bs out ∧ out.length ≤ cap := by
  unfold decode at h
  cases hl : loop (bs.length + 1) bs #[] cap with
  | error e => rw [hl] at h; cases h
  | ok o =>
    rw [hl] at h
    cases h
    simpa [Block] using loop_sound _ _ _ _ _ hl

theorem decode_sound {bs out : List UInt8} {cap : Nat} (h : decode bs cap = .ok out) : Block bs out :=
  (decode_inv h).1

end Carquet.Proofs.Lz4Spec
