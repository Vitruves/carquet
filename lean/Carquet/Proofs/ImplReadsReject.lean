import Carquet.Proofs.ImplReadsPages
/-
C06, negative half — what carquet's reader model refuses BY INSPECTION OF A HEADER FIELD, whatever
else the page holds: DATA_PAGE_V2 (page type 3: NOT_IMPLEMENTED, fix F27), a value encoding outside
{PLAIN, PLAIN_DICTIONARY, RLE_DICTIONARY} (INVALID_ENCODING, or an earlier error), a codec tag outside
{0, 1, 2, 5, 6, 7} (UNSUPPORTED_CODEC, or an earlier error), a dictionary page for a BOOLEAN column
(NOT_IMPLEMENTED, fix F54, or an earlier error).  In every case `load_next_page` returns an error — no
page is installed, so the column reader hands out nothing of the offending page (`chunkPages` ends in
`none` there).  Since repair F63 a data page WITHOUT values is not decoded at all: for the encoding and
the codec clause the alternative to the error is "the page has no values and is stepped over, nothing is
decoded" (`NothingDecoded`).  BIT_PACKED level encoding is NOT among these: the reader never looks at the level-encoding
fields (it decodes RLE); such files end in an error only because the bytes do not decode.
The encoding and the codec clause are instances of `finishDataPage_nothing`, which reads off
`ReaderBounds.finishDataPage_ok_inv` (what a successful data-page load went through) that a load which can take neither
the zero-copy view nor the copying path fails or steps over an empty page.
-/
namespace Carquet.Proofs.ImplReads
open Carquet.Impl
open Carquet.Impl.Reader
open Carquet.Impl.ThriftParquetReq (PageHdr parsePageHeaderC)
open Carquet.Proofs.ReaderModes Carquet.Proofs.ReaderBounds

/-- the codec tags `decompress_page` knows -/
def codecKnown (codec : Int) : Bool :=
  decide (codec = 0 ∨ codec = 1 ∨ codec = 2 ∨ codec = 5 ∨ codec = 6 ∨ codec = 7)

/-- the value encodings `carquet_read_data_page_v1` knows -/
def encodingKnown (enc : Int) : Bool := decide (enc = 0 ∨ enc = 2 ∨ enc = 8)

/-- the load fails, or (F63) it finds a data page without values, which it does not decode: either way
no level and no value of the page reaches the column reader -/
def NothingDecoded (r : Except Err PageLoaded) : Prop :=
  (∃ e, r = .error e) ∨ ∃ p, r = .ok p ∧ p.page = ⟨[], [], []⟩

theorem andThen_error {α β : Type} (l : Load α) (k : α → Load β) (e : Err) (h : l.result = .error e) :
    (l.andThen k).result = .error e := by
  rw [andThen_result, h]

/-! ### the data-page half of `load_next_page`, given the header it found -/

theorem finishDataPage_v2 (fx : Fixes) (L : Libs) (verify : Bool) (mode : Mode) (b : Bytes) (c : Col) (st : PState)
    (hr : PageHdr × Nat) (h3 : hr.1.type = 3) :
    (finishDataPage fx L verify mode b c st hr).result = .error .notImplemented := by
  unfold finishDataPage
  rw [if_pos h3]; rfl

theorem codec_ne_zero {codec : Int} (h : codecKnown codec = false) : ¬ codec = 0 := by
  unfold codecKnown at h
  simp only [decide_eq_false_iff_not, not_or] at h
  exact h.1

theorem pageData_unknown (L : Libs) (codec : Int) (src : Bytes) (cap : Nat) (h : codecKnown codec = false) :
    pageData L codec src cap = .error .unsupportedCodec := by
  have h0 := codec_ne_zero h
  unfold codecKnown at h
  simp only [decide_eq_false_iff_not, not_or] at h
  unfold pageData decompressPage
  rw [if_neg h0, if_neg h0, if_neg h.2.1, if_neg (by omega), if_neg h.2.2.1, if_neg h.2.2.2.2.1]

theorem takesView_false (fx : Fixes) (mode : Mode) (c : Col) (h : PageHdr) (hne : ¬ (c.cm.codec = 0 ∧ h.word4 = 0)) :
    takesView fx mode c h = false :=
  Bool.eq_false_iff.mpr fun ht => hne ⟨((takesView_iff fx mode c h).mp ht).2.1, ((takesView_iff fx mode c h).mp ht).2.2.1⟩

/-- the load fails or steps over a page without values, when neither the view nor the copying path can succeed -/
theorem finishDataPage_nothing (fx : Fixes) (L : Libs) (verify : Bool) (mode : Mode) (b : Bytes) (c : Col) (st : PState)
    (hr : PageHdr × Nat) (hview : takesView fx mode c hr.1 = false)
    (hcopy : ∀ body pd d, pageData L c.cm.codec body hr.1.uncompressed.toNat = .ok pd →
      readDataPageV1 fx c st.dict pd hr.1.word0.toNat hr.1.word4 ≠ .ok d) :
    (∃ e, (finishDataPage fx L verify mode b c st hr).result = .error e) ∨
      (hr.1.word0 = 0 ∧ ∃ p, (finishDataPage fx L verify mode b c st hr).result = .ok p ∧ p.page = ⟨[], [], []⟩) := by
  cases h : (finishDataPage fx L verify mode b c st hr).result with
  | error e => exact .inl ⟨e, rfl⟩
  | ok p =>
    obtain ⟨_, _, _, body, _, _, hc⟩ := finishDataPage_ok_inv h
    rcases hc with ⟨hw, hp⟩ | hv | ⟨pd, hpd, hd⟩
    · exact .inr ⟨hw, p, rfl, hp⟩
    · rw [hview] at hv; cases hv
    · exact absurd hd (hcopy body pd _ hpd)

/-- a codec tag `decompress_page` does not know: no data page of the chunk with values is ever installed
(F63: a page without values is not decompressed, it is stepped over) -/
theorem finishDataPage_codec (fx : Fixes) (L : Libs) (verify : Bool) (mode : Mode) (b : Bytes) (c : Col) (st : PState)
    (hr : PageHdr × Nat) (hc : codecKnown c.cm.codec = false) :
    (∃ e, (finishDataPage fx L verify mode b c st hr).result = .error e) ∨
      (hr.1.word0 = 0 ∧ ∃ p, (finishDataPage fx L verify mode b c st hr).result = .ok p ∧ p.page = ⟨[], [], []⟩) :=
  finishDataPage_nothing fx L verify mode b c st hr (takesView_false fx mode c hr.1 fun hz => codec_ne_zero hc hz.1)
    fun body pd d hpd => by rw [pageData_unknown L c.cm.codec body _ hc] at hpd; cases hpd

theorem decodeValues_unknown (fx : Fixes) (c : Col) (dict : Option Dict) (enc : Int) (input : Bytes) (n : Nat)
    (h : encodingKnown enc = false) : decodeValues fx c dict enc input n = .error .invalidEncoding := by
  unfold encodingKnown at h
  simp only [decide_eq_false_iff_not, not_or] at h
  unfold decodeValues
  rw [if_neg h.1, if_neg (by omega)]

theorem readDataPageV1_unknown (fx : Fixes) (c : Col) (dict : Option Dict) (pd : Bytes) (n : Nat) (enc : Int)
    (h : encodingKnown enc = false) : ∃ e, readDataPageV1 fx c dict pd n enc = .error e := by
  unfold readDataPageV1
  cases repLevels fx c n pd with
  | error e => exact ⟨e, rfl⟩
  | ok r =>
    obtain ⟨reps, r1⟩ := r
    simp only
    cases defLevels fx c n r1 with
    | error e => exact ⟨e, rfl⟩
    | ok r' =>
      obtain ⟨defs, r2⟩ := r'
      simp only
      rw [decodeValues_unknown fx c dict enc r2 _ h]
      exact ⟨_, rfl⟩

/-- a value encoding outside {PLAIN, PLAIN_DICTIONARY, RLE_DICTIONARY}: a page with values is not
installed (F63: a page without values is not decoded, it is stepped over) -/
theorem finishDataPage_encoding (fx : Fixes) (L : Libs) (verify : Bool) (mode : Mode) (b : Bytes) (c : Col) (st : PState)
    (hr : PageHdr × Nat) (he : encodingKnown hr.1.word4 = false) :
    (∃ e, (finishDataPage fx L verify mode b c st hr).result = .error e) ∨
      (hr.1.word0 = 0 ∧ ∃ p, (finishDataPage fx L verify mode b c st hr).result = .ok p ∧ p.page = ⟨[], [], []⟩) := by
  have h0 : ¬ hr.1.word4 = 0 := by
    unfold encodingKnown at he
    simp only [decide_eq_false_iff_not, not_or] at he
    exact he.1
  exact finishDataPage_nothing fx L verify mode b c st hr (takesView_false fx mode c hr.1 fun hz => h0 hz.2)
    fun _ pd d _ hd => by
      obtain ⟨e, he'⟩ := readDataPageV1_unknown fx c st.dict pd hr.1.word0.toNat hr.1.word4 he
      rw [he'] at hd; cases hd

/-! ### the dictionary page -/

theorem readDictionaryPage_boolean (fx : Fixes) (c : Col) (pd : Bytes) (n : Int) (hb : c.ptype = 0) :
    (readDictionaryPage fx c pd n).1 = .error .notImplemented := by
  unfold readDictionaryPage
  rw [if_neg (by rw [hb]; decide), if_pos (by rw [hb]; decide)]

/-- a dictionary page for a BOOLEAN column is never loaded, whatever it holds -/
theorem loadDictionary_boolean (fx : Fixes) (L : Libs) (verify : Bool) (mode : Mode) (b : Bytes) (c : Col) (off : Int)
    (hb : c.ptype = 0) : ∃ e, (loadDictionary fx L verify mode b c off).result = .error e := by
  unfold loadDictionary
  rw [andThen_result]
  cases (loadHeader mode b off).result with
  | error e => exact ⟨e, rfl⟩
  | ok hr =>
    simp only
    by_cases h2 : hr.1.type ≠ 2
    · rw [if_pos h2]; exact ⟨_, rfl⟩
    by_cases hs : (!sizesValid hr.1 || decide (hr.1.word0 < 0)) = true
    · rw [if_neg h2, if_pos hs]; exact ⟨_, rfl⟩
    rw [if_neg h2, if_neg hs, andThen_result]
    cases (Load.ofPair (bodyBytes mode b off.toNat hr.2 hr.1.compressed.toNat)).result with
    | error e => exact ⟨e, rfl⟩
    | ok body =>
      simp only
      by_cases hcrc : crcBad verify hr.1.crc body = true
      · rw [if_pos hcrc]; exact ⟨_, rfl⟩
      rw [if_neg hcrc]
      cases pageData L c.cm.codec body hr.1.uncompressed.toNat with
      | error e => exact ⟨e, rfl⟩
      | ok pd =>
        simp only
        rw [readDictionaryPage_boolean fx c pd hr.1.word0 hb]
        exact ⟨_, rfl⟩

/-! ### `load_next_page` and the page iteration -/

/-- whenever `load_next_page` fails in a state with values outstanding, the page iteration ends there with
`none`: the column reader model gets no page (and `carquet_column_read_batch` returns what it had, or -1) -/
theorem chunkPages_of_load_error (fx : Fixes) (L : Libs) (verify : Bool) (mode : Mode) (b : Bytes) (c : Col) (st : PState)
    (fuel : Nat) (hrem : 0 < st.valuesRemaining) (e : Err) (h : (loadPage fx L verify mode b c st).result = .error e) :
    chunkPages fx L verify mode b c (fuel + 1) st = [none] := by
  unfold chunkPages
  rw [if_neg (by omega), h]

theorem loadPage_cases (fx : Fixes) (L : Libs) (verify : Bool) (mode : Mode) (b : Bytes) (c : Col) (st : PState) :
    (∃ e, (loadPage fx L verify mode b c st).result = .error e) ∨
    ∃ st' hr, (loadPage fx L verify mode b c st).result = (finishDataPage fx L verify mode b c st' hr).result := by
  unfold loadPage
  rw [andThen_result]
  cases (dictStep fx L verify mode b c st).result with
  | error e => exact .inl ⟨e, rfl⟩
  | ok st1 =>
    simp only
    unfold loadDataPage
    rw [andThen_result]
    cases (prepStage fx L verify mode b c st1).result with
    | error e => exact .inl ⟨e, rfl⟩
    | ok sh => exact .inr ⟨sh.1, sh.2, rfl⟩

theorem loadPage_of_finish_error (fx : Fixes) (L : Libs) (verify : Bool) (mode : Mode) (b : Bytes) (c : Col) (st : PState)
    (hfin : ∀ st' hr, ∃ e, (finishDataPage fx L verify mode b c st' hr).result = .error e) :
    ∃ e, (loadPage fx L verify mode b c st).result = .error e := by
  rcases loadPage_cases fx L verify mode b c st with h | ⟨st', hr, h⟩
  · exact h
  · rw [h]; exact hfin st' hr

/-- a codec tag `decompress_page` does not know: every `load_next_page` of the chunk fails or steps over
a page without values; no level and no value of the chunk is ever decoded -/
theorem loadPage_codec (fx : Fixes) (L : Libs) (verify : Bool) (mode : Mode) (b : Bytes) (c : Col) (st : PState)
    (hc : codecKnown c.cm.codec = false) : NothingDecoded (loadPage fx L verify mode b c st).result := by
  rcases loadPage_cases fx L verify mode b c st with h | ⟨st', hr, h⟩
  · exact .inl h
  · rw [h]
    rcases finishDataPage_codec fx L verify mode b c st' hr hc with h | ⟨_, h⟩
    · exact .inl h
    · exact .inr h

/-- … hence the page iteration of such a chunk hands the column reader pages without rows only, and
ends in `none` (values outstanding, nothing delivered) or at the fuel bound -/
theorem chunkPages_codec (fx : Fixes) (L : Libs) (verify : Bool) (mode : Mode) (b : Bytes) (c : Col)
    (hc : codecKnown c.cm.codec = false) : ∀ (fuel : Nat) (st : PState),
    ∀ x ∈ chunkPages fx L verify mode b c fuel st, x = none ∨ x = some ⟨[], [], []⟩ := by
  intro fuel
  induction fuel with
  | zero => intro st x hx; simp [chunkPages] at hx; exact Or.inl hx
  | succ fuel ih =>
    intro st x hx
    unfold chunkPages at hx
    split at hx
    · cases hx
    · rcases loadPage_codec fx L verify mode b c st hc with ⟨e, he⟩ | ⟨p, hp, hpage⟩
      · rw [he] at hx; simp at hx; exact Or.inl hx
      · rw [hp] at hx
        simp only [List.mem_cons] at hx
        rcases hx with rfl | hx
        · right; rw [hpage]
        · exact ih _ x hx

/-- a chunk whose metadata announce a `dictionary_page_offset`, for a BOOLEAN column: the first
`load_next_page` fails -/
theorem loadPage_boolean_dictionary (fx : Fixes) (L : Libs) (verify : Bool) (mode : Mode) (b : Bytes) (c : Col) (st : PState)
    (hb : c.ptype = 0) (doff : Int) (hd : c.cm.dictionaryPageOffset = some doff) (hnone : st.dict = none) :
    ∃ e, (loadPage fx L verify mode b c st).result = .error e := by
  obtain ⟨e, he⟩ := loadDictionary_boolean fx L verify mode b c doff hb
  refine ⟨e, ?_⟩
  unfold loadPage
  rw [andThen_result]
  unfold dictStep
  rw [hd]
  simp only [hnone, Option.isSome_none, Bool.false_eq_true, if_false]
  rw [andThen_result, he]

/-- a data page of type DATA_PAGE_V2 at the offset the (settled) state points at, in any mode -/
theorem loadPage_v2 (L : Libs) (verify : Bool) (mode : Mode) (pre post : Bytes) (c : Col) (p : RPage) (st : PState)
    (hp : p.Parses mode) (h3 : p.hdr.type = 3)
    (hsettled : c.cm.dictionaryPageOffset = none ∨ st.dict.isSome = true)
    (hoff : st.dataStart + st.currentPage = (pre.length : Int)) (hpost : 8 ≤ post.length) :
    (loadPage Fixes.all L verify mode (pre ++ p.bytes ++ post) c st).result = .error .notImplemented := by
  rw [(Carquet.Proofs.ReaderSteps.loadPage_of_header Fixes.all L verify mode _ c st (p.hdr, p.hb.length) hsettled
    (by rw [hoff]; exact loadHeader_rpage mode pre post p hp hpost) (by simp [inlineDictDue, h3])).1]
  exact finishDataPage_v2 Fixes.all L verify mode _ c st (p.hdr, p.hb.length) h3

end Carquet.Proofs.ImplReads
