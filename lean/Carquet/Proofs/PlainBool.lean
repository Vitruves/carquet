import Carquet.Spec.Plain
import Carquet.Impl.Plain
import Carquet.Proofs.DeltaBits
/-
Helper lemmas for PLAIN booleans: the byte-wise OR loop is the Spec's LSB-first packing, the
unpacking loops are the Spec's bit extraction, and the Spec's own round trip.
-/
namespace Carquet.Proofs.Plain
open Carquet.Impl.Plain
open Carquet.Spec.Plain (bitsVal byteBits encodeBool decodeBool)

/-- The byte the C decoder stores for a boolean. -/
def toU8 (b : Bool) : UInt8 := if b then 1 else 0

/-! ### bits of a number: the Spec's `bitsVal` / `byteBits` are the LSB-first bit strings of the delta Spec -/

theorem bitsVal_eq_natOfBits : ∀ bs : List Bool, bitsVal bs = Spec.Delta.natOfBits bs
  | [] => rfl
  | b :: bs => by rw [bitsVal, Spec.Delta.natOfBits, bitsVal_eq_natOfBits bs]

theorem byteBits_eq_bitsOfNat (b : UInt8) : byteBits b = Spec.Delta.bitsOfNat 8 b.toNat := by
  simp [byteBits, Spec.Delta.bitsOfNat, Nat.div_div_eq_div_mul, Bool.beq_eq_decide_eq]

theorem flatMap_byteBits (bs : List UInt8) : bs.flatMap byteBits = Spec.Delta.bitsOfBytes bs :=
  congrArg (List.flatMap · bs) (funext byteBits_eq_bitsOfNat)

theorem bitsVal_lt (bs : List Bool) {w : Nat} (h : bs.length ≤ w) : bitsVal bs < 2 ^ w :=
  Nat.lt_of_lt_of_le (bitsVal_eq_natOfBits bs ▸ Spec.Delta.natOfBits_lt bs) (Nat.pow_le_pow_right (by decide) h)

theorem byteBits_bitsVal (bs : List Bool) (h : bs.length ≤ 8) :
    byteBits (UInt8.ofNat (bitsVal bs)) = bs ++ List.replicate (8 - bs.length) false := by
  rw [byteBits_eq_bitsOfNat, UInt8.toNat_ofNat', Nat.mod_eq_of_lt (bitsVal_lt bs h), bitsVal_eq_natOfBits,
    Spec.Delta.bitsOfNat_natOfBits 8 bs h]

theorem byteBits_length (b : UInt8) : (byteBits b).length = 8 := rfl

/-! ### single bytes -/

/-- The C loop ORs bit `k` into a byte whose bits from `k` upwards are still clear, so the ORs add up. -/
theorem orBits_toNat : ∀ (bs : List Bool) (k : Nat) (acc : UInt8), k + bs.length ≤ 8 → acc.toNat < 2 ^ k →
    (orBits bs k acc).toNat = acc.toNat + 2 ^ k * bitsVal bs
  | [], k, acc, _, _ => by simp [orBits, bitsVal]
  | v :: bs, k, acc, h, ha => by
    rw [List.length_cons] at h
    have hk : (2 : Nat) ^ k < 2 ^ 8 := Nat.pow_lt_pow_right (by decide) (by omega)
    have hor : (if v = true then acc ||| (1 : UInt8) <<< UInt8.ofNat k else acc).toNat =
        acc.toNat + 2 ^ k * (if v = true then 1 else 0) := by
      cases v
      · simp
      · rw [if_pos rfl, if_pos rfl, UInt8.toNat_or, UInt8.toNat_shiftLeft, UInt8.toNat_ofNat', UInt8.toNat_one,
          Nat.one_shiftLeft, Nat.mod_eq_of_lt (a := k) (by omega), Nat.mod_eq_of_lt (a := k) (by omega),
          Nat.mod_eq_of_lt hk, Nat.or_two_pow_eq_add_of_lt ha, Nat.mul_one]
    rw [orBits, orBits_toNat bs (k + 1) _ (by omega) (by rw [hor, Nat.pow_succ]; split <;> omega), hor, bitsVal,
      Nat.pow_succ, Nat.mul_add, Nat.mul_assoc, Nat.add_assoc]

theorem orBits_zero (bs : List Bool) (h : bs.length ≤ 8) : orBits bs 0 0 = UInt8.ofNat (bitsVal bs) := by
  apply UInt8.toNat_inj.mp
  rw [orBits_toNat bs 0 0 (by omega) (by decide), UInt8.toNat_ofNat', Nat.mod_eq_of_lt (bitsVal_lt bs h)]
  simp

theorem shr_and_one (b i : UInt8) :
    (b >>> i) &&& 1 = toU8 (decide (b.toNat / 2 ^ (i.toNat % 8) % 2 = 1)) := by
  apply UInt8.toNat_inj.mp
  rw [UInt8.toNat_and, UInt8.toNat_shiftRight, UInt8.toNat_one, Nat.and_one_is_mod, Nat.shiftRight_eq_div_pow]
  by_cases h : b.toNat / 2 ^ (i.toNat % 8) % 2 = 1
  · simp [toU8, h]
  · simp [toU8, h]; omega

theorem unpackByte_eq (b : UInt8) : unpackByte b = (byteBits b).map toU8 := by
  simp only [unpackByte, shr_and_one]
  simp [byteBits]

/-! ### encoder: Impl = Spec

`packBools` and `encodeBool` cut their argument the same way (eight values, nothing, or a short
rest), so `encodeBool.induct` serves both; in the third case the list is shorter than 8. -/

theorem length_lt_eight {α : Type} : ∀ l : List α,
    (∀ a0 a1 a2 a3 a4 a5 a6 a7 rest, l = a0 :: a1 :: a2 :: a3 :: a4 :: a5 :: a6 :: a7 :: rest → False) →
    l.length < 8
  | _ :: _ :: _ :: _ :: _ :: _ :: _ :: _ :: _, h => (h _ _ _ _ _ _ _ _ _ rfl).elim
  | [], _ | [_], _ | [_, _], _ | [_, _, _], _ | [_, _, _, _], _ | [_, _, _, _, _], _
  | [_, _, _, _, _, _], _ | [_, _, _, _, _, _, _], _ => by simp

theorem packBools_eq_spec (bs : List Bool) : packBools bs = encodeBool bs := by
  induction bs using Spec.Plain.encodeBool.induct with
  | case1 b0 b1 b2 b3 b4 b5 b6 b7 rest ih => rw [packBools, encodeBool, ih, orBits_zero [b0, b1, b2, b3, b4, b5, b6, b7] (Nat.le_refl 8)]
  | case2 => rfl
  | case3 short h8 h0 =>
    rw [packBools.eq_3 _ h8 h0, encodeBool.eq_3 _ h8 h0, orBits_zero _ (Nat.le_of_lt (length_lt_eight _ h8))]

theorem encodeBool_length (bs : List Bool) : (encodeBool bs).length = (bs.length + 7) / 8 := by
  induction bs using Spec.Plain.encodeBool.induct with
  | case1 b0 b1 b2 b3 b4 b5 b6 b7 rest ih =>
    rw [encodeBool, List.length_cons, ih]
    simp only [List.length_cons]; omega
  | case2 => rfl
  | case3 short h8 h0 =>
    have := length_lt_eight _ h8
    have : short.length ≠ 0 := fun h => h0 (List.length_eq_zero_iff.mp h)
    rw [encodeBool.eq_3 _ h8 h0, List.length_singleton]; omega

/-! ### the Spec's own round trip, and the padding -/

theorem bits_encodeBool (bs : List Bool) :
    (encodeBool bs).flatMap byteBits = bs ++ List.replicate ((8 - bs.length % 8) % 8) false := by
  induction bs using Spec.Plain.encodeBool.induct with
  | case1 b0 b1 b2 b3 b4 b5 b6 b7 rest ih =>
    rw [encodeBool, List.flatMap_cons, byteBits_bitsVal [b0, b1, b2, b3, b4, b5, b6, b7] (Nat.le_refl 8), ih]
    have : (b0 :: b1 :: b2 :: b3 :: b4 :: b5 :: b6 :: b7 :: rest).length % 8 = rest.length % 8 := by
      simp only [List.length_cons]; omega
    rw [this]; rfl
  | case2 => rfl
  | case3 short h8 h0 =>
    have hlt := length_lt_eight _ h8
    have : short.length ≠ 0 := fun h => h0 (List.length_eq_zero_iff.mp h)
    have e : (8 - short.length % 8) % 8 = 8 - short.length := by omega
    rw [encodeBool.eq_3 _ h8 h0, List.flatMap_singleton, byteBits_bitsVal _ (Nat.le_of_lt hlt), e]

theorem spec_decodeBool_encode (bs : List Bool) (extra : List UInt8) :
    decodeBool (encodeBool bs ++ extra) bs.length = some bs := by
  have hl := encodeBool_length bs
  unfold decodeBool
  rw [if_neg (by simp only [List.length_append, hl]; omega)]
  rw [List.flatMap_append, bits_encodeBool, List.append_assoc, List.take_left]

/-! ### decoder: Impl = Spec on every input -/

theorem boolLoop_eq : ∀ (input : List UInt8) (n : Nat), n ≤ input.length * 8 →
    boolLoop input n = some (((input.flatMap byteBits).take n).map toU8)
  | [], n, h => by
    have : n = 0 := by simpa using h
    subst this; simp [boolLoop]
  | b :: rest, n, h => by
    rw [boolLoop]
    by_cases h0 : n = 0
    · subst h0; simp
    · rw [if_neg h0]
      by_cases h8 : 8 ≤ n
      · have hr : n - 8 ≤ rest.length * 8 := by simp only [List.length_cons] at h; omega
        simp only [h8, if_true, boolLoop_eq rest (n - 8) hr]
        rw [List.flatMap_cons, List.take_append, byteBits_length,
          List.take_of_length_le (l := byteBits b) (i := n) (by rw [byteBits_length]; omega),
          List.map_append, unpackByte_eq]
      · simp only [h8, if_false]
        rw [List.flatMap_cons, List.take_append_of_le_length (by rw [byteBits_length]; omega),
          List.map_take, unpackByte_eq]

theorem decodeBoolean_eq_spec (input : List UInt8) (n : Nat) :
    decodeBoolean input (n : Int) =
      match decodeBool input n with
      | none => .err
      | some bits => .ok (bits.map toU8) ((n + 7) / 8) := by
  simp only [decodeBoolean, decodeBool, Int.toNat_natCast]
  rw [if_neg (by omega)]
  by_cases h : input.length < (n + 7) / 8
  · rw [if_pos h, if_pos (by omega)]
  · rw [if_neg h, if_neg (by omega), boolLoop_eq input n (by omega)]

end Carquet.Proofs.Plain
