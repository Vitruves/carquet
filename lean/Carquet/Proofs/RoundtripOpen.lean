import Carquet.Proofs.ReaderPageRoundtrip
import Carquet.Proofs.ReaderOpen
import Carquet.Proofs.FileRealFooter
import Carquet.Proofs.Schema
import Carquet.Proofs.NatBits
import Carquet.Proofs.SpecWriterFile
/-
C01, file level — stage "open": `carquet_reader_open*` (all three paths) and
`carquet_reader_get_column` on a file with the envelope the writer produces
(`PAR1 ++ data ++ footer ++ le32 |footer| ++ PAR1`, C05_envelope) and the footer the writer
serialises (`Impl.FileReal.footer md`):

* envelope: both magics are found, the length word is read back, the footer bytes are cut out;
* footer: `parquet_parse_file_metadata` returns the writer's metadata (`parse_written_footer`, C13);
* `build_schema`: the validation loop accepts root + one typed leaf per column, the traversal
  (Impl.Schema, C17 `build_flatten`) yields leaf `j` = element `1 + j` with the levels of the
  column's repetition;
* `get_column`: every test passes for a chunk whose metadata carry the column's physical type; the
  column reader it creates is `colOf c m` — the column the page / chunk theorems of the reader half
  are stated for.
-/
namespace Carquet.Proofs.Roundtrip
open Carquet.Impl Carquet.Impl.Reader
open Carquet.Impl.Writer (ChunkMeta RgMeta FooterData)
open Carquet.Proofs.ReaderPageRoundtrip Carquet.Proofs.SpecWriter
open Carquet.Proofs.ReaderBounds (slice_at slice_mid)
open Carquet.Spec.Schema (Leaf Element Info Node)

/-! ### the envelope -/

theorem le32_read (n : Nat) (h : n < 2 ^ 32) : le32 (Writer.le32 n) = n := by
  have := le32_le32 n h []
  rwa [List.append_nil] at this

def envFile (data foot : Reader.Bytes) : Reader.Bytes :=
  Writer.magic ++ data ++ foot ++ Writer.le32 foot.length ++ Writer.magic

theorem envelope_parts (data foot : Reader.Bytes) (hlen : foot.length < 2 ^ 32) :
    (envFile data foot).length = 4 + data.length + foot.length + 8 ∧ (envFile data foot).take 4 = magic ∧
    slice (envFile data foot) ((envFile data foot).length - 4) 4 = magic ∧
    footerLen (envFile data foot) = foot.length ∧ footerBytes (envFile data foot) = foot := by
  have hl4 : (Writer.le32 foot.length).length = 4 := rfl
  have hm4 : Writer.magic.length = 4 := rfl
  have hblen : (envFile data foot).length = 4 + data.length + foot.length + 8 := by
    simp only [envFile, List.length_append, hl4, hm4]
  have htake : (envFile data foot).take 4 = magic := by
    unfold envFile
    rw [List.append_assoc, List.append_assoc, List.append_assoc, List.take_left' hm4]
    rfl
  have hlast : slice (envFile data foot) ((envFile data foot).length - 4) 4 = magic := by
    have : (envFile data foot).length - 4 = (Writer.magic ++ data ++ foot ++ Writer.le32 foot.length).length := by
      rw [hblen]; simp only [List.length_append, hl4, hm4]; omega
    rw [this]
    exact slice_at _ Writer.magic 4
  have hfl : footerLen (envFile data foot) = foot.length := by
    unfold footerLen
    have : (envFile data foot).length - 8 = (Writer.magic ++ data ++ foot).length := by
      rw [hblen]; simp only [List.length_append, hm4]; omega
    rw [this]
    exact (congrArg le32 (slice_mid (Writer.magic ++ data ++ foot) (Writer.le32 foot.length) Writer.magic)).trans (le32_read _ hlen)
  refine ⟨hblen, htake, hlast, hfl, ?_⟩
  unfold footerBytes
  rw [hfl]
  have : (envFile data foot).length - 8 - foot.length = (Writer.magic ++ data).length := by
    rw [hblen]; simp only [List.length_append, hm4]; omega
  rw [this, show envFile data foot = Writer.magic ++ data ++ foot ++ (Writer.le32 foot.length ++ Writer.magic) by
    simp only [envFile, List.append_assoc]]
  exact slice_mid _ _ _

/-- **envelope**: a file with the writer's envelope whose footer the common tail of the open paths
accepts is opened by all three paths, with that result -/
theorem openFile_envelope (mode : Mode) (data foot : Reader.Bytes) (hlen : foot.length < 2 ^ 32) (o : Opened)
    (hfoot : parseFooter foot = .ok o) :
    openFile mode (Writer.magic ++ data ++ foot ++ Writer.le32 foot.length ++ Writer.magic) = .ok o := by
  obtain ⟨hblen, htake, hlast, hfl, hfb⟩ := envelope_parts data foot hlen
  show openFile mode (envFile data foot) = .ok o
  have hfr : openFile .fread (envFile data foot) = .ok o := by
    show (openFread _).1 = _
    unfold openFread
    rw [if_neg (by omega), if_neg (by rw [hlast]; simp), if_neg (by rw [hfl, hblen]; omega), hfb, hfoot]
  -- the mapped paths look at the leading magic as well, and then agree with fread
  obtain ⟨h1, h2⟩ := Carquet.Proofs.ReaderModes.openFile_modes _ htake
  cases mode
  · exact hfr
  · rw [← h1]; exact hfr
  · rw [← h2, ← h1]; exact hfr

/-! ### build_schema on the writer's schema elements -/

/-- the schema element the writer emits for a column -/
def colElement (c : Writer.Col) : ThriftParquet.SchemaElement :=
  { type := some c.ptype.code, typeLength := c.typeLen, repetition := some c.rep.code, name := some (FileReal.strBytes c.name),
    logicalType := FileReal.colLogical c }

theorem colElement_eq (c : Writer.Col) : colElement c = FileReal.schemaElementOfCol c := rfl

/-- what `build_schema` sees of it -/
def colInfo (c : Writer.Col) : Info := (toElement (colElement c)).info

def rootInfoW : Info := ⟨nameOf (some (FileReal.strBytes "schema")), none, none, 0, none, none⟩

theorem schema_written (md : FooterData) :
    (FileReal.fileMetaData md).schema =
      ({ name := some (FileReal.strBytes "schema"), numChildren := md.cols.length } : ThriftParquet.SchemaElement) ::
        md.cols.map colElement := rfl

theorem elemBad_cols : ∀ (cols : List Writer.Col) (n : Nat), 0 < n →
    ((cols.map colElement).zipIdx n).any (fun p => elemBad p.2 p.1) = false
  | [], _, _ => rfl
  | c :: cs, n, hn => by
    have ih := elemBad_cols cs (n + 1) (by omega)
    simp only [List.map_cons, List.zipIdx_cons, List.any_cons, ih, Bool.or_false]
    simp [elemBad, colElement]

theorem toElement_cols (cols : List Writer.Col) :
    (cols.map colElement).map toElement = (cols.map colInfo).map (fun i => (⟨i, 0⟩ : Element)) := by
  rw [List.map_map, List.map_map]
  rfl

/-- the leaves `build_schema` computes for the writer's schema: leaf `j` is element `1 + j` -/
def leavesOfCols (cols : List Writer.Col) : List Leaf :=
  (cols.map colInfo).mapIdx (fun k i => (⟨1 + k, Carquet.Spec.Schema.defInc i.rep, Carquet.Spec.Schema.repInc i.rep⟩ : Leaf))

/-- **build_schema** on the schema of a written footer (at least one column) -/
theorem buildSchema_written (md : FooterData) (hne : md.cols ≠ []) :
    buildSchema (FileReal.fileMetaData md).schema = .ok (leavesOfCols md.cols) := by
  rw [schema_written]
  unfold buildSchema
  have hbad : ((({ name := some (FileReal.strBytes "schema"), numChildren := md.cols.length } : ThriftParquet.SchemaElement) ::
      md.cols.map colElement).zipIdx.any (fun p => elemBad p.2 p.1)) = false := by
    simp only [List.zipIdx_cons, List.any_cons, elemBad_cols md.cols (0 + 1) (by omega), Bool.or_false]
    simp [elemBad]
  rw [hbad]
  simp only [Bool.false_eq_true, if_false]
  have hels : (({ name := some (FileReal.strBytes "schema"), numChildren := md.cols.length } : ThriftParquet.SchemaElement) ::
      md.cols.map colElement).map toElement =
      Carquet.Spec.Schema.flatten (.group rootInfoW ((md.cols.map colInfo).map Node.leaf)) := by
    simp only [List.map_cons, toElement_cols, Carquet.Spec.Schema.flatten, Carquet.Proofs.Schema.flattenList_leaves,
      List.length_map]
    rfl
  rw [hels]
  have hne' : (md.cols.map colInfo).map Node.leaf ≠ [] := by
    cases hc : md.cols with
    | nil => exact absurd hc hne
    | cons c cs => simp
  have hgne : ∀ (is : List Info), Carquet.Spec.Schema.groupsNonEmptyList (is.map Node.leaf) = true := by
    intro is
    induction is with
    | nil => rfl
    | cons i is ih => simp [Carquet.Spec.Schema.groupsNonEmptyList, Carquet.Spec.Schema.groupsNonEmpty, ih]
  have htyped : ∀ (cs : List Writer.Col), Carquet.Spec.Schema.typedList ((cs.map colInfo).map Node.leaf) = true := by
    intro cs
    induction cs with
    | nil => rfl
    | cons c cs ih =>
      simp only [List.map_cons, Carquet.Spec.Schema.typedList, Carquet.Spec.Schema.typed, ih, Bool.and_true]
      rfl
  have hb := Carquet.Proofs.Schema.build_flatten rootInfoW ((md.cols.map colInfo).map Node.leaf)
    (by
      simp only [Carquet.Spec.Schema.groupsNonEmpty, hgne, Bool.and_true]
      cases hc : (md.cols.map colInfo).map Node.leaf with
      | nil => exact absurd hc hne'
      | cons _ _ => rfl)
    (by simp only [Carquet.Spec.Schema.typed, htyped, Bool.and_true]; rfl)
  rw [hb]
  simp only [Carquet.Spec.Schema.leaves, Carquet.Proofs.Schema.leavesOfList_leaves]
  rfl

/-- **footer**: the common tail of the three open paths on the footer of a written file -/
theorem parseFooter_written (md : FooterData) (hok : Carquet.Proofs.FileRealFooter.footerOk md = true) (hne : md.cols ≠ []) :
    parseFooter (FileReal.footer md) = .ok ⟨FileReal.fileMetaData md, leavesOfCols md.cols⟩ := by
  unfold parseFooter ThriftParquetReq.parseFileMetaDataReq
  rw [Carquet.Proofs.FileRealFooter.parse_written_footer md hok]
  simp only [buildSchema_written md hne]

/-! ### get_column -/

/-- the chunk metadata the writer serialises for a chunk (`flush_row_group`) -/
def cmdOf (ch : ChunkMeta) : ThriftParquet.ColumnMetaData :=
  { type := ch.ptype.code, encodings := [0, 3], pathInSchema := [FileReal.strBytes ch.path], codec := ch.codec,
    numValues := ch.numValues, totalUncompressedSize := ch.totalUncompressed, totalCompressedSize := ch.totalCompressed,
    dataPageOffset := ch.fileOffset }

theorem rowGroups_written (md : FooterData) (i : Nat) (gm : RgMeta) (h : md.rowGroups[i]? = some gm) :
    ∃ g : ThriftParquet.RowGroup, (FileReal.fileMetaData md).rowGroups[i]? = some g ∧
      g.columns = gm.chunks.map (fun ch => ({ fileOffset := ch.fileOffset, metaData := some (cmdOf ch) } : ThriftParquet.ColumnChunk)) := by
  refine ⟨{ columns := gm.chunks.map (fun ch => ({ fileOffset := ch.fileOffset, metaData := some (cmdOf ch) } : ThriftParquet.ColumnChunk)),
             totalByteSize := gm.totalByteSize, numRows := gm.numRows, fileOffset := some gm.fileOffset,
             totalCompressedSize := some gm.totalCompressed, ordinal := some gm.ordinal }, ?_, rfl⟩
  simp only [FileReal.fileMetaData, List.getElem?_map, h, Option.map_some]
  rfl

theorem leavesOfCols_get (cols : List Writer.Col) (j : Nat) (c : Writer.Col) (h : cols[j]? = some c) :
    (leavesOfCols cols)[j]? = some ⟨1 + j, Carquet.Spec.Schema.defInc (colInfo c).rep, Carquet.Spec.Schema.repInc (colInfo c).rep⟩ := by
  simp [leavesOfCols, List.getElem?_mapIdx, List.getElem?_map, h]

theorem colInfo_levels (c : Writer.Col) :
    Carquet.Spec.Schema.defInc (colInfo c).rep = c.maxDef ∧ Carquet.Spec.Schema.repInc (colInfo c).rep = c.maxRep := by
  cases hr : c.rep <;>
    simp [colInfo, colElement, toElement, repOf, hr, Writer.Rep.code, Carquet.Spec.Schema.defInc, Carquet.Spec.Schema.repInc,
      Writer.Col.maxDef, Writer.Col.maxRep]

theorem chunkMismatch_written (m : ChunkMeta) (c : Writer.Col) (hc : ColOk c) (hpt : m.ptype = c.ptype) :
    chunkMismatch (cmdOf m) (colElement c) = false := by
  have hfl : c.ptype.code = 7 → 0 < c.typeLen := fun h7 => hc.flbaLen (by cases hp : c.ptype <;> rw [hp] at h7 <;> first | rfl | cases h7)
  simp only [chunkMismatch, colElement, cmdOf, hpt, Option.isNone_some, ne_eq, not_true_eq_false, decide_false, Bool.false_or,
    Bool.or_eq_false_iff, Bool.and_eq_false_iff, decide_eq_false_iff_not, Option.some.injEq]
  refine ⟨Decidable.or_iff_not_imp_left.mpr fun h7 => decide_eq_false ?_, by omega⟩
  have := hfl (by omega)
  omega

/-- **get_column**: on the opened writer metadata, for row group `i` and column `j` whose chunk
metadata carry the column's physical type, `carquet_reader_get_column` succeeds and creates the
column reader `colOf c (cmdOf m)` -/
theorem getColumn_written (md : FooterData) (i j : Nat) (gm : RgMeta) (m : ChunkMeta) (c : Writer.Col) (hc : ColOk c)
    (hg : md.rowGroups[i]? = some gm) (hm : gm.chunks[j]? = some m) (hcol : md.cols[j]? = some c)
    (hpt : m.ptype = c.ptype) :
    getColumn ⟨FileReal.fileMetaData md, leavesOfCols md.cols⟩ (i : Int) (j : Int) = .ok (colOf c (cmdOf m)) := by
  obtain ⟨g, hg1, hg2⟩ := rowGroups_written md i gm hg
  obtain ⟨hd, hr⟩ := colInfo_levels c
  have hel : (FileReal.fileMetaData md).schema[1 + j]? = some (colElement c) := by
    rw [schema_written, Nat.add_comm, List.getElem?_cons_succ, List.getElem?_map, hcol]
    rfl
  rw [Carquet.Proofs.ReaderOpen.getColumn_of_parts _ i j hg1 (leavesOfCols_get md.cols j c hcol)
    (by rw [hg2, List.getElem?_map, hm]; rfl) rfl hel (chunkMismatch_written m c hc hpt)]
  simp only [colOf, hd, hr, cmdOf, colElement, hpt]

end Carquet.Proofs.Roundtrip
