import Carquet.Impl.SimdRegistry
import Carquet.Proofs.SimdKernels
import Carquet.Proofs.SimdScalar
import Carquet.Proofs.SimdGather
import Carquet.Proofs.SimdMatch
import Carquet.Proofs.SimdCrc
import Carquet.Proofs.SimdDispatch
/-
C15 helper lemmas: every entry of the registry computes its slot's scalar definition, and every
`(slot, kernel)` pair the initialisation of the dispatch table can produce is one of the table's
listed pairs.
-/
namespace Carquet.Proofs.SimdRegistry
open Carquet Carquet.Impl.Simd Carquet.Impl.Dispatch
open Carquet.Proofs

theorem certified_cons {k : KernelModel} {ks : List KernelModel} (hk : k.EqScalar) (hks : ∀ m ∈ ks, m.EqScalar) :
    ∀ m ∈ k :: ks, m.EqScalar := List.forall_mem_cons.mpr ⟨hk, hks⟩

/-- entry by entry, in the order of `registry` -/
theorem registry_certified : ∀ k ∈ registry, k.EqScalar :=
  certified_cons (fun _ _ => SimdScalar.scalar_prefix _ _) <|
  certified_cons (fun _ _ => SimdKernels.prefix_of_block 4 _ SimdPrefix.sse_i32_block _ _) <|
  certified_cons (fun _ _ => SimdKernels.prefix_of_block 8 _ SimdPrefix.avx2_i32_block _ _) <|
  certified_cons (fun _ _ => SimdKernels.prefix_of_block 16 _ SimdPrefix.avx512_i32_block _ _) <|
  certified_cons (fun _ _ => SimdScalar.scalar_prefix _ _) <|
  certified_cons (fun _ _ => SimdKernels.prefix_of_block 2 _ SimdPrefix.sse_i64_block _ _) <|
  certified_cons (fun _ _ => SimdKernels.prefix_of_block 4 _ SimdPrefix.avx2_i64_block _ _) <|
  certified_cons (fun _ _ => SimdKernels.prefix_of_block 8 _ SimdPrefix.avx512_i64_block _ _) <|
  certified_cons (fun _ _ => SimdGather.scalarGather_spec _ _) <|
  certified_cons (fun _ _ => SimdGather.sse32_spec _ _) <|
  certified_cons (fun _ hx => SimdGather.avx2_32_spec _ hx _) <|
  certified_cons (fun _ hx => SimdGather.avx512_32_spec _ hx _) <|
  certified_cons (fun _ _ => SimdGather.scalarGather_spec _ _) <|
  certified_cons (fun _ _ => SimdGather.sse64_spec _ _) <|
  certified_cons (fun _ hx => SimdGather.avx2_64_spec _ hx _) <|
  certified_cons (fun _ hx => SimdGather.avx512_64_spec _ hx _) <|
  certified_cons (fun _ _ => SimdGather.scalarGather_spec _ _) <|
  certified_cons (fun _ _ => SimdGather.sse32_spec _ _) <|
  certified_cons (fun _ hx => SimdGather.avx2_32_spec _ hx _) <|
  certified_cons (fun _ hx => SimdGather.avx512_32_spec _ hx _) <|
  certified_cons (fun _ _ => SimdGather.scalarGather_spec _ _) <|
  certified_cons (fun _ _ => SimdGather.sse64_spec _ _) <|
  certified_cons (fun _ hx => SimdGather.avx2_64_spec _ hx _) <|
  certified_cons (fun _ hx => SimdGather.avx512_64_spec _ hx _) <|
  certified_cons (fun _ _ => SimdScalar.scalar_bss_enc_float _) <|
  certified_cons (fun _ _ => SimdKernels.bss_enc 4 (by decide) _ SimdBss.sse_enc_block _) <|
  certified_cons (fun _ _ => SimdKernels.bss_enc 8 (by decide) _ SimdBss.avx2_enc_block _) <|
  certified_cons (fun _ _ => SimdKernels.bss_enc 16 (by decide) _ SimdBss.avx512_enc_block _) <|
  certified_cons (fun _ hx => SimdScalar.scalar_bss_dec 4 _ _ hx) <|
  certified_cons (fun _ hx => SimdKernels.bss_dec 4 (by decide) sseBssDecBlk SimdBss.sse_dec_block _ _ hx) <|
  certified_cons (fun _ hx => SimdKernels.bss_dec 8 (by decide) avx2BssDecBlk SimdBss.avx2_dec_block _ _ hx) <|
  certified_cons (fun _ hx => SimdKernels.bss_dec 16 (by decide) avx512BssDecBlk SimdBss.avx512_dec_block _ _ hx) <|
  certified_cons (fun _ _ => SimdScalar.scalar_bss_enc_double _) <|
  certified_cons (fun _ _ => SimdScalar.sse_bss_enc_double _) <|
  certified_cons (fun _ hx => SimdScalar.scalar_bss_dec 8 _ _ hx) <|
  certified_cons (fun _ hx => SimdScalar.scalar_bss_dec 8 _ _ hx) <|
  certified_cons (fun _ _ => SimdScalar.scalar_unpack _ _) <|
  certified_cons (fun _ hx => SimdBools.unpack_eq 16 2 rfl (by decide) _ SimdBools.sse_unpack_block _ _ hx) <|
  certified_cons (fun _ hx => SimdBools.unpack_eq 32 4 rfl (by decide) _ SimdBools.avx2_unpack_block _ _ hx) <|
  certified_cons (fun _ hx => SimdBools.unpack_eq 64 8 rfl (by decide) _ (fun b _ => SimdBools.avx512_unpack_block b) _ _ hx) <|
  certified_cons (fun _ _ => rfl) <|
  certified_cons (fun _ hx => SimdKernels.pack_of_block _ SimdBools.sse_pack_block _ hx) <|
  certified_cons (fun _ hx => SimdKernels.pack_of_block _ SimdBools.avx2_pack_block _ hx) <|
  certified_cons (fun _ _ => SimdKernels.avx512_pack _) <|
  certified_cons (fun _ _ => SimdScalar.scalar_find_run _) <|
  certified_cons (fun _ _ => SimdKernels.find_run 4 sseRunBlk SimdLevels.sse_run_block _) <|
  certified_cons (fun _ _ => SimdKernels.find_run 8 avx2RunBlk SimdLevels.avx2_run_block _) <|
  certified_cons (fun _ _ => SimdKernels.find_run 16 avx512RunBlk SimdLevels.avx512_run_block _) <|
  certified_cons (fun _ _ => SimdCrc.scalarCrc32c_eq _ SimdCrc.crcTable_ok _ _) <|
  certified_cons (fun _ _ => SimdCrc.sse_crc _ _) <|
  certified_cons (fun _ hx => SimdMatch.scalar_match_copy _ hx _) <|
  certified_cons (fun _ hx => SimdMatch.sse_match_copy _ hx _) <|
  certified_cons (fun _ _ => SimdMatch.scalar_match_length _ _) <|
  certified_cons (fun _ _ => SimdMatch.sse_match_length _ _) <|
  certified_cons (fun _ _ => SimdScalar.scalar_count _ _) <|
  certified_cons (fun _ _ => SimdKernels.sse_count _ _) <|
  certified_cons (fun _ _ => SimdKernels.scalar_null_bitmap _ _) <|
  certified_cons (fun _ _ => SimdKernels.sse_null_bitmap _ _) <|
  certified_cons (fun _ _ => SimdScalar.scalar_fill _ _) <|
  certified_cons (fun _ _ => SimdKernels.sse_fill _ _) <|
  fun _ h => nomatch h

/-! ### what the fold over the blocks can return -/

theorem fold_mem (mask slot : Nat) (bs : List Block) (cur : Nat) :
    (bs.zip (bs.map (enabled mask))).foldl (stepE slot) cur = cur ∨
    (slot, (bs.zip (bs.map (enabled mask))).foldl (stepE slot) cur) ∈ bs.flatMap (·.2.2) :=
  SimdDispatch.fold_inv (fun k => k = cur ∨ (slot, k) ∈ bs.flatMap (·.2.2)) mask slot bs cur (Or.inl rfl)
    (fun b hb _ _ hk => Or.inr (List.mem_flatMap.mpr ⟨b, hb, hk⟩))

theorem select_mem_pairs (blocks : List Block) (init : List Nat) (mask slot k : Nat)
    (h : selectIn blocks init mask slot = some k) :
    (slot, k) ∈ (List.range init.length).zip init ++ blocks.flatMap (·.2.2) := by
  unfold selectIn selectE at h
  cases hi : init[slot]? with
  | none => rw [hi] at h; simp at h
  | some k0 =>
    rw [hi] at h
    have hk : (blocks.zip (blocks.map (enabled mask))).foldl (stepE slot) k0 = k := by simpa using h
    have hs : slot < init.length := by
      rcases List.getElem?_eq_some_iff.mp hi with ⟨hlt, _⟩
      exact hlt
    rcases fold_mem mask slot blocks k0 with e | e
    · rw [hk] at e
      apply List.mem_append_left
      rw [List.mem_iff_getElem]
      refine ⟨slot, by simp [hs], ?_⟩
      have : init[slot] = k0 := by
        rcases List.getElem?_eq_some_iff.mp hi with ⟨_, hv⟩
        exact hv
      simp [this, e]
    · rw [hk] at e
      exact List.mem_append_right _ e

/-! ### coverage of the table by the registry -/

/-- the slots in the order of the fields of `carquet_simd_dispatch_t` -/
def slotList : List Slot :=
  [.prefixSumI32, .prefixSumI64, .gatherI32, .gatherI64, .gatherFloat, .gatherDouble, .bssEncFloat,
   .bssDecFloat, .bssEncDouble, .bssDecDouble, .unpackBools, .packBools, .findRunLength, .crc32c, .matchCopy,
   .matchLength, .countNonNulls, .buildNullBitmap, .fillDefLevels]

theorem slots_enumerated : slotList.map Slot.name = Gen.Dispatch.slots := by decide +kernel

/-- `covered` with the registry searched by slot first: slots are compared by constructor, so only the few
entries filed under the slot have their names compared as strings -/
def coveredBySlot (sk : Nat × Nat) : Bool :=
  match slotList[sk.1]?, Gen.Dispatch.kernels[sk.2]? with
  | some sl, some kn => registry.any fun m => m.slot == sl && m.name == kn
  | _, _ => false

theorem covered_of_bySlot (sk : Nat × Nat) (h : coveredBySlot sk = true) : covered sk = true := by
  unfold coveredBySlot at h
  unfold covered
  rw [← slots_enumerated, List.getElem?_map]
  cases hs : slotList[sk.1]? with
  | none => simp [hs] at h
  | some sl =>
    cases hk : Gen.Dispatch.kernels[sk.2]? with
    | none => simp [hs, hk] at h
    | some kn =>
      simp only [hs, hk, List.any_eq_true, Bool.and_eq_true, beq_iff_eq] at h
      obtain ⟨m, hm, h1, h2⟩ := h
      simp only [Option.map_some, List.any_eq_true, Bool.and_eq_true, beq_iff_eq]
      exact ⟨m, hm, h2, by rw [h1]⟩

theorem tableCovered_true : tableCovered = true :=
  List.all_eq_true.mpr fun sk hsk =>
    covered_of_bySlot sk (List.all_eq_true.mp (by decide +kernel : tablePairs.all coveredBySlot = true) sk hsk)

theorem covered_entry (sk : Nat × Nat) (h : covered sk = true) :
    ∃ sn kn, Gen.Dispatch.slots[sk.1]? = some sn ∧ Gen.Dispatch.kernels[sk.2]? = some kn ∧
      ∃ m ∈ registry, m.name = kn ∧ m.slot.name = sn := by
  unfold covered at h
  cases hs : Gen.Dispatch.slots[sk.1]? with
  | none => rw [hs] at h; simp at h
  | some sn =>
    cases hk : Gen.Dispatch.kernels[sk.2]? with
    | none => rw [hs, hk] at h; simp at h
    | some kn =>
      rw [hs, hk] at h
      simp only [List.any_eq_true, Bool.and_eq_true, beq_iff_eq] at h
      obtain ⟨m, hm, h1, h2⟩ := h
      exact ⟨sn, kn, rfl, rfl, m, hm, h1, h2⟩

end Carquet.Proofs.SimdRegistry
