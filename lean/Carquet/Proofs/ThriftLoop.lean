import Carquet.Proofs.ThriftDec
/-
Struct level: `thrift_read_field_begin` reads both header forms, and the field loop
`while (read_field_begin) { body }` folds a per-field step over any admitted field list.
-/
namespace Carquet.Proofs.Thrift
open Carquet.Spec.Thrift
open Carquet.Impl.Thrift

/-! ### inversion of the encoding relation -/

theorem enc_elems_nil {bs} (h : Enc (.elems []) bs) : bs = [] := by cases h; rfl
theorem enc_elems_cons {x r bs} (h : Enc (.elems (x :: r)) bs) :
    ∃ b1 b2, bs = b1 ++ b2 ∧ Enc (.val x) b1 ∧ Enc (.elems r) b2 := by
  cases h with | elemsCons h1 h2 => exact ⟨_, _, rfl, h1, h2⟩
theorem enc_kvs_nil {bs} (h : Enc (.kvs []) bs) : bs = [] := by cases h; rfl
theorem enc_kvs_cons {k v r bs} (h : Enc (.kvs ((k, v) :: r)) bs) :
    ∃ b1 b2 b3, bs = b1 ++ b2 ++ b3 ∧ Enc (.val k) b1 ∧ Enc (.val v) b2 ∧ Enc (.kvs r) b3 := by
  cases h with | kvsCons h1 h2 h3 => exact ⟨_, _, _, rfl, h1, h2, h3⟩
theorem enc_fields_nil {last bs} (h : Enc (.fields last []) bs) : bs = [] := by cases h; rfl
theorem enc_fields_cons {last id v r bs} (h : Enc (.fields last ((id, v) :: r)) bs) :
    inI16 id ∧ ∃ hdr b2 b3, bs = hdr ++ b2 ++ b3 ∧ FieldHdr last id (fieldCode v) hdr ∧ Enc (.fields id r) b3 ∧
      ((∃ b, v = .bool b ∧ b2 = []) ∨ (v.ty ≠ .bool ∧ Enc (.val v) b2)) := by
  cases h with
  | fieldsBool hid hh h3 => exact ⟨hid, _, [], _, by simp, hh, h3, Or.inl ⟨_, rfl, rfl⟩⟩
  | fieldsCons hid hnb hh h2 h3 => exact ⟨hid, _, _, _, rfl, hh, h3, Or.inr ⟨hnb, h2⟩⟩
theorem enc_struct_inv {fs bs} (h : Enc (.val (.struct fs)) bs) : ∃ body, bs = body ++ [0] ∧ Enc (.fields 0 fs) body := by
  cases h with | struct h1 => exact ⟨_, rfl, h1⟩
theorem enc_list_inv {et xs bs} (h : Enc (.val (.list et xs)) bs) :
    ∃ hdr body, bs = hdr ++ body ∧ xs.length < 2 ^ 31 ∧ (∀ x ∈ xs, x.ty = et) ∧ ListHdr et xs.length hdr ∧ Enc (.elems xs) body := by
  cases h with | list h1 h2 h3 h4 => exact ⟨_, _, rfl, h1, h2, h3, h4⟩
theorem enc_set_inv {et xs bs} (h : Enc (.val (.set et xs)) bs) :
    ∃ hdr body, bs = hdr ++ body ∧ xs.length < 2 ^ 31 ∧ (∀ x ∈ xs, x.ty = et) ∧ ListHdr et xs.length hdr ∧ Enc (.elems xs) body := by
  cases h with | set h1 h2 h3 h4 => exact ⟨_, _, rfl, h1, h2, h3, h4⟩
theorem enc_map_nil {bs} (h : Enc (.val (.map [])) bs) : bs = [0] := by cases h; rfl
theorem enc_map_cons {k v r bs} (h : Enc (.val (.map ((k, v) :: r))) bs) :
    ∃ body, bs = uleb (r.length + 1) ++ UInt8.ofNat (k.ty.code * 16 + v.ty.code) :: body ∧ r.length + 1 < 2 ^ 31 ∧
      (∀ p ∈ (k, v) :: r, p.1.ty = k.ty ∧ p.2.ty = v.ty) ∧ Enc (.kvs ((k, v) :: r)) body := by
  cases h with | mapCons h1 h2 h3 => exact ⟨_, rfl, h1, h2, h3⟩

/-! ### a normal form for decoder states inside a struct -/

def _root_.Carquet.Impl.Thrift.Dec.upd (d : Dec) (rest : List UInt8) (pos : Nat) (l : List Int) (bv : Bool) : Dec :=
  { d with rest := rest, pos := pos, lastId := l, boolValue := bv }

@[simp] theorem upd_rest (d : Dec) (r p l bv) : (d.upd r p l bv).rest = r := rfl
@[simp] theorem upd_pos (d : Dec) (r p l bv) : (d.upd r p l bv).pos = p := rfl
@[simp] theorem upd_lastId (d : Dec) (r p l bv) : (d.upd r p l bv).lastId = l := rfl
@[simp] theorem upd_status (d : Dec) (r p l bv) : (d.upd r p l bv).status = d.status := rfl
@[simp] theorem upd_boolPending (d : Dec) (r p l bv) : (d.upd r p l bv).boolPending = d.boolPending := rfl
@[simp] theorem upd_boolValue (d : Dec) (r p l bv) : (d.upd r p l bv).boolValue = bv := rfl
@[simp] theorem upd_budget (d : Dec) (r p l bv) : (d.upd r p l bv).budget = d.budget := rfl
@[simp] theorem upd_overlay (d : Dec) (r p l bv) : (d.upd r p l bv).overlay = d.overlay := rfl
@[simp] theorem upd_upd (d : Dec) (r p l bv r' p' l' bv') : (d.upd r p l bv).upd r' p' l' bv' = d.upd r' p' l' bv' := rfl
@[simp] theorem upd_atb (d : Dec) (r p l bv r' p' bv') : (d.upd r p l bv).atb r' p' bv' = d.upd r' p' l bv' := rfl
theorem atb_eq_upd (d : Dec) (r p bv) : d.atb r p bv = d.upd r p d.lastId bv := rfl

/-! ### struct begin / end, field headers -/

theorem structBegin_ok (d : Dec) (h : d.lastId.length < maxNesting) :
    structBegin d = d.upd d.rest d.pos (0 :: d.lastId) d.boolValue := by
  unfold structBegin
  rw [if_neg (by omega)]
  rfl

theorem readFieldBegin_stop (d : Dec) (r : List UInt8) (hr : d.rest = 0 :: r) (hs : d.status = none) :
    readFieldBegin d = ⟨false, 0, 0, d.atb r (d.pos + 1) d.boolValue⟩ := by
  obtain ⟨rest, pos, lastId, bp, bv, status, ov, bud⟩ := d
  simp only at hr hs
  subst hr hs
  simp [readFieldBegin, Dec.atb]

theorem toI16_small (v : Int) (h : inI16 v) : toI16 v = v := toI16_id v h

/-- `thrift_read_field_begin` on either header form: the type nibble, the id, the decoder moved
past the header with the id remembered; a bool field leaves its value pending -/
theorem readFieldBegin_hdr {last id : Int} {code : Nat} {hdr : List UInt8} (h : FieldHdr last id code hdr)
    (hid : inI16 id) (hc1 : 1 ≤ code) (hc13 : code ≤ 13) (d : Dec) (r : List UInt8) (stk : List Int)
    (hr : d.rest = hdr ++ r) (hs : d.status = none) (hl : d.lastId = last :: stk) :
    readFieldBegin d = ⟨true, code, id,
      notePendingBool code (d.upd r (d.pos + hdr.length) (id :: stk) d.boolValue)⟩ := by
  obtain ⟨rest, pos, lastId, bp, bv, status, ov, bud⟩ := d
  simp only at hr hs hl
  subst hr hs hl
  rcases h with ⟨hpos, hle, rfl⟩ | rfl
  · have hdlt : (id - last).toNat * 16 + code < 256 := by omega
    have hb : (UInt8.ofNat ((id - last).toNat * 16 + code)).toNat = (id - last).toNat * 16 + code := u8_toNat _ hdlt
    have hne : UInt8.ofNat ((id - last).toNat * 16 + code) ≠ 0 := by
      intro h0
      have := congrArg UInt8.toNat h0
      rw [hb] at this
      simp at this
      omega
    have e1 : ((id - last).toNat * 16 + code) % 16 = code := by omega
    have e2 : ((id - last).toNat * 16 + code) / 16 = (id - last).toNat := by omega
    have e3 : ¬ (id - last).toNat = 0 := by omega
    have e4 : toI16 (last + ((id - last).toNat : Int)) = id := by
      have : last + ((id - last).toNat : Int) = id := by omega
      rw [this]; exact toI16_id id hid
    simp only [readFieldBegin, shortFieldHdr, List.singleton_append, hne, if_false, readFieldBeginK, hb, e1, e2, e3,
      List.headD_cons, e4, setTop, List.length_singleton]
    rfl
  · have hb : (UInt8.ofNat code).toNat = code := u8_toNat _ (by omega)
    have hne : UInt8.ofNat code ≠ 0 := by
      intro h0
      have := congrArg UInt8.toNat h0
      rw [hb] at this
      simp at this
      omega
    have e1 : code % 16 = code := by omega
    have e2 : code / 16 = 0 := by omega
    simp only [readFieldBegin, longFieldHdr, List.cons_append, hne, if_false, readFieldBeginK, hb, e1, e2, if_true]
    have hz := readZigzag_zigzag id (inI64_of_inI16 hid)
      (⟨uleb (zigzag id) ++ r, pos + 1, last :: stk, bp, bv, none, ov, bud⟩ : Dec) r rfl
    have hi : readI16 (⟨uleb (zigzag id) ++ r, pos + 1, last :: stk, bp, bv, none, ov, bud⟩ : Dec)
        = (id, (⟨r, pos + 1 + (uleb (zigzag id)).length, last :: stk, bp, bv, none, ov, bud⟩ : Dec)) := by
      unfold readI16; rw [hz]; simp [toI16_id id hid, Dec.at]
    rw [hi]
    simp only [setTop, List.length_cons, Dec.upd]
    congr 3
    omega

theorem notePending_nonbool (code : Nat) (d : Dec) (h : 3 ≤ code) : notePendingBool code d = d := by
  unfold notePendingBool
  rw [if_neg (by omega), if_neg (by omega)]

/-! ### the field loop -/

/-- the id of the last field (what `last_field_id` holds at the stop byte) -/
def lastOf (last : Int) : List (Int × TVal) → Int
  | [] => last
  | (id, _) :: r => lastOf id r

/-- contract of a loop body for a bool field: value pending, nothing to read -/
def BoolFieldOK {σ : Type} (Inv : σ → Prop) (body : Nat → Int → Dec → σ → σ × Dec) (step : σ → Int → TVal → σ) (k : Nat)
    (id : Int) (b : Bool) : Prop :=
  ∀ (d : Dec) (s : σ), Inv s → d.status = none → d.boolPending = true → d.boolValue = b →
    d.lastId.length + k ≤ maxNesting → d.rest.length < d.budget →
    ∃ bv, body (fieldCode (.bool b)) id d s = (step s id (.bool b), { d with boolPending := false, boolValue := bv })

/-- contract of a loop body for a field with value bytes -/
def ValFieldOK {σ : Type} (Inv : σ → Prop) (body : Nat → Int → Dec → σ → σ × Dec) (step : σ → Int → TVal → σ) (k : Nat)
    (id : Int) (v : TVal) : Prop :=
  ∀ b2, Enc (.val v) b2 → ∀ s, Inv s → Reads k (fun d => body v.ty.code id d s) b2 (step s id v)

theorem fieldLoop_reads {σ : Type} (stop : σ → Bool) (Inv : σ → Prop) (hstop : ∀ s, Inv s → stop s = false)
    (body : Nat → Int → Dec → σ → σ × Dec) (step : σ → Int → TVal → σ)
    (hinv : ∀ s id v, Inv s → Inv (step s id v)) (k : Nat) :
    ∀ (fs : List (Int × TVal)) (last : Int) (bs : List UInt8), Enc (.fields last fs) bs →
    (∀ id b, (id, TVal.bool b) ∈ fs → BoolFieldOK Inv body step k id b) →
    (∀ id v, (id, v) ∈ fs → v.ty ≠ .bool → ValFieldOK Inv body step k id v) →
    ∀ (fuel : Nat) (d : Dec) (r : List UInt8) (s : σ) (stk : List Int), Inv s →
      d.rest = bs ++ 0 :: r → d.status = none → d.boolPending = false → d.lastId = last :: stk →
      stk.length + 1 + k ≤ maxNesting → d.rest.length < d.budget → fs.length < fuel →
      ∃ bv, fieldLoop stop body fuel d s
        = (fs.foldl (fun s f => step s f.1 f.2) s, d.upd r (d.pos + bs.length + 1) (lastOf last fs :: stk) bv) := by
  intro fs
  induction fs with
  | nil =>
    intro last bs henc _ _ fuel d r s stk _ hr hs hnb hl _ _ hf
    have := enc_fields_nil henc; subst this
    obtain ⟨fuel, rfl⟩ : ∃ f, fuel = f + 1 := ⟨fuel - 1, by simp at hf; omega⟩
    refine ⟨d.boolValue, ?_⟩
    simp only [List.nil_append] at hr
    simp only [fieldLoop, readFieldBegin_stop d r hr hs, List.foldl_nil, lastOf, List.length_nil, Nat.add_zero]
    rw [atb_eq_upd, hl]
  | cons f rest ih =>
    obtain ⟨id, v⟩ := f
    intro last bs henc hbool hval fuel d r s stk his hr hs hnb hl hroom hbud hf
    obtain ⟨fuel, rfl⟩ : ∃ f, fuel = f + 1 := ⟨fuel - 1, by omega⟩
    obtain ⟨hid, hdr, b2, b3, rfl, hh, h3, hcase⟩ := enc_fields_cons henc
    have hc := fieldCode_range v
    have hr' : d.rest = hdr ++ (b2 ++ (b3 ++ 0 :: r)) := by rw [hr]; simp
    have hfb := readFieldBegin_hdr hh hid hc.1 hc.2 d _ stk hr' hs hl
    have hhl := fieldHdr_len hh
    rcases hcase with ⟨b, rfl, rfl⟩ | ⟨hnb', hv⟩
    · -- bool field
      have hok := hbool id b List.mem_cons_self
      let d1 := notePendingBool (fieldCode (.bool b)) (d.upd ([] ++ (b3 ++ 0 :: r)) (d.pos + hdr.length) (id :: stk) d.boolValue)
      have hd1 : d1 = { d.upd (b3 ++ 0 :: r) (d.pos + hdr.length) (id :: stk) b with boolPending := true } := by
        cases b <;> rfl
      obtain ⟨bv, hb⟩ := hok d1 s his (by rw [hd1]; exact hs) (by rw [hd1]) (by rw [hd1]; rfl)
        (by rw [hd1]; simp; omega) (by rw [hd1]; simp; rw [hr'] at hbud; simp at hbud; omega)
      have hd2 : ({ d1 with boolPending := false, boolValue := bv } : Dec) = d.upd (b3 ++ 0 :: r) (d.pos + hdr.length) (id :: stk) bv := by
        rw [hd1]; unfold Dec.upd; simp [hnb]
      obtain ⟨bv', hrec⟩ := ih id b3 h3 (fun i b' hm => hbool i b' (List.mem_cons_of_mem _ hm))
        (fun i v' hm => hval i v' (List.mem_cons_of_mem _ hm)) fuel
        (d.upd (b3 ++ 0 :: r) (d.pos + hdr.length) (id :: stk) bv) r (step s id (.bool b)) stk (hinv _ _ _ his)
        rfl hs hnb rfl hroom (by simp; rw [hr'] at hbud; simp at hbud; omega) (by simp at hf; omega)
      refine ⟨bv', ?_⟩
      simp only [fieldLoop, hfb]
      have hst : stop (body (fieldCode (.bool b)) id d1 s).1 = false := by rw [hb]; exact hstop _ (hinv _ _ _ his)
      change (if stop (body (fieldCode (.bool b)) id d1 s).1 = true then _ else
        fieldLoop stop body fuel (body (fieldCode (.bool b)) id d1 s).2 (body (fieldCode (.bool b)) id d1 s).1) = _
      rw [hst, if_neg (by simp), hb, hd2, hrec]
      simp only [List.foldl_cons, lastOf, upd_upd, upd_pos, List.append_nil, List.length_append]
      congr 2
      omega
    · -- field with value bytes
      have hok := hval id v List.mem_cons_self hnb' b2 hv s his
      obtain ⟨hfc, h3le⟩ := fieldCode_of_ne_bool v hnb'
      let d1 := d.upd (b2 ++ (b3 ++ 0 :: r)) (d.pos + hdr.length) (id :: stk) d.boolValue
      have hrd : Ready d1 b2 (b3 ++ 0 :: r) k :=
        ⟨rfl, hs, hnb, by simp [d1]; omega, by simp [d1]; rw [hr'] at hbud; simp at hbud; omega⟩
      obtain ⟨bv, hb⟩ := hok d1 _ hrd
      obtain ⟨bv', hrec⟩ := ih id b3 h3 (fun i b' hm => hbool i b' (List.mem_cons_of_mem _ hm))
        (fun i v' hm => hval i v' (List.mem_cons_of_mem _ hm)) fuel
        (d1.atb (b3 ++ 0 :: r) (d1.pos + b2.length) bv) r (step s id v) stk (hinv _ _ _ his)
        rfl hs hnb rfl hroom (by simp [d1]; rw [hr'] at hbud; simp at hbud; omega) (by simp at hf; omega)
      refine ⟨bv', ?_⟩
      simp only [fieldLoop, hfb, hfc, notePending_nonbool _ _ h3le]
      have hb' : body v.ty.code id d1 s = (step s id v, d1.atb (b3 ++ 0 :: r) (d1.pos + b2.length) bv) := hb
      have hst : stop (body v.ty.code id d1 s).1 = false := by rw [hb']; exact hstop _ (hinv _ _ _ his)
      change (if stop (body v.ty.code id d1 s).1 = true then _ else
        fieldLoop stop body fuel (body v.ty.code id d1 s).2 (body v.ty.code id d1 s).1) = _
      rw [hst, if_neg (by simp), hb', hrec]
      simp only [List.foldl_cons, lastOf, d1, upd_atb, upd_upd, upd_pos, List.length_append]
      congr 2
      omega

end Carquet.Proofs.Thrift
