import Carquet.Proofs.DeltaBits
import Carquet.Proofs.DeltaVarint
/-
The Spec reference decoder is correct for the grammar: every well-formed `Stream`, followed by
any bytes, decodes to the values it denotes and leaves exactly the following bytes.
-/
namespace Carquet.Spec.Delta

theorem decodeHeader_header (s : Stream) (rest : List UInt8) (hg : s.geom.legal) (h64 : s.fits64) :
    decodeHeader (s.header ++ rest) = .ok (⟨s.geom, s.count, s.first⟩, rest) := by
  obtain ⟨h1, h2, h3, h4⟩ := h64
  unfold decodeHeader Stream.header
  simp only [List.append_assoc]
  rw [ulebDecode64_ulebEncode _ _ h1]; simp only
  rw [ulebDecode64_ulebEncode _ _ h2]; simp only
  rw [ulebDecode64_ulebEncode _ _ h3]; simp only
  rw [ulebDecode64_ulebEncode _ _ (zigzagEnc_lt64 _ h4)]; simp only
  rw [if_pos hg, zigzagDec_zigzagEnc]

theorem take_take_drop (r vpm : Nat) (xs : List α) (h : vpm ≤ xs.length) :
    (xs.take vpm).take r ++ (xs.drop vpm).take (r - vpm) = xs.take r := by
  conv => rhs; rw [← List.take_append_drop vpm xs]
  rw [List.take_append]
  simp [List.length_take, Nat.min_eq_left h]

theorem decodeMinis_packMinis (vpm : Nat) (hv : 0 < vpm) (ws : List UInt8) :
    ∀ (xs : List Nat) (r : Nat) (tail : List UInt8), fits vpm ws xs → xs.length % vpm = 0 →
      xs.length < r + vpm → (r ≤ xs.length ∨ xs.length = vpm * ws.length) →
      decodeMinis vpm ws r (packMinis vpm ws xs ++ tail) = .ok (xs.take r, tail) := by
  induction ws with
  | nil =>
    intro xs r tail hf _ _ _
    simp only [fits] at hf
    subst hf
    simp [decodeMinis, packMinis]
  | cons w ws ih =>
    intro xs r tail hf hm hlt hor
    by_cases hx : xs = []
    · subst hx
      have hr : r = 0 := by
        rcases hor with h | h
        · simpa using h
        · simp only [List.length_nil, List.length_cons] at h
          have : 0 < vpm * (ws.length + 1) := Nat.mul_pos hv (by omega)
          omega
      subst hr
      simp [decodeMinis, packMinis]
    · have hlen : vpm ≤ xs.length := Nat.le_of_dvd (List.length_pos_iff.mpr hx) (Nat.dvd_of_mod_eq_zero hm)
      have hr : r ≠ 0 := by omega
      simp only [fits] at hf
      rcases hf with hf | ⟨hw, hfit, hrest⟩
      · exact absurd hf hx
      · have htake : (xs.take vpm).length = vpm := by simp [List.length_take, Nat.min_eq_left hlen]
        simp only [packMinis, if_neg hx, decodeMinis, if_neg hr, List.append_assoc]
        rw [if_neg (by omega)]
        have hpl : (pack w.toNat (xs.take vpm)).length = packedSize w.toNat vpm := by
          rw [length_pack, htake]
        rw [if_neg (by rw [List.length_append, hpl]; omega), List.drop_left' hpl,
          ih (xs.drop vpm) (r - vpm) tail hrest
              (by rw [List.length_drop]; exact (Nat.sub_mod_eq_zero_of_mod_eq (by rw [hm, Nat.mod_self])))
              (by rw [List.length_drop]; omega)
              (by
                rcases hor with h | h
                · left; rw [List.length_drop]; omega
                · right; rw [List.length_drop, h, List.length_cons, Nat.mul_succ]; omega)]
        simp only
        have hu := unpack_take_pack_prefix w.toNat (xs.take vpm) (packMinis vpm ws (xs.drop vpm) ++ tail)
          (min vpm r) hfit (by rw [htake]; exact Nat.min_le_left _ _)
        rw [htake] at hu
        rw [hu, List.take_take]
        have hmin : min (min vpm r) vpm = min r vpm := by omega
        rw [hmin]
        have := take_take_drop r vpm xs hlen
        rw [List.take_take] at this
        rw [this]

theorem vpm_mul (g : Geometry) (hg : g.legal) : g.vpm * g.miniblocks = g.blockSize := by
  unfold Geometry.vpm
  exact Nat.div_mul_cancel (Nat.dvd_of_mod_eq_zero hg.2.2.2.1)

theorem vpm_pos (g : Geometry) (hg : g.legal) : 0 < g.vpm := by
  have h := vpm_mul g hg
  have hb := hg.1
  rcases Nat.eq_zero_or_pos g.vpm with h0 | h0
  · rw [h0] at h; omega
  · exact h0

theorem blocksWf_cons (g : Geometry) (b : Block) (bs : List Block) :
    blocksWf g (b :: bs) ↔ b.wf g ∧ (bs ≠ [] → b.adj.length = g.blockSize) ∧ blocksWf g bs := by
  cases bs <;> simp [blocksWf]

theorem pad_nil_of_full (g : Geometry) (hg : g.legal) (b : Block) (hwf : b.wf g)
    (hfull : b.adj.length = g.blockSize) : b.pad = [] := by
  obtain ⟨_, _, _, hmod, hpad, _, _⟩ := hwf
  rw [hfull, ← vpm_mul g hg, Nat.add_comm, Nat.add_mul_mod_self_left, Nat.mod_eq_of_lt hpad] at hmod
  exact List.eq_nil_of_length_eq_zero hmod

theorem decodeBlocks_blocks (g : Geometry) (hg : g.legal) (blocks : List Block) :
    ∀ (fuel : Nat) (tail : List UInt8), blocksWf g blocks → totalDeltas blocks ≤ fuel →
      decodeBlocks g fuel (totalDeltas blocks) (blocks.flatMap (Block.bytes g) ++ tail) =
        .ok (blocks.flatMap Block.deltas, tail) := by
  induction blocks with
  | nil =>
    intro fuel tail _ _
    cases fuel <;> simp [totalDeltas, decodeBlocks]
  | cons b bs ih =>
    intro fuel tail hwf hfuel
    obtain ⟨hbwf, hfull, hbswf⟩ := (blocksWf_cons g b bs).mp hwf
    have hpadnil : bs ≠ [] → b.pad = [] := fun hne => pad_nil_of_full g hg b hbwf (hfull hne)
    obtain ⟨hwl, hapos, hale, hmod, hpad, hfits, hmd⟩ := hbwf
    have htot : totalDeltas (b :: bs) = b.adj.length + totalDeltas bs := by
      simp [totalDeltas]
    have hnil : bs = [] → totalDeltas bs = 0 := fun h => by rw [h]; rfl
    rw [htot] at hfuel ⊢
    obtain ⟨r, hr⟩ : ∃ r, b.adj.length + totalDeltas bs = r + 1 := ⟨b.adj.length + totalDeltas bs - 1, by omega⟩
    obtain ⟨fuel, rfl⟩ : ∃ f, fuel = f + 1 := ⟨fuel - 1, by omega⟩
    -- what is asked of this block, and what is left for the others
    have hrest : b.adj.length + totalDeltas bs - g.blockSize = totalDeltas bs := by
      by_cases hne : bs = []
      · rw [hnil hne]; omega
      · rw [hfull hne]; omega
    have htk : (b.adj ++ b.pad).take (b.adj.length + totalDeltas bs) = b.adj := by
      by_cases hne : bs = []
      · rw [hnil hne]; simp
      · rw [hpadnil hne, List.append_nil]
        exact List.take_of_length_le (by omega)
    rw [hr]
    simp only [List.flatMap_cons, Block.bytes, List.append_assoc, decodeBlocks]
    rw [ulebDecode64_ulebEncode _ _ (zigzagEnc_lt64 _ hmd)]
    simp only
    rw [if_neg (by simp [List.length_append, hwl]), List.take_left' hwl, List.drop_left' hwl, ← hr,
      decodeMinis_packMinis g.vpm (vpm_pos g hg) b.widths (b.adj ++ b.pad) _ _ hfits
        (by simpa using hmod) (by simp only [List.length_append]; omega)
        (by
          by_cases hne : bs = []
          · left; rw [hnil hne]; simp
          · right
            rw [hpadnil hne, List.append_nil, hfull hne, hwl, vpm_mul g hg])]
    simp only
    rw [hrest, ih fuel tail hbswf (by omega)]
    simp only
    rw [htk, zigzagDec_zigzagEnc]
    rfl

/-- The reference decoder accepts every well-formed stream (any legal geometry, any widths
0..64, any padding, any junk in unneeded width slots), returns the values it denotes and stops
exactly at its end. -/
theorem decode_stream (W : Nat) (s : Stream) (tail : List UInt8) (h : s.wf) :
    decode W (s.bytes ++ tail) = .ok (s.values W, tail) := by
  obtain ⟨hg, hb, hc, h64⟩ := h
  unfold decode Stream.bytes
  rw [List.append_assoc, decodeHeader_header s _ hg h64]
  simp only
  rcases hc with hc | ⟨hc, hnil⟩
  · have hne : s.count ≠ 0 := by omega
    rw [if_neg hne]
    have : s.count - 1 = totalDeltas s.blocks := by omega
    rw [this, decodeBlocks_blocks s.geom hg s.blocks _ tail hb (Nat.le_refl _)]
    simp [Stream.values, hne]
  · rw [if_pos hc, hnil]
    simp [Stream.values, hc]

end Carquet.Spec.Delta
