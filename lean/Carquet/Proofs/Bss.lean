import Carquet.Spec.Bss
import Carquet.Impl.Bss
/-
Helper lemmas for BYTE_STREAM_SPLIT: the index arithmetic of the C loops (`b * count + i`,
`i * K + b`) against the Spec's transposition by heads and tails.
-/
namespace Carquet.Proofs.Bss
open Carquet.Impl.Bss
open Carquet.Spec.Bss (heads tails consAll unsplit streams)

/-- `n` values of `k` bytes. -/
def Rect (k n : Nat) (vals : List (List UInt8)) : Prop := vals.length = n ∧ ∀ v ∈ vals, v.length = k

/-- byte `b` of value `i` -/
def cell (vals : List (List UInt8)) (i b : Nat) : Option UInt8 := (vals[i]?).bind (fun v => v[b]?)

def cellD (vals : List (List UInt8)) (i b : Nat) : UInt8 := (cell vals i b).getD 0

/-! ### generic list facts -/

theorem mapOpt_eq_some_map {α β : Type} {f : α → Option β} {g : α → β} :
    ∀ l : List α, (∀ x ∈ l, f x = some (g x)) → mapOpt f l = some (l.map g)
  | [], _ => rfl
  | x :: xs, h => by
    rw [mapOpt, h x (by simp), mapOpt_eq_some_map xs (fun y hy => h y (by simp [hy]))]
    rfl

theorem flatten_getElem? {α : Type} (m : Nat) : ∀ (rows : List (List α)),
    (∀ r ∈ rows, r.length = m) → ∀ i b, b < m →
    rows.flatten[i * m + b]? = (rows[i]?).bind (fun r => r[b]?)
  | [], _, i, b, _ => by simp
  | r :: rows, h, 0, b, hb => by
    have hr : r.length = m := h r (by simp)
    simp only [List.flatten_cons, Nat.zero_mul, Nat.zero_add]
    rw [List.getElem?_append_left (by omega)]; rfl
  | r :: rows, h, i + 1, b, hb => by
    have hr : r.length = m := h r (by simp)
    have ih := flatten_getElem? m rows (fun x hx => h x (by simp [hx])) i b hb
    simp only [List.flatten_cons]
    rw [List.getElem?_append_right (by rw [hr, Nat.succ_mul]; omega)]
    have : (i + 1) * m + b - r.length = i * m + b := by rw [hr, Nat.succ_mul]; omega
    rw [this, ih]; rfl

theorem map_range_getElem {α : Type} (l : List α) (d : α) :
    (List.range l.length).map (fun i => (l[i]?).getD d) = l := by
  apply List.ext_getElem?
  intro i
  rw [List.getElem?_map]
  by_cases h : i < l.length
  · rw [List.getElem?_range h, List.getElem?_eq_getElem h]
    simp [List.getElem?_eq_getElem h]
  · rw [List.getElem?_eq_none (by simpa using h), List.getElem?_eq_none (by omega)]; rfl

theorem idx_lt {n k i b : Nat} (hi : i < n) (hb : b < k) : b * n + i < k * n :=
  calc b * n + i < b * n + n := by omega
    _ = (b + 1) * n := by rw [Nat.succ_mul]
    _ ≤ k * n := Nat.mul_le_mul_right n hb

/-! ### cells of a rectangular value list -/

theorem cell_some {k n : Nat} {vals : List (List UInt8)} (h : Rect k n vals) {i b : Nat}
    (hi : i < n) (hb : b < k) : cell vals i b = some (cellD vals i b) := by
  have hi' : i < vals.length := by rw [h.1]; exact hi
  have hl : (vals[i]).length = k := h.2 _ (List.getElem_mem hi')
  have hb' : b < (vals[i]).length := by rw [hl]; exact hb
  simp only [cellD, cell, List.getElem?_eq_getElem hi', Option.bind_some,
    List.getElem?_eq_getElem hb', Option.getD_some]

theorem rows_eq {k n : Nat} {vals : List (List UInt8)} (h : Rect k n vals) :
    (List.range n).map (fun i => (List.range k).map (fun b => cellD vals i b)) = vals := by
  apply List.ext_getElem?
  intro i
  rw [List.getElem?_map]
  by_cases hi : i < n
  · have hi' : i < vals.length := by rw [h.1]; exact hi
    have hl : (vals[i]).length = k := h.2 _ (List.getElem_mem hi')
    rw [List.getElem?_range hi, List.getElem?_eq_getElem hi']
    simp only [Option.map_some, Option.some.injEq]
    have e := map_range_getElem (vals[i]) 0
    rw [hl] at e
    rw [← e]
    apply List.map_congr_left
    intro b _
    simp [cellD, cell, List.getElem?_eq_getElem hi']
  · rw [List.getElem?_eq_none (by simpa using hi), List.getElem?_eq_none (by rw [h.1]; omega)]; rfl

theorem rect_map {α : Type} (f : α → List UInt8) {k : Nat} (h : ∀ a, (f a).length = k) (l : List α) :
    Rect k l.length (l.map f) := by
  refine ⟨List.length_map f, fun v hv => ?_⟩
  obtain ⟨a, _, rfl⟩ := List.mem_map.mp hv
  exact h a

theorem rect_tails {k n : Nat} {vals : List (List UInt8)} (h : Rect (k + 1) n vals) :
    Rect k n (tails vals) := by
  refine ⟨by simp [tails, h.1], ?_⟩
  intro v hv
  simp only [tails, List.mem_map] at hv
  obtain ⟨w, hw, rfl⟩ := hv
  rw [List.length_tail, h.2 w hw]; rfl

theorem cellD_tails (vals : List (List UInt8)) (i b : Nat) :
    cellD (tails vals) i b = cellD vals i (b + 1) := by
  simp only [cellD, cell, tails, List.getElem?_map]
  cases vals[i]? with
  | none => rfl
  | some v => simp [List.getElem?_tail]

theorem heads_eq : ∀ {k n : Nat} {vals : List (List UInt8)}, Rect (k + 1) n vals →
    heads vals = (List.range n).map (fun i => cellD vals i 0)
  | _, n, [], h => by
    have : n = 0 := by simpa using h.1.symm
    subst this; rfl
  | k, n, v :: vs, h => by
    have hn : n = vs.length + 1 := by simpa using h.1.symm
    subst hn
    have hv : v.length = k + 1 := h.2 v (by simp)
    have ih := heads_eq (k := k) (n := vs.length) (vals := vs) ⟨rfl, fun w hw => h.2 w (by simp [hw])⟩
    match v, hv with
    | a :: t, _ =>
      rw [List.range_succ_eq_map]
      simp only [heads, List.filterMap_cons, List.head?_cons, List.map_cons, List.map_map] at ih ⊢
      rw [ih]
      simp [cellD, cell]

theorem heads_length {k n : Nat} {vals : List (List UInt8)} (h : Rect (k + 1) n vals) :
    (heads vals).length = n := by
  rw [heads_eq h]; simp

theorem encode_eq_streams : ∀ (k : Nat) {n : Nat} {vals : List (List UInt8)}, Rect k n vals →
    Spec.Bss.encode k vals =
      ((List.range k).map (fun b => (List.range n).map (fun i => cellD vals i b))).flatten
  | 0, _, _, _ => rfl
  | k + 1, n, vals, h => by
    rw [Spec.Bss.encode, encode_eq_streams k (rect_tails h), heads_eq h, List.range_succ_eq_map]
    simp only [List.map_cons, List.flatten_cons, List.map_map]
    congr 2
    apply List.map_congr_left
    intro b _
    apply List.map_congr_left
    intro i _
    exact cellD_tails vals i b

theorem encode_length (k : Nat) {n : Nat} {vals : List (List UInt8)} (h : Rect k n vals) :
    (Spec.Bss.encode k vals).length = k * n := by
  induction k generalizing vals with
  | zero => simp [Spec.Bss.encode]
  | succ k ih =>
    rw [Spec.Bss.encode, List.length_append, heads_length h, ih (rect_tails h), Nat.succ_mul]; omega

theorem encode_getElem? {k n : Nat} {vals : List (List UInt8)} (h : Rect k n vals) {i b : Nat}
    (hi : i < n) (hb : b < k) :
    (Spec.Bss.encode k vals)[b * n + i]? = some (cellD vals i b) := by
  rw [encode_eq_streams k h, flatten_getElem? n _ (List.forall_mem_map.mpr fun _ _ => by simp) b i hi]
  simp [List.getElem?_map, List.getElem?_range hb, List.getElem?_range hi]

theorem flat_getElem? {k n : Nat} {vals : List (List UInt8)} (h : Rect k n vals) {i b : Nat}
    (hi : i < n) (hb : b < k) : vals.flatten[i * k + b]? = some (cellD vals i b) := by
  rw [flatten_getElem? k vals h.2 i b hb]
  exact cell_some h hi hb

theorem flat_length {k n : Nat} {vals : List (List UInt8)} (h : Rect k n vals) :
    vals.flatten.length = n * k := by
  obtain ⟨h1, h2⟩ := h
  subst h1
  induction vals with
  | nil => simp
  | cons v vs ih =>
    rw [List.flatten_cons, List.length_append, ih (fun w hw => h2 w (by simp [hw])),
      h2 v (by simp), List.length_cons, Nat.succ_mul]
    omega

/-! ### the C loops on the Spec's output / on a value array -/

theorem gather_encode {k n : Nat} {vals : List (List UInt8)} (h : Rect k n vals) (extra : List UInt8) :
    gather k (Spec.Bss.encode k vals ++ extra) n = some vals.flatten := by
  have hrows : mapOpt (fun i => mapOpt (fun b => (Spec.Bss.encode k vals ++ extra)[b * n + i]?)
      (List.range k)) (List.range n)
      = some ((List.range n).map (fun i => (List.range k).map (fun b => cellD vals i b))) := by
    apply mapOpt_eq_some_map
    intro i hi
    apply mapOpt_eq_some_map
    intro b hb
    have hi' := List.mem_range.mp hi
    have hb' := List.mem_range.mp hb
    rw [List.getElem?_append_left (by rw [encode_length k h]; exact idx_lt hi' hb'), encode_getElem? h hi' hb']
  simp only [gather, hrows, rows_eq h]

theorem scatterSeq_flat {k n : Nat} {vals : List (List UInt8)} (h : Rect k n vals) :
    scatterSeq k vals.flatten n = some (Spec.Bss.encode k vals) := by
  have hrows : mapOpt (fun b => mapOpt (fun i => vals.flatten[i * k + b]?) (List.range n)) (List.range k)
      = some ((List.range k).map (fun b => (List.range n).map (fun i => cellD vals i b))) := by
    apply mapOpt_eq_some_map
    intro b hb
    apply mapOpt_eq_some_map
    intro i hi
    exact flat_getElem? h (List.mem_range.mp hi) (List.mem_range.mp hb)
  simp only [scatterSeq, hrows, encode_eq_streams k h]

theorem gather_zero (k : Nat) (data : List UInt8) : gather k data 0 = some [] := by
  simp [gather, mapOpt]

/-! ### the scalar float/double kernel: non-consecutive stores -/

theorem idx_iff {n i : Nat} (hi : i < n) (b p : Nat) : b * n + i = p ↔ p % n = i ∧ p / n = b := by
  have hn : 0 < n := by omega
  constructor
  · intro e
    subst e
    rw [Nat.mul_comm b n, Nat.mul_add_mod, Nat.mul_add_div hn, Nat.mod_eq_of_lt hi, Nat.div_eq_of_lt hi]
    exact ⟨rfl, rfl⟩
  · intro ⟨e1, e2⟩
    have := Nat.div_add_mod p n
    rw [e1, e2, Nat.mul_comm] at this
    exact this

theorem scatterRow_spec {k n : Nat} {vals : List (List UInt8)} (h : Rect k n vals) {i : Nat} (hi : i < n) :
    ∀ (fuel b : Nat) (out : List UInt8), b + fuel ≤ k → k * n ≤ out.length →
    ∃ out', scatterRow k vals.flatten n i fuel b out = some out' ∧ out'.length = out.length ∧
      ∀ p, out'[p]? = if p % n = i ∧ b ≤ p / n ∧ p / n < b + fuel
                      then some (cellD vals i (p / n)) else out[p]?
  | 0, b, out, _, _ => ⟨out, rfl, rfl, by
      intro p
      rw [if_neg (by omega)]⟩
  | fuel + 1, b, out, hb, hlen => by
    have hbk : b < k := by omega
    have hidx : b * n + i < out.length := Nat.lt_of_lt_of_le (idx_lt hi hbk) hlen
    obtain ⟨out', ho, hl, hp⟩ := scatterRow_spec h hi fuel (b + 1) (out.set (b * n + i) (cellD vals i b))
      (by omega) (by rw [List.length_set]; exact hlen)
    refine ⟨out', ?_, by rw [hl, List.length_set], ?_⟩
    · rw [scatterRow, flat_getElem? h hi hbk]
      simp only [store, hidx, if_true]
      exact ho
    · intro p
      rw [hp p, List.getElem?_set]
      by_cases hc : p % n = i ∧ p / n = b
      · have e : b * n + i = p := (idx_iff hi b p).mpr hc
        rw [if_neg (by omega), if_pos e, if_pos hidx, if_pos (by omega), hc.2]
      · have e : ¬ b * n + i = p := fun e => hc ((idx_iff hi b p).mp e)
        rw [if_neg e]
        by_cases hc2 : p % n = i ∧ b + 1 ≤ p / n ∧ p / n < b + 1 + fuel
        · rw [if_pos hc2, if_pos (by omega)]
        · rw [if_neg hc2, if_neg (by
            intro ⟨h1, h2, h3⟩
            by_cases h4 : p / n = b
            · exact hc ⟨h1, h4⟩
            · exact hc2 ⟨h1, by omega, by omega⟩)]

theorem scatterLoop_spec {k n : Nat} {vals : List (List UInt8)} (h : Rect k n vals) :
    ∀ (fuel i : Nat) (out : List UInt8), i + fuel ≤ n → k * n ≤ out.length →
    ∃ out', scatterLoop k vals.flatten n fuel i out = some out' ∧ out'.length = out.length ∧
      ∀ p, out'[p]? = if i ≤ p % n ∧ p % n < i + fuel ∧ p / n < k
                      then some (cellD vals (p % n) (p / n)) else out[p]?
  | 0, i, out, _, _ => ⟨out, rfl, rfl, by
      intro p
      rw [if_neg (by omega)]⟩
  | fuel + 1, i, out, hi, hlen => by
    have hin : i < n := by omega
    obtain ⟨out1, ho1, hl1, hp1⟩ := scatterRow_spec h hin k 0 out (by omega) hlen
    obtain ⟨out', ho, hl, hp⟩ := scatterLoop_spec h fuel (i + 1) out1 (by omega) (by rw [hl1]; exact hlen)
    refine ⟨out', ?_, by rw [hl, hl1], ?_⟩
    · rw [scatterLoop, ho1]
      exact ho
    · intro p
      rw [hp p, hp1 p]
      by_cases hc : p % n = i ∧ p / n < k
      · rw [if_neg (by omega), if_pos ⟨hc.1, Nat.zero_le _, by omega⟩,
          if_pos ⟨by omega, by omega, hc.2⟩, hc.1]
      · by_cases hc2 : i + 1 ≤ p % n ∧ p % n < i + 1 + fuel ∧ p / n < k
        · rw [if_pos hc2, if_pos ⟨by omega, by omega, hc2.2.2⟩]
        · rw [if_neg hc2, if_neg (fun hx => hc ⟨hx.1, by omega⟩), if_neg (by
            intro ⟨h1, h2, h3⟩
            by_cases h4 : p % n = i
            · exact hc ⟨h4, h3⟩
            · exact hc2 ⟨by omega, by omega, h3⟩)]

theorem scatterLoop_flat {k n : Nat} {vals : List (List UInt8)} (h : Rect k n vals)
    (out0 : List UInt8) (hlen : k * n ≤ out0.length) :
    scatterLoop k vals.flatten n n 0 out0 = some (Spec.Bss.encode k vals ++ out0.drop (k * n)) := by
  obtain ⟨out', ho, hl, hp⟩ := scatterLoop_spec h n 0 out0 (by omega) hlen
  rw [ho]
  congr 1
  apply List.ext_getElem?
  intro p
  rw [hp p]
  have hel := encode_length k h
  by_cases hn : n = 0
  · subst hn
    have hnil : Spec.Bss.encode k vals = [] := List.eq_nil_of_length_eq_zero (by rw [hel]; simp)
    rw [if_neg (by omega), hnil]; simp
  · have hn' : 0 < n := by omega
    by_cases hpk : p < k * n
    · have hdiv : p / n < k := (Nat.div_lt_iff_lt_mul hn').mpr hpk
      have hmod : p % n < n := Nat.mod_lt p hn'
      rw [if_pos ⟨by omega, by omega, hdiv⟩, List.getElem?_append_left (by rw [hel]; exact hpk)]
      have hpe : p / n * n + p % n = p := by rw [Nat.mul_comm]; exact Nat.div_add_mod p n
      have := encode_getElem? h hmod hdiv
      rw [hpe] at this
      exact this.symm
    · have hdiv : ¬ p / n < k := fun hlt => hpk ((Nat.div_lt_iff_lt_mul hn').mp hlt)
      rw [if_neg (by omega), List.getElem?_append_right (by rw [hel]; omega), hel, List.getElem?_drop]
      congr 1; omega

/-! ### the Spec's own round trip -/

theorem consAll_heads_tails : ∀ vals : List (List UInt8), (∀ v ∈ vals, v ≠ []) →
    consAll (heads vals) (tails vals) = vals
  | [], _ => rfl
  | [] :: _, h => absurd rfl (h [] (by simp))
  | (a :: t) :: vs, h => by
    have ih := consAll_heads_tails vs (fun v hv => h v (by simp [hv]))
    simp only [heads, tails, List.filterMap_cons, List.head?_cons, List.map_cons, List.tail_cons,
      consAll] at ih ⊢
    rw [ih]

theorem unsplit_streams_encode : ∀ (k : Nat) {n : Nat} {vals : List (List UInt8)}, Rect k n vals →
    ∀ extra, unsplit n (streams k n (Spec.Bss.encode k vals ++ extra)) = vals
  | 0, n, vals, h, extra => by
    simp only [streams, unsplit]
    exact (List.eq_replicate_iff.mpr ⟨h.1, fun v hv => List.eq_nil_of_length_eq_zero (h.2 v hv)⟩).symm
  | k + 1, n, vals, h, extra => by
    rw [Spec.Bss.encode, List.append_assoc, streams, List.take_left' (heads_length h),
      List.drop_left' (heads_length h), unsplit, unsplit_streams_encode k (rect_tails h) extra]
    apply consAll_heads_tails
    intro v hv hnil
    have := h.2 v hv
    rw [hnil] at this
    simp at this

theorem spec_decode_encode {k n : Nat} {vals : List (List UInt8)} (h : Rect k n vals)
    (extra : List UInt8) : Spec.Bss.decode k n (Spec.Bss.encode k vals ++ extra) = some vals := by
  unfold Spec.Bss.decode
  rw [if_neg (by rw [List.length_append, encode_length k h]; omega), unsplit_streams_encode k h extra]

/-! ### the Spec decoder inverts the Spec encoder the other way round too: every `k * n` bytes are
the encoding of the values the Spec decoder returns -/

theorem consAll_spec : ∀ (s : List UInt8) (U : List (List UInt8)) (k : Nat), s.length = U.length →
    (∀ v ∈ U, v.length = k) →
    (consAll s U).length = U.length ∧ (∀ v ∈ consAll s U, v.length = k + 1) ∧
    heads (consAll s U) = s ∧ tails (consAll s U) = U
  | [], [], _, _, _ => ⟨rfl, by simp [consAll], rfl, rfl⟩
  | [], _ :: _, _, h, _ => by simp at h
  | _ :: _, [], _, h, _ => by simp at h
  | b :: bs, v :: vs, k, h, hv => by
    have ih := consAll_spec bs vs k (by simpa using h) (fun w hw => hv w (by simp [hw]))
    obtain ⟨i1, i2, i3, i4⟩ := ih
    refine ⟨by simp [consAll, i1], ?_, ?_, ?_⟩
    · intro w hw
      simp only [consAll, List.mem_cons] at hw
      rcases hw with rfl | hw
      · simp [hv v (by simp)]
      · exact i2 w hw
    · simp only [consAll, heads, List.filterMap_cons, List.head?_cons] at i3 ⊢; rw [i3]
    · simp only [consAll, tails, List.map_cons, List.tail_cons] at i4 ⊢; rw [i4]

theorem unsplit_spec : ∀ (k n : Nat) (data : List UInt8), k * n ≤ data.length →
    Rect k n (unsplit n (streams k n data)) ∧
    Spec.Bss.encode k (unsplit n (streams k n data)) = data.take (k * n)
  | 0, n, data, _ => by
    simp only [streams, unsplit, Spec.Bss.encode, Nat.zero_mul, List.take_zero, and_true]
    exact ⟨by simp, by intro v hv; simp only [List.mem_replicate] at hv; rw [hv.2]; rfl⟩
  | k + 1, n, data, h => by
    have hn : n ≤ data.length := by rw [Nat.succ_mul] at h; omega
    have hd : k * n ≤ (data.drop n).length := by rw [List.length_drop, Nat.succ_mul] at *; omega
    obtain ⟨⟨r1, r2⟩, he⟩ := unsplit_spec k n (data.drop n) hd
    have hs : (data.take n).length = (unsplit n (streams k n (data.drop n))).length := by
      rw [r1, List.length_take]; omega
    obtain ⟨c1, c2, c3, c4⟩ := consAll_spec (data.take n) _ k hs r2
    simp only [streams, unsplit]
    refine ⟨⟨by rw [c1, r1], c2⟩, ?_⟩
    rw [Spec.Bss.encode, c3, c4, he, Nat.succ_mul, Nat.add_comm (k * n) n, List.take_add]

theorem gather_eq_spec (k n : Nat) (data : List UInt8) (h : k * n ≤ data.length) :
    gather k data n = some (unsplit n (streams k n data)).flatten := by
  obtain ⟨hr, he⟩ := unsplit_spec k n data h
  have := gather_encode hr (data.drop (k * n))
  rwa [he, List.take_append_drop] at this

/-! ### the entry points -/

theorem requiredSize_natCast {n k : Nat} (hk : 0 < k) (h : n * k < 2 ^ 64) :
    requiredSize (n : Int) k = n * k := by
  have hn : n < 2 ^ 64 := Nat.lt_of_le_of_lt (Nat.le_mul_of_pos_right n hk) h
  have : sizeT (n : Int) = n := by unfold sizeT; omega
  rw [requiredSize, this, Nat.mod_eq_of_lt h]

theorem decodeFloat_eq (data : List UInt8) (count : Int) : decodeFloat data count = decode data 4 count := by
  rw [decode, if_neg (by decide)]; rfl

theorem decodeDouble_eq (data : List UInt8) (count : Int) : decodeDouble data count = decode data 8 count := by
  rw [decode, if_neg (by decide)]; rfl

theorem encode_flat {k n : Nat} {vals : List (List UInt8)} (hk : 0 < k) (hr : Rect k n vals)
    (hsz : n * k < 2 ^ 64) {cap : Nat} (hcap : n * k ≤ cap) :
    encode vals.flatten n k cap = .ok (Spec.Bss.encode k vals) := by
  simp only [encode, Int.toNat_natCast, requiredSize_natCast hk hsz, scatterSeq_flat hr]
  rw [if_neg (by omega), if_neg (by omega)]

theorem decode_encode {k n : Nat} {vals : List (List UInt8)} (hk : 0 < k) (hr : Rect k n vals)
    (hsz : n * k < 2 ^ 64) (extra : List UInt8) :
    decode (Spec.Bss.encode k vals ++ extra) k n = .ok vals.flatten := by
  simp only [decode, Int.toNat_natCast, requiredSize_natCast hk hsz, gather_encode hr extra]
  rw [if_neg (by omega), if_neg (by rw [List.length_append, encode_length k hr, Nat.mul_comm]; omega)]

/-- the body shared by the scalar float/double encoders, at any width -/
theorem scatterBuf_flat {k n : Nat} {vals : List (List UInt8)} (hk : 0 < k) (hr : Rect k n vals)
    (hsz : n * k < 2 ^ 64) (out0 : List UInt8) (hcap : n * k ≤ out0.length) :
    (if out0.length < requiredSize (n : Int) k then Res.error .encode
     else match scatterLoop k vals.flatten (n : Int).toNat (n : Int).toNat 0 out0 with
       | some out => .ok out
       | none => .oob) = .ok (Spec.Bss.encode k vals ++ out0.drop (n * k)) := by
  rw [requiredSize_natCast hk hsz, if_neg (by omega), Int.toNat_natCast,
    scatterLoop_flat hr out0 (by rw [Nat.mul_comm]; exact hcap), Nat.mul_comm]

end Carquet.Proofs.Bss
