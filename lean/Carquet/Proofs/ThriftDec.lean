import Carquet.Proofs.ThriftSpec
/-
The decoder primitives of Impl.Thrift read the Spec's encodings: for every primitive `f` and
every encoding `bs` of a value `a`, `Reads k f bs a` — started anywhere in front of `bs`, with
no pending error and room for `k` more nesting levels, `f` returns `a` and has consumed
exactly `bs`, leaving every other field of the decoder as it was (up to the dead `bool_value`).
`Reads` composes like a parser (`pure`, `bind`, `map`).
-/
namespace Carquet.Proofs.Thrift
open Carquet.Spec.Thrift
open Carquet.Impl.Thrift

/-- the decoder after consuming: `rest` left, `pos` reached; `bool_value` may have been
overwritten by bool fields met on the way (it is dead while `bool_pending` is false) -/
def _root_.Carquet.Impl.Thrift.Dec.atb (d : Dec) (rest : List UInt8) (pos : Nat) (bv : Bool) : Dec :=
  { d with rest := rest, pos := pos, boolValue := bv }

@[simp] theorem atb_rest (d : Dec) (r p bv) : (d.atb r p bv).rest = r := rfl
@[simp] theorem atb_pos (d : Dec) (r p bv) : (d.atb r p bv).pos = p := rfl
@[simp] theorem atb_lastId (d : Dec) (r p bv) : (d.atb r p bv).lastId = d.lastId := rfl
@[simp] theorem atb_status (d : Dec) (r p bv) : (d.atb r p bv).status = d.status := rfl
@[simp] theorem atb_boolPending (d : Dec) (r p bv) : (d.atb r p bv).boolPending = d.boolPending := rfl
@[simp] theorem atb_boolValue (d : Dec) (r p bv) : (d.atb r p bv).boolValue = bv := rfl
@[simp] theorem atb_overlay (d : Dec) (r p bv) : (d.atb r p bv).overlay = d.overlay := rfl
@[simp] theorem atb_budget (d : Dec) (r p bv) : (d.atb r p bv).budget = d.budget := rfl
@[simp] theorem atb_atb (d : Dec) (r p bv r' p' bv') : (d.atb r p bv).atb r' p' bv' = d.atb r' p' bv' := rfl
theorem at_eq_atb (d : Dec) (r p) : d.at r p = d.atb r p d.boolValue := rfl

/-- the decoder stands in front of `bs` (followed by `r`), no error, no pending bool, `k` more
nesting levels available, loop budget not exhausted -/
structure Ready (d : Dec) (bs r : List UInt8) (k : Nat) : Prop where
  rest : d.rest = bs ++ r
  ok : d.status = none
  nb : d.boolPending = false
  room : d.lastId.length + k ≤ maxNesting
  bud : d.rest.length < d.budget

def Reads {α : Type} (k : Nat) (f : Dec → α × Dec) (bs : List UInt8) (a : α) : Prop :=
  ∀ d r, Ready d bs r k → ∃ bv, f d = (a, d.atb r (d.pos + bs.length) bv)

theorem Ready.next {d : Dec} {bs r : List UInt8} {k : Nat} (h : Ready d bs r k) {bs' r' : List UInt8} {k' : Nat}
    (hr : r = bs' ++ r') (hk : k' ≤ k) (p : Nat) (bv : Bool) : Ready (d.atb r p bv) bs' r' k' where
  rest := by simp [hr]
  ok := by simp [h.ok]
  nb := by simp [h.nb]
  room := by have := h.room; simp; omega
  bud := by have := h.bud; rw [h.rest] at this; simp at this ⊢; omega

theorem Ready.weaken {d : Dec} {bs r : List UInt8} {k k' : Nat} (h : Ready d bs r k) (hk : k' ≤ k) : Ready d bs r k' :=
  ⟨h.rest, h.ok, h.nb, by have := h.room; omega, h.bud⟩

theorem Ready.split {d : Dec} {b1 b2 r : List UInt8} {k : Nat} (h : Ready d (b1 ++ b2) r k) : Ready d b1 (b2 ++ r) k :=
  ⟨by rw [h.rest, List.append_assoc], h.ok, h.nb, h.room, h.bud⟩

theorem Reads.weaken {α : Type} {k k' : Nat} {f : Dec → α × Dec} {bs : List UInt8} {a : α}
    (h : Reads k f bs a) (hk : k ≤ k') : Reads k' f bs a :=
  fun d r hd => h d r (hd.weaken hk)

/-! ### sequencing

`Reads` composes like a parser: nothing read (`pure`), one reader after another on the concatenated bytes (`bind`), a
function applied to the value (`map`); `of_eq` brings a definition of the model into the form these produce.  The
container headers, which also test that the announced count does not exceed the bytes left, have their rules in
ThriftSkip (`listBegin`, `mapBegin`, `container`). -/

theorem Reads.pure {α : Type} (k : Nat) (a : α) : Reads k (fun d => (a, d)) [] a :=
  fun d r hd => ⟨d.boolValue, by have := hd.rest; simp only [List.nil_append] at this; rw [← this]; rfl⟩

/-- `f` reads `b1` as `a`, then `g a` reads `b2` as `c`: together they read `b1 ++ b2` as `c` -/
theorem Reads.bind {α β : Type} {k : Nat} {f : Dec → α × Dec} {g : α → Dec → β × Dec} {b1 b2 : List UInt8} {a : α} {c : β}
    (h1 : Reads k f b1 a) (h2 : Reads k (g a) b2 c) : Reads k (fun d => g (f d).1 (f d).2) (b1 ++ b2) c := by
  intro d r hd
  obtain ⟨bv, e1⟩ := h1 d (b2 ++ r) hd.split
  obtain ⟨bv', e2⟩ := h2 _ r (hd.split.next rfl (Nat.le_refl k) (d.pos + b1.length) bv)
  exact ⟨bv', by simp only [e1, e2, atb_atb, atb_pos, List.length_append, Nat.add_assoc]⟩

theorem Reads.map {α β : Type} {k : Nat} {f : Dec → α × Dec} {bs : List UInt8} {a : α} (h : Reads k f bs a) (m : α → β) :
    Reads k (fun d => (m (f d).1, (f d).2)) bs (m a) :=
  fun d r hd => (h d r hd).imp fun _ e => by simp only [e]

/-- `f'` does what `f` does on the states in question (no error, no pending bool) -/
theorem Reads.of_eq {α : Type} {k : Nat} {f f' : Dec → α × Dec} {bs : List UInt8} {a : α} (h : Reads k f bs a)
    (he : ∀ d r, Ready d bs r k → f' d = f d) : Reads k f' bs a :=
  fun d r hd => by rw [he d r hd]; exact h d r hd

theorem has_append (d : Dec) (bs r : List UInt8) (h : d.rest = bs ++ r) : d.has bs.length = true := by
  unfold Dec.has; rw [lengthGe_iff, h]; simp

theorem advance_append (d : Dec) (bs r : List UInt8) (h : d.rest = bs ++ r) :
    d.advance bs.length = d.atb r (d.pos + bs.length) d.boolValue := by
  unfold Dec.advance Dec.atb
  rw [h, List.drop_left']
  rfl

/-! ### scalars -/

theorem reads_varint (n : Nat) (h : n < 2 ^ 64) (k : Nat) : Reads k readVarint (uleb n) n := by
  intro d r hd
  exact ⟨d.boolValue, by rw [readVarint_uleb n h d r hd.rest]; rfl⟩

theorem reads_zigzag (v : Int) (h : inI64 v) (k : Nat) : Reads k readZigzag (uleb (zigzag v)) v := by
  intro d r hd
  exact ⟨d.boolValue, by rw [readZigzag_zigzag v h d r hd.rest]; rfl⟩

theorem reads_i64 (v : Int) (h : inI64 v) (k : Nat) : Reads k readI64 (uleb (zigzag v)) v := reads_zigzag v h k

theorem reads_i32 (v : Int) (h : inI32 v) (k : Nat) : Reads k readI32 (uleb (zigzag v)) v := by
  intro d r hd
  obtain ⟨bv, hz⟩ := reads_zigzag v (inI64_of_inI32 h) k d r hd
  exact ⟨bv, by unfold readI32; rw [hz]; simp [toI32_id v h]⟩

theorem reads_i16 (v : Int) (h : inI16 v) (k : Nat) : Reads k readI16 (uleb (zigzag v)) v := by
  intro d r hd
  obtain ⟨bv, hz⟩ := reads_zigzag v (inI64_of_inI16 h) k d r hd
  exact ⟨bv, by unfold readI16; rw [hz]; simp [toI16_id v h]⟩

theorem readByteRaw_cons (d : Dec) (b : UInt8) (r : List UInt8) (h : d.rest = b :: r) :
    readByteRaw d = (b, d.atb r (d.pos + 1) d.boolValue) := by
  unfold readByteRaw; rw [h]; rfl

theorem toI8_byteOf (v : Int) (h : inI8 v) : toI8 ((byteOf v).toNat : Int) = v := by
  unfold inI8 at h
  unfold toI8 byteOf
  rw [u8_toNat _ (by omega)]
  omega

theorem reads_i8 (v : Int) (h : inI8 v) (k : Nat) : Reads k readI8 [byteOf v] v := by
  intro d r hd
  refine ⟨d.boolValue, ?_⟩
  unfold readI8
  rw [readByteRaw_cons d _ r hd.rest]
  simp [toI8_byteOf v h]

theorem impl_leNat_eq (l : List UInt8) : Carquet.Impl.Thrift.leNat l = Carquet.Spec.Thrift.leNat l := by
  induction l with
  | nil => rfl
  | cons a l ih => simp [Carquet.Impl.Thrift.leNat, Carquet.Spec.Thrift.leNat, ih]

theorem reads_double (bits : Nat) (h : bits < 2 ^ 64) (k : Nat) :
    Reads k readDouble (Carquet.Spec.Thrift.leBytes 8 bits) bits := by
  intro d r hd
  refine ⟨d.boolValue, ?_⟩
  have hl : (Carquet.Spec.Thrift.leBytes 8 bits).length = 8 := leBytes_length 8 bits
  have h1 := has_append d _ r hd.rest
  have h2 := advance_append d _ r hd.rest
  rw [hl] at h1 h2
  have h3 : List.take 8 d.rest = Carquet.Spec.Thrift.leBytes 8 bits := by rw [hd.rest, ← hl]; exact List.take_left' rfl
  have h4 : Carquet.Spec.Thrift.leNat (Carquet.Spec.Thrift.leBytes 8 bits) = bits :=
    leNat_leBytes 8 bits (Nat.lt_of_lt_of_le h (by decide))
  unfold readDouble
  rw [h1, if_pos rfl, h2, h3, impl_leNat_eq, h4, hl]

/-- a bool *field*: the value is pending from the header, no bytes are read -/
theorem readBool_pending (d : Dec) (h : d.boolPending = true) :
    readBool d = (d.boolValue, { d with boolPending := false }) := by
  unfold readBool; rw [h]; rfl

theorem readBinary_spec (b : List UInt8) (h : b.length < 2 ^ 31) (d : Dec) (r : List UInt8)
    (hrest : d.rest = uleb b.length ++ b ++ r) :
    readBinary d = (some b, (b.length : Int), d.atb r (d.pos + (uleb b.length ++ b).length) d.boolValue) := by
  have hn64 : b.length < 2 ^ 64 := Nat.lt_of_lt_of_le h (by decide)
  have hr : d.rest = uleb b.length ++ (b ++ r) := by rw [hrest, List.append_assoc]
  have hv := readVarint_uleb b.length hn64 d (b ++ r) hr
  have hi : toI32 (b.length : Int) = b.length := toI32_id _ (by
    rw [two_pow_31] at h
    unfold inI32; omega)
  unfold readBinary
  rw [hv]
  unfold readBinaryK
  simp only [hi]
  have hneg : ¬ ((b.length : Int) < 0) := by omega
  rw [if_neg hneg]
  have hd1 : (d.at (b ++ r) (d.pos + (uleb b.length).length)).rest = b ++ r := rfl
  have h1 := has_append _ b r hd1
  have h2 := advance_append _ b r hd1
  simp only [Int.toNat_natCast]
  rw [h1, if_pos rfl, h2]
  simp only [hd1, List.take_left', at_pos, List.length_append]
  simp [Dec.atb, Dec.at, Nat.add_assoc]

end Carquet.Proofs.Thrift
