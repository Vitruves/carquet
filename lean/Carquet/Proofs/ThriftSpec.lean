import Carquet.Proofs.ThriftVarint
import Carquet.Proofs.NatBits
/-
The Spec's generic decoder reads every encoding the relation `Enc` admits (short and long
headers, both bool spellings), and the canonical encoder produces such an encoding.
-/
namespace Carquet.Proofs.Thrift
open Carquet.Spec.Thrift

theorem hasLen_iff (l : List UInt8) (n : Nat) : hasLen l n = true ↔ n ≤ l.length := by
  induction l generalizing n with
  | nil => cases n <;> simp [hasLen]
  | cons a l ih => cases n <;> simp [hasLen, ih]

theorem hasLen_append (a r : List UInt8) : hasLen (a ++ r) a.length = true := by
  rw [hasLen_iff]; simp

theorem code_pos (t : TType) : 2 ≤ t.code ∧ t.code ≤ 13 := by cases t <;> simp [TType.code]
theorem elemType_code (t : TType) : elemType t.code = some t := by cases t <;> rfl
theorem fieldCode_range (v : TVal) : 1 ≤ fieldCode v ∧ fieldCode v ≤ 13 := by
  cases v <;> simp [fieldCode, TVal.ty, TType.code]
  rename_i b; cases b <;> simp
theorem fieldCode_of_ne_bool (v : TVal) (h : v.ty ≠ .bool) : fieldCode v = v.ty.code ∧ 3 ≤ v.ty.code := by
  cases v <;> simp_all [fieldCode, TVal.ty, TType.code]

theorem elemCode_elemType {et : TType} {code : Nat} (h : ElemCode et code) : elemType code = some et ∧ 1 ≤ code ∧ code ≤ 13 := by
  rcases h with rfl | ⟨rfl, rfl⟩
  · exact ⟨elemType_code et, by have := code_pos et; omega, (code_pos et).2⟩
  · exact ⟨rfl, by omega, by omega⟩

theorem decodeInt_zigzag (lo hi v : Int) (h64 : inI64 v) (hlo : lo ≤ v) (hhi : v ≤ hi) (r : List UInt8) :
    decodeInt lo hi (uleb (zigzag v) ++ r) = some (v, r) := by
  unfold decodeInt
  rw [unuleb_uleb _ _ (zigzag_lt v h64)]
  simp [unzigzag_zigzag, hlo, hhi]

theorem decodeListHdr_of {et : TType} {n : Nat} {hdr : List UInt8} (h : ListHdr et n hdr) (hn : n < 2 ^ 31)
    (r : List UInt8) : decodeListHdr (hdr ++ r) = some ((et, n), r) := by
  obtain ⟨code, hc, hh⟩ := h
  obtain ⟨he, h1, h13⟩ := elemCode_elemType hc
  rcases hh with ⟨hlt, rfl⟩ | rfl
  · have hb : (UInt8.ofNat (n * 16 + code)).toNat = n * 16 + code := u8_toNat _ (by omega)
    have e1 : (n * 16 + code) % 16 = code := by omega
    have e2 : (n * 16 + code) / 16 = n := by omega
    have e3 : ¬ n = 15 := by omega
    simp only [shortListHdr, decodeListHdr, List.singleton_append, hb, e1, e2, e3, he, if_false]
  · have hb : (UInt8.ofNat (15 * 16 + code)).toNat = 15 * 16 + code := u8_toNat _ (by omega)
    have e1 : (15 * 16 + code) % 16 = code := by omega
    have e2 : (15 * 16 + code) / 16 = 15 := by omega
    have hn64 : n < 2 ^ 64 := Nat.lt_of_lt_of_le hn (by decide)
    simp only [longListHdr, decodeListHdr, List.cons_append, hb, e1, e2, he, unuleb_uleb _ _ hn64, hn, if_true]

/-- what the field-header part of `decodeFields` computes on a legal header -/
theorem fieldHdr_decodes {last id : Int} {code : Nat} {hdr : List UInt8} (h : FieldHdr last id code hdr)
    (hid : inI16 id) (hc1 : 1 ≤ code) (hc13 : code ≤ 13) :
    ∃ h0 tl, hdr = h0 :: tl ∧ h0 ≠ 0 ∧ h0.toNat % 16 = code ∧
      ∀ r, (if h0.toNat / 16 = 0 then decodeInt (-32768) 32767 (tl ++ r)
            else if last + (h0.toNat / 16 : Nat) ≤ 32767 then some (last + (h0.toNat / 16 : Nat), tl ++ r) else none)
           = some (id, r) := by
  rcases h with ⟨hpos, hle, rfl⟩ | rfl
  · have hd : (id - last).toNat * 16 + code < 256 := by omega
    have hb : (UInt8.ofNat ((id - last).toNat * 16 + code)).toNat = (id - last).toNat * 16 + code := u8_toNat _ hd
    refine ⟨_, [], rfl, ?_, ?_, ?_⟩
    · intro h0
      have := congrArg UInt8.toNat h0
      rw [hb] at this
      simp at this
      omega
    · rw [hb]; omega
    · intro r
      have e2 : ((id - last).toNat * 16 + code) / 16 = (id - last).toNat := by omega
      have e3 : ¬ (id - last).toNat = 0 := by omega
      unfold inI16 at hid
      rw [hb, e2, if_neg e3]
      have : last + ((id - last).toNat : Int) = id := by omega
      rw [this, if_pos hid.2]; rfl
  · have hb : (UInt8.ofNat code).toNat = code := u8_toNat _ (by omega)
    refine ⟨_, _, rfl, ?_, ?_, ?_⟩
    · intro h0
      have := congrArg UInt8.toNat h0
      rw [hb] at this
      simp at this
      omega
    · rw [hb]; omega
    · intro r
      have e2 : code / 16 = 0 := by omega
      unfold inI16 at hid
      rw [hb, e2, if_pos rfl]
      exact decodeInt_zigzag _ _ id (inI64_of_inI16 hid) hid.1 hid.2 r

/-! ### sizes: every element, entry and field takes at least one byte -/

def LenP : Item → List UInt8 → Prop
  | .val _, bs => 1 ≤ bs.length
  | .elems xs, bs => xs.length ≤ bs.length
  | .kvs kvs, bs => kvs.length ≤ bs.length
  | .fields _ fs, bs => fs.length ≤ bs.length

theorem listHdr_len {et n hdr} (h : ListHdr et n hdr) : 1 ≤ hdr.length := by
  obtain ⟨code, _, hh⟩ := h
  rcases hh with ⟨_, rfl⟩ | rfl <;> simp [shortListHdr, longListHdr]

theorem fieldHdr_len {last id code hdr} (h : FieldHdr last id code hdr) : 1 ≤ hdr.length := by
  rcases h with ⟨_, _, rfl⟩ | rfl <;> simp [shortFieldHdr, longFieldHdr]

theorem leBytes_eq : ∀ n v, leBytes n v = Impl.Bitpack.leBytes n v
  | 0, _ => rfl
  | n + 1, v => congrArg _ (leBytes_eq n (v / 256))

theorem leNat_eq : ∀ bs, leNat bs = Impl.Bitpack.leNat bs
  | [] => rfl
  | b :: bs => congrArg (b.toNat + 256 * ·) (leNat_eq bs)

theorem leBytes_length (n v : Nat) : (leBytes n v).length = n := leBytes_eq n v ▸ NatBits.leBytes_length n v

theorem enc_len {item bs} (h : Enc item bs) : LenP item bs := by
  induction h with
  | boolT | boolF | boolF0 | i8 _ => simp [LenP]
  | i16 _ | i32 _ | i64 _ => simp only [LenP]; exact uleb_length_pos _
  | double _ => simp [LenP, leBytes_length]
  | binary _ => simp only [LenP, List.length_append]; have := uleb_length_pos (List.length ‹List UInt8›); omega
  | uuid h => simp [LenP, h]
  | list _ _ hh _ _ | set _ _ hh _ _ => simp only [LenP, List.length_append]; have := listHdr_len hh; omega
  | mapNil => simp [LenP]
  | mapCons _ _ _ _ => simp only [LenP, List.length_append, List.length_cons]; omega
  | struct _ _ => simp [LenP]
  | elemsNil | kvsNil | fieldsNil => simp [LenP]
  | elemsCons _ _ ih1 ih2 => simp only [LenP, List.length_cons, List.length_append] at *; omega
  | kvsCons _ _ _ ih1 ih2 ih3 => simp only [LenP, List.length_cons, List.length_append] at *; omega
  | fieldsBool _ hh _ ih => simp only [LenP, List.length_cons, List.length_append] at *; have := fieldHdr_len hh; omega
  | fieldsCons _ _ hh _ _ ih1 ih2 =>
    simp only [LenP, List.length_cons, List.length_append] at *; have := fieldHdr_len hh; omega

/-! ### the decoder reads every admitted encoding -/

theorem leNat_leBytes (n v : Nat) (h : v < 256 ^ n) : leNat (leBytes n v) = v := by
  rw [leNat_eq, leBytes_eq, NatBits.leNat_leBytes_of_lt h]

theorem ofByte_byteOf (v : Int) (h : inI8 v) : ofByte (byteOf v) = v := by
  unfold inI8 at h
  unfold ofByte byteOf
  have hb : (UInt8.ofNat (v % 256).toNat).toNat = (v % 256).toNat := u8_toNat _ (by omega)
  rw [hb]
  split <;> omega

def DecP : Item → List UInt8 → Prop
  | .val v, bs => ∀ f r, v.depth ≤ f → decodeVal (f + 1) v.ty (bs ++ r) = some (v, r)
  | .elems xs, bs => ∀ f et r, (∀ x ∈ xs, x.ty = et) → (∀ x ∈ xs, x.depth ≤ f) →
      decodeN (decodeVal (f + 1) et) xs.length (bs ++ r) = some (xs, r)
  | .kvs kvs, bs => ∀ f kt vt r, (∀ p ∈ kvs, p.1.ty = kt ∧ p.2.ty = vt) →
      (∀ p ∈ kvs, p.1.depth ≤ f ∧ p.2.depth ≤ f) →
      decodePairs (decodeVal (f + 1) kt) (decodeVal (f + 1) vt) kvs.length (bs ++ r) = some (kvs, r)
  | .fields last fs, bs => ∀ f m r, (∀ x ∈ fs, x.2.depth ≤ f) → fs.length < m →
      decodeFields (decodeVal (f + 1)) m last (bs ++ 0 :: r) = some (fs, r)

theorem depth_le_elems {x : TVal} {xs : List TVal} (h : x ∈ xs) : x.depth ≤ depthElems xs := by
  induction xs with
  | nil => cases h
  | cons y ys ih =>
    simp only [depthElems]
    rcases List.mem_cons.mp h with rfl | h'
    · omega
    · have := ih h'; omega

theorem depth_le_kvs {p : TVal × TVal} {kvs : List (TVal × TVal)} (h : p ∈ kvs) :
    p.1.depth ≤ depthKVs kvs ∧ p.2.depth ≤ depthKVs kvs := by
  induction kvs with
  | nil => cases h
  | cons y ys ih =>
    obtain ⟨k, v⟩ := y
    simp only [depthKVs]
    rcases List.mem_cons.mp h with rfl | h'
    · simp; omega
    · have := ih h'; omega

theorem depth_le_fields {f : Int × TVal} {fs : List (Int × TVal)} (h : f ∈ fs) : f.2.depth ≤ depthFields fs := by
  induction fs with
  | nil => cases h
  | cons y ys ih =>
    obtain ⟨i, v⟩ := y
    simp only [depthFields]
    rcases List.mem_cons.mp h with rfl | h'
    · simp; omega
    · have := ih h'; omega

theorem dec_of_enc {item bs} (h : Enc item bs) : DecP item bs := by
  induction h with
  | boolT => intro f r _; simp [decodeVal, TVal.ty]
  | boolF => intro f r _; simp [decodeVal, TVal.ty]
  | boolF0 => intro f r _; simp [decodeVal, TVal.ty]
  | i8 hv =>
    intro f r hf
    simp [decodeVal, TVal.ty, ofByte_byteOf _ hv]
  | i16 hv =>
    intro f r hf
    simp [decodeVal, TVal.ty, decodeInt_zigzag _ _ _ (inI64_of_inI16 hv) hv.1 hv.2]
  | i32 hv =>
    intro f r hf
    simp [decodeVal, TVal.ty, decodeInt_zigzag _ _ _ (inI64_of_inI32 hv) hv.1 hv.2]
  | i64 hv =>
    intro f r hf
    simp [decodeVal, TVal.ty, decodeInt_zigzag _ _ _ hv hv.1 hv.2]
  | @double bits hb =>
    intro f r hf
    have hl : (leBytes 8 bits).length = 8 := leBytes_length 8 bits
    have h1 : hasLen (leBytes 8 bits ++ r) 8 = true := by have := hasLen_append (leBytes 8 bits) r; rwa [hl] at this
    have h2 : List.take 8 (leBytes 8 bits ++ r) = leBytes 8 bits := by rw [← hl]; exact List.take_left' rfl
    have h3 : List.drop 8 (leBytes 8 bits ++ r) = r := by rw [← hl]; exact List.drop_left' rfl
    have h4 : leNat (leBytes 8 bits) = bits := leNat_leBytes 8 bits (Nat.lt_of_lt_of_le hb (by decide))
    simp only [decodeVal, TVal.ty, h1, if_true, h2, h3, h4]
  | @binary b hb =>
    intro f r hf
    have hn64 : b.length < 2 ^ 64 := Nat.lt_of_lt_of_le hb (by decide)
    simp only [decodeVal, TVal.ty, List.append_assoc, unuleb_uleb _ _ hn64, hb, hasLen_append, and_self, if_true]
    simp
  | @uuid b hb =>
    intro f r hf
    have h1 : hasLen (b ++ r) 16 = true := by have := hasLen_append b r; rwa [hb] at this
    have h2 : List.take 16 (b ++ r) = b := by rw [← hb]; exact List.take_left' rfl
    have h3 : List.drop 16 (b ++ r) = r := by rw [← hb]; exact List.drop_left' rfl
    simp only [decodeVal, TVal.ty, h1, if_true, h2, h3]
  | @list et xs hdr body hlen hty hh _ ih =>
    intro f r hf
    simp only [TVal.depth] at hf
    obtain ⟨g, rfl⟩ : ∃ g, f = g + 1 := ⟨f - 1, by omega⟩
    have hd : ∀ x ∈ xs, x.depth ≤ g := fun x hx => by have := depth_le_elems hx; omega
    simp only [TVal.ty]
    rw [decodeVal]
    simp only [List.append_assoc, decodeListHdr_of hh hlen, ih g et r hty hd, Option.map_some]
  | @set et xs hdr body hlen hty hh _ ih =>
    intro f r hf
    simp only [TVal.depth] at hf
    obtain ⟨g, rfl⟩ : ∃ g, f = g + 1 := ⟨f - 1, by omega⟩
    have hd : ∀ x ∈ xs, x.depth ≤ g := fun x hx => by have := depth_le_elems hx; omega
    simp only [TVal.ty]
    rw [decodeVal]
    simp only [List.append_assoc, decodeListHdr_of hh hlen, ih g et r hty hd, Option.map_some]
  | mapNil =>
    intro f r hf
    simp [decodeVal, TVal.ty, unuleb]
  | @mapCons k v rest body hlen hty _ ih =>
    intro f r hf
    have hn64 : rest.length + 1 < 2 ^ 64 := Nat.lt_of_lt_of_le hlen (by decide)
    simp only [TVal.depth] at hf
    obtain ⟨g, rfl⟩ : ∃ g, f = g + 1 := ⟨f - 1, by omega⟩
    have hd : ∀ p ∈ (k, v) :: rest, p.1.depth ≤ g ∧ p.2.depth ≤ g := fun p hp => by have := depth_le_kvs hp; omega
    have hk := code_pos k.ty
    have hv := code_pos v.ty
    have hb : (UInt8.ofNat (k.ty.code * 16 + v.ty.code)).toNat = k.ty.code * 16 + v.ty.code := u8_toNat _ (by omega)
    have e1 : (k.ty.code * 16 + v.ty.code) / 16 = k.ty.code := by omega
    have e2 : (k.ty.code * 16 + v.ty.code) % 16 = v.ty.code := by omega
    have := ih g k.ty v.ty r hty hd
    simp only [List.length_cons] at this
    rw [show (TVal.map ((k, v) :: rest)).ty = TType.map from rfl, decodeVal]
    simp only [List.append_assoc, List.cons_append, unuleb_uleb _ _ hn64, Nat.add_one_ne_zero,
      if_false, hlen, if_true, hb, e1, e2, elemType_code, this, Option.map_some]
  | @struct fs body henc ih =>
    intro f r hf
    simp only [TVal.depth] at hf
    obtain ⟨g, rfl⟩ : ∃ g, f = g + 1 := ⟨f - 1, by omega⟩
    have hd : ∀ x ∈ fs, x.2.depth ≤ g := fun x hx => by have := depth_le_fields hx; omega
    have hl : fs.length ≤ body.length := enc_len henc
    have := ih g ((body ++ [0] ++ r).length) r hd (by simp; omega)
    simp only [TVal.ty]
    rw [decodeVal]
    simp only [List.append_assoc, List.singleton_append] at this ⊢
    simp only [this, Option.map_some]
  | elemsNil => intro fuel et r _ _; simp [decodeN]
  | @elemsCons x rest b1 b2 _ _ ih1 ih2 =>
    intro fuel et r hty hd
    have hx := hty x (List.mem_cons_self)
    have h1 := ih1 fuel (b2 ++ r) (hd x List.mem_cons_self)
    rw [hx] at h1
    have h2 := ih2 fuel et r (fun y hy => hty y (List.mem_cons_of_mem _ hy)) (fun y hy => hd y (List.mem_cons_of_mem _ hy))
    simp only [List.length_cons, decodeN, List.append_assoc, h1, h2]
  | kvsNil => intro fuel kt vt r _ _; simp [decodePairs]
  | @kvsCons k v rest b1 b2 b3 _ _ _ ih1 ih2 ih3 =>
    intro fuel kt vt r hty hd
    have hx := hty (k, v) List.mem_cons_self
    have hdx := hd (k, v) List.mem_cons_self
    have h1 := ih1 fuel (b2 ++ (b3 ++ r)) hdx.1
    have h2 := ih2 fuel (b3 ++ r) hdx.2
    rw [hx.1] at h1
    rw [hx.2] at h2
    have h3 := ih3 fuel kt vt r (fun y hy => hty y (List.mem_cons_of_mem _ hy)) (fun y hy => hd y (List.mem_cons_of_mem _ hy))
    simp only [List.length_cons, decodePairs, List.append_assoc, h1, h2, h3]
  | fieldsNil =>
    intro fuel m r _ hm
    obtain ⟨m, rfl⟩ : ∃ m', m = m' + 1 := ⟨m - 1, by simp at hm; omega⟩
    simp [decodeFields]
  | @fieldsBool last id b rest hdr b3 hid hh _ ih =>
    intro fuel m r hd hm
    obtain ⟨m, rfl⟩ : ∃ m', m = m' + 1 := ⟨m - 1, by simp at hm; omega⟩
    have hc := fieldCode_range (.bool b)
    obtain ⟨h0, tl, rfl, hne, hcode, hdec⟩ := fieldHdr_decodes hh hid hc.1 hc.2
    have h3 := ih fuel m r (fun y hy => hd y (List.mem_cons_of_mem _ hy)) (by simp at hm; omega)
    have hdec' := hdec (b3 ++ 0 :: r)
    simp only [List.cons_append, List.append_assoc, decodeFields, hne, if_false, hdec', hcode]
    cases b <;> simp [fieldCode, h3]
  | @fieldsCons last id v rest hdr b2 b3 hid hnb hh _ _ ih1 ih2 =>
    intro fuel m r hd hm
    obtain ⟨m, rfl⟩ : ∃ m', m = m' + 1 := ⟨m - 1, by simp at hm; omega⟩
    have hc := fieldCode_range v
    obtain ⟨hfc, h3le⟩ := fieldCode_of_ne_bool v hnb
    obtain ⟨h0, tl, rfl, hne, hcode, hdec⟩ := fieldHdr_decodes hh hid hc.1 hc.2
    have hv := ih1 fuel (b3 ++ 0 :: r) (hd (id, v) List.mem_cons_self)
    have h3 := ih2 fuel m r (fun y hy => hd y (List.mem_cons_of_mem _ hy)) (by simp at hm; omega)
    have hdec' := hdec (b2 ++ (b3 ++ 0 :: r))
    have n1 : ¬ fieldCode v = 1 := by omega
    have n2 : ¬ fieldCode v = 2 := by omega
    simp only [List.cons_append, List.append_assoc, decodeFields, hne, if_false, hdec', hcode, n1, n2]
    rw [hfc, elemType_code]
    simp only [hv, h3]

def DepthP : Item → List UInt8 → Prop
  | .val v, bs => v.depth ≤ bs.length
  | .elems xs, bs => depthElems xs ≤ bs.length
  | .kvs kvs, bs => depthKVs kvs ≤ bs.length
  | .fields _ fs, bs => depthFields fs ≤ bs.length

theorem enc_depth {item bs} (h : Enc item bs) : DepthP item bs := by
  induction h with
  | boolT | boolF | boolF0 | i8 _ | i16 _ | i32 _ | i64 _ | double _ | binary _ | uuid _ => simp [DepthP, TVal.depth]
  | list _ _ hh _ ih | set _ _ hh _ ih =>
    simp only [DepthP, TVal.depth, List.length_append] at *; have := listHdr_len hh; omega
  | mapNil => simp [DepthP, TVal.depth, depthKVs]
  | mapCons _ _ _ ih => simp only [DepthP, TVal.depth, List.length_append, List.length_cons] at *; omega
  | struct _ ih => simp only [DepthP, TVal.depth, List.length_append, List.length_singleton] at *; omega
  | elemsNil | kvsNil | fieldsNil => simp [DepthP, depthElems, depthKVs, depthFields]
  | elemsCons _ _ ih1 ih2 => simp only [DepthP, depthElems, List.length_append] at *; omega
  | kvsCons _ _ _ ih1 ih2 ih3 => simp only [DepthP, depthKVs, List.length_append] at *; omega
  | fieldsBool _ hh _ ih => simp only [DepthP, depthFields, TVal.depth, List.length_append] at *; omega
  | fieldsCons _ _ hh _ _ ih1 ih2 => simp only [DepthP, depthFields, List.length_append] at *; omega

/-- **Every admitted encoding decodes to its value** (and the rest of the input is returned). -/
theorem decode_of_encodes (v : TVal) (bs r : List UInt8) (h : Encodes v bs) :
    decode v.ty (bs ++ r) = some (v, r) := by
  have hd : v.depth ≤ bs.length := enc_depth h
  exact dec_of_enc h _ r (by simp; omega)

/-! ### the canonical encoder produces an admitted encoding -/

theorem fieldHdr_ok (last id : Int) (code : Nat) : FieldHdr last id code (fieldHdr last id code) := by
  unfold fieldHdr FieldHdr
  split
  · rename_i h; exact Or.inl ⟨h.1, h.2, rfl⟩
  · exact Or.inr rfl

theorem listHdr_ok (et : TType) (n : Nat) : ListHdr et n (listHdr et n) := by
  unfold listHdr ListHdr
  refine ⟨et.code, Or.inl rfl, ?_⟩
  split
  · rename_i h; exact Or.inl ⟨h, rfl⟩
  · exact Or.inr rfl

theorem wfElems_ty {et : TType} {xs : List TVal} (h : wfElems et xs = true) : ∀ x ∈ xs, x.ty = et := by
  induction xs with
  | nil => intro x hx; cases hx
  | cons y ys ih =>
    simp only [wfElems, Bool.and_eq_true, decide_eq_true_eq] at h
    intro x hx
    rcases List.mem_cons.mp hx with rfl | hx'
    · exact h.1.1
    · exact ih h.2 x hx'

theorem wfElems_map {α : Type} (et : TType) (tv : α → TVal) (xs : List α)
    (h : ∀ x ∈ xs, (tv x).ty = et ∧ (tv x).wf = true) : wfElems et (xs.map tv) = true := by
  induction xs with
  | nil => rfl
  | cons x r ih =>
    simp only [List.map_cons, wfElems, Bool.and_eq_true, decide_eq_true_eq]
    exact ⟨⟨(h x List.mem_cons_self).1, (h x List.mem_cons_self).2⟩, ih (fun y hy => h y (List.mem_cons_of_mem _ hy))⟩

theorem wfKVs_ty {kt vt : TType} {kvs : List (TVal × TVal)} (h : wfKVs kt vt kvs = true) :
    ∀ p ∈ kvs, p.1.ty = kt ∧ p.2.ty = vt := by
  induction kvs with
  | nil => intro x hx; cases hx
  | cons y ys ih =>
    obtain ⟨k, v⟩ := y
    simp only [wfKVs, Bool.and_eq_true, decide_eq_true_eq] at h
    intro x hx
    rcases List.mem_cons.mp hx with rfl | hx'
    · exact ⟨h.1.1.1.1, h.1.1.1.2⟩
    · exact ih h.2 x hx'

/-- what a field contributes after its header: nothing for a bool -/
def fieldBytes : TVal → List UInt8
  | .bool _ => []
  | v => encodeVal v

theorem fieldBytes_of_ne_bool {v : TVal} (h : v.ty ≠ .bool) : fieldBytes v = encodeVal v := by
  cases v <;> first | rfl | exact absurd rfl h

theorem encodeFields_cons (last id : Int) (v : TVal) (r : List (Int × TVal)) :
    encodeFields last ((id, v) :: r) = fieldHdr last id (fieldCode v) ++ fieldBytes v ++ encodeFields id r := by
  cases v <;> simp [encodeFields, fieldBytes]

mutual
theorem enc_encodeVal : ∀ v : TVal, v.wf = true → Enc (.val v) (encodeVal v)
  | .bool true, _ => by simp only [encodeVal]; exact Enc.boolT
  | .bool false, _ => by simp only [encodeVal]; exact Enc.boolF
  | .i8 v, h => by simp only [TVal.wf, decide_eq_true_eq] at h; simp only [encodeVal]; exact Enc.i8 h
  | .i16 v, h => by simp only [TVal.wf, decide_eq_true_eq] at h; simp only [encodeVal]; exact Enc.i16 h
  | .i32 v, h => by simp only [TVal.wf, decide_eq_true_eq] at h; simp only [encodeVal]; exact Enc.i32 h
  | .i64 v, h => by simp only [TVal.wf, decide_eq_true_eq] at h; simp only [encodeVal]; exact Enc.i64 h
  | .double b, h => by simp only [TVal.wf, decide_eq_true_eq] at h; simp only [encodeVal]; exact Enc.double h
  | .binary b, h => by simp only [TVal.wf, decide_eq_true_eq] at h; simp only [encodeVal]; exact Enc.binary h
  | .uuid b, h => by simp only [TVal.wf, decide_eq_true_eq] at h; simp only [encodeVal]; exact Enc.uuid h
  | .list et xs, h => by
    simp only [TVal.wf, Bool.and_eq_true, decide_eq_true_eq] at h
    simp only [encodeVal]
    exact Enc.list h.1 (wfElems_ty h.2) (listHdr_ok et xs.length) (enc_encodeElems et xs h.2)
  | .set et xs, h => by
    simp only [TVal.wf, Bool.and_eq_true, decide_eq_true_eq] at h
    simp only [encodeVal]
    exact Enc.set h.1 (wfElems_ty h.2) (listHdr_ok et xs.length) (enc_encodeElems et xs h.2)
  | .map [], _ => by simp only [encodeVal]; exact Enc.mapNil
  | .map ((k, v) :: r), h => by
    simp only [TVal.wf, Bool.and_eq_true, decide_eq_true_eq] at h
    simp only [encodeVal]
    exact Enc.mapCons h.1 (wfKVs_ty h.2) (enc_encodeKVs k.ty v.ty ((k, v) :: r) h.2)
  | .struct fs, h => by
    simp only [TVal.wf] at h
    simp only [encodeVal]
    exact Enc.struct (enc_encodeFields fs h 0)
theorem enc_encodeElems : ∀ (et : TType) (xs : List TVal), wfElems et xs = true → Enc (.elems xs) (encodeElems xs)
  | _, [], _ => by simp only [encodeElems]; exact Enc.elemsNil
  | et, x :: r, h => by
    simp only [wfElems, Bool.and_eq_true, decide_eq_true_eq] at h
    simp only [encodeElems]
    exact Enc.elemsCons (enc_encodeVal x h.1.2) (enc_encodeElems et r h.2)
theorem enc_encodeKVs : ∀ (kt vt : TType) (kvs : List (TVal × TVal)), wfKVs kt vt kvs = true →
    Enc (.kvs kvs) (encodeKVs kvs)
  | _, _, [], _ => by simp only [encodeKVs]; exact Enc.kvsNil
  | kt, vt, (k, v) :: r, h => by
    simp only [wfKVs, Bool.and_eq_true, decide_eq_true_eq] at h
    simp only [encodeKVs]
    exact Enc.kvsCons (enc_encodeVal k h.1.1.2) (enc_encodeVal v h.1.2) (enc_encodeKVs kt vt r h.2)
theorem enc_encodeFields : ∀ (fs : List (Int × TVal)), wfFields fs = true → ∀ last, Enc (.fields last fs) (encodeFields last fs)
  | [], _, last => by simp only [encodeFields]; exact Enc.fieldsNil
  | (id, v) :: r, h, last => by
    simp only [wfFields, Bool.and_eq_true, decide_eq_true_eq] at h
    rw [encodeFields_cons]
    by_cases hb : v.ty = .bool
    · obtain ⟨b, rfl⟩ : ∃ b, v = .bool b := by cases v <;> simp [TVal.ty] at hb; exact ⟨_, rfl⟩
      rw [fieldBytes, List.append_nil]
      exact Enc.fieldsBool h.1.1 (fieldHdr_ok _ _ _) (enc_encodeFields r h.2 id)
    · rw [fieldBytes_of_ne_bool hb]
      exact Enc.fieldsCons h.1.1 hb (fieldHdr_ok _ _ _) (enc_encodeVal v h.1.2) (enc_encodeFields r h.2 id)
end

/-- the canonical encoding is an admitted encoding -/
theorem encodes_encode (v : TVal) (h : v.wf = true) : Encodes v (encode v) := enc_encodeVal v h

/-- **decode inverts encode** on well-formed values -/
theorem decode_encode (v : TVal) (h : v.wf = true) (r : List UInt8) :
    decode v.ty (encode v ++ r) = some (v, r) :=
  decode_of_encodes v _ r (encodes_encode v h)

end Carquet.Proofs.Thrift
