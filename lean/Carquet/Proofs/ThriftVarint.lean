import Carquet.Spec.Thrift
import Carquet.Spec.Varint
import Carquet.Proofs.ThriftModel
/-
Varints and zigzag: the Spec's ULEB128 reader inverts its writer; carquet's `thrift_write_varint`
produces the Spec's bytes and `thrift_read_varint` reads them back; zigzag is a bijection
between int64 and uint64.
-/
namespace Carquet.Proofs.Thrift
open Carquet.Spec.Thrift
open Carquet.Impl.Thrift

/-- the decoder repositioned: `rest` left, `pos` consumed (all other fields unchanged) -/
def _root_.Carquet.Impl.Thrift.Dec.at (d : Dec) (rest : List UInt8) (pos : Nat) : Dec :=
  { d with rest := rest, pos := pos }

@[simp] theorem at_rest (d : Dec) (r p) : (d.at r p).rest = r := rfl
@[simp] theorem at_pos (d : Dec) (r p) : (d.at r p).pos = p := rfl
@[simp] theorem at_lastId (d : Dec) (r p) : (d.at r p).lastId = d.lastId := rfl
@[simp] theorem at_status (d : Dec) (r p) : (d.at r p).status = d.status := rfl
@[simp] theorem at_boolPending (d : Dec) (r p) : (d.at r p).boolPending = d.boolPending := rfl
@[simp] theorem at_boolValue (d : Dec) (r p) : (d.at r p).boolValue = d.boolValue := rfl
@[simp] theorem at_overlay (d : Dec) (r p) : (d.at r p).overlay = d.overlay := rfl
@[simp] theorem at_budget (d : Dec) (r p) : (d.at r p).budget = d.budget := rfl
@[simp] theorem at_at (d : Dec) (r p r' p') : (d.at r p).at r' p' = d.at r' p' := rfl
theorem at_self (d : Dec) : d.at d.rest d.pos = d := rfl

theorem u8_toNat (n : Nat) (h : n < 256) : (UInt8.ofNat n).toNat = n := by
  rw [UInt8.toNat_ofNat']; exact Nat.mod_eq_of_lt h

/-! ### Spec: the protocol's ULEB128 and zigzag are `Spec.Varint`'s -/

theorem ulebAux_eq : ∀ f n, ulebAux f n = Spec.Varint.encodeFuel f n
  | 0, _ => rfl
  | f + 1, n => by rw [ulebAux, Spec.Varint.encodeFuel, ulebAux_eq f]

theorem two64_lt : (2 : Nat) ^ 64 ≤ 128 ^ 10 := by decide
theorem two_pow_31 : (2 : Nat) ^ 31 = 2147483648 := by decide

theorem uleb_eq {n : Nat} (h : n < 2 ^ 64) : uleb n = Spec.Varint.encode n := by
  rw [uleb, ulebAux_eq, Spec.Varint.encodeFuel_eq_encode (Nat.lt_of_lt_of_le h two64_lt)]

theorem unuleb_eq : ∀ bs, unuleb bs = Spec.Varint.decode bs
  | [] => rfl
  | b :: bs => by
    rw [unuleb, Spec.Varint.decode, unuleb_eq bs]
    split
    · rfl
    · rw [show b.toNat % 128 = b.toNat - 128 by have := b.toNat_lt; omega]; rfl

theorem unuleb_uleb (n : Nat) (r : List UInt8) (h : n < 2 ^ 64) : unuleb (uleb n ++ r) = some (n, r) := by
  rw [uleb_eq h, unuleb_eq, Spec.Varint.decode_encode_append]

theorem uleb_length_pos (n : Nat) : 0 < (uleb n).length :=
  List.length_pos_iff.mpr (by rw [uleb, ulebAux_eq]; exact Spec.Varint.encodeFuel_ne_nil 9 n)

theorem uleb_length_le (n : Nat) : (uleb n).length ≤ 10 := by
  rw [uleb, ulebAux_eq]; exact Spec.Varint.encodeFuel_length_le 9 n

theorem zigzag_eq (v : Int) : zigzag v = Spec.Varint.zigzag v := by
  unfold zigzag Spec.Varint.zigzag; split <;> omega

theorem unzigzag_eq (n : Nat) : unzigzag n = Spec.Varint.unzigzag n := rfl

theorem unzigzag_zigzag (v : Int) : unzigzag (zigzag v) = v := by
  rw [unzigzag_eq, zigzag_eq, Spec.Varint.unzigzag_zigzag]

theorem zigzag_lt (v : Int) (h : inI64 v) : zigzag v < 2 ^ 64 := by
  unfold inI64 at h
  unfold zigzag
  split <;> omega

theorem zigzagEnc_eq (v : Int) : zigzagEnc v = zigzag v := by
  unfold zigzagEnc zigzag
  split <;> congr 1 <;> omega

theorem zigzagDec_eq (n : Nat) : zigzagDec n = unzigzag n := by
  unfold zigzagDec unzigzag
  split <;> omega

theorem zigzagDec_zigzag (v : Int) : zigzagDec (zigzag v) = v := by
  rw [zigzagDec_eq, unzigzag_zigzag]

/-! ### Impl: the written varint is the Spec's, and is read back -/

theorem varintLoop_eq (f : Nat) : ∀ n, varintLoop f n = ulebAux f n := by
  induction f with
  | zero => intro n; rfl
  | succ f ih =>
    intro n
    unfold varintLoop ulebAux
    by_cases h : n < 128
    · have : ¬ 128 ≤ n := by omega
      simp [h, this]
    · have : 128 ≤ n := by omega
      simp [h, this, ih]

theorem varintBytes_eq (n : Nat) : varintBytes n = uleb n := varintLoop_eq 9 n

/-- `thrift_read_varint` on any ULEB128 number of at most `k` bytes: the sum is not reduced before the end, so the
result is the number modulo 2^64 whatever its size -/
theorem readVarintLoop_decode : ∀ (bs : List UInt8) (k shift acc v : Nat) (d : Dec) (r : List UInt8),
    d.rest = bs → Spec.Varint.decode bs = some (v, r) → bs.length - r.length ≤ k →
    readVarintLoop k shift acc d
      = ((acc + v * 2 ^ shift) % 18446744073709551616, d.at r (d.pos + (bs.length - r.length)))
  | [], _, _, _, _, _, _, _, h, _ => by simp [Spec.Varint.decode] at h
  | b :: tl, k, shift, acc, v, d, r, hr, hdec, hk => by
    have hlen := Spec.Varint.decode_rest_length hdec
    rw [List.length_cons] at hlen hk ⊢
    obtain ⟨k, rfl⟩ : ∃ k', k = k' + 1 := ⟨k - 1, by omega⟩
    rw [Spec.Varint.decode] at hdec
    simp only [readVarintLoop, hr]
    split at hdec
    · rename_i hb
      cases hdec
      rw [if_pos hb, Nat.add_sub_cancel_left]; rfl
    · rename_i hb
      split at hdec
      · cases hdec
      · rename_i v' r' heq
        cases hdec
        have hlen' := Spec.Varint.decode_rest_length heq
        have hexp : (b.toNat - 128 + 128 * v') * 2 ^ shift = b.toNat % 128 * 2 ^ shift + v' * 2 ^ (shift + 7) := by
          rw [show b.toNat % 128 = b.toNat - 128 by have := b.toNat_lt; omega, Nat.add_mul, Nat.pow_add,
            Nat.mul_comm 128 v', Nat.mul_assoc, Nat.mul_comm 128]
        rw [if_neg hb, readVarintLoop_decode tl k (shift + 7) _ v' _ r rfl heq (by omega), hexp, Nat.add_assoc]
        congr 1
        show Dec.at _ r _ = _
        unfold Dec.at
        simp only [Dec.mk.injEq, true_and, and_true]
        omega

/-- `thrift_read_varint` reads back what `thrift_write_varint` wrote, consuming exactly it -/
theorem readVarint_uleb (n : Nat) (h : n < 2 ^ 64) (d : Dec) (r : List UInt8) (hr : d.rest = uleb n ++ r) :
    readVarint d = (n, d.at r (d.pos + (uleb n).length)) := by
  rw [readVarint, readVarintLoop_decode _ 10 0 0 n d r hr (by rw [uleb_eq h, Spec.Varint.decode_encode_append])
    (by rw [List.length_append, Nat.add_sub_cancel]; exact uleb_length_le n),
    List.length_append, Nat.add_sub_cancel, Nat.pow_zero, Nat.mul_one, Nat.zero_add]
  exact congrArg (·, _) (Nat.mod_eq_of_lt h)

theorem readZigzag_zigzag (v : Int) (h : inI64 v) (d : Dec) (r : List UInt8)
    (hr : d.rest = uleb (zigzag v) ++ r) :
    readZigzag d = (v, d.at r (d.pos + (uleb (zigzag v)).length)) := by
  unfold readZigzag
  rw [readVarint_uleb _ (zigzag_lt v h) d r hr, zigzagDec_zigzag]

theorem toI16_id (v : Int) (h : inI16 v) : toI16 v = v := by unfold inI16 at h; unfold toI16; omega
theorem toI32_id (v : Int) (h : inI32 v) : toI32 v = v := by unfold inI32 at h; unfold toI32; omega
theorem toI64_id (v : Int) (h : inI64 v) : toI64 v = v := by unfold inI64 at h; unfold toI64; omega
theorem toI8_id (v : Int) (h : inI8 v) : toI8 v = v := by unfold inI8 at h; unfold toI8; omega

theorem inI64_of_inI32 {v : Int} (h : inI32 v) : inI64 v := by unfold inI32 at h; unfold inI64; omega
theorem inI64_of_inI16 {v : Int} (h : inI16 v) : inI64 v := by unfold inI16 at h; unfold inI64; omega

end Carquet.Proofs.Thrift
