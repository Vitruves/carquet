import Carquet.Proofs.CursorBasic
import Carquet.Proofs.CursorFuel
/-
C02, column reader: the abstraction (`Inv`, `pending`), the simulation relation `Rep c P r` built on it
("reader `r` of chunk `c` still has to deliver exactly the rows `P`"), and what `carquet_read_next_page` and
`carquet_column_read_batch` do to it.  Every operation lemma of the cursor modules has one shape:
from `Rep c P r` the call returns `(r', out)` with `Rep c (P.drop n) r'`, and `out` shows `P.take n`.
-/
namespace Carquet.Proofs.Cursor
open Carquet.Spec.Cursor (Row Op)
open Carquet.Impl.ColumnReader

/-! ### valid chunks -/

/-- A decoded page of a valid file: one repetition level per row, as many values as rows at the
maximum definition level, no level above the maximum.  A page may be EMPTY (no rows; F63). -/
def PageOk (maxDef : Nat) (p : Page α) : Prop :=
  p.reps.length = p.defs.length ∧ p.vals.length = nn maxDef p.defs ∧ ∀ d ∈ p.defs, d ≤ maxDef

def rowsOfPage (maxDef : Nat) (p : Page α) : List (Row α) := pageRows maxDef p.defs p.reps p.vals

def rowsOfPages (maxDef : Nat) : List (Option (Page α)) → List (Row α)
  | [] => []
  | some p :: ps => rowsOfPage maxDef p ++ rowsOfPages maxDef ps
  | none :: ps => rowsOfPages maxDef ps

/-- The rows of a chunk: concatenation of the rows of its pages. -/
def chunkRows (c : Chunk α) : List (Row α) := rowsOfPages c.maxDef c.pages

/-- A chunk of a valid file: every page loads and is well formed, and the metadata's `num_values`
is the number of rows. -/
def ChunkOk (c : Chunk α) : Prop :=
  (∀ p ∈ c.pages, ∃ q, p = some q ∧ PageOk c.maxDef q) ∧ c.numValues = (chunkRows c).length

/-- the rows of well-formed pages carry the pages' levels and values, concatenated -/
theorem rowsOfPages_content (maxDef : Nat) : ∀ (qs : List (Page α)), (∀ q ∈ qs, PageOk maxDef q) →
    (rowsOfPages maxDef (qs.map some)).map (·.defLevel) = (qs.map (·.defs)).flatten ∧
    (rowsOfPages maxDef (qs.map some)).map (·.repLevel) = (qs.map (·.reps)).flatten ∧
    (rowsOfPages maxDef (qs.map some)).filterMap (·.val) = (qs.map (·.vals)).flatten
  | [], _ => ⟨rfl, rfl, rfl⟩
  | q :: qs, h => by
    obtain ⟨hr, hv, _⟩ := h q (by simp)
    obtain ⟨i1, i2, i3⟩ := rowsOfPages_content maxDef qs (fun x hx => h x (by simp [hx]))
    have hl : q.defs.length ≤ q.reps.length := by rw [hr]; exact Nat.le_refl _
    simp only [List.map_cons, rowsOfPages, List.map_append, List.filterMap_append, List.flatten_cons, i1, i2, i3, rowsOfPage]
    rw [map_def_pageRows _ _ _ _ hl, map_rep_pageRows _ _ _ _ hl,
      filterMap_val_pageRows _ _ _ _ hl (by rw [hv]; exact Nat.le_refl _), ← hr, List.take_length, ← hv, List.take_length]
    exact ⟨rfl, rfl, rfl⟩

/-! ### field lemmas for the state updates -/

section fields
variable (fx : Fixes) (r : Reader α) (p : Page α) (n : Nat)

@[simp] theorem installPage_chunk : (installPage fx r p).chunk = r.chunk := by simp [installPage]
@[simp] theorem installPage_valuesRemaining : (installPage fx r p).valuesRemaining = r.valuesRemaining := by
  simp [installPage]
@[simp] theorem installPage_currentPage : (installPage fx r p).currentPage = r.currentPage := by simp [installPage]
@[simp] theorem installPage_pageLoaded : (installPage fx r p).pageLoaded = true := rfl
@[simp] theorem installPage_pageNumValues : (installPage fx r p).pageNumValues = p.defs.length := rfl
@[simp] theorem installPage_pageValuesRead : (installPage fx r p).pageValuesRead = 0 := rfl
@[simp] theorem installPage_pageNonNullRead : (installPage fx r p).pageNonNullRead = 0 := rfl
@[simp] theorem installPage_decodedDefs : (installPage fx r p).decodedDefs = p.defs := rfl
@[simp] theorem installPage_decodedReps : (installPage fx r p).decodedReps = p.reps := rfl
@[simp] theorem installPage_decodedVals : (installPage fx r p).decodedVals = p.vals := rfl
@[simp] theorem installPage_ownershipView : (installPage fx r p).ownershipView = r.chunk.view := rfl

@[simp] theorem advance_valuesRemaining : (advance r).valuesRemaining = r.valuesRemaining := by
  unfold advance; split <;> rfl
@[simp] theorem advance_pageLoaded : (advance r).pageLoaded = false := by
  unfold advance; split
  · rfl
  · rename_i h; simpa using h

@[simp] theorem consume_chunk : (consume fx r n).chunk = r.chunk := rfl
@[simp] theorem consume_pageLoaded : (consume fx r n).pageLoaded = r.pageLoaded := rfl
@[simp] theorem consume_currentPage : (consume fx r n).currentPage = r.currentPage := rfl
@[simp] theorem consume_pageNumValues : (consume fx r n).pageNumValues = r.pageNumValues := rfl
@[simp] theorem consume_pageValuesRead : (consume fx r n).pageValuesRead = r.pageValuesRead + n := rfl
@[simp] theorem consume_pageNonNullRead :
    (consume fx r n).pageNonNullRead = r.pageNonNullRead + copyCount fx r n := rfl
@[simp] theorem consume_valuesRemaining : (consume fx r n).valuesRemaining = r.valuesRemaining - n := rfl
@[simp] theorem consume_decodedDefs : (consume fx r n).decodedDefs = r.decodedDefs := rfl
@[simp] theorem consume_decodedReps : (consume fx r n).decodedReps = r.decodedReps := rfl
@[simp] theorem consume_decodedVals : (consume fx r n).decodedVals = r.decodedVals := rfl
@[simp] theorem consume_ownershipView : (consume fx r n).ownershipView = r.ownershipView := rfl

theorem releaseRetired_eq : releaseRetired fx r =
    { r with freed := (releaseRetired fx r).freed, retired := (releaseRetired fx r).retired } := by
  unfold releaseRetired; split <;> rfl
@[simp] theorem releaseRetired_chunk : (releaseRetired fx r).chunk = r.chunk := by
  rw [releaseRetired_eq]
@[simp] theorem releaseRetired_ownershipView : (releaseRetired fx r).ownershipView = r.ownershipView := by
  unfold releaseRetired; split <;> rfl

end fields

/-! ### the abstraction -/

/-- Unread rows of the loaded page. -/
def curRows (r : Reader α) : List (Row α) :=
  pageRows r.chunk.maxDef (r.decodedDefs.drop r.pageValuesRead) (r.decodedReps.drop r.pageValuesRead)
    (r.decodedVals.drop r.pageNonNullRead)

/-- Rows the reader has not delivered yet: rest of the loaded page, then the pages behind it. -/
def pending (r : Reader α) : List (Row α) :=
  if r.pageLoaded then curRows r ++ rowsOfPages r.chunk.maxDef (r.chunk.pages.drop (r.currentPage + 1))
  else rowsOfPages r.chunk.maxDef (r.chunk.pages.drop r.currentPage)

/-- Representation invariant of a column reader over a valid chunk. -/
structure Inv (r : Reader α) : Prop where
  pagesOk : ∀ p ∈ r.chunk.pages, ∃ q, p = some q ∧ PageOk r.chunk.maxDef q
  rem : r.valuesRemaining = (pending r).length
  numVals : r.pageLoaded = true → r.pageNumValues = r.decodedDefs.length
  readLe : r.pageLoaded = true → r.pageValuesRead ≤ r.pageNumValues
  repsLen : r.pageLoaded = true → r.decodedReps.length = r.decodedDefs.length
  nnLe : r.pageLoaded = true → r.pageNonNullRead ≤ r.decodedVals.length
  valsLen : r.pageLoaded = true →
    r.decodedVals.length - r.pageNonNullRead = nn r.chunk.maxDef (r.decodedDefs.drop r.pageValuesRead)
  defsLe : r.pageLoaded = true → ∀ d ∈ r.decodedDefs, d ≤ r.chunk.maxDef
  nnEq : r.pageLoaded = true → r.pageNonNullRead = nn r.chunk.maxDef (r.decodedDefs.take r.pageValuesRead)

theorem pending_getColumn (c : Chunk α) : pending (getColumn c) = chunkRows c := by
  simp [pending, getColumn, chunkRows]

theorem inv_getColumn (c : Chunk α) (h : ChunkOk c) : Inv (getColumn c) := by
  refine ⟨h.1, ?_, ?_, ?_, ?_, ?_, ?_, ?_, ?_⟩
  · rw [pending_getColumn]; exact h.2
  all_goals (intro hl; simp [getColumn] at hl)

theorem pending_releaseRetired (fx : Fixes) (r : Reader α) : pending (releaseRetired fx r) = pending r := by
  rw [releaseRetired_eq]; rfl

theorem inv_releaseRetired (fx : Fixes) (r : Reader α) (h : Inv r) : Inv (releaseRetired fx r) := by
  rw [releaseRetired_eq]
  exact ⟨h.pagesOk, h.rem, h.numVals, h.readLe, h.repsLen, h.nnLe, h.valsLen, h.defsLe, h.nnEq⟩

/-- `r` is a column reader of chunk `c` that still has to deliver exactly the rows `P`, in this order.  It is the
simulation relation towards the index cursor of `Spec.Cursor` (`P` = the chunk's rows from the position on) and
towards the batch machine `absNext` (`P` = one entry of the open row group): a call that delivers `n` rows takes
`Rep c P r` to `Rep c (P.drop n) r'`. -/
structure Rep (c : Chunk α) (P : List (Row α)) (r : Reader α) : Prop where
  inv : Inv r
  chunk : r.chunk = c
  pend : pending r = P

theorem rep_getColumn (c : Chunk α) (h : ChunkOk c) : Rep c (chunkRows c) (getColumn c) :=
  ⟨inv_getColumn c h, rfl, pending_getColumn c⟩

theorem Rep.release (fx : Fixes) {c : Chunk α} {P : List (Row α)} {r : Reader α} (h : Rep c P r) :
    Rep c P (releaseRetired fx r) :=
  ⟨inv_releaseRetired fx r h.inv, (releaseRetired_chunk fx r).trans h.chunk, (pending_releaseRetired fx r).trans h.pend⟩

theorem Rep.rem {c : Chunk α} {P : List (Row α)} {r : Reader α} (h : Rep c P r) : r.valuesRemaining = P.length :=
  h.pend ▸ h.inv.rem

theorem Rep.ne_nil {c : Chunk α} {P : List (Row α)} {r : Reader α} (h : Rep c P r) (hpos : r.valuesRemaining > 0) :
    P ≠ [] := by
  intro he; have := h.rem; rw [he, List.length_nil] at this; omega

theorem nn_zero_of_le (ds : List Nat) (h : ∀ d ∈ ds, d ≤ 0) : nn 0 ds = ds.length := by
  induction ds with
  | nil => simp [nn]
  | cons d ds ih =>
    have hd : d = 0 := by have := h d (by simp); omega
    rw [nn_cons, ih (fun x hx => h x (by simp [hx]))]
    simp [hd]; omega

theorem nn_take_add_drop (maxDef : Nat) (ds : List Nat) (n : Nat) :
    nn maxDef (ds.take n) + nn maxDef (ds.drop n) = nn maxDef ds := by
  rw [← nn_append, List.take_append_drop]

theorem map_some_def (l : List (Row α)) :
    l.map (fun row => some row.defLevel) = (l.map (·.defLevel)).map some := by simp
theorem map_some_rep (l : List (Row α)) :
    l.map (fun row => some row.repLevel) = (l.map (·.repLevel)).map some := by simp

theorem pending_consume (fx : Fixes) (r : Reader α) (n : Nat) (hl : r.pageLoaded = true) :
    pending (consume fx r n) =
      pageRows r.chunk.maxDef (r.decodedDefs.drop (r.pageValuesRead + n)) (r.decodedReps.drop (r.pageValuesRead + n))
        (r.decodedVals.drop (r.pageNonNullRead + copyCount fx r n)) ++
      rowsOfPages r.chunk.maxDef (r.chunk.pages.drop (r.currentPage + 1)) := by
  unfold pending
  rw [consume_pageLoaded, hl]
  rfl

@[simp] theorem installEmpty_chunk (r : Reader α) : (installEmpty r).chunk = r.chunk := rfl
@[simp] theorem installEmpty_valuesRemaining (r : Reader α) : (installEmpty r).valuesRemaining = r.valuesRemaining := rfl
@[simp] theorem installEmpty_currentPage (r : Reader α) : (installEmpty r).currentPage = r.currentPage := rfl
@[simp] theorem installEmpty_pageLoaded (r : Reader α) : (installEmpty r).pageLoaded = true := rfl

theorem rowsOfPage_empty (maxDef : Nat) (q : Page α) (h : q.defs.length = 0) : rowsOfPage maxDef q = [] := by
  unfold rowsOfPage
  rw [List.eq_nil_of_length_eq_zero h, pageRows_nil_defs]

/-- the rows from page index `i` on: those of page `i`, then the rest -/
theorem rowsOfPages_drop (maxDef : Nat) (ps : List (Option (Page α))) (i : Nat) (q : Page α) (h : ps[i]? = some (some q)) :
    rowsOfPages maxDef (ps.drop i) = rowsOfPage maxDef q ++ rowsOfPages maxDef (ps.drop (i + 1)) := by
  obtain ⟨hi, he⟩ := List.getElem?_eq_some_iff.mp h
  rw [List.drop_eq_getElem_cons hi, he]; rfl

theorem loadNextPage_eq (fx : Fixes) (r : Reader α) (q : Page α) (hget : r.chunk.pages[r.currentPage]? = some (some q))
    (hfits : ¬ (q.defs.length : Int) > r.valuesRemaining) :
    loadNextPage fx r = .ok (if fx.f63 = true ∧ q.defs.length = 0 then installEmpty r else installPage fx r q) := by
  simp only [loadNextPage, hget, hfits, if_false]
  split <;> rfl

/-- a freshly installed page of a valid chunk: the rows from its index on are still to deliver -/
theorem rep_installPage (fx : Fixes) (r : Reader α) (q : Page α)
    (hpages : ∀ p ∈ r.chunk.pages, ∃ q, p = some q ∧ PageOk r.chunk.maxDef q)
    (hget : r.chunk.pages[r.currentPage]? = some (some q))
    (hrem : r.valuesRemaining = (rowsOfPages r.chunk.maxDef (r.chunk.pages.drop r.currentPage)).length) :
    Rep r.chunk (rowsOfPages r.chunk.maxDef (r.chunk.pages.drop r.currentPage)) (installPage fx r q) := by
  have hq : PageOk r.chunk.maxDef q := by
    obtain ⟨q', h1, h2⟩ := hpages _ (List.mem_of_getElem? hget)
    cases h1; exact h2
  have hpend : pending (installPage fx r q) = rowsOfPages r.chunk.maxDef (r.chunk.pages.drop r.currentPage) := by
    rw [rowsOfPages_drop _ _ _ _ hget]
    simp [pending, curRows, rowsOfPage]
  refine ⟨⟨by simpa using hpages, by rw [hpend]; simpa using hrem, ?_, ?_, ?_, ?_, ?_, ?_, ?_⟩, installPage_chunk fx r q, hpend⟩
  · intro _; simp
  · intro _; simp
  · intro _; simpa using hq.1
  · intro _; simp
  · intro _; simpa using hq.2.1
  · intro _; simpa using hq.2.2
  · intro _; simp [nn]

/-- The page-load loop over a valid chunk, started in ANY state that needs a load (also the
intermediate state after an empty page, whose decoded buffers are stale): when rows are left in the
pages from the next index on, the loop steps over the empty pages and loads the first page with
rows; nothing is delivered. -/
theorem prepareLoop_ok : ∀ (fuel : Nat) (r : Reader α),
    (∀ p ∈ r.chunk.pages, ∃ q, p = some q ∧ PageOk r.chunk.maxDef q) →
    needLoad r = true →
    r.valuesRemaining = (rowsOfPages r.chunk.maxDef (r.chunk.pages.drop (advance r).currentPage)).length →
    rowsOfPages r.chunk.maxDef (r.chunk.pages.drop (advance r).currentPage) ≠ [] →
    r.chunk.pages.length - (advance r).currentPage < fuel →
    ∃ r1, prepareLoop Fixes.all fuel r = (r1, none) ∧
      Rep r.chunk (rowsOfPages r.chunk.maxDef (r.chunk.pages.drop (advance r).currentPage)) r1 ∧
      r1.pageLoaded = true ∧ r1.pageValuesRead < r1.pageNumValues := by
  intro fuel
  induction fuel with
  | zero => intro r _ _ _ _ hf; omega
  | succ fuel ih =>
    intro r hpages hn hrem hne hf
    -- the page at the position behind `advance r`
    have hlt : (advance r).currentPage < r.chunk.pages.length := by
      refine Nat.lt_of_not_le fun hle => hne ?_
      rw [List.drop_eq_nil_iff.mpr hle]; rfl
    obtain ⟨q, hq, hqok⟩ := hpages _ (List.getElem_mem hlt)
    have hget : (advance r).chunk.pages[(advance r).currentPage]? = some (some q) := by
      rw [advance_chunk, List.getElem?_eq_getElem hlt, hq]
    have hsplit := rowsOfPages_drop r.chunk.maxDef _ _ _ (advance_chunk r ▸ hget)
    have hfits : ¬ ((q.defs.length : Int) > (advance r).valuesRemaining) := by
      have h1 := congrArg List.length hsplit
      rw [List.length_append, rowsOfPage, length_pageRows _ _ _ _ (Nat.le_of_eq hqok.1.symm)] at h1
      rw [advance_valuesRemaining, hrem]; omega
    unfold prepareLoop
    simp only [hn, if_true, loadNextPage_eq _ _ q hget hfits, show Fixes.all.f63 = true from rfl, true_and]
    by_cases he : q.defs.length = 0
    · -- an empty page: stepped over
      rw [if_pos he]
      have hadv : (advance (installEmpty (advance r))).currentPage = (advance r).currentPage + 1 := by
        rw [advance_currentPage, installEmpty_pageLoaded]; rfl
      rw [rowsOfPage_empty _ q he, List.nil_append] at hsplit
      have := ih (installEmpty (advance r)) (by simpa using hpages) (by simp [needLoad, installEmpty])
      rw [hadv] at this
      simp only [installEmpty_chunk, installEmpty_valuesRemaining, advance_chunk, advance_valuesRemaining, ← hsplit] at this
      exact this hrem hne (by omega)
    · -- a page with rows: loaded, the loop ends
      rw [if_neg he]
      obtain ⟨f, rfl⟩ : ∃ f, fuel = f + 1 := ⟨fuel - 1, by omega⟩
      have hnl : needLoad (installPage Fixes.all (advance r) q) = false := by
        have hge : ¬ (0 ≥ q.defs.length) := by omega
        simp [needLoad, hge]
      unfold prepareLoop
      simp only [hnl, Bool.false_eq_true, if_false]
      have := rep_installPage Fixes.all (advance r) q (by simpa using hpages) hget (by simpa using hrem)
      rw [advance_chunk] at this
      exact ⟨_, rfl, this, rfl, Nat.pos_of_ne_zero he⟩

/-- `carquet_read_next_page`, first half: over a valid chunk with rows left a page with unread rows
gets loaded (or already is) — empty pages on the way are stepped over; nothing is delivered. -/
theorem preparePage_ok {c : Chunk α} {P : List (Row α)} {r : Reader α} (h : Rep c P r) (hne : P ≠ []) :
    ∃ r1, preparePage Fixes.all r = (r1, none) ∧ Rep c P r1 ∧
      r1.pageLoaded = true ∧ r1.pageValuesRead < r1.pageNumValues := by
  obtain ⟨h, rfl, rfl⟩ := h
  unfold preparePage
  by_cases hn : needLoad r = true
  · -- the rows left all lie in pages behind `advance r`
    have hp : pending r = rowsOfPages r.chunk.maxDef (r.chunk.pages.drop (advance r).currentPage) := by
      rw [advance_currentPage]
      unfold pending
      by_cases hl : r.pageLoaded = true
      · simp only [hl, if_true]
        have hge : r.pageValuesRead ≥ r.pageNumValues := by
          simpa [needLoad, hl] using hn
        have : curRows r = [] := by
          unfold curRows
          have : r.decodedDefs.drop r.pageValuesRead = [] := by
            rw [List.drop_eq_nil_iff, ← h.numVals hl]; exact hge
          rw [this, pageRows_nil_defs]
        simp [this]
      · simp [hl]
    rw [hp] at hne ⊢
    exact prepareLoop_ok (r.chunk.pages.length + 1) r h.pagesOk hn (hp ▸ h.rem) hne (by omega)
  · have hn' : needLoad r = false := by simpa using hn
    unfold prepareLoop
    simp only [hn', Bool.false_eq_true, if_false]
    have hl : r.pageLoaded = true := by
      cases hpl : r.pageLoaded with
      | true => rfl
      | false => simp [needLoad, hpl] at hn'
    have hlt : r.pageValuesRead < r.pageNumValues := by
      simpa [needLoad, hl] using hn'
    exact ⟨r, rfl, ⟨h, rfl, rfl⟩, hl, hlt⟩

theorem toInt32_of_small (m : Nat) (h : m < 2147483648) : toInt32 (m : Int) = m := by
  unfold toInt32; omega

theorem le_and_sub_of_split {v k s c t : Nat} (hV : v - k = s) (hs : c + t = s) (hk : k ≤ v) :
    k + c ≤ v ∧ v - (k + c) = t := by
  omega

/-- Consuming `n` more rows of the loaded page: the three `memcpy`s hand out the next `n` pending rows
(levels per row, values dense) and the state update keeps the invariant. -/
theorem consume_ok {c : Chunk α} {P : List (Row α)} {r : Reader α} (h : Rep c P r) (hl : r.pageLoaded = true) (n : Nat)
    (hn : r.pageValuesRead + n ≤ r.pageNumValues) :
    Rep c (P.drop n) (consume Fixes.all r n) ∧ n ≤ P.length ∧
      (pageCopy Fixes.all r n).defs = (P.take n).map (fun row => some row.defLevel) ∧
      (pageCopy Fixes.all r n).reps = (P.take n).map (fun row => some row.repLevel) ∧
      (pageCopy Fixes.all r n).vals = ((P.take n).filterMap (·.val)).map some ∧
      (pageCopy Fixes.all r n).nonNull = ((P.take n).filterMap (·.val)).length := by
  obtain ⟨h, rfl, rfl⟩ := h
  have hN := h.numVals hl
  have hR := h.repsLen hl
  have hV := h.valsLen hl
  have hnnLe := h.nnLe hl
  have hdefsLe := h.defsLe hl
  have hnle : r.pageValuesRead + n ≤ r.decodedDefs.length := hN ▸ hn
  -- the rows left in the page, cut after `n`
  have hnsub : n ≤ r.decodedDefs.length - r.pageValuesRead := Nat.le_sub_of_add_le' hnle
  have hlenD : ((r.decodedDefs.drop r.pageValuesRead).take n).length = n := by
    rw [List.length_take, List.length_drop, Nat.min_eq_left hnsub]
  have hlenR : ((r.decodedReps.drop r.pageValuesRead).take n).length = n := by
    rw [List.length_take, List.length_drop, hR, Nat.min_eq_left hnsub]
  have hcurlen : (curRows r).length = r.decodedDefs.length - r.pageValuesRead := by
    rw [curRows, length_pageRows _ _ _ _ (by rw [List.length_drop, List.length_drop, hR]; exact Nat.le_refl _),
      List.length_drop]
  have hncur : n ≤ (curRows r).length := hcurlen ▸ hnsub
  have hpend : pending r = curRows r ++ rowsOfPages r.chunk.maxDef (r.chunk.pages.drop (r.currentPage + 1)) := by
    rw [pending, if_pos hl]
  -- number of values copied
  have hcnt : copyCount Fixes.all r n = nn r.chunk.maxDef ((r.decodedDefs.drop r.pageValuesRead).take n) := by
    simp only [copyCount, Fixes.all, if_true, nonNullIn]
    split
    · rfl
    · rename_i hz
      rw [Nat.eq_zero_of_not_pos hz, nn_zero_of_le, hlenD]
      intro d hd
      exact Nat.eq_zero_of_not_pos hz ▸ hdefsLe d (List.mem_of_mem_drop (List.mem_of_mem_take hd))
  have hsplit := nn_take_add_drop r.chunk.maxDef (r.decodedDefs.drop r.pageValuesRead) n
  generalize hcntdef : nn r.chunk.maxDef ((r.decodedDefs.drop r.pageValuesRead).take n) = cnt at hcnt hsplit
  obtain ⟨hcntV, hrest⟩ := le_and_sub_of_split hV hsplit hnnLe
  have htake : (pending r).take n =
      pageRows r.chunk.maxDef ((r.decodedDefs.drop r.pageValuesRead).take n)
        ((r.decodedReps.drop r.pageValuesRead).take n) ((r.decodedVals.drop r.pageNonNullRead).take cnt) := by
    rw [hpend, List.take_append_of_le_length hncur, curRows, pageRows_take, hcntdef]
  have hvals : ((pending r).take n).filterMap (·.val) = (r.decodedVals.drop r.pageNonNullRead).take cnt := by
    rw [htake, filterMap_val_pageRows _ _ _ _ (by rw [hlenD, hlenR]; exact Nat.le_refl _)
      (by rw [hcntdef, List.length_take, List.length_drop]; omega), hcntdef, List.take_take, Nat.min_self]
  have hlen : n ≤ (pending r).length := by
    rw [hpend, List.length_append]; exact Nat.le_trans hncur (Nat.le_add_right _ _)
  have hpendC : pending (consume Fixes.all r n) = (pending r).drop n := by
    rw [pending_consume _ _ _ hl, hcnt, hpend, List.drop_append_of_le_length hncur, curRows, pageRows_drop, hcntdef,
      List.drop_drop, List.drop_drop, List.drop_drop]
  refine ⟨⟨⟨h.pagesOk, ?_, ?_, ?_, ?_, ?_, ?_, ?_, ?_⟩, rfl, hpendC⟩, hlen, ?_, ?_, ?_, ?_⟩
  · rw [hpendC, List.length_drop, Int.ofNat_sub hlen, ← h.rem]; rfl
  · intro _; exact hN
  · intro _; exact hn
  · intro _; exact hR
  · intro _; rw [consume_pageNonNullRead, hcnt]; exact hcntV
  · intro _
    show r.decodedVals.length - (r.pageNonNullRead + copyCount Fixes.all r n) =
      nn r.chunk.maxDef (r.decodedDefs.drop (r.pageValuesRead + n))
    rw [hcnt, ← List.drop_drop]
    exact hrest
  · intro _; exact hdefsLe
  · intro _
    show r.pageNonNullRead + copyCount Fixes.all r n = nn r.chunk.maxDef (r.decodedDefs.take (r.pageValuesRead + n))
    rw [hcnt, List.take_add, nn_append, ← h.nnEq hl, hcntdef]
  · show srcSlice r.decodedDefs r.pageValuesRead n = _
    rw [srcSlice_eq _ _ _ hnle, htake, map_some_def, map_def_pageRows _ _ _ _ (by rw [hlenD, hlenR]; exact Nat.le_refl _)]
  · show srcSlice r.decodedReps r.pageValuesRead n = _
    rw [srcSlice_eq _ _ _ (hR ▸ hnle), htake, map_some_rep,
      map_rep_pageRows _ _ _ _ (by rw [hlenD, hlenR]; exact Nat.le_refl _), hlenD, List.take_take, Nat.min_self]
  · show srcSlice r.decodedVals r.pageNonNullRead (copyCount Fixes.all r n) = _
    rw [hcnt, srcSlice_eq _ _ _ hcntV, hvals]
  · show copyCount Fixes.all r n = _
    rw [hcnt, hvals, List.length_take, List.length_drop, Nat.min_eq_left (Nat.le_sub_of_add_le' hcntV)]

/-- What one `carquet_read_next_page` call does over a valid chunk with rows left:
it delivers a non-empty prefix of the pending rows (at most `m`), levels per row and values dense. -/
theorem readNextPage_ok {ch : Chunk α} {P : List (Row α)} {r : Reader α} (h : Rep ch P r) (hne : P ≠ []) (m : Nat)
    (hm : 0 < m) (hm2 : m < 2147483648) :
    ∃ r' c, readNextPage Fixes.all r (m : Int) = (r', .ok c) ∧ Rep ch (P.drop c.rows) r' ∧
      1 ≤ c.rows ∧ c.rows ≤ m ∧ c.rows ≤ P.length ∧
      c.defs = (P.take c.rows).map (fun row => some row.defLevel) ∧
      c.reps = (P.take c.rows).map (fun row => some row.repLevel) ∧
      c.vals = ((P.take c.rows).filterMap (·.val)).map some ∧
      c.nonNull = ((P.take c.rows).filterMap (·.val)).length := by
  obtain ⟨r1, hprep, hrep1, hl, hlt⟩ := preparePage_ok h hne
  have hcopy : toCopyOf r1 (m : Int) = ((min m (r1.pageNumValues - r1.pageValuesRead) : Nat) : Int) := by
    unfold toCopyOf available
    rw [toInt32_of_small m hm2]
    split <;> omega
  have hnpos : 1 ≤ min m (r1.pageNumValues - r1.pageValuesRead) := Nat.le_min.mpr ⟨hm, Nat.sub_pos_of_lt hlt⟩
  have hnm := Nat.min_le_left m (r1.pageNumValues - r1.pageValuesRead)
  have hnav := Nat.min_le_right m (r1.pageNumValues - r1.pageValuesRead)
  generalize min m (r1.pageNumValues - r1.pageValuesRead) = n at hcopy hnpos hnm hnav
  obtain ⟨hrep', hlen, hd, hr, hv, hnn⟩ := consume_ok hrep1 hl n (by omega)
  refine ⟨consume Fixes.all r1 n, pageCopy Fixes.all r1 n, ?_, hrep', hnpos, hnm, hlen, hd, hr, hv, hnn⟩
  rw [readNextPage, hprep]
  simp only [hcopy, Int.toNat_natCast]
  rw [if_neg (Int.not_lt.mpr (Int.natCast_nonneg n))]

/-! ### carquet_column_read_batch -/

/-- The loop variables describe "the rows `del` have been delivered into `k`-slot arrays". -/
structure StOk (wd wr : Bool) (k : Nat) (st : LoopSt α) (del : List (Row α)) : Prop where
  tr : st.totalRead = del.length
  tn : st.totalNonNull = (del.filterMap (·.val)).length
  defs : st.defs = if wd then fill (del.map (·.defLevel)) k else []
  reps : st.reps = if wr then fill (del.map (·.repLevel)) k else []
  vals : st.vals = fill (del.filterMap (·.val)) k
  rowDefs : st.rowDefs = del.map (fun row => some row.defLevel)

theorem stOk_init (wd wr : Bool) (k : Nat) : StOk (α := α) wd wr k (LoopSt.init wd wr k) [] := by
  refine ⟨rfl, rfl, ?_, ?_, ?_, rfl⟩
  · simp only [LoopSt.init]; split <;> simp [fill]
  · simp only [LoopSt.init]; split <;> simp [fill]
  · simp [LoopSt.init, fill]

theorem readLoop_ok (wd wr : Bool) (k : Nat) (hk : k < 2147483648) {ch : Chunk α} :
    ∀ (fuel : Nat) (r : Reader α) (st : LoopSt α) (del P : List (Row α)),
      Rep ch P r → k - st.totalRead < fuel → st.totalRead ≤ k → StOk wd wr k st del →
      ∃ r' st', readLoop Fixes.all wd wr k fuel r st = (r', st'.result st'.totalRead) ∧
        StOk wd wr k st' (del ++ P.take (k - st.totalRead)) ∧ Rep ch (P.drop (k - st.totalRead)) r' := by
  intro fuel
  induction fuel with
  | zero => intro r st del P _ hf; omega
  | succ fuel ih =>
    intro r st del P hrep hf hle hst
    unfold readLoop
    by_cases hc : st.totalRead < k ∧ r.valuesRemaining > 0
    · simp only [hc, and_self, if_true]
      obtain ⟨r', c, heq, hrep', hc1, hcm, hcl, hcd, hcr, hcv, hcn⟩ :=
        readNextPage_ok hrep (hrep.ne_nil hc.2) (k - st.totalRead) (Nat.sub_pos_of_lt hc.1)
          (Nat.lt_of_le_of_lt (Nat.sub_le _ _) hk)
      rw [← Int.ofNat_sub hle, heq]
      simp only [Nat.ne_of_gt hc1, if_false]
      -- the loop variables after this iteration
      have hst' : StOk wd wr k (st.push Fixes.all wd wr c) (del ++ P.take c.rows) := by
        refine ⟨?_, ?_, ?_, ?_, ?_, ?_⟩
        · simp [LoopSt.push, hst.tr]; omega
        · simp [LoopSt.push, hst.tn, hcn]
        · show (if wd then bufWrite st.defs st.totalRead c.defs else st.defs) = _
          rw [hst.defs, hcd, map_some_def, hst.tr, ← List.length_map (f := (·.defLevel)), bufWrite_fill_if, List.map_append]
        · show (if wr then bufWrite st.reps st.totalRead c.reps else st.reps) = _
          rw [hst.reps, hcr, map_some_rep, hst.tr, ← List.length_map (f := (·.repLevel)), bufWrite_fill_if, List.map_append]
        · simp only [LoopSt.push]
          have : dstOffset Fixes.all st = (del.filterMap (·.val)).length := by
            simp [dstOffset, Fixes.all, hst.tn]
          rw [this, hst.vals, hcv, bufWrite_fill]; simp
        · simp [LoopSt.push, hst.rowDefs, hcd]
      have htr' : (st.push Fixes.all wd wr c).totalRead = st.totalRead + c.rows := rfl
      obtain ⟨r'', st'', heq2, hst'', hrep''⟩ :=
        ih r' (st.push Fixes.all wd wr c) _ _ hrep' (sub_add_lt hf hc.1 hc1) (by rw [htr']; omega) hst'
      have hsplit : k - st.totalRead = c.rows + (k - (st.totalRead + c.rows)) := by
        rw [Nat.sub_add_eq, Nat.add_sub_cancel' hcm]
      rw [htr'] at hst'' hrep''
      refine ⟨r'', st'', heq2, ?_, ?_⟩
      · rw [hsplit, List.take_add, ← List.append_assoc]; exact hst''
      · rw [hsplit, ← List.drop_drop]; exact hrep''
    · rw [if_neg hc]
      -- the loop ends: nothing more was asked for, or nothing is left
      have hz : k - st.totalRead = 0 ∨ P = [] := by
        by_cases h1 : st.totalRead < k
        · have h2 : ¬ r.valuesRemaining > 0 := fun h2 => hc ⟨h1, h2⟩
          exact .inr (List.eq_nil_of_length_eq_zero (by have := hrep.rem; omega))
        · exact .inl (by omega)
      refine ⟨r, st, rfl, ?_, ?_⟩
      · rcases hz with hz | hz <;> rw [hz] <;> simpa using hst
      · rcases hz with hz | rfl
        · rw [hz]; exact hrep
        · simpa using hrep

/-- What a read call leaves in the caller's arrays after delivering the rows `del`. -/
structure ResOk (wd wr : Bool) (k : Nat) (res : ReadResult α) (del : List (Row α)) : Prop where
  count : res.count = del.length
  defs : res.defs = if wd then fill (del.map (·.defLevel)) k else []
  reps : res.reps = if wr then fill (del.map (·.repLevel)) k else []
  vals : res.vals = fill (del.filterMap (·.val)) k
  rowDefs : res.rowDefs = del.map (fun row => some row.defLevel)

theorem resOk_of_stOk (wd wr : Bool) (k : Nat) (st : LoopSt α) (del : List (Row α)) (h : StOk wd wr k st del) :
    ResOk wd wr k (st.result st.totalRead) del :=
  ⟨by simp [LoopSt.result, h.tr], h.defs, h.reps, h.vals, h.rowDefs⟩

theorem rep_readBatch {c : Chunk α} {P : List (Row α)} {r : Reader α} (h : Rep c P r) (k : Nat) (hk0 : 0 < k)
    (hk : k < 2147483648) (wd wr : Bool) :
    ∃ r' res, readBatch Fixes.all r (k : Int) wd wr = (r', res) ∧ Rep c (P.drop k) r' ∧ ResOk wd wr k res (P.take k) := by
  have h' := h.release Fixes.all
  unfold readBatch
  have h1 : ¬ ((k : Int) < 0) := by omega
  have h2 : ¬ ((k : Int) = 0) := by omega
  simp only [h1, h2, if_false, Int.toNat_natCast]
  by_cases hz : (releaseRetired Fixes.all r).valuesRemaining ≤ 0
  · simp only [hz, if_true]
    have : P = [] := List.eq_nil_of_length_eq_zero (by have := h'.rem; omega)
    subst this
    exact ⟨_, _, rfl, by simpa using h',
      by simpa [LoopSt.init, LoopSt.result] using resOk_of_stOk wd wr k _ _ (stOk_init (α := α) wd wr k)⟩
  · simp only [hz, if_false]
    obtain ⟨r', st', heq, hst', hrep'⟩ :=
      readLoop_ok wd wr k hk (k + 1) (releaseRetired Fixes.all r) (LoopSt.init wd wr k) [] P h'
        (by simp [LoopSt.init]) (by simp [LoopSt.init]) (stOk_init wd wr k)
    exact ⟨r', _, heq, by simpa [LoopSt.init] using hrep', by simpa [LoopSt.init] using resOk_of_stOk wd wr k _ _ hst'⟩

/-- `carquet_column_read_batch(…, k, …)` with `0 < k`: the first `k` pending rows are delivered. -/
theorem readBatch_ok (r : Reader α) (h : Inv r) (k : Nat) (hk0 : 0 < k) (hk : k < 2147483648) (wd wr : Bool) :
    ∃ r' res, readBatch Fixes.all r (k : Int) wd wr = (r', res) ∧ Inv r' ∧ r'.chunk = r.chunk ∧
      pending r' = (pending r).drop k ∧ ResOk wd wr k res ((pending r).take k) :=
  let ⟨r', res, heq, h', hres⟩ := rep_readBatch ⟨h, rfl, rfl⟩ k hk0 hk wd wr
  ⟨r', res, heq, h'.inv, h'.chunk, h'.pend, hres⟩

theorem consume_zero (r : Reader α) : consume Fixes.all r 0 = r := by
  cases r
  simp [consume, copyCount, nonNullIn, Fixes.all]

/-- `carquet_column_read_batch(…, 0, …)`: nothing is delivered (a first page may get loaded). -/
theorem rep_readBatch_zero {c : Chunk α} {P : List (Row α)} {r : Reader α} (h : Rep c P r) (wd wr : Bool) :
    ∃ r', readBatch Fixes.all r 0 wd wr = (r', ⟨0, [], [], [], [], []⟩) ∧ Rep c P r' := by
  have h' := h.release Fixes.all
  unfold readBatch
  simp only [Int.lt_irrefl, if_false, if_true]
  by_cases hc : (releaseRetired Fixes.all r).valuesRemaining > 0 ∧ (releaseRetired Fixes.all r).pageLoaded = false
  · simp only [hc, and_self, if_true]
    obtain ⟨r1, hprep, hrep1, hl, hlt⟩ := preparePage_ok h' (h'.ne_nil hc.1)
    have hcopy : toCopyOf r1 0 = 0 := by
      unfold toCopyOf available toInt32
      split <;> omega
    have : readNextPage Fixes.all (releaseRetired Fixes.all r) 0 = (r1, .ok (pageCopy Fixes.all r1 0)) := by
      unfold readNextPage
      simp only [hprep, hcopy, Int.lt_irrefl, if_false, Int.toNat_zero, consume_zero]
    rw [this]
    exact ⟨r1, rfl, hrep1⟩
  · simp only [hc, if_false]
    exact ⟨_, rfl, h'⟩

/-- reading `num_values` rows from a freshly created reader delivers the whole chunk — also when it has no rows: the
call returns 0 and touches nothing -/
theorem readBatch_all (c : Chunk α) (hc : ChunkOk c) (h31 : (chunkRows c).length < 2147483648) (wd wr : Bool) :
    ResOk wd wr (chunkRows c).length (readBatch Fixes.all (getColumn c) c.numValues wd wr).2 (chunkRows c) := by
  rw [hc.2]
  by_cases h0 : (chunkRows c).length = 0
  · obtain ⟨r', hz, _⟩ := rep_readBatch_zero (rep_getColumn c hc) wd wr
    rw [h0, List.eq_nil_of_length_eq_zero h0, Int.natCast_zero, hz]
    exact ⟨rfl, by cases wd <;> rfl, by cases wr <;> rfl, rfl, rfl⟩
  · obtain ⟨r', res, heq, _, hres⟩ := rep_readBatch (rep_getColumn c hc) _ (Nat.pos_of_ne_zero h0) h31 wd wr
    rw [List.take_length] at hres
    rw [heq]; exact hres

end Carquet.Proofs.Cursor
