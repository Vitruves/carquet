import Carquet.Proofs.ThriftStructs
/-
The two top-level parsers (`parquet_parse_file_metadata`, `parquet_parse_page_header`): on any
admitted encoding of a struct whose fields are acceptable they return OK, the value the tables
describe, and have consumed exactly the encoding.
-/
namespace Carquet.Proofs.Thrift
open Carquet.Spec.Thrift
open Carquet.Impl.Thrift
open Carquet.Impl.ThriftParquet

/-- invariant of the top-level loops on the accepted path: no early return has happened -/
def NoAbort {α : Type} (s : Top α) : Prop := s.abort = none

/-- a list-valued member of a top-level struct (`topListOf`) -/
def semTopList {α β : Type} (max : Int) (shapeE : TVal → Prop) (conv : TVal → β) (set : α → List β → α) : FieldSem (Top α) :=
  ⟨fun v => ∃ et xs, v = .list et xs ∧ (xs.length : Int) ≤ max ∧ ∀ x ∈ xs, shapeE x,
   fun s v => { s with val := set s.val ((asElems v).map conv) }⟩

theorem entry_topList {α β : Type} {body : Nat → Int → Dec → Top α → Top α × Dec} {k : Nat} {id : Int}
    {max : Int} {elem : Dec → β × Dec} {shapeE : TVal → Prop} {conv : TVal → β} {set : α → List β → α}
    (helem : ∀ x, shapeE x → ∀ b, Enc (.val x) b → Reads k elem b (conv x))
    (hbody : ∀ ty d s, d.status = none → body ty id d s = topListOf max elem set d s) :
    EntryOK NoAbort body k (id, semTopList max shapeE conv set) := by
  refine ⟨?_, ?_⟩
  · rintro b ⟨_, _, h, _⟩
    cases h
  rintro v _ ⟨et, xs, rfl, hmax, hsh⟩ bs henc s _
  obtain ⟨hdr, body', rfl, hlen, _, hh, he⟩ := enc_list_inv henc
  exact (Reads.listBegin (F := fun _ n d => if n < 0 ∨ max < n then ({ s with abort := some .invalidMetadata }, d) else
      ({ s with val := set s.val (readMany elem n.toNat d).1 }, (readMany elem n.toNat d).2)) hh hlen (enc_len he) fun _ _ => by
    simp only [show ¬ ((xs.length : Int) < 0 ∨ max < (xs.length : Int)) by omega, if_false, Int.toNat_natCast]
    exact (readMany_elems elem conv k xs body' (fun x hx => helem x (hsh x hx)) he).map fun ys => { s with val := set s.val ys }).of_eq
    fun d _ hd => by rw [hbody _ _ _ hd.ok]; rfl

theorem foldl_inv {σ : Type} (Inv : σ → Prop) (step : σ → Int → TVal → σ) (h : ∀ s id v, Inv s → Inv (step s id v)) :
    ∀ (fs : List (Int × TVal)) (s : σ), Inv s → Inv (fs.foldl (fun s f => step s f.1 f.2) s) := by
  intro fs
  induction fs with
  | nil => intro s hs; exact hs
  | cons f r ih => intro s hs; exact ih _ (h s f.1 f.2 hs)

/-- the shared frame of the two top-level parsers -/
theorem topParse_by_table {α : Type} (tbl : Table (Top α)) (hinv : ∀ e ∈ tbl, ∀ s v, NoAbort s → NoAbort (e.2.upd s v))
    (body : Nat → Int → Dec → Top α → Top α × Dec) (R : Nat) (hR : R + 1 ≤ maxNesting)
    (hentries : ∀ e ∈ tbl, EntryOK NoAbort body R e)
    (hunknown : ∀ id, id ∉ tbl.map (·.1) → ∀ ty d s, d.status = none → body ty id d s = (s, skipField Cfg.fixed ty d))
    (init : α) (fs : List (Int × TVal)) (bs : List UInt8) (henc : Enc (.val (.struct fs)) bs)
    (hok : ∀ f ∈ fs, okT tbl R f.1 f.2) (r : List UInt8) :
    ∃ res : ParseResult α, topParse body init (bs ++ r) = res ∧ res.status = none ∧
      res.val = (ofFields tbl ⟨init, none⟩ fs).val ∧ res.consumed = bs.length ∧ res.overlay = false := by
  obtain ⟨hstep, hb, hv⟩ := loop_by_table NoAbort tbl hinv body R (by omega) hentries hunknown fs hok
  obtain ⟨body', rfl, hf⟩ := enc_struct_inv henc
  have hlen : fs.length ≤ body'.length := enc_len hf
  have hsb : structBegin (Dec.init (body' ++ [0] ++ r))
      = ⟨body' ++ [0] ++ r, 0, [0], false, false, none, false, (body' ++ [0] ++ r).length + 1⟩ := rfl
  obtain ⟨bv, hl⟩ := fieldLoop_reads (fun s : Top α => s.abort.isSome) NoAbort
    (fun s hs => by unfold NoAbort at hs; simp [hs]) body (stepT tbl) hstep R fs 0 body' hf hb hv
    ((body' ++ [0] ++ r).length + 1)
    (⟨body' ++ [0] ++ r, 0, [0], false, false, none, false, (body' ++ [0] ++ r).length + 1⟩ : Dec) r ⟨init, none⟩ [] rfl
    (by simp) rfl rfl rfl (by simp only [List.length_nil]; omega) (by simp) (by simp; omega)
  have hfin : NoAbort (fs.foldl (fun s f => stepT tbl s f.1 f.2) (⟨init, none⟩ : Top α)) :=
    foldl_inv NoAbort (stepT tbl) hstep fs _ rfl
  unfold NoAbort at hfin
  have hres : topParse body init (body' ++ [0] ++ r) =
      ⟨none, (fs.foldl (fun s f => stepT tbl s f.1 f.2) (⟨init, none⟩ : Top α)).val, (body' ++ [0]).length, false⟩ := by
    unfold topParse
    rw [hsb, hl]
    unfold topFinish
    simp only [hfin]
    simp [structEnd, Dec.upd]
  exact ⟨_, hres, rfl, rfl, rfl, rfl⟩

/-! ### FileMetaData -/

def tblFileMeta (R : Nat) : Table (Top (FileMetaData × Required)) :=
  [(1, semI32 (fun s x => { s with val := ({ s.val.1 with version := x }, { s.val.2 with version := true }) })),
   (2, semTopList maxSchemaElements (isStructOf (tblSchema R) (R + 3)) (fun v => ofFields (tblSchema R) {} (asFields v))
         (fun m xs => ({ m.1 with schema := xs }, { m.2 with schema := true }))),
   (3, semI64 (fun s x => { s with val := ({ s.val.1 with numRows := x }, { s.val.2 with numRows := true }) })),
   (4, semTopList maxRowGroups (isStructOf (tblRowGroup R) (R + 3)) (fun v => ofFields (tblRowGroup R) {} (asFields v))
         (fun m xs => ({ m.1 with rowGroups := xs }, { m.2 with rowGroups := true }))),
   (5, semTopList maxKeyValuePairs (isStructOf tblKV R) (fun v => ofFields tblKV {} (asFields v))
         (fun m xs => ({ m.1 with keyValueMetadata := xs }, m.2))),
   (6, semStr (fun s x => { s with val := ({ s.val.1 with createdBy := x }, s.val.2) }))]

/-- what `parquet_parse_file_metadata` makes of a field list: the structure and which required
fields were met -/
def ofFileMetaFields (R : Nat) (fs : List (Int × TVal)) : FileMetaData × Required :=
  (ofFields (tblFileMeta R) ⟨({}, {}), none⟩ fs).val

theorem parseFileMetaData_reads (R : Nat) (hR : R + 5 ≤ maxNesting) (fs : List (Int × TVal)) (bs : List UInt8)
    (henc : Enc (.val (.struct fs)) bs) (hok : okFields (tblFileMeta R) (R + 4) fs)
    (hreq : (ofFileMetaFields R fs).2.all = true) (r : List UInt8) :
    parseFileMetaDataX Cfg.fixed (bs ++ r) = ⟨none, (ofFileMetaFields R fs).1, bs.length, false⟩ := by
  obtain ⟨res, hres, h1, h2, h3, h4⟩ := topParse_by_table (tblFileMeta R) (by
      simp only [tblFileMeta, List.forall_mem_cons]
      exact ⟨fun _ _ h => h, fun _ _ h => h, fun _ _ h => h, fun _ _ h => h, fun _ _ h => h, fun _ _ h => h,
        List.forall_mem_nil _⟩)
    (fileMetaDataBody Cfg.fixed) (R + 4) (by omega) (by
      simp only [tblFileMeta, List.forall_mem_cons]
      refine ⟨entry_i32 _ _ _ _ _ ?_,
        entry_topList (reads_structOf (parseSchemaElement_reads R (by omega))) ?_,
        entry_i64 ?_,
        entry_topList (reads_structOf (parseRowGroup_reads R (by omega))) ?_,
        entry_topList (reads_structOf fun fs' b hb hok' => (parseKeyValue_reads R (by omega) fs' b hb hok').weaken (by omega)) ?_,
        entry_str ?_,
        List.forall_mem_nil _⟩
      all_goals intro _ d s hs; simp only [fileMetaDataBody, hs]; rfl)
    (by
      intro id hid ty d s hs
      simp [tblFileMeta] at hid
      simp [fileMetaDataBody, hs, hid])
    (({}, {}) : FileMetaData × Required) fs bs henc hok r
  unfold parseFileMetaDataX
  rw [hres]
  obtain ⟨st, v, n, ov⟩ := res
  simp only at h1 h2 h3 h4
  subst h1 h2 h3 h4
  unfold ofFileMetaFields at hreq ⊢
  simp only [requiredCheck, hreq, if_true]

/-! ### PageHeader -/

def tblPageHeader (R : Nat) : Table (Top (PageHeader × Seen)) :=
  [(1, semI32 (fun s x => { s with val := ({ s.val.1 with type := x }, s.val.2) })),
   (2, semI32 (fun s x => { s with val := ({ s.val.1 with uncompressedPageSize := x }, s.val.2) })),
   (3, semI32 (fun s x => { s with val := ({ s.val.1 with compressedPageSize := x }, s.val.2) })),
   (4, semI32 (fun s x => { s with val := ({ s.val.1 with crc := some x }, s.val.2) })),
   (5, semStructS (okFields (tblDataPage R) (R + 1)) (fun s fs => ofFields (tblDataPage R) s.val.1.dataPageHeader fs)
         (fun s m => { s with val := ({ s.val.1 with dataPageHeader := m }, { s.val.2 with data := true }) })),
   (7, semStructS (okFields tblDictPage R) (fun s fs => ofFields tblDictPage s.val.1.dictionaryPageHeader fs)
         (fun s m => { s with val := ({ s.val.1 with dictionaryPageHeader := m }, { s.val.2 with dict := true }) })),
   (8, semStructS (okFields (tblDataPageV2 R) (R + 1))
         (fun s fs => ofFields (tblDataPageV2 R) { s.val.1.dataPageHeaderV2 with isCompressed := true } fs)
         (fun s m => { s with val := ({ s.val.1 with dataPageHeaderV2 := m }, { s.val.2 with v2 := true }) }))]

theorem parsePageHeaderTop_reads (R : Nat) (hR : R + 3 ≤ maxNesting) (fs : List (Int × TVal)) (bs : List UInt8)
    (henc : Enc (.val (.struct fs)) bs) (hok : okFields (tblPageHeader R) (R + 2) fs) (r : List UInt8) :
    ∃ res, topParse (pageHeaderBody Cfg.fixed) (({}, {}) : PageHeader × Seen) (bs ++ r) = res ∧ res.status = none ∧
      res.val = (ofFields (tblPageHeader R) ⟨({}, {}), none⟩ fs).val ∧ res.consumed = bs.length ∧ res.overlay = false := by
  refine topParse_by_table (tblPageHeader R) ?_ (pageHeaderBody Cfg.fixed) (R + 2) (by omega) ?_ ?_ _ fs bs henc hok r
  · simp only [tblPageHeader, List.forall_mem_cons]
    exact ⟨fun _ _ h => h, fun _ _ h => h, fun _ _ h => h, fun _ _ h => h, fun _ _ h => h, fun _ _ h => h, fun _ _ h => h,
      List.forall_mem_nil _⟩
  · simp only [tblPageHeader, List.forall_mem_cons]
    refine ⟨entry_i32 _ _ _ _ _ ?_, entry_i32 _ _ _ _ _ ?_, entry_i32 _ _ _ _ _ ?_, entry_i32 _ _ _ _ _ ?_,
      entry_structS _ _ _ _ (fun s d => parseStruct (dataPageHeaderBody Cfg.fixed) s.val.1.dataPageHeader d) _ _ _
        (fun _ => parseDataPage_reads R (by omega) _) ?_,
      entry_structS _ _ _ _ (fun s d => parseStruct (dictionaryPageHeaderBody Cfg.fixed) s.val.1.dictionaryPageHeader d) _ _ _
        (fun s fs' bs' he' hok' => (parseDictPage_reads R (by omega) _ fs' bs' he' hok').weaken (by omega)) ?_,
      entry_structS _ _ _ _
        (fun s d => parseStruct (dataPageHeaderV2Body Cfg.fixed) { s.val.1.dataPageHeaderV2 with isCompressed := true } d) _ _ _
        (fun _ => parseDataPageV2_reads R (by omega) _) ?_,
      List.forall_mem_nil _⟩
    all_goals intro _ d s hs; simp only [pageHeaderBody, hs]; rfl
  · intro id hid ty d s hs
    simp [tblPageHeader] at hid
    simp [pageHeaderBody, hs, hid]

end Carquet.Proofs.Thrift
