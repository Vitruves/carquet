import Carquet.Spec.Crc32
import Carquet.Proofs.Crc32Table
/-
Helper lemmas for C14_burst_detected: bit-serial view of `run`, linearity of the bit-serial
register map, a window of ≤ 32 bits fed into the zero register is the window placed in the
register followed by zero-input steps, burst detection on bit lists.
-/
namespace Carquet.Proofs.Crc32
open Carquet.Spec.Crc32

/-! ### a bit list placed in the register (bit `i` of the register = `m[i]`) -/

def lowBit (b : Bool) : BitVec 32 := if b then 1#32 else 0#32

def place : List Bool → BitVec 32
  | [] => 0#32
  | b :: m => (place m <<< 1) ^^^ lowBit b

theorem getLsbD_lowBit (b : Bool) (i : Nat) : (lowBit b).getLsbD i = (decide (i = 0) && b) := by
  cases b <;> simp [lowBit, BitVec.getLsbD_one]

theorem getLsbD_place (m : List Bool) (i : Nat) (hi : i < 32) :
    (place m).getLsbD i = (m[i]?).getD false := by
  induction m generalizing i with
  | nil => simp [place]
  | cons b m ih =>
    rw [place, BitVec.getLsbD_xor, BitVec.getLsbD_shiftLeft, getLsbD_lowBit]
    cases i with
    | zero => simp
    | succ j => simp [hi, ih j (by omega)]

theorem place_high (m : List Bool) (i : Nat) (h : m.length ≤ i) : (place m).getLsbD i = false := by
  by_cases hi : i < 32
  · rw [getLsbD_place m i hi, List.getElem?_eq_none h]; rfl
  · exact BitVec.getLsbD_of_ge _ _ (by omega)

theorem all_false_of_place_eq_zero (m : List Bool) (hl : m.length ≤ 32) (h : place m = 0#32) :
    ∀ i : Nat, m[i]? ≠ some true := by
  intro i hi
  have hlt : i < m.length := by
    rcases Nat.lt_or_ge i m.length with h' | h'
    · exact h'
    · rw [List.getElem?_eq_none h'] at hi; cases hi
  have := getLsbD_place m i (by omega)
  rw [h, hi] at this
  simp at this

theorem shl1_shr1 (x : BitVec 32) (h : x.getLsbD 31 = false) : (x <<< 1) >>> 1 = x := by
  apply BitVec.eq_of_getLsbD_eq
  intro i hi
  rw [BitVec.getLsbD_ushiftRight, BitVec.getLsbD_shiftLeft]
  by_cases h31 : i = 31
  · subst h31; simpa using h
  · have : 1 + i < 32 := by omega
    simp [this]

/-! ### bit-serial register map -/

theorem bitStep_false (c : BitVec 32) : bitStep c false = step1 c := by simp [bitStep]

theorem bitStep_zero_false : bitStep 0#32 false = 0#32 := by decide

theorem xor4 (a b c d : BitVec 32) : (a ^^^ b) ^^^ (c ^^^ d) = (a ^^^ c) ^^^ (b ^^^ d) := by
  ext i hi; simp only [BitVec.getElem_xor]
  cases a[i] <;> cases b[i] <;> cases c[i] <;> cases d[i] <;> rfl

theorem lowBit_xor (a b : Bool) : lowBit (a ^^ b) = lowBit a ^^^ lowBit b := by
  cases a <;> cases b <;> decide

theorem bitStep_xor (c c' : BitVec 32) (a b : Bool) :
    bitStep (c ^^^ c') (a ^^ b) = bitStep c a ^^^ bitStep c' b := by
  show step1 ((c ^^^ c') ^^^ lowBit (a ^^ b)) = step1 (c ^^^ lowBit a) ^^^ step1 (c' ^^^ lowBit b)
  rw [← step1_xor, lowBit_xor, xor4]

theorem runBits_xor (x y : List Bool) (h : x.length = y.length) (c c' : BitVec 32) :
    runBits c x ^^^ runBits c' y = runBits (c ^^^ c') (List.zipWith (· ^^ ·) x y) := by
  induction x generalizing y c c' with
  | nil => cases y with
    | nil => rfl
    | cons _ _ => cases h
  | cons a x ih => cases y with
    | nil => cases h
    | cons b y =>
      simp only [List.length_cons, Nat.add_right_cancel_iff] at h
      simp only [runBits, List.foldl_cons, List.zipWith_cons_cons] at ih ⊢
      rw [ih y h, bitStep_xor]

theorem runBits_append (c : BitVec 32) (x y : List Bool) :
    runBits c (x ++ y) = runBits (runBits c x) y := by
  simp [runBits, List.foldl_append]

theorem runBits_zeros (z : List Bool) (hz : ∀ i : Nat, z[i]? ≠ some true) (c : BitVec 32) :
    runBits c z = iter step1 z.length c := by
  induction z generalizing c with
  | nil => rfl
  | cons b z ih =>
    have hb : b = false := by
      cases b
      · rfl
      · exact absurd rfl (hz 0)
    subst hb
    have hz' : ∀ i : Nat, z[i]? ≠ some true := fun i => by simpa using hz (i + 1)
    simp only [runBits, List.foldl_cons, List.length_cons, iter, bitStep_false] at ih ⊢
    exact ih hz' _

theorem runBits_place (m : List Bool) (hl : m.length ≤ 32) (c : BitVec 32) :
    runBits c m = iter step1 m.length (c ^^^ place m) := by
  induction m generalizing c with
  | nil => simp [runBits, place, iter]
  | cons b m ih =>
    simp only [List.length_cons] at hl
    have hs : step1 (c ^^^ place (b :: m)) = bitStep c b ^^^ place m := by
      have e : c ^^^ place (b :: m) = (c ^^^ lowBit b) ^^^ (place m <<< 1) := by
        rw [place, BitVec.xor_comm (place m <<< 1), BitVec.xor_assoc]
      have l0 : (place m <<< 1).getLsbD 0 = false := by simp
      rw [e, step1_xor, step1_of_low_false l0, shl1_shr1 _ (place_high m 31 (by omega))]
      rfl
    simp only [runBits, List.foldl_cons, List.length_cons, iter] at ih ⊢
    rw [hs, ih (by omega)]

/-! ### bytes as bits -/

theorem place_byteBits (b : UInt8) : place (byteBits b) = b.toBitVec.setWidth 32 := by
  apply BitVec.eq_of_getLsbD_eq
  intro i hi
  rw [getLsbD_place _ i hi, BitVec.getLsbD_setWidth]
  by_cases h : i < 8
  · have e : (byteBits b)[i]? = some (b.toBitVec.getLsbD i) := by
      have : i = 0 ∨ i = 1 ∨ i = 2 ∨ i = 3 ∨ i = 4 ∨ i = 5 ∨ i = 6 ∨ i = 7 := by omega
      rcases this with rfl | rfl | rfl | rfl | rfl | rfl | rfl | rfl <;> rfl
    simp [e, hi]
  · have h1 : (byteBits b)[i]? = none := List.getElem?_eq_none (by simp [byteBits]; omega)
    have h2 : b.toBitVec.getLsbD i = false := BitVec.getLsbD_of_ge _ _ (by omega)
    simp [h1, h2]

theorem length_byteBits (b : UInt8) : (byteBits b).length = 8 := rfl

theorem byteStep_eq_runBits (c : BitVec 32) (b : UInt8) : byteStep c b = runBits c (byteBits b) := by
  rw [runBits_place _ (by simp [length_byteBits]), place_byteBits]; rfl

theorem run_eq_runBits (c : BitVec 32) (data : List UInt8) : run c data = runBits c (bits data) := by
  induction data generalizing c with
  | nil => rfl
  | cons b data ih =>
    have : bits (b :: data) = byteBits b ++ bits data := rfl
    rw [this, runBits_append, ← byteStep_eq_runBits, ← ih]; rfl

theorem length_bits (d : List UInt8) : (bits d).length = 8 * d.length := by
  induction d with
  | nil => rfl
  | cons b d ih =>
    have : bits (b :: d) = byteBits b ++ bits d := rfl
    rw [this, List.length_append, ih, length_byteBits, List.length_cons]; omega

theorem byteBits_injective {a b : UInt8} (h : byteBits a = byteBits b) : a = b := by
  have hp : place (byteBits a) = place (byteBits b) := by rw [h]
  rw [place_byteBits, place_byteBits] at hp
  apply UInt8.eq_of_toBitVec_eq
  have := congrArg (BitVec.setWidth 8) hp
  simpa using this

theorem bits_injective {d d' : List UInt8} (h : bits d = bits d') : d = d' := by
  induction d generalizing d' with
  | nil => cases d' with
    | nil => rfl
    | cons b d' => have := congrArg List.length h; simp [length_bits] at this
  | cons a d ih => cases d' with
    | nil => have := congrArg List.length h; simp [length_bits] at this
    | cons b d' =>
      have h' : byteBits a ++ bits d = byteBits b ++ bits d' := h
      have := List.append_inj h' (by simp [length_byteBits])
      rw [byteBits_injective this.1, ih this.2]

/-! ### burst detection on bit lists -/

/-- A non-zero error pattern whose 1-bits lie in a window of at most 32 positions drives the zero
register to a non-zero value. -/
theorem runBits_burst_ne_zero (s : Nat) (e : List Bool) (hex : ∃ i : Nat, e[i]? = some true)
    (hwin : ∀ i : Nat, e[i]? = some true → s ≤ i ∧ i < s + 32) : runBits 0#32 e ≠ 0#32 := by
  induction s generalizing e with
  | zero =>
    intro h0
    have hz : ∀ i : Nat, (e.drop 32)[i]? ≠ some true := by
      intro i hi
      rw [List.getElem?_drop] at hi
      have := (hwin _ hi).2
      omega
    rw [← List.take_append_drop 32 e, runBits_append, runBits_zeros _ hz,
      runBits_place _ (List.length_take_le 32 e), BitVec.zero_xor] at h0
    rw [← iter_step1_zero (e.drop 32).length] at h0
    have h1 := iter_step1_injective _ h0
    rw [← iter_step1_zero (e.take 32).length] at h1
    have h2 := iter_step1_injective _ h1
    obtain ⟨i, hi⟩ := hex
    have hlt := (hwin i hi).2
    apply all_false_of_place_eq_zero _ (List.length_take_le 32 e) h2 i
    rw [List.getElem?_take]
    simp only [Nat.zero_add] at hlt
    simp [hlt, hi]
  | succ s ih =>
    cases e with
    | nil => obtain ⟨i, hi⟩ := hex; simp at hi
    | cons b e =>
      have hb : b = false := by
        cases b
        · rfl
        · have := (hwin 0 rfl).1; omega
      subst hb
      have hstep : runBits 0#32 (false :: e) = runBits 0#32 e := by
        simp only [runBits, List.foldl_cons, bitStep_zero_false]
      rw [hstep]
      apply ih
      · obtain ⟨i, hi⟩ := hex
        cases i with
        | zero => simp at hi
        | succ j => exact ⟨j, by simpa using hi⟩
      · intro i hi
        have := hwin (i + 1) (by simpa using hi)
        omega

/-- Register-level burst theorem: two equal-length messages that differ, all differing bits
within one window of ≤ 32 bit positions, leave different registers (from any common start). -/
theorem run_burst_ne (c : BitVec 32) (d d' : List UInt8) (s : Nat) (hlen : d.length = d'.length)
    (hne : d ≠ d')
    (hwin : ∀ i : Nat, (bits d)[i]? ≠ (bits d')[i]? → s ≤ i ∧ i < s + 32) : run c d ≠ run c d' := by
  intro h
  have hl : (bits d).length = (bits d').length := by rw [length_bits, length_bits, hlen]
  have hx : runBits 0#32 (List.zipWith (· ^^ ·) (bits d) (bits d')) = 0#32 := by
    have hh := runBits_xor (bits d) (bits d') hl c c
    rw [BitVec.xor_self] at hh
    rw [← hh, ← run_eq_runBits, ← run_eq_runBits, h, BitVec.xor_self]
  have key : ∀ i : Nat, (List.zipWith (· ^^ ·) (bits d) (bits d'))[i]? = some true →
      (bits d)[i]? ≠ (bits d')[i]? := by
    intro i hi heq
    rw [List.getElem?_zipWith, heq] at hi
    cases hv : (bits d')[i]? with
    | none => simp [hv] at hi
    | some v => cases v <;> simp [hv] at hi
  refine runBits_burst_ne_zero s _ ?_ (fun i hi => hwin i (key i hi)) hx
  have hbne : bits d ≠ bits d' := fun hb => hne (bits_injective hb)
  have : ∃ i : Nat, (bits d)[i]? ≠ (bits d')[i]? := by
    apply Classical.byContradiction
    intro hcon
    apply hbne
    apply List.ext_getElem?
    intro i
    apply Classical.byContradiction
    intro hi
    exact hcon ⟨i, hi⟩
  obtain ⟨i, hi⟩ := this
  refine ⟨i, ?_⟩
  rw [List.getElem?_zipWith]
  rcases Nat.lt_or_ge i (bits d).length with hlt | hge
  · have hlt' : i < (bits d').length := hl ▸ hlt
    rw [List.getElem?_eq_getElem hlt, List.getElem?_eq_getElem hlt'] at hi ⊢
    have hi' : (bits d)[i] ≠ (bits d')[i] := fun hh => hi (by rw [hh])
    revert hi'
    cases (bits d)[i] <;> cases (bits d')[i] <;> simp
  · exfalso
    apply hi
    rw [List.getElem?_eq_none hge, List.getElem?_eq_none (hl ▸ hge)]

end Carquet.Proofs.Crc32
