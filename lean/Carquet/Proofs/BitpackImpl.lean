import Carquet.Proofs.NatBits
/-
The byte loops of Impl/Bitpack.lean in closed form:
  pack8 w vals   = the w little-endian bytes of  concat w vals = Σ (vᵢ mod 2^w)·2^(w·i)
  unpack8 w inp  = [nth w N i | i < 8]   with   N = leNat (inp.take w),  nth w N i = (N >>> w·i) mod 2^w
-/
namespace Carquet.Proofs.BitpackImpl
open Carquet.Impl.Bitpack Carquet.Proofs.NatBits

/-- the integer whose base-`2^w` digits are the (masked) values, least significant first -/
def concat (w : Nat) : List Nat → Nat
  | [] => 0
  | v :: vs => v % 2 ^ w + 2 ^ w * concat w vs

/-- the `i`-th `w`-bit field of `N` -/
def nth (w N i : Nat) : Nat := (N >>> (w * i)) % 2 ^ w

theorem mask_eq {w : Nat} (hw : w ≤ 32) : mask w = 2 ^ w - 1 := by
  unfold mask
  rw [one_shl]
  apply Nat.mod_eq_of_lt
  have : 2 ^ w ≤ 2 ^ 32 := Nat.pow_le_pow_right (by decide) hw
  have := Nat.two_pow_pos w
  omega

theorem concat_lt (w : Nat) (vals : List Nat) : concat w vals < 2 ^ (w * vals.length) := by
  induction vals with
  | nil => simp [concat]
  | cons v vs ih =>
    simp only [concat, List.length_cons]
    rw [Nat.mul_succ, Nat.add_comm _ w, Nat.mul_comm (2 ^ w)]
    exact add_shl_lt (Nat.mod_lt _ (Nat.two_pow_pos w)) ih

/-- digits are taken modulo `2^w`: a coarser reduction before does not change the number -/
theorem concat_mod {w a : Nat} (h : w ≤ a) (vals : List Nat) : concat w (vals.map (· % 2 ^ a)) = concat w vals := by
  induction vals with
  | nil => rfl
  | cons v vs ih => rw [List.map_cons, concat, concat, ih, Nat.mod_mod_of_dvd _ (Nat.pow_dvd_pow 2 h)]

/-! ### packing -/

theorem packTail_eq (w : Nat) : ∀ (fuel acc bytePos val bw : Nat),
    w ≤ bw + 8 * fuel → val < 2 ^ (w - bw) →
    packTail w fuel acc bytePos val bw = acc ||| (val <<< (8 * bytePos)) := by
  intro fuel
  induction fuel with
  | zero =>
    intro acc bytePos val bw h1 h2
    rw [Nat.sub_eq_zero_of_le (by omega), Nat.pow_zero, Nat.lt_one_iff] at h2
    subst h2
    simp [packTail]
  | succ f ih =>
    intro acc bytePos val bw h1 h2
    simp only [packTail]
    split
    · rename_i hlt
      rw [ih (orByte acc bytePos val) (bytePos + 1) (val >>> 8) (bw + 8) (by omega) (Nat.sub_add_eq .. ▸ shr_lt h2 8)]
      unfold orByte
      rw [Nat.or_assoc, show 8 * (bytePos + 1) = 8 * bytePos + 8 by omega, or_byte_rest]
    · rename_i hge
      rw [Nat.sub_eq_zero_of_le (by omega), Nat.pow_zero, Nat.lt_one_iff] at h2
      subst h2
      simp

theorem packValue_eq {w : Nat} (hw : w ≤ 32) (acc bitPos v : Nat) :
    packValue w acc bitPos v = acc ||| ((v % 2 ^ w) <<< bitPos) := by
  unfold packValue
  rw [mask_eq hw, and_mask]
  have hoff : bitPos % 8 < 8 := Nat.mod_lt _ (by decide)
  have hv : v % 2 ^ w < 2 ^ w := Nat.mod_lt _ (Nat.two_pow_pos w)
  have hmod : ((v % 2 ^ w) <<< (bitPos % 8)) % 2 ^ 32 % 256 = ((v % 2 ^ w) <<< (bitPos % 8)) % 256 :=
    Nat.mod_mod_of_dvd _ (by decide : 256 ∣ 2 ^ 32)
  have hpos : 8 * (bitPos / 8) + bitPos % 8 = bitPos := Nat.div_add_mod bitPos 8
  -- `(val <<< off) >>> 8 = val >>> (8 - off)`
  have hshr : ((v % 2 ^ w) <<< (bitPos % 8)) >>> 8 = (v % 2 ^ w) >>> (8 - bitPos % 8) := by
    rw [shl_eq, shr_eq, shr_eq]
    have e : (2:Nat) ^ 8 = 2 ^ (bitPos % 8) * 2 ^ (8 - bitPos % 8) := by
      rw [← Nat.pow_add]; congr 1; omega
    rw [e, ← Nat.div_div_eq_div_mul, Nat.mul_div_cancel _ (Nat.two_pow_pos _)]
  have hfull : ((v % 2 ^ w) <<< (bitPos % 8)) <<< (8 * (bitPos / 8)) = (v % 2 ^ w) <<< bitPos := by
    rw [← Nat.shiftLeft_add, Nat.add_comm, hpos]
  split
  · rename_i hlt
    rw [packTail_eq w w _ _ _ _ (by omega)]
    · unfold orByte
      rw [hmod, Nat.or_assoc, show 8 * (bitPos / 8 + 1) = 8 * (bitPos / 8) + 8 by omega, ← hshr,
        or_byte_rest, hfull]
    · exact shr_lt hv _
  · rename_i hge
    unfold orByte
    rw [hmod]
    have hsmall : (v % 2 ^ w) <<< (bitPos % 8) < 256 := by
      have := add_shl_lt (Nat.two_pow_pos (bitPos % 8))
        (Nat.lt_of_lt_of_le hv (Nat.pow_le_pow_right (by decide) (Nat.not_lt.mp hge)))
      rwa [Nat.zero_add, Nat.add_sub_cancel' (Nat.le_of_lt hoff), ← shl_eq] at this
    rw [Nat.mod_eq_of_lt hsmall, hfull]

theorem packLoop_eq {w : Nat} (hw : w ≤ 32) (vals : List Nat) (bitPos acc : Nat) :
    packLoop w vals bitPos acc = acc ||| (concat w vals <<< bitPos) := by
  induction vals generalizing bitPos acc with
  | nil => simp [packLoop, concat]
  | cons v vs ih =>
    simp only [packLoop, concat]
    rw [ih, packValue_eq hw, Nat.or_assoc]
    congr 1
    have hv : v % 2 ^ w < 2 ^ w := Nat.mod_lt _ (Nat.two_pow_pos w)
    rw [Nat.add_comm (v % 2 ^ w), ← or_eq_add _ _ _ hv, Nat.shiftLeft_or_distrib, Nat.or_comm]
    congr 1
    rw [shl_eq, shl_eq, Nat.pow_add]
    rw [Nat.mul_comm (2 ^ w), Nat.mul_assoc, Nat.mul_comm (2 ^ w)]

theorem leBytes_concat8 (vals : List Nat) :
    leBytes vals.length (concat 8 vals) = vals.map (fun v => UInt8.ofNat v) := by
  induction vals with
  | nil => rfl
  | cons v vs ih =>
    have hv : v % 256 < 256 := Nat.mod_lt _ (by decide)
    show UInt8.ofNat ((v % 256 + 256 * concat 8 vs) % 256) ::
      leBytes vs.length ((v % 256 + 256 * concat 8 vs) / 256) = _
    rw [Nat.add_mul_mod_self_left, Nat.mod_mod, Nat.add_mul_div_left _ _ (by decide : 0 < 256),
      Nat.div_eq_of_lt hv, Nat.zero_add, ih, ofNat_mod]
    rfl

/-- `carquet_bitpack8_32` in closed form -/
theorem pack8_eq {w : Nat} (hw : w ≤ 32) (vals : List Nat) (hlen : vals.length = 8) :
    pack8 w vals = leBytes w (concat w vals) := by
  unfold pack8
  by_cases h0 : w = 0
  · subst h0; simp [leBytes]
  · by_cases h8 : w = 8
    · subst h8
      simp only [h0, if_false, if_true]
      rw [← leBytes_concat8, hlen]
    · simp only [h0, h8, if_false]
      rw [packLoop_eq hw]
      simp

/-! ### unpacking -/

theorem nth_mod (w N : Nat) {a i n : Nat} (hi : i < n) (ha : w * n ≤ a) : nth w (N % 2 ^ a) i = nth w N i :=
  shr_mod_window N a (w * i) w (Nat.le_trans (Nat.mul_succ w i ▸ Nat.mul_le_mul_left w hi) ha)

theorem bitsFromByte_bounds {s : GenSt} (h0 : s.bitsNeeded ≠ 0) :
    1 ≤ bitsFromByte s ∧ bitsFromByte s ≤ s.bitsNeeded ∧ bitsFromByte s ≤ 8 - s.bitPos % 8 := by
  unfold bitsFromByte; omega

theorem genStep_bytePos (inp : List UInt8) {s : GenSt} (h0 : s.bitsNeeded ≠ 0) (hb : s.bytePos = s.bitPos / 8) :
    (genStep inp s).bytePos = (genStep inp s).bitPos / 8 := by
  obtain ⟨h1, -, h3⟩ := bitsFromByte_bounds h0
  simp only [genStep]
  split <;> omega

theorem extracted_eq (inp : List UInt8) (s : GenSt) (hb : s.bytePos = s.bitPos / 8) :
    extracted inp s = (leNat inp >>> s.bitPos) % 2 ^ bitsFromByte s := by
  unfold extracted
  rw [one_shl, and_mask, byteAt_eq, hb]
  have hle : bitsFromByte s ≤ 8 - s.bitPos % 8 := by unfold bitsFromByte; omega
  have : (leNat inp >>> (8 * (s.bitPos / 8))) % 256 = (leNat inp >>> (8 * (s.bitPos / 8))) % 2 ^ 8 := rfl
  rw [this, shr_mod_window _ 8 _ _ (by omega), shr_shr, Nat.div_add_mod]

theorem genInner_eq (inp : List UInt8) : ∀ (fuel : Nat) (s : GenSt) (start : Nat),
    s.bitsNeeded ≤ fuel → s.bytePos = s.bitPos / 8 → start + s.bitsInBuf = s.bitPos →
    s.bits = (leNat inp >>> start) % 2 ^ s.bitsInBuf →
    (genInner inp fuel s).bits = (leNat inp >>> start) % 2 ^ (s.bitsInBuf + s.bitsNeeded) ∧
    (genInner inp fuel s).bitPos = s.bitPos + s.bitsNeeded ∧
    (genInner inp fuel s).bytePos = (s.bitPos + s.bitsNeeded) / 8 := by
  intro fuel
  induction fuel with
  | zero =>
    intro s start h1 h2 h3 h4
    have : s.bitsNeeded = 0 := by omega
    simp [genInner, this, h4, h2]
  | succ f ih =>
    intro s start h1 h2 h3 h4
    simp only [genInner]
    split
    · rename_i h0
      simp [h0, h4, h2]
    · rename_i h0
      obtain ⟨hk1, hk2, hk3⟩ := bitsFromByte_bounds h0
      have hbits : (genStep inp s).bits = (leNat inp >>> start) % 2 ^ ((genStep inp s).bitsInBuf) := by
        simp only [genStep]
        rw [extracted_eq inp s h2, h4, ← h3, ← shr_shr, or_low_high]
      have hbyte := genStep_bytePos inp h0 h2
      have hstart : start + (genStep inp s).bitsInBuf = (genStep inp s).bitPos := by
        simp only [genStep]; omega
      have hneed : (genStep inp s).bitsNeeded ≤ f := by
        simp only [genStep]; omega
      obtain ⟨r1, r2, r3⟩ := ih (genStep inp s) start hneed hbyte hstart hbits
      have e1 : (genStep inp s).bitsInBuf + (genStep inp s).bitsNeeded = s.bitsInBuf + s.bitsNeeded := by
        simp only [genStep]; omega
      have e2 : (genStep inp s).bitPos + (genStep inp s).bitsNeeded = s.bitPos + s.bitsNeeded := by
        simp only [genStep]; omega
      rw [e1] at r1
      rw [e2] at r2 r3
      exact ⟨r1, r2, r3⟩

theorem genOuter_eq {w : Nat} (hw : w ≤ 32) (inp : List UInt8) (n i : Nat) :
    genOuter w inp n (w * i) (w * i / 8) = (List.range' i n).map (nth w (leNat inp)) := by
  induction n generalizing i with
  | zero => simp [genOuter]
  | succ n ih =>
    obtain ⟨r1, r2, r3⟩ := genInner_eq inp w ⟨0, w, 0, w * i, w * i / 8⟩ (w * i)
      (Nat.le_refl _) rfl rfl (by simp [Nat.mod_one])
    simp only [genOuter, List.range'_succ, List.map_cons]
    simp only [Nat.zero_add] at r1
    rw [r1, r2, r3, mask_eq hw, and_mask, Nat.mod_mod]
    rw [← Nat.mul_succ, ih (i + 1)]
    rfl

/-- the specialised unpackers: `values[k] = (v >> w·k) & (2^w − 1)` -/
theorem extract_fields (N w : Nat) :
    extract N (2 ^ w - 1) ((List.range 8).map (w * ·)) = (List.range 8).map (nth w N) := by
  unfold extract
  rw [List.map_map]
  exact List.map_congr_left (fun i _ => and_mask _ w)

/-- the generic `bit_pos`/`byte_pos` loop in closed form, at every width up to 32 -/
theorem unpack8Generic_eq {w : Nat} (hw : w ≤ 32) (inp : List UInt8) :
    unpack8Generic w inp = (List.range 8).map (nth w (leNat (inp.take w))) := by
  unfold unpack8Generic
  have := genOuter_eq hw inp 8 0
  simp only [Nat.mul_zero, Nat.zero_div] at this
  rw [this, leNat_take]
  have : List.range' 0 8 = List.range 8 := by decide
  rw [this]
  apply List.map_congr_left
  intro i hi
  exact (nth_mod w _ (List.mem_range.mp hi) (Nat.le_of_eq (Nat.mul_comm w 8))).symm

/-- `carquet_bitunpack8_32` in closed form (the specialised unpackers and the generic loop
all compute the same eight fields of the first `w` input bytes) -/
theorem unpack8_eq {w : Nat} (hw : w ≤ 32) (inp : List UInt8) :
    unpack8 w inp = (List.range 8).map (nth w (leNat (inp.take w))) := by
  match w, hw with
  | 0, _ => rfl
  | 1, _ =>
    show extract (byteAt inp 0) (2 ^ 1 - 1) ((List.range 8).map (1 * ·)) = _
    rw [extract_fields, byteAt_eq, leNat_take]
    rfl
  | 2, _ => exact extract_fields _ 2
  | 3, _ => exact extract_fields _ 3
  | 4, _ => exact extract_fields _ 4
  | 5, _ => exact extract_fields _ 5
  | 6, _ => exact extract_fields _ 6
  | 7, _ => exact extract_fields _ 7
  | 8, _ =>
    show (List.range 8).map (byteAt inp) = _
    refine List.map_congr_left (fun k hk => ?_)
    rw [byteAt_eq, leNat_take]
    exact (shr_mod_window (leNat inp) (8 * 8) (8 * k) 8 (by have := List.mem_range.mp hk; omega)).symm
  | w + 9, hw => exact unpack8Generic_eq hw inp

theorem unpack8_length {w : Nat} (hw : w ≤ 32) (inp : List UInt8) : (unpack8 w inp).length = 8 := by
  rw [unpack8_eq hw]; simp

theorem genOuter_length (w : Nat) (inp : List UInt8) : ∀ (n a b : Nat), (genOuter w inp n a b).length = n := by
  intro n
  induction n with
  | zero => intro a b; rfl
  | succ n ih => intro a b; simp only [genOuter, List.length_cons, ih]

/-- `carquet_bitunpack8_32` stores exactly 8 values whatever the declared width -/
theorem unpack8_length_any (w : Nat) (inp : List UInt8) : (unpack8 w inp).length = 8 := by
  by_cases hw : w ≤ 32
  · exact unpack8_length hw inp
  · unfold unpack8
    simp only [show w ≠ 0 by omega, show w ≠ 1 by omega, show w ≠ 2 by omega, show w ≠ 3 by omega,
      show w ≠ 4 by omega, show w ≠ 5 by omega, show w ≠ 6 by omega, show w ≠ 7 by omega, show w ≠ 8 by omega,
      if_false]
    exact genOuter_length w inp 8 0 0

theorem nth_concat (w : Nat) (vals : List Nat) (i : Nat) (hi : i < vals.length) :
    nth w (concat w vals) i = vals[i] % 2 ^ w := by
  induction vals generalizing i with
  | nil => simp at hi
  | cons v vs ih =>
    have hv : v % 2 ^ w < 2 ^ w := Nat.mod_lt _ (Nat.two_pow_pos w)
    cases i with
    | zero =>
      simp only [nth, concat, Nat.mul_zero, Nat.shiftRight_zero, List.getElem_cons_zero]
      rw [Nat.add_mul_mod_self_left, Nat.mod_mod]
    | succ i =>
      simp only [List.getElem_cons_succ]
      rw [← ih i (by simpa using hi)]
      simp only [nth, concat]
      rw [show w * (i + 1) = w + w * i by rw [Nat.mul_add]; omega, ← shr_shr]
      congr 2
      rw [shr_eq, Nat.add_mul_div_left _ _ (Nat.two_pow_pos w), Nat.div_eq_of_lt hv, Nat.zero_add]

/-- the fields of a packed sequence are its values -/
theorem fields_of_packed (w L : Nat) (vals : List Nat) (hv : ∀ v ∈ vals, v < 2 ^ w)
    (hL : vals.length * w ≤ 8 * L) :
    (List.range vals.length).map (nth w (leNat (leBytes L (concat w vals)))) = vals := by
  apply List.ext_getElem
  · rw [List.length_map, List.length_range]
  · intro i h1 h2
    rw [List.getElem_map, List.getElem_range, leNat_leBytes, nth_mod w _ h2 (Nat.mul_comm _ w ▸ hL),
      nth_concat w vals i h2, Nat.mod_eq_of_lt (hv _ (List.getElem_mem h2))]

end Carquet.Proofs.BitpackImpl
