import Carquet.Spec.Crc32
import Carquet.Impl.Crc32
import Carquet.Proofs.Crc32Table
import Carquet.Proofs.Word32
/-
Helper lemmas for C14_impl_eq_spec: little-endian word loads, "four byte steps = xor the word
and do 32 zero-input steps", one slicing-by-8 iteration = eight byte steps, both loops = `run`.
-/
namespace Carquet.Proofs.Crc32
open Carquet.Spec.Crc32
open Carquet.Impl.Crc32 (tblStep table0 table le32 idx slice8 tailStep loop)

/-- `le32` on raw 8-bit vectors -/
def w32 (v0 v1 v2 v3 : BitVec 8) : BitVec 32 :=
  v0.setWidth 32 ||| (v1.setWidth 32 <<< 8) ||| (v2.setWidth 32 <<< 16) ||| (v3.setWidth 32 <<< 24)

theorem w32_shr8 (v0 v1 v2 v3 : BitVec 8) : w32 v0 v1 v2 v3 >>> 8 = w32 v1 v2 v3 0 := by
  rw [w32, Word32.horner4, Word32.shl8_or_shr8 _ _ (Word32.toNat_horner3_lt v1 v2 v3), w32, Word32.horner4]
  simp only [BitVec.ofNat_eq_ofNat, BitVec.setWidth_zero, BitVec.zero_shiftLeft, BitVec.zero_or]

theorem w32_and_ff (v0 v1 v2 v3 : BitVec 8) : w32 v0 v1 v2 v3 &&& 0xFF#32 = v0.setWidth 32 := by
  rw [w32, Word32.horner4, Word32.and_ff, Word32.setWidth8_shl8_or]

theorem w32_zero : w32 0 0 0 0 = 0#32 := by decide

theorem le32_eq_w32 (b0 b1 b2 b3 : UInt8) :
    le32 b0 b1 b2 b3 = w32 b0.toBitVec b1.toBitVec b2.toBitVec b3.toBitVec := rfl

theorem step8_xor_split (c x : BitVec 32) :
    step8 (c ^^^ x) = step8 (c ^^^ (x &&& 0xFF#32)) ^^^ (x >>> 8) := by
  rw [step8_xor, step8_xor, step8_split x, BitVec.xor_assoc]

theorem tailStep_eq_byteStep (c : BitVec 32) (b : UInt8) : tailStep c b = byteStep c b := by
  unfold tailStep byteStep
  rw [table_eq, ofNat_toNat32, step8_split (c ^^^ _), BitVec.ushiftRight_xor_distrib, Lfsr.byte_shr8]
  simp [iter]

theorem foldl_tailStep (c : BitVec 32) (l : List UInt8) : l.foldl tailStep c = run c l := by
  unfold run
  congr 1
  funext c b
  exact tailStep_eq_byteStep c b

theorem step8_xor_w32 (c : BitVec 32) (v0 v1 v2 v3 : BitVec 8) :
    step8 (c ^^^ w32 v0 v1 v2 v3) = step8 (c ^^^ v0.setWidth 32) ^^^ w32 v1 v2 v3 0 := by
  rw [step8_xor_split, w32_and_ff, w32_shr8]

/-- Four byte steps = xor the little-endian word into the register, then 32 zero-input steps. -/
theorem run4 (c : BitVec 32) (b0 b1 b2 b3 : UInt8) :
    run c [b0, b1, b2, b3] = iter step8 4 (c ^^^ le32 b0 b1 b2 b3) := by
  simp only [le32_eq_w32, iter, step8_xor_w32, w32_zero, BitVec.xor_zero]
  simp only [run, List.foldl, byteStep]

theorem iter_step8_split (n : Nat) (x : BitVec 32) :
    iter step8 (n + 1) x = iter step8 (n + 1) (x &&& 0xFF#32) ^^^ iter step8 n (x >>> 8) := by
  rw [iter, step8_split, iter_step8_xor, ← iter]

theorem table_idx (k sh : Nat) (x : BitVec 32) :
    table k (idx x sh) = iter step8 (k + 1) ((x >>> sh) &&& 0xFF#32) := by
  rw [table_eq, idx, ofNat_toNat32]

theorem shr32 (x : BitVec 32) : x >>> 8 >>> 8 >>> 8 >>> 8 = 0#32 := by
  apply BitVec.eq_of_getLsbD_eq
  intro i hi
  simp only [BitVec.getLsbD_ushiftRight, BitVec.getLsbD_zero]
  exact BitVec.getLsbD_of_ge _ _ (by omega)

/-- Four table look-ups = 32 zero-input steps on the word, then `m` more byte steps. -/
theorem split4 (m : Nat) (x : BitVec 32) :
    table (m + 3) (idx x 0) ^^^ table (m + 2) (idx x 8) ^^^ table (m + 1) (idx x 16) ^^^
      table m (idx x 24) = iter step8 m (iter step8 4 x) := by
  have e : iter step8 4 x =
      iter step8 4 (x &&& 0xFF#32) ^^^ iter step8 3 ((x >>> 8) &&& 0xFF#32) ^^^
      iter step8 2 ((x >>> 16) &&& 0xFF#32) ^^^ iter step8 1 ((x >>> 24) &&& 0xFF#32) := by
    rw [iter_step8_split 3 x, iter_step8_split 2 (x >>> 8), iter_step8_split 1 (x >>> 8 >>> 8),
      iter_step8_split 0 (x >>> 8 >>> 8 >>> 8), shr32]
    simp [iter, ← BitVec.shiftRight_add, BitVec.xor_assoc]
  rw [e]
  simp only [iter_step8_xor, table_idx, ← iter_add, BitVec.ushiftRight_zero]
  simp only [Nat.add_comm, Nat.add_left_comm]

theorem slice8_eq_run (c : BitVec 32) (b0 b1 b2 b3 b4 b5 b6 b7 : UInt8) :
    slice8 c b0 b1 b2 b3 b4 b5 b6 b7 = run c [b0, b1, b2, b3, b4, b5, b6, b7] := by
  rw [show [b0, b1, b2, b3, b4, b5, b6, b7] = [b0, b1, b2, b3] ++ [b4, b5, b6, b7] from rfl, run_append, run4, run4,
    iter_step8_xor]
  unfold slice8
  simp only []
  have h1 := split4 4 (le32 b0 b1 b2 b3 ^^^ c)
  have h2 := split4 0 (le32 b4 b5 b6 b7)
  simp only [Nat.zero_add, Nat.reduceAdd] at h1 h2
  have h2' : iter step8 0 (iter step8 4 (le32 b4 b5 b6 b7)) = iter step8 4 (le32 b4 b5 b6 b7) := rfl
  rw [h2'] at h2
  rw [BitVec.xor_comm c, ← h1, ← h2]
  simp only [BitVec.xor_assoc]

theorem loop_eq_run (c : BitVec 32) (data : List UInt8) : loop c data = run c data := by
  fun_induction loop c data with
  | case1 c b0 b1 b2 b3 b4 b5 b6 b7 rest ih =>
    rw [ih, slice8_eq_run, ← run_append]; rfl
  | case2 c short h => exact foldl_tailStep c short

end Carquet.Proofs.Crc32
