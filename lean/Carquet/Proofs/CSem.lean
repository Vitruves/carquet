import Carquet.Impl.CSem
/-
Facts about the C integer operators of Impl/CSem.lean, at every width, shared by the four libraries of link proofs
(Proofs/CFun, CFun2, CFun3, CFunB).  A C integer variable, signed or unsigned, whose value stays below the sign bit is the
same number under both readings; for such values comparisons are comparisons of naturals, `+ - *` do not wrap while the
result stays below the sign bit, and the `_defined` side conditions of the translation (`sAddOk`, `sSubOk`, `sMulOk`,
`shCountOk`) hold.  Two tiers:
  * on any `a : BitVec (v + 1)` with `a.toNat < 2 ^ v` (struct fields, parameters): `…_small`;
  * on `BitVec.ofNat (v + 1) n` with `n < 2 ^ v` (loop counters that the proofs carry as naturals): `ofNat_…`, each a
    corollary of the first tier; the unsigned facts that need no sign bit are stated at any width `w`.
The width is written `v + 1` so that at `BitVec 32` unification solves `v + 1 = 32` and the bound is the literal `2 ^ 31`:
a hypothesis `h : a.toNat < 2 ^ 31` fits as it is and `omega` proves the bound from any other.  Inside
`simp only [lemma n (by omega)]` the width is not yet known when `omega` runs: write `(v := 31)` there, or give the lemma
unapplied with `simp (disch := omega) only [lemma]`.
-/
namespace Carquet.Proofs.CSem
open Carquet.Impl.CSem

variable {w v : Nat}

section small
variable (a b : BitVec (v + 1))

theorem toInt_small (h : a.toNat < 2 ^ v) : a.toInt = (a.toNat : Int) :=
  BitVec.toInt_eq_toNat_of_lt (by rw [Nat.pow_succ]; omega)

theorem small_of_nonneg (h : 0 ≤ a.toInt) : a.toNat < 2 ^ v := by
  have := a.isLt
  rw [BitVec.toInt_eq_toNat_cond] at h
  rw [Nat.pow_succ] at h this
  split at h <;> omega

theorem msb_small (h : a.toNat < 2 ^ v) : a.msb = false :=
  BitVec.msb_eq_false_iff_two_mul_lt.mpr (by rw [Nat.pow_succ]; omega)

theorem toInt_toNat_small (h : a.toNat < 2 ^ v) : a.toInt.toNat = a.toNat := by rw [toInt_small a h]; rfl

/-- a value that the C code has tested to be non-negative, read as unsigned -/
theorem toNat_of_nonneg (h : 0 ≤ a.toInt) : a.toNat = a.toInt.toNat := (toInt_toNat_small a (small_of_nonneg a h)).symm

theorem slt_small (ha : a.toNat < 2 ^ v) (hb : b.toNat < 2 ^ v) : BitVec.slt a b = decide (a.toNat < b.toNat) := by
  rw [BitVec.slt_eq_decide, toInt_small a ha, toInt_small b hb, decide_eq_decide]; omega

theorem sle_small (ha : a.toNat < 2 ^ v) (hb : b.toNat < 2 ^ v) : BitVec.sle a b = decide (a.toNat ≤ b.toNat) := by
  rw [BitVec.sle_eq_decide, toInt_small a ha, toInt_small b hb, decide_eq_decide]; omega

/-- the loop test `a > 0` -/
theorem slt_zero_small (h : a.toNat < 2 ^ v) : BitVec.slt 0#(v + 1) a = decide (0 < a.toNat) :=
  slt_small _ a (by rw [BitVec.toNat_zero]; exact Nat.two_pow_pos v) h

/-- the bound as the overflow predicates write it -/
theorem cast_pow (v : Nat) : ((2 ^ v : Nat) : Int) = 2 ^ (v + 1 - 1) := by simp

theorem sAddOk_small (h : a.toNat + b.toNat < 2 ^ v) : sAddOk a b = true := by
  have := cast_pow v
  rw [sAddOk, BitVec.saddOverflow, toInt_small a (by omega), toInt_small b (by omega), Bool.not_eq_true',
    Bool.or_eq_false_iff, decide_eq_false_iff_not, decide_eq_false_iff_not]
  omega

theorem sSubOk_small (ha : a.toNat < 2 ^ v) (hb : b.toNat < 2 ^ v) : sSubOk a b = true := by
  have := cast_pow v
  rw [sSubOk, BitVec.ssubOverflow, toInt_small a ha, toInt_small b hb, Bool.not_eq_true', Bool.or_eq_false_iff,
    decide_eq_false_iff_not, decide_eq_false_iff_not]
  omega

theorem sMulOk_small (ha : a.toNat < 2 ^ v) (hb : b.toNat < 2 ^ v) (h : a.toNat * b.toNat < 2 ^ v) :
    sMulOk a b = true := by
  have := cast_pow v
  rw [sMulOk, BitVec.smulOverflow, toInt_small a ha, toInt_small b hb, Bool.not_eq_true', Bool.or_eq_false_iff,
    decide_eq_false_iff_not, decide_eq_false_iff_not, ← Int.natCast_mul]
  omega

/-- `(size_t)x` / `(int64_t)x` of a small `x` -/
theorem sext_small {u : Nat} (h : a.toNat < 2 ^ v) (hu : v + 1 ≤ u) : (BitVec.signExtend u a).toNat = a.toNat := by
  rw [BitVec.signExtend_eq_setWidth_of_msb_false (msb_small a h), BitVec.toNat_setWidth_of_le hu]

theorem sext_of_nonneg {u : Nat} (h : 0 ≤ a.toInt) (hu : v + 1 ≤ u) : (BitVec.signExtend u a).toNat = a.toInt.toNat := by
  rw [sext_small a (small_of_nonneg a h) hu, toNat_of_nonneg a h]

/-- `a >> s` of a small signed `a` is the logical shift -/
theorem sshr_small (h : a.toNat < 2 ^ v) (s : Nat) : BitVec.sshiftRight a s = a >>> s :=
  BitVec.sshiftRight_eq_of_msb_false (msb_small a h)

/-- `if (b > a) b = a` -/
theorem clamp_toNat (ha : a.toNat < 2 ^ v) (hb : b.toNat < 2 ^ v) :
    (if BitVec.slt a b then a else b).toNat = min b.toNat a.toNat := by
  rw [slt_small a b ha hb]
  by_cases h : a.toNat < b.toNat
  · rw [if_pos (decide_eq_true h)]; omega
  · rw [if_neg (by rwa [decide_eq_true_eq])]; omega

theorem sdiv_small (ha : a.toNat < 2 ^ v) (hb : b.toNat < 2 ^ v) : (BitVec.sdiv a b).toNat = a.toNat / b.toNat := by
  rw [BitVec.sdiv_eq, msb_small a ha, msb_small b hb]; exact BitVec.toNat_udiv

theorem srem_small (ha : a.toNat < 2 ^ v) (hb : b.toNat < 2 ^ v) : (BitVec.srem a b).toNat = a.toNat % b.toNat := by
  rw [BitVec.srem_eq, msb_small a ha, msb_small b hb]; exact BitVec.toNat_umod

end small

/-- a shift count held in a signed or unsigned integer, for a left operand of `k` bits -/
theorem shCountOk_small (sgn : Bool) (k : Nat) (a : BitVec (v + 1)) (hk : a.toNat < k) (h : a.toNat < 2 ^ v) :
    shCountOk sgn k a = true := by
  rw [shCountOk, msb_small a h, decide_eq_true hk, Bool.not_false, Bool.or_true, Bool.and_self]

/-- a narrower unsigned value converted to a signed type (`uint8_t`, `uint16_t` promoted to `int`) is small -/
theorem small_setWidth {n : Nat} (x : BitVec n) (hn : n ≤ v) : (BitVec.setWidth (v + 1) x).toNat < 2 ^ v := by
  rw [BitVec.toNat_setWidth_of_le (Nat.le_succ_of_le hn)]
  exact Nat.lt_of_lt_of_le x.isLt (Nat.pow_le_pow_right (by decide) hn)

theorem beq_toNat (a b : BitVec w) : (a == b) = decide (a.toNat = b.toNat) := by
  rw [Bool.eq_iff_iff, beq_iff_eq, decide_eq_true_eq, BitVec.toNat_inj]

/-! ### the same on `BitVec.ofNat w n`: loop counters carried as naturals -/

theorem toNat_ofNat (n : Nat) (h : n < 2 ^ w) : (BitVec.ofNat w n).toNat = n := by
  rw [BitVec.toNat_ofNat, Nat.mod_eq_of_lt h]

section ofNat
variable (n m : Nat)

theorem ofNat_toNat (h : n < 2 ^ v) : (BitVec.ofNat (v + 1) n).toNat = n :=
  toNat_ofNat n (Nat.lt_of_lt_of_le h (Nat.pow_le_pow_right (by decide) (Nat.le_succ v)))

theorem small_ofNat (h : n < 2 ^ v) : (BitVec.ofNat (v + 1) n).toNat < 2 ^ v := by rw [ofNat_toNat n h]; exact h

theorem ofNat_toInt (h : n < 2 ^ v) : (BitVec.ofNat (v + 1) n).toInt = (n : Int) := by
  rw [toInt_small _ (small_ofNat n h), ofNat_toNat n h]

theorem ofNat_toInt_toNat (h : n < 2 ^ v) : (BitVec.ofNat (v + 1) n).toInt.toNat = n := by
  rw [ofNat_toInt n h]; rfl

theorem ofNat_msb (h : n < 2 ^ v) : (BitVec.ofNat (v + 1) n).msb = false := msb_small _ (small_ofNat n h)

theorem ofNat_slt (hn : n < 2 ^ v) (hm : m < 2 ^ v) :
    BitVec.slt (BitVec.ofNat (v + 1) n) (BitVec.ofNat (v + 1) m) = decide (n < m) := by
  rw [slt_small _ _ (small_ofNat n hn) (small_ofNat m hm), ofNat_toNat n hn, ofNat_toNat m hm]

theorem ofNat_sle (hn : n < 2 ^ v) (hm : m < 2 ^ v) :
    BitVec.sle (BitVec.ofNat (v + 1) n) (BitVec.ofNat (v + 1) m) = decide (n ≤ m) := by
  rw [sle_small _ _ (small_ofNat n hn) (small_ofNat m hm), ofNat_toNat n hn, ofNat_toNat m hm]

theorem ofNat_lt (hn : n < 2 ^ w) (hm : m < 2 ^ w) : decide (BitVec.ofNat w n < BitVec.ofNat w m) = decide (n < m) := by
  simp only [BitVec.lt_def, toNat_ofNat n hn, toNat_ofNat m hm]

theorem ofNat_le (hn : n < 2 ^ w) (hm : m < 2 ^ w) : decide (BitVec.ofNat w n ≤ BitVec.ofNat w m) = decide (n ≤ m) := by
  simp only [BitVec.le_def, toNat_ofNat n hn, toNat_ofNat m hm]

theorem ofNat_beq (hn : n < 2 ^ w) (hm : m < 2 ^ w) : (BitVec.ofNat w n == BitVec.ofNat w m) = decide (n = m) := by
  rw [beq_toNat, toNat_ofNat n hn, toNat_ofNat m hm]

theorem ofNat_sAddOk (h : n + m < 2 ^ v) : sAddOk (BitVec.ofNat (v + 1) n) (BitVec.ofNat (v + 1) m) = true :=
  sAddOk_small _ _ (by rw [ofNat_toNat n (by omega), ofNat_toNat m (by omega)]; exact h)

theorem ofNat_sSubOk (hn : n < 2 ^ v) (hm : m < 2 ^ v) :
    sSubOk (BitVec.ofNat (v + 1) n) (BitVec.ofNat (v + 1) m) = true :=
  sSubOk_small _ _ (small_ofNat n hn) (small_ofNat m hm)

theorem ofNat_sMulOk (hn : n < 2 ^ v) (hm : m < 2 ^ v) (h : n * m < 2 ^ v) :
    sMulOk (BitVec.ofNat (v + 1) n) (BitVec.ofNat (v + 1) m) = true :=
  sMulOk_small _ _ (small_ofNat n hn) (small_ofNat m hm) (by rw [ofNat_toNat n hn, ofNat_toNat m hm]; exact h)

theorem ofNat_sext {u : Nat} (h : n < 2 ^ v) (hu : v + 1 ≤ u) :
    BitVec.signExtend u (BitVec.ofNat (v + 1) n) = BitVec.ofNat u n := by
  apply BitVec.eq_of_toNat_eq
  rw [sext_small _ (small_ofNat n h) hu, ofNat_toNat n h,
    toNat_ofNat n (Nat.lt_of_lt_of_le h (Nat.pow_le_pow_right (by decide) (by omega)))]

theorem ofNat_sdiv (hn : n < 2 ^ v) (hm : m < 2 ^ v) :
    BitVec.sdiv (BitVec.ofNat (v + 1) n) (BitVec.ofNat (v + 1) m) = BitVec.ofNat (v + 1) (n / m) := by
  apply BitVec.eq_of_toNat_eq
  have := Nat.div_le_self n m
  rw [sdiv_small _ _ (small_ofNat n hn) (small_ofNat m hm), ofNat_toNat n hn, ofNat_toNat m hm, ofNat_toNat _ (by omega)]

theorem ofNat_srem (hn : n < 2 ^ v) (hm : m < 2 ^ v) :
    BitVec.srem (BitVec.ofNat (v + 1) n) (BitVec.ofNat (v + 1) m) = BitVec.ofNat (v + 1) (n % m) := by
  apply BitVec.eq_of_toNat_eq
  have := Nat.mod_le n m
  rw [srem_small _ _ (small_ofNat n hn) (small_ofNat m hm), ofNat_toNat n hn, ofNat_toNat m hm, ofNat_toNat _ (by omega)]

theorem ofNat_slt_of_lt (h : n < m) (hm : m < 2 ^ v) :
    BitVec.slt (BitVec.ofNat (v + 1) n) (BitVec.ofNat (v + 1) m) = true := by
  rw [ofNat_slt n m (Nat.lt_trans h hm) hm]; exact decide_eq_true h

theorem ofNat_slt_of_ge (h : m ≤ n) (hn : n < 2 ^ v) :
    BitVec.slt (BitVec.ofNat (v + 1) n) (BitVec.ofNat (v + 1) m) = false := by
  rw [ofNat_slt n m hn (Nat.lt_of_le_of_lt h hn)]; exact decide_eq_false (Nat.not_lt.mpr h)

theorem ofNat_beq_zero (hn : n < 2 ^ w) : (BitVec.ofNat w n == 0#w) = decide (n = 0) := by
  rw [beq_toNat, toNat_ofNat n hn]; rfl

theorem ofNat_add : BitVec.ofNat w n + BitVec.ofNat w m = BitVec.ofNat w (n + m) := (BitVec.ofNat_add n m).symm

theorem ofNat_mul : BitVec.ofNat w n * BitVec.ofNat w m = BitVec.ofNat w (n * m) := (BitVec.ofNat_mul n m).symm

theorem ofNat_sub (h : m ≤ n) (hn : n < 2 ^ w) : BitVec.ofNat w n - BitVec.ofNat w m = BitVec.ofNat w (n - m) :=
  BitVec.ofNat_sub_ofNat_of_le n m (Nat.lt_of_le_of_lt h hn) h

/-- `n >> s` -/
theorem ofNat_ushr (s : Nat) (hn : n < 2 ^ w) : BitVec.ofNat w n >>> s = BitVec.ofNat w (n / 2 ^ s) := by
  apply BitVec.eq_of_toNat_eq
  rw [BitVec.toNat_ushiftRight, toNat_ofNat n hn, toNat_ofNat _ (Nat.lt_of_le_of_lt (Nat.div_le_self _ _) hn),
    Nat.shiftRight_eq_div_pow]

/-- a conversion to a narrower type -/
theorem ofNat_setWidth {u : Nat} (hu : u ≤ w) : BitVec.setWidth u (BitVec.ofNat w n) = BitVec.ofNat u n :=
  BitVec.setWidth_ofNat_of_le hu n

end ofNat

theorem ofNat_shCountOk (sgn : Bool) (k n : Nat) (hk : n < k) (h : n < 2 ^ v) :
    shCountOk sgn k (BitVec.ofNat (v + 1) n) = true :=
  shCountOk_small sgn k _ (by rw [ofNat_toNat n h]; exact hk) (small_ofNat n h)

/-! ### masks, `|=` -/

/-- `(1 << k) - 1` at any width above `k` -/
theorem lowmask_toNat (k : Nat) (hk : k < w) : ((1#w <<< k) - 1#w).toNat = 1 <<< k - 1 := by
  have h1 : (1#w).toNat = 1 := by
    rw [BitVec.toNat_ofNat]; exact Nat.mod_eq_of_lt (Nat.one_lt_two_pow (by omega))
  have h2 : (1#w <<< k).toNat = 2 ^ k := by
    rw [BitVec.toNat_shiftLeft, h1, Nat.one_shiftLeft]
    exact Nat.mod_eq_of_lt (Nat.pow_lt_pow_right (by decide) hk)
  rw [BitVec.toNat_sub_of_le (by rw [BitVec.le_def, h1, h2]; exact Nat.one_le_two_pow), h1, h2, Nat.one_shiftLeft]

/-- `a |= b << k` -/
theorem or_shl_toNat (a b : BitVec w) (k : Nat) : (a ||| b <<< k).toNat = (a.toNat ||| b.toNat <<< k) % 2 ^ w := by
  rw [BitVec.toNat_or, BitVec.toNat_shiftLeft, Nat.or_mod_two_pow, Nat.mod_eq_of_lt a.isLt]

end Carquet.Proofs.CSem
