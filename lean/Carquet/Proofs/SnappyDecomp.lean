import Carquet.Spec.Snappy
import Carquet.Impl.Snappy
import Carquet.Proofs.SnappySpec
/-
The repaired decompressor model against the Spec: the preamble reader is the Spec's reader
(`readVarint_eq`); one iteration of the element loop is the Spec's `parseElem` and `applyElem` with the
declared length as a limit on the output (`step_eq`), every failure being INVALID_COMPRESSED_DATA (never
a model-only out-of-bounds outcome); the loop with its final test is the Spec's element decoder
(`loop_eq`).  Together: the decompressor is the Spec decoder followed by the capacity test
(`decompress_eq_spec`).
-/
namespace Carquet.Proofs.Snappy
open Carquet
open Carquet.Impl.Snappy
open Carquet.Proofs.Lz77 (backCopy backCopy_succ backCopy_length)

/-! ### The preamble -/

/-- what the repaired reader computes from a state, in terms of the Spec's varint -/
def VarintAgree (k shift : Nat) : Prop :=
  ∀ (bs : List UInt8) (p value : Nat), value < 2 ^ shift →
    readVarintLoop Fixes.all bs.toArray k p shift value =
      match Spec.Snappy.readVarint k (bs.drop p) with
      | some (m, r) =>
        if value + 2 ^ shift * m < 2 ^ 32 then some (value + 2 ^ shift * m, bs.length - r.length) else none
      | none => none

/-- the fifth byte: the F25b test is what keeps the value below 2^32 -/
theorem varintAgree_1 : VarintAgree 1 28 := by
  intro bs p value hv
  simp only [readVarintLoop, List.size_toArray, show Fixes.all.f25b = true from rfl]
  by_cases hp : p < bs.length
  · rw [List.drop_eq_getElem_cons hp]
    simp only [hp, dite_true, List.getElem_toArray, Spec.Snappy.readVarint]
    by_cases hb : bs[p].toNat < 128
    · by_cases h15 : bs[p].toNat > 15
      · have : ¬ (value + 2 ^ 28 * bs[p].toNat < 2 ^ 32) := by omega
        simp [h15, hb, this]
      · have : (value + 2 ^ 28 * bs[p].toNat < 2 ^ 32) := by omega
        simp [h15, hb, this]
        omega
    · by_cases h15 : bs[p].toNat > 15
      · simp [h15, hb]
      · omega
  · simp [hp, List.drop_eq_nil_of_le (Nat.le_of_not_lt hp), Spec.Snappy.readVarint]

theorem acc_step {value x S : Nat} (hv : value < S) (hx : x < 128) (hS : 128 * S ≤ 2 ^ 32) :
    (value + x * S % 2 ^ 32) % 2 ^ 32 = value + S * x ∧ value + S * x < 128 * S := by
  have h1 : x * S ≤ 127 * S := Nat.mul_le_mul_right S (by omega)
  rw [Nat.mul_comm S x, Nat.mod_eq_of_lt (a := x * S) (by omega), Nat.mod_eq_of_lt (by omega)]
  exact ⟨rfl, by omega⟩

theorem varintAgree_step (shift : Nat) (hs : shift + 7 < 32) (k : Nat)
    (ih : VarintAgree k (shift + 7)) : VarintAgree (k + 1) shift := by
  intro bs p value hv
  have hS : 128 * 2 ^ shift ≤ 2 ^ 32 := by
    rw [show (128 : Nat) = 2 ^ 7 from rfl, ← Nat.pow_add]; exact Nat.pow_le_pow_right (by omega) (by omega)
  have h28 : (shift == 28) = false := by rw [beq_eq_false_iff_ne]; omega
  simp only [readVarintLoop, List.size_toArray, show Fixes.all.f25b = true from rfl, h28, Bool.and_false,
    Bool.false_and, Bool.false_eq_true, if_false]
  by_cases hp : p < bs.length
  · rw [List.drop_eq_getElem_cons hp]
    simp only [hp, dite_true, List.getElem_toArray, Spec.Snappy.readVarint]
    obtain ⟨hacc, hlt⟩ := acc_step hv (Nat.mod_lt bs[p].toNat (by omega)) hS
    rw [hacc]
    by_cases hb : bs[p].toNat < 128
    · rw [Nat.mod_eq_of_lt hb] at hlt ⊢
      simp only [hb, if_true, if_pos (show value + 2 ^ shift * bs[p].toNat < 2 ^ 32 by omega), List.length_drop]
      congr 2; omega
    · have hb8 := UInt8.toNat_lt bs[p]
      have hm : bs[p].toNat % 128 = bs[p].toNat - 128 := by omega
      rw [if_neg hb, if_neg hb, if_neg (by omega), ih bs (p + 1) _ (by rw [Nat.pow_add]; omega)]
      cases Spec.Snappy.readVarint k (List.drop (p + 1) bs) with
      | none => rfl
      | some mr => simp only [hm, Nat.pow_add, Nat.mul_add, Nat.add_assoc, Nat.mul_assoc]
  · simp [hp, List.drop_eq_nil_of_le (Nat.le_of_not_lt hp), Spec.Snappy.readVarint]

theorem varintAgree_5 : VarintAgree 5 0 :=
  varintAgree_step 0 (by omega) 4 <| varintAgree_step 7 (by omega) 3 <| varintAgree_step 14 (by omega) 2 <|
    varintAgree_step 21 (by omega) 1 varintAgree_1

theorem readVarint_eq (bs : List UInt8) :
    readVarint Fixes.all bs.toArray =
      match Spec.Snappy.readPreamble bs with
      | some (n, r) => some (n, bs.length - r.length)
      | none => none := by
  have := varintAgree_5 bs 0 0 (by decide)
  simp only [List.drop_zero, Nat.zero_add, Nat.pow_zero, Nat.one_mul] at this
  simp only [readVarint, this, Spec.Snappy.readPreamble]
  cases Spec.Snappy.readVarint 5 bs with
  | none => rfl
  | some mr => obtain ⟨m, r⟩ := mr; simp only; split <;> rfl

/-! ### One element -/

theorem rd_eq (bs : List UInt8) (i : Nat) (h : i < bs.length) : rd bs.toArray i = .ok bs[i] := by
  simp [rd, h]

theorem leRead_eq (bs : List UInt8) : ∀ (k ip : Nat), ip + k ≤ bs.length →
    leRead bs.toArray ip k = .ok (Spec.Snappy.leVal ((bs.drop ip).take k)) := by
  intro k
  induction k with
  | zero => intro ip _; simp [leRead, Spec.Snappy.leVal]
  | succ k ih =>
    intro ip h
    have hlt : ip < bs.length := by omega
    simp only [leRead, rd_eq bs ip hlt, ih (ip + 1) (by omega)]
    rw [List.drop_eq_getElem_cons hlt, List.take_succ_cons]
    simp only [Spec.Snappy.leVal]

theorem copyLoop_eq (cap : Nat) {off : Nat} (h0 : 0 < off) : ∀ (n : Nat) (l : List UInt8), off ≤ l.length →
    l.length + n ≤ cap → copyLoop cap off n l.toArray = .ok (backCopy off n l).toArray
  | 0, _, _, _ => rfl
  | n + 1, l, h1, h2 => by
    have hlt : l.length - off < l.length := by omega
    rw [backCopy_succ h0 h1]
    simp only [copyLoop, rdDst, wr, List.size_toArray, hlt, dite_true, show l.length < cap by omega, if_true,
      List.getElem_toArray, List.push_toArray]
    exact copyLoop_eq cap h0 n _ (by simp; omega) (by simp; omega)

/-- What the element loop makes of a parsed element: apply it, refuse it when the output would
exceed the declared length `olen`, and go on at the input position that leaves `rest'` of the `total`
input bytes.  Every failure is INVALID_COMPRESSED_DATA. -/
def applyParsed (olen total : Nat) (out : Array UInt8) :
    Except Spec.Snappy.Err (Spec.Snappy.Elem × List UInt8) → Except Impl.Snappy.Err (Nat × Array UInt8)
  | .error _ => .error .invalidData
  | .ok (el, rest') =>
    match Spec.Snappy.applyElem out el with
    | .error _ => .error .invalidData
    | .ok out' => if out'.size ≤ olen then .ok (total - rest'.length, out') else .error .invalidData

theorem literalCopy_eq (bs : List UInt8) (olen cap ip len : Nat) (out : Array UInt8) (hc : olen ≤ cap)
    (hip : ip ≤ bs.length) :
    literalCopy bs.toArray olen cap ip len out =
      applyParsed olen bs.length out (Spec.Snappy.takeLiteral len (bs.drop ip)) := by
  simp only [literalCopy, List.size_toArray, Spec.Snappy.takeLiteral, List.length_drop]
  by_cases h1 : bs.length - ip < len
  · rw [if_pos (Or.inl (by omega)), if_pos h1]; rfl
  · rw [if_neg h1]
    simp only [applyParsed, Spec.Snappy.applyElem, Array.size_append, List.size_toArray, List.length_take,
      List.length_drop, Nat.min_eq_left (Nat.le_of_not_lt h1)]
    by_cases h2 : out.size + len ≤ olen
    · rw [if_neg (by omega), if_pos h2]
      simp only [rdRange, List.size_toArray, show ip + len ≤ bs.length by omega, if_true, wrRange]
      rw [if_pos (by simp; omega)]
      simp only [show bs.length - (bs.length - ip - len) = ip + len by omega]
      congr 3
      apply Array.ext'
      simp [List.take_drop]
    · rw [if_pos (Or.inr (by omega)), if_neg h2]

theorem copyStep_eq (olen cap off len total : Nat) (rest : List UInt8) (out : Array UInt8) (hc : olen ≤ cap) :
    copyStep olen cap off len (total - rest.length) out =
      applyParsed olen total out (.ok (.copy off len, rest)) := by
  obtain ⟨l⟩ := out
  simp only [copyStep, applyParsed, Spec.Snappy.applyElem, List.size_toArray]
  by_cases hoff : off = 0 ∨ off > l.length
  · rw [if_pos hoff, if_pos (show off = 0 ∨ l.length < off by omega)]
  · have h0 : 0 < off := by omega
    have h1 : off ≤ l.length := by omega
    rw [if_neg hoff, if_neg (show ¬ (off = 0 ∨ l.length < off) by omega), copyLoop_backCopy h0 len h1]
    simp only [List.size_toArray, backCopy_length h0 len h1]
    by_cases hlen : l.length + len > olen
    · rw [if_pos hlen, if_neg (by omega)]
    · rw [if_neg hlen, copyLoop_eq cap h0 len l h1 (by omega), if_pos (by omega)]

theorem drop_eq_cons {bs : List UInt8} {i : Nat} {b : UInt8} {r : List UInt8} (h : bs.drop i = b :: r) :
    ∃ hi : i < bs.length, bs[i] = b ∧ bs.drop (i + 1) = r := by
  have hi : i < bs.length := by
    apply Classical.byContradiction
    intro hn
    rw [List.drop_eq_nil_of_le (by omega)] at h
    cases h
  rw [List.drop_eq_getElem_cons hi] at h
  injection h with h1 h2
  exact ⟨hi, h1, h2⟩

theorem leVal_four (b0 b1 b2 b3 : UInt8) : Spec.Snappy.leVal [b0, b1, b2, b3] =
    b0.toNat + 256 * b1.toNat + 65536 * b2.toNat + 16777216 * b3.toNat := by
  simp only [Spec.Snappy.leVal]; omega

/-! One lemma per tag kind: the branch of `step` is the branch of the Spec's `parseElem`, then
`applyParsed`.  `ip` is the position after the tag byte. -/

theorem literalStep_eq (bs : List UInt8) (tag : UInt8) {olen cap ip : Nat} (out : Array UInt8) (hc : olen ≤ cap)
    (hip : ip ≤ bs.length) (h0 : tag.toNat % 4 = 0) :
    literalStep bs.toArray olen cap tag.toNat ip out =
      applyParsed olen bs.length out (Spec.Snappy.parseElem tag (bs.drop ip)) := by
  simp only [Spec.Snappy.parseElem, if_pos h0, literalStep, List.size_toArray, List.length_drop,
    show tag.toNat / 4 + 1 - 60 = tag.toNat / 4 - 59 from by omega]
  by_cases hshort : tag.toNat / 4 < 60
  · rw [if_neg (by omega), if_pos hshort]
    exact literalCopy_eq bs _ _ _ _ _ hc hip
  · rw [if_pos (by omega), if_neg hshort]
    by_cases hk : bs.length - ip < tag.toNat / 4 - 59
    · rw [if_pos (by omega), if_pos hk]; rfl
    · rw [if_neg (by omega), if_neg hk]
      simp only [leRead_eq bs _ _ (show ip + (tag.toNat / 4 - 59) ≤ bs.length by omega), List.drop_drop,
        Nat.add_comm 1 (Spec.Snappy.leVal _)]
      exact literalCopy_eq bs _ _ _ _ _ hc (by omega)

theorem copy1Step_eq (bs : List UInt8) (tag : UInt8) {olen cap ip : Nat} (out : Array UInt8) (hc : olen ≤ cap)
    (h1 : tag.toNat % 4 = 1) :
    copy1Step Fixes.all bs.toArray olen cap tag.toNat ip out =
      applyParsed olen bs.length out (Spec.Snappy.parseElem tag (bs.drop ip)) := by
  simp only [Spec.Snappy.parseElem, if_neg (show ¬ tag.toNat % 4 = 0 by omega), if_pos h1, copy1Step,
    List.size_toArray, show Fixes.all.f6 = true from rfl, Bool.true_and, decide_eq_true_eq]
  rcases hd : bs.drop ip with _ | ⟨b, r⟩
  · rw [if_pos (by have := List.drop_eq_nil_iff.mp hd; omega)]; rfl
  · obtain ⟨hi, hb, hr⟩ := drop_eq_cons hd
    have := copyStep_eq olen cap (tag.toNat / 32 * 256 + b.toNat) (tag.toNat / 4 % 8 + 4) bs.length r out hc
    rw [show bs.length - r.length = ip + 1 by rw [← hr, List.length_drop]; omega] at this
    simp only [if_neg (show ¬ ip + 1 > bs.length by omega), rd_eq bs _ hi, hb]
    exact this

theorem copy2Step_eq (bs : List UInt8) (tag : UInt8) {olen cap ip : Nat} (out : Array UInt8) (hc : olen ≤ cap)
    (h2 : tag.toNat % 4 = 2) :
    copy2Step bs.toArray olen cap tag.toNat ip out =
      applyParsed olen bs.length out (Spec.Snappy.parseElem tag (bs.drop ip)) := by
  have hl : tag.toNat / 4 % 64 + 1 = tag.toNat / 4 + 1 := by have := UInt8.toNat_lt tag; omega
  simp only [Spec.Snappy.parseElem, if_neg (show ¬ tag.toNat % 4 = 0 by omega),
    if_neg (show ¬ tag.toNat % 4 = 1 by omega), if_pos h2, copy2Step, List.size_toArray, hl]
  rcases hd : bs.drop ip with _ | ⟨b0, _ | ⟨b1, r⟩⟩
  iterate 2  -- fewer than two bytes left: both sides refuse
    have hl := congrArg List.length hd
    simp only [List.length_drop, List.length_cons, List.length_nil] at hl
    rw [if_pos (by omega)]; rfl
  · obtain ⟨i0, hb0, hd1⟩ := drop_eq_cons hd
    obtain ⟨i1, hb1, hr⟩ := drop_eq_cons hd1
    have := copyStep_eq olen cap (Spec.Snappy.leVal [b0, b1]) (tag.toNat / 4 + 1) bs.length r out hc
    rw [show bs.length - r.length = ip + 2 by rw [← hr, List.length_drop]; omega] at this
    simp only [if_neg (show ¬ ip + 2 > bs.length by omega), rd_eq bs _ i0, rd_eq bs _ i1, hb0, hb1]
    simpa only [Spec.Snappy.leVal, Nat.mul_zero, Nat.add_zero] using this

theorem copy4Step_eq (bs : List UInt8) (tag : UInt8) {olen cap ip : Nat} (out : Array UInt8) (hc : olen ≤ cap)
    (h3 : tag.toNat % 4 = 3) :
    copy4Step bs.toArray olen cap tag.toNat ip out =
      applyParsed olen bs.length out (Spec.Snappy.parseElem tag (bs.drop ip)) := by
  have hl : tag.toNat / 4 % 64 + 1 = tag.toNat / 4 + 1 := by have := UInt8.toNat_lt tag; omega
  simp only [Spec.Snappy.parseElem, if_neg (show ¬ tag.toNat % 4 = 0 by omega),
    if_neg (show ¬ tag.toNat % 4 = 1 by omega), if_neg (show ¬ tag.toNat % 4 = 2 by omega), copy4Step,
    List.size_toArray, hl]
  rcases hd : bs.drop ip with _ | ⟨b0, _ | ⟨b1, _ | ⟨b2, _ | ⟨b3, r⟩⟩⟩⟩
  iterate 4  -- fewer than four bytes left: both sides refuse
    have hl := congrArg List.length hd
    simp only [List.length_drop, List.length_cons, List.length_nil] at hl
    rw [if_pos (by omega)]; rfl
  · obtain ⟨i0, hb0, hd1⟩ := drop_eq_cons hd
    obtain ⟨i1, hb1, hd2⟩ := drop_eq_cons hd1
    obtain ⟨i2, hb2, hd3⟩ := drop_eq_cons hd2
    obtain ⟨i3, hb3, hr⟩ := drop_eq_cons hd3
    have := copyStep_eq olen cap (Spec.Snappy.leVal [b0, b1, b2, b3]) (tag.toNat / 4 + 1) bs.length r out hc
    rw [show bs.length - r.length = ip + 4 by rw [← hr, List.length_drop]; omega, leVal_four] at this
    simp only [if_neg (show ¬ ip + 4 > bs.length by omega), rd_eq bs _ i0, rd_eq bs (ip + 1) i1,
      rd_eq bs (ip + 2) i2, rd_eq bs (ip + 3) i3, hb0, hb1, hb2, hb3]
    rw [leVal_four]
    exact this

theorem step_eq (bs : List UInt8) {olen cap ip : Nat} (out : Array UInt8) (hc : olen ≤ cap)
    (hip : ip < bs.length) :
    step Fixes.all bs.toArray olen cap bs[ip] (ip + 1) out =
      applyParsed olen bs.length out (Spec.Snappy.parseElem bs[ip] (bs.drop (ip + 1))) := by
  simp only [step]
  split
  · exact literalStep_eq bs _ out hc hip (by assumption)
  · split
    · exact copy1Step_eq bs _ out hc (by assumption)
    · split
      · exact copy2Step_eq bs _ out hc (by assumption)
      · exact copy4Step_eq bs _ out hc (by omega)

theorem drop_append_drop {bs e rest : List UInt8} {i : Nat} (hi : i ≤ bs.length) (h : bs.drop i = e ++ rest) :
    bs.length - rest.length = i + e.length ∧ bs.drop (i + e.length) = rest := by
  have hl := congrArg List.length h
  rw [List.length_drop, List.length_append] at hl
  exact ⟨by omega, by rw [← List.drop_drop, h, List.drop_left]⟩

/-- The element loop followed by the final test (all declared bytes produced, F25: all input
consumed) gives the Spec decoder's verdict on the rest of the input.  The loop also stops when the
output is complete; input that is left then makes the Spec decoder fail too, since every further
element adds output. -/
theorem loop_eq (bs : List UInt8) {olen cap : Nat} (hc : olen ≤ cap) :
    ∀ (fuel ip f : Nat) (out : Array UInt8), ip ≤ bs.length → bs.length + 1 ≤ fuel + ip → bs.length - ip ≤ f →
      (match loop Fixes.all bs.toArray olen cap fuel ip out with
        | .error e => .error e
        | .ok (ip', o) => if o.size ≠ olen ∨ ip' ≠ bs.length then .error .invalidData else .ok o) =
      (match Spec.Snappy.decodeElems f (bs.drop ip) out with
        | .error _ => (.error .invalidData : Except Impl.Snappy.Err (Array UInt8))
        | .ok o => if o.size = olen then .ok o else .error .invalidData) := by
  intro fuel
  induction fuel with
  | zero => intro ip f out h1 h3; omega
  | succ fuel ih =>
    intro ip f out h1 h3 hf
    by_cases hip : ip < bs.length
    · by_cases hsz : out.size < olen
      · obtain ⟨f, rfl⟩ : ∃ f', f = f' + 1 := ⟨f - 1, by omega⟩
        rw [List.drop_eq_getElem_cons hip]
        simp only [loop, List.size_toArray, dif_pos (And.intro hip hsz), List.getElem_toArray,
          step_eq bs out hc hip, Spec.Snappy.decodeElems]
        cases hp : Spec.Snappy.parseElem bs[ip] (bs.drop (ip + 1)) with
        | error e => rfl
        | ok pr =>
          obtain ⟨el, rest'⟩ := pr
          cases ha : Spec.Snappy.applyElem out el with
          | error e => simp only [applyParsed, ha]
          | ok out1 =>
            obtain ⟨body, hd, _⟩ := element_of_parse_apply hp ha
            obtain ⟨h1', h2'⟩ := drop_append_drop (by omega) hd
            by_cases hsz1 : out1.size ≤ olen
            · simp only [applyParsed, ha, if_pos hsz1]
              rw [h1', ← h2']
              exact ih _ f out1 (by omega) (by omega) (by omega)
            · simp only [applyParsed, ha, if_neg hsz1]
              cases hdec : Spec.Snappy.decodeElems f rest' out1 with
              | error e => rfl
              | ok o => have := (decodeElems_grow hdec).1; simp only; rw [if_neg (by omega)]
      · simp only [loop, List.size_toArray, dif_neg (show ¬ (ip < bs.length ∧ out.size < olen) from fun h => hsz h.2)]
        rw [if_pos (Or.inr (by omega))]
        cases hdec : Spec.Snappy.decodeElems f (bs.drop ip) out with
        | error e => rfl
        | ok o =>
          have := (decodeElems_grow hdec).2 (by rw [List.drop_eq_getElem_cons hip]; exact List.cons_ne_nil _ _)
          simp only; rw [if_neg (by omega)]
    · have hnil : bs.drop ip = [] := List.drop_eq_nil_of_le (by omega)
      simp only [loop, List.size_toArray, dif_neg (show ¬ (ip < bs.length ∧ out.size < olen) from fun h => hip h.1),
        hnil]
      cases f <;> simp only [Spec.Snappy.decodeElems] <;> by_cases h : out.size = olen <;> simp [h] <;> omega

theorem decompressWith_eq (bs : List UInt8) (cap : Nat) :
    decompressWith Fixes.all bs.toArray cap =
      match Spec.Snappy.readPreamble bs with
      | none => .error .invalidData
      | some (n, body) =>
        if n > cap then .error .invalidData
        else
          match Spec.Snappy.decodeElems body.length body #[] with
          | .error _ => .error .invalidData
          | .ok o => if o.size = n then .ok o else .error .invalidData := by
  simp only [decompressWith, readVarint_eq, show Fixes.all.f25 = true from rfl, true_and, List.size_toArray]
  cases hp : Spec.Snappy.readPreamble bs with
  | none => rfl
  | some nr =>
    obtain ⟨n, body⟩ := nr
    obtain ⟨pre, rfl, _⟩ := preamble_of_readPreamble hp
    simp only [List.length_append, Nat.add_sub_cancel]
    split
    · rfl
    · have := loop_eq (pre ++ body) (olen := n) (cap := cap) (by omega) ((pre ++ body).length + 1) pre.length
        body.length #[] (by simp) (by omega) (by simp)
      rw [List.drop_left, List.length_append] at this
      exact this

theorem decompress_eq_spec (bs : List UInt8) (cap : Nat) :
    decompress bs cap =
      match Spec.Snappy.decode bs with
      | .ok out => if out.length ≤ cap then .ok out else .error .invalidData
      | .error _ => .error .invalidData := by
  simp only [decompress, decompressWith_eq, Spec.Snappy.decode]
  cases Spec.Snappy.readPreamble bs with
  | none => rfl
  | some nr =>
    obtain ⟨n, body⟩ := nr
    simp only
    -- carquet compares the declared length with the capacity before decoding, the right-hand side the
    -- decoded length afterwards: the same test once the two lengths agree
    cases Spec.Snappy.decodeElems body.length body #[] with
    | error e => by_cases hc : n > cap <;> simp only [hc, if_true, if_false]
    | ok o =>
      by_cases ho : o.size = n
      · subst ho
        by_cases hc : o.size > cap
        · simp only [hc, if_true, Array.length_toList, if_neg (Nat.not_le_of_gt hc)]
        · simp only [hc, if_false, if_true, Array.length_toList, if_pos (Nat.le_of_not_gt hc)]
      · by_cases hc : n > cap <;> simp only [hc, ho, if_true, if_false]

theorem decode_of_decompress {bs out : List UInt8} {cap : Nat} (h : decompress bs cap = .ok out) :
    Spec.Snappy.decode bs = .ok out ∧ out.length ≤ cap := by
  rw [decompress_eq_spec] at h
  cases hd : Spec.Snappy.decode bs with
  | error e => rw [hd] at h; cases h
  | ok o =>
    rw [hd] at h
    simp only at h
    split at h
    · cases h; exact ⟨rfl, by assumption⟩
    · cases h

end Carquet.Proofs.Snappy
