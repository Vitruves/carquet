/-
The reflected 32-bit LFSR behind both checksums of the library, for any polynomial `p`: `Spec.Crc32.step1` (IEEE 802.3,
C14) and `Spec.Kernels.crcStep1` (Castagnoli, C15) unfold to `Lfsr.step1` at their polynomials, so what is proved here
holds of both by unfolding.  The step is GF(2)-linear whatever `p` is, and that is what makes a byte-indexed table work:
eight steps of `c` are eight steps of its low byte xor `c >>> 8` (`step8_split`).  `iter` (n-fold application) comes first.
-/
namespace Carquet.Proofs.Crc32

/-- n-fold application. -/
def iter (f : α → α) : Nat → α → α
  | 0, x => x
  | n + 1, x => iter f n (f x)

theorem iter_add (f : α → α) (m n : Nat) (x : α) : iter f (m + n) x = iter f n (iter f m x) := by
  induction m generalizing x with
  | zero => simp [iter]
  | succ m ih => rw [Nat.add_right_comm]; simp [iter, ih]

theorem iter_succ' (f : α → α) (n : Nat) (x : α) : iter f (n + 1) x = f (iter f n x) := by
  rw [iter_add]; rfl

end Carquet.Proofs.Crc32

namespace Carquet.Proofs.Lfsr
open Carquet.Proofs.Crc32 (iter)

/-- One shift of the reflected LFSR with polynomial `p` and zero input: shift right, xor `p` in if a one fell out. -/
def step1 (p c : BitVec 32) : BitVec 32 :=
  if c.getLsbD 0 then (c >>> 1) ^^^ p else c >>> 1

variable (p : BitVec 32)

theorem step1_of_low_false {c : BitVec 32} (h : c.getLsbD 0 = false) : step1 p c = c >>> 1 := by
  unfold step1; rw [h]; rfl

theorem step1_of_low_true {c : BitVec 32} (h : c.getLsbD 0 = true) : step1 p c = (c >>> 1) ^^^ p := by
  unfold step1; rw [h]; rfl

private theorem xor_cancel_rr (x y p : BitVec 32) : (x ^^^ p) ^^^ (y ^^^ p) = x ^^^ y := by
  ext i hi; simp only [BitVec.getElem_xor]; cases x[i] <;> cases y[i] <;> cases p[i] <;> rfl
private theorem xor_cancel_r (x y p : BitVec 32) : x ^^^ (y ^^^ p) = (x ^^^ y) ^^^ p := by
  ext i hi; simp only [BitVec.getElem_xor]; cases x[i] <;> cases y[i] <;> cases p[i] <;> rfl
private theorem xor_cancel_l (x y p : BitVec 32) : (x ^^^ p) ^^^ y = (x ^^^ y) ^^^ p := by
  ext i hi; simp only [BitVec.getElem_xor]; cases x[i] <;> cases y[i] <;> cases p[i] <;> rfl

theorem step1_xor (a b : BitVec 32) : step1 p (a ^^^ b) = step1 p a ^^^ step1 p b := by
  unfold step1
  rw [BitVec.getLsbD_xor]
  cases ha : a.getLsbD 0 <;> cases hb : b.getLsbD 0 <;>
    simp only [Bool.xor_false, Bool.xor_true, Bool.not_true, Bool.not_false, if_true, if_false,
      Bool.false_eq_true, BitVec.ushiftRight_xor_distrib]
  · exact (xor_cancel_r _ _ _).symm
  · exact (xor_cancel_l _ _ _).symm
  · exact (xor_cancel_rr _ _ _).symm

theorem iter_step1_xor (n : Nat) (a b : BitVec 32) :
    iter (step1 p) n (a ^^^ b) = iter (step1 p) n a ^^^ iter (step1 p) n b := by
  induction n generalizing a b with
  | zero => rfl
  | succ n ih => simp [iter, step1_xor, ih]

theorem iter_step1_of_low_zero (n : Nat) (c : BitVec 32) (h : ∀ k, k < n → c.getLsbD k = false) :
    iter (step1 p) n c = c >>> n := by
  induction n generalizing c with
  | zero => simp [iter]
  | succ n ih =>
    have h0 : c.getLsbD 0 = false := h 0 (by omega)
    rw [iter, step1_of_low_false p h0, ih, ← BitVec.shiftRight_add, Nat.add_comm]
    intro k hk
    rw [BitVec.getLsbD_ushiftRight]
    exact h (1 + k) (by omega)

theorem getLsbD_ff (i : Nat) : (0xFF#32).getLsbD i = decide (i < 8) := by
  have : (0xFF#32) = BitVec.ofNat 32 (2 ^ 8 - 1) := rfl
  rw [this, BitVec.getLsbD_ofNat, Nat.testBit_two_pow_sub_one]
  by_cases h : i < 8
  · have : i < 32 := by omega
    simp [h, this]
  · simp [h]

theorem and255_lt (x : BitVec 32) : (x &&& 255#32).toNat < 256 :=
  Nat.lt_succ_of_le (by rw [BitVec.toNat_and]; exact Nat.and_le_right)

theorem split_low_byte (c : BitVec 32) : c = (c &&& 0xFF#32) ^^^ ((c >>> 8) <<< 8) := by
  apply BitVec.eq_of_getLsbD_eq
  intro i hi
  simp only [BitVec.getLsbD_xor, BitVec.getLsbD_and, getLsbD_ff, BitVec.getLsbD_shiftLeft,
    BitVec.getLsbD_ushiftRight]
  by_cases h : i < 8
  · simp [h]
  · have : 8 + (i - 8) = i := by omega
    simp [h, hi, this]

theorem shl8_shr8 (x : BitVec 32) : ((x >>> 8) <<< 8) >>> 8 = x >>> 8 := by
  apply BitVec.eq_of_getLsbD_eq
  intro i hi
  simp only [BitVec.getLsbD_shiftLeft, BitVec.getLsbD_ushiftRight]
  by_cases h : 8 + i < 32
  · have : 8 + (8 + i - 8) = 8 + i := by omega
    simp [h]
  · have : x.getLsbD (8 + i) = false := BitVec.getLsbD_of_ge _ _ (by omega)
    simp [h, this]

/-- the table-driven byte update: eight steps = (eight steps of the low byte) xor (c >> 8) -/
theorem step8_split (c : BitVec 32) :
    iter (step1 p) 8 c = iter (step1 p) 8 (c &&& 0xFF#32) ^^^ (c >>> 8) := by
  conv => lhs; rw [split_low_byte c]
  rw [iter_step1_xor]
  congr 1
  rw [iter_step1_of_low_zero, shl8_shr8]
  intro k hk
  simp [BitVec.getLsbD_shiftLeft]; omega

theorem byte_shr8 (v : BitVec 8) : v.setWidth 32 >>> 8 = 0#32 := by
  apply BitVec.eq_of_getLsbD_eq
  intro i hi
  simp only [BitVec.getLsbD_ushiftRight, BitVec.getLsbD_setWidth, BitVec.getLsbD_zero]
  simp

end Carquet.Proofs.Lfsr
