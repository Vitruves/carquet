import Carquet.Spec.Cursor
import Carquet.Impl.ColumnReader
/-
Helper lemmas for C02: caller buffers (`fill`, `bufWrite`), `srcSlice`, and the rows of a decoded
page (`pageRows`) with their take/drop algebra.
-/
namespace Carquet.Proofs.Cursor
open Carquet.Spec.Cursor (Row)
open Carquet.Impl.ColumnReader

/-! ### caller buffers -/

/-- A `k`-slot buffer whose first `xs.length` slots hold `xs`, the rest untouched. -/
def fill (xs : List β) (k : Nat) : List (Option β) := xs.map some ++ List.replicate (k - xs.length) none

theorem fill_nil (k : Nat) : fill ([] : List β) k = List.replicate k none := by simp [fill]

theorem length_fill (xs : List β) (k : Nat) (h : xs.length ≤ k) : (fill xs k).length = k := by
  simp [fill]; omega

theorem take_fill (xs : List β) (k : Nat) : (fill xs k).take xs.length = xs.map some := by
  simp [fill]

theorem bufWrite_fill (xs ys : List β) (k : Nat) :
    bufWrite (fill xs k) xs.length (ys.map some) = fill (xs ++ ys) k := by
  unfold bufWrite fill
  rw [List.take_append_of_le_length (by simp), List.take_of_length_le (by simp)]
  rw [List.drop_append]
  simp only [List.length_map, List.drop_replicate, List.map_append, List.length_append]
  rw [List.drop_eq_nil_iff.mpr (by simp)]
  simp
  omega

/-- `bufWrite_fill` for an array the caller may have left out (`NULL`: nothing is written) -/
theorem bufWrite_fill_if (w : Bool) (xs ys : List β) (k : Nat) :
    (if w then bufWrite (if w then fill xs k else []) xs.length (ys.map some) else (if w then fill xs k else [])) =
      if w then fill (xs ++ ys) k else [] := by
  cases w
  · rfl
  · exact bufWrite_fill xs ys k

theorem drop_cons_getElem? (l : List β) (i : Nat) (x : β) (rest : List β) (h : l.drop i = x :: rest) :
    l[i]? = some x ∧ l.drop (i + 1) = rest := by
  constructor
  · have := congrArg List.head? h
    simpa [List.head?_drop] using this
  · have : l.drop (i + 1) = (l.drop i).drop 1 := by simp [List.drop_drop]
    rw [this, h]; rfl

/-! ### memcpy source slices -/

theorem srcSlice_eq (xs : List β) (off n : Nat) (h : off + n ≤ xs.length) :
    srcSlice xs off n = ((xs.drop off).take n).map some := by
  have : ((xs.drop off).take n).length = n := by simp; omega
  simp [srcSlice, this]

/-! ### rows of a decoded page -/

/-- The logical rows of a decoded page: levels per row, the dense values handed to the rows whose
definition level is the maximum. -/
def pageRows (maxDef : Nat) : List Nat → List Nat → List α → List (Row α)
  | d :: ds, r :: rs, vals =>
    if d = maxDef then
      match vals with
      | v :: vs => ⟨d, r, some v⟩ :: pageRows maxDef ds rs vs
      | [] => ⟨d, r, none⟩ :: pageRows maxDef ds rs []
    else ⟨d, r, none⟩ :: pageRows maxDef ds rs vals
  | _, _, _ => []

/-- number of value-carrying rows among definition levels -/
def nn (maxDef : Nat) (ds : List Nat) : Nat := ds.countP (· == maxDef)

theorem nn_cons (maxDef d : Nat) (ds : List Nat) :
    nn maxDef (d :: ds) = (if d = maxDef then 1 else 0) + nn maxDef ds := by
  simp only [nn, List.countP_cons]
  by_cases h : d = maxDef <;> simp [h] <;> omega

theorem nn_le (maxDef : Nat) (ds : List Nat) : nn maxDef ds ≤ ds.length := by
  simp only [nn]; exact List.countP_le_length

theorem nn_append (maxDef : Nat) (a b : List Nat) : nn maxDef (a ++ b) = nn maxDef a + nn maxDef b := by
  simp [nn, List.countP_append]

theorem pageRows_nil_defs (maxDef : Nat) (rs : List Nat) (vs : List α) : pageRows maxDef [] rs vs = [] := by
  cases rs <;> rfl

theorem pageRows_nil_reps (maxDef : Nat) (ds : List Nat) (vs : List α) : pageRows maxDef ds [] vs = [] := by
  cases ds <;> rfl

theorem pageRows_cons (maxDef d r : Nat) (ds rs : List Nat) (vs : List α) :
    pageRows maxDef (d :: ds) (r :: rs) vs =
      ⟨d, r, if d = maxDef then vs.head? else none⟩ ::
        pageRows maxDef ds rs (if d = maxDef then vs.tail else vs) := by
  cases vs <;> by_cases hd : d = maxDef <;>
    simp only [pageRows, hd, if_true, if_false, List.head?_cons, List.tail_cons, List.head?_nil, List.tail_nil]

theorem length_pageRows (maxDef : Nat) (ds rs : List Nat) (vs : List α) (h : ds.length ≤ rs.length) :
    (pageRows maxDef ds rs vs).length = ds.length := by
  induction ds generalizing rs vs with
  | nil => rw [pageRows_nil_defs]; rfl
  | cons d ds ih =>
    cases rs with
    | nil => simp at h
    | cons r rs => rw [pageRows_cons, List.length_cons, ih rs _ (by simpa using h), List.length_cons]

theorem map_def_pageRows (maxDef : Nat) (ds rs : List Nat) (vs : List α) (h : ds.length ≤ rs.length) :
    (pageRows maxDef ds rs vs).map (·.defLevel) = ds := by
  induction ds generalizing rs vs with
  | nil => rw [pageRows_nil_defs, List.map_nil]
  | cons d ds ih =>
    cases rs with
    | nil => simp at h
    | cons r rs => rw [pageRows_cons, List.map_cons, ih rs _ (by simpa using h)]

theorem map_rep_pageRows (maxDef : Nat) (ds rs : List Nat) (vs : List α) (h : ds.length ≤ rs.length) :
    (pageRows maxDef ds rs vs).map (·.repLevel) = rs.take ds.length := by
  induction ds generalizing rs vs with
  | nil => rw [pageRows_nil_defs, List.map_nil, List.length_nil, List.take_zero]
  | cons d ds ih =>
    cases rs with
    | nil => simp at h
    | cons r rs =>
      rw [pageRows_cons, List.map_cons, ih rs _ (by simpa using h), List.length_cons, List.take_succ_cons]

theorem filterMap_val_pageRows (maxDef : Nat) (ds rs : List Nat) (vs : List α) (h : ds.length ≤ rs.length)
    (hv : nn maxDef ds ≤ vs.length) :
    (pageRows maxDef ds rs vs).filterMap (·.val) = vs.take (nn maxDef ds) := by
  induction ds generalizing rs vs with
  | nil => rw [pageRows_nil_defs]; rfl
  | cons d ds ih =>
    cases rs with
    | nil => simp at h
    | cons r rs =>
      rw [nn_cons] at hv ⊢
      rw [pageRows_cons, List.filterMap_cons]
      by_cases hd : d = maxDef
      · rw [if_pos hd] at hv
        cases vs with
        | nil => simp at hv
        | cons v vs =>
          simp only [hd, if_true, List.head?_cons, List.tail_cons]
          rw [ih rs vs (by simpa using h) (by simp only [List.length_cons] at hv; omega), Nat.add_comm, List.take_succ_cons]
      · simp only [hd, if_false, Nat.zero_add] at hv ⊢
        exact ih rs vs (by simpa using h) hv

/-- the rows of a page cut at row `n`: the cut in the dense values is after the values of the first
`n` rows -/
theorem pageRows_take (maxDef : Nat) (ds rs : List Nat) (vs : List α) (n : Nat) :
    (pageRows maxDef ds rs vs).take n = pageRows maxDef (ds.take n) (rs.take n) (vs.take (nn maxDef (ds.take n))) := by
  induction n generalizing ds rs vs with
  | zero => rw [List.take_zero, List.take_zero, pageRows_nil_defs]
  | succ n ih =>
    cases ds with
    | nil => rw [pageRows_nil_defs, List.take_nil, List.take_nil, pageRows_nil_defs]
    | cons d ds =>
      cases rs with
      | nil => rw [pageRows_nil_reps, List.take_nil, List.take_nil, pageRows_nil_reps]
      | cons r rs =>
        rw [List.take_succ_cons, List.take_succ_cons, pageRows_cons, pageRows_cons, List.take_succ_cons, ih, nn_cons]
        by_cases hd : d = maxDef
        · cases vs <;> simp [hd, Nat.add_comm 1]
        · simp [hd]

theorem pageRows_drop (maxDef : Nat) (ds rs : List Nat) (vs : List α) (n : Nat) :
    (pageRows maxDef ds rs vs).drop n = pageRows maxDef (ds.drop n) (rs.drop n) (vs.drop (nn maxDef (ds.take n))) := by
  induction n generalizing ds rs vs with
  | zero => rfl
  | succ n ih =>
    cases ds with
    | nil => rw [pageRows_nil_defs, List.drop_nil, List.drop_nil, pageRows_nil_defs]
    | cons d ds =>
      cases rs with
      | nil => rw [pageRows_nil_reps, List.drop_nil, List.drop_nil, pageRows_nil_reps]
      | cons r rs =>
        rw [List.take_succ_cons, List.drop_succ_cons, List.drop_succ_cons, pageRows_cons, List.drop_succ_cons, ih,
          nn_cons]
        by_cases hd : d = maxDef
        · cases vs <;> simp [hd, Nat.add_comm 1]
        · simp [hd]

theorem pageRows_wf (maxDef : Nat) (ds rs : List Nat) (vs : List α) (h : ds.length ≤ rs.length)
    (hv : nn maxDef ds ≤ vs.length) (hle : ∀ d ∈ ds, d ≤ maxDef) :
    ∀ row ∈ pageRows maxDef ds rs vs, Row.WF maxDef row := by
  induction ds generalizing rs vs with
  | nil => rw [pageRows_nil_defs]; exact fun _ h => nomatch h
  | cons d ds ih =>
    cases rs with
    | nil => simp at h
    | cons r rs =>
      rw [nn_cons] at hv
      rw [pageRows_cons]
      intro row hrow
      rcases List.mem_cons.mp hrow with rfl | hrow
      · by_cases hd : d = maxDef
        · cases vs with
          | nil => simp [hd] at hv
          | cons v vs => simp [Row.WF, hd]
        · simp [Row.WF, hd, hle d (by simp)]
      · refine ih rs _ (by simpa using h) ?_ (fun x hx => hle x (by simp [hx])) row hrow
        by_cases hd : d = maxDef
        · cases vs with
          | nil => simp [hd] at hv
          | cons v vs => simp only [hd, if_true, List.tail_cons, List.length_cons] at hv ⊢; omega
        · simpa [hd] using hv

theorem length_filterMap_val (maxDef : Nat) (rows : List (Row α)) (h : ∀ row ∈ rows, Row.WF maxDef row) :
    (rows.filterMap (·.val)).length = nn maxDef (rows.map (·.defLevel)) := by
  induction rows with
  | nil => simp [nn]
  | cons row rows ih =>
    have hw := h row (by simp)
    have ih' := ih (fun x hx => h x (by simp [hx]))
    simp only [List.map_cons, nn_cons]
    by_cases hd : row.defLevel = maxDef
    · have : row.val.isSome := hw.2.2 hd
      cases hv : row.val with
      | none => simp [hv] at this
      | some v => simp [hv, hd, ih']; omega
    · have : ¬ row.val.isSome := fun hs => hd (hw.2.1 hs)
      cases hv : row.val with
      | none => simp [hv, hd, ih']
      | some v => simp [hv] at this

end Carquet.Proofs.Cursor
