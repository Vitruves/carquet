import Carquet.Impl.ParDict
import Carquet.Proofs.Par
/-
C07: the non-interference conditions for the three I/O disciplines (shared-read-only actions,
atomic seek+read sections on a shared stream, one private stream per worker), and what a worker
obtains from a list of reads.
-/
namespace Carquet.Proofs.Par
open Carquet.Impl.Par

theorem mem_getD_mem {α : Type} {ls : List (List α)} {w : Nat} {a : α} (h : a ∈ ls.getD w []) :
    ∃ l ∈ ls, a ∈ l := by
  simp only [List.getD_eq_getElem?_getD] at h
  cases hw : ls[w]? with
  | none => simp [hw] at h
  | some l => simp [hw] at h; exact ⟨l, List.mem_of_getElem? hw, h⟩

theorem getD_map {α β : Type} (g : α → β) (l : List α) (w : Nat) (d : α) (d' : β) (hd : g d = d') :
    (l.map g).getD w d' = g (l.getD w d) := by
  simp only [List.getD_eq_getElem?_getD, List.getElem?_map]
  cases l[w]? <;> simp [hd]

/-! ### shared-read-only actions -/

theorem exec_sh_of_readonly (s : List (Worker × Action))
    (hro : ∀ e ∈ s, ∀ sh p, (runSP e.2.prims sh p).1 = sh) (st : State) :
    (exec s st).sh = st.sh := by
  induction s generalizing st with
  | nil => rfl
  | cons e s ih =>
    cases e with
    | mk w a =>
      rw [exec_cons, ih (fun e he => hro e (List.mem_cons_of_mem _ he))]
      simpa using hro (w, a) (List.mem_cons_self ..) st.sh (st.pr w)

theorem ownDet_of_readonly (w : Worker) (a : Action) :
    OwnDet (fun _ sh => sh) id w a := by
  rintro sh sh' p p' rfl rfl
  exact ⟨rfl, rfl⟩

theorem othersKept_of_readonly (w : Worker) (a : Action)
    (hro : ∀ sh p, (runSP a.prims sh p).1 = sh) : OthersKept (fun _ sh => sh) w a := by
  intro w' _ sh p
  exact hro sh p

/-! ### what the footprint predicates say -/

theorem isReadOf_inv {f : Nat} {r : Prim} (h : r.isReadOf f = true) : ∃ n, r = .read f n := by
  cases r <;> simp_all [Prim.isReadOf]

theorem onStream_inv {f : Nat} {q : Prim} (h : q.onStream f = true) :
    (∃ o, q = .seek f o) ∨ (∃ n, q = .read f n) ∨ ∃ o n, q = .load o n := by
  cases q <;> simp_all [Prim.onStream]

theorem atomicIO_inv {a : Action} (h : a.atomicIO = true) :
    (∃ o n, a = .prim (.load o n)) ∨ ∃ f o rest, a = .crit (.seek f o :: rest) ∧ rest.all (Prim.isReadOf f) = true := by
  unfold Action.atomicIO at h
  split at h
  · exact .inl ⟨_, _, rfl⟩
  · exact .inr ⟨_, _, _, rfl, h⟩
  · cases h

/-! ### atomic sections on a shared stream; view = the immutable bytes -/

theorem reads_det (f : Nat) (rs : List Prim) (hr : rs.all (Prim.isReadOf f) = true)
    (sh sh' : Shared) (p : Priv) (hf : sh.file = sh'.file) (hp : sh.filePos f = sh'.filePos f) :
    (runSP rs sh p).2 = (runSP rs sh' p).2 := by
  induction rs generalizing sh sh' p with
  | nil => rfl
  | cons r rs ih =>
    rw [List.all_cons, Bool.and_eq_true] at hr
    obtain ⟨n, rfl⟩ := isReadOf_inv hr.1
    simp only [runSP, stepPrim]
    rw [hf, hp]
    exact ih hr.2 _ _ _ rfl (by simp [setPos])

theorem ownDet_of_atomicIO (w : Worker) (a : Action) (ha : a.atomicIO = true) :
    OwnDet (fun _ sh => sh.file) id w a := by
  rintro sh sh' p p' hf rfl
  refine ⟨?_, by simp only [runSP_file]; exact hf⟩
  rcases atomicIO_inv ha with ⟨o, n, rfl⟩ | ⟨f, o, rest, rfl, hr⟩
  · show p ++ [Obs.bytes (slice sh.file o n)] = p ++ [Obs.bytes (slice sh'.file o n)]
    rw [show sh.file = sh'.file from hf]
  · simp only [Action.prims, runSP, stepPrim]
    exact reads_det f rest hr _ _ p hf (by simp [setPos])

theorem othersKept_file (w : Worker) (a : Action) : OthersKept (fun _ sh => sh.file) w a := by
  intro w' _ sh p
  exact runSP_file _ _ _

/-! ### one private stream per worker; view w = (bytes, position of stream w) -/

def streamView (w : Worker) (sh : Shared) : List UInt8 × Nat := (sh.file, sh.filePos w)

theorem onStream_det (f : Nat) (ps : List Prim) (hs : ps.all (Prim.onStream f) = true)
    (sh sh' : Shared) (p : Priv) (hf : sh.file = sh'.file) (hp : sh.filePos f = sh'.filePos f) :
    (runSP ps sh p).2 = (runSP ps sh' p).2 ∧
    (runSP ps sh p).1.filePos f = (runSP ps sh' p).1.filePos f := by
  induction ps generalizing sh sh' p with
  | nil => exact ⟨rfl, hp⟩
  | cons q ps ih =>
    rw [List.all_cons, Bool.and_eq_true] at hs
    rcases onStream_inv hs.1 with ⟨o, rfl⟩ | ⟨n, rfl⟩ | ⟨o, n, rfl⟩ <;> simp only [runSP, stepPrim]
    · exact ih hs.2 _ _ p hf (by simp [setPos])
    · rw [hf, hp]; exact ih hs.2 _ _ _ rfl (by simp [setPos])
    · rw [hf]; exact ih hs.2 _ _ _ hf hp

theorem onStream_keeps (f g : Nat) (hfg : g ≠ f) (ps : List Prim) (hs : ps.all (Prim.onStream f) = true)
    (sh : Shared) (p : Priv) : (runSP ps sh p).1.filePos g = sh.filePos g := by
  induction ps generalizing sh p with
  | nil => rfl
  | cons q ps ih =>
    rw [List.all_cons, Bool.and_eq_true] at hs
    rcases onStream_inv hs.1 with ⟨o, rfl⟩ | ⟨n, rfl⟩ | ⟨o, n, rfl⟩ <;> simp only [runSP, stepPrim] <;> rw [ih hs.2]
    · simp [setPos, hfg]
    · simp [setPos, hfg]

theorem ownDet_of_onStream (w : Worker) (a : Action) (ha : a.onStream w = true) :
    OwnDet streamView id w a := by
  rintro sh sh' p p' hv rfl
  simp only [streamView, Prod.mk.injEq] at hv
  have := onStream_det w a.prims ha sh sh' p hv.1 hv.2
  refine ⟨this.1, ?_⟩
  simp only [streamView, Prod.mk.injEq, runSP_file]
  exact ⟨hv.1, this.2⟩

theorem othersKept_of_onStream (w : Worker) (a : Action) (ha : a.onStream w = true) :
    OthersKept streamView w a := by
  intro w' hw sh p
  simp only [streamView, Prod.mk.injEq, runSP_file, true_and]
  exact onStream_keeps w w' hw a.prims ha sh p

/-! ### what reads deliver -/

theorem atomicIO_fileReadAt (f o n : Nat) : (fileReadAt f o n).atomicIO = true := by
  simp [fileReadAt, Action.atomicIO, Prim.isReadOf]

/-- a `file_read_at` delivers the bytes at its own offset, whatever the stream position was -/
theorem run_fileReadAt (st : State) (w f o n : Nat) :
    (st.run w (fileReadAt f o n).prims).pr w = st.pr w ++ [.bytes (slice st.sh.file o n)] ∧
    (st.run w (fileReadAt f o n).prims).sh.file = st.sh.file := by
  simp [fileReadAt, Action.prims, runSP, stepPrim, setPos]

theorem run_load (st : State) (w o n : Nat) :
    (st.run w (Action.prim (.load o n)).prims).pr w = st.pr w ++ [.bytes (slice st.sh.file o n)] ∧
    (st.run w (Action.prim (.load o n)).prims).sh.file = st.sh.file := by
  simp [Action.prims, runSP, stepPrim]

theorem solo_reads (w : Worker) (act : Nat × Nat → Action)
    (hact : ∀ (st : State) r, (st.run w (act r).prims).pr w = st.pr w ++ [.bytes (slice st.sh.file r.1 r.2)] ∧
      (st.run w (act r).prims).sh.file = st.sh.file) (rs : List (Nat × Nat)) (st : State) :
    (exec (solo w (rs.map act)) st).pr w = st.pr w ++ readsBytes st.sh.file rs ∧
    (exec (solo w (rs.map act)) st).sh.file = st.sh.file := by
  induction rs generalizing st with
  | nil => simp [readsBytes, solo]
  | cons r rs ih =>
    have e : solo w ((r :: rs).map act) = (w, act r) :: solo w (rs.map act) := rfl
    rw [e, exec_cons]
    obtain ⟨h1, h2⟩ := ih (st.run w (act r).prims)
    obtain ⟨h3, h4⟩ := hact st r
    exact ⟨by rw [h1, h3, h4]; simp [readsBytes], by rw [h2, h4]⟩

theorem solo_readsFread (w f : Nat) (rs : List (Nat × Nat)) (st : State) :
    (exec (solo w (readsFread f rs)) st).pr w = st.pr w ++ readsBytes st.sh.file rs :=
  (solo_reads w (fun r => fileReadAt f r.1 r.2) (fun st r => run_fileReadAt st w f r.1 r.2) rs st).1

theorem solo_readsMmap (w : Nat) (rs : List (Nat × Nat)) (st : State) :
    (exec (solo w (readsMmap rs)) st).pr w = st.pr w ++ readsBytes st.sh.file rs :=
  (solo_reads w (fun r => .prim (.load r.1 r.2)) (fun st r => run_load st w r.1 r.2) rs st).1

theorem atomicIO_readsFread (f : Nat) (rs : List (Nat × Nat)) :
    ∀ a ∈ readsFread f rs, a.atomicIO = true := by
  intro a ha
  simp only [readsFread, List.mem_map] at ha
  obtain ⟨r, _, rfl⟩ := ha
  exact atomicIO_fileReadAt ..

theorem atomicIO_readsMmap (rs : List (Nat × Nat)) : ∀ a ∈ readsMmap rs, a.atomicIO = true := by
  intro a ha
  simp only [readsMmap, List.mem_map] at ha
  obtain ⟨r, _, rfl⟩ := ha
  rfl

theorem readonly_readsMmap (rs : List (Nat × Nat)) :
    ∀ a ∈ readsMmap rs, ∀ sh p, (runSP a.prims sh p).1 = sh := by
  intro a ha sh p
  simp only [readsMmap, List.mem_map] at ha
  obtain ⟨r, _, rfl⟩ := ha
  rfl

/-! ### the page loads of a column chunk are such reads -/

/-- the two reads of a page `(o, h, c)`: header window, body -/
def pageRd (p : Nat × Nat × Nat) : List (Nat × Nat) := [(p.1, 256), (p.1 + p.2.1, p.2.2)]

theorem chunkFread_eq (f : Nat) (pages : List (Nat × Nat × Nat)) :
    chunkFread f pages = readsFread f (pages.flatMap pageRd) := by
  simp [chunkFread, readsFread, pageRd, pageLoadFread, fileReadAt, List.map_flatMap]

theorem chunkMmap_eq (pages : List (Nat × Nat × Nat)) : chunkMmap pages = readsMmap (pages.flatMap pageRd) := by
  simp [chunkMmap, readsMmap, pageRd, pageLoadMmap, List.map_flatMap]

theorem chunkBytes_eq (file : List UInt8) (pages : List (Nat × Nat × Nat)) :
    chunkBytes file pages = readsBytes file (pages.flatMap pageRd) := by
  simp [chunkBytes, readsBytes, pageRd, List.map_flatMap]

theorem solo_chunkMmap (w : Worker) (pages : List (Nat × Nat × Nat)) (st : State) :
    (exec (solo w (chunkMmap pages)) st).pr w = st.pr w ++ chunkBytes st.sh.file pages := by
  rw [chunkMmap_eq, chunkBytes_eq]; exact solo_readsMmap ..

theorem solo_chunkFread (w f : Nat) (pages : List (Nat × Nat × Nat)) (st : State) :
    (exec (solo w (chunkFread f pages)) st).pr w = st.pr w ++ chunkBytes st.sh.file pages := by
  rw [chunkFread_eq, chunkBytes_eq]; exact solo_readsFread ..

theorem atomicIO_chunkFread (f : Nat) (pages : List (Nat × Nat × Nat)) :
    ∀ a ∈ chunkFread f pages, a.atomicIO = true := by
  rw [chunkFread_eq]; exact atomicIO_readsFread f _

theorem atomicIO_chunkMmap (pages : List (Nat × Nat × Nat)) :
    ∀ a ∈ chunkMmap pages, a.atomicIO = true := by
  rw [chunkMmap_eq]; exact atomicIO_readsMmap _

theorem readonly_chunkMmap (pages : List (Nat × Nat × Nat)) :
    ∀ a ∈ chunkMmap pages, ∀ sh p, (runSP a.prims sh p).1 = sh := by
  rw [chunkMmap_eq]; exact readonly_readsMmap _

end Carquet.Proofs.Par
