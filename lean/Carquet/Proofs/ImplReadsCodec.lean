import Carquet.Proofs.ImplReadsDefs
import Carquet.Proofs.SpecFileCodec
import Carquet.Properties.C10.Snappy
import Carquet.Properties.C10.Lz4
/-
C06, implementation half — stage "stored bodies": what the reference writer stores for a page body
under a compression plan (`compressWith`), the loaders' decompression step (`pageData`:
`decompress_page` with the header's uncompressed_page_size as capacity) turns back into the body —
SNAPPY / LZ4 / LZ4_RAW by C10 (carquet's decompressors accept every stream of the Spec grammars, and
the reference encoders only emit such streams), GZIP / ZSTD by the library contract `LibsDecode`.
-/
namespace Carquet.Proofs.ImplReads
open Carquet.Spec Carquet.Spec.File
open Carquet.Impl
open Carquet.Impl.Reader hiding Bytes

theorem isGzip_gzipStored (k : Nat) (name : Option Bytes) (body : Bytes) :
    isGzip (gzipStored k name body) = true := by
  simp [isGzip, gzipStored]

theorem isZstd_zstdRaw {f : Nat} {zp : List ZBlock} {body comp : Bytes}
    (h : zstdRaw f zp body = some comp) : isZstd comp = true := by
  simp only [zstdRaw] at h
  split at h
  · simp only [Option.some.injEq] at h
    subst h
    simp [isZstd]
  · cases h

theorem gzipDecompress_of_lib (L : CodecWrappers.Lib) (c y : Bytes) (cap : Nat)
    (h : L.decompress c cap = some y) : CodecWrappers.gzipDecompress L c cap = .ok y := by
  simp [CodecWrappers.gzipDecompress, CodecWrappers.gzipDecompressG, List.take_length, h]

theorem zstdDecompress_of_lib (L : CodecWrappers.Lib) (c y : Bytes) (cap : Nat)
    (h : L.decompress c cap = some y) : CodecWrappers.zstdDecompress L c cap = .ok y := by
  simp [CodecWrappers.zstdDecompress, CodecWrappers.zstdDecompressG, List.take_length, h]

theorem pageData_compressWith (L : Libs) (plan : CompPlan) (body comp : Bytes)
    (hc : compressWith plan body = some comp) (hp : planOk plan = true)
    (hL : LibsDecode L (oracleEntry plan comp body)) :
    pageData L (plan.codec : Int) comp body.length = .ok body := by
  cases plan with
  | none =>
    simp only [compressWith, Option.some.injEq] at hc
    subst hc
    simp [pageData, CompPlan.codec]
  | snappy ops =>
    simp only [compressWith] at hc
    split at hc
    · rename_i hrun
      obtain ⟨out, hrun', hstream⟩ := Carquet.Proofs.Snappy.encode_stream hc
      rw [hrun] at hrun'
      cases hrun'
      have := Carquet.Properties.C10.C10_snappy_accepts_valid comp body body.length hstream (Nat.le_refl _)
      simp [pageData, decompressPage, CompPlan.codec, this, mapSnappy]
    · cases hc
  | lz4 tag seqs last =>
    simp only [compressWith] at hc
    split at hc
    · rename_i hexec
      simp only [Option.some.injEq] at hc
      subst hc
      have hb := Carquet.Proofs.Lz4Spec.encode_block hexec
      have hd := Carquet.Properties.C10.C10_lz4_accepts_valid _ _ hb body.length (Nat.le_refl _)
      simp only [planOk, Bool.or_eq_true, beq_iff_eq] at hp
      rcases hp with rfl | rfl <;> simp [pageData, decompressPage, CompPlan.codec, hd, mapLz4]
    · cases hc
  | gzip k name =>
    simp only [compressWith, Option.some.injEq] at hc
    subst hc
    have this : L.gzip.decompress (gzipStored k name body) body.length = some body :=
      hL.gzip (gzipStored k name body, body) (by simp [oracleEntry]) (isGzip_gzipStored k name body)
    simp [pageData, decompressPage, CompPlan.codec, gzipDecompress_of_lib _ _ _ _ this, mapWrap]
  | zstd f zp =>
    simp only [compressWith] at hc
    have this : L.zstd.decompress comp body.length = some body :=
      hL.zstd (comp, body) (by simp [oracleEntry]) (isZstd_zstdRaw hc)
    simp [pageData, decompressPage, CompPlan.codec, zstdDecompress_of_lib _ _ _ _ this, mapWrap]

end Carquet.Proofs.ImplReads
