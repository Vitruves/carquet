import Carquet.Impl.Dispatch
/-
C15 helper lemmas: soundness of the dispatcher for every capability mask from a static check of
the table (every kernel a block installs needs only features the block's condition tests).
-/
namespace Carquet.Proofs.SimdDispatch
open Carquet.Impl.Dispatch

theorem subset_trans {a b c : Nat} (h1 : subset a b = true) (h2 : subset b c = true) : subset a c = true := by
  unfold subset at *
  have e1 : a &&& b = a := by simpa using h1
  have e2 : b &&& c = b := by simpa using h2
  have : a &&& c = a := by
    calc a &&& c = (a &&& b) &&& c := by rw [e1]
      _ = a &&& (b &&& c) := Nat.and_assoc a b c
      _ = a := by rw [e2, e1]
  simpa using this

theorem subset_zero (m : Nat) : subset 0 m = true := by simp [subset]

theorem reqWithin_mono {req : List Nat} {k c m : Nat} (h : reqWithin req k c = true) (hc : subset c m = true) :
    reqWithin req k m = true := by
  unfold reqWithin at *
  cases hr : req[k]? with
  | none => simp [hr] at h
  | some r => simp only [hr] at h ⊢; exact subset_trans h hc

theorem lookup_mem {slot k : Nat} : ∀ {l : List (Nat × Nat)}, l.lookup slot = some k → (slot, k) ∈ l := by
  intro l
  induction l with
  | nil => intro h; simp [List.lookup] at h
  | cons p ps ih =>
    intro h
    obtain ⟨a, b⟩ := p
    simp only [List.lookup] at h
    by_cases hab : slot == a
    · simp only [hab] at h
      have : slot = a := by simpa using hab
      have hb : b = k := by simpa using h
      subst this; subst hb; simp
    · simp only [hab] at h
      have := ih h
      simp [this]

theorem fold_inv (P : Nat → Prop) (mask slot : Nat) : ∀ (bs : List Block) (cur : Nat), P cur →
    (∀ b ∈ bs, enabled mask b = true → ∀ k, (slot, k) ∈ b.2.2 → P k) →
    P ((bs.zip (bs.map (enabled mask))).foldl (stepE slot) cur)
  | [], _, h, _ => h
  | b :: bs, cur, h, hs => by
    simp only [List.map_cons, List.zip_cons_cons, List.foldl_cons]
    refine fold_inv P mask slot bs _ ?_ (fun b' hb' => hs b' (List.mem_cons_of_mem _ hb'))
    unfold stepE
    cases he : enabled mask b
    · exact h
    · cases hl : b.2.2.lookup slot with
      | none => simpa [hl] using h
      | some k => simpa [hl] using hs b List.mem_cons_self he k (lookup_mem hl)

theorem sound_of_tableOK (blocks : List Block) (init req : List Nat) (hok : tableOK blocks init req = true)
    (mask slot : Nat) (hs : slot < init.length) : soundIn blocks init req mask slot = true := by
  unfold tableOK at hok
  have ⟨hinit, hblocks⟩ : (init.all (fun k => reqWithin req k 0) = true) ∧
      (blocks.all (fun b => b.2.2.all (fun sk => reqWithin req sk.2 b.2.1)) = true) := by
    simpa using hok
  have h0 : reqWithin req init[slot] mask = true := by
    have := List.all_eq_true.mp hinit init[slot] (List.getElem_mem hs)
    exact reqWithin_mono this (subset_zero mask)
  have hall : ∀ b ∈ blocks, ∀ sk ∈ b.2.2, reqWithin req sk.2 b.2.1 = true := by
    intro b hb sk hsk
    have := List.all_eq_true.mp hblocks b hb
    exact List.all_eq_true.mp this sk hsk
  have key := fold_inv (fun k => reqWithin req k mask = true) mask slot blocks init[slot] h0
    (fun b hb he k hk => reqWithin_mono (hall b hb (slot, k) hk) he)
  unfold soundIn selectIn selectE
  rw [List.getElem?_eq_getElem hs]
  simp only
  unfold reqWithin at key
  unfold requiredFeaturesIn
  cases hr : req[(blocks.zip (blocks.map (enabled mask))).foldl (stepE slot) init[slot]]? with
  | none => simp [hr] at key
  | some r => simpa [hr] using key

theorem mem_allBools : ∀ l : List Bool, l ∈ allBools l.length := by
  intro l
  induction l with
  | nil => simp [allBools]
  | cons b bs ih =>
    simp only [List.length_cons, allBools, List.mem_flatMap]
    exact ⟨bs, ih, by cases b <;> simp⟩

end Carquet.Proofs.SimdDispatch
