import Carquet.Impl.FileReal
import Carquet.Proofs.Crc32Damage
/-
The Snappy and LZ4 compressors in the form in which the kernel can run them on a concrete page.
The models keep the hash table of the match finder as the C code does, an array of 16384 / 4096
slots; evaluated by the kernel, every store copies the array and every lookup walks it, so that
compressing a 24-byte page costs tens of millions of steps.  Here the table is the function from slot
to stored position, a store adds one override, and the two match finders are proved equal.
The CRC-32 of a page is computed bit-serially (`Spec.Crc32`, proved equal to the table code): the kernel
walks the 256-entry table once per byte otherwise.
`deps_eq` puts the result under a whole writer run: rewrite with it, then evaluate.
-/
namespace Carquet.Proofs.SpecWriter
open Carquet.Impl

/-- a hash table as the function from slot to stored position (a `uint16_t`); a store overrides
one slot -/
def store (t : Nat → Nat) (h pos : Nat) : Nat → Nat := fun k => if k = h then pos % 65536 else t k

namespace SnappyF
open Carquet.Impl.Snappy

/-- the table `t` holds what `tbl` holds -/
def Rep (tbl : Table) (t : Nat → Nat) : Prop := ∀ k : Fin 16384, tbl.get k = t k

theorem rep_tblIns {tbl : Table} {t : Nat → Nat} (h : Rep tbl t) (src : Array UInt8) (i : Nat) (hi : i + 3 < src.size) :
    Rep (tblIns src tbl i hi) (store t (hashIdx (read32 src i hi)) i) := by
  intro k
  have hg : ∀ (xs : Table) (j : Fin 16384), xs.get j = xs[j.val] := fun _ _ => rfl
  rw [tblIns, store, hg, Vector.getElem_set, ← h k, hg]
  by_cases hk : k.val = hashIdx (read32 src i hi)
  · simp [hk]
  · simp [hk, Ne.symm hk]

def tblAfterF (src : Array UInt8) (t : Nat → Nat) (e : Nat) : Nat → Nat :=
  if h : e + 15 < src.size then store t (hashIdx (read32 src (e - 1) (by omega))) (e - 1) else t

theorem rep_tblAfter {tbl : Table} {t : Nat → Nat} (h : Rep tbl t) (src : Array UInt8) (e : Nat) (he : 1 ≤ e) :
    Rep (tblAfter src tbl e he) (tblAfterF src t e) := by
  unfold tblAfter tblAfterF
  split
  · exact rep_tblIns h _ _ _
  · exact h

def mainLoopF (src : Array UInt8) : Nat → (Nat → Nat) → Nat → Nat → Array Op → Array Op
  | 0, _, _, anchor, acc => pushLit acc anchor src.size
  | fuel + 1, t, ip, anchor, acc =>
    if h : ip + 15 < src.size then
      if isMatch src (t (hashIdx (read32 src ip (by omega)))) ip (by omega) then
        mainLoopF src fuel
          (tblAfterF src (store t (hashIdx (read32 src ip (by omega))) ip)
            (extend src (ip - t (hashIdx (read32 src ip (by omega)))) (ip + 4)))
          (extend src (ip - t (hashIdx (read32 src ip (by omega)))) (ip + 4))
          (extend src (ip - t (hashIdx (read32 src ip (by omega)))) (ip + 4))
          ((pushLit acc anchor ip).push
            (.copy (ip - t (hashIdx (read32 src ip (by omega))))
                   (extend src (ip - t (hashIdx (read32 src ip (by omega)))) (ip + 4) - ip)))
      else mainLoopF src fuel (store t (hashIdx (read32 src ip (by omega))) ip) (ip + 1) anchor acc
    else pushLit acc anchor src.size

theorem mainLoop_eq (src : Array UInt8) : ∀ (fuel : Nat) (tbl : Table) (t : Nat → Nat) (ip anchor : Nat) (acc : Array Op),
    Rep tbl t → src.size ≤ ip + fuel → mainLoop src tbl ip anchor acc = mainLoopF src fuel t ip anchor acc
  | 0, tbl, t, ip, anchor, acc, _, hf => by
    rw [mainLoop, dif_neg (by omega)]; rfl
  | fuel + 1, tbl, t, ip, anchor, acc, hr, hf => by
    rw [mainLoop, mainLoopF]
    split
    · rename_i h
      have hc : cand src tbl ip (by omega) = t (hashIdx (read32 src ip (by omega))) := hr _
      simp only [hc]
      split
      · have := le_extend src (ip - t (hashIdx (read32 src ip (by omega)))) (ip + 4)
        exact mainLoop_eq src fuel _ _ _ _ _ (rep_tblAfter (rep_tblIns hr _ _ _) _ _ _) (by omega)
      · exact mainLoop_eq src fuel _ _ _ _ _ (rep_tblIns hr _ _ _) (by omega)
    · rfl

def opsF (src : Array UInt8) : Array Op :=
  if src.size = 0 then #[]
  else if src.size < 15 then #[.literal 0 src.size]
  else mainLoopF src src.size (fun _ => 0) 0 0 #[]

theorem ops_eq (src : Array UInt8) : ops src = opsF src := by
  unfold ops opsF
  rw [mainLoop_eq src src.size _ (fun _ => 0) 0 0 #[] (fun k => by show (Vector.replicate 16384 0)[k.val] = 0; simp) (by omega)]

def compressF (x : List UInt8) : List UInt8 :=
  writeVarint 4 (x.length % 2 ^ 32) ++ serialize x.toArray (opsF x.toArray).toList

theorem compress_eq (x : List UInt8) : Snappy.compress x = compressF x := by
  simp only [Snappy.compress, compressBytes, compressF, ops_eq, List.size_toArray]

end SnappyF

namespace Lz4F
open Carquet.Impl.Lz4

theorem lookup_insert (tbl : Array UInt16) (i pos : Nat) (src : Bytes) (hs : tbl.size = 4096) :
    lookup (Lz4.insert tbl (hashAt src i) pos) = store (lookup tbl) (hashAt src i) pos := by
  have hh : hashAt src i < tbl.size := by unfold hashAt Lz4.hash; omega
  funext k
  unfold lookup Lz4.insert store
  by_cases hk : k = hashAt src i
  · subst hk; simp [hh]
  · simp [hk, Array.getD_eq_getD_getElem?, Ne.symm hk]

theorem size_insert (tbl : Array UInt16) (h pos : Nat) : (Lz4.insert tbl h pos).size = tbl.size := by
  simp [Lz4.insert]

def afterMatchF (src : Bytes) (n ip : Nat) (t : Nat → Nat) : Nat → Nat :=
  if ip + 4 < n then store t (hashAt src (ip - 2)) (ip - 2) else t

def findLoopF (src : Bytes) (n : Nat) : Nat → Nat → Nat → (Nat → Nat) → List Seq → List Seq × Nat
  | 0, _, anchor, _, acc => (acc, anchor)
  | fuel + 1, ip, anchor, t, acc =>
    if ip + 4 < n then
      match probeAt src n ip (t (hashAt src ip)) with
      | some (off, mlen) =>
        findLoopF src n fuel (ip + mlen) (ip + mlen)
          (afterMatchF src n (ip + mlen) (store t (hashAt src ip) ip)) (⟨anchor, ip, off, mlen⟩ :: acc)
      | none => findLoopF src n fuel (ip + 1) anchor (store t (hashAt src ip) ip) acc
    else (acc, anchor)

theorem afterMatch_eq (src : Bytes) (n ip : Nat) (tbl : Array UInt16) (hs : tbl.size = 4096) :
    (afterMatch src n ip tbl).size = 4096 ∧ lookup (afterMatch src n ip tbl) = afterMatchF src n ip (lookup tbl) := by
  unfold afterMatch afterMatchF
  split
  · exact ⟨(size_insert ..).trans hs, lookup_insert _ _ _ _ hs⟩
  · exact ⟨hs, rfl⟩

theorem findLoop_eq (src : Bytes) (n : Nat) : ∀ (fuel ip anchor : Nat) (tbl : Array UInt16) (acc : List Seq),
    tbl.size = 4096 → findLoop src n fuel ip anchor tbl acc = findLoopF src n fuel ip anchor (lookup tbl) acc
  | 0, _, _, _, _, _ => rfl
  | fuel + 1, ip, anchor, tbl, acc, hs => by
    have hs' := (size_insert tbl (hashAt src ip) ip).trans hs
    unfold findLoop findLoopF probe
    split
    · cases probeAt src n ip (lookup tbl (hashAt src ip)) with
      | none => exact (findLoop_eq src n fuel _ _ _ _ hs').trans (by rw [lookup_insert _ _ _ _ hs])
      | some r =>
        obtain ⟨hz, hl⟩ := afterMatch_eq src n (ip + r.2) _ hs'
        exact (findLoop_eq src n fuel _ _ _ _ hz).trans (by rw [hl, lookup_insert _ _ _ _ hs])
    · rfl

def opsF (src : Bytes) : List Seq × Nat :=
  match findLoopF src src.size src.size 0 0 (fun _ => 0) [] with
  | (acc, anchor) => (acc.reverse, anchor)

theorem ops_eq (src : Bytes) : ops src = opsF src := by
  have h0 : lookup emptyTable = fun _ => 0 := by
    funext k; simp [lookup, emptyTable, Array.getD_eq_getD_getElem?, Array.getElem?_replicate]; split <;> rfl
  unfold ops opsF
  rw [findLoop_eq src _ _ _ _ _ _ (by simp [emptyTable]), h0]

def compressF (x : List UInt8) (cap : Nat) : Except Err (List UInt8) :=
  finish (if cap < bound x.length then .error .compression
    else if x.length = 0 then (if cap < 1 then .error .compression else wr #[] cap [0])
    else if x.length < 13 then small x.toArray cap
    else compressMain x.toArray cap (opsF x.toArray))

theorem compress_eq (x : List UInt8) (cap : Nat) : Lz4.compress x cap = compressF x cap := by
  simp only [Lz4.compress, compressA, compressF, ops_eq, List.size_toArray]

end Lz4F

open Carquet.Impl.Writer Carquet.Impl.FileReal

def compressF (oracle : Oracle) (codec : Nat) (x : Bytes) : Option Bytes :=
  if codec = 1 then some (SnappyF.compressF x)
  else if codec = 5 ∨ codec = 7 then (Lz4F.compressF x (Lz4.bound x.length)).toOption
  else FileReal.compress oracle codec x

/-- `FileReal.deps` with the compressors above and the bit-serial CRC-32 -/
def depsF (oracle : Oracle) : Deps :=
  { deps oracle with compress := compressF oracle, crc32 := fun x => (Carquet.Spec.Crc32.crc32 x).toNat }

theorem deps_eq (oracle : Oracle) : deps oracle = depsF oracle := by
  have : FileReal.compress oracle = compressF oracle := by
    funext codec x
    unfold compressF
    split
    · subst codec; simp only [FileReal.compress, SnappyF.compress_eq]
    · split
      · rename_i h
        rcases h with rfl | rfl <;> simp only [FileReal.compress, Lz4F.compress_eq] <;>
          cases Lz4F.compressF x (Lz4.bound x.length) <;> rfl
      · rfl
  have hcrc : FileReal.crc32 = fun x => (Carquet.Spec.Crc32.crc32 x).toNat := by
    funext x; rw [FileReal.crc32, Carquet.Proofs.Crc32.impl_crc32_eq]
  simp only [depsF, deps, this, hcrc]

end Carquet.Proofs.SpecWriter
