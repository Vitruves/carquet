import Carquet.Impl.Varint
import Carquet.Spec.Varint
/-
carquet's zigzag bit tricks (Impl/Varint.lean, on `BitVec`) at every width `n + 1` (32 and 64 bits are
instances): in arithmetic form (`enc_toNat`, `dec_toNat`), as the Spec's functions (`enc_eq_spec`, `dec_toInt`,
`dec_eq_spec`), and their round trips, which are the Spec's.
-/
namespace Carquet.Proofs.Zigzag
open Carquet.Impl.Varint Carquet.Spec

theorem enc_toNat {n : Nat} (v : BitVec (n + 1)) :
    ((v <<< 1) ^^^ v.sshiftRight n).toNat =
      if v.toNat < 2 ^ n then 2 * v.toNat else 2 ^ (n + 2) - 1 - 2 * v.toNat := by
  have hv := v.isLt
  have hpp : 2 ^ (n + 2) = 2 * 2 ^ (n + 1) := Nat.pow_succ'
  have hshl : (v <<< 1).toNat = (2 * v.toNat) % (2 * 2 ^ n) := by
    rw [BitVec.toNat_shiftLeft, Nat.shiftLeft_eq, Nat.pow_one, Nat.mul_comm, Nat.pow_succ']
  by_cases h : v.toNat < 2 ^ n
  · have hm : v.msb = false := by
      rw [BitVec.msb_eq_decide, decide_eq_false_iff_not]; exact Nat.not_le.mpr h
    have hz : v >>> n = 0#(n + 1) := by
      apply BitVec.eq_of_toNat_eq
      rw [BitVec.toNat_ushiftRight, Nat.shiftRight_eq_div_pow, Nat.div_eq_of_lt h]; rfl
    rw [BitVec.sshiftRight_eq_of_msb_false hm, hz, BitVec.xor_zero, hshl, if_pos h]
    exact Nat.mod_eq_of_lt (by omega)
  · have hm : v.msb = true := by
      rw [BitVec.msb_eq_decide, decide_eq_true_iff]; exact Nat.not_lt.mp h
    have hz : ~~~v >>> n = 0#(n + 1) := by
      apply BitVec.eq_of_toNat_eq
      rw [BitVec.toNat_ushiftRight, Nat.shiftRight_eq_div_pow, BitVec.toNat_not, Nat.div_eq_of_lt (by omega)]; rfl
    rw [BitVec.sshiftRight_eq_of_msb_true hm, hz, BitVec.not_zero, BitVec.xor_allOnes, BitVec.toNat_not, hshl,
      if_neg h, Nat.mod_eq_sub_mod (by omega), Nat.mod_eq_of_lt (by omega)]
    omega

theorem dec_toNat {n : Nat} (x : BitVec (n + 1)) :
    ((x >>> 1) ^^^ (-(x &&& 1#(n + 1)))).toNat =
      if x.toNat % 2 = 0 then x.toNat / 2 else 2 ^ (n + 1) - 1 - x.toNat / 2 := by
  have h1 : (x &&& 1#(n + 1)).toNat = x.toNat % 2 := by
    rw [BitVec.toNat_and, BitVec.toNat_ofNat, Nat.mod_eq_of_lt (Nat.one_lt_two_pow (Nat.succ_ne_zero n)),
      Nat.and_one_is_mod]
  by_cases h : x.toNat % 2 = 0
  · rw [BitVec.eq_of_toNat_eq (h1.trans h : _ = (0#(n + 1)).toNat), BitVec.neg_zero, BitVec.xor_zero,
      BitVec.toNat_ushiftRight, if_pos h, Nat.shiftRight_eq_div_pow]
  · have h1' : x &&& 1#(n + 1) = 1#(n + 1) := by
      apply BitVec.eq_of_toNat_eq
      rw [h1, BitVec.toNat_ofNat, Nat.mod_eq_of_lt (Nat.one_lt_two_pow (Nat.succ_ne_zero n))]
      omega
    rw [h1', BitVec.neg_one_eq_allOnes, BitVec.xor_allOnes, BitVec.toNat_not, BitVec.toNat_ushiftRight, if_neg h,
      Nat.shiftRight_eq_div_pow]

theorem enc_eq_spec {n : Nat} (v : BitVec (n + 1)) :
    ((v <<< 1) ^^^ v.sshiftRight n).toNat = Varint.zigzag v.toInt := by
  rw [enc_toNat, BitVec.toInt_eq_toNat_cond]
  have hv := v.isLt
  have hpp : 2 ^ (n + 2) = 2 * 2 ^ (n + 1) := Nat.pow_succ'
  unfold Varint.zigzag
  by_cases h : v.toNat < 2 ^ n
  · rw [if_pos h, if_pos (by omega), if_pos (by omega)]; omega
  · rw [if_neg h, if_neg (by omega), if_neg (by omega)]; omega

/-- the decoder computes the Spec's `unzigzag`, read as a signed number -/
theorem dec_toInt {n : Nat} (x : BitVec (n + 1)) :
    ((x >>> 1) ^^^ (-(x &&& 1#(n + 1)))).toInt = Varint.unzigzag x.toNat := by
  rw [BitVec.toInt_eq_toNat_cond, dec_toNat]
  have hx := x.isLt
  have hpp : 2 ^ (n + 1) = 2 * 2 ^ n := Nat.pow_succ'
  unfold Varint.unzigzag
  by_cases h : x.toNat % 2 = 0
  · rw [if_pos h, if_pos h, if_pos (by omega)]
  · rw [if_neg h, if_neg h, if_neg (by omega)]; omega

theorem dec_eq_spec {n : Nat} (x : BitVec (n + 1)) :
    (x >>> 1) ^^^ (-(x &&& 1#(n + 1))) = BitVec.ofInt (n + 1) (Varint.unzigzag x.toNat) := by
  rw [← dec_toInt, BitVec.ofInt_toInt]

/-! Both directions compute the Spec's functions, so they invert each other because the Spec's do. -/

theorem dec_enc {n : Nat} (v : BitVec (n + 1)) :
    (((v <<< 1) ^^^ v.sshiftRight n) >>> 1) ^^^ (-(((v <<< 1) ^^^ v.sshiftRight n) &&& 1#(n + 1))) = v :=
  BitVec.eq_of_toInt_eq (by rw [dec_toInt, enc_eq_spec, Varint.unzigzag_zigzag])

theorem enc_dec {n : Nat} (x : BitVec (n + 1)) :
    ((((x >>> 1) ^^^ (-(x &&& 1#(n + 1)))) <<< 1) ^^^ ((x >>> 1) ^^^ (-(x &&& 1#(n + 1)))).sshiftRight n) = x :=
  BitVec.eq_of_toNat_eq (by rw [enc_eq_spec, dec_toInt, Varint.zigzag_unzigzag])

theorem roundtrip32 (v : BitVec 32) : zigzagDecode32 (zigzagEncode32 v) = v := dec_enc (n := 31) v
theorem roundtrip32' (x : BitVec 32) : zigzagEncode32 (zigzagDecode32 x) = x := enc_dec (n := 31) x
theorem enc32_eq_spec (v : BitVec 32) : (zigzagEncode32 v).toNat = Varint.zigzag v.toInt := enc_eq_spec (n := 31) v
theorem enc64_toNat (v : BitVec 64) :
    (zigzagEncode64 v).toNat = if v.toNat < 2 ^ 63 then 2 * v.toNat else 2 ^ 65 - 1 - 2 * v.toNat :=
  enc_toNat (n := 63) v
theorem dec64_toNat (x : BitVec 64) :
    (zigzagDecode64 x).toNat = if x.toNat % 2 = 0 then x.toNat / 2 else 2 ^ 64 - 1 - x.toNat / 2 :=
  dec_toNat (n := 63) x
theorem roundtrip64 (v : BitVec 64) : zigzagDecode64 (zigzagEncode64 v) = v := dec_enc (n := 63) v
theorem enc64_eq_spec (v : BitVec 64) : (zigzagEncode64 v).toNat = Varint.zigzag v.toInt := enc_eq_spec (n := 63) v
end Carquet.Proofs.Zigzag
