import Carquet.Spec.Plain
import Carquet.Impl.Plain
import Carquet.Proofs.NatBits
/-
Helper lemmas for the fixed-width PLAIN types (INT32/FLOAT, INT64/DOUBLE, INT96, FLBA): the Spec's
little-endian numbers, memory images, the Spec decoders as "cut the input into `k`-byte pieces",
and the `memcpy` decoders and the INT96 loop on such a cut.
-/
namespace Carquet.Proofs.Plain
open Carquet.Impl.Plain
open Carquet.Spec.Plain (leBytes ofLeBytes)

/-! ### little-endian numbers -/

theorem leBytes_eq : ∀ k n, leBytes k n = Impl.Bitpack.leBytes k n
  | 0, _ => rfl
  | k + 1, n => congrArg _ (leBytes_eq k (n / 256))

theorem ofLeBytes_eq : ∀ bs, ofLeBytes bs = Impl.Bitpack.leNat bs
  | [] => rfl
  | b :: bs => congrArg (b.toNat + 256 * ·) (ofLeBytes_eq bs)

theorem leBytes_length (k n : Nat) : (leBytes k n).length = k := leBytes_eq k n ▸ NatBits.leBytes_length k n

theorem ofLeBytes_lt (bs : List UInt8) {k : Nat} (h : bs.length = k) : ofLeBytes bs < 256 ^ k := by
  rw [ofLeBytes_eq, ← h, ← NatBits.pow256]; exact NatBits.leNat_lt bs

theorem ofLeBytes_append (a b : List UInt8) : ofLeBytes (a ++ b) = ofLeBytes a + 256 ^ a.length * ofLeBytes b := by
  rw [ofLeBytes_eq, ofLeBytes_eq, ofLeBytes_eq, NatBits.leNat_append, NatBits.pow256]

theorem ofLeBytes_leBytes (k n : Nat) : ofLeBytes (leBytes k n) = n % 256 ^ k := by
  rw [ofLeBytes_eq, leBytes_eq, NatBits.leNat_leBytes, NatBits.pow256]

theorem leBytes_add_mul (j k a m : Nat) (h : a < 256 ^ j) :
    leBytes (j + k) (a + 256 ^ j * m) = leBytes j a ++ leBytes k m := by
  rw [leBytes_eq, leBytes_eq, leBytes_eq, ← NatBits.pow256, NatBits.leBytes_append j k a m (NatBits.pow256 j ▸ h)]

/-! ### memory images -/

theorem memU32_length (v : UInt32) : (memU32 v).length = 4 := rfl
theorem memU64_length (v : UInt64) : (memU64 v).length = 8 := rfl

theorem memU32_eq_leBytes (v : UInt32) : memU32 v = leBytes 4 v.toNat := by
  simp [memU32, leBytes, Nat.div_div_eq_div_mul]

theorem memU64_eq_leBytes (v : UInt64) : memU64 v = leBytes 8 v.toNat := by
  simp [memU64, leBytes, Nat.div_div_eq_div_mul]

theorem loadU32_eq_ofLe (b0 b1 b2 b3 : UInt8) : loadU32 b0 b1 b2 b3 = UInt32.ofNat (ofLeBytes [b0, b1, b2, b3]) := by
  simp only [loadU32, ofLeBytes, Nat.mul_add, ← Nat.mul_assoc, Nat.mul_zero, Nat.add_zero, Nat.add_assoc,
    Nat.reduceMul]

theorem loadU64_eq_ofLe (b0 b1 b2 b3 b4 b5 b6 b7 : UInt8) :
    loadU64 b0 b1 b2 b3 b4 b5 b6 b7 = UInt64.ofNat (ofLeBytes [b0, b1, b2, b3, b4, b5, b6, b7]) := by
  simp only [loadU64, ofLeBytes, Nat.mul_add, ← Nat.mul_assoc, Nat.mul_zero, Nat.add_zero, Nat.add_assoc,
    Nat.reduceMul]

theorem ofLe_memU32 (v : UInt32) : UInt32.ofNat (ofLeBytes (memU32 v)) = v := by
  rw [memU32_eq_leBytes, ofLeBytes_leBytes, Nat.mod_eq_of_lt v.toNat_lt, UInt32.ofNat_toNat]

theorem ofLe_memU64 (v : UInt64) : UInt64.ofNat (ofLeBytes (memU64 v)) = v := by
  rw [memU64_eq_leBytes, ofLeBytes_leBytes, Nat.mod_eq_of_lt v.toNat_lt, UInt64.ofNat_toNat]

theorem loadU32_mem (v : UInt32) :
    loadU32 (UInt8.ofNat (v.toNat % 256)) (UInt8.ofNat (v.toNat / 256 % 256))
      (UInt8.ofNat (v.toNat / 65536 % 256)) (UInt8.ofNat (v.toNat / 16777216 % 256)) = v :=
  (loadU32_eq_ofLe _ _ _ _).trans (ofLe_memU32 v)

theorem load32s_append : ∀ (c : List UInt8), c.length = 4 → ∀ rest,
    load32s (c ++ rest) = UInt32.ofNat (ofLeBytes c) :: load32s rest
  | [b0, b1, b2, b3], _, rest => by simp only [List.cons_append, List.nil_append, load32s, loadU32_eq_ofLe]

theorem load64s_append : ∀ (c : List UInt8), c.length = 8 → ∀ rest,
    load64s (c ++ rest) = UInt64.ofNat (ofLeBytes c) :: load64s rest
  | [b0, b1, b2, b3, b4, b5, b6, b7], _, rest => by
    simp only [List.cons_append, List.nil_append, load64s, loadU64_eq_ofLe]

/-! ### cutting an input into `n` pieces of `k` bytes -/

theorem exists_cut {α : Type} (k : Nat) : ∀ (n : Nat) (input : List α), n * k ≤ input.length →
    ∃ cs : List (List α), cs.length = n ∧ (∀ c ∈ cs, c.length = k) ∧ cs.flatten = input.take (n * k)
  | 0, input, _ => ⟨[], rfl, by simp, by simp⟩
  | n + 1, input, h => by
    have e : (n + 1) * k = k + n * k := by rw [Nat.succ_mul, Nat.add_comm]
    rw [e] at h ⊢
    obtain ⟨cs, h1, h2, h3⟩ := exists_cut k n (input.drop k) (by rw [List.length_drop]; omega)
    exact ⟨input.take k :: cs, by rw [List.length_cons, h1],
      List.forall_mem_cons.mpr ⟨by rw [List.length_take]; omega, h2⟩, by rw [List.flatten_cons, h3, ← List.take_add]⟩

/-! ### the Spec decoders of fixed-width values -/

theorem spec_decodeFlba_encode (k : Nat) (vs : List (List UInt8)) (hv : ∀ v ∈ vs, v.length = k)
    (rest : List UInt8) :
    Spec.Plain.decodeFlba k vs.length (Spec.Plain.encodeFlba vs ++ rest) = some (vs, rest) := by
  induction vs with
  | nil => simp [Spec.Plain.decodeFlba, Spec.Plain.encodeFlba]
  | cons v vs ih =>
    have hk : v.length = k := hv v (by simp)
    have ih' := ih (fun w hw => hv w (by simp [hw]))
    simp only [Spec.Plain.encodeFlba, List.flatten_cons, List.append_assoc, List.length_cons,
      Spec.Plain.decodeFlba] at ih' ⊢
    rw [if_neg (by simp [hk]), List.take_left' hk, List.drop_left' hk, ih']

theorem spec_decodeFlba_none (k : Nat) : ∀ (n : Nat) (bs : List UInt8), bs.length < n * k →
    Spec.Plain.decodeFlba k n bs = none
  | 0, bs, h => by simp at h
  | n + 1, bs, h => by
    rw [Spec.Plain.decodeFlba]
    by_cases hk : bs.length < k
    · rw [if_pos hk]
    · rw [if_neg hk, spec_decodeFlba_none k n (bs.drop k) (by rw [List.length_drop]; rw [Nat.succ_mul] at h; omega)]

theorem decodeFixed_eq_decodeFlba (k : Nat) : ∀ (n : Nat) (bs : List UInt8),
    Spec.Plain.decodeFixed k n bs =
      (Spec.Plain.decodeFlba k n bs).map (fun p => (p.1.map ofLeBytes, p.2))
  | 0, bs => rfl
  | n + 1, bs => by
    rw [Spec.Plain.decodeFixed, Spec.Plain.decodeFlba, decodeFixed_eq_decodeFlba k n]
    split
    · rfl
    · cases Spec.Plain.decodeFlba k n (bs.drop k) <;> rfl

theorem spec_decodeFixed_none (k n : Nat) (bs : List UInt8) (h : bs.length < n * k) :
    Spec.Plain.decodeFixed k n bs = none := by
  rw [decodeFixed_eq_decodeFlba, spec_decodeFlba_none k n bs h]; rfl

theorem spec_decodeFixed_encode (k : Nat) (ns : List Nat) (rest : List UInt8)
    (h : ∀ n ∈ ns, n < 256 ^ k) :
    Spec.Plain.decodeFixed k ns.length (Spec.Plain.encodeFixed k ns ++ rest) = some (ns, rest) := by
  have hd := spec_decodeFlba_encode k (ns.map (leBytes k)) (by simp [leBytes_length]) rest
  rw [List.length_map, Spec.Plain.encodeFlba, ← List.flatMap_def] at hd
  rw [decodeFixed_eq_decodeFlba, Spec.Plain.encodeFixed, hd, Option.map_some, List.map_map]
  have : ns.map (ofLeBytes ∘ leBytes k) = ns.map id :=
    List.map_congr_left fun n hn => by rw [Function.comp, ofLeBytes_leBytes, Nat.mod_eq_of_lt (h n hn)]; rfl
  rw [this, List.map_id]

theorem spec_decode_cut (k n : Nat) (input : List UInt8) (h : n * k ≤ input.length) :
    ∃ cs : List (List UInt8), cs.length = n ∧ (∀ c ∈ cs, c.length = k) ∧ cs.flatten = input.take (n * k) ∧
      Spec.Plain.decodeFlba k n input = some (cs, input.drop (n * k)) ∧
      Spec.Plain.decodeFixed k n input = some (cs.map ofLeBytes, input.drop (n * k)) := by
  obtain ⟨cs, h1, h2, h3⟩ := exists_cut k n input h
  have hd := spec_decodeFlba_encode k cs h2 (input.drop (n * k))
  rw [Spec.Plain.encodeFlba, h3, List.take_append_drop, h1] at hd
  exact ⟨cs, h1, h2, h3, hd, by rw [decodeFixed_eq_decodeFlba, hd]; rfl⟩

/-! ### the `memcpy` decoders -/

theorem sizeMul_of_lt {n k : Nat} (h : n * k < 2 ^ 64) : sizeMul n k = n * k :=
  Nat.mod_eq_of_lt h

theorem sizeMul_le (n k : Nat) : sizeMul n k ≤ n * k := Nat.mod_le _ _

theorem ok_spec {α : Type} {vals : α} {s : Nat} {P : α → Nat → Prop} (h : P vals s) :
    Res.ok vals s ≠ .oob ∧ ∀ v c, Res.ok vals s = .ok v c → P v c :=
  ⟨by simp, fun v c e => by cases e; exact h⟩

/-- The shape shared by the decoders that copy after one size check: no out-of-bounds outcome, and
a reported size within the input. -/
theorem checked_copy_in_input {α : Type} (p : Prop) [Decidable p] (len s : Nat) (vals : α) :
    (if p then Res.err else if len < s then .err else .ok vals s) ≠ .oob ∧
    ∀ v c, (if p then Res.err else if len < s then .err else .ok vals s) = .ok v c → c ≤ len := by
  by_cases hp : p
  · simp [hp]
  · by_cases hs : len < s
    · simp [hp, hs]
    · simp only [if_neg hp, if_neg hs, ne_eq, reduceCtorEq, not_false_eq_true, Res.ok.injEq, true_and]
      intro v c e; omega

/-! ### typed arrays of `k`-byte elements

`loads` reads a typed array from its memory image (`load32s`, `load64s`), one element per `k`
bytes; `conv` makes an element from its number, `mem` is an element's image. -/

section words
variable {α : Type} {k : Nat} {loads : List UInt8 → List α} {conv : Nat → α} {mem : α → List UInt8}

theorem loads_flatten (hnil : loads [] = [])
    (happ : ∀ c, c.length = k → ∀ rest, loads (c ++ rest) = conv (ofLeBytes c) :: loads rest)
    (cs : List (List UInt8)) (h : ∀ c ∈ cs, c.length = k) :
    loads cs.flatten = (cs.map ofLeBytes).map conv := by
  induction cs with
  | nil => exact hnil
  | cons c cs ih =>
    rw [List.flatten_cons, happ c (h c (by simp)), ih (fun d hd => h d (by simp [hd])), List.map_cons,
      List.map_cons]

variable (hfl : ∀ cs : List (List UInt8), (∀ c ∈ cs, c.length = k) → loads cs.flatten = (cs.map ofLeBytes).map conv)
include hfl

theorem checked_copy_eq_spec (input : List UInt8) (n : Nat) (h : n * k < 2 ^ 64) :
    (if input.length < sizeMul n k then Res.err
      else .ok (loads (input.take (sizeMul n k))) (sizeMul n k)) =
      match Spec.Plain.decodeFixed k n input with
      | none => .err
      | some (ns, _) => .ok (ns.map conv) (n * k) := by
  rw [sizeMul_of_lt h]
  by_cases hl : input.length < n * k
  · rw [if_pos hl, spec_decodeFixed_none k n input hl]
  · obtain ⟨cs, _, h2, h3, _, h5⟩ := spec_decode_cut k n input (by omega)
    rw [if_neg hl, h5, ← h3, hfl cs h2]

variable (hlen : ∀ v, (mem v).length = k) (hinv : ∀ v, conv (ofLeBytes (mem v)) = v)
include hlen hinv

theorem loads_encode (vs : List α) : loads (vs.flatMap mem) = vs ∧ (vs.flatMap mem).length = vs.length * k := by
  constructor
  · rw [List.flatMap_def, hfl _ (by simp [hlen]), List.map_map, List.map_map]
    exact (List.map_congr_left fun v _ => hinv v).trans (List.map_id _)
  · induction vs with
    | nil => simp
    | cons v vs ih => rw [List.flatMap_cons, List.length_append, hlen, ih, List.length_cons, Nat.succ_mul, Nat.add_comm]

theorem checked_copy_encode (vs : List α) (extra : List UInt8) (h : vs.length * k < 2 ^ 64) :
    (if (vs.flatMap mem ++ extra).length < sizeMul vs.length k then Res.err
      else .ok (loads ((vs.flatMap mem ++ extra).take (sizeMul vs.length k))) (sizeMul vs.length k)) =
      .ok vs (vs.length * k) := by
  obtain ⟨h1, h2⟩ := loads_encode hfl hlen hinv vs
  rw [sizeMul_of_lt h, if_neg (by rw [List.length_append, h2]; omega), ← h2, List.take_left, h1]

end words

theorem load32s_flatten (cs : List (List UInt8)) (h : ∀ c ∈ cs, c.length = 4) :
    load32s cs.flatten = (cs.map ofLeBytes).map UInt32.ofNat := loads_flatten rfl load32s_append cs h

theorem load64s_flatten (cs : List (List UInt8)) (h : ∀ c ∈ cs, c.length = 8) :
    load64s cs.flatten = (cs.map ofLeBytes).map UInt64.ofNat := loads_flatten rfl load64s_append cs h

theorem load32s_encode (vs : List UInt32) : load32s (vs.flatMap memU32) = vs :=
  (loads_encode load32s_flatten memU32_length ofLe_memU32 vs).1

theorem load64s_encode (vs : List UInt64) : load64s (vs.flatMap memU64) = vs :=
  (loads_encode load64s_flatten memU64_length ofLe_memU64 vs).1

theorem length_encode32 (vs : List UInt32) : (vs.flatMap memU32).length = vs.length * 4 :=
  (loads_encode load32s_flatten memU32_length ofLe_memU32 vs).2

theorem length_encode64 (vs : List UInt64) : (vs.flatMap memU64).length = vs.length * 8 :=
  (loads_encode load64s_flatten memU64_length ofLe_memU64 vs).2

theorem decodeInt32_encode (vs : List UInt32) (extra : List UInt8) (h : vs.length * 4 < 2 ^ 64) :
    decodeInt32 (encodeInt32 vs ++ extra) vs.length = .ok vs (vs.length * 4) := by
  rw [decodeInt32, if_neg (by omega)]
  exact checked_copy_encode load32s_flatten memU32_length ofLe_memU32 vs extra h

theorem decodeInt64_encode (vs : List UInt64) (extra : List UInt8) (h : vs.length * 8 < 2 ^ 64) :
    decodeInt64 (encodeInt64 vs ++ extra) vs.length = .ok vs (vs.length * 8) := by
  rw [decodeInt64, if_neg (by omega)]
  exact checked_copy_encode load64s_flatten memU64_length ofLe_memU64 vs extra h

theorem decodeFlba_eq_spec (input : List UInt8) (n k : Nat) (hk : 0 < k) (h : n * k < 2 ^ 64) :
    decodeFlba input n k =
      match Spec.Plain.decodeFlba k n input with
      | none => .err
      | some (vs, _) => .ok vs.flatten (n * k) := by
  simp only [decodeFlba, Int.toNat_natCast, sizeMul_of_lt h]
  rw [if_neg (by omega)]
  by_cases hl : input.length < n * k
  · rw [if_pos hl, spec_decodeFlba_none k n input hl]
  · obtain ⟨cs, _, _, h3, h4, _⟩ := spec_decode_cut k n input (by omega)
    rw [if_neg hl, h4]
    simp only [h3]

/-! ### INT96 -/

theorem int96ToNat_mk (a b c : UInt32) :
    int96ToNat (a, b, c) = a.toNat + 256 ^ 4 * (b.toNat + 256 ^ 4 * c.toNat) := by
  simp only [int96ToNat]; omega

theorem int96ToNat_lt (v : Int96) : int96ToNat v < 256 ^ 12 := by
  obtain ⟨a, b, c⟩ := v
  have ha := a.toNat_lt; have hb := b.toNat_lt; have hc := c.toNat_lt
  rw [int96ToNat_mk]; omega

theorem int96_eq_leBytes (v : Int96) :
    memU32 v.1 ++ memU32 v.2.1 ++ memU32 v.2.2 = leBytes 12 (int96ToNat v) := by
  obtain ⟨a, b, c⟩ := v
  rw [int96ToNat_mk, show (12 : Nat) = 4 + (4 + 4) from rfl, leBytes_add_mul 4 _ _ _ a.toNat_lt,
    leBytes_add_mul 4 _ _ _ b.toNat_lt, memU32_eq_leBytes, memU32_eq_leBytes, memU32_eq_leBytes,
    List.append_assoc]

/-- the number three `carquet_read_u32_le` assemble is the Spec's 12-byte little-endian number -/
theorem int96_load_eq_ofLe (b0 b1 b2 b3 b4 b5 b6 b7 b8 b9 b10 b11 : UInt8) :
    int96ToNat (loadU32 b0 b1 b2 b3, loadU32 b4 b5 b6 b7, loadU32 b8 b9 b10 b11) =
      ofLeBytes [b0, b1, b2, b3, b4, b5, b6, b7, b8, b9, b10, b11] := by
  have h1 : ofLeBytes [b0, b1, b2, b3] < 256 ^ 4 := ofLeBytes_lt _ rfl
  have h2 : ofLeBytes [b4, b5, b6, b7] < 256 ^ 4 := ofLeBytes_lt _ rfl
  have h3 : ofLeBytes [b8, b9, b10, b11] < 256 ^ 4 := ofLeBytes_lt _ rfl
  have e := ofLeBytes_append [b0, b1, b2, b3] ([b4, b5, b6, b7] ++ [b8, b9, b10, b11])
  rw [ofLeBytes_append [b4, b5, b6, b7]] at e
  simp only [List.cons_append, List.nil_append, List.length_cons, List.length_nil] at e
  rw [int96ToNat_mk, loadU32_eq_ofLe, loadU32_eq_ofLe, loadU32_eq_ofLe, UInt32.toNat_ofNat',
    UInt32.toNat_ofNat', UInt32.toNat_ofNat', e]
  omega

theorem loop96_mem (a b c : UInt32) (n : Nat) (rest : List UInt8) :
    loop96 (n + 1) (memU32 a ++ memU32 b ++ memU32 c ++ rest) =
      match loop96 n rest with
      | some vs => some ((a, b, c) :: vs)
      | none => none := by
  simp only [memU32, List.cons_append, List.nil_append, loop96, loadU32_mem]
  cases loop96 n rest <;> rfl

theorem loop96_encode (vs : List Int96) (extra : List UInt8) :
    loop96 vs.length (encodeInt96 vs ++ extra) = some vs := by
  induction vs with
  | nil => simp [loop96]
  | cons v vs ih =>
    obtain ⟨a, b, c⟩ := v
    have e : encodeInt96 ((a, b, c) :: vs) ++ extra
        = memU32 a ++ memU32 b ++ memU32 c ++ (encodeInt96 vs ++ extra) := by
      simp [encodeInt96, List.flatMap_cons]
    rw [e, List.length_cons, loop96_mem, ih]

theorem length_encode96 (vs : List Int96) : (encodeInt96 vs).length = vs.length * 12 := by
  induction vs with
  | nil => rfl
  | cons v vs ih =>
    simp only [encodeInt96, List.flatMap_cons, List.length_append, memU32_length, List.length_cons] at ih ⊢
    omega

theorem decodeInt96_encode (vs : List Int96) (extra : List UInt8) (h : vs.length * 12 < 2 ^ 64) :
    decodeInt96 (encodeInt96 vs ++ extra) vs.length = .ok vs (vs.length * 12) := by
  have hl := length_encode96 vs
  simp only [decodeInt96, Int.toNat_natCast, sizeMul_of_lt h]
  rw [if_neg (by omega), if_neg (by simp [hl]), loop96_encode]

theorem loop96_append : ∀ c : List UInt8, c.length = 12 → ∀ (n : Nat) (rest : List UInt8),
    ∃ w, int96ToNat w = ofLeBytes c ∧ loop96 (n + 1) (c ++ rest) = (loop96 n rest).map (w :: ·)
  | [b0, b1, b2, b3, b4, b5, b6, b7, b8, b9, b10, b11], _, n, rest =>
    ⟨_, int96_load_eq_ofLe b0 b1 b2 b3 b4 b5 b6 b7 b8 b9 b10 b11, by
      simp only [List.cons_append, List.nil_append, loop96]
      cases loop96 n rest <;> rfl⟩

theorem loop96_flatten (cs : List (List UInt8)) (h : ∀ c ∈ cs, c.length = 12) (rest : List UInt8) :
    ∃ vs, loop96 cs.length (cs.flatten ++ rest) = some vs ∧ vs.map int96ToNat = cs.map ofLeBytes := by
  induction cs with
  | nil => exact ⟨[], rfl, rfl⟩
  | cons c cs ih =>
    obtain ⟨vs, hv, hm⟩ := ih (fun d hd => h d (by simp [hd]))
    obtain ⟨w, hw, hl⟩ := loop96_append c (h c (by simp)) cs.length (cs.flatten ++ rest)
    exact ⟨w :: vs, by rw [List.length_cons, List.flatten_cons, List.append_assoc, hl, hv]; rfl,
      by rw [List.map_cons, List.map_cons, hw, hm]⟩

theorem loop96_take_spec (n : Nat) (input : List UInt8) (h : n * 12 ≤ input.length) :
    ∃ ns vs, Spec.Plain.decodeFixed 12 n input = some (ns, input.drop (n * 12)) ∧
      loop96 n input = some vs ∧ vs.map int96ToNat = ns ∧ vs.length = n := by
  obtain ⟨cs, h1, h2, h3, _, h5⟩ := spec_decode_cut 12 n input h
  obtain ⟨vs, hv, hm⟩ := loop96_flatten cs h2 (input.drop (n * 12))
  rw [h1, h3, List.take_append_drop] at hv
  exact ⟨_, vs, h5, hv, hm, by rw [← h1, ← List.length_map (f := int96ToNat), hm, List.length_map]⟩

theorem decodeInt96_eq_spec (input : List UInt8) (n : Nat) (h : n * 12 < 2 ^ 64) :
    match Spec.Plain.decodeFixed 12 n input with
    | none => decodeInt96 input n = .err
    | some (ns, _) => ∃ vs, decodeInt96 input n = .ok vs (n * 12) ∧ vs.map int96ToNat = ns := by
  by_cases hl : input.length < n * 12
  · rw [spec_decodeFixed_none 12 n input hl]
    simp only [decodeInt96, Int.toNat_natCast, sizeMul_of_lt h]
    rw [if_neg (by omega), if_pos hl]
  · obtain ⟨ns, vs, h1, h2, h3, _⟩ := loop96_take_spec n input (by omega)
    rw [h1]
    refine ⟨vs, ?_, h3⟩
    simp only [decodeInt96, Int.toNat_natCast, sizeMul_of_lt h]
    rw [if_neg (by omega), if_neg hl, h2]

end Carquet.Proofs.Plain
