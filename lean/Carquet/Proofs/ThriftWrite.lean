import Carquet.Proofs.ThriftSpec
import Carquet.Impl.ThriftParquet
import Carquet.Spec.ParquetThriftValue
/-
The writers of parquet_types.c produce exactly the canonical compact-protocol encoding
(`Spec.Thrift.encode`) of the Thrift value parquet.thrift assigns to the structure.
-/
namespace Carquet.Proofs.Thrift
open Carquet.Spec.Thrift Carquet.Spec.ParquetThrift
open Carquet.Impl.Thrift
open Carquet.Impl.ThriftParquet

/-! ### encoder primitives -/

@[simp] theorem append_out (e : Enc) (bs : List UInt8) : (e.append bs).out = e.out ++ bs := by
  simp [Enc.append, Enc.out, List.reverseAux_eq]
@[simp] theorem out_mk (r : List UInt8) (l : List Int) (st : Option Err) : (Enc.mk r l st).out = r.reverse := rfl
@[simp] theorem append_lastId (e : Enc) (bs : List UInt8) : (e.append bs).lastId = e.lastId := rfl
@[simp] theorem append_status (e : Enc) (bs : List UInt8) : (e.append bs).status = e.status := rfl

theorem toU64_nat (n : Nat) (h : n < 2 ^ 64) : toU64 (n : Int) = n := by
  have h2 : (2:Nat)^64 = 18446744073709551616 := by decide
  rw [h2] at h
  unfold toU64
  omega

def lastOfF (last : Int) : Fields → Int
  | [] => last
  | (id, _) :: r => lastOfF id r

theorem encodeFields_append (a b : Fields) : ∀ last, encodeFields last (a ++ b) = encodeFields last a ++ encodeFields (lastOfF last a) b := by
  induction a with
  | nil => intro last; simp [encodeFields, lastOfF]
  | cons f r ih =>
    obtain ⟨id, v⟩ := f
    intro last
    simp only [List.cons_append, encodeFields_cons, ih, lastOfF, List.append_assoc]

theorem lastOfF_append (a b : Fields) : ∀ last, lastOfF last (a ++ b) = lastOfF (lastOfF last a) b := by
  induction a with
  | nil => intro last; rfl
  | cons f r ih => obtain ⟨id, v⟩ := f; intro last; simp only [List.cons_append, lastOfF, ih]

/-- `thrift_write_field_header` writes the canonical header -/
theorem writeFieldHeader_spec (e : Enc) (code : Nat) (id last : Int) (stk : List Int) (hl : e.lastId = last :: stk)
    (hc : code ≤ 15) (h0 : 0 ≤ last) (h1 : last ≤ 32767) (hi0 : 0 ≤ id) (hi1 : id ≤ 32767) :
    (writeFieldHeader e code id).out = e.out ++ fieldHdr last id code ∧
    (writeFieldHeader e code id).lastId = id :: stk ∧ (writeFieldHeader e code id).status = e.status := by
  have hd : toI16 (id - last) = id - last := by unfold toI16; omega
  have hc' : code % 16 = code := by omega
  unfold writeFieldHeader fieldHdr
  simp only [hl, List.headD_cons, hd]
  by_cases hs : 0 < id - last ∧ id - last ≤ 15
  · have hm : (id - last).toNat % 16 = (id - last).toNat := by omega
    rw [if_pos hs, if_pos hs]
    refine ⟨?_, rfl, rfl⟩
    simp [writeByte, shortFieldHdr, hm, hc', Enc.out, Enc.append, List.reverseAux_eq]
  · rw [if_neg hs, if_neg hs]
    refine ⟨?_, rfl, rfl⟩
    simp [writeI, writeZigzag, writeVarint, writeByte, longFieldHdr, varintBytes_eq, zigzagEnc_eq, hc', Enc.out,
      Enc.append, List.reverseAux_eq]

/-! ### writers against the canonical encoder -/

/-- `w` appends the canonical encoding of the value `v` (needing `k` nesting levels) -/
def ValW (k : Nat) (w : Enc → Enc) (v : TVal) : Prop :=
  ∀ e : Enc, e.status = none → e.lastId.length + k ≤ maxNesting →
    (w e).out = e.out ++ encodeVal v ∧ (w e).lastId = e.lastId ∧ (w e).status = none

/-- `w` appends, inside a struct whose previous field id is `last`, the canonical encoding of the
fields `fs` -/
def FieldsW (k : Nat) (w : Enc → Enc) (fs : Fields) : Prop :=
  ∀ (e : Enc) (last : Int) (stk : List Int), e.lastId = last :: stk → e.status = none → 0 ≤ last → last ≤ 32767 →
    stk.length + 1 + k ≤ maxNesting →
    (w e).out = e.out ++ encodeFields last fs ∧ (w e).lastId = lastOfF last fs :: stk ∧ (w e).status = none ∧
      0 ≤ lastOfF last fs ∧ lastOfF last fs ≤ 32767

theorem FieldsW.nil (k : Nat) : FieldsW k (fun e => e) [] := by
  intro e last stk hl hs h0 h1 _
  simp [encodeFields, lastOfF, hl, hs, h0, h1]

theorem FieldsW.comp {k : Nat} {w1 w2 : Enc → Enc} {f1 f2 : Fields} (h1 : FieldsW k w1 f1) (h2 : FieldsW k w2 f2) :
    FieldsW k (fun e => w2 (w1 e)) (f1 ++ f2) := by
  intro e last stk hl hs h0 hm hroom
  obtain ⟨a1, a2, a3, a4, a5⟩ := h1 e last stk hl hs h0 hm hroom
  obtain ⟨b1, b2, b3, b4, b5⟩ := h2 (w1 e) _ stk a2 a3 a4 a5 hroom
  refine ⟨?_, ?_, b3, ?_, ?_⟩
  · rw [b1, a1, encodeFields_append, List.append_assoc]
  · rw [b2, lastOfF_append]
  · rw [lastOfF_append]; exact b4
  · rw [lastOfF_append]; exact b5

theorem FieldsW.mono {k k' : Nat} {w : Enc → Enc} {fs : Fields} (h : FieldsW k w fs) (hk : k ≤ k') : FieldsW k' w fs :=
  fun e last stk hl hs h0 h1 hroom => h e last stk hl hs h0 h1 (by omega)

theorem ValW.mono {k k' : Nat} {w : Enc → Enc} {v : TVal} (h : ValW k w v) (hk : k ≤ k' := by omega) : ValW k' w v :=
  fun e hs hroom => h e hs (by omega)

/-- a field with value bytes: header, then the value -/
theorem FieldsW.field {k : Nat} (id : Int) (code : Nat) (wv : Enc → Enc) (v : TVal)
    (hnb : v.ty ≠ .bool) (hcode : code = v.ty.code) (hv : ValW k wv v) (hi0 : 0 ≤ id := by omega) (hi1 : id ≤ 32767 := by omega) :
    FieldsW k (fun e => wv (writeFieldHeader e code id)) (f1 id v) := by
  intro e last stk hl hs h0 h1 hroom
  have hc : code ≤ 15 := by rw [hcode]; have := code_pos v.ty; omega
  obtain ⟨a1, a2, a3⟩ := writeFieldHeader_spec e code id last stk hl hc h0 h1 hi0 hi1
  obtain ⟨b1, b2, b3⟩ := hv (writeFieldHeader e code id) (by rw [a3]; exact hs) (by rw [a2]; simp; omega)
  have hfc : fieldCode v = code := by
    rw [hcode]; cases v <;> simp_all [fieldCode, TVal.ty]
  have hfb := fieldBytes_of_ne_bool hnb
  refine ⟨?_, ?_, b3, ?_, ?_⟩
  · rw [b1, a1]
    simp only [f1, encodeFields_cons, hfc, hfb, encodeFields, List.append_nil, List.append_assoc]
  · rw [b2, a2]; rfl
  · simpa [f1, lastOfF] using hi0
  · simpa [f1, lastOfF] using hi1

/-- a bool field: the value is the header's type nibble -/
theorem FieldsW.boolField {k : Nat} (id : Int) (b : Bool) (hi0 : 0 ≤ id := by omega) (hi1 : id ≤ 32767 := by omega) :
    FieldsW k (fun e => writeFieldHeader e (tBool b) id) (f1 id (.bool b)) := by
  intro e last stk hl hs h0 h1 _
  have hc : tBool b ≤ 15 := by cases b <;> simp [tBool]
  obtain ⟨a1, a2, a3⟩ := writeFieldHeader_spec e (tBool b) id last stk hl hc h0 h1 hi0 hi1
  have hfc : fieldCode (.bool b) = tBool b := by cases b <;> rfl
  refine ⟨?_, ?_, by rw [a3]; exact hs, ?_, ?_⟩
  · rw [a1]; simp only [f1, encodeFields_cons, hfc, fieldBytes, encodeFields, List.append_nil]
  · rw [a2]; rfl
  · simpa [f1, lastOfF] using hi0
  · simpa [f1, lastOfF] using hi1

theorem writeStructEnd_out (x : Enc) : (writeStructEnd x).out = x.out ++ [0] := by
  simp [writeStructEnd, writeFieldStop, writeByte, Enc.out, Enc.append, List.reverseAux_eq]
theorem with_lastId_out (e : Enc) (l : List Int) : ({ e with lastId := l } : Enc).out = e.out := rfl

/-- a struct value: begin, fields, stop -/
theorem ValW.struct {k : Nat} (w : Enc → Enc) (fs : Fields) (h : FieldsW k w fs) :
    ValW (k + 1) (fun e => writeStructEnd (w (writeStructBegin e))) (.struct fs) := by
  intro e hs hroom
  have hb : writeStructBegin e = { e with lastId := 0 :: e.lastId } := by
    unfold writeStructBegin; rw [if_neg (by omega)]
  obtain ⟨a1, a2, a3, _, _⟩ := h { e with lastId := 0 :: e.lastId } 0 e.lastId rfl hs (by omega) (by omega) (by omega)
  dsimp only
  rw [hb]
  refine ⟨?_, ?_, ?_⟩
  · rw [writeStructEnd_out, a1, with_lastId_out]
    simp [encodeVal]
  · simp [writeStructEnd, a2]
  · simp [writeStructEnd, writeFieldStop, writeByte, a3]

theorem ValW.int (f : Int → TVal) (hf : ∀ x, encodeVal (f x) = uleb (zigzag x)) (x : Int) :
    ValW 0 (fun e => writeI e x) (f x) := by
  intro e hs _
  simp [writeI, writeZigzag, writeVarint, varintBytes_eq, zigzagEnc_eq, hf, hs]

theorem ValW.i16 (x : Int) : ValW 0 (fun e => writeI e x) (.i16 x) := ValW.int .i16 (fun _ => rfl) x
theorem ValW.i32 (x : Int) : ValW 0 (fun e => writeI e x) (.i32 x) := ValW.int .i32 (fun _ => rfl) x
theorem ValW.i64 (x : Int) : ValW 0 (fun e => writeI e x) (.i64 x) := ValW.int .i64 (fun _ => rfl) x

theorem byteOfI8_eq (x : Int) : byteOfI8 x = byteOf x := rfl

theorem ValW.i8 (x : Int) : ValW 0 (fun e => writeByte e (byteOfI8 x)) (.i8 x) := by
  intro e hs _
  simp [writeByte, encodeVal, byteOfI8_eq, hs]

theorem ValW.binary (b : Bytes) : ValW 0 (fun e => writeBinary e b) (.binary b) := by
  intro e hs _
  simp [writeBinary, writeVarint, varintBytes_eq, encodeVal, hs]

/-- a list: header, then the elements -/
theorem ValW.list {α : Type} {k : Nat} (et : TType) (f : Enc → α → Enc) (tv : α → TVal) (xs : List α)
    (hlen : xs.length < 2 ^ 31) (hx : ∀ x ∈ xs, ValW k (fun e => f e x) (tv x)) :
    ValW k (fun e => wEach f (writeListBegin e et.code (xs.length : Int)) xs) (.list et (xs.map tv)) := by
  intro e hs hroom
  dsimp only
  rw [two_pow_31] at hlen
  have hcp := code_pos et
  have hhdr : (writeListBegin e et.code (xs.length : Int)).out = e.out ++ listHdr et xs.length ∧
      (writeListBegin e et.code (xs.length : Int)).lastId = e.lastId ∧
      (writeListBegin e et.code (xs.length : Int)).status = none := by
    unfold writeListBegin listHdr
    have hc' : et.code % 16 = et.code := by omega
    by_cases h15 : xs.length < 15
    · have : ((xs.length : Int) < 15) := by omega
      have hm : ((xs.length : Int) % 16).toNat = xs.length := by omega
      simp [this, h15, writeByte, shortListHdr, hm, hc', hs]
    · have : ¬ ((xs.length : Int) < 15) := by omega
      have hu := toU64_nat xs.length (Nat.lt_trans hlen (by decide))
      simp [this, h15, writeByte, writeVarint, longListHdr, varintBytes_eq, hu, hc', hs]
  obtain ⟨a1, a2, a3⟩ := hhdr
  have key : ∀ (ys : List α) (e' : Enc), (∀ y ∈ ys, ValW k (fun e => f e y) (tv y)) → e'.status = none →
      e'.lastId.length + k ≤ maxNesting →
      (wEach f e' ys).out = e'.out ++ encodeElems (ys.map tv) ∧ (wEach f e' ys).lastId = e'.lastId ∧
        (wEach f e' ys).status = none := by
    intro ys
    induction ys with
    | nil => intro e' _ hs' _; simp [wEach, encodeElems, hs']
    | cons y r ih =>
      intro e' hy hs' hr'
      obtain ⟨b1, b2, b3⟩ := hy y List.mem_cons_self e' hs' hr'
      obtain ⟨c1, c2, c3⟩ := ih (f e' y) (fun z hz => hy z (List.mem_cons_of_mem _ hz)) b3 (by rw [b2]; exact hr')
      simp only [wEach, List.foldl_cons] at c1 c2 c3 ⊢
      refine ⟨?_, by rw [c2, b2], c3⟩
      rw [c1, b1]
      simp [encodeElems]
  obtain ⟨c1, c2, c3⟩ := key xs _ hx a3 (by rw [a2]; exact hroom)
  refine ⟨?_, by rw [c2, a2], c3⟩
  rw [c1, a1]
  simp [encodeVal]

end Carquet.Proofs.Thrift
