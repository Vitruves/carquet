import Carquet.Proofs.ImplReadsChunk
/-
C06, implementation half — stage "one chunk, read completely": the chunk `writeChunk` lays out at
file offset `pos`, read through the column reader that `get_column` creates for it with ONE
`carquet_column_read_batch` of `num_values` entries (with or without level arrays), yields every entry:
definition level, repetition level, and the dense values of the entries that carry one.
-/
namespace Carquet.Proofs.ImplReads
open Carquet.Spec Carquet.Spec.File Carquet.Spec.Thrift
open Carquet.Impl
open Carquet.Impl.Reader hiding Bytes
open Carquet.Proofs.SpecFile (PageAdm DictAdm ChunkAdm writeChunk_adm chunkDesc)
open Carquet.Proofs.Cursor
open Carquet.Spec.Cursor (Row)

/-! ### rows of the decoded pages -/

theorem fill_nil_zero {β : Type} : fill ([] : List β) 0 = [] := by simp [fill]

/-- **the column reader over the decoded pages**: one `read_batch` of all entries -/
theorem readBatch_parts (leaf : LeafInfo) (ch : ColumnReader.Chunk Bytes) (parts : List (List Entry))
    (hparts : ∀ p ∈ parts, ∀ e ∈ p, wellFormedEntry leaf e = true)
    (hpages : ch.pages = (parts.map decodedOfEntries).map (fun d => some (cursorPage d)))
    (hmd : ch.maxDef = leaf.maxDef) (hnv : ch.numValues = (parts.flatten.length : Int))
    (hsmall : parts.flatten.length < 2147483648) (wd wr : Bool) :
    ∃ rows, ResOk wd wr parts.flatten.length
        (ColumnReader.readBatch ColumnReader.Fixes.all (ColumnReader.getColumn ch) ch.numValues wd wr).2 rows ∧
      rows.map (·.defLevel) = parts.flatten.map (·.dl) ∧ rows.map (·.repLevel) = parts.flatten.map (·.rep) ∧
      rows.filterMap (·.val) = parts.flatten.filterMap (·.val) ∧ rows.length = parts.flatten.length ∧
      ∀ row ∈ rows, Row.WF leaf.maxDef row := by
  have hq : ∀ q ∈ (parts.map decodedOfEntries).map cursorPage, PageOk leaf.maxDef q := fun q hq => by
    obtain ⟨d, hd, rfl⟩ := List.mem_map.mp hq
    obtain ⟨p, hp, rfl⟩ := List.mem_map.mp hd
    exact pageOk_entries leaf p (hparts p hp)
  obtain ⟨c1, c2, c3⟩ := rowsOfPages_content leaf.maxDef _ hq
  have hpg : ch.pages = ((parts.map decodedOfEntries).map cursorPage).map some := hpages.trans List.map_map.symm
  have hrows : chunkRows ch = rowsOfPages leaf.maxDef (((parts.map decodedOfEntries).map cursorPage).map some) := by
    unfold chunkRows; rw [hpg, hmd]
  -- page-wise levels and values, flattened, are those of the entries
  rw [← hrows, List.map_map, List.map_map] at c1 c2 c3
  have c1 : (chunkRows ch).map (·.defLevel) = parts.flatten.map (·.dl) := c1.trans List.map_flatten.symm
  have c2 : (chunkRows ch).map (·.repLevel) = parts.flatten.map (·.rep) := c2.trans List.map_flatten.symm
  have c3 : (chunkRows ch).filterMap (·.val) = parts.flatten.filterMap (·.val) := c3.trans List.filterMap_flatten.symm
  have hlen : (chunkRows ch).length = parts.flatten.length := by
    rw [← List.length_map (f := (·.defLevel)), c1, List.length_map]
  have hok : ChunkOk ch := by
    refine ⟨fun p hp => ?_, by rw [hlen, hnv]⟩
    rw [hpg] at hp
    obtain ⟨q, hq', rfl⟩ := List.mem_map.mp hp
    exact ⟨q, rfl, by rw [hmd]; exact hq q hq'⟩
  have hwf : ∀ row ∈ chunkRows ch, Row.WF leaf.maxDef row := hmd ▸ (rep_getColumn ch hok).wf
  exact ⟨chunkRows ch, hlen ▸ readBatch_all ch hok (hlen ▸ hsmall) wd wr, c1, c2, c3, hlen, hwf⟩

/-! ### the chunk -/

theorem livePages_parts (ps : List (RPage × Decoded)) (parts : List (List Entry))
    (hmap : ps.map (·.2) = parts.map decodedOfEntries) :
    (livePages ps).map (fun q => some (cursorPage q.2)) =
      ((liveBy List.length parts).map decodedOfEntries).map (fun d => some (cursorPage d)) := by
  have h1 : (livePages ps).map (·.2) = liveBy (fun d : Decoded => d.defs.length) (ps.map (·.2)) :=
    (liveBy_map (fun q : RPage × Decoded => q.2.defs.length) (fun d : Decoded => d.defs.length) (·.2) (fun _ => rfl) ps).symm
  have h2 : liveBy (fun d : Decoded => d.defs.length) (parts.map decodedOfEntries) =
      (liveBy List.length parts).map decodedOfEntries :=
    liveBy_map List.length (fun d : Decoded => d.defs.length) decodedOfEntries (fun p => by simp [decodedOfEntries]) parts
  rw [← h2, ← hmap, ← h1, List.map_map]
  rfl

/-- what `C06_impl_reads_reference` asks of one chunk beyond admissibility: carquet's limits -/
structure ChunkClaim (mode : Mode) (leaf : LeafInfo) (cl : ChunkLayout) (es : Chunk) : Prop where
  adm : ChunkAdm cl
  depth : chunkExtrasDepthOk cl = true
  noBoolDict : cl.dict.isSome = true → leaf.ptype ≠ .boolean
  leafOk : LeafHyp leaf
  window : mode = .fread → chunkWindowOk leaf cl es = true

theorem read_of_pages (L : Libs) (verify : Bool) (mode : Mode) (leaf : LeafInfo) (cm : ThriftParquet.ColumnMetaData)
    (es : Chunk) (dictP : Option (RPage × Dict)) (ps : List (RPage × Decoded)) (parts : List (List Entry))
    (pre post file : Bytes) (hcolv : Carquet.Proofs.ReaderPlain.ColValid (colOfLeaf leaf cm))
    (hstart : ChunkStart L verify mode (colOfLeaf leaf cm) pre dictP)
    (hall : ∀ q ∈ ps, DataPageOk L verify mode (colOfLeaf leaf cm) (dictP.map (·.2)) q.1 q.2)
    (hparts : parts.flatten = es) (hmap : ps.map (·.2) = parts.map decodedOfEntries)
    (hwf : ∀ e ∈ es, wellFormedEntry leaf e = true) (hcm2 : cm.numValues = (es.length : Int)) (hes : es.length < 2 ^ 31)
    (hpost : 8 ≤ post.length) (hfile : file = pre ++ dictBytes dictP ++ pagesBytes ps ++ post) (hsz : file.length < 2 ^ 64)
    (wd wr : Bool) :
    ∃ rows, ResOk wd wr es.length
        (ColumnReader.readBatch ColumnReader.Fixes.all
          (ColumnReader.getColumn (chunkOf Fixes.all L verify mode file (colOfLeaf leaf cm)))
          (colOfLeaf leaf cm).cm.numValues wd wr).2 rows ∧
      rows.map (·.defLevel) = es.map (·.dl) ∧ rows.map (·.repLevel) = es.map (·.rep) ∧
      rows.filterMap (·.val) = es.filterMap (·.val) ∧ rows.length = es.length ∧
      ∀ row ∈ rows, Row.WF leaf.maxDef row := by
  subst hfile
  have hcount : pagesCount ps = es.length := by
    unfold pagesCount
    have : ps.map (fun q => q.2.defs.length) = (ps.map (·.2)).map (fun d => d.defs.length) := by simp [List.map_map]
    rw [this, hmap, ← hparts]
    simp [decodedOfEntries, List.length_flatten, List.map_map, Function.comp_def]
  have hpg : (chunkOf Fixes.all L verify mode (pre ++ dictBytes dictP ++ pagesBytes ps ++ post) (colOfLeaf leaf cm)).pages =
      ((liveBy List.length parts).map decodedOfEntries).map (fun d => some (cursorPage d)) := by
    rw [chunkOf_pages L verify mode (colOfLeaf leaf cm) hcolv dictP ps pre post hstart hall (by simp only [colOfLeaf, hcm2, hcount])
      hpost hsz, livePages_parts ps parts hmap, List.map_map]
  have hpartsOk : ∀ p ∈ liveBy List.length parts, ∀ e ∈ p, wellFormedEntry leaf e = true := by
    intro p hp e he
    exact hwf e (by rw [← hparts]; exact List.mem_flatten.mpr ⟨p, liveBy_mem _ _ _ hp, he⟩)
  have hparts' : (liveBy List.length parts).flatten = es := by rw [liveBy_flatten, hparts]
  have := readBatch_parts leaf (chunkOf Fixes.all L verify mode (pre ++ dictBytes dictP ++ pagesBytes ps ++ post) (colOfLeaf leaf cm))
    (liveBy List.length parts) hpartsOk hpg rfl (by simp only [chunkOf, colOfLeaf, hcm2, hparts']) (by rw [hparts']; omega) wd wr
  rw [hparts'] at this
  exact this

/-- **one chunk, read completely**, in any mode, with or without level arrays -/
theorem chunk_read (L : Libs) (verify : Bool) (mode : Mode) (leaf : LeafInfo) (cl : ChunkLayout) (es : Chunk) (pos : Nat)
    (c : ChunkOut) (cm : ThriftParquet.ColumnMetaData)
    (hw : writeChunk leaf cl es pos = some c) (hclaim : ChunkClaim mode leaf cl es)
    (hcm1 : cm.codec = (cl.codec : Int)) (hcm2 : cm.numValues = (es.length : Int))
    (hcm3 : cm.dictionaryPageOffset =
      match cl.dict with
      | some d => if d.offsetPresent then some ((pos + cl.gapBefore.length : Nat) : Int) else none
      | none => none)
    (hcm4 : (∀ d, cl.dict = some d → d.offsetPresent = false) → cm.dataPageOffset = ((pos + cl.gapBefore.length : Nat) : Int))
    (pre post : Bytes) (hpre : pre.length = pos) (hpost : 8 ≤ post.length)
    (hlen : c.bytes.length < 2 ^ 31) (hus : chunkUsizeOk c.cmeta = true) (hes : es.length < 2 ^ 31)
    (hfile : (pre ++ c.bytes ++ post).length < 2 ^ 64)
    (hL : LibsDecode L c.oracle) (wd wr : Bool) :
    ∃ rows, ResOk wd wr es.length
        (ColumnReader.readBatch ColumnReader.Fixes.all
          (ColumnReader.getColumn (chunkOf Fixes.all L verify mode (pre ++ c.bytes ++ post) (colOfLeaf leaf cm)))
          (colOfLeaf leaf cm).cm.numValues wd wr).2 rows ∧
      rows.map (·.defLevel) = es.map (·.dl) ∧ rows.map (·.repLevel) = es.map (·.rep) ∧
      rows.filterMap (·.val) = es.filterMap (·.val) ∧ rows.length = es.length ∧
      ∀ row ∈ rows, Row.WF leaf.maxDef row := by
  have hcl := hclaim.adm
  obtain ⟨dp, pages, hdp, hpages, hwfc, hcodecs, hdictc, hbytes, hmeta, horacle, hend⟩ := writeChunk_adm hcl hw
  have hdok := Carquet.Proofs.SpecFile.chunkDesc_ok leaf cl es pos dp pages hcl
  have husz : dp.usize + pages.usize < 2 ^ 31 :=
    Carquet.Proofs.SpecFile.chunkUsizeOk_desc _ hdok (by rw [← hmeta]; exact hus)
  have hwf : ∀ e ∈ es, wellFormedEntry leaf e = true := by
    unfold wellFormedChunk at hwfc
    simp only [Bool.and_eq_true, List.all_eq_true] at hwfc
    exact hwfc.1
  rw [hbytes] at hlen hfile ⊢
  simp only [List.length_append] at hlen
  rw [horacle] at hL
  have hcolv := colValid_leaf leaf cm hclaim.leafOk.flba
  have hdepth := hclaim.depth
  unfold Carquet.Impl.Reader.Claim.chunkExtrasDepthOk at hdepth
  simp only [Bool.and_eq_true, List.all_eq_true] at hdepth
  obtain ⟨⟨⟨_, _⟩, hpd⟩, hdd⟩ := hdepth
  have hpl : ∀ pl ∈ cl.pages, PageAdm pl ∧ pl.comp.codec = cl.codec ∧ pageExtrasDepthOk pl = true :=
    fun pl hpl' => ⟨hcl.pages pl hpl', hcodecs pl hpl', hpd pl hpl'⟩
  -- the file around the chunk
  have hstartlen : (pre ++ cl.gapBefore).length = pos + cl.gapBefore.length := by simp [hpre]
  -- dictionary and data pages
  cases hdict : cl.dict with
  | none =>
    rw [hdict] at hdp hpages hcm3
    simp only [Option.some.injEq] at hdp
    subst hdp
    simp only [Option.map_none, List.length_nil, Nat.zero_add, List.nil_append] at hpages hlen husz hL
    have hwin : mode = .fread → pagesWindowOk leaf none cl.pages es = true := by
      intro hm
      have := hclaim.window hm
      simp only [Carquet.Impl.Reader.Claim.chunkWindowOk, hdict, Bool.true_and, Option.map_none] at this
      exact this
    obtain ⟨ps, parts, hb, hparts, hmap, hpslen, hall⟩ := dataPages_ok L verify mode leaf cm cl.codec none hcm1 (DictHyp.none leaf)
      hclaim.leafOk cl.pages es pages hpl hpages hwf (by omega) (by omega) hes
      (hL.mono (fun e he => by simp [he])) hwin
    have hstart : ChunkStart L verify mode (colOfLeaf leaf cm) (pre ++ cl.gapBefore) none :=
      .plain (by simp [colOfLeaf, hcm3]) (by
        simp only [colOfLeaf, hstartlen]
        exact hcm4 (fun d hd => by rw [hdict] at hd; cases hd))
    exact read_of_pages L verify mode leaf cm es none ps parts (pre ++ cl.gapBefore) post _ hcolv hstart hall hparts hmap hwf
      hcm2 hes hpost (by simp [dictBytes, hb, List.append_assoc]) hfile wd wr
  | some d =>
    rw [hdict] at hdp hpages hcm3
    simp only [Option.map_some] at hpages
    simp only at hdp
    obtain ⟨hdc, hvalid⟩ := hdictc d hdict
    have hdadm := hcl.dict d hdict
    have hnb := hclaim.noBoolDict (by rw [hdict]; rfl)
    have hdd' : dictExtrasDepthOk d = true := by rw [hdict] at hdd; exact hdd
    have hbody_le := Carquet.Proofs.SpecFile.writeDictPage_body_le hdadm hdp
    have hdicthyp : DictHyp leaf (some d.values) :=
      ⟨fun d' hd' => by cases hd'; exact hvalid, fun d' hd' => by cases hd'; exact ⟨by omega, hdadm.count⟩, fun _ => hnb⟩
    have hwinD : mode = .fread → pageWindowOk dp.bytes = true := by
      intro hm
      have := hclaim.window hm
      simp only [Carquet.Impl.Reader.Claim.chunkWindowOk, hdict, hdp, Bool.and_eq_true] at this
      exact this.1
    have hwinP : mode = .fread → pagesWindowOk leaf (some d.values) cl.pages es = true := by
      intro hm
      have := hclaim.window hm
      simp only [Carquet.Impl.Reader.Claim.chunkWindowOk, hdict, hdp, Bool.and_eq_true, Option.map_some] at this
      exact this.2
    obtain ⟨dpage, hdpb, hdpok⟩ := dictPage_ok L verify mode leaf cm cl.codec d dp hdadm hdc hcm1 hdd' hdp hvalid hnb hclaim.leafOk
      (by omega) (by omega) (hL.mono (fun e he => by simp [he])) hwinD
    obtain ⟨ps, parts, hb, hparts, hmap, hpslen, hall⟩ := dataPages_ok L verify mode leaf cm cl.codec (some d.values) hcm1 hdicthyp
      hclaim.leafOk cl.pages es pages hpl hpages hwf (by omega) (by omega) hes
      (hL.mono (fun e he => by simp [he])) hwinP
    have hstart : ChunkStart L verify mode (colOfLeaf leaf cm) (pre ++ cl.gapBefore) (some (dpage, dictOf leaf d.values)) := by
      cases hop : d.offsetPresent with
      | true =>
        refine .offset dpage _ hdpok ?_
        simp only [colOfLeaf, hcm3, hop, if_true, hstartlen]
      | false =>
        refine .inline dpage _ hdpok ?_ ?_
        · simp [colOfLeaf, hcm3, hop]
        · simp only [colOfLeaf, hstartlen]
          exact hcm4 (fun d' hd' => by rw [hdict] at hd'; cases hd'; exact hop)
    exact read_of_pages L verify mode leaf cm es _ ps parts (pre ++ cl.gapBefore) post _ hcolv hstart hall hparts hmap hwf
      hcm2 hes hpost (by simp [dictBytes, hb, hdpb, List.append_assoc]) hfile wd wr

end Carquet.Proofs.ImplReads
