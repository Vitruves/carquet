import Carquet.Proofs.ImplReadsWhole
import Carquet.Impl.ReaderClaimClasses
/-
The oracle table (GZIP / ZSTD page bodies) of a file whose plans need no library is empty — so the
library contract `LibsDecode` holds of ANY libraries for it.
-/
namespace Carquet.Proofs.ImplReads
open Carquet.Spec Carquet.Spec.File Carquet.Spec.Thrift
open Carquet.Impl.Reader.Claim
open Carquet.Proofs.SpecFile (PageAdm DictAdm ChunkAdm writeDataPage_adm writeDictPage_adm writeChunk_adm layoutAdm_iff)

theorem oracleEntry_noLib (plan : CompPlan) (comp body : Bytes) (h : noLibPlan plan = true) : oracleEntry plan comp body = [] := by
  cases plan <;> simp_all [noLibPlan, oracleEntry]

theorem isNoComp_noLib {plan : CompPlan} (h : isNoComp plan = true) : noLibPlan plan = true := by
  cases plan <;> simp_all [noLibPlan, isNoComp]

/-- **no library needed**: the oracle table of a file whose plans are UNCOMPRESSED / SNAPPY / LZ4 is empty -/
theorem writeFull_oracle_nil (t : File.Table) (l : Layout) (file : Bytes) (oracle : Oracle)
    (hadm : layoutAdm l = true) (hn : layoutNoLib l = true) (hw : writeFull t l = some (file, oracle)) : oracle = [] := by
  unfold layoutNoLib at hn
  simp only [List.all_eq_true] at hn
  refine Carquet.Proofs.SpecFile.writeFull_oracle_nil (Q := (noLibPlan · = true)) t l file oracle (layoutAdm_iff hadm)
    (fun plan h comp body => oracleEntry_noLib plan comp body h) (fun g hg cl hcl => ?_) hw
  have := hn g hg cl hcl
  unfold chunkNoLib at this
  simp only [Bool.and_eq_true, List.all_eq_true] at this
  exact ⟨this.1, fun d hd => by simpa [hd] using this.2⟩

theorem libsDecode_nil (L : Carquet.Impl.Reader.Libs) : LibsDecode L [] :=
  ⟨(fun e he => by cases he), (fun e he => by cases he)⟩

theorem libsDecode_noLib (t : File.Table) {l : Layout} (hadm : layoutAdm l = true) (hn : layoutNoLib l = true)
    (L : Carquet.Impl.Reader.Libs) : LibsDecode L (writeOracle t l) := by
  unfold writeOracle
  cases hw : writeFull t l with
  | none => exact libsDecode_nil L
  | some p =>
    show LibsDecode L p.2
    rw [writeFull_oracle_nil t l p.1 p.2 hadm hn hw]
    exact libsDecode_nil L

theorem layoutUncompressed_noLib {l : Layout} (h : layoutUncompressed l = true) : layoutNoLib l = true := by
  unfold layoutUncompressed at h
  unfold layoutNoLib
  simp only [List.all_eq_true] at h ⊢
  intro g hg cl hcl
  have := h g hg cl hcl
  unfold chunkUncompressed at this
  unfold chunkNoLib
  simp only [Bool.and_eq_true, List.all_eq_true] at this ⊢
  refine ⟨fun p hp => isNoComp_noLib (this.1 p hp), ?_⟩
  cases hd : cl.dict with
  | none => rfl
  | some d =>
    have h2 := this.2
    rw [hd] at h2
    exact isNoComp_noLib h2

/-! ### the fread claim implies the mapped one -/

theorem zipWith3_all_mono {α β γ : Type} (f g : α → β → γ → Bool) (h : ∀ a b c, f a b c = true → g a b c = true) :
    ∀ (as : List α) (bs : List β) (cs : List γ), (zipWith3 f as bs cs).all id = true → (zipWith3 g as bs cs).all id = true
  | [], _, _, _ => by simp [zipWith3]
  | _ :: _, [], _, _ => by simp [zipWith3]
  | _ :: _, _ :: _, [], _ => by simp [zipWith3]
  | a :: as, b :: bs, c :: cs, hall => by
    simp only [zipWith3, List.all_cons, Bool.and_eq_true, id] at hall ⊢
    exact ⟨h a b c hall.1, zipWith3_all_mono f g h as bs cs hall.2⟩

theorem zipWith_all_mono {α β : Type} (f g : α → β → Bool) (h : ∀ a b, f a b = true → g a b = true) :
    ∀ (as : List α) (bs : List β), (List.zipWith f as bs).all id = true → (List.zipWith g as bs).all id = true
  | [], _, _ => by simp
  | _ :: _, [], _ => by simp
  | a :: as, b :: bs, hall => by
    simp only [List.zipWith_cons_cons, List.all_cons, Bool.and_eq_true, id] at hall ⊢
    exact ⟨h a b hall.1, zipWith_all_mono f g h as bs hall.2⟩

theorem chunkClaimed_mono {leaf : LeafInfo} {cl : ChunkLayout} {es : Chunk} (h : chunkClaimed true leaf cl es = true) :
    chunkClaimed false leaf cl es = true := by
  unfold chunkClaimed at h ⊢
  simp only [Bool.and_eq_true, Bool.not_true, Bool.false_or, Bool.not_false, Bool.true_or, and_true] at h ⊢
  exact h.1

theorem fileClaimed_mono {t : File.Table} {l : Layout} (h : fileClaimed true t l = true) : fileClaimed false t l = true := by
  unfold fileClaimed at h ⊢
  cases hc : columnsOf t.schema with
  | error e => rw [hc] at h; exact h
  | ok leaves =>
    rw [hc] at h
    simp only [Bool.and_eq_true] at h ⊢
    refine ⟨h.1, ?_⟩
    exact zipWith_all_mono _ _ (fun cls g hz => zipWith3_all_mono _ _ (fun a b c => chunkClaimed_mono) _ _ _ hz) _ _ h.2

theorem fileClaimed_any_mode {t : File.Table} {l : Layout} (h : fileClaimed true t l = true) (m : Carquet.Impl.Reader.Mode) :
    fileClaimed (decide (m = .fread)) t l = true := by
  cases m
  · exact h
  · exact fileClaimed_mono h
  · exact fileClaimed_mono h

/-! ### the library contract as a check on a concrete oracle table -/

def libsDecodeCheck (L : Carquet.Impl.Reader.Libs) (o : Oracle) : Bool :=
  o.all (fun e => (!isGzip e.1 || L.gzip.decompress e.1 e.2.length == some e.2) &&
    (!isZstd e.1 || L.zstd.decompress e.1 e.2.length == some e.2))

theorem libsDecode_of_check {L : Carquet.Impl.Reader.Libs} {o : Oracle} (h : libsDecodeCheck L o = true) : LibsDecode L o := by
  unfold libsDecodeCheck at h
  simp only [List.all_eq_true, Bool.and_eq_true, Bool.or_eq_true, Bool.not_eq_true', beq_iff_eq] at h
  refine ⟨?_, ?_⟩
  · intro e he hg
    rcases (h e he).1 with h1 | h1
    · rw [hg] at h1; cases h1
    · exact h1
  · intro e he hz
    rcases (h e he).2 with h1 | h1
    · rw [hz] at h1; cases h1
    · exact h1

end Carquet.Proofs.ImplReads
