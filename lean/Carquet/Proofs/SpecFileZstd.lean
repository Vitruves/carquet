import Carquet.Spec.File.Codec
import Carquet.Proofs.SpecFileEnvelope
/-
The raw / RLE-block ZSTD frames of `Spec.File.zstdRaw` are decodable: a reader of RFC 8878 frames
with Single_Segment, no checksum, no dictionary and only Raw / RLE blocks (`unzstdRaw`, defined here
for the proof only) recovers the data.  Hence two frames with the same bytes hold the same data.
-/
namespace Carquet.Proofs.SpecFile
open Carquet.Spec Carquet.Spec.File

/-- Raw and RLE blocks up to and including the last one -/
def unzBlocks : Nat → Bytes → Option Bytes
  | 0, _ => none
  | f + 1, bs =>
    if bs.length < 3 then none
    else if leNat (bs.take 3) / 2 % 4 = 0 then
      (if (bs.drop 3).length < leNat (bs.take 3) / 8 then none
       else if leNat (bs.take 3) % 2 = 1 then some ((bs.drop 3).take (leNat (bs.take 3) / 8))
       else
         match unzBlocks f ((bs.drop 3).drop (leNat (bs.take 3) / 8)) with
         | some d => some ((bs.drop 3).take (leNat (bs.take 3) / 8) ++ d)
         | none => none)
    else if leNat (bs.take 3) / 2 % 4 = 1 then
      (match bs.drop 3 with
       | [] => none
       | b :: r =>
         if leNat (bs.take 3) % 2 = 1 then some (List.replicate (leNat (bs.take 3) / 8) b)
         else
           match unzBlocks f r with
           | some d => some (List.replicate (leNat (bs.take 3) / 8) b ++ d)
           | none => none)
    else none

theorem zBlockHeader_length (last : Bool) (type size : Nat) : (zBlockHeader last type size).length = 3 :=
  leBytes_length 3 _

theorem zBlockHeader_value (last : Bool) (type size : Nat) (ht : type ≤ 1) (hs : size < 2 ^ 17) :
    leNat (zBlockHeader last type size) = (if last then 1 else 0) + 2 * type + 8 * size := by
  unfold zBlockHeader
  apply leNat_leBytes
  cases last <;> simp <;> omega

theorem zBlockHeader_fields (last : Bool) (type size : Nat) (ht : type ≤ 1) (hs : size < 2 ^ 17) :
    ∃ v, leNat (zBlockHeader last type size) = v ∧ v / 2 % 4 = type ∧ v / 8 = size ∧ (v % 2 = 1 ↔ last = true) := by
  refine ⟨_, zBlockHeader_value last type size ht hs, ?_, ?_, ?_⟩ <;> cases last <;> simp <;> omega

theorem unz_raw (f : Nat) (last : Bool) (n : Nat) (payload rest : Bytes) (hn : n < 2 ^ 17) (hp : payload.length = n) :
    unzBlocks (f + 1) (zBlockHeader last 0 n ++ payload ++ rest) =
      if last then some payload
      else match unzBlocks f rest with
        | some d => some (payload ++ d)
        | none => none := by
  have hl := zBlockHeader_length last 0 n
  obtain ⟨v, hv, h1, h2, h3⟩ := zBlockHeader_fields last 0 n (by omega) hn
  generalize hu : unzBlocks f rest = u
  generalize hh : zBlockHeader last 0 n = hdr at hl hv
  rw [List.append_assoc]
  unfold unzBlocks
  simp only [List.take_left' hl, List.drop_left' hl, hv, h1, h2, h3, if_true, List.length_append,
    ← hp, List.take_left, List.drop_left, hu]
  have hA : ¬ (3 + (payload.length + rest.length) < 3) := by omega
  have hB : ¬ (payload.length + rest.length < payload.length) := by omega
  cases last <;> simp [hl, hA, hB]

theorem unz_rle (f : Nat) (last : Bool) (n : Nat) (b : UInt8) (rest : Bytes) (hn : n < 2 ^ 17) :
    unzBlocks (f + 1) (zBlockHeader last 1 n ++ [b] ++ rest) =
      if last then some (List.replicate n b)
      else match unzBlocks f rest with
        | some d => some (List.replicate n b ++ d)
        | none => none := by
  have hl := zBlockHeader_length last 1 n
  obtain ⟨v, hv, h1, h2, h3⟩ := zBlockHeader_fields last 1 n (by omega) hn
  generalize hu : unzBlocks f rest = u
  generalize hh : zBlockHeader last 1 n = hdr at hl hv
  rw [List.append_assoc]
  unfold unzBlocks
  have h10 : ¬ ((1 : Nat) = 0) := by omega
  simp only [if_false, List.take_left' hl, List.drop_left' hl, hv, h1, h2, h3, if_true, h10, List.cons_append,
    List.nil_append, hu]
  have hA : ¬ (3 + (rest.length + 1) < 3) := by omega
  cases last <;> simp [hl, hA]

/-- **blocks round trip**, with the bound on the number of blocks that gives the reader its fuel -/
theorem unzBlocks_zBlocks : ∀ (plan : List ZBlock) (data bl : Bytes), zBlocks plan data = some bl →
    plan.length < bl.length ∧ ∀ f, plan.length ≤ f → unzBlocks (f + 1) bl = some data
  | [], data, bl, h => by
    simp only [zBlocks] at h
    split at h
    · rename_i hlen
      cases h
      refine ⟨by simp [zBlockHeader_length]; omega, fun f _ => ?_⟩
      simpa using unz_raw f true data.length data [] hlen rfl
    · cases h
  | .raw n :: r, data, bl, h => by
    simp only [zBlocks] at h
    split at h
    · cases h
    · rename_i hc
      have hn : n < 2 ^ 17 := by omega
      split at h
      · rename_i hfin
        cases h
        refine ⟨by simp [zBlockHeader_length, hfin.1]; omega, fun f _ => ?_⟩
        simpa using unz_raw f true n data [] hn hfin.2
      · cases hz : zBlocks r (data.drop n) with
        | none => simp [hz] at h
        | some bs =>
          simp only [hz, Option.some.injEq] at h
          subst h
          obtain ⟨ihl, ih⟩ := unzBlocks_zBlocks r (data.drop n) bs hz
          refine ⟨by simp [zBlockHeader_length]; omega, fun f hf => ?_⟩
          have ih := ih (f - 1) (by simp at hf; omega)
          rw [Nat.sub_add_cancel (by simp at hf; omega)] at ih
          rw [unz_raw f false n (data.take n) bs hn (by simp; omega), ih]
          simp
  | .rle n :: r, data, bl, h => by
    simp only [zBlocks] at h
    cases data with
    | nil => simp at h
    | cons b t =>
      simp only at h
      split at h
      · cases h
      · rename_i hc
        have hn : n < 2 ^ 17 := by omega
        have htake : (b :: t).take n = List.replicate n b := by
          apply Classical.byContradiction; intro hne; exact hc (Or.inr (Or.inr (Or.inr hne)))
        split at h
        · rename_i hfin
          cases h
          refine ⟨by simp [zBlockHeader_length, hfin.1], fun f _ => ?_⟩
          have := unz_rle f true n b [] hn
          rw [List.append_nil] at this
          rw [this]
          simp only [if_true]
          rw [← htake, List.take_of_length_le (by omega)]
        · cases hz : zBlocks r ((b :: t).drop n) with
          | none => simp [hz] at h
          | some bs =>
            simp only [hz, Option.some.injEq] at h
            subst h
            obtain ⟨ihl, ih⟩ := unzBlocks_zBlocks r ((b :: t).drop n) bs hz
            refine ⟨by simp [zBlockHeader_length]; omega, fun f hf => ?_⟩
            have ih := ih (f - 1) (by simp at hf; omega)
            rw [Nat.sub_add_cancel (by simp at hf; omega)] at ih
            rw [unz_rle f false n b bs hn, ih]
            simp only [Bool.false_eq_true, if_false]
            rw [← htake, List.take_append_drop]

def fcsLen (f : Nat) : Nat := if f = 0 then 1 else if f = 1 then 2 else if f = 2 then 4 else 8

/-- a reader of the frames `zstdRaw` produces (for the proof only) -/
def unzstdRaw (bs : Bytes) : Option Bytes :=
  if bs.take 4 ≠ [0x28, 0xB5, 0x2F, 0xFD] then none
  else
    match bs.drop 4 with
    | [] => none
    | d :: r => unzBlocks (r.length + 1) (r.drop (fcsLen (d.toNat / 64)))

theorem zContentSize_some {f n : Nat} {cs : Bytes} (h : zContentSize f n = some cs) :
    f ≤ 4 ∧ cs.length = fcsLen (if f = 4 then 0 else f) := by
  rcases (by omega : f = 0 ∨ f = 1 ∨ f = 2 ∨ f = 3 ∨ f = 4 ∨ 5 ≤ f) with rfl | rfl | rfl | rfl | rfl | h5
  iterate 4
    simp [zContentSize] at h
    obtain ⟨_, rfl⟩ := h
    simp [fcsLen, leBytes_length]
  · cases h
    simp [fcsLen]
  · simp [zContentSize, show f ≠ 0 by omega, show f ≠ 1 by omega, show f ≠ 2 by omega, show f ≠ 3 by omega,
      show f ≠ 4 by omega] at h

theorem unzstdRaw_zstdRaw (f : Nat) (plan : List ZBlock) (data comp : Bytes) (h : zstdRaw f plan data = some comp) :
    unzstdRaw comp = some data := by
  unfold zstdRaw at h
  cases hcs : zContentSize f data.length with
  | none => simp [hcs] at h
  | some cs =>
    cases hbl : zBlocks plan data with
    | none => simp [hcs, hbl] at h
    | some bl =>
      simp only [hcs, hbl, Option.some.injEq] at h
      subst h
      obtain ⟨hf, hl⟩ := zContentSize_some hcs
      have hd : (zDescriptor f).toNat / 64 = (if f = 4 then 0 else f) := by
        unfold zDescriptor
        by_cases h4 : f = 4
        · simp [h4]
        · simp only [h4, if_false]
          rw [UInt8.toNat_ofNat']; omega
      obtain ⟨hfuel, hblocks⟩ := unzBlocks_zBlocks plan data bl hbl
      unfold unzstdRaw
      simp only [List.cons_append, List.nil_append, List.take_succ_cons, List.take_zero, List.drop_succ_cons, List.drop_zero,
        ne_eq, not_true_eq_false, if_false, hd, ← hl, List.drop_left]
      exact hblocks _ (by simp only [List.length_append]; omega)

end Carquet.Proofs.SpecFile
