import Carquet.Proofs.DeltaBits
import Carquet.Proofs.BitpackTails
/-
`Impl.Delta.packBits` / `unpackBits` (the delta model's own LSB-first definition of what
`carquet_bitpack_32` / `carquet_bitunpack_32` do) against `Impl.Bitpack.pack` / `unpack` (the loop-by-loop
model of src/core/bitpack.c), for every width the delta code passes to those functions (`w ≤ 32`): both sides
are the same integer.
-/
namespace Carquet.Proofs.DeltaBitpack
open Carquet Carquet.Proofs.NatBits Carquet.Proofs.BitpackImpl

/-- **`carquet_bitpack_32` as the delta encoder calls it** (`to_pack[i] = (uint32_t)(delta − min)`, any
number of values, `w ≤ 32`): the delta model's `packBits` is `Impl.Bitpack.pack` of the truncated values -/
theorem packBits_eq_bitpack {w : Nat} (hw : w ≤ 32) (vals : List (BitVec 64)) :
    Impl.Delta.packBits w vals = Impl.Bitpack.pack w (vals.map (fun v => v.toNat % 2 ^ 32)) := by
  rw [Impl.Delta.packBits_eq_pack, Spec.Delta.pack_eq, Proofs.BitpackTails.impl_pack_eq_spec hw,
    Proofs.BitPackSpec.pack_eq, List.length_map, List.length_map, ← concat_mod hw, List.map_map]
  rfl

/-- **`carquet_bitunpack_32` as the delta decoder calls it** (`count` values of `w ≤ 32` bits from a buffer
that holds them): the delta model's `unpackBits` is `Impl.Bitpack.unpack`, widened to 64 bits -/
theorem unpackBits_eq_bitpack {w : Nat} (hw : w ≤ 32) (count : Nat) (bytes : List UInt8)
    (h : count * w ≤ 8 * bytes.length) :
    Impl.Delta.unpackBits w count bytes = (Impl.Bitpack.unpack w bytes count).1.map (BitVec.ofNat 64) := by
  have h1 := Proofs.BitpackTails.impl_unpack_eq_spec hw bytes count h
  rw [Proofs.BitPackSpec.unpack_eq w count bytes h] at h1
  rw [Impl.Delta.unpackBits_eq, Spec.Delta.unpack_eq, Option.some.inj h1]

end Carquet.Proofs.DeltaBitpack
