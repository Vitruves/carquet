import Carquet.Impl.SimdBlocked
/-
Helper lemmas for C15: the blocked loop skeletons compute what the scalar loop computes, provided
the block step does so on every block of exactly `W` elements.
-/
namespace Carquet.Proofs.SimdBlocked
open Carquet.Impl.Simd

theorem take_length_of_le {α : Type} (W k : Nat) (xs : List α) (h : W * (k + 1) ≤ xs.length) :
    (xs.take W).length = W := by
  rw [List.length_take]
  have : W ≤ W * (k + 1) := Nat.le_mul_of_pos_right W (Nat.succ_pos k)
  omega

theorem drop_bound {α : Type} (W k : Nat) (xs : List α) (h : W * (k + 1) ≤ xs.length) :
    W * k ≤ (xs.drop W).length := by
  rw [List.length_drop, Nat.mul_succ] at *
  omega

theorem mul_succ' (W k : Nat) : W * (k + 1) = W + W * k := by rw [Nat.mul_succ, Nat.add_comm]

theorem rest_lt {α : Type} (W : Nat) (hW : 0 < W) (xs : List α) : (xs.drop (W * (xs.length / W))).length < W := by
  rw [List.length_drop]
  have := Nat.mod_lt xs.length hW
  have := Nat.div_add_mod xs.length W
  omega

/-! ### blocks of a known length -/

theorem list_len2 {α : Type} (b : List α) (h : b.length = 2) : ∃ a0 a1, b = [a0, a1] := by
  match b, h with
  | [a0, a1], _ => exact ⟨a0, a1, rfl⟩

theorem list_halves {α : Type} (n : Nat) (b : List α) (h : b.length = n + n) :
    ∃ l r : List α, l.length = n ∧ r.length = n ∧ b = l ++ r :=
  ⟨b.take n, b.drop n, by rw [List.length_take, h]; omega, by rw [List.length_drop, h]; omega,
    (List.take_append_drop n b).symm⟩

theorem list_len4 {α : Type} (b : List α) (h : b.length = 4) : ∃ a0 a1 a2 a3, b = [a0, a1, a2, a3] := by
  obtain ⟨l, r, hl, hr, rfl⟩ := list_halves 2 b h
  obtain ⟨a0, a1, rfl⟩ := list_len2 l hl
  obtain ⟨a2, a3, rfl⟩ := list_len2 r hr
  exact ⟨a0, a1, a2, a3, rfl⟩

theorem list_len8 {α : Type} (b : List α) (h : b.length = 8) :
    ∃ a0 a1 a2 a3 a4 a5 a6 a7, b = [a0, a1, a2, a3, a4, a5, a6, a7] := by
  obtain ⟨l, r, hl, hr, rfl⟩ := list_halves 4 b h
  obtain ⟨a0, a1, a2, a3, rfl⟩ := list_len4 l hl
  obtain ⟨a4, a5, a6, a7, rfl⟩ := list_len4 r hr
  exact ⟨a0, a1, a2, a3, a4, a5, a6, a7, rfl⟩

theorem list_len16 {α : Type} (b : List α) (h : b.length = 16) :
    ∃ a0 a1 a2 a3 a4 a5 a6 a7 a8 a9 a10 a11 a12 a13 a14 a15,
      b = [a0, a1, a2, a3, a4, a5, a6, a7, a8, a9, a10, a11, a12, a13, a14, a15] := by
  obtain ⟨l, r, hl, hr, rfl⟩ := list_halves 8 b h
  obtain ⟨a0, a1, a2, a3, a4, a5, a6, a7, rfl⟩ := list_len8 l hl
  obtain ⟨a8, a9, a10, a11, a12, a13, a14, a15, rfl⟩ := list_len8 r hr
  exact ⟨a0, a1, a2, a3, a4, a5, a6, a7, a8, a9, a10, a11, a12, a13, a14, a15, rfl⟩

/-! ### map -/

/-- `P` is the kernel's domain (a predicate on elements); the block step has to agree with the
scalar definition only on blocks inside the domain. -/
theorem mapBlocks_eq_dom {α β : Type} (P : α → Prop) (W : Nat) (blk scalar : List α → List β)
    (hblk : ∀ b, b.length = W → (∀ x ∈ b, P x) → blk b = scalar b)
    (hhom : ∀ a r, a.length = W → scalar (a ++ r) = scalar a ++ scalar r) :
    ∀ k xs, W * k ≤ xs.length → (∀ x ∈ xs, P x) →
      mapBlocks W blk k xs ++ scalar (xs.drop (W * k)) = scalar xs := by
  intro k
  induction k with
  | zero => intro xs _ _; simp [mapBlocks]
  | succ k ih =>
    intro xs h hP
    have hl := take_length_of_le W k xs h
    have ih' := ih (xs.drop W) (drop_bound W k xs h) (fun x hx => hP x (List.mem_of_mem_drop hx))
    rw [List.drop_drop] at ih'
    simp only [mapBlocks, List.append_assoc]
    rw [mul_succ', ih', hblk _ hl (fun x hx => hP x (List.mem_of_mem_take hx)), ← hhom _ _ hl, List.take_append_drop]

theorem mapBlocks_eq {α β : Type} (W : Nat) (blk scalar : List α → List β)
    (hblk : ∀ b, b.length = W → blk b = scalar b)
    (hhom : ∀ a r, a.length = W → scalar (a ++ r) = scalar a ++ scalar r) :
    ∀ k xs, W * k ≤ xs.length → mapBlocks W blk k xs ++ scalar (xs.drop (W * k)) = scalar xs :=
  fun k xs h => mapBlocks_eq_dom (fun _ => True) W blk scalar (fun b hb _ => hblk b hb) hhom k xs h (fun _ _ => trivial)

theorem mapBlocks_take {α β : Type} (W : Nat) (blk scalar : List α → List β)
    (hblk : ∀ b, b.length = W → blk b = scalar b)
    (hhom : ∀ a r, a.length = W → scalar (a ++ r) = scalar a ++ scalar r)
    (hnil : scalar [] = []) :
    ∀ k xs, W * k ≤ xs.length → mapBlocks W blk k xs = scalar (xs.take (W * k)) := by
  intro k
  induction k with
  | zero => intro xs _; simp [mapBlocks, hnil]
  | succ k ih =>
    intro xs h
    have hl := take_length_of_le W k xs h
    have hd := drop_bound W k xs h
    simp only [mapBlocks]
    rw [mul_succ', List.take_add, hhom _ _ hl, hblk _ hl, ih _ hd]

theorem blockedMap_eq_dom {α β : Type} (P : α → Prop) (W : Nat) (hW : 0 < W) (blk tail scalar : List α → List β)
    (hblk : ∀ b, b.length = W → (∀ x ∈ b, P x) → blk b = scalar b)
    (htail : ∀ t, t.length < W → (∀ x ∈ t, P x) → tail t = scalar t)
    (hhom : ∀ a r, a.length = W → scalar (a ++ r) = scalar a ++ scalar r)
    (xs : List α) (hP : ∀ x ∈ xs, P x) : blockedMap W blk tail xs = scalar xs := by
  unfold blockedMap
  have hle : W * (xs.length / W) ≤ xs.length := Nat.mul_div_le _ _
  rw [htail _ (rest_lt W hW xs) (fun x hx => hP x (List.mem_of_mem_drop hx))]
  exact mapBlocks_eq_dom P W blk scalar hblk hhom _ xs hle hP

theorem blockedMap_eq {α β : Type} (W : Nat) (hW : 0 < W) (blk tail scalar : List α → List β)
    (hblk : ∀ b, b.length = W → blk b = scalar b)
    (htail : ∀ t, t.length < W → tail t = scalar t)
    (hhom : ∀ a r, a.length = W → scalar (a ++ r) = scalar a ++ scalar r)
    (xs : List α) : blockedMap W blk tail xs = scalar xs :=
  blockedMap_eq_dom (fun _ => True) W hW blk tail scalar (fun b hb _ => hblk b hb) (fun t ht _ => htail t ht) hhom xs
    (fun _ _ => trivial)

/-! ### scan -/

theorem scalarScan_append {σ α β : Type} (step : σ → α → β × σ) (a r : List α) :
    ∀ c, scalarScan step c (a ++ r) =
      ((scalarScan step c a).1 ++ (scalarScan step (scalarScan step c a).2 r).1,
       (scalarScan step (scalarScan step c a).2 r).2) := by
  induction a with
  | nil => intro c; simp [scalarScan]
  | cons x a ih => intro c; simp [scalarScan, ih]

theorem scanBlocks_eq {σ α β : Type} (W : Nat) (blk : σ → List α → List β × σ) (step : σ → α → β × σ)
    (hblk : ∀ c b, b.length = W → blk c b = scalarScan step c b) :
    ∀ k c xs, W * k ≤ xs.length → scanBlocks W blk k c xs = scalarScan step c (xs.take (W * k)) := by
  intro k
  induction k with
  | zero => intro c xs _; simp [scanBlocks, scalarScan]
  | succ k ih =>
    intro c xs h
    have hl := take_length_of_le W k xs h
    have hd := drop_bound W k xs h
    have split : xs.take (W + W * k) = xs.take W ++ (xs.drop W).take (W * k) := by
      rw [List.take_add]
    simp only [scanBlocks]
    rw [mul_succ', split, scalarScan_append, hblk c _ hl, ih _ _ hd]

theorem blockedScan_eq {σ α β : Type} (W : Nat) (blk : σ → List α → List β × σ) (step : σ → α → β × σ)
    (hblk : ∀ c b, b.length = W → blk c b = scalarScan step c b)
    (c : σ) (xs : List α) : blockedScan W blk step c xs = scalarScan step c xs := by
  unfold blockedScan
  have hle : W * (xs.length / W) ≤ xs.length := Nat.mul_div_le _ _
  rw [scanBlocks_eq W blk step hblk _ c xs hle]
  have := scalarScan_append step (xs.take (W * (xs.length / W))) (xs.drop (W * (xs.length / W))) c
  rw [List.take_append_drop] at this
  exact this.symm

/-! ### reduce -/

theorem foldBlocks_eq {σ α : Type} (W : Nat) (blk : σ → List α → σ) (step : σ → α → σ)
    (hblk : ∀ c b, b.length = W → blk c b = b.foldl step c) :
    ∀ k c xs, W * k ≤ xs.length → foldBlocks W blk k c xs = (xs.take (W * k)).foldl step c := by
  intro k
  induction k with
  | zero => intro c xs _; simp [foldBlocks]
  | succ k ih =>
    intro c xs h
    have hl := take_length_of_le W k xs h
    have hd := drop_bound W k xs h
    simp only [foldBlocks]
    rw [mul_succ', List.take_add, List.foldl_append, hblk c _ hl, ih _ _ hd]

theorem blockedFold_eq {σ α : Type} (W : Nat) (hW : 0 < W) (blk tail : σ → List α → σ) (step : σ → α → σ)
    (hblk : ∀ c b, b.length = W → blk c b = b.foldl step c)
    (htail : ∀ c t, t.length < W → tail c t = t.foldl step c)
    (c : σ) (xs : List α) : blockedFold W blk tail c xs = xs.foldl step c := by
  unfold blockedFold
  have hle : W * (xs.length / W) ≤ xs.length := Nat.mul_div_le _ _
  rw [htail _ _ (rest_lt W hW xs), foldBlocks_eq W blk step hblk _ c xs hle, ← List.foldl_append, List.take_append_drop]

/-! ### search -/

theorem firstIdx_le {α : Type} (p : α → Bool) : ∀ xs : List α, firstIdx p xs ≤ xs.length := by
  intro xs
  induction xs with
  | nil => simp [firstIdx]
  | cons x xs ih => simp only [firstIdx, List.length_cons]; split <;> omega

theorem firstIdx_append {α : Type} (p : α → Bool) (a r : List α) :
    firstIdx p (a ++ r) = if firstIdx p a < a.length then firstIdx p a else a.length + firstIdx p r := by
  induction a with
  | nil => simp [firstIdx]
  | cons x a ih =>
    simp only [List.cons_append, firstIdx, List.length_cons]
    by_cases hp : p x = true
    · simp [hp]
    · simp only [hp, Bool.false_eq_true, if_false, ih]
      by_cases hlt : firstIdx p a < a.length
      · simp [hlt]
      · simp only [hlt, if_false, Nat.add_lt_add_iff_right]; omega

theorem searchBlocks_eq {α : Type} (W : Nat) (blk : List α → Option Nat) (p : α → Bool)
    (hblk : ∀ b, b.length = W → blk b = if firstIdx p b < W then some (firstIdx p b) else none) :
    ∀ k i xs, W * k ≤ xs.length →
      (match searchBlocks W blk k i xs with
       | some r => r
       | none => i + W * k + firstIdx p (xs.drop (W * k))) = i + firstIdx p xs := by
  intro k
  induction k with
  | zero => intro i xs _; simp [searchBlocks]
  | succ k ih =>
    intro i xs h
    have hl := take_length_of_le W k xs h
    have hd := drop_bound W k xs h
    have hx : firstIdx p xs = firstIdx p (xs.take W ++ xs.drop W) := by rw [List.take_append_drop]
    rw [hx, firstIdx_append, hl]
    simp only [searchBlocks]
    rw [hblk _ hl]
    by_cases hlt : firstIdx p (xs.take W) < W
    · simp [hlt]
    · simp only [hlt, if_false]
      have := ih (i + W) (xs.drop W) hd
      rw [List.drop_drop] at this
      rw [mul_succ', ← Nat.add_assoc, this]; omega

theorem blockedSearch_eq {α : Type} (W : Nat) (blk : List α → Option Nat) (p : α → Bool)
    (hblk : ∀ b, b.length = W → blk b = if firstIdx p b < W then some (firstIdx p b) else none)
    (xs : List α) : blockedSearch W blk p xs = firstIdx p xs := by
  unfold blockedSearch
  have hle : W * (xs.length / W) ≤ xs.length := Nat.mul_div_le _ _
  have := searchBlocks_eq W blk p hblk (xs.length / W) 0 xs hle
  cases h : searchBlocks W blk (xs.length / W) 0 xs with
  | some r => rw [h] at this; simpa using this
  | none => rw [h] at this; simpa using this

/-! ### accesses -/

theorem block_in_bounds (W n j : Nat) (hj : j < n / W) : W * j + W ≤ n :=
  Nat.le_trans (Nat.mul_le_mul_left W hj) (Nat.mul_div_le n W)

theorem accesses_in_bounds (W n : Nat) : ∀ a ∈ accesses W n, a.1 + a.2 ≤ n := by
  intro a ha
  rcases List.mem_append.mp ha with h | h
  · obtain ⟨j, hj, rfl⟩ := List.mem_map.mp h
    exact block_in_bounds W n j (List.mem_range.mp hj)
  · obtain ⟨t, ht, rfl⟩ := List.mem_map.mp h
    have ht' := List.mem_range.mp ht
    have hle : W * (n / W) ≤ n := Nat.mul_div_le _ _
    simp only
    omega

theorem accesses_cover (W n : Nat) : ((accesses W n).map (·.2)).sum = n := by
  unfold accesses
  have hle : W * (n / W) ≤ n := Nat.mul_div_le _ _
  simp only [List.map_append, List.map_map, List.sum_append]
  have hc (f : Nat → Nat × Nat) (c m : Nat) (hf : ∀ t, (f t).2 = c) :
      ((List.range m).map ((fun a : Nat × Nat => a.2) ∘ f)).sum = m * c := by
    rw [show ((fun a : Nat × Nat => a.2) ∘ f) = fun _ => c from funext hf, List.map_const', List.sum_replicate_nat,
      List.length_range]
  rw [hc _ W _ (fun _ => rfl), hc _ 1 _ (fun _ => rfl), Nat.mul_comm]
  omega

theorem searchAccesses_in_bounds (W n : Nat) (s : Option Nat) (hs : ∀ j, s = some j → j < n / W) :
    ∀ a ∈ searchAccesses W n s, a.1 + a.2 ≤ n := by
  intro a ha
  cases s with
  | none => exact accesses_in_bounds W n a ha
  | some j =>
    obtain ⟨t, ht, rfl⟩ := List.mem_map.mp ha
    exact block_in_bounds W n t (Nat.lt_of_lt_of_le (List.mem_range.mp ht) (hs j rfl))

end Carquet.Proofs.SimdBlocked
