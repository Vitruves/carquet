import Carquet.Proofs.Writer
import Carquet.Proofs.WriterDefs
/-
The invariant of writer states (generic in `Deps`), proved once against the four moves of Proofs/Writer.lean.

Per column writer `ColOk`: its bookkeeping is the sums over its page records, every record is the finalisation of the
builder content it carries (`RecOk`), and that content satisfies a predicate `pp.P` of the caller's choice that
`add_values` keeps for batches in `pp.Q` (`Pred`).  Per column chunk of a finished row group `ChunkOk` (column,
metadata, page records, offset), zipped over the three lists by `Chunks`; per row group `GroupOk`, zipped by `Groups`
with the running offset and ordinal; per state `Inv`, kept by every move (`inv_move`).  `Chunks.proj`, `Groups.proj`
give the layout and page predicates of Proofs/WriterDefs.lean.  What this says of a completed run is
Proofs/WriterRun.lean.
-/
namespace Carquet.Proofs.WriterInv
open Carquet.Impl.Writer Carquet.Proofs.Writer Carquet.Proofs.WriterLayout Carquet.Proofs.WriterPages
open Carquet.Proofs.WriterTable
open Carquet.Proofs.SpecWriter (colRecs recs_append batchData_recs colRecs_empty)
open Carquet.Impl.WriterSink (commitRowGroup)

/-- a predicate on page builders that holds of the empty one and is kept by `add_values` of batches in `Q` -/
structure Pred (D : Deps) where
  P : Col → Page → Prop
  Q : Col → Batch → Prop
  empty : ∀ c, P c {}
  add : ∀ c p b, P c p → Q c b → P c (addValues D c p b)

/-- the predicate says at least that a builder without entries holds nothing -/
def Pred.WF {D : Deps} (pp : Pred D) : Prop := ∀ c p, pp.P c p → PageWF p

/-- no condition on the batches, nothing known of the builders -/
def Pred.top (D : Deps) : Pred D := ⟨fun _ _ => True, fun _ _ => True, fun _ => trivial, fun _ _ _ _ _ => trivial⟩

/-- well-formed batches (`BatchWF`) keep the builders well formed (`PageWF`) -/
def Pred.wf (D : Deps) : Pred D :=
  ⟨fun _ => PageWF, fun _ => BatchWF, fun _ _ => ⟨rfl, rfl, rfl⟩, fun c p b => addValues_wf D c p b⟩

variable {D : Deps}

/-! ### one column writer -/

/-- a page record is the finalisation of the builder content it carries, stored compressed, not empty, and that
content satisfies `P` -/
def RecOk (D : Deps) (P : Col → Page → Prop) (codec : Nat) (c : Col) (r : PageRec) : Prop :=
  r = pageRecOf D codec c r.src ∧ PageOk D codec r ∧ P c r.src

/-- the invariant of a column writer: its bookkeeping is the sums over its page records, each of which is `RecOk` -/
structure ColOk (D : Deps) (pp : Pred D) (codec : Nat) (c : Col) (cw : ColW) : Prop where
  buffer : cw.buffer = pagesBytes D cw.pages
  usize : cw.totalUncompressed = sumUsize D cw.pages
  values : cw.totalValues = sumRows cw.pages + cw.page.numValues
  numPages : cw.numPages = cw.pages.length
  recs : ∀ r ∈ cw.pages, RecOk D pp.P codec c r
  page : pp.P c cw.page

theorem colOk_empty (pp : Pred D) (codec : Nat) (c : Col) : ColOk D pp codec c {} :=
  ⟨rfl, rfl, rfl, rfl, nofun, pp.empty c⟩

/-- flushing the current page moves its content to the page records -/
theorem flushPage_colData {codec : Nat} {c : Col} {cw cw' : ColW} (hf : flushPage D codec c cw = some cw') :
    colData cw' = colData cw := by
  rcases flushPage_cases D codec c cw with ⟨-, e⟩ | e | ⟨-, -, e⟩ <;> rw [e] at hf <;> cases hf
  · rfl
  · simp only [colData, cutPage, pagesData_append, ColData.append_assoc]
    exact congrArg _ (ColData.append_empty _)

theorem colWriteBatch_colData {codec target : Nat} {c : Col} {cw cw' : ColW} {b : Batch}
    (hf : colWriteBatch D codec target c cw b = some cw') : colData cw' = (colData cw).append (batchData c b) := by
  have hdata : colData (addBatch D c cw b) = (colData cw).append (batchData c b) := by
    simp only [colData, addBatch, addValues_data, ColData.append_assoc]
  rcases colWriteBatch_cases D codec target c cw b with e | e <;> rw [e] at hf
  · cases hf; exact hdata
  · exact (flushPage_colData hf).trans hdata

theorem flushPage_colOk {pp : Pred D} {codec : Nat} {c : Col} {cw cw' : ColW} (h : ColOk D pp codec c cw)
    (hf : flushPage D codec c cw = some cw') : ColOk D pp codec c cw' ∧ cw'.page.numValues = 0 := by
  rcases flushPage_cases D codec c cw with ⟨h0, e⟩ | e | ⟨h0, hc, e⟩ <;> rw [e] at hf <;> cases hf
  · exact ⟨h, h0⟩
  · refine ⟨⟨?_, ?_, ?_, ?_, ?_, pp.empty c⟩, rfl⟩
    · simp [cutPage, pagesBytes, h.buffer]
    · simp [cutPage, sumUsize, h.usize]
    · simp [cutPage, sumRows, h.values, pageRecOf]
    · simp [cutPage, h.numPages]
    · intro r hr
      rcases List.mem_append.mp hr with hr | hr
      · exact h.recs r hr
      · obtain rfl : r = pageRecOf D codec c cw.page := by simpa using hr
        exact ⟨rfl, ⟨hc, Nat.pos_of_ne_zero h0⟩, h.page⟩

theorem colWriteBatch_colOk {pp : Pred D} {codec target : Nat} {c : Col} {cw cw' : ColW} {b : Batch}
    (h : ColOk D pp codec c cw) (hq : pp.Q c b) (hf : colWriteBatch D codec target c cw b = some cw') :
    ColOk D pp codec c cw' := by
  have hadd : ColOk D pp codec c (addBatch D c cw b) :=
    ⟨h.buffer, h.usize, by simp [addBatch, addValues, h.values, Nat.add_assoc], h.numPages, h.recs,
      pp.add c cw.page b h.page hq⟩
  rcases colWriteBatch_cases D codec target c cw b with e | e <;> rw [e] at hf
  · cases hf; exact hadd
  · exact (flushPage_colOk hadd hf).1

/-- once the current page is flushed the column's content is that of its page records -/
theorem ColOk.flushed {pp : Pred D} {codec : Nat} {c : Col} {cw : ColW} (h : ColOk D pp codec c cw) (hwf : pp.WF)
    (h0 : cw.page.numValues = 0) : pagesData cw.pages = colData cw := by
  obtain ⟨q1, q2, q3⟩ := hwf c cw.page h.page h0
  simp [colData, pageData, ColData.append, h0, q1, q2, q3]

/-! ### the column writers of the open row group -/

/-- one `ColOk` column writer per column -/
inductive Cols (D : Deps) (pp : Pred D) (codec : Nat) : List Col → List ColW → Prop
  | nil : Cols D pp codec [] []
  | cons {c : Col} {cw : ColW} {cs : List Col} {cws : List ColW} :
      ColOk D pp codec c cw → Cols D pp codec cs cws → Cols D pp codec (c :: cs) (cw :: cws)

theorem cols_fresh (pp : Pred D) (codec : Nat) : ∀ cols : List Col, Cols D pp codec cols (cols.map (fun _ => ({} : ColW)))
  | [] => .nil
  | c :: cs => .cons (colOk_empty pp codec c) (cols_fresh pp codec cs)

variable {pp : Pred D} {codec : Nat}

-- By `induction` on the derivation, here and below: the same proofs as recursive functions over a proof of `Cols`
-- (`| .cons h t, … => …`) take three to five times as long to check.
theorem Cols.get {c : Col} {cw : ColW} {cols : List Col} {cws : List ColW} (h : Cols D pp codec cols cws) :
    ∀ {i : Nat}, cols[i]? = some c → cws[i]? = some cw → ColOk D pp codec c cw := by
  induction h with
  | nil => intro i hc; cases hc
  | cons h _ ih =>
    intro i hc hcw
    cases i with
    | zero => cases hc; cases hcw; exact h
    | succ k => exact ih hc hcw

theorem Cols.set {c : Col} {cw' : ColW} {cols : List Col} {cws : List ColW} (h : Cols D pp codec cols cws) :
    ∀ {i : Nat}, cols[i]? = some c → ColOk D pp codec c cw' → Cols D pp codec cols (cws.set i cw') := by
  induction h with
  | nil => intro i hc; cases hc
  | cons h t ih =>
    intro i hc hcw
    cases i with
    | zero => cases hc; exact .cons hcw t
    | succ k => exact .cons h (ih hc hcw)

/-! ### the chunks of a finished row group -/

/-- what the writer guarantees of one column chunk: column, metadata, page records, position -/
structure ChunkOk (D : Deps) (P : Col → Page → Prop) (codec : Nat) (c : Col) (m : ChunkMeta) (ps : List PageRec)
    (off : Nat) : Prop where
  offset : m.fileOffset = off
  pages : ChunkPages D codec m ps
  ptype : m.ptype = c.ptype
  path : m.path = c.name
  recs : ∀ r ∈ ps, r = pageRecOf D codec c r.src ∧ P c r.src

/-- the chunks of a row group lie end to end from `off`, one per column -/
inductive Chunks (D : Deps) (P : Col → Page → Prop) (codec : Nat) :
    List Col → List ChunkMeta → List (List PageRec) → Nat → Prop
  | nil {off : Nat} : Chunks D P codec [] [] [] off
  | cons {c : Col} {m : ChunkMeta} {ps : List PageRec} {off : Nat} {cs : List Col} {ms : List ChunkMeta}
      {pss : List (List PageRec)} : ChunkOk D P codec c m ps off → Chunks D P codec cs ms pss (off + m.totalCompressed) →
      Chunks D P codec (c :: cs) (m :: ms) (ps :: pss) off

theorem Chunks.size {P : Col → Page → Prop} {cols : List Col} {ms : List ChunkMeta} {pss : List (List PageRec)} {off : Nat}
    (h : Chunks D P codec cols ms pss off) : (groupBytes D pss).length = chunksSize ms := by
  induction h with
  | nil => rfl
  | cons h _ ih =>
    simp only [groupBytes, chunksSize, List.map_cons, List.flatten_cons, List.length_append, List.sum_cons] at ih ⊢
    rw [ih, h.pages.2.1]

/-- the chunk metadata tile from `off`, are the sums over the pages, and the pages belong to the columns -/
theorem Chunks.proj {P : Col → Page → Prop} {cols : List Col} {ms : List ChunkMeta} {pss : List (List PageRec)} {off : Nat}
    (h : Chunks D P codec cols ms pss off) : ChunksAt ms off ∧ AllChunks D codec ms pss ∧ GroupOf D codec cols pss := by
  induction h with
  | nil => exact ⟨trivial, trivial, trivial⟩
  | cons h _ ih => exact ⟨⟨h.offset, ih.1⟩, ⟨h.pages, ih.2.1⟩, ⟨fun r hr => (h.recs r hr).1, ih.2.2⟩⟩

theorem finalizeCols_chunks (w : W) (cols : List Col) (cws : List ColW) (off : Nat)
    (bytes : Bytes) (metas : List ChunkMeta) (h : Cols D pp w.codec cols cws)
    (hf : finalizeCols D w cols cws off = some (bytes, metas)) :
    bytes = groupBytes D (finalizeColsPages D w cols cws) ∧
    Chunks D pp.P w.codec cols metas (finalizeColsPages D w cols cws) off ∧
    (pp.WF → (finalizeColsPages D w cols cws).map pagesData = cws.map colData) := by
  fun_induction finalizeCols D w cols cws off generalizing bytes metas with
  | case1 => cases hf
  | case2 => cases hf
  | case3 c cs cw cws off cw' hfl b2 m2 hr ih =>
    cases hf
    cases h with | cons h1 h2 => ?_
    obtain ⟨i1, i2, i3⟩ := ih b2 m2 h2 hr
    obtain ⟨a, a0⟩ := flushPage_colOk h1 hfl
    simp only [finalizeColsPages, hfl]
    refine ⟨by rw [i1, a.buffer]; simp [groupBytes], .cons ⟨rfl, ⟨?_, ?_, a.usize, rfl, fun r hr => (a.recs r hr).2.1⟩, rfl, rfl,
      fun r hr => ⟨(a.recs r hr).1, (a.recs r hr).2.2⟩⟩ ?_, fun hwf => ?_⟩
    · simp [chunkOf, a.values, a0]
    · simp [chunkOf, a.buffer]
    · simpa [chunkOf] using i2
    · simp [i3 hwf, a.flushed hwf a0, flushPage_colData hfl]
  | case4 t x _ hne =>
    cases hf
    cases h with
    | nil => exact ⟨rfl, .nil, fun _ => rfl⟩
    | cons => exact absurd rfl (hne _ _ _ _ rfl)

/-! ### the finished row groups -/

/-- what the writer guarantees of one finished row group: metadata, page records, position, ordinal -/
structure GroupOk (D : Deps) (pp : Pred D) (codec : Nat) (cols : List Col) (g : RgMeta) (p : List (List PageRec))
    (off ord : Nat) : Prop where
  offset : g.fileOffset = off
  ordinal : g.ordinal = ord
  compressed : g.totalCompressed = chunksSize g.chunks
  byteSize : g.totalByteSize = chunksUncompressed g.chunks
  chunks : Chunks D pp.P codec cols g.chunks p off
  rows : pp.WF → g.numRows = firstRecs cols (p.map pagesData)

/-- the row groups lie end to end from `off` and are numbered from `ord` -/
inductive Groups (D : Deps) (pp : Pred D) (codec : Nat) (cols : List Col) :
    List RgMeta → List (List (List PageRec)) → Nat → Nat → Prop
  | nil {off ord : Nat} : Groups D pp codec cols [] [] off ord
  | cons {g : RgMeta} {p : List (List PageRec)} {off ord : Nat} {gs : List RgMeta} {ps : List (List (List PageRec))} :
      GroupOk D pp codec cols g p off ord → Groups D pp codec cols gs ps (off + g.totalCompressed) (ord + 1) →
      Groups D pp codec cols (g :: gs) (p :: ps) off ord

theorem Groups.snoc {cols : List Col} {g : RgMeta} {p : List (List PageRec)} {gs : List RgMeta}
    {ps : List (List (List PageRec))} {off ord : Nat} (h : Groups D pp codec cols gs ps off ord)
    (hg : GroupOk D pp codec cols g p (off + groupsSize gs) (ord + gs.length)) :
    Groups D pp codec cols (gs ++ [g]) (ps ++ [p]) off ord := by
  induction h with
  | nil => exact .cons (by simpa [groupsSize] using hg) .nil
  | cons h _ ih => exact .cons h (ih (by simpa [groupsSize, Nat.add_assoc, Nat.add_comm 1] using hg))

theorem Groups.length {cols : List Col} {gs : List RgMeta} {ps : List (List (List PageRec))} {off ord : Nat}
    (h : Groups D pp codec cols gs ps off ord) : gs.length = ps.length := by
  induction h with
  | nil => rfl
  | cons _ _ ih => exact congrArg (· + 1) ih

/-- the row-group metadata tile from `off`, their chunks are the sums over the pages, the pages belong to the columns,
and the data region is as long as the metadata say -/
theorem Groups.proj {cols : List Col} {gs : List RgMeta} {ps : List (List (List PageRec))} {off ord : Nat}
    (h : Groups D pp codec cols gs ps off ord) :
    GroupsAt gs off ∧ AllGroups D codec gs ps ∧ (∀ g ∈ ps, GroupOf D codec cols g) ∧
    (dataBytes D ps).length = groupsSize gs := by
  induction h with
  | nil => exact ⟨trivial, trivial, nofun, rfl⟩
  | cons h _ ih =>
    obtain ⟨a, b, c, d⟩ := ih
    obtain ⟨c1, c2, c3⟩ := h.chunks.proj
    refine ⟨⟨h.offset, c1, h.compressed, h.byteSize, a⟩, ⟨c2, b⟩, List.forall_mem_cons.mpr ⟨c3, c⟩, ?_⟩
    simp only [dataBytes, groupsSize, List.map_cons, List.flatten_cons, List.length_append, List.sum_cons] at d ⊢
    rw [d, h.chunks.size, h.compressed]

/-! ### writer states -/

/-- **the invariant of writer states**.  Nothing is written before the header; afterwards the stream is the magic
and the pages of the finished row groups, `file_offset` the position behind them; the finished row groups are `Groups`
from offset 4; the open row group has a `ColOk` column writer per column and `rgRows` counts the rows of column 0. -/
structure Inv (D : Deps) (pp : Pred D) (w : W) : Prop where
  fresh : w.headerWritten = false → w.out = [] ∧ w.rowGroups = [] ∧ w.pagesDone = []
  out : w.headerWritten = true → w.out.flatten = magic ++ dataBytes D w.pagesDone
  offset : w.headerWritten = true → w.fileOffset = 4 + groupsSize w.rowGroups
  rows : w.totalRows = (w.rowGroups.map (·.numRows)).sum
  groups : Groups D pp w.codec w.cols w.rowGroups w.pagesDone 4 0
  cur : ∀ cws, w.rg = some cws → Cols D pp w.codec w.cols cws ∧ w.rgRows = (List.zipWith colRecs w.cols cws).headD 0

theorem inv_init (pp : Pred D) (cols : List Col) (codec pageSize : Nat) (createdBy : String) :
    Inv D pp { cols := cols, codec := codec, pageSize := pageSize, createdBy := createdBy } :=
  ⟨fun _ => ⟨rfl, rfl, rfl⟩, nofun, nofun, rfl, .nil, nofun⟩

theorem headD_zipWith_set {cols : List Col} {cws : List ColW} {i : Nat} {c : Col} {cw cw' : ColW} {n : Nat}
    (hcol : cols[i]? = some c) (hc : cws[i]? = some cw) (hr : colRecs c cw' = colRecs c cw + n) :
    (List.zipWith colRecs cols (cws.set i cw')).headD 0 =
      (List.zipWith colRecs cols cws).headD 0 + (if i = 0 then n else 0) := by
  cases cols with
  | nil => cases hcol
  | cons _ _ =>
    cases cws with
    | nil => cases hc
    | cons _ _ =>
      cases i with
      | zero => cases hcol; cases hc; simp [hr]
      | succ _ => rfl

theorem inv_move {w w' : W} (m : Move D pp.Q w w') (h : Inv D pp w) : Inv D pp w' := by
  cases m with
  | header hw =>
    obtain ⟨ho, hg, hp⟩ := h.fresh hw
    exact ⟨nofun, fun _ => by simp [ho, hp, dataBytes], fun _ => by simp [hg, groupsSize], h.rows, h.groups, h.cur⟩
  | openRg hr =>
    refine ⟨h.fresh, h.out, h.offset, h.rows, h.groups, fun cws hc => ?_⟩
    cases hc
    exact ⟨cols_fresh pp w.codec w.cols, by cases w.cols <;> simp [colRecs_empty]⟩
  | @batch c cws cw cw' b hc hq hr hcw hcb =>
    refine ⟨h.fresh, h.out, h.offset, h.rows, h.groups, fun cws' hc' => ?_⟩
    cases hc'
    obtain ⟨s1, s2⟩ := h.cur cws hr
    refine ⟨s1.set hc (colWriteBatch_colOk (s1.get hc hcw) hq hcb), ?_⟩
    show w.rgRows + _ = _
    rw [s2, setAt, headD_zipWith_set hc hcw (n := batchRows c b)
      (by simp only [colRecs, colWriteBatch_colData hcb, recs_append, batchData_recs])]
  | @commit cws bytes metas hh hr hf =>
    obtain ⟨s1, s2⟩ := h.cur cws hr
    obtain ⟨rfl, d2, d3⟩ := finalizeCols_chunks w w.cols cws w.fileOffset bytes metas s1 hf
    have hsz := d2.size
    refine ⟨fun hf' => absurd (hh.symm.trans hf') nofun, fun _ => ?_, fun _ => ?_, ?_, ?_, nofun⟩
    · show (if _ then _ else _ : List Bytes).flatten = magic ++ dataBytes D (w.pagesDone ++ [_])
      split
      · simp [h.out hh, dataBytes, List.append_assoc]
      · simp [h.out hh, dataBytes, List.eq_nil_of_length_eq_zero (Nat.eq_zero_of_not_pos ‹_›)]
    · simp [commitRowGroup, groupsSize, h.offset hh]; omega
    · simp [commitRowGroup, h.rows]
    · refine h.groups.snoc ⟨(h.offset hh).symm ▸ rfl, by simp, hsz, rfl, (h.offset hh) ▸ d2, fun hwf => ?_⟩
      show w.rgRows = _
      rw [s2, firstRecs, d3 hwf, List.zipWith_map_right]
      rfl

theorem Inv.moves {w w' : W} (m : Moves D pp.Q w w') (h : Inv D pp w) : Inv D pp w' :=
  m.inv (fun _ _ => inv_move) h

end Carquet.Proofs.WriterInv
