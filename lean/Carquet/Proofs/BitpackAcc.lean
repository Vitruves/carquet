import Carquet.Impl.BitpackAcc
import Carquet.Proofs.BitpackTails
/-
Read footprint of the raw unpackers: every index the generic loop reads is below `w`; the result of
`carquet_bitunpack8_32` / `carquet_bitunpack_32` is a function of the first `w` / `packed_size(count, w)`
input bytes only; the accesses of `carquet_bitunpack_32` tile exactly `[0, packed_size(count, w))`.
-/
namespace Carquet.Proofs.BitpackAcc
open Carquet.Impl.Bitpack Carquet.Proofs.NatBits Carquet.Proofs.BitpackImpl Carquet.Proofs.BitpackTails

/-- inner loop: with `byte_pos = bit_pos / 8`, every index read is below `(bit_pos + bits_needed + 7) / 8` -/
theorem genInnerIdx_lt (inp : List UInt8) : ∀ (fuel : Nat) (s : GenSt), s.bytePos = s.bitPos / 8 →
    ∀ i ∈ genInnerIdx inp fuel s, 8 * i < s.bitPos + s.bitsNeeded := by
  intro fuel
  induction fuel with
  | zero => intro s _ i hi; simp [genInnerIdx] at hi
  | succ f ih =>
    intro s hb i hi
    simp only [genInnerIdx] at hi
    split at hi
    · simp at hi
    · rename_i h0
      obtain ⟨hk1, hk2, -⟩ := bitsFromByte_bounds h0
      rcases List.mem_cons.mp hi with rfl | hi
      · omega
      · have hbyte := genStep_bytePos inp h0 hb
        have := ih (genStep inp s) hbyte i hi
        simp only [genStep] at this
        omega

/-- outer loop started at value `j`: all indices below `w` (8 values of `w` bits = `w` bytes) -/
theorem genOuterIdx_lt (w : Nat) (inp : List UInt8) : ∀ (n j : Nat), j + n ≤ 8 →
    ∀ i ∈ genOuterIdx w inp n (w * j) (w * j / 8), i < w := by
  intro n
  induction n with
  | zero => intro j _ i hi; simp [genOuterIdx] at hi
  | succ n ih =>
    intro j hj i hi
    simp only [genOuterIdx] at hi
    obtain ⟨_, r2, r3⟩ := genInner_eq inp w ⟨0, w, 0, w * j, w * j / 8⟩ (w * j)
      (Nat.le_refl _) rfl rfl (by simp [Nat.mod_one])
    rcases List.mem_append.mp hi with hi | hi
    · have := genInnerIdx_lt inp w ⟨0, w, 0, w * j, w * j / 8⟩ rfl i hi
      simp only at this
      have h8 : w * j + w ≤ w * 8 := Nat.mul_succ w j ▸ Nat.mul_le_mul_left w (by omega)
      omega
    · rw [r2, r3] at hi
      simp only at hi
      rw [← Nat.mul_succ] at hi
      exact ih (j + 1) (by omega) i hi

/-- **`carquet_bitunpack8_32` reads `input[0 .. w)` only**, at every declared width -/
theorem unpack8Idx_lt (w : Nat) (inp : List UInt8) : ∀ i ∈ unpack8Idx w inp, i < w := by
  intro i hi
  unfold unpack8Idx at hi
  split at hi
  · simp at hi
  · split at hi
    · simpa using hi
    · have := genOuterIdx_lt w inp 8 0 (by omega) i
      simp only [Nat.mul_zero, Nat.zero_div] at this
      exact this hi

/-- … and its result depends on those bytes only -/
theorem unpack8_take {w : Nat} (hw : w ≤ 32) (inp : List UInt8) : unpack8 w inp = unpack8 w (inp.take w) := by
  rw [unpack8_eq hw inp, unpack8_eq hw (inp.take w), List.take_take, Nat.min_self]

/-- **the accesses of `carquet_bitunpack_32` lie inside `[0, packed_size(count, w))`**, they are consecutive
from 0 and their lengths add up to `packed_size(count, w)` = the reported `bytes_consumed` -/
theorem unpackAccs_in (w count : Nat) :
    (∀ a ∈ unpackAccs w count, a.off + a.len ≤ packedSize count w) ∧
    ((unpackAccs w count).map (·.len)).sum = (if w = 0 then 0 else packedSize count w) := by
  unfold unpackAccs
  by_cases h0 : w = 0
  · simp [h0]
  · rw [if_neg h0, if_neg h0]
    have hsplit := packedSize_split count w
    constructor
    · intro a ha
      rcases List.mem_append.mp ha with h | h
      · simp only [List.mem_map, List.mem_range] at h
        obtain ⟨g, hg, rfl⟩ := h
        simp only
        have : g * w + w ≤ count / 8 * w := Nat.succ_mul g w ▸ Nat.mul_le_mul_right w hg
        omega
      · split at h
        · simp at h
        · simp only [List.mem_singleton] at h
          subst h
          simp only
          omega
    · rw [List.map_append, List.sum_append, List.map_map]
      have hs : ∀ k, ((List.range k).map ((fun a : Acc => a.len) ∘ fun g => (⟨g * w, w⟩ : Acc))).sum = k * w := by
        intro k
        induction k with
        | zero => simp
        | succ k ih =>
          rw [List.range_succ, List.map_append, List.sum_append, ih]
          simp [Nat.add_mul]
      rw [hs]
      split
      · rename_i hr
        simp only [List.map_nil, List.sum_nil]
        rw [hsplit, hr]
        simp [packedSize]
      · simp only [List.map_cons, List.map_nil, List.sum_cons, List.sum_nil]
        omega

/-- **`carquet_bitunpack_32` is a function of the first `packed_size(count, w)` input bytes**: values and
`bytes_consumed` do not change when everything behind them is cut off -/
theorem unpack_take {w : Nat} (hw : w ≤ 32) (inp : List UInt8) (n : Nat) :
    unpack w inp n = unpack w (inp.take (packedSize n w)) n := by
  by_cases h0 : w = 0
  · subst h0; simp [unpack]
  · apply Prod.ext
    · rw [unpack_values hw h0, unpack_values hw h0]
      apply List.map_congr_left
      intro i hi
      rw [leNat_take]
      exact (nth_mod w _ (List.mem_range.mp hi) (by unfold packedSize; rw [Nat.mul_comm n w]; omega)).symm
    · rw [unpack_consumed h0, unpack_consumed h0]

end Carquet.Proofs.BitpackAcc
