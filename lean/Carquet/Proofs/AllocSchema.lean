import Carquet.Proofs.AllocFlow
/-
Schema builder model (C19): growth keeps what is there, failures leave the columns intact.
-/
namespace Carquet.Impl.Alloc.Flow
open Carquet.Impl.Alloc

theorem growCap_ge (fuel cap required : Nat) (hc : 0 < cap) (hf : required ≤ cap + fuel) :
    required ≤ growCap fuel cap required ∧ cap ≤ growCap fuel cap required := by
  induction fuel generalizing cap with
  | zero => simp [growCap]; omega
  | succ n ih =>
    simp only [growCap]
    have h2 : Gen.schemaGrowthFactor = 2 := rfl
    split
    · have := ih (cap * Gen.schemaGrowthFactor) (by rw [h2]; omega) (by rw [h2]; omega)
      rw [h2] at this ⊢
      omega
    · omega

/-- capacity bookkeeping: the four arrays are at least `capacity` long, `capacity` is positive -/
def CapInv (s : Schema) : Prop :=
  0 < s.capacity ∧ s.capacity ≤ s.elemsLen ∧ s.capacity ≤ s.leafLen ∧ s.capacity ≤ s.defLen ∧ s.capacity ≤ s.repLen

/-- the builder's invariant: every element and every leaf entry has a slot -/
def SchemaInv (s : Schema) : Prop :=
  CapInv s ∧ s.elems.length ≤ s.capacity ∧ s.leaves.length + 1 ≤ s.elems.length

instance (s : Schema) : Decidable (SchemaInv s) := by unfold SchemaInv CapInv; infer_instance

theorem newSchemaCap_ge (s : Schema) (required : Nat) (h : 0 < s.capacity) :
    required ≤ newSchemaCap s required ∧ s.capacity ≤ newSchemaCap s required :=
  growCap_ge required s.capacity required h (by omega)

theorem grant_of_not {o : Oracle} (h : ¬(!o.grant) = true) : o.grant = true := by
  cases hg : o.grant <;> simp_all

/-- schema_ensure_capacity under every oracle.  Each array keeps its length or gets the new capacity, which is at
least the old one: that is why `CapInv` survives a failure half-way (`capacity` itself changes only on success). -/
theorem ensureS_spec {s : Schema} {required : Nat} {o : Oracle} {st : Status} {s' : Schema} {o' : Oracle}
    (h : schemaEnsureCapacityS s required o = (st, s', o')) :
    s'.elems = s.elems ∧ s'.leaves = s.leaves ∧ s'.arena = s.arena ∧
    (CapInv s → CapInv s' ∧
      ((st = .ok ∧ required ≤ s'.capacity ∧ s.capacity ≤ s'.capacity) ∨ (st = .oom ∧ s'.capacity = s.capacity))) ∧
    (st = .ok → Granted o o' ∧ schemaEnsureCapacityS s required [] = (.ok, s', [])) := by
  have hn := newSchemaCap_ge s required
  unfold schemaEnsureCapacityS at h ⊢
  by_cases h0 : required ≤ s.capacity
  · rw [if_pos h0] at h ⊢; cases h
    exact ⟨rfl, rfl, rfl, fun hc => ⟨hc, .inl ⟨rfl, h0, Nat.le_refl _⟩⟩, fun _ => ⟨Granted.refl _, rfl⟩⟩
  rw [if_neg h0] at h ⊢
  by_cases h1 : (!o.grant) = true
  · rw [if_pos h1] at h; cases h
    exact ⟨rfl, rfl, rfl, fun hc => ⟨hc, .inr ⟨rfl, rfl⟩⟩, nofun⟩
  rw [if_neg h1] at h
  by_cases h2 : (!o.rest.grant) = true
  · rw [if_pos h2] at h; cases h
    exact ⟨rfl, rfl, rfl, fun hc => ⟨⟨hc.1, (hn hc.1).2, hc.2.2⟩, .inr ⟨rfl, rfl⟩⟩, nofun⟩
  rw [if_neg h2] at h
  by_cases h3 : (!o.rest.rest.grant) = true
  · rw [if_pos h3] at h; cases h
    exact ⟨rfl, rfl, rfl, fun hc => ⟨⟨hc.1, (hn hc.1).2, (hn hc.1).2, hc.2.2.2⟩, .inr ⟨rfl, rfl⟩⟩, nofun⟩
  rw [if_neg h3] at h
  by_cases h4 : (!o.rest.rest.rest.grant) = true
  · rw [if_pos h4] at h; cases h
    exact ⟨rfl, rfl, rfl, fun hc => ⟨⟨hc.1, (hn hc.1).2, (hn hc.1).2, (hn hc.1).2, hc.2.2.2.2⟩, .inr ⟨rfl, rfl⟩⟩, nofun⟩
  rw [if_neg h4] at h; cases h
  refine ⟨rfl, rfl, rfl, fun hc => ⟨⟨Nat.lt_of_lt_of_le hc.1 (hn hc.1).2, Nat.le_refl _, Nat.le_refl _, Nat.le_refl _,
    Nat.le_refl _⟩, .inl ⟨rfl, hn hc.1⟩⟩, fun _ => ⟨?_, rfl⟩⟩
  exact (Granted.step _ (grant_of_not h1)).trans ((Granted.step _ (grant_of_not h2)).trans
    ((Granted.step _ (grant_of_not h3)).trans (Granted.step _ (grant_of_not h4))))

theorem pushColumn_spec {s s1 : Schema} (he : s1.elems = s.elems) (hl : s1.leaves = s.leaves) (hci : CapInv s1)
    (hreq : s.elems.length + 1 ≤ s1.capacity) (hleaf : s.leaves.length + 1 ≤ s.elems.length)
    (ar : Arena.Arena) (nm : Option (List UInt8)) (rep : Nat) :
    SchemaInv (pushColumn { s1 with arena := ar } nm rep) ∧
    (pushColumn { s1 with arena := ar } nm rep).elems = s.elems ++ [⟨nm, rep⟩] ∧
    (pushColumn { s1 with arena := ar } nm rep).leaves = s.leaves ++ [(s.elems.length, maxDefOf rep, maxRepOf rep)] := by
  refine ⟨⟨hci, ?_, ?_⟩, ?_, ?_⟩
  · simpa [pushColumn, he] using hreq
  · simpa [pushColumn, he, hl] using hleaf
  · simp [pushColumn, he]
  · simp [pushColumn, he, hl]

theorem addColumnS_spec (checked : Bool) (s : Schema) (name : List UInt8) (rep : Nat) (o : Oracle) (hinv : SchemaInv s) :
    SchemaInv (schemaAddColumnS checked s name rep o).2.1 ∧
    ((schemaAddColumnS checked s name rep o).1 ≠ .ok →
        (schemaAddColumnS checked s name rep o).1 = .oom ∧
        (schemaAddColumnS checked s name rep o).2.1.elems = s.elems ∧
        (schemaAddColumnS checked s name rep o).2.1.leaves = s.leaves ∧
        s.capacity ≤ (schemaAddColumnS checked s name rep o).2.1.capacity) ∧
    ((schemaAddColumnS checked s name rep o).1 = .ok →
        ∃ nm, (schemaAddColumnS checked s name rep o).2.1.elems = s.elems ++ [⟨nm, rep⟩] ∧
          (schemaAddColumnS checked s name rep o).2.1.leaves = s.leaves ++ [(s.elems.length, maxDefOf rep, maxRepOf rep)] ∧
          (checked = true → nm = some name)) := by
  obtain ⟨hcap, hlen, hleaf⟩ := hinv
  unfold schemaAddColumnS
  generalize hr : schemaEnsureCapacityS s (s.elems.length + 1) o = r
  obtain ⟨st, s1, o1⟩ := r
  obtain ⟨he, hl, -, hE, -⟩ := ensureS_spec hr
  obtain ⟨hci, ⟨rfl, hreq, hmono⟩ | ⟨rfl, hc⟩⟩ := hE hcap
  · -- room was made: the outcome depends on the copy of the name
    have hkeep : ∀ ar, SchemaInv { s1 with arena := ar } := fun ar =>
      ⟨hci, by rw [he]; exact Nat.le_of_succ_le hreq, by rw [he, hl]; exact hleaf⟩
    have hpush := pushColumn_spec he hl hci hreq hleaf
    simp only
    generalize Arena.strdup s1.arena name.length 8 o1 = sd
    obtain ⟨_ | p, ar', o2⟩ := sd
    · cases checked
      · exact ⟨(hpush ar' none rep).1, fun h => absurd rfl h, fun _ => ⟨none, (hpush ar' none rep).2.1, (hpush ar' none rep).2.2, nofun⟩⟩
      · exact ⟨hkeep ar', fun _ => ⟨rfl, he, hl, hmono⟩, nofun⟩
    · exact ⟨(hpush ar' _ rep).1, fun h => absurd rfl h, fun _ => ⟨some name, (hpush ar' _ rep).2.1, (hpush ar' _ rep).2.2, fun _ => rfl⟩⟩
  · exact ⟨⟨hci, by rw [he, hc]; exact hlen, by rw [he, hl]; exact hleaf⟩, fun _ => ⟨rfl, he, hl, Nat.le_of_eq hc.symm⟩, nofun⟩

theorem addColumnS_ok_indep (s : Schema) (name : List UInt8) (rep : Nat) (o : Oracle)
    (h : (schemaAddColumnS true s name rep o).1 = .ok) :
    Granted o (schemaAddColumnS true s name rep o).2.2 ∧
    schemaAddColumnS true s name rep [] = (.ok, (schemaAddColumnS true s name rep o).2.1, []) := by
  unfold schemaAddColumnS at *
  generalize hr : schemaEnsureCapacityS s (s.elems.length + 1) o = r at *
  obtain ⟨st, s1, o1⟩ := r
  have hE := (ensureS_spec hr).2.2.2.2
  cases st with
  | ok =>
    obtain ⟨g1, e1⟩ := hE rfl
    simp only at h ⊢
    rw [e1]; simp only
    have hA := allocAligned_some_indep s1.arena (min name.length name.length + 1) 1 8 o1
    unfold Arena.strdup Arena.strndup at *
    generalize Arena.allocAligned s1.arena (min name.length name.length + 1) 1 8 o1 = sd at *
    obtain ⟨res, ar', o2⟩ := sd
    cases res with
    | some p =>
      obtain ⟨g2, e2⟩ := hA p rfl
      simp only at g2 e2 ⊢
      rw [e2]
      exact ⟨g1.trans g2, rfl⟩
    | none => simp at h
  | oom => simp at h
  | other => simp at h

theorem run_schemaAddColumn (s : Schema) (name : List UInt8) (rep : Nat) : Strict (schemaAddColumn true s name rep) :=
  strict_of_cases fun o => by
    have hI := addColumnS_ok_indep s name rep o
    unfold schemaAddColumn
    generalize schemaAddColumnS true s name rep o = r at hI
    obtain ⟨st, s', o1⟩ := r
    cases st
    · obtain ⟨g, e⟩ := hI rfl
      exact .inr ⟨s', o1, rfl, g, by rw [e]⟩
    all_goals exact .inl ⟨.oom, o1, rfl, by decide⟩

end Carquet.Impl.Alloc.Flow
