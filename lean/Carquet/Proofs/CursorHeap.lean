import Carquet.Proofs.CursorFuel
/-
F28 / C01 lifetime clause, on the model's heap log: byte-array values handed back by a read call
point into page data buffers that are still allocated when the call returns (and therefore until
the next call on that column reader, which is the only place buffers are released).
No validity assumption on the chunk is needed.
-/
namespace Carquet.Proofs.Cursor
open Carquet.Impl.ColumnReader

/-- Consistency of the page-data heap log: ids handed out so far are below `nextBuf`, a buffer is
either live (current or retired) or freed, never both, never twice. -/
def HeapOk (r : Reader α) : Prop :=
  (∀ b ∈ liveBufs r, b < r.nextBuf) ∧ (∀ b ∈ r.freed, b < r.nextBuf) ∧ (liveBufs r ++ r.freed).Nodup

theorem heapOk_getColumn (c : Chunk α) : HeapOk (getColumn c) := by
  simp [HeapOk, getColumn, liveBufs]

/-! `HeapOk` and `liveBufs` look at `pageData`, `retired`, `nextBuf` and `freed` only, so for `consume`,
`installEmpty` and `installPage` (after `swapPageData`) they reduce to those of the state before. -/

theorem liveBufs_advance (r : Reader α) : liveBufs (advance r) = liveBufs r := by
  unfold advance; split <;> rfl

theorem heapOk_advance {r : Reader α} (h : HeapOk r) : HeapOk (advance r) := by
  unfold advance; split <;> exact h

/-- replacing the page data under F28: the old buffer stays live, nothing is freed -/
theorem swapPageData_heap (r : Reader α) (h : HeapOk r) :
    HeapOk (swapPageData Fixes.all r) ∧ (∀ b ∈ liveBufs r, b ∈ liveBufs (swapPageData Fixes.all r)) ∧
      (swapPageData Fixes.all r).freed = r.freed ∧
      ((swapPageData Fixes.all r).chunk.retains = true → ∀ id, (swapPageData Fixes.all r).pageData = some id →
        id ∈ liveBufs (swapPageData Fixes.all r)) := by
  by_cases hr : r.chunk.retains = true
  · have e1 : (swapPageData Fixes.all r).pageData = some r.nextBuf := by simp [swapPageData, hr, Fixes.all]
    have e2 : (swapPageData Fixes.all r).retired = r.retired ++ r.pageData.toList := by
      simp [swapPageData, hr, Fixes.all]
    have e3 : (swapPageData Fixes.all r).nextBuf = r.nextBuf + 1 := by simp [swapPageData, hr, Fixes.all]
    have e4 : (swapPageData Fixes.all r).freed = r.freed := by simp [swapPageData, hr, Fixes.all]
    have el : liveBufs (swapPageData Fixes.all r) = r.nextBuf :: (r.retired ++ r.pageData.toList) := by
      simp [liveBufs, e1, e2]
    obtain ⟨h1, h2, h3⟩ := h
    have hmemOld : ∀ b, b ∈ r.retired ++ r.pageData.toList → b ∈ liveBufs r := by
      intro b hb
      simp only [liveBufs, List.mem_append] at hb ⊢
      exact hb.symm
    refine ⟨⟨?_, ?_, ?_⟩, ?_, e4, ?_⟩
    · intro b hb
      rw [el, List.mem_cons] at hb
      rw [e3]
      rcases hb with rfl | hb
      · omega
      · have := h1 b (hmemOld b hb); omega
    · intro b hb
      rw [e4] at hb; rw [e3]
      have := h2 b hb; omega
    · rw [el, e4]
      have hperm : (liveBufs r ++ r.freed).Perm (r.retired ++ r.pageData.toList ++ r.freed) := by
        apply List.Perm.append_right
        exact List.perm_append_comm
      have hnd : (r.retired ++ r.pageData.toList ++ r.freed).Nodup := (List.Perm.nodup_iff hperm).mp h3
      rw [List.cons_append, List.nodup_cons]
      refine ⟨?_, hnd⟩
      intro hmem
      rw [List.mem_append] at hmem
      rcases hmem with hmem | hmem
      · have := h1 r.nextBuf (hmemOld _ hmem); omega
      · have := h2 r.nextBuf hmem; omega
    · intro b hb
      rw [el, List.mem_cons]
      right
      simp only [liveBufs, List.mem_append] at hb ⊢
      exact hb.symm
    · intro _ id hid
      rw [e1] at hid
      simp only [Option.some.injEq] at hid
      rw [el, ← hid]; simp
  · have e : swapPageData Fixes.all r = r := by simp [swapPageData, hr]
    rw [e]
    exact ⟨h, fun b hb => hb, rfl, fun hc => absurd hc hr⟩

theorem swapPageData_chunk' (fx : Fixes) (r : Reader α) : (swapPageData fx r).chunk = r.chunk :=
  swapPageData_chunk fx r

/-- one `load_next_page` under F28 (F63: an empty page leaves the heap as it is) -/
theorem loadNextPage_heap (r r' : Reader α) (h : HeapOk r) (hl : loadNextPage Fixes.all r = .ok r') :
    HeapOk r' ∧ ∀ b ∈ liveBufs r, b ∈ liveBufs r' := by
  obtain ⟨p, _, _, rfl⟩ := loadNextPage_cases _ r r' hl
  split
  · exact ⟨h, fun b hb => hb⟩
  · exact ⟨(swapPageData_heap r h).1, (swapPageData_heap r h).2.1⟩

/-- the page-load loop under F28: live buffers stay live, nothing is freed -/
theorem prepareLoop_heap : ∀ (fuel : Nat) (r : Reader α), HeapOk r →
    HeapOk (prepareLoop Fixes.all fuel r).1 ∧ ∀ b ∈ liveBufs r, b ∈ liveBufs (prepareLoop Fixes.all fuel r).1 := by
  intro fuel
  induction fuel with
  | zero => intro r h; exact ⟨h, fun b hb => hb⟩
  | succ fuel ih =>
    intro r h
    unfold prepareLoop
    split
    · have ha : HeapOk (advance r) := heapOk_advance h
      have hla : ∀ b ∈ liveBufs r, b ∈ liveBufs (advance r) := fun b hb => (liveBufs_advance r).symm ▸ hb
      cases hl : loadNextPage Fixes.all (advance r) with
      | error e => exact ⟨ha, hla⟩
      | ok r' =>
        obtain ⟨h1, h2⟩ := loadNextPage_heap (advance r) r' ha hl
        have hf63 : Fixes.all.f63 = true := rfl
        simp only [hf63, if_true]
        obtain ⟨h3, h4⟩ := ih r' h1
        exact ⟨h3, fun b hb => h4 b (h2 b (hla b hb))⟩
    · exact ⟨h, fun b hb => hb⟩

/-- `carquet_read_next_page` under F28: live buffers stay live, nothing is freed, and the values it
copies point into a live buffer. -/
theorem readNextPage_heap (r : Reader α) (h : HeapOk r) (m : Int) :
    HeapOk (readNextPage Fixes.all r m).1 ∧ (∀ b ∈ liveBufs r, b ∈ liveBufs (readNextPage Fixes.all r m).1) ∧
      ∀ c, (readNextPage Fixes.all r m).2 = .ok c → ∀ id, c.buf = some id → id ∈ liveBufs (readNextPage Fixes.all r m).1 := by
  -- the page preparation
  have hprep : HeapOk (preparePage Fixes.all r).1 ∧ (∀ b ∈ liveBufs r, b ∈ liveBufs (preparePage Fixes.all r).1) ∧
      ((preparePage Fixes.all r).2 = none → (preparePage Fixes.all r).1.chunk.retains = true →
        ∀ id, (preparePage Fixes.all r).1.pageData = some id → id ∈ liveBufs (preparePage Fixes.all r).1) := by
    unfold preparePage
    obtain ⟨h1, h2⟩ := prepareLoop_heap (r.chunk.pages.length + 1) r h
    refine ⟨h1, h2, ?_⟩
    intro _ _ id hid
    simp only [liveBufs, List.mem_append]
    left
    rw [hid]; simp
  unfold readNextPage
  obtain ⟨hp1, hp2, hp3⟩ := hprep
  cases hpp : preparePage Fixes.all r with
  | mk r1 e =>
    rw [hpp] at hp1 hp2 hp3
    simp only at hp1 hp2 hp3
    cases e with
    | some e => exact ⟨hp1, hp2, fun c hc => by cases hc⟩
    | none =>
      simp only
      split
      · exact ⟨hp1, hp2, fun c hc => by cases hc⟩
      · refine ⟨hp1, hp2, ?_⟩
        intro c hc id hid
        simp only [Except.ok.injEq] at hc
        subst hc
        show id ∈ liveBufs r1
        simp only [pageCopy] at hid
        by_cases hret : r1.chunk.retains = true
        · simp only [hret, if_true] at hid
          exact hp3 rfl hret id hid
        · simp [hret] at hid

theorem readLoop_heap (wd wr : Bool) (k : Nat) : ∀ (fuel : Nat) (r : Reader α) (st : LoopSt α),
    HeapOk r → (∀ seg ∈ st.segs, ∀ id, seg.1 = some id → id ∈ liveBufs r) →
    ∀ x, readLoop Fixes.all wd wr k fuel r st = x →
      HeapOk x.1 ∧ ∀ seg ∈ x.2.segs, ∀ id, seg.1 = some id → id ∈ liveBufs x.1 := by
  intro fuel
  induction fuel with
  | zero => intro r st h hs x hx; subst hx; exact ⟨h, hs⟩
  | succ fuel ih =>
    intro r st h hs x hx
    unfold readLoop at hx
    split at hx
    · obtain ⟨g1, g2, g3⟩ := readNextPage_heap r h ((k : Int) - (st.totalRead : Int))
      cases hrn : readNextPage Fixes.all r ((k : Int) - (st.totalRead : Int)) with
      | mk r' res =>
        rw [hrn] at g1 g2 g3 hx
        have hs' : ∀ seg ∈ st.segs, ∀ id, seg.1 = some id → id ∈ liveBufs r' :=
          fun seg hseg id hid => g2 id (hs seg hseg id hid)
        cases res with
        | error e =>
          simp only at hx
          split at hx <;> (subst hx; exact ⟨g1, hs'⟩)
        | ok c =>
          simp only at hx
          split at hx
          · subst hx; exact ⟨g1, hs'⟩
          · apply ih r' _ g1 _ x hx
            intro seg hseg id hid
            simp only [LoopSt.push, List.mem_append, List.mem_singleton] at hseg
            rcases hseg with hseg | rfl
            · exact hs' seg hseg id hid
            · exact g3 c rfl id hid
    · subst hx; exact ⟨h, hs⟩

theorem releaseRetired_heap (r : Reader α) (h : HeapOk r) : HeapOk (releaseRetired Fixes.all r) := by
  obtain ⟨h1, h2, h3⟩ := h
  simp only [releaseRetired, Fixes.all, if_true]
  refine ⟨?_, ?_, ?_⟩
  · intro b hb
    simp only [liveBufs, List.append_nil] at hb
    exact h1 b (by simp [liveBufs, hb])
  · intro b hb
    simp only [List.mem_append] at hb
    rcases hb with hb | hb
    · exact h2 b hb
    · exact h1 b (by simp [liveBufs, hb])
  · simp only [liveBufs, List.append_nil]
    have hperm : (r.pageData.toList ++ r.retired ++ r.freed).Perm (r.pageData.toList ++ (r.freed ++ r.retired)) := by
      rw [List.append_assoc]
      apply List.Perm.append_left
      exact List.perm_append_comm
    exact (List.Perm.nodup_iff hperm).mp h3

/-- **Returned buffers are alive** (model of the C01 lifetime clause, repaired code): after
`carquet_column_read_batch` returns, every page data buffer that returned byte-array values point
into is allocated and not freed — for every state, chunk and request. -/
theorem readBatch_alive (r : Reader α) (h : HeapOk r) (k : Int) (wd wr : Bool) :
    HeapOk (readBatch Fixes.all r k wd wr).1 ∧
      ∀ seg ∈ (readBatch Fixes.all r k wd wr).2.segs, ∀ id, seg.1 = some id →
        id ∈ liveBufs (readBatch Fixes.all r k wd wr).1 ∧ id ∉ (readBatch Fixes.all r k wd wr).1.freed := by
  -- the result named once, so that the case analysis of `readBatch` is done on one occurrence
  have hmain : ∀ x, readBatch Fixes.all r k wd wr = x →
      HeapOk x.1 ∧ ∀ seg ∈ x.2.segs, ∀ id, seg.1 = some id → id ∈ liveBufs x.1 := by
    intro x hx
    have h' := releaseRetired_heap r h
    unfold readBatch at hx
    split at hx
    · subst hx; exact ⟨h', fun seg hseg => nomatch hseg⟩
    · split at hx
      · split at hx
        · subst hx; exact ⟨(readNextPage_heap _ h' 0).1, fun seg hseg => nomatch hseg⟩
        · subst hx; exact ⟨h', fun seg hseg => nomatch hseg⟩
      · split at hx
        · subst hx; exact ⟨h', fun seg hseg => by simp [LoopSt.result, LoopSt.init] at hseg⟩
        · subst hx
          exact readLoop_heap wd wr k.toNat _ _ _ h' (fun seg hseg => by simp [LoopSt.init] at hseg) _ rfl
  obtain ⟨hok, hlive⟩ := hmain _ rfl
  refine ⟨hok, fun seg hseg id hid => ⟨hlive seg hseg id hid, fun hfreed => ?_⟩⟩
  exact (List.nodup_append.mp hok.2.2).2.2 id (hlive seg hseg id hid) id hfreed rfl

end Carquet.Proofs.Cursor
