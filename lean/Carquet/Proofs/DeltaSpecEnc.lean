import Carquet.Proofs.DeltaSpec
/-
The steerable Spec encoder produces well-formed grammar streams that denote its input, for every
legal geometry and every steering; hence (with `decode_stream`) the Spec decoder inverts it.
-/
namespace Carquet.Spec.Delta

/-! chunks -/

theorem ceil_add (m n : Nat) (hn : 0 < n) : (m + n + n - 1) / n = (m + n - 1) / n + 1 := by
  rw [show m + n + n - 1 = m + n - 1 + n by omega, Nat.add_div_right _ hn]

theorem chunksAux_spec (n : Nat) (hn : 0 < n) (fuel : Nat) : ∀ (xs : List α), xs.length ≤ fuel →
    (chunksAux n fuel xs).flatten = xs ∧
    (∀ c ∈ chunksAux n fuel xs, 0 < c.length ∧ c.length ≤ n) ∧
    List.Pairwise (fun c _ => c.length = n) (chunksAux n fuel xs) ∧
    (chunksAux n fuel xs).length = (xs.length + n - 1) / n := by
  have h0 : (0 + n - 1) / n = 0 := Nat.div_eq_of_lt (by omega)
  induction fuel with
  | zero =>
    intro xs h
    have : xs = [] := List.eq_nil_of_length_eq_zero (by omega)
    subst this
    exact ⟨rfl, by simp [chunksAux], List.Pairwise.nil, h0.symm⟩
  | succ fuel ih =>
    intro xs h
    rw [chunksAux]
    by_cases hx : xs = []
    · subst hx
      exact ⟨rfl, by simp, List.Pairwise.nil, h0.symm⟩
    · have hpos : 0 < xs.length := List.length_pos_iff.mpr hx
      obtain ⟨h1, h2, h3, h4⟩ := ih (xs.drop n) (by rw [List.length_drop]; omega)
      rw [List.length_drop] at h4
      rw [if_neg hx]
      refine ⟨by rw [List.flatten_cons, h1, List.take_append_drop],
        List.forall_mem_cons.mpr ⟨by rw [List.length_take]; omega, h2⟩, List.pairwise_cons.mpr ⟨?_, h3⟩, ?_⟩
      · -- a later chunk exists, so more than `n` elements were left
        intro c hc
        have hlen : 0 < (chunksAux n fuel (xs.drop n)).length := List.length_pos_of_mem hc
        rw [h4] at hlen
        have : n < xs.length := Nat.lt_of_not_le fun hle => by
          rw [Nat.sub_eq_zero_of_le hle, h0] at hlen; omega
        rw [List.length_take]; omega
      · rw [List.length_cons, h4]
        by_cases hh : n ≤ xs.length
        · rw [← ceil_add _ n hn, Nat.sub_add_cancel hh]
        · rw [Nat.sub_eq_zero_of_le (Nat.le_of_not_le hh), h0, show xs.length + n - 1 = xs.length - 1 + n by omega,
            Nat.add_div_right _ hn, Nat.div_eq_of_lt (by omega)]

theorem chunks_spec (n : Nat) (hn : 0 < n) (xs : List α) :
    (chunks n xs).flatten = xs ∧ (∀ c ∈ chunks n xs, 0 < c.length ∧ c.length ≤ n) ∧
    List.Pairwise (fun c _ => c.length = n) (chunks n xs) ∧ (chunks n xs).length = (xs.length + n - 1) / n :=
  chunksAux_spec n hn xs.length xs (Nat.le_refl _)

theorem length_chunks (n : Nat) (hn : 0 < n) (xs : List α) : (chunks n xs).length = (xs.length + n - 1) / n :=
  (chunks_spec n hn xs).2.2.2

/-! widths -/

theorem le_listMax (l : List Nat) : ∀ m : Nat, m ≤ listMax m l ∧ ∀ x ∈ l, x ≤ listMax m l := by
  induction l with
  | nil => intro m; simp [listMax]
  | cons d ds ih =>
    intro m
    obtain ⟨h1, h2⟩ := ih (if m < d then d else m)
    have hm : m ≤ (if m < d then d else m) ∧ d ≤ (if m < d then d else m) := by split <;> omega
    rw [listMax]
    exact ⟨by omega, List.forall_mem_cons.mpr ⟨by omega, h2⟩⟩

theorem listMax_lt (l : List Nat) (B : Nat) : ∀ m : Nat, m < B → (∀ x ∈ l, x < B) → listMax m l < B := by
  induction l with
  | nil => intro m hm _; simpa [listMax] using hm
  | cons d ds ih =>
    intro m hm h
    simp only [listMax]
    split
    · exact ih d (h d (by simp)) (fun x hx => h x (by simp [hx]))
    · exact ih m hm (fun x hx => h x (by simp [hx]))

theorem lt_two_pow_bitLen (n : Nat) : n < 2 ^ bitLen n := by
  cases n with
  | zero => simp [bitLen]
  | succ n => simp only [bitLen]; exact Nat.lt_log2_self

theorem bitLen_le (n W : Nat) (h : n < 2 ^ W) : bitLen n ≤ W := by
  cases n with
  | zero => simp [bitLen]
  | succ n =>
    simp only [bitLen]
    have : (n + 1).log2 < W := (Nat.log2_lt (by omega)).mpr h
    omega

theorem widthFor_spec (extra : Nat) (chunk : List Nat) (h : ∀ x ∈ chunk, x < 2 ^ 64) :
    widthFor extra chunk ≤ 64 ∧ ∀ x ∈ chunk, x < 2 ^ widthFor extra chunk := by
  have hmax : listMax 0 chunk < 2 ^ 64 := listMax_lt chunk _ 0 (by decide) h
  have hb := bitLen_le _ 64 hmax
  have hfit : ∀ x ∈ chunk, x < 2 ^ bitLen (listMax 0 chunk) := by
    intro x hx
    have := (le_listMax chunk 0).2 x hx
    have := lt_two_pow_bitLen (listMax 0 chunk)
    omega
  unfold widthFor
  split
  · rename_i hle
    refine ⟨hle, fun x hx => ?_⟩
    have := hfit x hx
    have : 2 ^ bitLen (listMax 0 chunk) ≤ 2 ^ (bitLen (listMax 0 chunk) + extra) :=
      Nat.pow_le_pow_right (by decide) (by omega)
    omega
  · exact ⟨hb, hfit⟩

theorem fits_chunkWidths (vpm : Nat) (hv : 0 < vpm) (junk : List UInt8) (fuel : Nat) :
    ∀ (extra : List Nat) (xs : List Nat), xs.length ≤ fuel → (∀ x ∈ xs, x < 2 ^ 64) →
      fits vpm ((chunkWidths extra (chunksAux vpm fuel xs)).map UInt8.ofNat ++ junk) xs := by
  induction fuel with
  | zero =>
    intro extra xs h _
    have : xs = [] := List.eq_nil_of_length_eq_zero (by omega)
    subst this
    simp only [chunksAux, chunkWidths, List.map_nil, List.nil_append]
    cases junk <;> simp [fits]
  | succ fuel ih =>
    intro extra xs h hx
    simp only [chunksAux]
    by_cases hnil : xs = []
    · subst hnil
      simp only [if_true, chunkWidths, List.map_nil, List.nil_append]
      cases junk <;> simp [fits]
    · rw [if_neg hnil]
      simp only [chunkWidths, List.map_cons, List.cons_append, fits]
      right
      have hpos : 0 < xs.length := List.length_pos_iff.mpr hnil
      obtain ⟨h1, h2⟩ := widthFor_spec (extra.headD 0) (xs.take vpm) (fun x hm => hx x (List.mem_of_mem_take hm))
      rw [UInt8.toNat_ofNat_of_lt' (show _ < 256 by omega)]
      exact ⟨h1, h2, ih extra.tail (xs.drop vpm) (by rw [List.length_drop]; omega)
        (fun x hm => hx x (List.mem_of_mem_drop hm))⟩

theorem length_chunkWidths (extra : List Nat) (cs : List (List Nat)) : (chunkWidths extra cs).length = cs.length := by
  induction cs generalizing extra with
  | nil => rfl
  | cons c cs ih => simp [chunkWidths, ih]

/-! one block -/

theorem ceil_facts (n v : Nat) (hv : 0 < v) : n ≤ (n + v - 1) / v * v ∧ (n + v - 1) / v * v < n + v := by
  have h1 := Nat.lt_div_mul_add (a := n + v - 1) hv
  have h2 := Nat.div_mul_le_self (n + v - 1) v
  omega

theorem ceil_mul (q v : Nat) (hv : 0 < v) : (q * v + v - 1) / v = q := by
  rw [Nat.mul_comm, Nat.add_sub_assoc hv, Nat.mul_add_div hv, Nat.div_eq_of_lt (by omega), Nat.add_zero]

theorem adj_lt (W : Nat) (d md : Int) : ((d - md) % (2 ^ W : Int)).toNat < 2 ^ W := by
  have hp : (0 : Int) < 2 ^ W := Int.pow_pos (by decide)
  have h1 := Int.emod_nonneg (d - md) (Int.ne_of_gt hp)
  have h2 := Int.emod_lt_of_pos (d - md) hp
  have : (((d - md) % (2 ^ W : Int)).toNat : Int) < ((2 ^ W : Nat) : Int) := by
    rw [Int.toNat_of_nonneg h1]; simpa using h2
  exact Int.ofNat_lt.mp this

theorem encodeBlock_wf (W : Nat) (hW : W ≤ 64) (g : Geometry) (hg : g.legal) (c : Choice) (ds : List Int)
    (h1 : 0 < ds.length) (h2 : ds.length ≤ g.blockSize)
    (hmd : inI64 (c.minDelta.getD (listMin (ds.headD 0) ds))) :
    (encodeBlock W g c ds).wf g ∧ (encodeBlock W g c ds).adj.length = ds.length := by
  have hv := vpm_pos g hg
  have hvm := vpm_mul g hg
  obtain ⟨hc1, hc2⟩ := ceil_facts ds.length g.vpm hv
  have hpow : (2:Nat) ^ W ≤ 2 ^ 64 := Nat.pow_le_pow_right (by decide) hW
  -- adjusted deltas and padding together fill `⌈|ds| / vpm⌉` whole miniblocks
  have hxs : ds.length + ((ds.length + g.vpm - 1) / g.vpm * g.vpm - ds.length) =
      (ds.length + g.vpm - 1) / g.vpm * g.vpm := by omega
  have hmle : (ds.length + g.vpm - 1) / g.vpm ≤ g.miniblocks := by
    have : ds.length + g.vpm - 1 < g.vpm * (g.miniblocks + 1) := by rw [Nat.mul_succ, hvm]; omega
    have := (Nat.div_lt_iff_lt_mul hv).mpr (by rw [Nat.mul_comm]; exact this)
    omega
  simp only [encodeBlock, Block.wf, List.length_map, List.length_append, List.length_range,
    length_chunkWidths, length_chunks _ hv, hxs, ceil_mul _ _ hv]
  refine ⟨⟨by omega, h1, h2, Nat.mul_mod_left _ _, by omega, ?_, hmd⟩, trivial⟩
  apply fits_chunkWidths g.vpm hv _ _ _ _ (Nat.le_refl _)
  intro x hx
  simp only [List.mem_append, List.mem_map, List.mem_range] at hx
  rcases hx with ⟨d, _, rfl⟩ | ⟨i, _, rfl⟩
  · have := adj_lt W d (c.minDelta.getD (listMin (ds.headD 0) ds)); omega
  · have : c.pad[i]?.getD 0 % 2 ^ W < 2 ^ W := Nat.mod_lt _ (Nat.two_pow_pos W)
    omega

/-! the frame of reference the text prescribes (the minimum of wrapped deltas) fits 64 bits -/

theorem wrap_inI64 (W : Nat) (hW : W ≤ 64) (x : Int) : inI64 (wrap W x) := by
  unfold wrap inI64
  have hp : 0 < 2 ^ W := Nat.two_pow_pos W
  have h1 := @Int.le_bmod x (2 ^ W) hp
  have h2 := @Int.bmod_lt x (2 ^ W) hp
  have hle : (2:Nat) ^ W ≤ 2 ^ 64 := Nat.pow_le_pow_right (by decide) hW
  constructor <;> omega

theorem headD_inI64 (W : Nat) (hW : W ≤ 64) (vs : List Int) (hv : ∀ v ∈ vs, wrap W v = v) : inI64 (vs.headD 0) := by
  cases vs with
  | nil => decide
  | cons v rest =>
    rw [List.headD_cons, ← hv v (by simp)]
    exact wrap_inI64 W hW v

theorem listMin_mem (l : List Int) : ∀ m : Int, listMin m l = m ∨ listMin m l ∈ l := by
  induction l with
  | nil => intro m; left; rfl
  | cons d ds ih =>
    intro m
    simp only [listMin]
    split
    · rcases ih d with h | h
      · right; rw [h]; simp
      · right; simp [h]
    · rcases ih m with h | h
      · left; exact h
      · right; simp [h]

theorem mem_deltasOf (W : Nat) (vs : List Int) : ∀ (last : Int), ∀ d ∈ deltasOf W last vs, ∃ x, d = wrap W x := by
  induction vs with
  | nil => intro last d hd; simp [deltasOf] at hd
  | cons v vs ih =>
    intro last d hd
    simp only [deltasOf, List.mem_cons] at hd
    rcases hd with rfl | hd
    · exact ⟨_, rfl⟩
    · exact ih v d hd

theorem length_deltasOf (W : Nat) (vs : List Int) (last : Int) : (deltasOf W last vs).length = vs.length := by
  induction vs generalizing last with
  | nil => rfl
  | cons v vs ih => simp [deltasOf, ih]

/-- steering is admissible when every explicitly chosen frame of reference fits 64 bits -/
def Params.ok (p : Params) : Prop := ∀ k x, (p.choice k).minDelta = some x → inI64 x

theorem minDelta_ok (W : Nat) (hW : W ≤ 64) (p : Params) (hp : p.ok) (k : Nat) (ds : List Int)
    (hne : ds ≠ []) (hds : ∀ d ∈ ds, ∃ x, d = wrap W x) :
    inI64 ((p.choice k).minDelta.getD (listMin (ds.headD 0) ds)) := by
  cases hc : (p.choice k).minDelta with
  | some x => exact hp k x hc
  | none =>
    simp only [Option.getD_none]
    cases ds with
    | nil => exact absurd rfl hne
    | cons d ds' =>
      simp only [List.headD_cons]
      rcases listMin_mem (d :: ds') d with h | h
      · rw [h]; obtain ⟨x, rfl⟩ := hds d (by simp); exact wrap_inI64 W hW x
      · obtain ⟨x, hx⟩ := hds _ h; rw [hx]; exact wrap_inI64 W hW x

theorem encodeBlocks_wf (W : Nat) (hW : W ≤ 64) (p : Params) (hg : p.geom.legal) (hp : p.ok)
    (cs : List (List Int)) : ∀ k : Nat,
    (∀ c ∈ cs, 0 < c.length ∧ c.length ≤ p.geom.blockSize) →
    (∀ c ∈ cs, ∀ d ∈ c, ∃ x, d = wrap W x) →
    List.Pairwise (fun c _ => c.length = p.geom.blockSize) cs →
    blocksWf p.geom (encodeBlocks W p k cs) ∧ totalDeltas (encodeBlocks W p k cs) = cs.flatten.length := by
  induction cs with
  | nil => intro k _ _ _; exact ⟨trivial, rfl⟩
  | cons c cs ih =>
    intro k h1 h2 h3
    rw [List.pairwise_cons] at h3
    have hc := h1 c (by simp)
    have hne : c ≠ [] := List.length_pos_iff.mp hc.1
    obtain ⟨hwf, hlen⟩ := encodeBlock_wf W hW p.geom hg (p.choice k) c hc.1 hc.2
      (minDelta_ok W hW p hp k c hne (h2 c (by simp)))
    obtain ⟨ih1, ih2⟩ := ih (k + 1) (fun x hx => h1 x (by simp [hx])) (fun x hx => h2 x (by simp [hx])) h3.2
    constructor
    · rw [encodeBlocks, blocksWf_cons]
      refine ⟨hwf, fun hne => ?_, ih1⟩
      obtain ⟨c', hc'⟩ := List.exists_mem_of_ne_nil cs (fun h => hne (by rw [h]; rfl))
      rw [hlen]; exact h3.1 c' hc'
    · simp only [encodeBlocks, totalDeltas, List.map_cons, List.sum_cons, List.flatten_cons, List.length_append]
      simp only [totalDeltas] at ih2
      rw [ih2, hlen]

theorem encodeStream_wf (W : Nat) (hW : W ≤ 64) (p : Params) (hg : p.geom.legal) (hp : p.ok)
    (hb : p.geom.blockSize < 2 ^ 64) (hm : p.geom.miniblocks < 2 ^ 64)
    (vs : List Int) (hlen : vs.length < 2 ^ 64) (hfirst : inI64 (vs.headD 0)) :
    (encodeStream W p vs).wf := by
  cases vs with
  | nil =>
    refine ⟨hg, trivial, Or.inr ⟨rfl, rfl⟩, hb, hm, ?_, ?_⟩
    · show (0 : Nat) < 2 ^ 64
      decide
    · show inI64 0
      decide
  | cons v rest =>
    simp only [encodeStream]
    have hbpos : 0 < p.geom.blockSize := hg.1
    obtain ⟨c1, c2, c3, _⟩ := chunks_spec p.geom.blockSize hbpos (deltasOf W v rest)
    have hmem : ∀ c ∈ chunks p.geom.blockSize (deltasOf W v rest), ∀ d ∈ c, ∃ x, d = wrap W x := by
      intro c hc d hd
      apply mem_deltasOf W rest v d
      rw [← c1]
      exact List.mem_flatten.mpr ⟨c, hc, hd⟩
    obtain ⟨w1, w2⟩ := encodeBlocks_wf W hW p hg hp _ 0 c2 hmem c3
    refine ⟨hg, w1, Or.inl ?_, hb, hm, by simpa using hlen, by simpa using hfirst⟩
    show rest.length + 1 = totalDeltas (encodeBlocks W p 0 (chunks p.geom.blockSize (deltasOf W v rest))) + 1
    rw [w2, c1, length_deltasOf]

/-! the stream denotes the input -/

theorem accum_congr (W : Nat) : ∀ (as bs : List Int), as.map (wrap W) = bs.map (wrap W) →
    ∀ x : Int, accum W x as = accum W x bs
  | [], [], _, _ => rfl
  | [], _ :: _, h, _ | _ :: _, [], h, _ => by simp at h
  | a :: as, b :: bs, h, x => by
    obtain ⟨h1, h2⟩ := List.cons.inj h
    have : wrap W (x + a) = wrap W (x + b) := by
      unfold wrap at h1 ⊢
      rw [← Int.add_bmod_bmod, h1, Int.add_bmod_bmod]
    rw [accum, accum, this, accum_congr W as bs h2]

theorem block_deltas_wrap (W : Nat) (g : Geometry) (c : Choice) (ds : List Int) :
    (encodeBlock W g c ds).deltas.map (wrap W) = ds.map (wrap W) := by
  simp only [Block.deltas, encodeBlock, List.map_map]
  apply List.map_congr_left
  intro d _
  have hp : (0 : Int) < 2 ^ W := Int.pow_pos (by decide)
  simp only [Function.comp_def, Int.ofNat_eq_natCast, wrap,
    Int.toNat_of_nonneg (Int.emod_nonneg _ (Int.ne_of_gt hp))]
  rw [show (2 : Int) ^ W = ((2 ^ W : Nat) : Int) by simp, Int.add_emod_bmod]
  congr 1; omega

theorem blocks_deltas_wrap (W : Nat) (p : Params) (cs : List (List Int)) : ∀ k : Nat,
    ((encodeBlocks W p k cs).flatMap Block.deltas).map (wrap W) = cs.flatten.map (wrap W) := by
  induction cs with
  | nil => intro k; rfl
  | cons c cs ih =>
    intro k
    rw [encodeBlocks, List.flatMap_cons, List.flatten_cons, List.map_append, List.map_append, ih,
      block_deltas_wrap]

theorem accum_deltasOf (W : Nat) (vs : List Int) (hv : ∀ v ∈ vs, wrap W v = v) :
    ∀ last : Int, accum W last (deltasOf W last vs) = vs := by
  induction vs with
  | nil => intro last; rfl
  | cons v vs ih =>
    intro last
    simp only [deltasOf, accum]
    have : wrap W (last + wrap W (v - last)) = v := by
      unfold wrap
      rw [Int.add_bmod_bmod]
      have : last + (v - last) = v := by omega
      rw [this]
      exact hv v (by simp)
    rw [this, ih (fun x hx => hv x (by simp [hx]))]

theorem encodeStream_values (W : Nat) (p : Params) (hg : p.geom.legal) (vs : List Int)
    (hv : ∀ v ∈ vs, wrap W v = v) : (encodeStream W p vs).values W = vs := by
  cases vs with
  | nil => rfl
  | cons v rest =>
    simp only [encodeStream, Stream.values, Nat.add_one_ne_zero, ↓reduceIte]
    have hc := blocks_deltas_wrap W p (chunks p.geom.blockSize (deltasOf W v rest)) 0
    rw [(chunks_spec p.geom.blockSize hg.1 (deltasOf W v rest)).1] at hc
    rw [hv v (by simp), accum_congr W _ _ hc, accum_deltasOf W rest (fun x hx => hv x (by simp [hx]))]

/-- Spec self-consistency: the reference decoder inverts the steerable reference encoder for every
legal geometry and every admissible steering, and stops at the end of the stream. -/
theorem decode_encode (W : Nat) (hW : W ≤ 64) (p : Params) (hg : p.geom.legal) (hp : p.ok)
    (hb : p.geom.blockSize < 2 ^ 64) (hm : p.geom.miniblocks < 2 ^ 64)
    (vs : List Int) (hlen : vs.length < 2 ^ 64) (hv : ∀ v ∈ vs, wrap W v = v) (tail : List UInt8) :
    decode W (encode W p vs ++ tail) = .ok (vs, tail) := by
  have hwf := encodeStream_wf W hW p hg hp hb hm vs hlen (headD_inI64 W hW vs hv)
  unfold encode
  rw [decode_stream W _ tail hwf, encodeStream_values W p hg vs hv]

end Carquet.Spec.Delta
