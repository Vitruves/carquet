import Carquet.Impl.Schema
import Carquet.Proofs.Lists
/-
Helper lemmas for C17: the recursive descent of `traverse_schema_recursive` over the
depth-first list of a tree consumes exactly each subtree and records exactly its leaves.
-/
namespace Carquet.Proofs.Schema
open Carquet.Spec.Schema Carquet.Impl.Schema

mutual
  def depth : Node → Nat
    | .leaf _ => 1
    | .group _ cs => 1 + depthList cs
  def depthList : List Node → Nat
    | [] => 0
    | c :: cs => max (depth c) (depthList cs)
end

theorem flatten_length_pos (c : Node) : 0 < (flatten c).length := by
  cases c <;> simp [flatten]

/-- an inner group of a well-formed tree has children; the C code sees a non-zero `num_children` -/
theorem groupsNonEmpty_group {i : Info} {cs : List Node} (h : groupsNonEmpty (.group i cs) = true) :
    cs ≠ [] ∧ ((cs.length : Int) == 0) = false ∧ groupsNonEmptyList cs = true := by
  simp only [groupsNonEmpty, Bool.and_eq_true, Bool.not_eq_eq_eq_not, Bool.not_true] at h
  have hcs : cs ≠ [] := by intro h0; simp [h0] at h
  exact ⟨hcs, by simpa using hcs, h.2⟩

theorem getElem_at_prefix (els : Array Element) (pre : List Element) (e : Element) (rest : List Element)
    (h : els.toList = pre ++ e :: rest) :
    ∃ hlt : pre.length < els.size, els[pre.length] = e := by
  have hs : els.size = (pre ++ e :: rest).length := by rw [← h]; simp
  have hlt : pre.length < els.size := by rw [hs]; simp
  refine ⟨hlt, ?_⟩
  have : els[pre.length] = els.toList[pre.length]'(by simpa using hlt) := by simp
  rw [this]
  simp [h]


mutual
  theorem traverse_node (els : Array Element) :
      ∀ (c : Node), groupsNonEmpty c = true →
      ∀ (pre post : List Element), els.toList = pre ++ flatten c ++ post →
      ∀ fuel, depth c ≤ fuel → ∀ d r (ctx : Ctx),
      ∃ s, traverse els fuel pre.length d r ctx =
        (pre.length + (flatten c).length, ⟨ctx.leaves ++ leavesOf c pre.length d r, s⟩)
    | .leaf i, _, pre, post, hl, fuel, hf, d, r, ctx => by
      obtain ⟨fuel', rfl⟩ : ∃ f, fuel = f + 1 := ⟨fuel - 1, by simp [depth] at hf; omega⟩
      have hl' : els.toList = pre ++ (⟨i, 0⟩ : Element) :: post := by simpa [flatten] using hl
      obtain ⟨hlt, he⟩ := getElem_at_prefix els pre _ _ hl'
      refine ⟨ctx.steps + 1, ?_⟩
      simp [traverse, hlt, he, flatten, leavesOf]
    | .group i cs, hne, pre, post, hl, fuel, hf, d, r, ctx => by
      obtain ⟨fuel', rfl⟩ : ∃ f, fuel = f + 1 := ⟨fuel - 1, by simp [depth] at hf; omega⟩
      have hf' : depthList cs ≤ fuel' := by simp [depth] at hf; omega
      have hl' : els.toList = pre ++ (⟨i, cs.length⟩ : Element) :: (flattenList cs ++ post) := by
        simpa [flatten] using hl
      obtain ⟨hlt, he⟩ := getElem_at_prefix els pre _ _ hl'
      obtain ⟨_, hnz, hne⟩ := groupsNonEmpty_group hne
      have hl2 : els.toList = (pre ++ [(⟨i, cs.length⟩ : Element)]) ++ flattenList cs ++ post := by
        simp [hl']
      obtain ⟨s, hs⟩ := children_nodes els cs hne (pre ++ [⟨i, cs.length⟩]) post hl2 fuel' hf'
        (d + defInc i.rep) (r + repInc i.rep) ⟨ctx.leaves, ctx.steps + 1⟩
      refine ⟨s, ?_⟩
      simp only [List.length_append, List.length_singleton] at hs
      simp [traverse, hlt, he, hnz, flatten, leavesOf, hs]
      omega
  theorem children_nodes (els : Array Element) :
      ∀ (cs : List Node), groupsNonEmptyList cs = true →
      ∀ (pre post : List Element), els.toList = pre ++ flattenList cs ++ post →
      ∀ fuel, depthList cs ≤ fuel → ∀ d r (ctx : Ctx),
      ∃ s, children els fuel cs.length pre.length d r ctx =
        (pre.length + (flattenList cs).length, ⟨ctx.leaves ++ leavesOfList cs pre.length d r, s⟩)
    | [], _, pre, post, _, fuel, _, d, r, ctx => by
      exact ⟨ctx.steps, by simp [children, flattenList, leavesOfList]⟩
    | c :: cs, hne, pre, post, hl, fuel, hf, d, r, ctx => by
      simp only [groupsNonEmptyList, Bool.and_eq_true] at hne
      have hfc : depth c ≤ fuel := by simp [depthList] at hf; omega
      have hfcs : depthList cs ≤ fuel := by simp [depthList] at hf; omega
      have hl1 : els.toList = pre ++ flatten c ++ (flattenList cs ++ post) := by
        simpa [flattenList] using hl
      obtain ⟨s1, h1⟩ := traverse_node els c hne.1 pre (flattenList cs ++ post) hl1 fuel hfc d r
        ⟨ctx.leaves, ctx.steps + 1⟩
      have hl2 : els.toList = (pre ++ flatten c) ++ flattenList cs ++ post := by
        simpa [flattenList] using hl
      obtain ⟨s2, h2⟩ := children_nodes els cs hne.2 (pre ++ flatten c) post hl2 fuel hfcs d r
        ⟨ctx.leaves ++ leavesOf c pre.length d r, s1⟩
      have hlt : pre.length < els.size := by
        have hs : els.size = (pre ++ flatten c ++ (flattenList cs ++ post)).length := by rw [← hl1]; simp
        have := flatten_length_pos c
        rw [hs]; simp; omega
      refine ⟨s2, ?_⟩
      simp only [List.length_append] at h2
      simp [children, hlt, h1, h2, flattenList, leavesOfList]
      omega
end


mutual
  theorem depth_le_size : ∀ c : Node, depth c ≤ (flatten c).length
    | .leaf _ => by simp [depth, flatten]
    | .group _ cs => by
      have := depthList_le_size cs
      simp [depth, flatten]; omega
  theorem depthList_le_size : ∀ cs : List Node, depthList cs ≤ (flattenList cs).length
    | [] => by simp [depthList]
    | c :: cs => by
      have h1 := depth_le_size c
      have h2 := depthList_le_size cs
      simp [depthList, flattenList]; omega
end

mutual
  theorem countLeaves_node : ∀ c : Node, groupsNonEmpty c = true → ∀ idx d r,
      countLeaves (flatten c) = (leavesOf c idx d r).length
    | .leaf _, _, idx, d, r => by simp [countLeaves, flatten, leavesOf]
    | .group i cs, hne, idx, d, r => by
      obtain ⟨_, hnz, hne⟩ := groupsNonEmpty_group hne
      have := countLeaves_list cs hne (idx + 1) (d + defInc i.rep) (r + repInc i.rep)
      simp only [countLeaves] at this
      simp [countLeaves, flatten, leavesOf, hnz, this]
  theorem countLeaves_list : ∀ cs : List Node, groupsNonEmptyList cs = true → ∀ idx d r,
      countLeaves (flattenList cs) = (leavesOfList cs idx d r).length
    | [], _, _, _, _ => by simp [countLeaves, flattenList, leavesOfList]
    | c :: cs, hne, idx, d, r => by
      simp only [groupsNonEmptyList, Bool.and_eq_true] at hne
      have h1 := countLeaves_node c hne.1 idx d r
      have h2 := countLeaves_list cs hne.2 (idx + (flatten c).length) d r
      simp only [countLeaves] at h1 h2
      simp [countLeaves, flattenList, leavesOfList, List.filter_append, h1, h2]
end

mutual
  theorem leaves_pos : ∀ c : Node, groupsNonEmpty c = true → ∀ idx d r, 0 < (leavesOf c idx d r).length
    | .leaf _, _, _, _, _ => by simp [leavesOf]
    | .group i cs, hne, idx, d, r => by
      obtain ⟨hcs, _, hne⟩ := groupsNonEmpty_group hne
      simpa [leavesOf] using leavesList_pos cs hcs hne (idx + 1) (d + defInc i.rep) (r + repInc i.rep)
  theorem leavesList_pos : ∀ cs : List Node, cs ≠ [] → groupsNonEmptyList cs = true → ∀ idx d r,
      0 < (leavesOfList cs idx d r).length
    | [], h, _, _, _, _ => absurd rfl h
    | c :: cs, _, hne, idx, d, r => by
      simp only [groupsNonEmptyList, Bool.and_eq_true] at hne
      have := leaves_pos c hne.1 idx d r
      simp [leavesOfList]; omega
end

theorem countLeaves_root (i : Info) (cs : List Node) (hne : groupsNonEmpty (.group i cs) = true) :
    countLeaves (flatten (.group i cs)) = (leaves (.group i cs)).length := by
  obtain ⟨_, hnz, hne'⟩ := groupsNonEmpty_group hne
  have a := countLeaves_list cs hne' 1 0 0
  simp only [countLeaves] at a
  simp [countLeaves, flatten, leaves, hnz, a]

mutual
  theorem elemsOk_node : ∀ c : Node, typed c = true → groupsNonEmpty c = true → ∀ (i : Nat) (rest : List Element),
      elemsOk i (flatten c ++ rest) = elemsOk (i + (flatten c).length) rest
    | .leaf inf, ht, _, i, rest => by
      simp only [typed] at ht
      simp [flatten, elemsOk, elemOk, ht]
    | .group inf cs, ht, hne, i, rest => by
      simp only [typed, Bool.and_eq_true] at ht
      obtain ⟨_, hnz, hne⟩ := groupsNonEmpty_group hne
      have hnn : ¬ ((cs.length : Int) < 0) := by omega
      have hnone : inf.ptype.isSome = false := by
        cases hp : inf.ptype <;> simp_all
      have := elemsOk_list cs ht.2 hne (i + 1) rest
      simp only [flatten, List.cons_append, elemsOk, elemOk, hnz, hnone, hnn, List.length_cons] at this ⊢
      simp [this]; congr 1; omega
  theorem elemsOk_list : ∀ cs : List Node, typedList cs = true → groupsNonEmptyList cs = true →
      ∀ (i : Nat) (rest : List Element),
      elemsOk i (flattenList cs ++ rest) = elemsOk (i + (flattenList cs).length) rest
    | [], _, _, i, rest => by simp [flattenList]
    | c :: cs, ht, hne, i, rest => by
      simp only [typedList, Bool.and_eq_true] at ht
      simp only [groupsNonEmptyList, Bool.and_eq_true] at hne
      have h1 := elemsOk_node c ht.1 hne.1 i (flattenList cs ++ rest)
      have h2 := elemsOk_list cs ht.2 hne.2 (i + (flatten c).length) rest
      simp only [flattenList, List.append_assoc, List.length_append]
      rw [h1, h2]; congr 1; omega
end

/-- Main lemma: on the depth-first list of a tree (root a non-empty group, every inner group
non-empty, groups untyped and leaves typed) `build_schema` yields exactly the leaves and levels
of the format's rule. -/
theorem build_flatten (i : Info) (cs : List Node) (hne : groupsNonEmpty (.group i cs) = true)
    (hty : typed (.group i cs) = true) :
    build (flatten (.group i cs)) = some (leaves (.group i cs)) := by
  have hok : elemsOk 0 (flatten (.group i cs)) = true := by
    have := elemsOk_node (.group i cs) hty hne 0 []
    simpa [elemsOk] using this
  obtain ⟨hcs, hnz, hne'⟩ := groupsNonEmpty_group hne
  have hcount := countLeaves_root i cs hne
  have hpos : 0 < (leaves (.group i cs)).length := by
    simpa [leaves] using leavesList_pos cs hcs hne' 1 0 0
  -- the traversal
  have hsz : 1 < (flatten (.group i cs)).length := by
    have : 0 < (flattenList cs).length := by
      cases cs with
      | nil => exact absurd rfl hcs
      | cons c cs' => have := flatten_length_pos c; simp [flattenList]; omega
    simp [flatten]; omega
  have hl : (flatten (.group i cs)).toArray.toList =
      [(⟨i, cs.length⟩ : Element)] ++ flattenList cs ++ [] := by simp [flatten]
  have hfuel : depthList cs ≤ (flatten (.group i cs)).length := by
    have := depthList_le_size cs; simp [flatten]; omega
  obtain ⟨s, hs⟩ := children_nodes (flatten (.group i cs)).toArray cs hne' [⟨i, cs.length⟩] [] hl
    (flatten (.group i cs)).length hfuel 0 0 ⟨[], 0⟩
  simp only [List.length_singleton, List.nil_append] at hs
  have hnot : ¬ (flatten (.group i cs)).length ≤ 1 := by omega
  unfold build
  rw [if_neg (by simp [hok]), if_neg (by omega)]
  unfold buildLeaves
  simp only [hnot, if_false]
  have hfl : flatten (.group i cs) = (⟨i, cs.length⟩ : Element) :: flattenList cs := by simp [flatten]
  rw [hcount]
  conv => lhs; rw [hfl]
  simp only [Int.toNat_natCast]
  rw [← hfl, hs]
  simp [leaves]


/-! ### Work bound for arbitrary (also malformed) element lists — used by C04 -/

def TravOk (els : Array Element) (fuel : Nat) : Prop :=
  ∀ idx d r (ctx : Ctx), idx < els.size → els.size + 1 ≤ fuel + idx →
    idx < (traverse els fuel idx d r ctx).1 ∧ (traverse els fuel idx d r ctx).1 ≤ els.size ∧
    (traverse els fuel idx d r ctx).2.steps + 1 ≤ ctx.steps + 2 * ((traverse els fuel idx d r ctx).1 - idx)

def ChildOk (els : Array Element) (fuel : Nat) : Prop :=
  ∀ n idx d r (ctx : Ctx), idx ≤ els.size → els.size + 1 ≤ fuel + idx →
    idx ≤ (children els fuel n idx d r ctx).1 ∧ (children els fuel n idx d r ctx).1 ≤ els.size ∧
    (children els fuel n idx d r ctx).2.steps ≤ ctx.steps + 2 * ((children els fuel n idx d r ctx).1 - idx)

theorem childOk_of_travOk (els : Array Element) (fuel : Nat) (hP : TravOk els fuel) : ChildOk els fuel := by
  intro n
  induction n with
  | zero => intro idx d r ctx h1 _; simp [children, h1]
  | succ n ih =>
    intro idx d r ctx h1 h2
    by_cases hlt : idx < els.size
    · obtain ⟨a, b, c⟩ := hP idx d r ⟨ctx.leaves, ctx.steps + 1⟩ hlt h2
      obtain ⟨a', b', c'⟩ := ih (traverse els fuel idx d r ⟨ctx.leaves, ctx.steps + 1⟩).1 d r
        (traverse els fuel idx d r ⟨ctx.leaves, ctx.steps + 1⟩).2 b (by omega)
      simp only [children, hlt, if_true]
      refine ⟨by omega, b', ?_⟩
      simp only at c
      omega
    · simp [children, hlt, h1]

theorem travOk_all (els : Array Element) : ∀ fuel, TravOk els fuel := by
  intro fuel
  induction fuel with
  | zero => intro idx d r ctx h1 h2; omega
  | succ f ih =>
    have hQ := childOk_of_travOk els f ih
    intro idx d r ctx h1 h2
    by_cases hleaf : (els[idx].numChildren == 0) = true
    · simp [traverse, h1, hleaf]; omega
    · obtain ⟨a, b, c⟩ := hQ els[idx].numChildren.toNat (idx + 1) (d + defInc els[idx].info.rep)
        (r + repInc els[idx].info.rep) ⟨ctx.leaves, ctx.steps + 1⟩ (by omega) (by omega)
      have hleaf' : (els[idx].numChildren == 0) = false := by
        cases hb : (els[idx].numChildren == 0) with
        | true => exact absurd hb hleaf
        | false => rfl
      simp only [traverse, h1, dite_true, hleaf', Bool.false_eq_true, if_false]
      simp only at c
      refine ⟨by omega, b, by omega⟩

/-- `compute_levels` performs at most `2 * num_elements` loop iterations and calls in total,
whatever the child counts claim; the recursion never exceeds depth `num_elements`. -/
theorem buildSteps_linear (els : List Element) : buildSteps els ≤ 2 * els.length := by
  unfold buildSteps
  cases els with
  | nil => simp
  | cons root rest =>
    show (if (root :: rest).length ≤ 1 then 0 else _) ≤ _
    by_cases h : (root :: rest).length ≤ 1
    · rw [if_pos h]; omega
    · rw [if_neg h]
      have hQ := childOk_of_travOk (root :: rest).toArray (root :: rest).length (travOk_all _ _)
      obtain ⟨a, b, c⟩ := hQ root.numChildren.toNat 1 0 0 ⟨[], 0⟩ (by simp) (by simp)
      simp only [List.size_toArray] at b c
      simp only [List.length_cons] at *
      omega


/-! ### What the columns point at -/

mutual
  /-- the `Info` of the leaves in depth-first order -/
  def leafInfosOf : Node → List Info
    | .leaf i => [i]
    | .group _ cs => leafInfosOfList cs
  def leafInfosOfList : List Node → List Info
    | [] => []
    | c :: cs => leafInfosOf c ++ leafInfosOfList cs
end

mutual
  theorem leaf_elements_node : ∀ (c : Node) (pre post : List Element) (d r : Nat),
      (leavesOf c pre.length d r).map (fun l => (pre ++ flatten c ++ post)[l.elemIdx]?) =
        (leafInfosOf c).map (fun i => some (⟨i, 0⟩ : Element))
    | .leaf i, pre, post, d, r => by simp [leavesOf, flatten, leafInfosOf]
    | .group i cs, pre, post, d, r => by
      have := leaf_elements_list cs (pre ++ [⟨i, cs.length⟩]) post (d + defInc i.rep) (r + repInc i.rep)
      simpa [leavesOf, flatten, leafInfosOf] using this
  theorem leaf_elements_list : ∀ (cs : List Node) (pre post : List Element) (d r : Nat),
      (leavesOfList cs pre.length d r).map (fun l => (pre ++ flattenList cs ++ post)[l.elemIdx]?) =
        (leafInfosOfList cs).map (fun i => some (⟨i, 0⟩ : Element))
    | [], _, _, _, _ => by simp [leavesOfList, leafInfosOfList]
    | c :: cs, pre, post, d, r => by
      have h1 := leaf_elements_node c pre (flattenList cs ++ post) d r
      have h2 := leaf_elements_list cs (pre ++ flatten c) post d r
      simp only [List.length_append] at h2
      simp only [leavesOfList, flattenList, leafInfosOfList, List.map_append]
      rw [← h1, ← h2]
      simp [List.append_assoc]
end

/-! ### Builder -/

theorem flattenList_leaves (infos : List Info) :
    flattenList (infos.map Node.leaf) = infos.map (fun i => (⟨i, 0⟩ : Element)) := by
  induction infos with
  | nil => simp [flattenList]
  | cons i is ih => simp [flattenList, flatten, ih]

theorem leavesOfList_leaves (infos : List Info) (idx : Nat) :
    leavesOfList (infos.map Node.leaf) idx 0 0 =
      infos.mapIdx (fun k i => (⟨idx + k, defInc i.rep, repInc i.rep⟩ : Leaf)) := by
  induction infos generalizing idx with
  | nil => simp [leavesOfList]
  | cons i is ih =>
    simp [leavesOfList, leavesOf, flatten, ih, List.mapIdx_cons, Nat.add_assoc, Nat.add_comm 1]

def ClosedForm (b : Builder) (infos : List Info) : Prop :=
  b.elements = (⟨rootInfo, infos.length⟩ : Element) :: infos.map (fun i => (⟨i, 0⟩ : Element)) ∧
  b.leaves = infos.mapIdx (fun k i => (⟨1 + k, defInc i.rep, repInc i.rep⟩ : Leaf))

theorem addColumn_closed (b : Builder) (pre : List Info) (i : Info) (h : ClosedForm b pre) :
    ClosedForm (b.addColumn i) (pre ++ [i]) := by
  obtain ⟨h1, h2⟩ := h
  constructor
  · simp [Builder.addColumn, h1]
  · simp [Builder.addColumn, h1, h2, List.mapIdx_append]
    omega

theorem builder_closed_form (infos : List Info) :
    ClosedForm (infos.foldl Builder.addColumn Builder.create) infos := by
  have := Lists.foldl_inv id (fun b pre i => addColumn_closed b pre i) infos Builder.create []
    (by simp [ClosedForm, Builder.create])
  rwa [List.map_id, List.nil_append] at this

end Carquet.Proofs.Schema
