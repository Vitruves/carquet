import Carquet.Proofs.FileRealHeader
import Carquet.Proofs.SpecFileExtract
import Carquet.Spec.ParquetThriftValue
/-
Page-header stage of `Spec.File.read` on the bytes carquet's page writer emits: the
hand-written header (`Impl.FileReal.pageHeader`) is the canonical compact encoding of the Thrift
value parquet.thrift assigns to it (C13), the independent generic decoder reads that value back
and stops exactly behind the header, and the reader's extraction (`pageHdrOf`) finds: type
DATA_PAGE, the two sizes, the CRC, a DataPageHeader with PLAIN values, RLE levels and the
statistics.
-/
namespace Carquet.Proofs.SpecWriter
open Carquet.Impl Carquet.Impl.FileReal Carquet.Impl.ThriftParquet
open Carquet.Spec Carquet.Spec.Thrift Carquet.Spec.ParquetThrift
open Carquet.Proofs.FileRealHeader Carquet.Proofs.SpecFile

/-- the statistics of a written page header as the independent reader extracts them -/
def statsMetaOf (s : Writer.PageStats) : File.StatsMeta :=
  ⟨none, none, some (s.nullCount : Int), some s.max, some s.min⟩

/-- the header of a written page as the independent reader extracts it -/
def pageHdrOfWritten (unc comp crc numValues : Nat) (stats : Option Writer.PageStats) : File.PageHdr :=
  ⟨0, unc, comp, some (asI32 crc), some ⟨numValues, 0, 3, 3, stats.map statsMetaOf⟩, none⟩

/-- the fields of the Thrift value of a written page header -/
def phFieldsW (unc comp crc numValues : Nat) (stats : Option Writer.PageStats) : File.Fields :=
  [(1, .i32 0), (2, .i32 unc), (3, .i32 comp), (4, .i32 (asI32 crc)),
   (5, TVal.struct (([(1, TVal.i32 numValues), (2, TVal.i32 0), (3, TVal.i32 3), (4, TVal.i32 3)] : File.Fields) ++
      (match stats with
       | none => []
       | some s => [(5, TVal.struct [(3, TVal.i64 s.nullCount), (5, TVal.binary s.max), (6, TVal.binary s.min)])])))]

theorem pageHeaderTV_written (unc comp crc numValues : Nat) (stats : Option Writer.PageStats)
    (hs : ∀ s, stats = some s → s.max ≠ [] ∧ s.min ≠ []) :
    pageHeaderTV (headerOf unc comp crc numValues stats) = .struct (phFieldsW unc comp crc numValues stats) := by
  cases stats with
  | none =>
    simp [pageHeaderTV, headerOf, fPageMember, dataPageHeaderTV, f1, fOpt, pageData, phFieldsW]
  | some s =>
    obtain ⟨h1, h2⟩ := hs s rfl
    have e1 : s.max.isEmpty = false := by cases hm : s.max <;> simp_all
    have e2 : s.min.isEmpty = false := by cases hm : s.min <;> simp_all
    simp [pageHeaderTV, headerOf, fPageMember, dataPageHeaderTV, statisticsTV, f1, fOpt, fBinNonEmpty, pageData,
      phFieldsW, e1, e2]

theorem pageHdrOf_written (unc comp crc numValues : Nat) (stats : Option Writer.PageStats) :
    File.pageHdrOf (phFieldsW unc comp crc numValues stats) = .ok (pageHdrOfWritten unc comp crc numValues stats) := by
  -- the written header is the reference writer's header value for these numbers, without unknown fields
  obtain ⟨dfs, hd1, hd2⟩ := dataHdrOf_TV ⟨numValues, 0, 3, 3, stats.map statsMetaOf⟩ [] [] rfl rfl
  obtain ⟨fs, h1, h2⟩ := pageHdrOf_data unc comp (some (asI32 crc)) dfs _ hd2 [] rfl
  have : TVal.struct (phFieldsW unc comp crc numValues stats) = .struct fs := by
    rw [← h1, ← hd1]; cases stats <;> rfl
  cases this
  exact h2

/-- sizes of a page header fit the C types -/
structure HeaderSizes (unc comp numValues : Nat) (stats : Option Writer.PageStats) : Prop where
  unc : unc < 2147483648
  comp : comp < 2147483648
  numValues : numValues < 2147483648
  stats : ∀ s, stats = some s → s.nullCount < 9223372036854775808 ∧ s.max.length < 2147483648 ∧
    s.min.length < 2147483648 ∧ s.max ≠ [] ∧ s.min ≠ []

/-- **page-header stage**: the independent reader parses the header of a written page, followed
by anything, to `pageHdrOfWritten` and hands on exactly what follows the header. -/
theorem parsePageHeader_written (unc comp crc numValues : Nat) (stats : Option Writer.PageStats) (rest : List UInt8)
    (hsz : HeaderSizes unc comp numValues stats) (hcrc : crc < 4294967296) :
    File.parsePageHeader (pageHeader unc comp crc numValues stats ++ rest) =
      .ok (pageHdrOfWritten unc comp crc numValues stats, rest) := by
  have hne : ∀ s, stats = some s → s.max ≠ [] ∧ s.min ≠ [] := fun s h => ⟨(hsz.stats s h).2.2.2.1, (hsz.stats s h).2.2.2.2⟩
  have e := pageHeader_eq_write unc comp crc numValues stats hne
  have w := headerOf_wf unc comp crc numValues stats hsz.unc hsz.comp hcrc hsz.numValues
    (fun s h => ⟨(hsz.stats s h).1, (hsz.stats s h).2.1, (hsz.stats s h).2.2.1⟩)
  have henc := (Carquet.Proofs.Thrift.writePageHeader_eq (headerOf unc comp crc numValues stats)).1
  have hwf := Carquet.Proofs.Thrift.ph_wf _ w
  have hdec := Carquet.Proofs.Thrift.decode_encode _ hwf rest
  rw [pageHeaderTV_written unc comp crc numValues stats hne] at hdec henc
  unfold File.parsePageHeader
  rw [e, henc]
  have hty : (TVal.struct (phFieldsW unc comp crc numValues stats)).ty = TType.struct := rfl
  rw [hty] at hdec
  rw [hdec]
  simp only [pageHdrOf_written]

end Carquet.Proofs.SpecWriter

namespace Carquet.Proofs.SpecWriter
open Carquet.Impl Carquet.Impl.FileReal Carquet.Impl.ThriftParquet
open Carquet.Spec Carquet.Spec.Thrift Carquet.Spec.ParquetThrift
open Carquet.Proofs.FileRealHeader

/-- a page header is never empty (it ends with the stop byte) -/
theorem pageHeader_length_pos (unc comp crc numValues : Nat) (stats : Option Writer.PageStats)
    (hs : ∀ s, stats = some s → s.max ≠ [] ∧ s.min ≠ []) :
    0 < (pageHeader unc comp crc numValues stats).length := by
  rw [pageHeader_eq_write unc comp crc numValues stats hs,
    (Carquet.Proofs.Thrift.writePageHeader_eq (headerOf unc comp crc numValues stats)).1,
    pageHeaderTV_written unc comp crc numValues stats hs]
  simp [encode, encodeVal]

end Carquet.Proofs.SpecWriter
