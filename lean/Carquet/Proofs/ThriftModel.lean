import Carquet.Impl.Thrift
/-
Equations of the decoder model (Impl.Thrift) that the round-trip modules (from Proofs.ThriftVarint
on), the safety modules (from Proofs.ThriftSafe on) and the prefix analysis (Proofs.ImplReadsExt) use.
-/
namespace Carquet.Proofs.Thrift
open Carquet.Impl.Thrift

theorem lengthGe_iff (l : List UInt8) (n : Nat) : lengthGe l n = true ↔ n ≤ l.length := by
  induction l generalizing n with
  | nil => cases n <;> simp [lengthGe]
  | cons a l ih => cases n <;> simp [lengthGe, ih]

theorem setError_status_ne (d : Dec) (e : Err) : (d.setError e).status ≠ none := by
  unfold Dec.setError; cases h : d.status <;> simp [h]

theorem fieldLoop_end {σ : Type} (stop : σ → Bool) (body : Nat → Int → Dec → σ → σ × Dec) (f : Nat) (d : Dec) (s : σ)
    (h : (readFieldBegin d).more = false) : fieldLoop stop body (f + 1) d s = (s, (readFieldBegin d).dec) := by
  rw [fieldLoop, h]

theorem fieldLoop_iter {σ : Type} (stop : σ → Bool) (body : Nat → Int → Dec → σ → σ × Dec) (f : Nat) (d : Dec) (s : σ)
    (h : (readFieldBegin d).more = true) :
    fieldLoop stop body (f + 1) d s =
      if stop (body (readFieldBegin d).ty (readFieldBegin d).fid (readFieldBegin d).dec s).1 then
        body (readFieldBegin d).ty (readFieldBegin d).fid (readFieldBegin d).dec s
      else fieldLoop stop body f (body (readFieldBegin d).ty (readFieldBegin d).fid (readFieldBegin d).dec s).2
        (body (readFieldBegin d).ty (readFieldBegin d).fid (readFieldBegin d).dec s).1 := by
  rw [fieldLoop, h]

theorem setError_of_some (d : Dec) (e x : Err) (h : d.status = some x) : d.setError e = d := by
  unfold Dec.setError; rw [h]

theorem readFieldBegin_of_err (d : Dec) (x : Err) (h : d.status = some x) :
    (readFieldBegin d).more = false ∧ (readFieldBegin d).dec = d := by
  unfold readFieldBegin; simp only [h]; exact ⟨trivial, trivial⟩

/-- on a decoder in error a `while (read_field_begin)` loop does nothing -/
theorem fieldLoop_of_err {σ : Type} (stop : σ → Bool) (body : Nat → Int → Dec → σ → σ × Dec) (fuel : Nat) (d : Dec) (s : σ)
    (x : Err) (h : d.status = some x) : fieldLoop stop body fuel d s = (s, d) := by
  cases fuel with
  | zero => rw [fieldLoop, setError_of_some d _ x h]
  | succ f =>
    obtain ⟨h1, h2⟩ := readFieldBegin_of_err d x h
    rw [fieldLoop_end _ _ _ _ _ h1, h2]

theorem skip_ok (cfg : Cfg) (stk ty : Nat) (d : Dec) (hs : d.status = none) :
    skip cfg (stk + 1) ty d = skipCase cfg (skip cfg stk) ty d := by
  rw [skip]; simp only [hs]

end Carquet.Proofs.Thrift
