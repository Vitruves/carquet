import Carquet.Impl.ParDict
import Carquet.Proofs.Par
import Carquet.Proofs.ParIO
import Carquet.Proofs.ParLazy
import Carquet.Proofs.ParAdaptive
/-
C07, dictionary-encoded chunks: what `file_read_at`-shaped workers obtain, the action-level
schedule a recorded trace stands for, the adaptive chunk reader.
-/
namespace Carquet.Proofs.Par
open Carquet.Impl.Par

/-- ANY schedule of atomic sections (not only a merge of given lists): every worker holds what it
holds after running its own actions of the schedule alone. -/
theorem atomic_schedule_solo (s : List (Worker × Action)) (hat : ∀ e ∈ s, e.2.atomicIO = true)
    (st : State) (w : Worker) :
    (exec s st).pr w = (exec (solo w (proj w s)) st).pr w :=
  (noninterference (fun _ sh => sh.file) id s (fun e he => ownDet_of_atomicIO e.1 e.2 (hat e he))
    (fun e _ => othersKept_file e.1 e.2) st w).1

/-! ### the C-shaped decomposition of a chunk's actions -/

theorem readsFread_append (f : Nat) (a b : List (Nat × Nat)) :
    readsFread f (a ++ b) = readsFread f a ++ readsFread f b := by
  simp [readsFread]

theorem readsFread_flatMap (f : Nat) (ps : List PageLoc) :
    readsFread f (ps.flatMap pageReads) = ps.flatMap (pageLoadFreadW f) := by
  induction ps with
  | nil => rfl
  | cons p ps ih => simp [List.flatMap_cons, readsFread_append, ih, pageLoadFreadW]

/-- `chunkFreadD` is: [probe header read] dictionary page load, then the data page loads -/
theorem chunkFreadD_shape (f : Nat) (c : ChunkLoc) :
    chunkFreadD f c =
      (match c.dict with
       | none => []
       | some d => (if c.probed then headerReadFread f d else []) ++ pageLoadFreadW f d) ++
      c.pages.flatMap (pageLoadFreadW f) := by
  unfold chunkFreadD chunkReads
  rw [readsFread_append, readsFread_flatMap]
  cases c.dict with
  | none => rfl
  | some d =>
    simp only [readsFread_append, pageLoadFreadW, headerReadFread]
    split <;> simp [readsFread]

/-- a page load whose header fits the first window is the `pageLoadFread` of the first model -/
theorem pageLoadFreadW_k0 (f o h c : Nat) :
    pageLoadFreadW f ⟨o, h, c, 0⟩ = pageLoadFread f o h c := by
  simp [pageLoadFreadW, pageReads, headerReads, headerWindows, readsFread, fileReadAt, pageLoadFread]

/-- without header retries the fread path and the mmap path perform the same reads -/
theorem chunkReads_eq_mmap (c : ChunkLoc) (hd : ∀ d, c.dict = some d → d.k = 0)
    (hp : ∀ p ∈ c.pages, p.k = 0) : chunkReads c = chunkReadsMmap c := by
  have hpage : ∀ p : PageLoc, p.k = 0 → pageReads p = pageReadsMmap p := by
    intro p hk
    simp [pageReads, pageReadsMmap, headerReads, headerWindows, hk]
  have hpages : ∀ (l : List PageLoc), (∀ p ∈ l, p.k = 0) → l.flatMap pageReads = l.flatMap pageReadsMmap := by
    intro l
    induction l with
    | nil => intro _; rfl
    | cons p l ih =>
      intro hl
      simp only [List.flatMap_cons]
      rw [hpage p (hl p (List.mem_cons_self ..)), ih (fun q hq => hl q (List.mem_cons_of_mem _ hq))]
  unfold chunkReads chunkReadsMmap
  rw [hpages c.pages hp]
  cases hdict : c.dict with
  | none => rfl
  | some d =>
    have hk := hd d hdict
    simp [hpage d hk, headerReads, headerWindows, hk]

/-! ### the schedule a recorded trace stands for -/

theorem prim_none_of_site5 (e : Ev) (h : e.site = 5) : e.prim = none := by
  simp [Ev.prim, h]

theorem prim_none_of_site6 (e : Ev) (h : e.site = 6) : e.prim = none := by
  simp [Ev.prim, h]

theorem flat_cons (w : Worker) (a : Action) (s : List (Worker × Action)) :
    flat ((w, a) :: s) = a.prims.map (fun p => (w, p)) ++ flat s := rfl

theorem schedOfTraceFrom_flat (es : List Ev) :
    ∀ (cur : Option (Nat × List Prim)) (s : List (Worker × Action)),
      schedOfTraceFrom cur es = some s →
      flat s = (match cur with
                | none => []
                | some (t, ps) => ps.map (fun p => (t, p))) ++ primsOfTrace es := by
  induction es with
  | nil =>
    intro cur s h
    cases cur with
    | none => simp [schedOfTraceFrom] at h; subst h; rfl
    | some c => simp [schedOfTraceFrom] at h
  | cons e es ih =>
    intro cur s h
    unfold schedOfTraceFrom at h
    by_cases h5 : e.site = 5
    · simp only [h5, if_true] at h
      cases cur with
      | some c => simp at h
      | none =>
        simp only at h
        have := ih _ _ h
        simp only [List.map_nil, List.nil_append] at this
        simp [primsOfTrace, prim_none_of_site5 e h5, this]
    · simp only [h5, if_false] at h
      by_cases h6 : e.site = 6
      · simp only [h6, if_true] at h
        cases cur with
        | none => simp at h
        | some c =>
          obtain ⟨t, ps⟩ := c
          simp only at h
          by_cases ht : t = e.thread
          · simp only [ht, if_true, Option.map_eq_some_iff] at h
            obtain ⟨s', hs', rfl⟩ := h
            have := ih _ _ hs'
            simp only [List.nil_append] at this
            simp [flat_cons, Action.prims, this, primsOfTrace, prim_none_of_site6 e h6, ht]
          · simp [ht] at h
      · simp only [h6, if_false] at h
        cases hp : e.prim with
        | none =>
          simp only [hp] at h
          have := ih _ _ h
          simp [primsOfTrace, hp, this]
        | some p =>
          simp only [hp] at h
          cases cur with
          | none => simp at h
          | some c =>
            obtain ⟨t, ps⟩ := c
            simp only at h
            by_cases ht : t = e.thread
            · simp only [ht, if_true] at h
              have := ih _ _ h
              simp [primsOfTrace, hp, this, ht]
            · simp [ht] at h

/-- the seeks and reads of a trace, in recorded order, are exactly the flattening of the
action-level schedule of its critical sections -/
theorem schedOfTrace_flat (es : List Ev) (s : List (Worker × Action)) (h : schedOfTrace es = some s) :
    flat s = primsOfTrace es := by
  have := schedOfTraceFrom_flat es none s h
  simpa using this

theorem critFootprint_atomic (es : List Ev) (h : critFootprint es = true) :
    ∃ s, schedOfTrace es = some s ∧ ∀ e ∈ s, e.2.atomicIO = true := by
  unfold critFootprint at h
  cases hs : schedOfTrace es with
  | none => simp [hs] at h
  | some s =>
    refine ⟨s, rfl, ?_⟩
    simp only [hs, List.all_eq_true, Bool.and_eq_true] at h
    intro e he
    exact (h e he).1

/-! ### the adaptive chunk reader -/

theorem chunkProg_atomic (f o n : Nat) (parse : List UInt8 → Option (Nat × Nat)) (p : Priv) (a : Action)
    (h : chunkProg f o n parse p = some a) : a.atomicIO = true := by
  unfold chunkProg at h
  split at h
  · split at h
    · cases h; exact atomicIO_fileReadAt ..
    · cases h
  · cases h; exact atomicIO_fileReadAt ..
  · cases h

end Carquet.Proofs.Par
