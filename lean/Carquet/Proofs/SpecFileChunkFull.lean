import Carquet.Proofs.SpecFileChainFull
/-
The chunk stage for admissible layouts: an optional dictionary page (PLAIN, any compression plan,
`is_sorted`, unknown fields, `dictionary_page_offset` present or absent; `writeDictPage_adm`,
`writeDictPage_small`, `dictPage_written`) followed by data pages in either value encoding.  The two shapes of a
chunk are the two chunk lemmas of Proofs/SpecFileRead.lean applied to the chain of its data pages
(`readChunk_written_nodict`, `readChunk_written_dict`: entries and `total_uncompressed_size` together).
-/
namespace Carquet.Proofs.SpecFile
open Carquet.Spec Carquet.Spec.File Carquet.Spec.Thrift Carquet.Spec.ParquetThrift

/-! ### the dictionary page -/

def dictPageHdrTV (leaf : LeafInfo) (dl : DictLayout) (comp : Bytes) : TVal :=
  pageHdrTV 2 (plainEncode leaf dl.values).length comp.length (if dl.crc then some (crcField comp) else none) 7
    (dictHdrTV ⟨dl.values.length, dl.encoding⟩ dl.sorted dl.memberExtra) dl.hdrExtra

theorem writeDictPage_adm {leaf : LeafInfo} {dl : DictLayout} {w : Written} (hd : DictAdm dl)
    (hw : writeDictPage leaf dl = some w) :
    ∃ comp, compressWith dl.comp (plainEncode leaf dl.values) = some comp ∧
      w.bytes = encodeValF dl.form (dictPageHdrTV leaf dl comp) ++ comp ∧
      w.oracle = oracleEntry dl.comp comp (plainEncode leaf dl.values) ∧
      w.usize = (encodeValF dl.form (dictPageHdrTV leaf dl comp)).length + (plainEncode leaf dl.values).length := by
  unfold writeDictPage at hw
  rw [hd.damage] at hw
  cases hc : compressWith dl.comp (plainEncode leaf dl.values) with
  | none => simp [hc] at hw
  | some comp =>
    simp only [hc, Option.some.injEq, mkPage] at hw
    have hcnt : (Int.ofNat dl.values.length + ({} : Damage).countDelta).toNat = dl.values.length := by
      show (Int.ofNat dl.values.length + 0).toNat = dl.values.length
      simp
    rw [hcnt] at hw
    refine ⟨comp, rfl, ?_, ?_, ?_⟩ <;> rw [← hw] <;> simp [dictPageHdrTV]

/-- **an admissible dictionary page within the `i32` bounds**: what it is made of (`writeDictPage_adm`), body and stored
body below 2^31, and its header value a well-formed Thrift value -/
theorem writeDictPage_small {leaf : LeafInfo} {dl : DictLayout} {a : Written} (hd : DictAdm dl)
    (hw : writeDictPage leaf dl = some a) (hlen : a.bytes.length < 2 ^ 31) (hus : a.usize < 2 ^ 31) :
    ∃ comp, compressWith dl.comp (plainEncode leaf dl.values) = some comp ∧
      a.bytes = encodeValF dl.form (dictPageHdrTV leaf dl comp) ++ comp ∧
      a.oracle = oracleEntry dl.comp comp (plainEncode leaf dl.values) ∧
      a.usize = (encodeValF dl.form (dictPageHdrTV leaf dl comp)).length + (plainEncode leaf dl.values).length ∧
      (plainEncode leaf dl.values).length < 2 ^ 31 ∧ comp.length < 2 ^ 31 ∧ (dictPageHdrTV leaf dl comp).wf = true := by
  obtain ⟨comp, hc, hbytes, horacle, husize⟩ := writeDictPage_adm hd hw
  have hbody : (plainEncode leaf dl.values).length < 2 ^ 31 := by omega
  have hcomp : comp.length < 2 ^ 31 := by
    rw [hbytes] at hlen; simp only [List.length_append] at hlen; omega
  have henc : inI32 (dl.encoding : Int) := by
    unfold inI32; rcases hd.encoding with h | h <;> rw [h] <;> decide
  exact ⟨comp, hc, hbytes, horacle, husize, hbody, hcomp,
    pageHdrTV_wf 2 _ comp.length (if dl.crc then some (crcField comp) else none) 7 _ dl.hdrExtra (by unfold inI32; omega) hbody
      hcomp (crc_inI32 dl.crc comp) (by unfold inI16; omega)
      (dictHdrTV_wf dl.values.length dl.encoding dl.sorted dl.memberExtra hd.count henc hd.memberExtraWf) hd.hdrExtraWf⟩

/-- **the dictionary page** is read back: raw page (any codec plan) and the dictionary -/
theorem dictPage_written (cfg : Config) (leaf : LeafInfo) (dl : DictLayout) (a : Written) (rest : Bytes)
    (hd : DictAdm dl) (h1 : writeDictPage leaf dl = some a) (hvalid : ∀ v ∈ dl.values, validValue leaf v = true)
    (hlen : a.bytes.length < 2 ^ 31) (hus : a.usize < 2 ^ 31)
    (ho : ∀ e ∈ a.oracle, oracleLookup cfg.oracle e.1 = some e.2) :
    ∃ p : RawPage, readRawPage cfg dl.comp.codec (a.bytes ++ rest) = .ok p ∧ p.hdr.type = 2 ∧ p.rest = rest ∧
      p.size = a.bytes.length ∧ RawPage.usize p = a.usize ∧
      ∃ kh, p.hdr.dict = some kh ∧ decodeDictPage leaf kh p.page = .ok dl.values := by
  obtain ⟨comp, hc, hbytes, horacle, husize, -, -, hpwf⟩ := writeDictPage_small hd h1 hlen hus
  have hdecomp := decompress_compressWith cfg.oracle dl.comp _ comp hc hd.comp (by rw [← horacle]; exact ho)
  obtain ⟨kfs, hk1, hk2⟩ := dictHdrOf_TV ⟨dl.values.length, dl.encoding⟩ dl.sorted dl.memberExtra hd.memberExtra
  obtain ⟨fs, hf1, hf2⟩ := pageHdrOf_dict (plainEncode leaf dl.values).length comp.length
    (if dl.crc then some (crcField comp) else none) kfs _ hk2 dl.hdrExtra hd.hdrExtra
  have hhdr : dictPageHdrTV leaf dl comp = .struct fs := by
    unfold dictPageHdrTV; rw [hk1, hf1]
  rw [hhdr] at hbytes hpwf husize
  have hraw := readRawPage_of cfg dl.comp.codec dl.form fs _ dl.crc (plainEncode leaf dl.values) comp rest hpwf hf2
    (Or.inr rfl) rfl rfl rfl hdecomp
  rw [← hbytes] at hraw
  refine ⟨_, hraw, rfl, rfl, ?_, ?_, _, rfl, ?_⟩
  · rw [hbytes]; simp
  · rw [husize]
    simp only [RawPage.usize]
    omega
  · have h3 := plainValues_written leaf dl.values hvalid [] (fun _ => rfl)
    simp only [List.append_nil] at h3
    unfold decodeDictPage
    have hne : ¬ ((dl.encoding : Int) ≠ 0 ∧ (dl.encoding : Int) ≠ 2) := by
      rcases hd.encoding with h | h <;> rw [h] <;> decide
    simp only [hne, if_false, h3]
    simp

theorem writeDictPage_ne_nil {leaf : LeafInfo} {dl : DictLayout} {w : Written} (hd : DictAdm dl)
    (hw : writeDictPage leaf dl = some w) : w.bytes ≠ [] := by
  obtain ⟨comp, _, hbytes, _, _⟩ := writeDictPage_adm hd hw
  rw [hbytes]
  intro h
  have := (List.append_eq_nil_iff.mp h).1
  unfold dictPageHdrTV pageHdrTV at this
  exact encodeValF_struct_ne_nil _ _ this

theorem writeDictPage_body_le {leaf : LeafInfo} {dl : DictLayout} {w : Written} (hd : DictAdm dl)
    (hw : writeDictPage leaf dl = some w) : (plainEncode leaf dl.values).length ≤ w.usize := by
  obtain ⟨comp, _, _, _, husize⟩ := writeDictPage_adm hd hw
  omega

/-! ### the chunk -/

theorem wellFormedChunk_iff {leaf : LeafInfo} {es : List Entry} (hwf : wellFormedChunk leaf es = true) :
    (∀ e ∈ es, wellFormedEntry leaf e = true) ∧ ∀ e t, es = e :: t → e.rep = 0 := by
  unfold wellFormedChunk at hwf
  simp only [Bool.and_eq_true, List.all_eq_true] at hwf
  refine ⟨hwf.1, ?_⟩
  intro e t h
  subst h
  simpa using hwf.2

/-- **one column chunk without dictionary page** -/
theorem readChunk_written_nodict (cfg : Config) (leaf : LeafInfo) (pls : List PageLayout) (es : List Entry) (w : Written)
    (m : ColumnMeta) (start : Nat) (h : PagesOk cfg m.codec leaf none pls es w)
    (henc : ∀ pl ∈ pls, m.encodings.contains (valueEncTag pl.values) = true) (hm : MetaFits m es)
    (hdict : m.dictionaryPageOffset = none) :
    readChunk cfg leaf m start w.bytes = .ok es ∧ chunkUsize (w.bytes.length + 1) w.bytes = some w.usize :=
  readChunk_of_pages start (h.chain henc) hm hdict

/-- the data pages behind a dictionary page: its values are shorter than its uncompressed body -/
theorem pagesOk_dict {cfg : Config} {codec : Nat} {leaf : LeafInfo} {dl : DictLayout} {pls : List PageLayout}
    {es : List Entry} {dp w : Written} (hd : DictAdm dl) (hdw : writeDictPage leaf dl = some dp)
    (hvalid : ∀ v ∈ dl.values, validValue leaf v = true)
    (hpl : ∀ pl ∈ pls, PageAdm pl ∧ pl.comp.codec = codec) (hw : writeDataPages leaf (some dl.values) pls es = some w)
    (hwfe : ∀ e ∈ es, wellFormedEntry leaf e = true) (hlen : dp.bytes.length + w.bytes.length < 2 ^ 31)
    (hus : dp.usize + w.usize < 2 ^ 31) (hes : es.length < 2 ^ 31)
    (ho : ∀ e ∈ dp.oracle ++ w.oracle, oracleLookup cfg.oracle e.1 = some e.2) :
    PagesOk cfg codec leaf (some dl.values) pls es w := by
  have hbody := writeDictPage_body_le hd hdw
  refine ⟨hpl, hw, hwfe, by omega, by omega, hes, Or.inr ?_, fun e he => ho e (by simp [he])⟩
  intro d h
  cases h
  exact value_length_lt leaf dl.values hvalid (by omega)

/-- **one column chunk with a dictionary page**; its header and uncompressed body count in the chunk's
`total_uncompressed_size` as well -/
theorem readChunk_written_dict (cfg : Config) (leaf : LeafInfo) (dl : DictLayout) (pls : List PageLayout) (es : List Entry)
    (dp w : Written) (m : ColumnMeta) (start : Nat)
    (hd : DictAdm dl) (hdc : dl.comp.codec = m.codec) (hdw : writeDictPage leaf dl = some dp)
    (hvalid : ∀ v ∈ dl.values, validValue leaf v = true)
    (hpl : ∀ pl ∈ pls, PageAdm pl ∧ pl.comp.codec = m.codec) (hw : writeDataPages leaf (some dl.values) pls es = some w)
    (hwfe : ∀ e ∈ es, wellFormedEntry leaf e = true) (hlen : dp.bytes.length + w.bytes.length < 2 ^ 31)
    (hus : dp.usize + w.usize < 2 ^ 31) (hes : es.length < 2 ^ 31)
    (henc : ∀ pl ∈ pls, m.encodings.contains (valueEncTag pl.values) = true) (hm : MetaFits m es)
    (hoff : m.dictionaryPageOffset.isSome = true → m.dataPageOffset = start + dp.bytes.length)
    (ho : ∀ e ∈ dp.oracle ++ w.oracle, oracleLookup cfg.oracle e.1 = some e.2) :
    readChunk cfg leaf m start (dp.bytes ++ w.bytes) = .ok es ∧
    chunkUsize ((dp.bytes ++ w.bytes).length + 1) (dp.bytes ++ w.bytes) = some (dp.usize + w.usize) := by
  obtain ⟨p, hraw, hty, hrest, hsize, husz, kh, hkh, hdec⟩ := dictPage_written cfg leaf dl dp w.bytes hd hdw hvalid (by omega)
    (by omega) (fun e he => ho e (by simp [he]))
  exact husz ▸ readChunk_of_dict (hdc ▸ hraw) hty hrest (writeDictPage_ne_nil hd hdw) hkh hdec (hsize ▸ hoff)
    ((pagesOk_dict hd hdw hvalid hpl hw hwfe hlen hus hes ho).chain henc) hm

end Carquet.Proofs.SpecFile
