import Carquet.Spec.Snappy
import Carquet.Impl.Snappy
import Carquet.Proofs.SnappySpec
import Carquet.Proofs.CodecBytes
/-
The compressor model: what an accepted candidate and the extension loop guarantee (independent of
the hash table), the loop invariant of the match finder (operations tile the input; cost ≤ 7/6),
serialisation of valid operations into grammar elements (carquet's emitters write what the Spec's
reference encoder writes for a suitable choice of forms), the preamble, and the two main results
`compress_stream` and `compress_le_bound`.
-/
namespace Carquet.Proofs.Snappy
open Carquet
open Carquet.Impl.Snappy
open Carquet.Proofs.CodecBytes (ofNat_toNat)
open Carquet.Proofs.Lz77 (backCopy backCopy_add backCopy_length)

/-! ### The extension loop -/

theorem extend_le (src : Array UInt8) (off ip : Nat) (h : ip ≤ src.size) : extend src off ip ≤ src.size := by
  fun_induction extend src off ip with
  | case1 ip hlt heq ih => exact ih (by omega)
  | case2 ip hlt hne => omega
  | case3 ip hge => exact h

theorem extend_match (src : Array UInt8) (off ip : Nat) :
    ∀ j, ip ≤ j → j < extend src off ip → src[j]? = src[j - off]? := by
  fun_induction extend src off ip with
  | case1 ip hlt heq ih =>
    intro j h1 h2
    by_cases hj : j = ip
    · subst hj
      have hlt2 : j - off < src.size := by omega
      rw [Array.getElem?_eq_getElem hlt, Array.getElem?_eq_getElem hlt2, heq]
    · exact ih j (by omega) h2
  | case2 ip hlt hne => intro j h1 h2; omega
  | case3 ip hge => intro j h1 h2; omega

/-! ### The candidate test -/

/-- what an accepted candidate guarantees — nothing about the table is used -/
theorem isMatch_spec {src : Array UInt8} {ref ip : Nat} (h : ip + 3 < src.size)
    (hm : isMatch src ref ip h = true) :
    ref < ip ∧ ip - ref ≤ 32768 ∧ ∀ i, i < 4 → src[ip + i]? = src[ref + i]? := by
  simp only [isMatch] at hm
  split at hm
  · rename_i hlt
    simp only [Bool.and_eq_true, decide_eq_true_eq] at hm
    obtain ⟨h1, h2⟩ := hm
    obtain ⟨e0, e1, e2, e3⟩ := CodecBytes.le32_inj h2
    refine ⟨hlt, h1, ?_⟩
    intro i hi
    have hr : ref + 3 < src.size := by omega
    rcases (by omega : i = 0 ∨ i = 1 ∨ i = 2 ∨ i = 3) with rfl | rfl | rfl | rfl
    · simp only [Nat.add_zero]; rw [Array.getElem?_eq_getElem (by omega), Array.getElem?_eq_getElem (by omega), e0]
    · rw [Array.getElem?_eq_getElem (by omega), Array.getElem?_eq_getElem (by omega), e1]
    · rw [Array.getElem?_eq_getElem (by omega), Array.getElem?_eq_getElem (by omega), e2]
    · rw [Array.getElem?_eq_getElem (by omega), Array.getElem?_eq_getElem (by omega), e3]
  · cases hm

theorem cand_zeroed (src : Array UInt8) (ip : Nat) (h : ip + 3 < src.size) :
    cand src (Vector.replicate 16384 0) ip h = 0 := by
  simp [cand, Vector.get]

theorem tblIns_zeroed (src : Array UInt8) (h : 0 + 3 < src.size) :
    tblIns src (Vector.replicate 16384 0) 0 h = Vector.replicate 16384 0 := by
  simp [tblIns]

/-! ### What the emitted operations satisfy -/

/-- A copy `(off, len)` emitted at input position `p` only repeats bytes that are already there.
This is the hash-independent key fact: it follows from the 4-byte comparison and the extension loop,
whatever the table contained. -/
def CopyValid (src : Array UInt8) (p off len : Nat) : Prop :=
  0 < off ∧ off ≤ p ∧ p + len ≤ src.size ∧ ∀ i, i < len → src[p + i]? = src[p + i - off]?

def OpOk (src : Array UInt8) (p : Nat) : Op → Prop
  | .literal start len => start = p ∧ 0 < len ∧ p + len ≤ src.size
  | .copy off len => CopyValid src p off len ∧ off ≤ 32768 ∧ 4 ≤ len

def opLen : Op → Nat
  | .literal _ len => len
  | .copy _ len => len

/-- `Tiles src p ops q`: the operations cover `src[p..q)` in order, each one valid where it stands. -/
def Tiles (src : Array UInt8) : Nat → List Op → Nat → Prop
  | p, [], q => p = q
  | p, op :: r, q => OpOk src p op ∧ Tiles src (p + opLen op) r q

theorem tiles_append {src : Array UInt8} : ∀ {a b : List Op} {p q r : Nat},
    Tiles src p a q → Tiles src q b r → Tiles src p (a ++ b) r := by
  intro a
  induction a with
  | nil => intro b p q r h1 h2; simp only [Tiles] at h1; subst h1; simpa using h2
  | cons op a ih =>
    intro b p q r h1 h2
    simp only [Tiles, List.cons_append] at h1 ⊢
    exact ⟨h1.1, ih h1.2 h2⟩

theorem match_copyValid {src : Array UInt8} {ref ip : Nat} (h : ip + 15 < src.size)
    (hm : isMatch src ref ip (by omega) = true) :
    CopyValid src ip (ip - ref) (extend src (ip - ref) (ip + 4) - ip) ∧ ip - ref ≤ 32768 ∧
      4 ≤ extend src (ip - ref) (ip + 4) - ip := by
  obtain ⟨h1, h2, h3⟩ := isMatch_spec (by omega) hm
  have hle := le_extend src (ip - ref) (ip + 4)
  have hes := extend_le src (ip - ref) (ip + 4) (by omega)
  refine ⟨⟨by omega, by omega, by omega, ?_⟩, h2, by omega⟩
  intro i hi
  by_cases h4 : i < 4
  · rw [h3 i h4]; congr 1; omega
  · exact extend_match src (ip - ref) (ip + 4) (ip + i) (by omega) (by omega)

/-! ### Sizes -/

theorem literalHeader_length (len : Nat) : 6 * (literalHeader len).length ≤ 6 + len := by
  simp only [literalHeader]
  split
  · simp
  · split
    · simp; omega
    · split
      · simp; omega
      · split
        · simp; omega
        · simp; omega

theorem copyTail_length (off len : Nat) : (copyTail off len).length ≤ 3 := by
  simp only [copyTail]; split <;> simp [copy2Bytes, copy1Bytes]

theorem copyBytes_length (off len : Nat) (h : 4 ≤ len) : (copyBytes off len).length + 1 ≤ len := by
  fun_induction copyBytes off len with
  | case1 len h68 ih =>
    have := ih (by omega)
    simp only [List.length_append, copy2Bytes, List.length_cons, List.length_nil]; omega
  | case2 len h1 h2 =>
    have := copyTail_length off (len - 60)
    simp only [List.length_append, copy2Bytes, List.length_cons, List.length_nil]; omega
  | case3 len h1 h2 =>
    have := copyTail_length off len
    omega

theorem serialize_snoc_length (src : Array UInt8) (l : List Op) (op : Op) :
    (serialize src (l ++ [op])).length = (serialize src l).length + (opBytes src op).length := by
  simp [serialize]

/-- loop invariant of the match finder: the operations so far tile `src[0..anchor)` and cost at most
7/6 of it -/
def Inv (src : Array UInt8) (acc : Array Op) (anchor : Nat) : Prop :=
  Tiles src 0 acc.toList anchor ∧ 6 * (serialize src acc.toList).length ≤ 7 * anchor

theorem opBytes_literal_length (src : Array UInt8) (start len : Nat) (h : start + len ≤ src.size) :
    (opBytes src (.literal start len)).length = (literalHeader len).length + len := by
  simp [opBytes]; omega

theorem inv_pushLit {src : Array UInt8} {acc : Array Op} {anchor ip : Nat} (h : Inv src acc anchor)
    (h1 : anchor ≤ ip) (h2 : ip ≤ src.size) :
    Tiles src 0 (pushLit acc anchor ip).toList ip ∧
      6 * (serialize src (pushLit acc anchor ip).toList).length ≤ 7 * ip + (if anchor < ip then 6 else 0) := by
  simp only [pushLit]
  split
  · rename_i hlt
    simp only [Array.toList_push]
    refine ⟨tiles_append h.1 ?_, ?_⟩
    · simp only [Tiles, OpOk, opLen]; exact ⟨⟨trivial, by omega, by omega⟩, by omega⟩
    · have hh := literalHeader_length (ip - anchor)
      have := h.2
      rw [serialize_snoc_length, opBytes_literal_length src anchor (ip - anchor) (by omega)]
      omega
  · rename_i hge
    have : anchor = ip := by omega
    subst this
    exact ⟨h.1, by have := h.2; omega⟩

theorem inv_pushCopy {src : Array UInt8} {acc : Array Op} {anchor ip off len : Nat} (h : Inv src acc anchor)
    (h1 : anchor ≤ ip) (hv : CopyValid src ip off len) (ho : off ≤ 32768) (hl : 4 ≤ len) :
    Inv src ((pushLit acc anchor ip).push (.copy off len)) (ip + len) := by
  obtain ⟨t1, c1⟩ := inv_pushLit h h1 (by have := hv.2.2.1; omega)
  have hc := copyBytes_length off len hl
  simp only [Inv, Array.toList_push]
  refine ⟨tiles_append t1 ?_, ?_⟩
  · simp only [Tiles, OpOk, opLen]; exact ⟨⟨hv, ho, hl⟩, trivial⟩
  · rw [serialize_snoc_length, opBytes]
    split at c1 <;> omega

/-- Whatever the table holds, the main loop keeps the invariant and ends with operations that tile the
whole input at a cost of at most `7n/6 + 1` bytes. -/
theorem mainLoop_inv (src : Array UInt8) (tbl : Table) (ip anchor : Nat) (acc : Array Op)
    (h : Inv src acc anchor) (h1 : anchor ≤ ip) (h2 : ip ≤ src.size) :
    Tiles src 0 (mainLoop src tbl ip anchor acc).toList src.size ∧
      6 * (serialize src (mainLoop src tbl ip anchor acc).toList).length ≤ 7 * src.size + 6 := by
  fun_induction mainLoop src tbl ip anchor acc with
  | case1 tbl ip anchor acc hlim hm ih =>
    obtain ⟨hv, ho, hl⟩ := match_copyValid hlim hm
    have hle := le_extend src (ip - cand src tbl ip (by omega)) (ip + 4)
    have hinv := inv_pushCopy h h1 hv ho hl
    rw [show ip + (extend src (ip - cand src tbl ip (by omega)) (ip + 4) - ip) =
      extend src (ip - cand src tbl ip (by omega)) (ip + 4) by omega] at hinv
    exact ih hinv (Nat.le_refl _) (extend_le _ _ _ (by omega))
  | case2 tbl ip anchor acc hlim hm ih => exact ih h (by omega) (by omega)
  | case3 tbl ip anchor acc hlim =>
    obtain ⟨t1, c1⟩ := inv_pushLit h (by omega : anchor ≤ src.size) (Nat.le_refl _)
    exact ⟨t1, by split at c1 <;> omega⟩

theorem extract_toList (src : Array UInt8) (p len : Nat) :
    (src.extract p (p + len)).toList = (src.toList.drop p).take len := by
  rw [Array.toList_extract, List.extract_eq_take_drop]; congr 1; omega

theorem literalHeader_encodeOp (data : List UInt8) (h0 : 0 < data.length) (h32 : data.length ≤ 2 ^ 32) :
    ∃ form, Spec.Snappy.encodeOp (.literal data form) = some (literalHeader data.length ++ data) := by
  simp only [literalHeader]
  split
  · exact ⟨.inTag, by rw [Spec.Snappy.encodeOp, if_pos (by omega)]; rfl⟩
  · split
    · refine ⟨.ext 1, ?_⟩
      rw [Spec.Snappy.encodeOp, if_pos (by omega)]
      simp [Spec.Snappy.leBytes, UInt8.ofNat_mod_size']
    · split
      · refine ⟨.ext 2, ?_⟩
        rw [Spec.Snappy.encodeOp, if_pos (by omega)]
        simp [Spec.Snappy.leBytes, UInt8.ofNat_mod_size']
      · split
        · refine ⟨.ext 3, ?_⟩
          rw [Spec.Snappy.encodeOp, if_pos (by omega)]
          simp [Spec.Snappy.leBytes, UInt8.ofNat_mod_size', Nat.div_div_eq_div_mul]
        · refine ⟨.ext 4, ?_⟩
          rw [Spec.Snappy.encodeOp, if_pos (by omega)]
          simp [Spec.Snappy.leBytes, UInt8.ofNat_mod_size', Nat.div_div_eq_div_mul]

theorem literal_element (src : Array UInt8) (p len : Nat) (h0 : 0 < len) (h1 : p + len ≤ src.size)
    (h32 : len ≤ 2 ^ 32) :
    Spec.Snappy.Element (literalHeader len ++ (src.extract p (p + len)).toList)
      (src.toList.take p) (src.toList.take (p + len)) := by
  have hdl : ((src.toList.drop p).take len).length = len := by simp; omega
  rw [extract_toList, List.take_add]
  generalize (src.toList.drop p).take len = data at hdl
  subst hdl
  obtain ⟨form, he⟩ := literalHeader_encodeOp data h0 h32
  exact encodeOp_literal_element he _

theorem copy2Bytes_encodeOp {off len : Nat} (h1 : 1 ≤ len) (h2 : len ≤ 64) (ho : off ≤ 65535) :
    Spec.Snappy.encodeOp (.copy off len .c2) = some (copy2Bytes off len) := by
  rw [Spec.Snappy.encodeOp, if_pos (by omega)]
  simp [copy2Bytes, Spec.Snappy.leBytes, UInt8.ofNat_mod_size']

theorem copyTail_encodeOp {off len : Nat} (h1 : 4 ≤ len) (h2 : len ≤ 64) (ho : off ≤ 65535) :
    ∃ form, Spec.Snappy.encodeOp (.copy off len form) = some (copyTail off len) := by
  simp only [copyTail]
  split
  · exact ⟨.c2, copy2Bytes_encodeOp (by omega) h2 ho⟩
  · exact ⟨.c1, by rw [Spec.Snappy.encodeOp, if_pos (by omega)]; rfl⟩

theorem elems_single {e o o' : List UInt8} (h : Spec.Snappy.Element e o o') : Spec.Snappy.Elems e o o' := by
  have := Spec.Snappy.Elems.cons h (Spec.Snappy.Elems.nil o')
  simpa using this

/-- a copy element in any form, on any output it may refer into -/
theorem copy_element {off len : Nat} {form : Spec.Snappy.CopyForm} {e o : List UInt8}
    (he : Spec.Snappy.encodeOp (.copy off len form) = some e) (h0 : 0 < off) (h1 : off ≤ o.length) :
    Spec.Snappy.Elems e o (backCopy off len o) :=
  elems_single (encodeOp_copy_element he h0 h1 (copyOverlap_backCopy h0 len h1))

/-- `snappy_emit_copy` cuts a long copy into elements of at most 64 bytes; together they are the one copy -/
theorem copyBytes_elems {off : Nat} (ho : off ≤ 65535) (h0 : 0 < off) (len : Nat) :
    ∀ o : List UInt8, off ≤ o.length → 4 ≤ len → Spec.Snappy.Elems (copyBytes off len) o (backCopy off len o) := by
  fun_induction copyBytes off len with
  | case1 len h68 ih =>
    intro o h1 h4
    rw [show backCopy off len o = backCopy off (len - 64) (backCopy off 64 o) by rw [← backCopy_add]; congr 1; omega]
    exact elems_append (copy_element (copy2Bytes_encodeOp (by omega) (by omega) ho) h0 h1)
      (ih _ (by rw [backCopy_length h0 64 h1]; omega) (by omega))
  | case2 len h1 h2 =>
    intro o h1 h4
    obtain ⟨form, he⟩ := copyTail_encodeOp (off := off) (len := len - 60) (by omega) (by omega) ho
    rw [show backCopy off len o = backCopy off (len - 60) (backCopy off 60 o) by rw [← backCopy_add]; congr 1; omega]
    exact elems_append (copy_element (copy2Bytes_encodeOp (by omega) (by omega) ho) h0 h1)
      (copy_element he h0 (by rw [backCopy_length h0 60 h1]; omega))
  | case3 len h1 h2 =>
    intro o h1 h4
    obtain ⟨form, he⟩ := copyTail_encodeOp (off := off) (len := len) h4 (by omega) ho
    exact copy_element he h0 h1

theorem serialize_elems {src : Array UInt8} (h32 : src.size ≤ 2 ^ 32) : ∀ (ops : List Op) (p q : Nat),
    Tiles src p ops q →
      Spec.Snappy.Elems (serialize src ops) (src.toList.take p) (src.toList.take q) := by
  intro ops
  induction ops with
  | nil => intro p q h; simp only [Tiles] at h; subst h; exact Spec.Snappy.Elems.nil _
  | cons op r ih =>
    intro p q h
    simp only [Tiles] at h
    obtain ⟨hop, hr⟩ := h
    have hrest := ih _ _ hr
    simp only [serialize, List.flatMap_cons] at hrest ⊢
    cases op with
    | literal start len =>
      simp only [OpOk] at hop
      obtain ⟨rfl, h0, h1⟩ := hop
      exact elems_append (elems_single (literal_element src start len h0 h1 (by omega))) hrest
    | copy off len =>
      simp only [OpOk] at hop
      obtain ⟨⟨h0, h1, h2, h3⟩, ho, h4⟩ := hop
      have := copyBytes_elems (by omega) h0 len (src.toList.take p) (by simp; omega) h4
      -- the only place where the format meets the data: the copy rebuilds the next `len` bytes of `src`
      rw [Lz77.backCopy_take h0 len h1 (by simpa using h2) (fun i hi => by simpa using h3 i hi)] at this
      exact elems_append this hrest

/-! ### The whole compressor -/

theorem ops_inv (src : Array UInt8) :
    Tiles src 0 (ops src).toList src.size ∧ 6 * (serialize src (ops src).toList).length ≤ 7 * src.size + 6 := by
  simp only [ops]
  split
  · rename_i h0
    simp [Tiles, serialize, h0]
  · split
    · rename_i h0 h15
      refine ⟨?_, ?_⟩
      · simp only [Tiles, OpOk, opLen]; exact ⟨⟨trivial, by omega, by omega⟩, by omega⟩
      · have hh := literalHeader_length src.size
        have hl := opBytes_literal_length src 0 src.size (by omega)
        simp only [serialize, List.flatMap_cons, List.flatMap_nil, List.append_nil, hl]
        omega
    · exact mainLoop_inv src _ 0 0 #[] ⟨by simp [Tiles], by simp [serialize]⟩ (Nat.le_refl _) (Nat.zero_le _)

theorem writeVarint_eq_spec : ∀ (k v : Nat), v < 128 ^ (k + 1) →
    writeVarint k v = Spec.Snappy.writeVarint (k + 1) v := by
  intro k
  induction k with
  | zero => intro v hv; simp only [writeVarint, Spec.Snappy.writeVarint]; rw [if_pos (by omega)]
  | succ k ih =>
    intro v hv
    rw [writeVarint, Spec.Snappy.writeVarint]
    by_cases h : v < 128
    · rw [if_neg (by omega), if_pos h]
    · rw [if_pos (by omega), if_neg h, ih (v / 128) (Nat.div_lt_of_lt_mul (by rw [Nat.pow_succ, Nat.mul_comm] at hv; exact hv))]

theorem writeVarint_varint (k v : Nat) (hv : v < 128 ^ (k + 1)) :
    Spec.Snappy.Varint (writeVarint k v) v ∧ (writeVarint k v).length ≤ k + 1 := by
  rw [writeVarint_eq_spec k v hv]
  exact spec_writeVarint_varint (k + 1) v hv (by omega)

/-- carquet's compressed bytes form a valid raw Snappy block for the input (inputs below 4 GiB, the
format's own limit; the C code writes `(uint32_t)src_size` into the preamble) -/
theorem compress_stream (x : List UInt8) (h : x.length < 2 ^ 32) : Spec.Snappy.Stream (compress x) x := by
  obtain ⟨ht, _⟩ := ops_inv x.toArray
  have he := serialize_elems (src := x.toArray) (by simp; omega) _ _ _ ht
  simp only [List.take_zero, List.size_toArray, List.take_length] at he
  obtain ⟨v1, v2⟩ := writeVarint_varint 4 x.length (by omega)
  simp only [compress, compressBytes, List.size_toArray, Nat.mod_eq_of_lt h]
  exact Spec.Snappy.Stream.mk v1 v2 h he rfl

theorem compress_le_bound (x : List UInt8) : (compress x).length ≤ compressBound x.length := by
  obtain ⟨_, hc⟩ := ops_inv x.toArray
  obtain ⟨_, v2⟩ := writeVarint_varint 4 (x.length % 2 ^ 32) (by omega)
  simp only [List.size_toArray] at hc
  simp only [compress, compressBytes, List.size_toArray, List.length_append, compressBound]
  omega

/-! ### Reading the tiling back: what it says about each copy -/

def opsLen (l : List Op) : Nat := (l.map opLen).sum

theorem tiles_split {src : Array UInt8} : ∀ {a b : List Op} {p q : Nat},
    Tiles src p (a ++ b) q → Tiles src (p + opsLen a) b q := by
  intro a
  induction a with
  | nil => intro b p q h; simpa [opsLen] using h
  | cons op a ih =>
    intro b p q h
    simp only [List.cons_append, Tiles] at h
    have := ih h.2
    simp only [opsLen, List.map_cons, List.sum_cons] at this ⊢
    rw [show p + (opLen op + (List.map opLen a).sum) = p + opLen op + (List.map opLen a).sum by omega]
    exact this

theorem tiles_copy {src : Array UInt8} {a b : List Op} {off len q : Nat}
    (h : Tiles src 0 (a ++ .copy off len :: b) q) :
    CopyValid src (opsLen a) off len ∧ off ≤ 32768 ∧ 4 ≤ len := by
  have := tiles_split h
  simp only [Tiles, OpOk, Nat.zero_add] at this
  exact this.1

end Carquet.Proofs.Snappy
