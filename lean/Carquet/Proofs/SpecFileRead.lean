import Carquet.Spec.File.Read
import Carquet.Proofs.ExceptOk
import Carquet.Proofs.SpecFileEnvelope
/-
What the independent reader `Spec.File.read` accepts, stated without any writer.

The data region of a Parquet file is row groups laid end to end, each row group column chunks laid end to end at the
offsets the footer names, each chunk an optional dictionary page followed by data pages, each page a Thrift header
followed by the stored body.  The three relations `DataPages`, `ChunksIn`, `GroupsIn` say that of a byte string in the
reader's own terms: a derivation names, piece by piece, the bytes one stage of the reader consumes and what it returns
for them.  The reader's loops are opened here and nowhere else: `DataPages.read` (page loop and the sum
`total_uncompressed_size` is checked against), `readChunk_of_pages`, `readChunk_of_dict`, `ChunksIn.read`,
`GroupsIn.read`, `read_of`; for one page `readRawPage_accepts`, `decodeDataPage_accepts`, and in the other direction
`readRawPage_ok`.

A proof that the reader reads what some writer wrote (reference writer: Proofs/SpecFile{ChainFull,ChunkFull,WholeFull};
carquet's writer: Proofs/SpecWriter{Chunk,File}) builds the derivation for the bytes that writer lays out, one
constructor per page, chunk and row group, and speaks neither of fuel nor of slices of the file nor of the tiling cursor.
-/
namespace Carquet.Proofs.SpecFile
open Carquet.Spec Carquet.Spec.File Carquet.Proofs.ExceptOk

/-! ### list plumbing -/

theorem le_sum_of_mem : ∀ (l : List Nat) (x : Nat), x ∈ l → x ≤ l.sum
  | a :: r, x, h => by
    rcases List.mem_cons.mp h with rfl | h'
    · simp
    · have := le_sum_of_mem r x h'; simp only [List.sum_cons]; omega

theorem length_le_flatten {α : Type} (v : List α) (vs : List (List α)) (h : v ∈ vs) : v.length ≤ vs.flatten.length := by
  rw [List.length_flatten]
  exact le_sum_of_mem _ _ (List.mem_map_of_mem h)

theorem drop_take_middle {α : Type} (a b c : List α) (n k : Nat) (hn : n = a.length) (hk : k = b.length) :
    ((a ++ b ++ c).drop n).take k = b := by
  subst hn hk
  rw [List.append_assoc, List.drop_left, List.take_left]

/-! ### one page -/

/-- what a page that `readRawPage` accepted contributes to `total_uncompressed_size`: its header
(`size` = header + stored body) and the uncompressed size its header states (= the length of the
decompressed page, checked by `readRawPage`) -/
def RawPage.usize (p : RawPage) : Nat := (p.size - p.hdr.compressed) + p.hdr.uncompressed

theorem readRawPage_ok {cfg : Config} {codec : Nat} {bs : Bytes} {p : RawPage} (h : readRawPage cfg codec bs = .ok p) :
    ∃ rest, parsePageHeader bs = .ok (p.hdr, rest) ∧ p.size = bs.length - rest.length + p.hdr.compressed ∧
      p.rest = rest.drop p.hdr.compressed ∧ p.page.length = p.hdr.uncompressed := by
  unfold readRawPage at h
  simp only [guard_ok_iff, bind_ok_iff] at h
  obtain ⟨⟨hd, rest⟩, hp, _, _, _, h⟩ := h
  split at h <;> simp only [guard_ok_iff, guard_ok_iff', bind_ok_iff, pure_ok_iff] at h
  · obtain ⟨page, _, hlen, rfl⟩ := h
    exact ⟨rest, hp, rfl, rfl, Classical.not_not.mp hlen⟩
  · obtain ⟨_, page, _, hlen, rfl⟩ := h
    exact ⟨rest, hp, rfl, rfl, Classical.not_not.mp hlen⟩

theorem chunkUsize_of_raw (cfg : Config) (codec : Nat) (bs : Bytes) (p : RawPage) (fuel : Nat) (hne : bs ≠ [])
    (h : readRawPage cfg codec bs = .ok p) :
    chunkUsize (fuel + 1) bs = (chunkUsize fuel p.rest).map (fun n => RawPage.usize p + n) := by
  obtain ⟨rest, hp, h2, h3, _⟩ := readRawPage_ok h
  conv => lhs; unfold chunkUsize
  simp only [hne, if_false, hp, RawPage.usize, h2, h3]
  congr 1
  funext n
  omega

theorem readRawPage_page_length (cfg : Config) (codec : Nat) (bs : Bytes) (p : RawPage)
    (h : readRawPage cfg codec bs = .ok p) : p.page.length = p.hdr.uncompressed :=
  (readRawPage_ok h).choose_spec.2.2.2

/-- **the raw-page stage**: header bytes `hb` that parse to `h` in front of the stored body, then stored size, checksum,
decompression and uncompressed size -/
theorem readRawPage_accepts {cfg : Config} {codec : Nat} {hb comp rest body : Bytes} {h : PageHdr}
    (hp : parsePageHeader (hb ++ (comp ++ rest)) = .ok (h, comp ++ rest)) (hty : h.type = 0 ∨ h.type = 2)
    (hco : h.compressed = comp.length) (hun : h.uncompressed = body.length)
    (hcrc : ∀ c, h.crc = some c → (Crc32.crc32 comp).toNat = (c % 4294967296).toNat)
    (hdec : decompress cfg.oracle codec comp body.length = .ok body) :
    readRawPage cfg codec (hb ++ comp ++ rest) = .ok ⟨h, body, hb.length + comp.length, rest⟩ := by
  have h13 : ¬ (h.type = 1 ∨ h.type = 3) := by rcases hty with h0 | h0 <;> rw [h0] <;> decide
  have h02 : ¬ (h.type ≠ 0 ∧ h.type ≠ 2) := by rcases hty with h0 | h0 <;> rw [h0] <;> decide
  have hsize : (hb ++ (comp ++ rest)).length - (comp ++ rest).length + comp.length = hb.length + comp.length := by
    simp only [List.length_append]; omega
  rw [List.append_assoc]
  unfold readRawPage
  simp only [guard_ok_iff, bind_ok_iff]
  refine ⟨_, hp, h13, h02, by simp [hco], ?_⟩
  simp only [hco, hun, List.take_left, List.drop_left, hsize]
  cases hc : h.crc with
  | none => simp [guard_ok_iff, bind_ok_iff, pure_ok_iff, hdec]
  | some c => simp [guard_ok_iff, guard_ok_iff', bind_ok_iff, pure_ok_iff, hdec, hcrc c hc]

/-- **the page-body stage** on a body made of a repetition-level part, a definition-level part and a value part -/
theorem decodeDataPage_accepts {leaf : LeafInfo} {dict : Option (List Bytes)} {h : DataHdr} {repB defB valB : Bytes}
    {reps defs : List Nat} {vals : List Bytes} (hde : h.defEncoding = 3) (hre : h.repEncoding = 3)
    (hr : readLevels leaf.maxRep h.numValues (repB ++ (defB ++ valB)) = .ok (reps, defB ++ valB))
    (hd : readLevels leaf.maxDef h.numValues (defB ++ valB) = .ok (defs, valB))
    (hv : readValues leaf dict h.encoding (nonNullCount leaf.maxDef defs) valB = .ok vals)
    (hst : checkStats leaf defs vals h.stats = .ok ()) :
    decodeDataPage leaf dict h (repB ++ (defB ++ valB)) = .ok (assemble leaf.maxDef reps defs vals) := by
  unfold decodeDataPage
  simp only [guard_ok_iff, bind_ok_iff, pure_ok_iff]
  exact ⟨by simp [hde, hre, legalEncoding], by simp [hde, hre], _, hr, _, hd, _, hv, _, hst, rfl⟩

/-! ### pages of a chunk -/

/-- **The data pages of a column chunk.**  `bs` is `n` data pages back to back (each a page header followed by
`compressed_page_size` bytes), of type DATA_PAGE, with a value encoding the chunk's metadata list; read in order they
hold the entries `es`, and their headers and `uncompressed_page_size`s add up to `u` (the pages' share of
`ColumnMetaData.total_uncompressed_size`).  `cons`: the raw-page stage reads one page off the front and stops where the
next begins, and the page-body stage decodes its body. -/
inductive DataPages (cfg : Config) (codec : Nat) (leaf : LeafInfo) (encodings : List Int) (dict : Option (List Bytes)) :
    Bytes → List Entry → Nat → Nat → Prop
  | nil : DataPages cfg codec leaf encodings dict [] [] 0 0
  | cons {pb bs : Bytes} {es es' : List Entry} {u' n : Nat} {p : RawPage} {dh : DataHdr} :
      pb ≠ [] → readRawPage cfg codec (pb ++ bs) = .ok p → p.hdr.type = 0 → p.rest = bs → p.hdr.data = some dh →
      encodings.contains dh.encoding = true → decodeDataPage leaf dict dh p.page = .ok es →
      DataPages cfg codec leaf encodings dict bs es' u' n →
      DataPages cfg codec leaf encodings dict (pb ++ bs) (es ++ es') (RawPage.usize p + u') (n + 1)

variable {cfg : Config} {codec : Nat} {leaf : LeafInfo} {encodings : List Int} {dict : Option (List Bytes)}

theorem DataPages.count_le {bs : Bytes} {es : List Entry} {u n : Nat} (h : DataPages cfg codec leaf encodings dict bs es u n) :
    n ≤ bs.length := by
  induction h with
  | nil => exact Nat.le_refl _
  | cons hne _ _ _ _ _ _ _ ih =>
    have := List.length_pos_iff.mpr hne
    simp only [List.length_append]; omega

/-- **page chaining**: one unit of fuel per page takes the reader through the chain, and its sum of page headers
and uncompressed page sizes is the chain's -/
theorem DataPages.read {bs : Bytes} {es : List Entry} {u n : Nat} (h : DataPages cfg codec leaf encodings dict bs es u n) :
    ∀ fuel, n < fuel → readDataPages cfg codec leaf encodings dict fuel bs = .ok es ∧ chunkUsize fuel bs = some u := by
  induction h with
  | nil =>
    intro fuel hf
    obtain ⟨f, rfl⟩ := Nat.exists_eq_succ_of_ne_zero (by omega : fuel ≠ 0)
    simp [readDataPages, chunkUsize]
  | @cons pb bs es es' u' n p dh hne hraw hty hrest hdh henc hdec _ ih =>
    intro fuel hf
    obtain ⟨f, rfl⟩ := Nat.exists_eq_succ_of_ne_zero (by omega : fuel ≠ 0)
    obtain ⟨i1, i2⟩ := ih f (by omega)
    have hne' : pb ++ bs ≠ [] := by simp [hne]
    refine ⟨?_, ?_⟩
    · unfold readDataPages
      rw [if_neg hne', hraw]
      simp only [hty, hdh, henc, hdec, hrest, i1, Bool.not_true, Bool.false_eq_true, if_false, if_true]
    · rw [chunkUsize_of_raw cfg codec _ p f hne' hraw, hrest, i2]; rfl

/-- a chain that is not empty begins with a data page; an empty one holds nothing -/
theorem DataPages.first {bs : Bytes} {es : List Entry} {u n : Nat} (h : DataPages cfg codec leaf encodings dict bs es u n) :
    (bs = [] → es = []) ∧ (bs ≠ [] → ∃ p, readRawPage cfg codec bs = .ok p ∧ p.hdr.type = 0) := by
  cases h with
  | nil => exact ⟨fun _ => rfl, fun h => absurd rfl h⟩
  | cons hne hraw hty _ _ _ _ _ => exact ⟨fun h => absurd h (by simp [hne]), fun _ => ⟨_, hraw, hty⟩⟩

/-! ### one column chunk -/

/-- the checks `readChunk` makes on the entries of the whole chunk -/
theorem readChunk_tail {m : ColumnMeta} {es : List Entry} (hnum : m.numValues = es.length)
    (hfirst : ∀ e t, es = e :: t → e.rep = 0) :
    (if es.length ≠ m.numValues then Except.error Reason.chunkValueCountMismatch
     else match es with
       | e :: _ => if e.rep ≠ 0 then Except.error Reason.firstRepetitionNonZero else Except.ok es
       | [] => Except.ok es) = .ok es := by
  rw [if_neg (by simp [hnum])]
  cases es with
  | nil => rfl
  | cons e t => simp [hfirst e t rfl]

/-- what `readChunk` checks of the chunk as a whole: the listed encodings are legal tags, `num_values` is the number of
entries, and a chunk begins with a new row -/
structure MetaFits (m : ColumnMeta) (es : List Entry) : Prop where
  legal : m.encodings.all legalEncoding = true
  count : m.numValues = es.length
  firstRep : ∀ e t, es = e :: t → e.rep = 0

/-- **a chunk without dictionary page**: the chain of its data pages, under metadata true of them -/
theorem readChunk_of_pages {m : ColumnMeta} {bs : Bytes} {es : List Entry} {u n : Nat} (start : Nat)
    (h : DataPages cfg m.codec leaf m.encodings none bs es u n) (hm : MetaFits m es) (hdict : m.dictionaryPageOffset = none) :
    readChunk cfg leaf m start bs = .ok es ∧ chunkUsize (bs.length + 1) bs = some u := by
  obtain ⟨hall, husize⟩ := h.read (bs.length + 1) (by have := h.count_le; omega)
  refine ⟨?_, husize⟩
  unfold readChunk
  simp only [hm.legal, Bool.not_true, Bool.false_eq_true, if_false, bind, Except.bind, pure, Except.pure]
  by_cases hnil : bs = []
  · have := h.first.1 hnil
    subst this
    simp [hnil, hm.count]
  · obtain ⟨p, hraw, hty⟩ := h.first.2 hnil
    simp only [hnil, if_false, hraw, hty, hdict, Option.isSome_none, Bool.false_eq_true, hall]
    exact readChunk_tail hm.count hm.firstRep

/-- **a chunk that begins with a dictionary page** `db` -/
theorem readChunk_of_dict {m : ColumnMeta} {db bs : Bytes} {es : List Entry} {u n : Nat} {start : Nat} {p : RawPage}
    {kh : DictHdr} {d : List Bytes}
    (hraw : readRawPage cfg m.codec (db ++ bs) = .ok p) (hty : p.hdr.type = 2) (hrest : p.rest = bs) (hne : db ≠ [])
    (hkh : p.hdr.dict = some kh) (hdec : decodeDictPage leaf kh p.page = .ok d)
    (hoff : m.dictionaryPageOffset.isSome = true → m.dataPageOffset = start + p.size)
    (h : DataPages cfg m.codec leaf m.encodings (some d) bs es u n) (hm : MetaFits m es) :
    readChunk cfg leaf m start (db ++ bs) = .ok es ∧
    chunkUsize ((db ++ bs).length + 1) (db ++ bs) = some (RawPage.usize p + u) := by
  have hpos := List.length_pos_iff.mpr hne
  obtain ⟨hall, _⟩ := h.read (bs.length + 1) (by have := h.count_le; omega)
  obtain ⟨_, husize⟩ := h.read (db ++ bs).length (by have := h.count_le; simp only [List.length_append]; omega)
  have hne' : db ++ bs ≠ [] := by simp [hne]
  refine ⟨?_, ?_⟩
  · have hoffc : (m.dictionaryPageOffset.isSome && decide (start + p.size ≠ m.dataPageOffset)) = false := by
      cases hs : m.dictionaryPageOffset.isSome with
      | false => rfl
      | true => simp [hoff hs]
    unfold readChunk
    simp only [hm.legal, Bool.not_true, Bool.false_eq_true, if_false, bind, Except.bind, pure, Except.pure, hne', hraw, hty,
      if_true, hkh, hoffc, hdec, hrest, hall]
    exact readChunk_tail hm.count hm.firstRep
  · rw [chunkUsize_of_raw cfg _ _ p _ hne' hraw, hrest, husize]; rfl

/-! ### the chunks of a row group, the row groups of a file -/

/-- **The column chunks of a row group.**  `data`, which starts at file offset `pos`, is the chunks of the columns
`leaves` one after the other, each behind a gap (bytes no metadata names; none under strict tiling), at the offsets and
with the sizes the `ColumnMetaData` `ms` state (`dictionary_page_offset` / `data_page_offset`,
`total_compressed_size`, `total_uncompressed_size`, `type`, `path_in_schema`); the chunk stage reads them to `ess`. -/
inductive ChunksIn (cfg : Config) : Nat → Bytes → List LeafInfo → List ColumnMeta → List Chunk → Prop
  | nil (pos : Nat) : ChunksIn cfg pos [] [] [] []
  | cons {pos : Nat} {gap cb data : Bytes} {leaf : LeafInfo} {ls : List LeafInfo} {m : ColumnMeta} {ms : List ColumnMeta}
      {es : Chunk} {ess : List Chunk} :
      m.ptype = ptypeCode leaf.ptype → m.path = leaf.path.map strBytes → chunkStart m = pos + gap.length →
      (cfg.strictTiling = true → gap = []) → m.totalCompressed = cb.length →
      readChunk cfg leaf m (chunkStart m) cb = .ok es ∧ chunkUsize (cb.length + 1) cb = some m.totalUncompressed →
      ChunksIn cfg (pos + gap.length + cb.length) data ls ms ess →
      ChunksIn cfg pos (gap ++ cb ++ data) (leaf :: ls) (m :: ms) (es :: ess)

theorem ChunksIn.read {pos : Nat} {data : Bytes} {ls : List LeafInfo} {ms : List ColumnMeta} {ess : List Chunk}
    (h : ChunksIn cfg pos data ls ms ess) :
    ∀ (pre post : Bytes) (footerStart p : Nat), pre.length = pos → 4 ≤ pos → pos + data.length ≤ footerStart →
      (cfg.strictTiling = true → p = pos) →
      ∃ q, readChunks cfg (pre ++ data ++ post) footerStart ls ms p = .ok (ess, q) ∧
        (cfg.strictTiling = true → q = pos + data.length) := by
  induction h with
  | nil pos => exact fun _ _ _ p _ _ _ hp => ⟨p, rfl, fun hs => by simp [hp hs]⟩
  | @cons pos gap cb data leaf ls m ms es ess hpt hpath hstart hgap hsize hchunk _ ih =>
    intro pre post fs p hpre h4 hfs hp
    simp only [List.length_append] at hfs
    obtain ⟨q, hq, hqs⟩ := ih (pre ++ gap ++ cb) post fs (pos + gap.length + cb.length)
      (by simp [hpre]; omega) (by omega) (by omega) (fun _ => rfl)
    have hfile : pre ++ (gap ++ cb ++ data) ++ post = (pre ++ gap) ++ cb ++ (data ++ post) := by simp [List.append_assoc]
    have hslice : ((pre ++ (gap ++ cb ++ data) ++ post).drop (chunkStart m)).take m.totalCompressed = cb := by
      rw [hfile]; exact drop_take_middle _ _ _ _ _ (by simp [hpre, hstart]) hsize
    refine ⟨q, ?_, fun hs => by rw [hqs hs]; simp only [List.length_append]; omega⟩
    rw [readChunks]
    simp only [guard_ok_iff, bind_ok_iff, pure_ok_iff, hslice]
    have hfile2 : pre ++ (gap ++ cb ++ data) ++ post = pre ++ gap ++ cb ++ data ++ post := by simp [List.append_assoc]
    refine ⟨by simp [hpt], by simp [hpath], by omega, ?_, ?_, es, hchunk.1, by simp [hsize, hchunk.2], (ess, q), ?_, rfl⟩
    · cases hs : cfg.strictTiling <;> simp
      rw [hstart, hgap hs, hp hs]; simp
    · cases hs : cfg.strictTiling <;> simp
      rw [hstart, hgap hs, hp hs]; simp
    · rw [hstart, hsize, hfile2]; exact hq

/-- **The row groups of a file.**  `data`, which starts at file offset `pos`, is the row groups `gms` name, one after the
other; every column of a row group holds `num_rows` rows and `total_byte_size` is the sum of its chunks'
`total_uncompressed_size`; the row-group stage reads them to `groups`. -/
inductive GroupsIn (cfg : Config) (leaves : List LeafInfo) : Nat → Bytes → List RowGroupMeta → List RowGroup → Prop
  | nil (pos : Nat) : GroupsIn cfg leaves pos [] [] []
  | cons {pos : Nat} {gb data : Bytes} {g : RowGroupMeta} {gs : List RowGroupMeta} {chunks : List Chunk} {rest : List RowGroup} :
      ChunksIn cfg pos gb leaves g.columns chunks →
      (List.zipWith (fun (l : LeafInfo) c => rowsOf l.maxRep c == g.numRows) leaves chunks).all id = true →
      (g.columns.map (·.totalUncompressed)).sum = g.totalByteSize →
      GroupsIn cfg leaves (pos + gb.length) data gs rest →
      GroupsIn cfg leaves pos (gb ++ data) (g :: gs) (⟨chunks⟩ :: rest)

theorem GroupsIn.read {leaves : List LeafInfo} {pos : Nat} {data : Bytes} {gms : List RowGroupMeta} {groups : List RowGroup}
    (h : GroupsIn cfg leaves pos data gms groups) :
    ∀ (pre post : Bytes) (footerStart p : Nat), pre.length = pos → 4 ≤ pos → pos + data.length ≤ footerStart →
      (cfg.strictTiling = true → p = pos) →
      ∃ q, readRowGroups cfg (pre ++ data ++ post) footerStart leaves gms p = .ok (groups, q) ∧
        (cfg.strictTiling = true → q = pos + data.length) := by
  induction h with
  | nil pos => exact fun _ _ _ p _ _ _ hp => ⟨p, rfl, fun hs => by simp [hp hs]⟩
  | @cons pos gb data g gs chunks rest hchunks hrows hsize _ ih =>
    intro pre post fs p hpre h4 hfs hp
    simp only [List.length_append] at hfs
    obtain ⟨q1, hq1, hs1⟩ := hchunks.read pre (data ++ post) fs p hpre h4 (by omega) hp
    obtain ⟨q2, hq2, hs2⟩ := ih (pre ++ gb) post fs q1 (by simp [hpre]) (by omega) (by omega) hs1
    refine ⟨q2, ?_, fun hs => by rw [hs2 hs]; simp only [List.length_append]; omega⟩
    have hf1 : pre ++ (gb ++ data) ++ post = pre ++ gb ++ (data ++ post) := by simp [List.append_assoc]
    have hf2 : pre ++ (gb ++ data) ++ post = pre ++ gb ++ data ++ post := by simp [List.append_assoc]
    rw [readRowGroups]
    simp only [guard_ok_iff, bind_ok_iff, pure_ok_iff]
    exact ⟨(chunks, q1), hf1 ▸ hq1, by simp [hrows], by simp [hsize], (rest, q2), hf2 ▸ hq2, rfl⟩

/-- **The whole file**: `PAR1`, row groups the reader reads, a footer that names them and whose schema gives their
columns, the footer's length, `PAR1`. -/
theorem read_of {data footer : Bytes} {fm : FileMeta} {root : Schema.Node} {leaves : List LeafInfo} {groups : List RowGroup}
    (hg : GroupsIn cfg leaves 4 data fm.rowGroups groups) (hlen : footer.length < 2 ^ 32)
    (hfooter : parseFooter footer = .ok fm) (hschema : schemaOf fm.schema = .ok root) (hcols : columnsOf root = .ok leaves)
    (hrows : (fm.rowGroups.map (·.numRows)).sum = fm.numRows) :
    readWith cfg (fileOfParts data footer) = .ok ⟨root, groups⟩ := by
  obtain ⟨q, hq, hqs⟩ := hg.read magic (footer ++ File.leBytes 4 footer.length ++ magic) (4 + data.length) 4 rfl
    (Nat.le_refl _) (Nat.le_refl _) (fun _ => rfl)
  have hfile : magic ++ data ++ (footer ++ File.leBytes 4 footer.length ++ magic) = fileOfParts data footer := by
    simp [fileOfParts, List.append_assoc]
  rw [hfile] at hq
  unfold readWith
  simp only [guard_ok_iff, bind_ok_iff, pure_ok_iff]
  exact ⟨_, splitFile_fileOfParts data footer hlen, fm, hfooter, root, hschema, leaves, hcols, (groups, q), hq,
    by simpa using hqs, by simp [hrows], rfl⟩

end Carquet.Proofs.SpecFile
