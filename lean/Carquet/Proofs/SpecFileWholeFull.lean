import Carquet.Proofs.SpecFileChunkFull
import Carquet.Proofs.SpecFileFooterFull
/-
Whole-file layer for ADMISSIBLE layouts (`layoutAdm`): dictionary pages and dictionary-encoded data
pages, every compression plan, unknown Thrift fields at every level, chunk statistics, page split,
run plans, header forms, CRCs, page statistics, gaps, row groups, nesting, physical types, version,
created_by.  `writeChunks` and `writeGroups` lay out what the reader's `ChunksIn` and `GroupsIn` describe
(`readChunks_written`, `readRowGroups_written`, with the footer's description `CcDesc`, `RgDesc2` of each), and
`read_write_adm` puts the envelope and the footer around them (`writeFull_inv`, `read_of`).  Every pair of the oracle
table comes from a compression plan of the layout (`writeFull_oracle`).  At the end: what the single decidable hypothesis `selfConsistencyHyp` says, as the hypotheses of
the whole-file theorems (`selfConsistencyHyp_parts`).
-/
namespace Carquet.Proofs.SpecFile
open Carquet.Spec Carquet.Spec.File Carquet.Spec.Thrift Carquet.Spec.ParquetThrift

structure ChunkAdm (cl : ChunkLayout) : Prop where
  codecTag : cl.codecTag.getD cl.codec = cl.codec
  pages : ∀ pl ∈ cl.pages, PageAdm pl
  dict : ∀ d, cl.dict = some d → DictAdm d
  metaExtra : extrasOk columnMetaData cl.metaExtra = true
  chunkExtra : extrasOk columnChunk cl.chunkExtra = true

theorem chunkAdm_iff {cl : ChunkLayout} (h : chunkAdm cl = true) : ChunkAdm cl := by
  unfold chunkAdm at h
  simp only [Bool.and_eq_true, beq_iff_eq, List.all_eq_true] at h
  obtain ⟨⟨⟨⟨h1, h2⟩, h3⟩, h4⟩, h5⟩ := h
  refine ⟨h1, fun pl hpl => pageAdm_iff (h2 pl hpl), ?_, h4, h5⟩
  intro d hd
  rw [hd] at h3
  exact dictAdm_iff h3

/-- what the footer says about a chunk the reference writer placed at `pos` -/
def chunkDesc (leaf : LeafInfo) (cl : ChunkLayout) (es : Chunk) (pos : Nat) (dp pages : Written) : CcDesc :=
  ⟨pos + cl.gapBefore.length,
   ⟨ptypeCode leaf.ptype, usedEncodings cl, leaf.path.map strBytes, cl.codec, es.length,
    dp.usize + pages.usize, dp.bytes.length + pages.bytes.length,
    (match cl.dict with
     | some d => if d.offsetPresent then pos + cl.gapBefore.length + dp.bytes.length else pos + cl.gapBefore.length
     | none => pos + cl.gapBefore.length),
    (match cl.dict with
     | some d => if d.offsetPresent then some (pos + cl.gapBefore.length) else none
     | none => none)⟩,
   if cl.chunkStats then
     some (statsFieldsOf ⟨none, none, some ((es.filter (fun e => e.val.isNone)).length : Int),
                          maxOf leaf.ptype (es.filterMap (·.val)), minOf leaf.ptype (es.filterMap (·.val))⟩)
   else none,
   cl.metaExtra, cl.chunkExtra⟩

theorem writeChunk_adm {leaf : LeafInfo} {cl : ChunkLayout} {es : Chunk} {pos : Nat} {c : ChunkOut}
    (hp : ChunkAdm cl) (hw : writeChunk leaf cl es pos = some c) :
    ∃ dp pages,
      (match cl.dict with
       | none => some (⟨[], [], 0⟩ : Written)
       | some d => writeDictPage leaf d) = some dp ∧
      writeDataPages leaf (cl.dict.map (·.values)) cl.pages es = some pages ∧
      wellFormedChunk leaf es = true ∧
      (∀ pl ∈ cl.pages, pl.comp.codec = cl.codec) ∧
      (∀ d, cl.dict = some d → d.comp.codec = cl.codec ∧ ∀ v ∈ d.values, validValue leaf v = true) ∧
      c.bytes = cl.gapBefore ++ dp.bytes ++ pages.bytes ∧
      c.cmeta = .struct (chunkDesc leaf cl es pos dp pages).fields ∧
      c.oracle = dp.oracle ++ pages.oracle ∧
      c.endPos = pos + cl.gapBefore.length + dp.bytes.length + pages.bytes.length ∧
      c.usize = dp.usize + pages.usize := by
  unfold writeChunk at hw
  simp only [Option.ite_none_left_eq_some] at hw
  obtain ⟨hcond, hw⟩ := hw
  simp only [Bool.or_eq_true, Bool.not_eq_eq_eq_not, Bool.not_true, not_or, Bool.not_eq_false] at hcond
  obtain ⟨⟨hwf, hcodecs⟩, hdictc⟩ := hcond
  rw [hp.codecTag] at hw
  -- the dictionary page (none for a chunk without dictionary) and the data pages were both written
  split at hw
  · rename_i dp pages hdp hpg
    cases hw
    refine ⟨dp, pages, hdp, hpg, hwf, fun pl hpl => by simpa using List.all_eq_true.mp hcodecs pl hpl, ?_, rfl, ?_, rfl, rfl, rfl⟩
    · intro d hd
      rw [hd] at hdictc
      simpa [List.all_eq_true] using hdictc
    · simp only [chunkDesc, statsTV, withExtras_nil]
      cases cl.chunkStats <;> rfl
  · cases hw

theorem chunkDesc_ok (leaf : LeafInfo) (cl : ChunkLayout) (es : Chunk) (pos : Nat) (dp pages : Written) (hp : ChunkAdm cl) :
    (chunkDesc leaf cl es pos dp pages).Ok := ⟨hp.metaExtra, hp.chunkExtra⟩

theorem chunkStart_chunkDesc (leaf : LeafInfo) (cl : ChunkLayout) (es : Chunk) (pos : Nat) (dp pages : Written) :
    chunkStart (chunkDesc leaf cl es pos dp pages).m = pos + cl.gapBefore.length := by
  unfold chunkStart chunkDesc
  cases cl.dict with
  | none => rfl
  | some d =>
    dsimp only
    cases d.offsetPresent <;> rfl

theorem legal_usedEncodings (cl : ChunkLayout) (hp : ChunkAdm cl) : (usedEncodings cl).all legalEncoding = true := by
  unfold usedEncodings
  rw [List.all_eq_true]
  intro x hx
  have hx' := List.mem_eraseDups.mp hx
  simp only [List.mem_append, List.mem_map] at hx'
  rcases hx' with (hd | ⟨p, hp', rfl⟩) | ⟨p, hp', rfl⟩
  · cases hdict : cl.dict with
    | none => rw [hdict] at hd; cases hd
    | some d =>
      rw [hdict] at hd
      simp only [List.mem_singleton] at hd
      rcases (hp.dict d hdict).encoding with h | h <;> rw [hd, h] <;> rfl
  · have := (hp.pages p hp').values
    cases hv : p.values with
    | plain => rfl
    | other t q => rw [hv] at this; cases this
    | dict tag w runs =>
      rw [hv] at this
      simp only [valuesOk, Bool.or_eq_true, beq_iff_eq] at this
      rcases this with rfl | rfl <;> rfl
  · rw [(hp.pages p hp').kind]; rfl

theorem contains_usedEncodings (cl : ChunkLayout) : ∀ pl ∈ cl.pages, (usedEncodings cl).contains (valueEncTag pl.values) = true := by
  intro pl hpl
  unfold usedEncodings
  rw [List.contains_eq_any_beq, List.any_eq_true]
  refine ⟨valueEncTag pl.values, ?_, by simp⟩
  apply List.mem_eraseDups.mpr
  simp only [List.mem_append, List.mem_map]
  exact Or.inl (Or.inr ⟨pl, hpl, rfl⟩)

/-- the hypotheses under which the chunk stage reads back what `writeChunk` laid out -/
structure ChunkOk (cfg : Config) (leaf : LeafInfo) (cl : ChunkLayout) (es : Chunk) (dp pages : Written) : Prop where
  adm : ChunkAdm cl
  dictPage : (match cl.dict with
              | none => some (⟨[], [], 0⟩ : Written)
              | some d => writeDictPage leaf d) = some dp
  dataPages : writeDataPages leaf (cl.dict.map (·.values)) cl.pages es = some pages
  entries : wellFormedChunk leaf es = true
  codecs : ∀ pl ∈ cl.pages, pl.comp.codec = cl.codec
  dictOk : ∀ d, cl.dict = some d → d.comp.codec = cl.codec ∧ ∀ v ∈ d.values, validValue leaf v = true
  bytesLen : dp.bytes.length + pages.bytes.length < 2 ^ 31
  usize : dp.usize + pages.usize < 2 ^ 31
  count : es.length < 2 ^ 31
  oracle : ∀ e ∈ dp.oracle ++ pages.oracle, oracleLookup cfg.oracle e.1 = some e.2

theorem readChunk_of_writeChunk {cfg : Config} {leaf : LeafInfo} {cl : ChunkLayout} {es : Chunk} {dp pages : Written}
    (h : ChunkOk cfg leaf cl es dp pages) (pos : Nat) :
    readChunk cfg leaf (chunkDesc leaf cl es pos dp pages).m (pos + cl.gapBefore.length) (dp.bytes ++ pages.bytes) = .ok es ∧
    chunkUsize ((dp.bytes ++ pages.bytes).length + 1) (dp.bytes ++ pages.bytes) = some (dp.usize + pages.usize) := by
  obtain ⟨hp, hdp, hpages, hwf, hcodecs, hdictc, hlen, hus, hes, ho⟩ := h
  obtain ⟨hwfe, hfirst⟩ := wellFormedChunk_iff hwf
  have hm : MetaFits (chunkDesc leaf cl es pos dp pages).m es := ⟨legal_usedEncodings cl hp, rfl, hfirst⟩
  have hcont := contains_usedEncodings cl
  have hpl : ∀ pl ∈ cl.pages, PageAdm pl ∧ pl.comp.codec = cl.codec := fun pl hpl => ⟨hp.pages pl hpl, hcodecs pl hpl⟩
  cases hdict : cl.dict with
  | none =>
    rw [hdict] at hdp hpages
    cases hdp
    simp only [Option.map_none, List.length_nil, Nat.zero_add, List.nil_append] at hpages hlen hus ho ⊢
    exact readChunk_written_nodict cfg leaf cl.pages es pages _ _
      ⟨hpl, hpages, hwfe, hlen, hus, hes, Or.inr (fun d h => by cases h), ho⟩ hcont hm (by simp only [chunkDesc, hdict])
  | some d =>
    rw [hdict] at hdp hpages
    obtain ⟨hdc, hvalid⟩ := hdictc d hdict
    refine readChunk_written_dict cfg leaf d cl.pages es dp pages _ _ (hp.dict d hdict) hdc hdp hvalid hpl hpages hwfe hlen hus
      hes hcont hm ?_ ho
    simp only [chunkDesc, hdict]
    cases d.offsetPresent <;> simp

/-! ### chunks of a row group, row groups of a file -/

theorem writeChunks_induct {motive : List LeafInfo → List ChunkLayout → List Chunk → Nat → GroupOut → Prop}
    (nil : ∀ pos, motive [] [] [] pos ⟨[], [], [], pos, 0⟩)
    (cons : ∀ leaf ls cl cls es ess pos c g', writeChunk leaf cl es pos = some c → writeChunks ls cls ess c.endPos = some g' →
      motive ls cls ess c.endPos g' →
      motive (leaf :: ls) (cl :: cls) (es :: ess) pos
        ⟨c.bytes ++ g'.bytes, c.cmeta :: g'.metas, c.oracle ++ g'.oracle, g'.endPos, c.usize + g'.usize⟩) :
    ∀ ls cls ess pos g, writeChunks ls cls ess pos = some g → motive ls cls ess pos g
  | [], [], [], pos, g, hw => by
    simp only [writeChunks, Option.some.injEq] at hw
    exact hw ▸ nil pos
  | leaf :: ls, cl :: cls, es :: ess, pos, g, hw => by
    simp only [writeChunks] at hw
    cases hc : writeChunk leaf cl es pos with
    | none => simp [hc] at hw
    | some c =>
      cases hr : writeChunks ls cls ess c.endPos with
      | none => simp [hc, hr] at hw
      | some g' =>
        simp only [hc, hr, Option.some.injEq] at hw
        exact hw ▸ cons _ _ _ _ _ _ _ c g' hc hr (writeChunks_induct nil cons ls cls ess c.endPos g' hr)
  | [], _ :: _, _, _, _, hw => by simp [writeChunks] at hw
  | [], [], _ :: _, _, _, hw => by simp [writeChunks] at hw
  | _ :: _, [], _, _, _, hw => by simp [writeChunks] at hw
  | _ :: _, _ :: _, [], _, _, hw => by simp [writeChunks] at hw

theorem writeGroups_induct {leaves : List LeafInfo} {extra : Fields}
    {motive : List (List ChunkLayout) → List RowGroup → Nat → GroupOut → Prop}
    (nil : ∀ pos, motive [] [] pos ⟨[], [], [], pos, 0⟩)
    (cons : ∀ cls r g gs pos o rest,
      (List.zipWith (fun (l : LeafInfo) c => rowsOf l.maxRep c == groupRows leaves g) leaves g.chunks).all id = true →
      writeChunks leaves cls g.chunks pos = some o → writeGroups leaves extra r gs o.endPos = some rest →
      motive r gs o.endPos rest →
      motive (cls :: r) (g :: gs) pos
        ⟨o.bytes ++ rest.bytes, rowGroupTV o.metas o.usize (groupRows leaves g) extra :: rest.metas,
         o.oracle ++ rest.oracle, rest.endPos, o.usize + rest.usize⟩) :
    ∀ lay groups pos G, writeGroups leaves extra lay groups pos = some G → motive lay groups pos G
  | [], [], pos, G, hw => by
    simp only [writeGroups, Option.some.injEq] at hw
    exact hw ▸ nil pos
  | cls :: r, g :: gs, pos, G, hw => by
    simp only [writeGroups] at hw
    split at hw
    · cases hw
    · rename_i hrows
      cases ho : writeChunks leaves cls g.chunks pos with
      | none => simp [ho] at hw
      | some o =>
        cases hr : writeGroups leaves extra r gs o.endPos with
        | none => simp [ho, hr] at hw
        | some rest =>
          simp only [ho, hr, Option.some.injEq] at hw
          exact hw ▸ cons _ _ _ _ _ o rest (by simpa using hrows) ho hr (writeGroups_induct nil cons r gs o.endPos rest hr)
  | [], _ :: _, _, _, hw => by simp [writeGroups] at hw
  | _ :: _, [], _, _, hw => by simp [writeGroups] at hw

theorem readChunks_written (cfg : Config) (hcfg : cfg.strictTiling = false) :
    ∀ (leaves : List LeafInfo) (cls : List ChunkLayout) (ess : List Chunk) (pos : Nat) (g : GroupOut),
      writeChunks leaves cls ess pos = some g → (∀ cl ∈ cls, ChunkAdm cl) → g.bytes.length < 2 ^ 31 →
      (∀ es ∈ ess, es.length < 2 ^ 31) →
      (∀ mv ∈ g.metas, chunkUsizeOk mv = true) →
      (∀ e ∈ g.oracle, oracleLookup cfg.oracle e.1 = some e.2) →
      ∃ ds : List CcDesc, g.metas = ds.map (fun d => TVal.struct d.fields) ∧ (∀ d ∈ ds, d.Ok) ∧
        g.endPos = pos + g.bytes.length ∧
        g.usize = (ds.map (·.m.totalUncompressed)).sum ∧
        ChunksIn cfg pos g.bytes leaves (ds.map (·.m)) ess := by
  refine writeChunks_induct ?_ ?_
  · intro pos _ _ _ _ _
    exact ⟨[], rfl, (fun d hd => by cases hd), (by simp), rfl, .nil pos⟩
  · intro leaf ls cl cls es ess pos c g' hc hr ih hpl hlen hsmall husz ho
    simp only at husz ho hlen
    have hcl := hpl cl (by simp)
    obtain ⟨dp, pages, hdp, hpages, hwf, hcodecs, hdictc, hbytes, hmeta, horacle, hend, hcus⟩ := writeChunk_adm hcl hc
    simp only [hbytes, List.length_append] at hlen
    obtain ⟨ds', hds', hok', hend', hus', hread'⟩ := ih
      (fun x hx => hpl x (by simp [hx])) (by omega) (fun x hx => hsmall x (by simp [hx]))
      (fun x hx => husz x (by simp [hx])) (fun e he => ho e (by simp [he]))
    have hdok := chunkDesc_ok leaf cl es pos dp pages hcl
    have hus : dp.usize + pages.usize < 2 ^ 31 := chunkUsizeOk_desc _ hdok (by rw [← hmeta]; exact husz _ (by simp))
    refine ⟨chunkDesc leaf cl es pos dp pages :: ds', by simp [hmeta, hds'], ?_, ?_, ?_, ?_⟩
    · intro d hd
      rcases List.mem_cons.mp hd with rfl | hd'
      · exact hdok
      · exact hok' d hd'
    · simp only [List.length_append, hend', hend, hbytes]; omega
    · simp only [List.map_cons, List.sum_cons, hcus, hus']; rfl
    · have hstart := chunkStart_chunkDesc leaf cl es pos dp pages
      have hchunk := readChunk_of_writeChunk (cfg := cfg)
        ⟨hcl, hdp, hpages, hwf, hcodecs, hdictc, by omega, hus, hsmall es (by simp),
          fun e he => ho e (by rw [horacle]; simp only [List.mem_append] at he ⊢; exact Or.inl he)⟩ pos
      rw [← hstart] at hchunk
      rw [hbytes, List.append_assoc cl.gapBefore]
      exact .cons rfl rfl hstart (fun h => by rw [hcfg] at h; cases h) (by simp [chunkDesc]) hchunk
        (by rw [hend, Nat.add_assoc _ dp.bytes.length, ← List.length_append] at hread'; exact hread')

theorem readRowGroups_written (cfg : Config) (hcfg : cfg.strictTiling = false) (leaves : List LeafInfo) (extra : Fields)
    (hx : extrasOk rowGroup extra = true) :
    ∀ (lay : List (List ChunkLayout)) (groups : List RowGroup) (pos : Nat) (G : GroupOut),
      writeGroups leaves extra lay groups pos = some G → (∀ g ∈ lay, ∀ cl ∈ g, ChunkAdm cl) → G.bytes.length < 2 ^ 31 →
      (∀ g ∈ groups, ∀ es ∈ g.chunks, es.length < 2 ^ 31) →
      (∀ rg ∈ G.metas, rgUsizeOk rg = true) →
      (∀ e ∈ G.oracle, oracleLookup cfg.oracle e.1 = some e.2) →
      ∃ ds : List RgDesc2, G.metas = ds.map (fun d => TVal.struct d.fields) ∧ (∀ d ∈ ds, d.Ok) ∧
        ds.map (·.numRows) = groups.map (groupRows leaves) ∧
        GroupsIn cfg leaves pos G.bytes (ds.map RgDesc2.meta') groups := by
  refine writeGroups_induct ?_ ?_
  · intro pos _ _ _ _ _
    exact ⟨[], rfl, (fun d hd => by cases hd), rfl, .nil pos⟩
  · intro cls r g gs pos o rest hrows hwc hr ih hpl hlen hsmall husz ho
    simp only [List.length_append] at husz ho hlen
    have husz0 := rgUsizeOk_withExtras o.metas o.usize (groupRows leaves g) extra hx (husz _ (by simp))
    obtain ⟨ms, hms, hmok, hend, hous, hread⟩ := readChunks_written cfg hcfg leaves cls g.chunks pos o hwc (hpl cls (by simp))
      (by omega) (hsmall g (by simp)) husz0 (fun e he => ho e (by simp [he]))
    obtain ⟨ds', hds', hok', hnr', hread'⟩ := ih
      (fun x hx => hpl x (by simp [hx])) (by omega) (fun x hx => hsmall x (by simp [hx]))
      (fun x hx => husz x (by simp [hx])) (fun e he => ho e (by simp [he]))
    refine ⟨⟨ms, o.usize, groupRows leaves g, extra⟩ :: ds', by simp only [List.map_cons, hds', hms]; rfl, ?_, by simp [hnr'], ?_⟩
    · intro d hd
      rcases List.mem_cons.mp hd with rfl | hd'
      · exact ⟨hx, hmok⟩
      · exact hok' d hd'
    · exact .cons hread hrows (by simp only [RgDesc2.meta', List.map_map, hous]; rfl) (hend ▸ hread')

/-! ### a schema the writer accepts has no empty group -/

mutual
theorem groupsNonEmpty_of_leafInfosOf : ∀ (n : Schema.Node) (d r : Nat) (path : List String) (ls : List LeafInfo),
    leafInfosOf n d r path = .ok ls → Schema.groupsNonEmpty n = true
  | .leaf i, _, _, _, _, _ => by simp [Schema.groupsNonEmpty]
  | .group i cs, d, r, path, ls, h => by
    simp only [leafInfosOf] at h
    split at h
    · cases h
    · split at h
      · cases h
      · split at h
        · cases h
        · rename_i hne
          have := groupsNonEmptyList_of_leafInfosOfList cs _ _ _ ls h
          simp only [Schema.groupsNonEmpty, this, Bool.and_true]
          simpa using hne
theorem groupsNonEmptyList_of_leafInfosOfList : ∀ (cs : List Schema.Node) (d r : Nat) (path : List String) (ls : List LeafInfo),
    leafInfosOfList cs d r path = .ok ls → Schema.groupsNonEmptyList cs = true
  | [], _, _, _, _, _ => by simp [Schema.groupsNonEmptyList]
  | c :: cs, d, r, path, ls, h => by
    simp only [leafInfosOfList] at h
    cases h1 : leafInfosOf c d r path with
    | error e => simp [h1] at h
    | ok a =>
      cases h2 : leafInfosOfList cs d r path with
      | error e => simp [h1, h2] at h
      | ok b =>
        simp only [Schema.groupsNonEmptyList, groupsNonEmpty_of_leafInfosOf c d r path a h1,
          groupsNonEmptyList_of_leafInfosOfList cs d r path b h2, Bool.and_true]
end

theorem groupsNonEmpty_of_columnsOf (root : Schema.Node) (ls : List LeafInfo) (h : columnsOf root = .ok ls) :
    Schema.groupsNonEmpty root = true := by
  cases root with
  | leaf i => simp [columnsOf] at h
  | group i cs =>
    simp only [columnsOf] at h
    split at h
    · cases h
    · split at h
      · cases h
      · rename_i hne
        have := groupsNonEmptyList_of_leafInfosOfList cs _ _ _ ls h
        simp only [Schema.groupsNonEmpty, this, Bool.and_true]
        simpa using hne

structure LayoutAdm (l : Layout) : Prop where
  chunks : ∀ g ∈ l.rowGroups, ∀ cl ∈ g, ChunkAdm cl
  footerExtra : extrasOk fileMetaData l.footerExtra = true
  schemaExtra : extrasOk schemaElement l.schemaExtra = true
  rowGroupExtra : extrasOk rowGroup l.rowGroupExtra = true

theorem layoutAdm_iff {l : Layout} (h : layoutAdm l = true) : LayoutAdm l := by
  unfold layoutAdm at h
  simp only [Bool.and_eq_true, List.all_eq_true] at h
  obtain ⟨⟨⟨h1, h2⟩, h3⟩, h4⟩ := h
  exact ⟨fun g hg cl hcl => chunkAdm_iff (h1 g hg cl hcl), h2, h3, h4⟩

/-- the footer value `writeFull` encodes (mirrors its definition) -/
def footerValue (t : Table) (l : Layout) : Option TVal :=
  match columnsOf t.schema with
  | .error _ => none
  | .ok leaves =>
    match writeGroups leaves l.rowGroupExtra l.rowGroups t.rowGroups 4 with
    | none => none
    | some g =>
      some (fileMetaTV l.version ((Schema.flatten t.schema).map (fun e => schemaElementTV e l.schemaExtra))
        ((t.rowGroups.map (groupRows leaves)).sum) g.metas l.createdBy l.footerExtra)

/-- what `writeFull` made: the columns of the schema, the row groups as `writeGroups` laid them out, the footer value,
the envelope around both, and the row groups' oracle table -/
theorem writeFull_inv {t : Table} {l : Layout} {file : Bytes} {oracle : Oracle} (hw : writeFull t l = some (file, oracle)) :
    ∃ leaves G v, columnsOf t.schema = .ok leaves ∧
      writeGroups leaves l.rowGroupExtra l.rowGroups t.rowGroups 4 = some G ∧ footerValue t l = some v ∧
      v = fileMetaTV l.version ((Schema.flatten t.schema).map (fun e => schemaElementTV e l.schemaExtra))
        ((t.rowGroups.map (groupRows leaves)).sum) G.metas l.createdBy l.footerExtra ∧
      file = fileOfParts G.bytes (encodeValF l.form v) ∧ oracle = G.oracle := by
  unfold writeFull at hw
  unfold footerValue
  cases hcols : columnsOf t.schema with
  | error e => simp [hcols] at hw
  | ok leaves =>
    simp only [hcols] at hw ⊢
    cases hg : writeGroups leaves l.rowGroupExtra l.rowGroups t.rowGroups 4 with
    | none => simp [hg] at hw
    | some G =>
      simp only [hg, Option.some.injEq, Prod.mk.injEq] at hw
      exact ⟨leaves, G, _, rfl, hg, rfl, rfl, by rw [← hw.1]; simp [fileOfParts, List.append_assoc], hw.2.symm⟩

/-- **whole file, every admissible layout**: what the reference writer writes, the independent reader
reads back — given any oracle table `o` in which every GZIP / ZSTD body the writer stored is found with
its contents (the writer's own table, or one filled by a real decompressor). -/
theorem read_write_adm (t : Table) (l : Layout) (file : Bytes) (oracle : Oracle)
    (hl : LayoutAdm l) (hw : writeFull t l = some (file, oracle))
    (hwf : ∀ v, footerValue t l = some v → v.wf = true ∧ footerUsizeOk v = true)
    (hlen : file.length < 2 ^ 31)
    (hsmall : ∀ g ∈ t.rowGroups, ∀ es ∈ g.chunks, es.length < 2 ^ 31)
    (o : Oracle) (ho : ∀ e ∈ oracle, oracleLookup o e.1 = some e.2) :
    File.read file (oracle := o) = .ok t := by
  obtain ⟨leaves, G, v, hcols, hg, hv, rfl, rfl, rfl⟩ := writeFull_inv hw
  obtain ⟨hwfv, husv⟩ := hwf _ hv
  have hne := groupsNonEmpty_of_columnsOf t.schema leaves hcols
  obtain ⟨schema, groups⟩ := t
  simp only at hcols hg hv hwfv husv hlen hne hsmall ⊢
  -- the root is a group
  cases schema with
  | leaf i => simp [columnsOf] at hcols
  | group i cs =>
    have hflen := fileOfParts_length G.bytes (encodeValF l.form (fileMetaTV l.version
      ((Schema.flatten (.group i cs)).map (fun e => schemaElementTV e l.schemaExtra))
      ((groups.map (groupRows leaves)).sum) G.metas l.createdBy l.footerExtra))
    obtain ⟨ds, hds, hdok, hnr, hread⟩ := readRowGroups_written ⟨false, o⟩ rfl leaves l.rowGroupExtra
      hl.rowGroupExtra l.rowGroups groups 4 G hg hl.chunks (by omega) hsmall
      (footerUsizeOk_withExtras _ _ _ _ _ _ hl.footerExtra husv) ho
    -- the footer
    have hfooterTV : fileMetaTV l.version ((Schema.flatten (.group i cs)).map (fun e => schemaElementTV e l.schemaExtra))
        ((groups.map (groupRows leaves)).sum) G.metas l.createdBy l.footerExtra =
        .struct (fmFields2 l.version (Schema.flatten (.group i cs)) l.schemaExtra ((groups.map (groupRows leaves)).sum) ds
          l.createdBy l.footerExtra) := by
      rw [hds]
      rfl
    rw [hfooterTV] at hwfv hflen hlen ⊢
    refine read_of (fm := ⟨l.version, Schema.flatten (.group i cs), (groups.map (groupRows leaves)).sum,
        ds.map RgDesc2.meta'⟩) hread (by omega) ?_ (schemaOf_flatten i cs hne) hcols ?_
    · unfold parseFooter
      rw [decodeStruct_encodeValF l.form _ hwfv]
      exact fileMetaOf_fmFields2 _ _ _ _ _ _ _ hl.footerExtra hl.schemaExtra hdok
    · rw [← hnr, List.map_map]; rfl

/-! ### the oracle table: every pair comes from a compression plan of the layout -/

/-- the compression plans of a chunk satisfy `Q` -/
def PlansIn (Q : CompPlan → Prop) (cl : ChunkLayout) : Prop :=
  (∀ pl ∈ cl.pages, Q pl.comp) ∧ ∀ d, cl.dict = some d → Q d.comp

/-- what holds of every pair a plan with `Q` emits for a body it accepts holds of the whole table -/
structure FromPlans (Q : CompPlan → Prop) (P : Bytes × Bytes → Prop) : Prop where
  entry : ∀ plan body comp, Q plan → planOk plan = true → compressWith plan body = some comp →
    ∀ e ∈ oracleEntry plan comp body, P e

variable {Q : CompPlan → Prop} {P : Bytes × Bytes → Prop}

theorem writeDataPages_oracle (hQP : FromPlans Q P) (leaf : LeafInfo) (dict : Option (List Bytes)) :
    ∀ (pls : List PageLayout) (es : List Entry) (w : Written), (∀ pl ∈ pls, PageAdm pl ∧ Q pl.comp) →
      writeDataPages leaf dict pls es = some w → ∀ e ∈ w.oracle, P e
  | [], es, w, _, hw => by
    rw [(writeDataPages_nil hw).2]
    intro e he; cases he
  | pl :: r, es, w, hpl, hw => by
    obtain ⟨a, b, h1, h2, rfl⟩ := writeDataPages_cons hw
    have ih := writeDataPages_oracle hQP leaf dict r (es.drop pl.count) b (fun p hp => hpl p (by simp [hp])) h2
    obtain ⟨hadm, hq⟩ := hpl pl (by simp)
    obtain ⟨repB, defB, valB, comp, _, _, _, hc, _, horacle, _⟩ := writeDataPage_adm hadm h1
    intro e he
    rcases List.mem_append.mp he with he | he
    · exact hQP.entry pl.comp _ comp hq hadm.comp hc e (horacle ▸ he)
    · exact ih e he

theorem writeChunk_oracle (hQP : FromPlans Q P) {leaf : LeafInfo} {cl : ChunkLayout} {es : Chunk} {pos : Nat} {c : ChunkOut}
    (hp : ChunkAdm cl) (hq : PlansIn Q cl) (hw : writeChunk leaf cl es pos = some c) : ∀ e ∈ c.oracle, P e := by
  obtain ⟨dp, pages, hdp, hpages, _, _, _, _, _, horacle, _⟩ := writeChunk_adm hp hw
  have hpv := writeDataPages_oracle hQP leaf _ cl.pages es pages (fun pl h => ⟨hp.pages pl h, hq.1 pl h⟩) hpages
  intro e he
  rw [horacle] at he
  rcases List.mem_append.mp he with he | he
  · cases hdict : cl.dict with
    | none =>
      rw [hdict] at hdp
      cases hdp
      cases he
    | some d =>
      rw [hdict] at hdp
      obtain ⟨comp, hc, _, hor, _⟩ := writeDictPage_adm (hp.dict d hdict) hdp
      exact hQP.entry d.comp _ comp (hq.2 d hdict) (hp.dict d hdict).comp hc e (hor ▸ he)
  · exact hpv e he

theorem writeChunks_oracle (hQP : FromPlans Q P) : ∀ (leaves : List LeafInfo) (cls : List ChunkLayout) (ess : List Chunk)
    (pos : Nat) (g : GroupOut), writeChunks leaves cls ess pos = some g → (∀ cl ∈ cls, ChunkAdm cl ∧ PlansIn Q cl) →
    ∀ e ∈ g.oracle, P e := by
  refine writeChunks_induct (fun _ _ e he => by cases he) ?_
  intro leaf ls cl cls es ess pos c g' hc _ ih hpl e he
  rcases List.mem_append.mp he with he | he
  · exact writeChunk_oracle hQP (hpl cl (by simp)).1 (hpl cl (by simp)).2 hc e he
  · exact ih (fun x hx => hpl x (by simp [hx])) e he

theorem writeGroups_oracle (hQP : FromPlans Q P) (leaves : List LeafInfo) (extra : Fields) :
    ∀ (lay : List (List ChunkLayout)) (groups : List RowGroup) (pos : Nat) (G : GroupOut),
      writeGroups leaves extra lay groups pos = some G → (∀ g ∈ lay, ∀ cl ∈ g, ChunkAdm cl ∧ PlansIn Q cl) →
      ∀ e ∈ G.oracle, P e := by
  refine writeGroups_induct (fun _ _ e he => by cases he) ?_
  intro cls r g gs pos o rest _ hwc _ ih hpl e he
  rcases List.mem_append.mp he with he | he
  · exact writeChunks_oracle hQP leaves cls g.chunks pos o hwc (hpl cls (by simp)) e he
  · exact ih (fun x hx => hpl x (by simp [hx])) e he

/-- **every pair of the oracle table of a written file comes from a plan of the layout** -/
theorem writeFull_oracle (hQP : FromPlans Q P) (t : Table) (l : Layout) (file : Bytes) (oracle : Oracle)
    (hl : LayoutAdm l) (hq : ∀ g ∈ l.rowGroups, ∀ cl ∈ g, PlansIn Q cl) (hw : writeFull t l = some (file, oracle)) :
    ∀ e ∈ oracle, P e := by
  obtain ⟨leaves, G, -, -, hg, -, -, -, rfl⟩ := writeFull_inv hw
  exact writeGroups_oracle hQP leaves _ _ _ 4 G hg (fun g hg' cl hcl => ⟨hl.chunks g hg' cl hcl, hq g hg' cl hcl⟩)

/-- a table without pairs, when every plan emits none -/
theorem writeFull_oracle_nil (t : Table) (l : Layout) (file : Bytes) (oracle : Oracle) (hl : LayoutAdm l)
    (hQ : ∀ plan, Q plan → ∀ comp body, oracleEntry plan comp body = [])
    (hq : ∀ g ∈ l.rowGroups, ∀ cl ∈ g, PlansIn Q cl) (hw : writeFull t l = some (file, oracle)) : oracle = [] :=
  List.eq_nil_iff_forall_not_mem.mpr (fun e he =>
    writeFull_oracle (P := fun _ => False) ⟨fun plan body comp hq _ _ e he => by rw [hQ plan hq] at he; cases he⟩
      t l file oracle hl hq hw e he)

/-! ### the decidable hypothesis `selfConsistencyHyp` as the hypotheses of the whole-file theorems -/

theorem writeFull_eq {t : Table} {l : Layout} (h : Admissible t l) :
    writeFull t l = some (write t l, writeOracle t l) := by
  unfold Admissible at h
  unfold write writeOracle
  cases hw : writeFull t l with
  | none => rw [hw] at h; cases h
  | some p => rfl

theorem selfConsistencyHyp_parts {t : Table} {l : Layout} (h : selfConsistencyHyp t l = true) :
    writeFull t l = some (write t l, writeOracle t l) ∧ layoutAdm l = true ∧
    (∀ v, footerTV t l = some v → v.wf = true ∧ footerUsizeOk v = true) ∧ (write t l).length < 2 ^ 31 ∧
    (∀ g ∈ t.rowGroups, ∀ es ∈ g.chunks, es.length < 2 ^ 31) := by
  unfold selfConsistencyHyp at h
  simp only [Bool.and_eq_true, decide_eq_true_eq, List.all_eq_true] at h
  obtain ⟨⟨⟨⟨h1, h2⟩, h3⟩, h4⟩, h5⟩ := h
  refine ⟨writeFull_eq h1, h2, ?_, h4, h5⟩
  intro v hv
  rw [hv] at h3
  simpa using h3


end Carquet.Proofs.SpecFile
