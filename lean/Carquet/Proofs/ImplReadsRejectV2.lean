import Carquet.Proofs.ImplReadsReject
import Carquet.Proofs.ImplReadsHeader
/-
C06, negative half, from the reference writer's side: a DATA_PAGE_V2 page as `writeDataPage` lays it out
(`PageKind.v2`: page type 3, member struct 8) has a header that carquet's parser accepts in every Thrift
form, with unknown fields, and reads as type 3 — so `load_next_page` answers NOT_IMPLEMENTED at that page.
-/
namespace Carquet.Proofs.ImplReads
open Carquet.Spec Carquet.Spec.File Carquet.Spec.Thrift Carquet.Spec.ParquetThrift
open Carquet.Impl
open Carquet.Impl.Reader hiding Bytes
open Carquet.Impl.ThriftParquet Carquet.Impl.ThriftParquetReq
open Carquet.Proofs.Thrift Carquet.Proofs.ReaderHeaderReads

theorem tblDataPageV2_sub : ((tblDataPageV2 27).map (·.1)).all (fun k => (dataPageHeaderV2.find k).isSome) = true := by
  decide

/-- the header value of a v2 data page of the reference writer -/
def v2PageHdrTV (pl : PageLayout) (usize csize : Nat) (crc : Option Int) (n nulls rows : Int) (dlen rlen : Nat) : TVal :=
  pageHdrTV 3 usize csize crc 8
    (.struct (withExtras
      [(1, .i32 n), (2, .i32 nulls), (3, .i32 rows), (4, .i32 (valueEncTag pl.values)),
       (5, .i32 dlen), (6, .i32 rlen), (7, .bool (pl.comp.codec != 0))] pl.memberExtra))
    pl.hdrExtra

theorem v2Member_ok (pl : PageLayout) (n nulls rows : Int) (dlen rlen : Nat)
    (hmx : extrasOk dataPageHeaderV2 pl.memberExtra = true) (hmd : extrasDepth 28 pl.memberExtra = true) :
    okFields (tblDataPageV2 27) 28 (withExtras
      [(1, .i32 n), (2, .i32 nulls), (3, .i32 rows), (4, .i32 (valueEncTag pl.values)),
       (5, .i32 dlen), (6, .i32 rlen), (7, .bool (pl.comp.codec != 0))] pl.memberExtra) := by
  apply okFields_withExtras _ _ _ _ ?_ (lookupT_none_of_extrasOk _ _ _ tblDataPageV2_sub hmx) hmd
  simp only [okFields_cons]
  exact ⟨⟨_, rfl⟩, ⟨_, rfl⟩, ⟨_, rfl⟩, ⟨_, rfl⟩, ⟨_, rfl⟩, ⟨_, rfl⟩, ⟨_, rfl⟩, okFields_nil _ _⟩

/-- **a v2 page header is read as type 3**, in any header form, with unknown fields, with anything behind it -/
theorem parse_v2PageHdr (pl : PageLayout) (usize csize : Nat) (crc : Option Int) (n nulls rows : Int) (dlen rlen : Nat)
    (hhx : extrasOk pageHeader pl.hdrExtra = true) (hhd : extrasDepth 29 pl.hdrExtra = true)
    (hmx : extrasOk dataPageHeaderV2 pl.memberExtra = true) (hmd : extrasDepth 28 pl.memberExtra = true)
    (hwf : (v2PageHdrTV pl usize csize crc n nulls rows dlen rlen).wf = true) :
    ∃ hdr : ThriftParquetReq.PageHdr, hdr.type = 3 ∧ hdr.compressed = (csize : Int) ∧ hdr.uncompressed = (usize : Int) ∧
      ∀ rest : File.Bytes,
        parsePageHeaderC (encodeValF pl.form (v2PageHdrTV pl usize csize crc n nulls rows dlen rlen) ++ rest) =
          .ok (hdr, (encodeValF pl.form (v2PageHdrTV pl usize csize crc n nulls rows dlen rlen)).length) := by
  unfold v2PageHdrTV at hwf ⊢
  exact ⟨_, rfl, rfl, rfl, parse_pageHdrTV pl.form 3 usize csize crc 8 _ pl.hdrExtra
    (show okT (tblPageHdrC 27) 29 8 _ from ⟨_, rfl, v2Member_ok pl n nulls rows dlen rlen hmx hmd⟩) hhx hhd hwf⟩

/-- **a DATA_PAGE_V2 page of the reference writer is refused**: at the offset the (settled) column reader points
at, in the mapped modes (and in fread mode when the header is found by the window), `load_next_page` returns
NOT_IMPLEMENTED -/
theorem loadPage_v2_layout (L : Libs) (verify : Bool) (mode : Mode) (pre post body : File.Bytes) (c : Col) (st : PState)
    (pl : PageLayout) (usize : Nat) (crc : Option Int) (n nulls rows : Int) (dlen rlen : Nat)
    (hhx : extrasOk pageHeader pl.hdrExtra = true) (hhd : extrasDepth 29 pl.hdrExtra = true)
    (hmx : extrasOk dataPageHeaderV2 pl.memberExtra = true) (hmd : extrasDepth 28 pl.memberExtra = true)
    (hwf : (v2PageHdrTV pl usize body.length crc n nulls rows dlen rlen).wf = true)
    (hwin : mode = .fread → WindowOk (encodeValF pl.form (v2PageHdrTV pl usize body.length crc n nulls rows dlen rlen)))
    (hsettled : c.cm.dictionaryPageOffset = none ∨ st.dict.isSome = true)
    (hoff : st.dataStart + st.currentPage = (pre.length : Int)) (hpost : 8 ≤ post.length) :
    (loadPage Fixes.all L verify mode
        (pre ++ (encodeValF pl.form (v2PageHdrTV pl usize body.length crc n nulls rows dlen rlen) ++ body) ++ post) c st).result =
      .error .notImplemented := by
  obtain ⟨hdr, h3, hc, hu, hany⟩ := parse_v2PageHdr pl usize body.length crc n nulls rows dlen rlen hhx hhd hmx hmd hwf
  exact loadPage_v2 L verify mode pre post c
    ⟨encodeValF pl.form (v2PageHdrTV pl usize body.length crc n nulls rows dlen rlen), body, hdr⟩ st
    ⟨hany, hc, by rw [hu]; omega, hwin⟩ h3 hsettled hoff hpost

/-- what `writeDataPage` lays out for a `PageKind.v2` page: a v2 header followed by levels ++ (compressed) values -/
theorem writeDataPage_v2 {leaf : LeafInfo} {dict : Option (List File.Bytes)} {pl : PageLayout} {es : List Entry} {a : Written}
    (hk : pl.kind = .v2) (hw : writeDataPage leaf dict pl es = some a) :
    ∃ (usize : Nat) (crc : Option Int) (n nulls rows : Int) (dlen rlen : Nat) (body : File.Bytes),
      a.bytes = encodeValF pl.form (v2PageHdrTV pl usize body.length crc n nulls rows dlen rlen) ++ body := by
  unfold writeDataPage at hw
  rw [hk] at hw
  cases hr : levelBytes leaf.maxRep pl.repRuns (es.map (·.rep)) with
  | none => simp [hr] at hw
  | some repB =>
    cases hd : (levelBytes leaf.maxDef pl.defRuns (es.map (·.dl))).map (cutTail pl.damage.defCut) with
    | none => simp [hr, hd] at hw
    | some defB =>
      cases hv : (valueBytes leaf dict pl.values (es.filterMap (·.val))).map (damageValues pl.damage) with
      | none => simp [hr, hd, hv] at hw
      | some valB =>
        simp only [hr, hd, hv] at hw
        cases hc : compressWith pl.comp valB with
        | none => simp [hc] at hw
        | some cv =>
          simp only [hc, Option.some.injEq, mkPage] at hw
          refine ⟨repB.length + defB.length + valB.length, (if pl.crc then some (crcField (repB ++ defB ++ cv)) else none),
            es.length, ((es.filter (fun e => e.val.isNone)).length), (rowsOf leaf.maxRep es), defB.length, repB.length,
            repB ++ defB ++ cv, ?_⟩
          rw [← hw]
          simp [v2PageHdrTV, List.length_append, Nat.add_assoc]

end Carquet.Proofs.ImplReads
