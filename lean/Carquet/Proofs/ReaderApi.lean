import Carquet.Impl.ReaderApi
import Carquet.Proofs.ReaderOpen
import Carquet.Proofs.CursorColumn
/-
Helper lemmas for Properties/C03/Api.lean.
-/
namespace Carquet.Proofs.ReaderApi
open Carquet.Impl Carquet.Impl.Reader Carquet.Impl.ReaderApi

/-- a reader opened with `use_mmap` has seen the leading magic (an empty file, which falls through to fread, does not open) -/
theorem openFile_mmap_ok_magic (b : Reader.Bytes) (o : Opened) (h : openFile .mmap b = .ok o) : b.take 4 = magic := by
  unfold openFile openFileA at h
  simp only at h
  split at h
  · have := (Carquet.Proofs.ReaderOpen.openFread_ok b o h).1; omega
  · exact (Carquet.Proofs.ReaderOpen.openMapped_ok b o h).2.1

theorem opened_same (b : Reader.Bytes) (o1 o2 o3 : Opened) (h1 : openFile .fread b = .ok o1)
    (h2 : openFile .mmap b = .ok o2) (h3 : openFile .buffer b = .ok o3) : o1 = o2 ∧ o2 = o3 := by
  have hm := openFile_mmap_ok_magic b o2 h2
  obtain ⟨e1, e2⟩ := Carquet.Proofs.ReaderModes.openFile_modes b hm
  rw [h1, h2] at e1
  rw [h2, h3] at e2
  exact ⟨by cases e1; rfl, by cases e2; rfl⟩

/-! ### can_zero_copy over-approximates the view decision of the page loader -/

theorem canZeroCopy_of_takesView (fx : Fixes) (fix90 : Bool) (mode : Mode) (o : Opened) (rg col : Int) (c : Col)
    (hdr : ThriftParquetReq.PageHdr) (hc : getColumn o rg col = .ok c) (hv : takesView fx mode c hdr = true)
    (hsrc : zeroCopySource fix90 mode = true) : canZeroCopy fix90 mode o rg col = true := by
  obtain ⟨hrg, hcol, g, lf, ch, m, el, hg, hlf, hcg, hch, hm, _, _, rfl⟩ := Carquet.Proofs.ReaderOpen.getColumn_parts o rg col c hc
  obtain ⟨_, hcodec, _, hfw, hd, _⟩ := (Carquet.Proofs.ReaderBounds.takesView_iff fx mode _ hdr).mp hv
  unfold canZeroCopy
  rw [hsrc]
  simp only [Bool.true_eq_false, if_false, if_neg hrg, if_neg hcol, hg, hlf, if_neg hcg, hch]
  unfold chunkZeroCopy
  rw [hm]
  simp only
  have hd : lf.maxDef = 0 := hd
  rw [if_neg (by simpa using hcodec), if_neg (by omega)]
  exact hfw

theorem canZeroCopy_fread (fix90 : Bool) (o : Opened) (rg col : Int) : canZeroCopy fix90 .fread o rg col = false := by
  unfold canZeroCopy zeroCopySource
  cases fix90 <;> simp [Mode.mapped, hasMmapInfo]

theorem canZeroCopy_out_of_range (fix90 : Bool) (mode : Mode) (o : Opened) (rg col : Int)
    (h : rg < 0 ∨ rg ≥ o.md.rowGroups.length ∨ col < 0 ∨ col ≥ o.leaves.length) :
    canZeroCopy fix90 mode o rg col = false := by
  unfold canZeroCopy
  split; · rfl
  split; · rfl
  rename_i hrg
  split; · rfl
  rename_i hcol
  exfalso
  rcases h with h | h | h | h
  · exact hrg (Or.inl h)
  · exact hrg (Or.inr h)
  · exact hcol (Or.inl h)
  · exact hcol (Or.inr h)

/-! ### … and the zero-copy branch of the batch reader -/

open Carquet.Impl.ColumnReader

/-- the ownership flag is only ever set from the chunk's view decision -/
def VI (c : Chunk α) (r : Reader α) : Prop := r.chunk = c ∧ (r.ownershipView = true → c.view = true)

theorem vi_getColumn (c : Chunk α) : VI c (ColumnReader.getColumn c) := ⟨rfl, by simp [ColumnReader.getColumn]⟩

theorem vi_advance (c : Chunk α) (r : Reader α) (h : VI c r) : VI c (advance r) := by
  unfold advance; split
  · exact ⟨h.1, h.2⟩
  · exact h

theorem vi_load (fx : ColumnReader.Fixes) (c : Chunk α) (r r' : Reader α) (h : VI c r) (hl : loadNextPage fx r = .ok r') : VI c r' := by
  unfold loadNextPage at hl
  split at hl
  · split at hl; · cases hl
    split at hl
    · cases hl; exact ⟨h.1, h.2⟩
    · cases hl
      refine ⟨by simp [h.1], ?_⟩
      intro hv
      simp only [Carquet.Proofs.Cursor.installPage_ownershipView] at hv
      rw [h.1] at hv; exact hv
  · cases hl

theorem vi_prepareLoop (fx : ColumnReader.Fixes) (c : Chunk α) : ∀ (fuel : Nat) (r : Reader α), VI c r → VI c (prepareLoop fx fuel r).1
  | 0, r, h => h
  | fuel + 1, r, h => by
    unfold prepareLoop
    split
    · cases hl : loadNextPage fx (advance r) with
      | error e => exact vi_advance c r h
      | ok r' =>
        have h' := vi_load fx c (advance r) r' (vi_advance c r h) hl
        simp only
        split
        · exact vi_prepareLoop fx c fuel r' h'
        · exact h'
    · exact h

theorem vi_readNextPage (fx : ColumnReader.Fixes) (c : Chunk α) (r : Reader α) (k : Int) (h : VI c r) : VI c (readNextPage fx r k).1 := by
  unfold readNextPage preparePage
  have hp := vi_prepareLoop fx c (r.chunk.pages.length + 1) r h
  cases hq : prepareLoop fx (r.chunk.pages.length + 1) r with
  | mk r1 e =>
    rw [hq] at hp
    cases e with
    | some e => exact hp
    | none =>
      simp only
      split
      · exact hp
      · exact ⟨hp.1, hp.2⟩

theorem vi_readLoop (fx : ColumnReader.Fixes) (wd wr : Bool) (k : Nat) (c : Chunk α) :
    ∀ (fuel : Nat) (r : Reader α) (st : LoopSt α), VI c r → VI c (readLoop fx wd wr k fuel r st).1
  | 0, r, st, h => h
  | fuel + 1, r, st, h => by
    unfold readLoop
    split
    · have hn := vi_readNextPage fx c r ((k : Int) - (st.totalRead : Int)) h
      cases hq : readNextPage fx r ((k : Int) - (st.totalRead : Int)) with
      | mk r' res =>
        rw [hq] at hn
        cases res with
        | error e => simp only; split <;> exact hn
        | ok cp =>
          simp only
          split
          · exact hn
          · exact vi_readLoop fx wd wr k c fuel r' _ hn
    · exact h

theorem vi_releaseRetired (fx : ColumnReader.Fixes) (c : Chunk α) (r : Reader α) (h : VI c r) : VI c (releaseRetired fx r) := by
  unfold releaseRetired; split
  · exact ⟨h.1, h.2⟩
  · exact h

theorem vi_readBatch (fx : ColumnReader.Fixes) (c : Chunk α) (r : Reader α) (k : Int) (wd wr : Bool) (h : VI c r) :
    VI c (readBatch fx r k wd wr).1 := by
  have hr := vi_releaseRetired fx c r h
  unfold readBatch
  split; · exact hr
  split
  · split
    · exact vi_readNextPage fx c _ 0 hr
    · exact hr
  · split
    · exact hr
    · exact vi_readLoop fx wd wr _ c _ _ _ hr

end Carquet.Proofs.ReaderApi
