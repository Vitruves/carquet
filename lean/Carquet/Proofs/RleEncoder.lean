import Carquet.Proofs.RleGrammar
/-
The (repaired) encoder of Impl/Rle.lean emits a stream of the Spec grammar.

The group buffer is a queue: values enter at the back, complete runs leave at the front into `out`.  Every step
below `put` and `flush` is such a move (`Emits`), and moves compose; `flush` with a run pending is `flush_bitpack`
after the end of the run (`flush_pos`).  The invariant between calls (`Inv w e D`): the bytes emitted so far are
complete runs denoting `xs`, and `xs ++ e.buf ++ replicate e.rep e.prev` is `D`, the values put so far with the
padding of every flush.
-/
namespace Carquet.Proofs.RleEncoder
open Carquet.Impl Carquet.Impl.Rle Carquet.Spec Carquet.Spec.RleHybrid
open Carquet.Proofs.NatBits Carquet.Proofs.BitpackImpl Carquet.Proofs.BitPackSpec Carquet.Proofs.RleGrammar

/-- what the group buffer of a state between two steps looks like -/
structure Good (w : Nat) (e : Enc) : Prop where
  width : e.width = w
  total : e.total = e.buf.length
  lt8 : e.buf.length < 8
  bufLt : ∀ v ∈ e.buf, v < 2 ^ w

/-- The group buffer is a queue.  From `e` to `e'` the values `add` entered it at the back and complete runs
left it at the front; `prev_value` and `has_prev` are untouched.  Every step of the encoder below `put` and
`flush` is such a move, and moves compose (`trans`). -/
structure Emits (w : Nat) (e e' : Enc) (add : List Nat) : Prop where
  good : Good w e'
  prev : e'.prev = e.prev
  hasPrev : e'.hasPrev = e.hasPrev
  runs : ∃ G vs, e'.out = e.out ++ G ∧ Runs w G vs ∧ vs ++ e'.buf = e.buf ++ add

theorem Emits.refl {w : Nat} {e : Enc} (h : Good w e) : Emits w e e [] :=
  ⟨h, rfl, rfl, [], [], (List.append_nil _).symm, Runs.nil, (List.append_nil _).symm⟩

theorem Emits.trans {w : Nat} {e e1 e2 : Enc} {a1 a2 : List Nat} (h1 : Emits w e e1 a1) (h2 : Emits w e1 e2 a2) :
    Emits w e e2 (a1 ++ a2) := by
  obtain ⟨G1, v1, o1, r1, q1⟩ := h1.runs
  obtain ⟨G2, v2, o2, r2, q2⟩ := h2.runs
  refine ⟨h2.good, h2.prev.trans h1.prev, h2.hasPrev.trans h1.hasPrev, G1 ++ G2, v1 ++ v2, ?_, runs_append r1 r2, ?_⟩
  · rw [o2, o1, List.append_assoc]
  · rw [List.append_assoc, q2, ← List.append_assoc, q1, List.append_assoc]

/-- the values `a` were stored in the buffer before the move -/
theorem Emits.enter {w : Nat} {e e1 e' : Enc} {a add : List Nat} (h : Emits w e1 e' add) (ho : e1.out = e.out)
    (hp : e1.prev = e.prev) (hh : e1.hasPrev = e.hasPrev) (hb : e1.buf = e.buf ++ a) : Emits w e e' (a ++ add) := by
  obtain ⟨G, vs, o, r, q⟩ := h.runs
  exact ⟨h.good, h.prev.trans hp, h.hasPrev.trans hh, G, vs, ho ▸ o, r, by rw [q, hb, List.append_assoc]⟩

/-- `repeat_count` is not the queue's business -/
theorem Emits.setRep {w : Nat} {e e' : Enc} {add : List Nat} (h : Emits w e e' add) (r : Nat) :
    Emits w e { e' with rep := r } add :=
  ⟨⟨h.good.width, h.good.total, h.good.lt8, h.good.bufLt⟩, h.prev, h.hasPrev, h.runs⟩

/-- what the runs written so far denote, carried along a move -/
theorem Emits.den {w : Nat} {e e' : Enc} {add xs : List Nat} (h : Emits w e e' add) (hr : Runs w e.out xs) :
    ∃ xs', Runs w e'.out xs' ∧ xs' ++ e'.buf = xs ++ e.buf ++ add := by
  obtain ⟨G, vs, o, r, q⟩ := h.runs
  exact ⟨xs ++ vs, o ▸ runs_append hr r, by rw [List.append_assoc, q, List.append_assoc]⟩

theorem lt_append_replicate {b x : Nat} {l : List Nat} (hl : ∀ v ∈ l, v < b) (hx : x < b) (n : Nat) :
    ∀ v ∈ l ++ List.replicate n x, v < b := by
  intro v hv
  rcases List.mem_append.mp hv with h | h
  · exact hl v h
  · rw [List.eq_of_mem_replicate h]; exact hx

theorem isHeader_write {h : Nat} (hh : h < 2 ^ 32) : IsHeader (Varint.writeVarint32 h) h := by
  rw [VarintImpl.writeVarint32_eq hh]
  refine ⟨Spec.Varint.decode_encode h, ?_, hh⟩
  exact Spec.Varint.encode_length_le 4 h (Nat.lt_of_lt_of_le hh (by decide))

theorem valueLE_eq (w v : Nat) : valueLE w v = RleHybrid.leBytes (RleHybrid.valueBytes w) v := by
  unfold valueLE
  rw [valueBytes_eq]
  generalize Rle.valueBytes w = n
  induction n generalizing v with
  | zero => rfl
  | succ n ih =>
    rw [List.range_succ_eq_map, List.map_cons, List.map_map, RleHybrid.leBytes, ← ih]
    congr 1
    · simp [ofNat_mod]
    · apply List.map_congr_left
      intro i _
      simp only [Function.comp]
      congr 1
      rw [shr_eq, shr_eq, Nat.div_div_eq_div_mul, show (i + 1) * 8 = 8 + i * 8 by omega, Nat.pow_add]

/-- one group of eight values below `2^w`, as carquet packs it, is a one-group run -/
theorem group_runs {w : Nat} (hw : w ≤ 32) (g8 : List Nat) (hlen : g8.length = 8) (hlt : ∀ v ∈ g8, v < 2 ^ w) :
    Runs w (Varint.writeVarint32 3 ++ (Bitpack.pack8 w g8).take w) g8 := by
  have hpk : Bitpack.pack8 w g8 = BitPack.pack w g8 := impl_pack8_eq_spec hw g8 hlen
  have hl : (BitPack.pack w g8).length = w := by rw [pack_eq, leBytes_length, hlen]; omega
  have htake : (Bitpack.pack8 w g8).take w = BitPack.pack w g8 := by
    rw [hpk]; exact List.take_of_length_le (by omega)
  have hu : BitPack.unpack w (BitPack.pack w g8) (8 * 1) = some g8 := by
    have := unpack_pack w g8 hlt
    rw [hlen] at this; exact this
  have := Runs.packed (Varint.writeVarint32 3) 1 (BitPack.pack w g8) g8 [] []
    (isHeader_write (by decide)) (by rw [hl]; omega) hu Runs.nil
  rw [htake]
  simpa using this

/-- `flush_bitpack`: the buffer leaves as one group, padded with zeros (nothing happens to an empty buffer) -/
theorem flushBitpack_emits {w : Nat} (hw : w ≤ 32) (e : Enc) (hwd : e.width = w) (hle : e.buf.length ≤ 8)
    (htot : e.total = e.buf.length) (hlt : ∀ v ∈ e.buf, v < 2 ^ w) :
    Emits w e (flushBitpack e) (List.replicate ((8 - e.buf.length) % 8) 0) ∧ (flushBitpack e).buf = [] ∧
      (flushBitpack e).rep = e.rep := by
  by_cases h0 : e.buf.length = 0
  · rw [flushBitpack, if_pos h0, h0]
    exact ⟨Emits.refl ⟨hwd, htot, by omega, hlt⟩, List.eq_nil_of_length_eq_zero h0, rfl⟩
  · have hg : (e.total + 7) / 8 = 1 := by omega
    have heq : flushBitpack e = { e with
        out := e.out ++ (Varint.writeVarint32 3 ++
          (Bitpack.pack8 w (e.buf ++ List.replicate (8 - e.buf.length) 0)).take w), buf := [], total := 0 } := by
      unfold flushBitpack
      rw [if_neg h0, hg, hwd, show ((1 <<< 1 ||| 1) % 2 ^ 32) = 3 by decide]
      simp [groupsBytes, List.append_assoc]
    rw [heq, Nat.mod_eq_of_lt (by omega)]
    exact ⟨⟨⟨hwd, rfl, Nat.succ_pos 7, fun _ h => nomatch h⟩, rfl, rfl, _, _, rfl,
      group_runs hw _ (by simp; omega) (lt_append_replicate hlt (Nat.two_pow_pos w) _), List.append_nil _⟩, rfl, rfl⟩

/-- the `while` of `flush_rle` -/
theorem flushRleLoop_spec {w : Nat} : ∀ (f : Nat) (e : Enc), e.width = w → e.prev < 2 ^ w →
    e.rep ≤ f * maxRun →
    ∃ R, flushRleLoop f e = { e with out := e.out ++ R, rep := 0 } ∧
      Runs w R (List.replicate e.rep e.prev) := by
  intro f
  induction f with
  | zero =>
    intro e _ _ h
    have h0 : e.rep = 0 := by omega
    exact ⟨[], by rw [flushRleLoop, List.append_nil, ← h0], by rw [h0]; exact Runs.nil⟩
  | succ f ih =>
    intro e hwd hv h
    simp only [flushRleLoop]
    by_cases h0 : e.rep > 0
    · rw [if_pos h0]
      have hrun : min e.rep maxRun ≤ maxRun := Nat.min_le_right _ _
      have hrun1 : min e.rep maxRun ≤ e.rep := Nat.min_le_left _ _
      obtain ⟨R, hR, hruns⟩ := ih { e with out := e.out ++ rleRunBytes e.width e.prev (min e.rep maxRun), rep := e.rep - min e.rep maxRun } hwd hv (by
            show e.rep - min e.rep maxRun ≤ f * maxRun
            rw [Nat.succ_mul] at h
            rw [Nat.min_comm, sub_min]
            omega)
      refine ⟨rleRunBytes e.width e.prev (min e.rep maxRun) ++ R, ?_, ?_⟩
      · rw [hR]; simp [List.append_assoc]
      · have hh : IsHeader (Varint.writeVarint32 ((min e.rep maxRun <<< 1) % 2 ^ 32)) (2 * min e.rep maxRun) := by
          have hlt : 2 * min e.rep maxRun < 2 ^ 32 := by
            have hm : maxRun = 2147483647 := rfl
            rw [hm] at hrun ⊢; omega
          have e1 : (min e.rep maxRun <<< 1) % 2 ^ 32 = 2 * min e.rep maxRun := by
            rw [shl_eq, Nat.pow_one, Nat.mul_comm, Nat.mod_eq_of_lt hlt]
          rw [e1]; exact isHeader_write hlt
        have := Runs.rle _ (min e.rep maxRun) e.prev R _ hh hv hruns
        unfold rleRunBytes
        rw [hwd, valueLE_eq]
        have hsplit : List.replicate e.rep e.prev =
            List.replicate (min e.rep maxRun) e.prev ++ List.replicate (e.rep - min e.rep maxRun) e.prev := by
          rw [List.replicate_append_replicate]; congr 1; omega
        rw [hsplit]
        exact this
    · rw [if_neg h0]
      have h0' : e.rep = 0 := by omega
      exact ⟨[], by rw [List.append_nil, ← h0'], by rw [h0']; exact Runs.nil⟩

/-- `flush_rle` behind an empty group buffer: the run leaves as RLE runs -/
theorem flushRle_emits {w : Nat} {e : Enc} (hg : Good w e) (hb : e.buf = []) (hv : e.prev < 2 ^ w) :
    Emits w e (flushRle e) (List.replicate e.rep e.prev) ∧ (flushRle e).rep = 0 ∧ (flushRle e).buf = [] := by
  obtain ⟨R, hR, hr⟩ := flushRleLoop_spec (e.rep / maxRun + 1) e hg.width hv (by
    have := Nat.div_add_mod e.rep maxRun
    have := Nat.mod_lt e.rep (show maxRun > 0 by decide)
    rw [Nat.add_mul, Nat.one_mul, Nat.mul_comm]; omega)
  rw [flushRle, hR]
  exact ⟨⟨⟨hg.width, hg.total, hg.lt8, hg.bufLt⟩, rfl, rfl, R, _, rfl, hr,
    by show _ ++ e.buf = _; rw [hb, List.append_nil]; rfl⟩, rfl, hb⟩

theorem push1_emits {w : Nat} (hw : w ≤ 32) {e : Enc} (hg : Good w e) (hv : e.prev < 2 ^ w) :
    Emits w e (push1 e) [e.prev] ∧ (push1 e).rep = e.rep ∧ (push1 e).buf.length = (e.buf.length + 1) % 8 := by
  have hlen : (e.buf ++ [e.prev]).length = e.buf.length + 1 := List.length_append
  have hlt : ∀ v ∈ e.buf ++ [e.prev], v < 2 ^ w := lt_append_replicate hg.bufLt hv 1
  have htot : e.total + 1 = (e.buf ++ [e.prev]).length := by rw [hg.total, hlen]
  unfold push1
  split
  · rename_i h8
    obtain ⟨c, b, r⟩ := flushBitpack_emits hw { e with buf := e.buf ++ [e.prev], total := e.total + 1 } hg.width
      (Nat.le_of_eq h8) htot hlt
    have := c.enter (e := e) rfl rfl rfl rfl
    rw [show (e.buf ++ [e.prev]).length = 8 from h8] at this
    exact ⟨this, r, by rw [b, ← hlen, h8]; rfl⟩
  · rename_i h8
    have h7 : (e.buf ++ [e.prev]).length < 8 := Nat.lt_of_le_of_ne (hlen ▸ hg.lt8) h8
    exact ⟨(Emits.refl (e := { e with buf := e.buf ++ [e.prev], total := e.total + 1 })
      ⟨hg.width, htot, h7, hlt⟩).enter (e := e) (a := [e.prev]) rfl rfl rfl rfl, rfl,
      (hlen ▸ (Nat.mod_eq_of_lt h7).symm : (e.buf ++ [e.prev]).length = (e.buf.length + 1) % 8)⟩

theorem pushRun_emits {w : Nat} (hw : w ≤ 32) : ∀ (n : Nat) {e : Enc}, Good w e → e.prev < 2 ^ w →
    Emits w e (pushRun n e) (List.replicate n e.prev) ∧ (pushRun n e).rep = e.rep ∧
      (pushRun n e).buf.length = (e.buf.length + n) % 8 := by
  intro n
  induction n with
  | zero => intro e hg _; exact ⟨Emits.refl hg, rfl, (Nat.mod_eq_of_lt hg.lt8).symm⟩
  | succ n ih =>
    intro e hg hv
    obtain ⟨c1, r1, b1⟩ := push1_emits hw hg hv
    obtain ⟨c2, r2, b2⟩ := ih c1.good (c1.prev ▸ hv)
    rw [c1.prev] at c2
    exact ⟨c1.trans c2, r2.trans r1, by rw [pushRun, b2, b1, Nat.mod_add_mod, Nat.add_assoc, Nat.add_comm 1]⟩

/-- `complete_bitpack_group` (F1): the pending group is completed with `k` values of the run -/
theorem completeGroup_emits {w : Nat} (hw : w ≤ 32) {e : Enc} (hg : Good w e) (hv : e.prev < 2 ^ w) (h8 : 8 ≤ e.rep) :
    ∃ k, Emits w e (completeGroup e) (List.replicate k e.prev) ∧ (completeGroup e).buf = [] ∧
      k + (completeGroup e).rep = e.rep := by
  have hl8 := hg.lt8
  unfold completeGroup
  split
  · rename_i h0
    exact ⟨0, Emits.refl hg, List.eq_nil_of_length_eq_zero h0, Nat.zero_add _⟩
  · have hlen : (e.buf ++ List.replicate (8 - e.buf.length) e.prev).length = 8 := by
      rw [List.length_append, List.length_replicate]; omega
    obtain ⟨c, b, r⟩ := flushBitpack_emits hw
      { e with buf := e.buf ++ List.replicate (8 - e.buf.length) e.prev, total := e.total + (8 - e.buf.length),
               rep := e.rep - (8 - e.buf.length) }
      hg.width (Nat.le_of_eq hlen) (by show e.total + _ = _; rw [hlen, hg.total]; omega)
      (lt_append_replicate hg.bufLt hv _)
    refine ⟨8 - e.buf.length, ?_, b, by rw [r]; show _ + (e.rep - _) = _; omega⟩
    have := c.enter (e := e) rfl rfl rfl rfl
    rwa [hlen, List.replicate_zero, List.append_nil] at this

/-- the end of a run: it has entered the queue, `repeat_count = 0` -/
theorem endRun_emits {w : Nat} (hw : w ≤ 32) {e : Enc} (hg : Good w e) (hv : e.prev < 2 ^ w) :
    Emits w e (endRun e) (List.replicate e.rep e.prev) ∧ (endRun e).rep = 0 ∧
      (endRun e).buf.length = if 8 ≤ e.rep then 0 else (e.buf.length + e.rep) % 8 := by
  unfold endRun
  by_cases h8 : e.rep ≥ 8
  · obtain ⟨k, c1, b1, r1⟩ := completeGroup_emits hw hg hv h8
    obtain ⟨c2, r2, b2⟩ := flushRle_emits c1.good b1 (c1.prev ▸ hv)
    have := c1.trans c2
    rw [c1.prev, List.replicate_append_replicate, r1] at this
    rw [if_pos h8, if_pos h8, b2]
    exact ⟨this, r2, rfl⟩
  · obtain ⟨c, _, b⟩ := pushRun_emits hw e.rep hg hv
    rw [if_neg h8, if_neg h8]
    exact ⟨c.setRep 0, rfl, b⟩

/-- the invariant of the encoder between calls: `D` is what the calls so far denote — the values put,
in order, with `flushPad` zeros after each flush.  It survives a flush (after which `has_prev` stays set
while `repeat_count = 0`). -/
structure Inv (w : Nat) (e : Enc) (D : List Nat) : Prop where
  good : Good w e
  den : ∃ xs, Runs w e.out xs ∧ xs ++ e.buf ++ List.replicate e.rep e.prev = D
  prevLt : e.hasPrev = true → e.prev < 2 ^ w
  idle : e.rep = 0 → e.buf = []
  noPrev : e.hasPrev = false → e.rep = 0

theorem inv_init (w : Nat) : Inv w (Enc.init w) [] :=
  ⟨⟨rfl, rfl, Nat.succ_pos 7, fun _ h => nomatch h⟩, ⟨[], Runs.nil, rfl⟩, fun h => (by cases h), fun _ => rfl, fun _ => rfl⟩

theorem Inv.prev_lt {w : Nat} {e : Enc} {D : List Nat} (hi : Inv w e D) (h : 0 < e.rep) : e.prev < 2 ^ w :=
  hi.prevLt (by
    cases hp : e.hasPrev with
    | true => rfl
    | false => rw [hi.noPrev hp] at h; cases h)

theorem inv_put {w : Nat} (hw : w ≤ 32) (e : Enc) (D : List Nat) (v : Nat) (hi : Inv w e D)
    (hv : v < 2 ^ w) : Inv w (put e v) (D ++ [v]) := by
  obtain ⟨hg, ⟨xs, hr, hD⟩, hp, hidle, hn⟩ := hi
  have hg' : ∀ p r h, Good w { e with prev := p, rep := r, hasPrev := h } := fun _ _ _ =>
    ⟨hg.width, hg.total, hg.lt8, hg.bufLt⟩
  unfold put
  by_cases h1 : e.hasPrev = false
  · rw [if_pos h1]
    refine ⟨hg' _ _ _, ⟨xs, hr, ?_⟩, fun _ => hv, fun h => (by cases h), fun h => (by cases h)⟩
    rw [← hD, hn h1, hidle (hn h1)]; simp
  · rw [if_neg h1]
    have hpl := hp (by simpa using h1)
    by_cases h2 : v = e.prev
    · rw [if_pos h2]
      refine ⟨hg' _ _ _, ⟨xs, hr, ?_⟩, fun _ => hpl, fun h => (by cases h), fun h => absurd h h1⟩
      rw [← hD, h2, List.append_assoc (xs ++ e.buf), ← List.replicate_succ']
    · rw [if_neg h2]
      obtain ⟨c, _, _⟩ := endRun_emits hw hg hpl
      obtain ⟨xs1, r1, q1⟩ := c.den hr
      exact ⟨⟨c.good.width, c.good.total, c.good.lt8, c.good.bufLt⟩, ⟨xs1, r1, by rw [q1, hD]; rfl⟩, fun _ => hv,
        fun h => (by cases h), fun h => absurd (c.hasPrev ▸ h) h1⟩

theorem flushBitpack_nil (e : Enc) (h : e.buf.length = 0) : flushBitpack e = e := by
  rw [flushBitpack, if_pos h]

/-- a flush with a run pending ends the run and writes the buffer out -/
theorem flush_pos {w : Nat} (hw : w ≤ 32) {e : Enc} (hg : Good w e) (hv : e.prev < 2 ^ w) (hpos : 0 < e.rep) :
    flush e = flushBitpack (endRun e) ∧ flushPad e = (8 - (endRun e).buf.length) % 8 := by
  obtain ⟨_, _, bl⟩ := endRun_emits hw hg hv
  unfold flush flushPad
  by_cases h8 : e.rep ≥ 8
  · rw [if_pos h8] at bl
    rw [if_pos h8, if_neg (fun h => absurd h8 (Nat.not_le.mpr h.2)),
      show flushRle (completeGroup e) = endRun e by rw [endRun, if_pos h8], flushBitpack_nil _ bl, bl]
    exact ⟨rfl, rfl⟩
  · rw [if_neg h8] at bl
    rw [if_neg h8, if_pos hpos, if_pos (show 0 < e.rep ∧ e.rep < 8 from ⟨hpos, Nat.not_le.mp h8⟩),
      show ({ pushRun e.rep e with rep := 0 } : Enc) = endRun e by rw [endRun, if_neg h8], bl]
    refine ⟨?_, rfl⟩
    split
    · rfl
    · rw [flushBitpack_nil _ (by omega)]

/-- **`flush` in any state**: the stream gains exactly `flushPad e` zeros of padding, everything
pending is written out (`repeat_count = 0`), and the invariant survives. -/
theorem inv_flush {w : Nat} (hw : w ≤ 32) (e : Enc) (D : List Nat) (hi : Inv w e D) :
    Inv w (flush e) (D ++ List.replicate (flushPad e) 0) ∧ (flush e).rep = 0 ∧ flushPad e < 8 := by
  by_cases hpos : 0 < e.rep
  · have hpl := hi.prev_lt hpos
    obtain ⟨hf, hp⟩ := flush_pos hw hi.good hpl hpos
    obtain ⟨c1, r1, _⟩ := endRun_emits hw hi.good hpl
    obtain ⟨c2, b2, r2⟩ := flushBitpack_emits hw (endRun e) c1.good.width (Nat.le_of_lt c1.good.lt8) c1.good.total
      c1.good.bufLt
    obtain ⟨xs, hr, hD⟩ := hi.den
    obtain ⟨xs', hr', q⟩ := (c1.trans c2).den hr
    rw [hf, hp]
    refine ⟨⟨c2.good, ⟨xs', hr', ?_⟩, fun h => (c2.prev.trans c1.prev) ▸ hi.prevLt ((c2.hasPrev.trans c1.hasPrev) ▸ h),
      fun _ => b2, fun _ => r2.trans r1⟩, r2.trans r1, Nat.mod_lt _ (by decide)⟩
    rw [b2, List.append_nil] at q ⊢
    rw [r2, r1, List.replicate_zero, List.append_nil, q, ← List.append_assoc, hD]
  · have h0 : e.rep = 0 := Nat.eq_zero_of_not_pos hpos
    have hf : flush e = e := by rw [flush, if_neg (by omega), if_neg hpos]
    have hk : flushPad e = 0 := by rw [flushPad, if_neg (fun h => hpos h.1)]
    rw [hf, hk, List.replicate_zero, List.append_nil]
    exact ⟨hi, h0, by decide⟩

theorem Inv.runs_of_idle {w : Nat} {e : Enc} {D : List Nat} (hi : Inv w e D) (h : e.rep = 0) : Runs w e.out D := by
  obtain ⟨xs, hr, hD⟩ := hi.den
  rw [h, hi.idle h, List.append_nil, List.replicate_zero, List.append_nil] at hD
  exact hD ▸ hr

theorem inv_putRepeat {w : Nat} (hw : w ≤ 32) (v : Nat) (hv : v < 2 ^ w) : ∀ (n : Nat) (e : Enc) (D : List Nat),
    Inv w e D → Inv w (putRepeat e v n) (D ++ List.replicate n v) := by
  intro n
  induction n with
  | zero => intro e D h; rw [List.replicate_zero, List.append_nil]; exact h
  | succ n ih =>
    intro e D h
    have := ih (put e v) (D ++ [v]) (inv_put hw e D v h hv)
    rwa [List.append_assoc, List.singleton_append, ← List.replicate_succ] at this

theorem inv_foldl {w : Nat} (hw : w ≤ 32) (vals : List Nat) : ∀ (e : Enc) (D : List Nat), Inv w e D →
    (∀ v ∈ vals, v < 2 ^ w) → Inv w (vals.foldl put e) (D ++ vals) := by
  induction vals with
  | nil => intro e D h _; rw [List.append_nil]; exact h
  | cons v vs ih =>
    intro e D h hv
    have := ih (put e v) (D ++ [v]) (inv_put hw e D v h (hv v (List.mem_cons_self)))
      (fun x hx => hv x (List.mem_cons_of_mem _ hx))
    rwa [List.append_assoc, List.singleton_append] at this

/-- **The bytes carquet's encoder emits for a sequence form a legal stream of that sequence.** -/
theorem encode_runs {w : Nat} (hw : w ≤ 32) (vals : List Nat) (hv : ∀ v ∈ vals, v < 2 ^ w) :
    ∃ pad, Runs w (encode w vals) (vals ++ pad) ∧ pad.length < 8 ∧ ∀ p ∈ pad, p = 0 := by
  obtain ⟨h1, h2, h3⟩ := inv_flush hw _ _ (inv_foldl hw vals (Enc.init w) [] (inv_init w) hv)
  exact ⟨_, h1.runs_of_idle h2, by rw [List.length_replicate]; exact h3, fun p hp => List.eq_of_mem_replicate hp⟩

end Carquet.Proofs.RleEncoder
