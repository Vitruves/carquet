import Carquet.Proofs.DeltaSafe
import Carquet.Impl.DeltaLength
import Carquet.Impl.DeltaStrings
/-
C08 for the byte-array delta decoders: the pointers / copies they make, kept as data
(`DeltaLength.decodeSlices`, `DeltaStrings.decodeAcc`), stay inside the input, inside the work
buffer and inside the previous value; and these instrumented functions are the decoders
(`decode_eq_decodeSlices`, `decode_eq_decodeAcc`).
-/
namespace Carquet.Impl.Delta

theorem decodeInt32_ok (data : List UInt8) (n : Nat) (vs : List (BitVec 32)) (c : Nat)
    (h : decodeInt32 data n = .ok (vs, c)) : vs.length = n ∧ c ≤ data.length := by
  unfold decodeInt32 at h
  split at h
  · cases h
  · rename_i ws c' hd
    cases h
    simpa using decodeV_ok false data n ws c hd

theorem toNat_lt_of_nonneg32 (x : BitVec 32) (h : 0 ≤ x.toInt) : x.toNat < 2 ^ 31 := by
  rw [BitVec.toInt_eq_toNat_cond] at h
  have := x.isLt
  split at h <;> omega

end Carquet.Impl.Delta

namespace Carquet.Impl.DeltaLength
open Carquet.Impl.Delta

theorem slices_eq_offsets (lens : List Nat) (data : List UInt8) : ∀ c0 : Nat,
    slices lens (data.drop c0) = (sliceOffsets c0 lens).map (fun ol => (data.drop ol.1).take ol.2) := by
  induction lens with
  | nil => intro c0; rfl
  | cons l ls ih =>
    intro c0
    simp only [slices, sliceOffsets, List.map_cons, List.drop_drop]
    rw [ih (c0 + l)]

theorem length_sliceOffsets (lens : List Nat) : ∀ c0, (sliceOffsets c0 lens).length = lens.length := by
  induction lens with
  | nil => intro _; rfl
  | cons l ls ih => intro c0; simp [sliceOffsets, ih]

theorem map_snd_sliceOffsets (lens : List Nat) : ∀ c0, (sliceOffsets c0 lens).map Prod.snd = lens := by
  induction lens with
  | nil => intro _; rfl
  | cons l ls ih => intro c0; simp [sliceOffsets, ih]

theorem sliceOffsets_inside (lens : List Nat) : ∀ c0, ∀ ol ∈ sliceOffsets c0 lens,
    c0 ≤ ol.1 ∧ ol.1 + ol.2 ≤ c0 + lens.sum ∧ ol.2 ∈ lens := by
  induction lens with
  | nil => intro c0 ol h; simp [sliceOffsets] at h
  | cons l ls ih =>
    intro c0 ol h
    simp only [sliceOffsets, List.mem_cons] at h
    rcases h with rfl | h
    · simp only [List.sum_cons, List.mem_cons, true_or, and_true]; omega
    · obtain ⟨h1, h2, h3⟩ := ih (c0 + l) ol h
      simp only [List.sum_cons, List.mem_cons]
      exact ⟨by omega, by omega, Or.inr h3⟩

/-- the instrumented decoder is the decoder: the values are the slices of the input it names -/
theorem decode_eq_decodeSlices (data : List UInt8) (n : Int) :
    decode data n =
      (decodeSlices data n).map (fun r => (r.1.map (fun ol => (data.drop ol.1).take ol.2), r.2)) := by
  unfold decode decodeSlices
  split
  · rfl
  · cases decodeInt32 data n.toNat with
    | error s => rfl
    | ok p =>
      obtain ⟨lengths, consumed⟩ := p
      simp only
      split
      · rfl
      · split
        · rfl
        · simp only [Except.map, slices_eq_offsets]

theorem decodeSlices_safe (data : List UInt8) (n : Int) (sl : List (Nat × Nat)) (c : Nat)
    (h : decodeSlices data n = .ok (sl, c)) :
    0 < n ∧ sl.length = n.toNat ∧ c ≤ data.length ∧
    ∃ c0, c0 ≤ c ∧ sl = sliceOffsets c0 (sl.map Prod.snd) ∧ c = c0 + (sl.map Prod.snd).sum ∧
      ∀ ol ∈ sl, c0 ≤ ol.1 ∧ ol.1 + ol.2 ≤ c ∧ ol.2 < 2 ^ 31 := by
  unfold decodeSlices at h
  split at h
  · cases h
  · rename_i hn
    split at h
    · cases h
    · rename_i lengths consumed hd
      obtain ⟨hl, hc⟩ := decodeInt32_ok data n.toNat lengths consumed hd
      split at h
      · cases h
      · rename_i hneg
        split at h
        · cases h
        · rename_i hfit
          cases h
          refine ⟨by omega, by simp [length_sliceOffsets, hl], by omega, consumed, by omega, ?_, ?_, ?_⟩
          · rw [map_snd_sliceOffsets]
          · rw [map_snd_sliceOffsets]
          · intro ol hol
            obtain ⟨h1, h2, h3⟩ := sliceOffsets_inside _ consumed ol hol
            obtain ⟨x, hx, hxe⟩ := List.mem_map.mp h3
            have : ¬ x.toInt < 0 := fun hlt => hneg (List.any_eq_true.mpr ⟨x, hx, by simpa using hlt⟩)
            exact ⟨h1, h2, hxe ▸ toNat_lt_of_nonneg32 x (by omega)⟩

end Carquet.Impl.DeltaLength

namespace Carquet.Impl.DeltaStrings
open Carquet.Impl.Delta

theorem asInt32_le (n : Nat) : asInt32 n ≤ (n : Int) := by
  unfold asInt32
  rw [BitVec.toInt_eq_toNat_cond, BitVec.toNat_ofNat]
  have : n % 2 ^ 32 ≤ n := Nat.mod_le _ _
  split <;> omega

/-- a prefix length that passes the C test (`prev_string == NULL`, or longer than the previous value as
`int32_t`) is at most the previous length -/
theorem prefix_le_prev {Q : Prop} (L p : Nat) (h : ¬ (0 < p ∧ (Q ∨ asInt32 L < (p : Int)))) : p ≤ L := by
  have := asInt32_le L
  by_cases hp : 0 < p
  · have : ¬ asInt32 L < (p : Int) := fun hh => h ⟨hp, Or.inr hh⟩
    omega
  · omega

theorem reconstructAcc_safe (workSize : Nat) (ps : List Nat) : ∀ (ss : List Nat) (so wo : Nat) (prevLen : Option Nat)
    (accs : List Access), (∀ p ∈ ps, p < 2 ^ 31) → (∀ s ∈ ss, s < 2 ^ 31) → ps.length = ss.length →
    reconstructAcc workSize ps ss so wo prevLen = .ok accs →
    accsSafe workSize so wo (prevLen.getD 0) accs ∧ accs.map (·.suf) = ss ∧ accs.map (·.pre) = ps := by
  induction ps with
  | nil =>
    intro ss so wo prevLen accs _ _ hlen h
    cases ss with
    | nil => simp only [reconstructAcc, Except.ok.injEq] at h; subst h; simp [accsSafe]
    | cons s ss => simp at hlen
  | cons p ps ih =>
    intro ss so wo prevLen accs hp hs hlen h
    cases ss with
    | nil => simp at hlen
    | cons s ss =>
      have hp0 := hp p (by simp)
      have hs0 := hs s (by simp)
      have hmod : (p + s) % 4294967296 = p + s := Nat.mod_eq_of_lt (by omega)
      simp only [reconstructAcc, hmod] at h
      split at h
      · cases h
      · rename_i hw
        split at h
        · cases h
        · rename_i hchk
          cases hr : reconstructAcc workSize ps ss (so + s) (wo + (p + s)) (some (p + s)) with
          | error e => rw [hr] at h; cases h
          | ok as =>
            rw [hr] at h
            simp only [Except.ok.injEq] at h
            subst h
            obtain ⟨i1, i2, i3⟩ := ih ss (so + s) (wo + (p + s)) (some (p + s)) as
              (fun x hx => hp x (by simp [hx])) (fun x hx => hs x (by simp [hx])) (by simpa using hlen) hr
            refine ⟨⟨rfl, rfl, ?_, ?_, ?_⟩, by simp [i2], by simp [i3]⟩
            · exact prefix_le_prev _ p hchk
            · show wo + p + s ≤ workSize
              omega
            · simpa [Nat.add_assoc] using i1

/-- the list model of the loop (`reconstruct`) is the access model followed by `buildValues` -/
theorem reconstruct_eq_build (workSize : Nat) (data : List UInt8) (ps : List Nat) :
    ∀ (ss : List Nat) (so wo : Nat) (prev : Option (List UInt8)),
    (∀ p ∈ ps, p < 2 ^ 31) → (∀ s ∈ ss, s < 2 ^ 31) → ps.length = ss.length →
    so + ss.sum ≤ data.length → (∀ pr, prev = some pr → pr.length < 2 ^ 32) →
    reconstruct workSize ps ss (data.drop so) wo prev =
      (reconstructAcc workSize ps ss so wo (prev.map List.length)).map (buildValues data (prev.getD [])) := by
  induction ps with
  | nil =>
    intro ss so wo prev _ _ hlen _ _
    cases ss with
    | nil => simp [reconstruct, reconstructAcc, Except.map, buildValues]
    | cons s ss => simp at hlen
  | cons p ps ih =>
    intro ss so wo prev hp hs hlen hfit hprev
    cases ss with
    | nil => simp at hlen
    | cons s ss =>
      have hp0 := hp p (by simp)
      have hs0 := hs s (by simp)
      have hmod : (p + s) % 4294967296 = p + s := Nat.mod_eq_of_lt (by omega)
      simp only [List.sum_cons] at hfit
      have hpl : (prev.getD []).length = (prev.map List.length).getD 0 := by cases prev <;> rfl
      have hnone : (prev = none) = (prev.map List.length = none) := by cases prev <;> simp
      simp only [reconstruct, reconstructAcc, hmod, hpl, hnone]
      split
      · rfl
      · split
        · rfl
        · rename_i hchk
          -- the new previous value has exactly `p + s` bytes
          have hple : p ≤ (prev.getD []).length := hpl ▸ prefix_le_prev _ p hchk
          have hvl : ((prev.getD []).take p ++ (data.drop so).take s).length = p + s := by
            simp only [List.length_append, List.length_take, List.length_drop]
            omega
          have := ih ss (so + s) (wo + (p + s)) (some ((prev.getD []).take p ++ (data.drop so).take s))
            (fun x hx => hp x (by simp [hx])) (fun x hx => hs x (by simp [hx])) (by simpa using hlen)
            (by omega) (fun pr h => by cases h; rw [hvl]; omega)
          simp only [Option.map_some, hvl, Option.getD_some] at this
          rw [List.drop_drop, this]
          cases reconstructAcc workSize ps ss (so + s) (wo + (p + s)) (some (p + s)) with
          | error e => rfl
          | ok as => simp [Except.map, buildValues]

theorem accsSafe_forall (workSize : Nat) (accs : List Access) : ∀ (so wo pl : Nat),
    accsSafe workSize so wo pl accs →
    ∀ a ∈ accs, so ≤ a.sufOff ∧ a.sufOff + a.suf ≤ so + (accs.map (·.suf)).sum ∧
      wo ≤ a.workOff ∧ a.workOff + a.pre + a.suf ≤ workSize := by
  induction accs with
  | nil => intro _ _ _ _ a ha; simp at ha
  | cons b bs ih =>
    intro so wo pl h a ha
    obtain ⟨h1, h2, h3, h4, h5⟩ := h
    simp only [List.mem_cons] at ha
    simp only [List.map_cons, List.sum_cons]
    rcases ha with rfl | ha
    · omega
    · obtain ⟨j1, j2, j3, j4⟩ := ih _ _ _ h5 a ha
      omega

/-- the sign check of `carquet_delta_strings_decode` on two lists of equal length -/
theorem nonneg_of_zip_any : ∀ (suffixes prefixes : List (BitVec 32)), suffixes.length = prefixes.length →
    ¬ (List.zip suffixes prefixes).any (fun sp => decide (sp.1.toInt < 0 ∨ sp.2.toInt < 0)) = true →
    (∀ s ∈ suffixes, 0 ≤ s.toInt) ∧ (∀ p ∈ prefixes, 0 ≤ p.toInt)
  | [], [], _, _ => by simp
  | [], _ :: _, hl, _ | _ :: _, [], hl, _ => by simp at hl
  | s :: ss, p :: ps, hl, h => by
    simp only [List.zip_cons_cons, List.any_cons, Bool.or_eq_true, decide_eq_true_eq, not_or, Int.not_lt] at h
    obtain ⟨h1, h2⟩ := nonneg_of_zip_any ss ps (by simpa using hl) h.2
    simp only [List.mem_cons, forall_eq_or_imp]
    exact ⟨⟨h.1.1, h1⟩, h.1.2, h2⟩

theorem map_toNat_lt (l : List (BitVec 32)) (h : ∀ x ∈ l, 0 ≤ x.toInt) :
    ∀ n ∈ l.map (fun x => x.toNat), n < 2 ^ 31 :=
  List.forall_mem_map.mpr fun x hx => toNat_lt_of_nonneg32 x (h x hx)

/-- the instrumented decoder is the decoder -/
theorem decode_eq_decodeAcc (data : List UInt8) (n : Int) (workSize : Nat) :
    decode data n workSize = (decodeAcc data n workSize).map (fun r => (buildValues data [] r.1, r.2)) := by
  unfold decode decodeAcc
  split
  · rfl
  · cases h1 : decodeInt32 data n.toNat with
    | error s => rfl
    | ok p1 =>
      obtain ⟨prefixes, c1⟩ := p1
      simp only
      cases h2 : decodeInt32 (data.drop c1) n.toNat with
      | error s => rfl
      | ok p2 =>
        obtain ⟨suffixes, c2⟩ := p2
        simp only
        obtain ⟨hl1, _⟩ := decodeInt32_ok data n.toNat prefixes c1 h1
        obtain ⟨hl2, _⟩ := decodeInt32_ok (data.drop c1) n.toNat suffixes c2 h2
        split
        · rfl
        · rename_i hneg
          split
          · rfl
          · rename_i hfit
            obtain ⟨hs, hp⟩ := nonneg_of_zip_any suffixes prefixes (by omega) hneg
            have := reconstruct_eq_build workSize data (prefixes.map (fun l => l.toNat))
              (suffixes.map (fun l => l.toNat)) (c1 + c2) 0 none (map_toNat_lt _ hp) (map_toNat_lt _ hs)
              (by simp [hl1, hl2]) (by omega) (by simp)
            simp only [Option.map_none, Option.getD_none] at this
            rw [this]
            cases reconstructAcc workSize (prefixes.map (fun l => l.toNat)) (suffixes.map (fun l => l.toNat))
              (c1 + c2) 0 none with
            | error e => rfl
            | ok as => rfl

theorem decodeAcc_safe (data : List UInt8) (n : Int) (workSize : Nat) (accs : List Access) (c : Nat)
    (h : decodeAcc data n workSize = .ok (accs, c)) :
    0 < n ∧ accs.length = n.toNat ∧ c ≤ data.length ∧
    ∃ c0, accsSafe workSize c0 0 0 accs ∧ c = c0 + (accs.map (·.suf)).sum ∧
      (∀ a ∈ accs, a.pre < 2 ^ 31 ∧ a.suf < 2 ^ 31) := by
  unfold decodeAcc at h
  split at h
  · cases h
  · rename_i hn
    split at h
    · cases h
    · rename_i prefixes c1 h1
      split at h
      · cases h
      · rename_i suffixes c2 h2
        obtain ⟨hl1, _⟩ := decodeInt32_ok data n.toNat prefixes c1 h1
        obtain ⟨hl2, _⟩ := decodeInt32_ok (data.drop c1) n.toNat suffixes c2 h2
        split at h
        · cases h
        · rename_i hneg
          split at h
          · cases h
          · rename_i hfit
            obtain ⟨hs, hp⟩ := nonneg_of_zip_any suffixes prefixes (by omega) hneg
            split at h
            · cases h
            · rename_i as hr
              cases h
              obtain ⟨i1, i2, i3⟩ := reconstructAcc_safe workSize _ _ (c1 + c2) 0 none accs (map_toNat_lt _ hp)
                (map_toNat_lt _ hs) (by simp [hl1, hl2]) hr
              have hlen : accs.length = n.toNat := by
                have := congrArg List.length i2
                simpa [hl2] using this
              refine ⟨by omega, hlen, by omega, c1 + c2, by simpa using i1, by rw [i2], fun a ha => ⟨?_, ?_⟩⟩
              · exact map_toNat_lt _ hp a.pre (by rw [← i3]; exact List.mem_map_of_mem ha)
              · exact map_toNat_lt _ hs a.suf (by rw [← i2]; exact List.mem_map_of_mem ha)

end Carquet.Impl.DeltaStrings
