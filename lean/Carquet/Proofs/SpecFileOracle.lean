import Carquet.Proofs.SpecFileWholeFull
import Carquet.Proofs.SpecFileGzip
import Carquet.Proofs.SpecFileZstd
/-
The oracle table the reference writer emits for an admissible layout is COHERENT (a function on its keys): every pair
comes from a GZIP or ZSTD plan of the layout (`writeFull_oracle`, Proofs/SpecFileWholeFull.lean) and is therefore
(container bytes, contents) of a decodable GZIP member or ZSTD frame (Proofs/SpecFileGzip.lean, SpecFileZstd.lean), and
equal containers hold equal contents.  This discharges the oracle hypothesis of the whole-file theorem.
-/
namespace Carquet.Proofs.SpecFile
open Carquet.Spec Carquet.Spec.File Carquet.Spec.Thrift Carquet.Spec.ParquetThrift

/-- what a container of the reference writer holds (for the proof only) -/
def unpackOracle (c : Bytes) : Option Bytes :=
  match gunzipStored c with
  | some d => some d
  | none => unzstdRaw c

def OracleValid (e : Bytes × Bytes) : Prop := unpackOracle e.1 = some e.2

theorem gunzipStored_zstd (f : Nat) (plan : List ZBlock) (data comp : Bytes) (h : zstdRaw f plan data = some comp) :
    gunzipStored comp = none := by
  unfold zstdRaw at h
  cases hcs : zContentSize f data.length with
  | none => simp [hcs] at h
  | some cs =>
    cases hbl : zBlocks plan data with
    | none => simp [hcs, hbl] at h
    | some bl =>
      simp only [hcs, hbl, Option.some.injEq] at h
      subst h
      unfold gunzipStored
      have : ¬ (([0x28, 0xB5, 0x2F] : Bytes) = [0x1f, 0x8b, 8]) := by decide
      simp [this]

theorem oracleEntry_valid (plan : CompPlan) (body comp : Bytes) (hc : compressWith plan body = some comp)
    (hp : planOk plan = true) : ∀ e ∈ oracleEntry plan comp body, OracleValid e := by
  intro e he
  cases plan with
  | none => simp [oracleEntry] at he
  | snappy ops => simp [oracleEntry] at he
  | lz4 tag seqs last => simp [oracleEntry] at he
  | gzip k name =>
    simp only [oracleEntry, List.mem_singleton] at he
    subst he
    simp only [compressWith, Option.some.injEq] at hc
    subst hc
    simp only [planOk] at hp
    simp [OracleValid, unpackOracle, gunzipStored_gzipStored k name body hp]
  | zstd f zp =>
    simp only [oracleEntry, List.mem_singleton] at he
    subst he
    simp only [compressWith] at hc
    simp [OracleValid, unpackOracle, gunzipStored_zstd f zp body comp hc, unzstdRaw_zstdRaw f zp body comp hc]

theorem coherent_of_valid (o : Oracle) (h : ∀ e ∈ o, OracleValid e) : oracleCoherent o = true := by
  unfold oracleCoherent
  rw [List.all_eq_true]
  intro e he
  unfold oracleLookup
  cases hf : o.find? (fun p => p.1 == e.1) with
  | none =>
    rw [List.find?_eq_none] at hf
    exact absurd (by simp) (hf e he)
  | some e' =>
    have hm := List.mem_of_find?_eq_some hf
    have hk := List.find?_some hf
    have hk' : e'.1 = e.1 := by simpa using hk
    have h1 := h e' hm
    have h2 := h e he
    unfold OracleValid at h1 h2
    rw [hk', h2] at h1
    simp only [Option.some.injEq] at h1
    simp [h1]

theorem writeFull_oracle_coherent (t : Table) (l : Layout) (file : Bytes) (oracle : Oracle)
    (hadm : layoutAdm l = true) (hw : writeFull t l = some (file, oracle)) : oracleCoherent oracle = true :=
  coherent_of_valid _ (writeFull_oracle (Q := fun _ => True) ⟨fun plan body comp _ hp hc => oracleEntry_valid plan body comp hc hp⟩
    t l file oracle (layoutAdm_iff hadm) (fun _ _ _ _ => ⟨fun _ _ => trivial, fun _ _ => trivial⟩) hw)

/-- **whole file, every admissible layout** — the oracle hypothesis discharged -/
theorem read_write_full' (t : Table) (l : Layout) (file : Bytes) (oracle : Oracle)
    (hadm : layoutAdm l = true) (hw : writeFull t l = some (file, oracle))
    (hwf : ∀ v, footerValue t l = some v → v.wf = true ∧ footerUsizeOk v = true)
    (hlen : file.length < 2 ^ 31)
    (hsmall : ∀ g ∈ t.rowGroups, ∀ es ∈ g.chunks, es.length < 2 ^ 31) :
    File.read file (oracle := oracle) = .ok t :=
  read_write_adm t l file oracle (layoutAdm_iff hadm) hw hwf hlen hsmall oracle
    (oracleCoherent_lookup (writeFull_oracle_coherent t l file oracle hadm hw))

end Carquet.Proofs.SpecFile
