import Carquet.Spec.Order
import Carquet.Impl.Stats
import Carquet.Proofs.StatsOrder
import Carquet.Proofs.NatBits
/-
The comparators of the C code (Impl) compute the Spec's comparisons:
  builder comparators  (`cmpTyped`, NaN greatest)        = `tcmp`
  reader comparators   (`cmpReader`, no NaN involved)    = `keyCmp`
-/
namespace Carquet.Proofs.StatsCmp
open Carquet.Spec.Order Carquet.Impl.Stats Carquet.Proofs.StatsOrder

/-- the C encoding of a three-way result -/
def ordInt : Ordering → Int
  | .lt => -1 | .eq => 0 | .gt => 1

@[simp] theorem ordInt_lt_zero (o : Ordering) : ordInt o < 0 ↔ o = .lt := by cases o <;> simp [ordInt]
@[simp] theorem ordInt_gt_zero (o : Ordering) : ordInt o > 0 ↔ o = .gt := by cases o <;> simp [ordInt]
@[simp] theorem zero_lt_ordInt (o : Ordering) : 0 < ordInt o ↔ o = .gt := by cases o <;> simp [ordInt]
@[simp] theorem ordInt_eq_zero (o : Ordering) : ordInt o = 0 ↔ o = .eq := by cases o <;> simp [ordInt]
@[simp] theorem ordInt_le_zero (o : Ordering) : ordInt o ≤ 0 ↔ o ≠ .gt := by cases o <;> simp [ordInt]
@[simp] theorem ordInt_ge_zero (o : Ordering) : ordInt o ≥ 0 ↔ o ≠ .lt := by cases o <;> simp [ordInt]

theorem sgn3_cmpInt (a b : Int) : sgn3 (decide (a > b)) (decide (a < b)) = ordInt (cmpInt a b) := by
  simp only [sgn3, cmpInt, gt_iff_lt]
  by_cases h1 : a < b <;> by_cases h2 : b < a <;> simp [h1, h2, ordInt] <;> omega

theorem sgn3_cmpNat (a b : Nat) : sgn3 (decide (a > b)) (decide (a < b)) = ordInt (cmpNat a b) := by
  simp only [sgn3, cmpNat, gt_iff_lt]
  by_cases h1 : a < b <;> by_cases h2 : b < a <;> simp [h1, h2, ordInt] <;> omega

/-! ### little-endian reads -/

/-- the byte-string value of Spec.Order is that of Impl.Bitpack, in which `NatBits` and the C loads are stated -/
theorem leNat_eq : ∀ l, leNat l = Impl.Bitpack.leNat l
  | [] => rfl
  | b :: r => congrArg (b.toNat + 256 * ·) (leNat_eq r)

theorem leNat_take (n : Nat) (bs : List UInt8) : leNat (bs.take n) = leNat bs % 256 ^ n := by
  rw [leNat_eq, leNat_eq, NatBits.leNat_take, Nat.pow_mul]

theorem readU_eq_uval (n : Nat) (bs : List UInt8) : readU n bs = uval n bs := leNat_take n bs

theorem leNat_append (a b : List UInt8) : leNat (a ++ b) = leNat a + 256 ^ a.length * leNat b := by
  rw [leNat_eq, leNat_eq, leNat_eq, NatBits.leNat_append, Nat.pow_mul]

theorem leNat_drop (n : Nat) (bs : List UInt8) : leNat (bs.drop n) = leNat bs / 256 ^ n := by
  rw [leNat_eq, leNat_eq, NatBits.leNat_drop, Nat.shiftRight_eq_div_pow, Nat.pow_mul]

/-! ### integers -/

theorem toInt_toSigned {w : Nat} (x : BitVec (w + 1)) : x.toInt = toSigned (w + 1) x.toNat := by
  have h : 2 * x.toNat < 2 ^ (w + 1) ↔ x.toNat < 2 ^ w := by rw [Nat.pow_succ]; omega
  simp only [BitVec.toInt_eq_toNat_cond, toSigned, Nat.add_sub_cancel, h]
  split <;> simp

theorem toInt_ofNat (w n : Nat) (hw : 0 < w) : (BitVec.ofNat w n).toInt = toSigned w (n % 2 ^ w) := by
  obtain ⟨k, rfl⟩ : ∃ k, w = k + 1 := ⟨w - 1, by omega⟩
  rw [toInt_toSigned, BitVec.toNat_ofNat]

theorem cmpBool_eq (a b : List UInt8) : cmpBool a b = ordInt (keyCmp .boolean a b) := by
  simp only [cmpBool, keyCmp, readU_eq_uval]; exact sgn3_cmpNat _ _

/-- `compare_int32` / `compare_int64`: the `w`-bit two's complement reading of the first `n` bytes -/
theorem sgn3_toSigned (w n : Nat) (hw : 0 < w) (h : 256 ^ n = 2 ^ w) (a b : List UInt8) :
    sgn3 (decide (toSigned w (readU n a) > toSigned w (readU n b)))
        (decide (toSigned w (readU n a) < toSigned w (readU n b))) =
      ordInt (cmpSigned w (leNat a) (leNat b)) := by
  rw [cmpSigned_eq, toInt_ofNat w _ hw, toInt_ofNat w _ hw, ← h, readU_eq_uval, readU_eq_uval]
  exact sgn3_cmpInt _ _

theorem cmpI32_eq (a b : List UInt8) : cmpI32 a b = ordInt (keyCmp .int32 a b) :=
  sgn3_toSigned 32 4 (by decide) (by decide) a b

theorem cmpI64_eq (a b : List UInt8) : cmpI64 a b = ordInt (keyCmp .int64 a b) :=
  sgn3_toSigned 64 8 (by decide) (by decide) a b

/-! ### INT96: three words high to low = the 96-bit unsigned integer -/

theorem take_add_split (m n : Nat) (bs : List UInt8) :
    bs.take (m + n) = bs.take m ++ (bs.drop m).take n := by
  induction m generalizing bs with
  | zero => simp
  | succ m ih =>
    cases bs with
    | nil => simp
    | cons b r =>
      have : m + 1 + n = (m + n) + 1 := by omega
      simp [this, ih r]

theorem leNat_take_add (m n : Nat) (bs : List UInt8) (h : m ≤ bs.length) :
    leNat (bs.take (m + n)) = leNat (bs.take m) + 256 ^ m * leNat ((bs.drop m).take n) := by
  rw [take_add_split, leNat_append, List.length_take, Nat.min_eq_left h]

/-- zero-extension: reading past the end of a short string reads zeros -/
theorem leNat_take_short (n : Nat) (bs : List UInt8) (h : bs.length ≤ n) : leNat (bs.take n) = leNat bs := by
  rw [List.take_of_length_le h]

theorem cmpNat_radix (B x0 x1 y0 y1 : Nat) (hx : x0 < B) (hy : y0 < B) :
    cmpNat (x0 + B * x1) (y0 + B * y1) = (cmpNat x1 y1).then (cmpNat x0 y0) := by
  have hlt : ∀ {u0 u1 v0 v1 : Nat}, u0 < B → u1 < v1 → u0 + B * u1 < v0 + B * v1 := by
    intro u0 u1 v0 v1 h0 h1
    have := Nat.mul_le_mul_left B (Nat.succ_le_of_lt h1)
    rw [Nat.mul_succ] at this
    omega
  unfold cmpNat
  rcases Nat.lt_trichotomy x1 y1 with h | h | h
  · rw [if_pos h, if_pos (hlt hx h)]; rfl
  · subst h
    rw [if_neg (Nat.lt_irrefl _), if_neg (Nat.lt_irrefl _)]
    simp only [Nat.add_lt_add_iff_right, Ordering.then]
  · have := hlt (v0 := x0) hy h
    rw [if_neg (show ¬ x0 + B * x1 < y0 + B * y1 by omega), if_pos this, if_neg (show ¬ x1 < y1 by omega), if_pos h]
    rfl

/-- one rung of the C comparison ladder: this digit decides, or the lower ones do -/
theorem sgn3_then (x y : Nat) (o : Ordering) :
    (if x ≠ y then sgn3 (decide (x > y)) (decide (x < y)) else ordInt o) = ordInt ((cmpNat x y).then o) := by
  by_cases h : x = y
  · subst h; rw [if_neg (by simp), cmpNat, if_neg (Nat.lt_irrefl _), if_neg (Nat.lt_irrefl _)]; rfl
  · rw [if_pos h, sgn3_cmpNat]
    unfold cmpNat
    by_cases h1 : x < y
    · rw [if_pos h1]; rfl
    · rw [if_neg h1, if_pos (by omega)]; rfl

theorem word_eq (bs : List UInt8) (i : Nat) : word bs i = leNat bs / 256 ^ (4 * i) % 256 ^ 4 := by
  rw [word, leNat_take, leNat_drop]

theorem word_lt (bs : List UInt8) (i : Nat) : word bs i < 2 ^ 32 := by
  rw [word_eq]; exact Nat.mod_lt _ (by decide)

theorem uval12_words (bs : List UInt8) :
    uval 12 bs = word bs 0 + 2 ^ 32 * (word bs 1 + 2 ^ 32 * word bs 2) := by
  have h : (256 : Nat) ^ 12 = 2 ^ 32 * (2 ^ 32 * 2 ^ 32) := by decide
  rw [uval, h, Nat.mod_mul, Nat.mod_mul, Nat.div_div_eq_div_mul]
  simp only [word_eq, Nat.reduceMul, Nat.reducePow, Nat.div_one]

theorem cmpI96_eq (a b : List UInt8) : cmpI96 a b = ordInt (keyCmp .int96 a b) := by
  rw [keyCmp, uval12_words, uval12_words, cmpNat_radix _ _ _ _ _ (word_lt a 0) (word_lt b 0),
    cmpNat_radix _ _ _ _ _ (word_lt a 1) (word_lt b 1), Ordering.then_assoc, cmpI96,
    show (0 : Int) = ordInt .eq from rfl, sgn3_then, sgn3_then, sgn3_then, Ordering.then_eq]

/-! ### floats: the represented number orders like the sign-magnitude integer -/

/-- the Spec's magnitude as a function of the bit pattern without its sign -/
def gmag (M : Nat) (k : Nat) : Nat := if k / M = 0 then k % M else (M + k % M) * 2 ^ (k / M - 1)

/-- a magnitude lies in the binade of its exponent: below `M * 2^e` … -/
theorem gmag_lt (M : Nat) (hM : 0 < M) (k : Nat) : gmag M k < M * 2 ^ (k / M) := by
  have hm := Nat.mod_lt k hM
  unfold gmag
  generalize k / M = e
  cases e with
  | zero => rw [if_pos rfl, Nat.pow_zero, Nat.mul_one]; exact hm
  | succ e =>
    rw [if_neg (Nat.succ_ne_zero e), Nat.add_sub_cancel, Nat.pow_succ, Nat.mul_comm (2 ^ e) 2, ← Nat.mul_assoc,
      Nat.mul_two]
    exact Nat.mul_lt_mul_of_pos_right (Nat.add_lt_add_left hm M) (Nat.two_pow_pos e)

/-- … and, from the first normal binade on, not below `M * 2^(e-1)` -/
theorem gmag_ge (M k : Nat) (h : k / M ≠ 0) : M * 2 ^ (k / M - 1) ≤ gmag M k := by
  rw [gmag, if_neg h]
  exact Nat.mul_le_mul_right _ (Nat.le_add_right M _)

theorem gmag_mono (M : Nat) (hM : 0 < M) {a b : Nat} (h : a < b) : gmag M a < gmag M b := by
  rcases Nat.lt_or_eq_of_le (Nat.div_le_div_right (c := M) (Nat.le_of_lt h)) with hlt | heq
  · -- a lower exponent: a lower binade
    calc gmag M a < M * 2 ^ (a / M) := gmag_lt M hM a
      _ ≤ M * 2 ^ (b / M - 1) := Nat.mul_le_mul_left _ (Nat.pow_le_pow_right (by decide) (Nat.le_sub_one_of_lt hlt))
      _ ≤ gmag M b := gmag_ge M b (Nat.ne_of_gt (Nat.lt_of_le_of_lt (Nat.zero_le _) hlt))
  · -- the same exponent: the mantissas are ordered
    have hm : a % M < b % M := by
      have ha := Nat.div_add_mod a M
      have hb := Nat.div_add_mod b M
      rw [heq] at ha
      generalize M * (b / M) = q at ha hb
      omega
    unfold gmag
    rw [heq]
    split
    · exact hm
    · exact Nat.mul_lt_mul_of_pos_right (Nat.add_lt_add_left hm M) (Nat.two_pow_pos _)

theorem gmag_zero (M : Nat) (_hM : 0 < M) : gmag M 0 = 0 := by
  simp [gmag, Nat.zero_div, Nat.zero_mod]

theorem fexp_eq (f : FFmt) (x : Nat) : fexp f x = fAbs f x / 2 ^ f.mbits := by
  unfold fexp fAbs
  rw [Nat.pow_add, Nat.mul_comm (2 ^ f.ebits) (2 ^ f.mbits), Nat.mod_mul_right_div_self]

theorem fman_eq (f : FFmt) (x : Nat) : fman f x = fAbs f x % 2 ^ f.mbits := by
  unfold fman fAbs
  rw [Nat.pow_add, Nat.mul_comm (2 ^ f.ebits) (2 ^ f.mbits), Nat.mod_mul_right_mod]

theorem fmag_eq (f : FFmt) (x : Nat) : fmag f x = gmag (2 ^ f.mbits) (fAbs f x) := by
  unfold fmag gmag; rw [fexp_eq, fman_eq]

theorem fsign_eq (f : FFmt) (x : Nat) : fsign f x = fNeg f x := rfl

theorem fisNaN_eq (f : FFmt) (x : Nat) : fisNaN f x = fNan f x := by
  have hM : 0 < 2 ^ f.mbits := Nat.two_pow_pos _
  have hE : 0 < 2 ^ f.ebits := Nat.two_pow_pos _
  have he : fexp f x < 2 ^ f.ebits := Nat.mod_lt _ hE
  unfold fisNaN fNan
  rw [fman_eq]
  rw [fexp_eq] at he ⊢
  have hk := Nat.div_add_mod (fAbs f x) (2 ^ f.mbits)
  have hm := Nat.mod_lt (fAbs f x) hM
  generalize fAbs f x / 2 ^ f.mbits = e at *
  generalize fAbs f x % 2 ^ f.mbits = m at *
  generalize 2 ^ f.mbits = M at *
  generalize 2 ^ f.ebits = E at *
  rw [← hk]
  by_cases h1 : e = E - 1
  · subst h1
    have : (E - 1) * M = M * (E - 1) := Nat.mul_comm _ _
    by_cases h2 : m = 0
    · simp [h2, this]
    · have h0 : 0 < m := by omega
      simp [h2, this, h0]
  · have hlt : e + 1 ≤ E - 1 := by omega
    have h3 : M * (e + 1) ≤ M * (E - 1) := Nat.mul_le_mul_left M hlt
    have h4 : M * (e + 1) = M * e + M := Nat.mul_succ M e
    have : (E - 1) * M = M * (E - 1) := Nat.mul_comm _ _
    simp only [h1, decide_false, Bool.false_and]
    symm; simp only [decide_eq_false_iff_not, this]; omega

/-- a sign applied to a magnitude -/
def sgnd (s : Bool) (n : Nat) : Int := if s then - (n : Int) else (n : Int)

/-- Sign-magnitude integers compare the same after a strictly increasing map of the magnitudes that
fixes 0. -/
theorem cmpInt_sgnd_map (g : Nat → Nat) (h0 : g 0 = 0) (hg : ∀ {a b : Nat}, a < b → g a < g b)
    (sa sb : Bool) (a b : Nat) :
    cmpInt (sgnd sa (g a)) (sgnd sb (g b)) = cmpInt (sgnd sa a) (sgnd sb b) := by
  have lt_iff : ∀ a b : Nat, g a < g b ↔ a < b := fun a b =>
    ⟨fun h => by
      rcases Nat.lt_trichotomy a b with h' | h' | h'
      · exact h'
      · subst h'; omega
      · have := hg h'; omega, hg⟩
  have key : ∀ (sa sb : Bool) (a b : Nat), sgnd sa (g a) < sgnd sb (g b) ↔ sgnd sa a < sgnd sb b := by
    intro sa sb a b
    have h1 := lt_iff a b
    have h2 := lt_iff b a
    have h3 := lt_iff 0 a
    have h4 := lt_iff 0 b
    rw [h0] at h3 h4
    cases sa <;> cases sb <;> simp only [sgnd, if_true, if_false, Bool.false_eq_true] <;> omega
  simp only [cmpInt, key]

theorem fval_eq (f : FFmt) (x : Nat) : fval f x = sgnd (fNeg f x) (gmag (2 ^ f.mbits) (fAbs f x)) := by
  unfold fval sgnd; rw [fsign_eq, fmag_eq]

theorem fKey_eq (f : FFmt) (x : Nat) : fKey f x = sgnd (fNeg f x) (fAbs f x) := rfl

theorem fval_cmp (f : FFmt) (a b : Nat) : cmpInt (fval f a) (fval f b) = cmpInt (fKey f a) (fKey f b) := by
  rw [fval_eq, fval_eq, fKey_eq, fKey_eq]
  exact cmpInt_sgnd_map _ (gmag_zero _ (Nat.two_pow_pos _)) (gmag_mono _ (Nat.two_pow_pos _)) _ _ _ _

theorem cmpFloatB_eq (f : FFmt) (a b : Nat) :
    cmpFloatB f a b =
      ordInt (if fisNaN f a then (if fisNaN f b then .eq else .gt)
              else if fisNaN f b then .lt else cmpInt (fval f a) (fval f b)) := by
  rw [fisNaN_eq, fisNaN_eq, fval_cmp]
  unfold cmpFloatB fLt
  cases ha : fNan f a <;> cases hb : fNan f b <;> simp [ordInt]
  exact sgn3_cmpInt _ _

theorem cmpFloatR_eq (f : FFmt) (a b : Nat) (ha : fisNaN f a = false) (hb : fisNaN f b = false) :
    cmpFloatR f a b = ordInt (cmpInt (fval f a) (fval f b)) := by
  rw [fisNaN_eq] at ha hb
  rw [fval_cmp]
  unfold cmpFloatR fLt cmpInt
  simp only [ha, hb, Bool.not_false, Bool.true_and, decide_eq_true_eq]
  by_cases h1 : fKey f a < fKey f b <;> by_cases h2 : fKey f b < fKey f a <;> simp [h1, h2, ordInt]

/-! ### bytes -/

/-- `memcmp` then lengths, one byte at a time -/
theorem cmpBytes_cons (x y : UInt8) (xs ys : List UInt8) :
    cmpBytes (x :: xs) (y :: ys) = if x < y then -1 else if y < x then 1 else cmpBytes xs ys := by
  simp only [cmpBytes, List.length_cons, Nat.succ_min_succ, memcmp]
  by_cases h1 : x < y
  · simp [h1]
  · by_cases h2 : y < x
    · simp [h1, h2]
    · simp only [h1, h2, if_false, Nat.add_lt_add_iff_right, gt_iff_lt]

theorem cmpBytes_eq : ∀ a b : List UInt8, cmpBytes a b = ordInt (blex a b)
  | [], [] => by simp [cmpBytes, memcmp, blex, sgn3, ordInt]
  | [], _ :: _ => by simp [cmpBytes, memcmp, blex, sgn3, ordInt]
  | _ :: _, [] => by simp [cmpBytes, memcmp, blex, sgn3, ordInt]
  | x :: xs, y :: ys => by
    rw [cmpBytes_cons, blex, cmpBytes_eq xs ys]
    by_cases h1 : x < y
    · rw [if_pos h1, if_pos h1]; rfl
    · rw [if_neg h1, if_neg h1]
      by_cases h2 : y < x
      · rw [if_pos h2, if_pos h2]; rfl
      · rw [if_neg h2, if_neg h2]

/-! ### the dispatchers -/

theorem isNanValue_eq (t : PType) (a : List UInt8) : isNanValue t a = isNaN t a := by
  cases t <;> simp [isNanValue, isNaN, readU_eq_uval, fisNaN_eq]

/-- the builder-side comparators (NaN greatest) compute the statistics order -/
theorem cmpTyped_eq (t : PType) (a b : List UInt8) : cmpTyped t a b = ordInt (tcmp t a b) := by
  cases t
  · simp [cmpTyped, tcmp, isNaN, cmpBool_eq]
  · simp [cmpTyped, tcmp, isNaN, cmpI32_eq]
  · simp [cmpTyped, tcmp, isNaN, cmpI64_eq]
  · simp [cmpTyped, tcmp, isNaN, cmpI96_eq]
  · show cmpFloatB f32 (readU 4 a) (readU 4 b) = _
    rw [cmpFloatB_eq, readU_eq_uval, readU_eq_uval]; rfl
  · show cmpFloatB f64 (readU 8 a) (readU 8 b) = _
    rw [cmpFloatB_eq, readU_eq_uval, readU_eq_uval]; rfl
  · simp [cmpTyped, tcmp, isNaN, keyCmp, cmpBytes_eq]
  · simp [cmpTyped, tcmp, isNaN, keyCmp, cmpBytes_eq]

/-- the reader-side comparators compute the type's comparison when no NaN is involved -/
theorem cmpReader_eq (t : PType) (a b : List UInt8) (ha : isNaN t a = false) (hb : isNaN t b = false) :
    cmpReader t a b = ordInt (keyCmp t a b) := by
  cases t
  · simp [cmpReader, cmpBool_eq]
  · simp [cmpReader, cmpI32_eq]
  · simp [cmpReader, cmpI64_eq]
  · simp [cmpReader, cmpI96_eq]
  · simp only [isNaN] at ha hb
    simp only [cmpReader, keyCmp, readU_eq_uval]; exact cmpFloatR_eq _ _ _ ha hb
  · simp only [isNaN] at ha hb
    simp only [cmpReader, keyCmp, readU_eq_uval]; exact cmpFloatR_eq _ _ _ ha hb
  · simp [cmpReader, keyCmp, cmpBytes_eq]
  · simp [cmpReader, keyCmp, cmpBytes_eq]

theorem cmpBytes_eq_keyCmp (t : PType) (h : t = .byteArray ∨ t = .flba) (a b : List UInt8) :
    cmpBytes a b = ordInt (keyCmp t a b) := by
  rcases h with h | h <;> subst h <;> simp [keyCmp, cmpBytes_eq]

theorem cmpBytes_bool (a b : List UInt8) (ha : a.length = 1) (hb : b.length = 1) :
    cmpBytes a b = ordInt (keyCmp .boolean a b) := by
  match a, b, ha, hb with
  | [x], [y], _, _ =>
    have e1 : uval 1 [x] = x.toNat := by
      have := x.toNat_lt; simp [uval, leNat, Nat.mod_eq_of_lt this]
    have e2 : uval 1 [y] = y.toNat := by
      have := y.toNat_lt; simp [uval, leNat, Nat.mod_eq_of_lt this]
    rw [cmpBytes_eq]
    simp only [blex, keyCmp, cmpNat, e1, e2, UInt8.lt_iff_toNat_lt]

end Carquet.Proofs.StatsCmp
