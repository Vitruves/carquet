import Carquet.Proofs.DeltaImplDec
import Carquet.Proofs.DeltaBitLoop
/-
The Impl encoder (model of the repaired delta.c) emits a well-formed 128/4 grammar stream whose
register values are the input.
-/
namespace Carquet.Impl.Delta
open Carquet.Spec.Delta (Stream Block Geometry fits packMinis pack packedSize ulebEncode zigzagEnc blocksWf totalDeltas)

/-- `delta` of the encode loop -/
def deltasFrom : BitVec 64 → List (BitVec 64) → List (BitVec 64)
  | _, [] => []
  | last, v :: vs => (v - last) :: deltasFrom v vs

/-- the blocks the encode loop flushes: `buf` is the block buffer -/
def blocksOf : List (BitVec 64) → List (BitVec 64) → List (List (BitVec 64))
  | buf, [] => if buf = [] then [] else [buf]
  | buf, d :: ds => if buf.length + 1 = 128 then (buf ++ [d]) :: blocksOf [] ds else blocksOf (buf ++ [d]) ds

theorem flushBlock_ok (pre : Bool) (e e' : Enc) (h : flushBlock pre e = .ok e') :
    e'.out = e.out ++ (if e.deltas = [] then [] else blockBytes pre e.deltas) ∧
    e'.deltas = [] ∧ e'.last = e.last ∧ e'.cap = e.cap := by
  unfold flushBlock at h
  by_cases hd : e.deltas = []
  · rw [if_pos hd] at h
    cases h
    simp [hd]
  · rw [if_neg hd] at h
    split at h
    · cases h
    · cases h
      simp [hd]

theorem encodeLoop_out (pre : Bool) (vs : List (BitVec 64)) : ∀ (e e1 e2 : Enc),
    encodeLoop pre vs e = .ok e1 → flushBlock pre e1 = .ok e2 →
    e2.out = e.out ++ (blocksOf e.deltas (deltasFrom e.last vs)).flatMap (blockBytes pre) := by
  induction vs with
  | nil =>
    intro e e1 e2 h1 h2
    simp only [encodeLoop] at h1
    cases h1
    have := (flushBlock_ok pre e e2 h2).1
    rw [this]
    simp only [deltasFrom, blocksOf]
    by_cases hd : e.deltas = [] <;> simp [hd]
  | cons v vs ih =>
    intro e e1 e2 h1 h2
    simp only [encodeLoop] at h1
    simp only [deltasFrom, blocksOf]
    by_cases hfull : e.deltas.length + 1 = blockSize
    · rw [if_pos hfull] at h1
      rw [if_pos (by simpa [blockSize] using hfull)]
      split at h1
      · cases h1
      · rename_i e' hf
        obtain ⟨ho, hd, hl, _⟩ := flushBlock_ok pre _ e' hf
        rw [ih e' e1 e2 h1 h2, ho, hd, hl]
        simp
    · rw [if_neg hfull] at h1
      rw [if_neg (by simpa [blockSize] using hfull)]
      rw [ih _ e1 e2 h1 h2]

/-- the output of a successful `carquet_delta_encode_*` call (capacity aside) -/
def encodeOut (v : BitVec 64) (rest : List (BitVec 64)) : List UInt8 :=
  headerBytes (rest.length + 1) v ++ (blocksOf [] (deltasFrom v rest)).flatMap (blockBytes false)

theorem encodeV_ok (v : BitVec 64) (rest : List (BitVec 64)) (cap : Nat) (bs : List UInt8)
    (h : encodeV false (v :: rest) cap = .ok bs) : bs = encodeOut v rest := by
  simp only [encodeV] at h
  split at h
  · cases h
  · split at h
    · cases h
    · rename_i e h1
      split at h
      · cases h
      · rename_i e' h2
        cases h
        exact encodeLoop_out false rest _ e e' h1 h2

/-! the blocks are well formed -/

theorem blocksOf_shape (ds : List (BitVec 64)) : ∀ buf : List (BitVec 64), buf.length < 128 →
    (∀ c ∈ blocksOf buf ds, 0 < c.length ∧ c.length ≤ 128) ∧
    (blocksOf buf ds).flatten = buf ++ ds ∧
    List.Pairwise (fun c _ => c.length = 128) (blocksOf buf ds) := by
  induction ds with
  | nil =>
    intro buf hb
    simp only [blocksOf]
    by_cases h : buf = []
    · simp [h]
    · simp only [if_neg h]
      refine ⟨?_, by simp, by simp⟩
      intro c hc
      simp only [List.mem_singleton] at hc
      subst hc
      exact ⟨List.length_pos_iff.mpr h, by omega⟩
  | cons d ds ih =>
    intro buf hb
    simp only [blocksOf]
    by_cases hf : buf.length + 1 = 128
    · rw [if_pos hf]
      obtain ⟨h1, h2, h3⟩ := ih [] (by simp)
      refine ⟨List.forall_mem_cons.mpr ⟨by simp; omega, h1⟩, ?_, ?_⟩
      · simp [h2]
      · rw [List.pairwise_cons]
        refine ⟨fun _ _ => by simp; omega, h3⟩
    · rw [if_neg hf]
      have := ih (buf ++ [d]) (by simp; omega)
      simpa using this

theorem bitWidthRequired_spec (v : BitVec 64) :
    v.toNat < 2 ^ bitWidthRequired v ∧ bitWidthRequired v ≤ 64 := by
  unfold bitWidthRequired
  by_cases h : v = 0#64
  · rw [if_pos h]; subst h; simp
  · have hne : v.toNat ≠ 0 := fun e => h (BitVec.eq_of_toNat_eq e)
    rw [if_neg h, Proofs.bitLoop_eq bitWidthLoop (fun _ _ => rfl) (fun _ _ _ => rfl) 64 v.toNat 0 v.isLt,
      Nat.zero_add, if_neg hne]
    exact ⟨Nat.lt_log2_self, (Nat.log2_lt hne).mpr v.isLt⟩

theorem maxAdjusted_spec (min : BitVec 64) (slice : List (BitVec 64)) : ∀ m : BitVec 64,
    m.toNat ≤ (maxAdjusted min m slice).toNat ∧
    ∀ d ∈ slice, (d - min).toNat ≤ (maxAdjusted min m slice).toNat := by
  induction slice with
  | nil => intro m; simp [maxAdjusted]
  | cons d ds ih =>
    intro m
    obtain ⟨h1, h2⟩ := ih (if m.ult (d - min) then d - min else m)
    have hm : m.toNat ≤ (if m.ult (d - min) then d - min else m).toNat ∧
        (d - min).toNat ≤ (if m.ult (d - min) then d - min else m).toNat := by
      split <;> rename_i hc
      · have := BitVec.lt_def.mp (BitVec.ult_iff_lt.mp hc); omega
      · have : ¬ m.toNat < (d - min).toNat := fun h => hc (BitVec.ult_iff_lt.mpr (BitVec.lt_def.mpr h)); omega
    rw [maxAdjusted]
    exact ⟨by omega, List.forall_mem_cons.mpr ⟨by omega, h2⟩⟩

theorem miniWidth_fits (min : BitVec 64) (slice : List (BitVec 64)) :
    miniWidth min slice ≤ 64 ∧ ∀ d ∈ slice, (d - min).toNat < 2 ^ miniWidth min slice := by
  unfold miniWidth
  obtain ⟨h1, h2⟩ := bitWidthRequired_spec (maxAdjusted min 0#64 slice)
  refine ⟨h2, fun d hd => ?_⟩
  have := (maxAdjusted_spec min slice 0#64).2 d hd
  omega

/-- zero padding that completes the last needed miniblock -/
def padLen (n : Nat) : Nat := (32 - n % 32) % 32

/-- the grammar block one `delta_encoder_flush_block` call writes for the buffered deltas `c` -/
def implBlock (c : List (BitVec 64)) : Block :=
  { minDelta := (blockMin c).toInt
    widths := (blockWidths (blockMin c) c).map UInt8.ofNat
    adj := c.map (fun d => (d - blockMin c).toNat)
    pad := List.replicate (padLen c.length) 0 }

theorem miniIndices_eq : miniIndices = [0, 1, 2, 3] := rfl

theorem chunk_eq (f : BitVec 64 → Nat) (c : List (BitVec 64)) (j : Nat) (h : 32 * j < c.length) :
    ((c.map f ++ List.replicate (padLen c.length) 0).drop (32 * j)).take 32 =
      (miniSlice c j).map f ++ List.replicate (32 - (miniSlice c j).length) 0 := by
  have hms : miniSlice c j = (c.drop (32 * j)).take 32 := by
    simp [miniSlice, miniBlockSize, blockSize, miniBlocks, Nat.mul_comm]
  rw [hms, List.drop_append_of_le_length (by simp; omega), List.take_append]
  simp only [List.length_drop, List.length_map, List.map_take, List.map_drop, List.take_replicate,
    List.length_take]
  congr 2
  unfold padLen
  omega

theorem chunk_nil (f : BitVec 64 → Nat) (c : List (BitVec 64)) (j : Nat) (h : c.length ≤ 32 * j) :
    (c.map f ++ List.replicate (padLen c.length) 0).drop (32 * j) = [] ∧ miniSlice c j = [] := by
  constructor
  · apply List.drop_eq_nil_of_le
    simp only [List.length_append, List.length_map, List.length_replicate]
    unfold padLen; omega
  · simp [miniSlice, miniBlockSize, blockSize, miniBlocks]
    omega

theorem miniWidth_nil (min : BitVec 64) : miniWidth min [] = 0 := by
  simp [miniWidth, maxAdjusted, bitWidthRequired]

theorem toNat_ofNat_width (min : BitVec 64) (slice : List (BitVec 64)) :
    (UInt8.ofNat (miniWidth min slice)).toNat = miniWidth min slice := by
  have := (miniWidth_fits min slice).1
  exact UInt8.toNat_ofNat_of_lt' (show _ < 256 by omega)

/-- bytes of miniblock `j`: Impl's `to_pack` packing is the grammar's packing of the chunk -/
theorem miniBytes_eq (c : List (BitVec 64)) (j : Nat) :
    miniBytes false (miniWidth (blockMin c) (miniSlice c j)) (blockMin c) (miniSlice c j) =
      pack (UInt8.ofNat (miniWidth (blockMin c) (miniSlice c j))).toNat
        (((c.map (fun d => (d - blockMin c).toNat) ++ List.replicate (padLen c.length) 0).drop (32 * j)).take 32) := by
  rw [toNat_ofNat_width]
  by_cases h : 32 * j < c.length
  · rw [chunk_eq _ c j h]
    unfold miniBytes
    by_cases hw : miniWidth (blockMin c) (miniSlice c j) = 0
    · rw [if_pos hw, hw]; simp
    · rw [if_neg hw]
      simp only [Bool.false_and, Bool.false_eq_true, if_false]
      rw [packBits_eq]
      congr 1
      unfold toPack
      simp only [List.map_append, List.map_map, List.map_replicate, miniBlockSize, blockSize, miniBlocks]
      congr 1
      · apply List.map_congr_left
        intro d hd
        simp only [Function.comp_def]
        exact Nat.mod_eq_of_lt ((miniWidth_fits (blockMin c) (miniSlice c j)).2 d hd)
  · obtain ⟨h1, h2⟩ := chunk_nil (fun d => (d - blockMin c).toNat) c j (by omega)
    rw [h1, h2, miniWidth_nil]
    simp [miniBytes, pack, packedSize, Spec.Delta.bytesOfBits]

theorem packMinis_no_widths (vpm : Nat) (xs : List Nat) : packMinis vpm [] xs = [] := rfl

/-- what `flush_block` appends is the byte image of the grammar block -/
theorem blockBytes_eq (c : List (BitVec 64)) : blockBytes false c = (implBlock c).bytes ⟨128, 4⟩ := by
  unfold blockBytes blockBytesMin Block.bytes implBlock
  have hvpm : Geometry.vpm ⟨128, 4⟩ = 32 := rfl
  simp only [hvpm]
  rw [writeUleb128_eq, zigzagEncode64_toNat]
  congr 1
  simp only [blockWidths, miniIndices_eq, List.map_cons, List.map_nil, List.flatMap_cons, List.flatMap_nil,
    packMinis_cons, packMinis_no_widths, List.append_nil]
  have e0 := miniBytes_eq c 0
  have e1 := miniBytes_eq c 1
  have e2 := miniBytes_eq c 2
  have e3 := miniBytes_eq c 3
  simp only [Nat.mul_zero, List.drop_zero] at e0
  rw [e0, e1, e2, e3]
  simp only [List.drop_drop]

theorem inI64_toInt (v : BitVec 64) : Spec.Delta.inI64 v.toInt := by
  have h1 := @BitVec.le_toInt 64 v
  have h2 := @BitVec.toInt_lt 64 v
  exact ⟨by simpa using h1, by simpa using h2⟩

theorem mem_chunk (f : BitVec 64 → Nat) (c : List (BitVec 64)) (j : Nat) (x : Nat)
    (hx : x ∈ ((c.map f ++ List.replicate (padLen c.length) 0).drop (32 * j)).take 32) :
    x = 0 ∨ ∃ d ∈ miniSlice c j, x = f d := by
  by_cases h : 32 * j < c.length
  · rw [chunk_eq f c j h] at hx
    simp only [List.mem_append, List.mem_map, List.mem_replicate] at hx
    rcases hx with ⟨d, hd, rfl⟩ | ⟨_, rfl⟩
    · exact Or.inr ⟨d, hd, rfl⟩
    · exact Or.inl rfl
  · rw [(chunk_nil f c j (by omega)).1] at hx
    simp at hx

theorem implBlock_wf (c : List (BitVec 64)) (h1 : 0 < c.length) (h2 : c.length ≤ 128) :
    (implBlock c).wf ⟨128, 4⟩ := by
  have hvpm : Geometry.vpm ⟨128, 4⟩ = 32 := rfl
  unfold Block.wf implBlock
  simp only [hvpm, List.length_map, List.length_replicate]
  refine ⟨rfl, h1, h2, by unfold padLen; omega, by unfold padLen; omega, ?_, inI64_toInt _⟩
  have level : ∀ j, (UInt8.ofNat (miniWidth (blockMin c) (miniSlice c j))).toNat ≤ 64 ∧
      ∀ x ∈ ((c.map (fun d => (d - blockMin c).toNat) ++ List.replicate (padLen c.length) 0).drop (32 * j)).take 32,
        x < 2 ^ (UInt8.ofNat (miniWidth (blockMin c) (miniSlice c j))).toNat := by
    intro j
    rw [toNat_ofNat_width]
    refine ⟨(miniWidth_fits _ _).1, fun x hx => ?_⟩
    rcases mem_chunk _ c j x hx with rfl | ⟨d, hd, rfl⟩
    · exact Nat.two_pow_pos _
    · exact (miniWidth_fits _ _).2 d hd
  simp only [blockWidths, miniIndices_eq, List.map_cons, List.map_nil, fits]
  have l0 := level 0
  simp only [Nat.mul_zero, List.drop_zero] at l0
  refine Or.inr ⟨l0.1, l0.2, Or.inr ⟨(level 1).1, (level 1).2, ?_⟩⟩
  rw [List.drop_drop]
  refine Or.inr ⟨(level 2).1, (level 2).2, ?_⟩
  rw [List.drop_drop]
  refine Or.inr ⟨(level 3).1, (level 3).2, ?_⟩
  rw [List.drop_drop]
  apply List.drop_eq_nil_of_le
  simp only [List.length_append, List.length_map, List.length_replicate]
  unfold padLen; omega

/-- the grammar stream a successful `carquet_delta_encode_*` call writes -/
def implStream (v : BitVec 64) (rest : List (BitVec 64)) : Stream :=
  ⟨⟨128, 4⟩, rest.length + 1, v.toInt, (blocksOf [] (deltasFrom v rest)).map implBlock⟩

theorem length_deltasFrom (v : BitVec 64) (rest : List (BitVec 64)) : (deltasFrom v rest).length = rest.length := by
  induction rest generalizing v with
  | nil => rfl
  | cons x xs ih => simp [deltasFrom, ih]

theorem blocksWf_map (l : List (List (BitVec 64))) (h1 : ∀ c ∈ l, 0 < c.length ∧ c.length ≤ 128)
    (h2 : List.Pairwise (fun c _ => c.length = 128) l) : blocksWf ⟨128, 4⟩ (l.map implBlock) := by
  induction l with
  | nil => trivial
  | cons c l ih =>
    have hc := h1 c (by simp)
    rw [List.pairwise_cons] at h2
    rw [List.map_cons, Spec.Delta.blocksWf_cons]
    refine ⟨implBlock_wf c hc.1 hc.2, fun hne => ?_, ih (fun x hx => h1 x (by simp [hx])) h2.2⟩
    obtain ⟨c', hc'⟩ := List.exists_mem_of_ne_nil l (fun h => hne (by rw [h]; rfl))
    simp only [implBlock, List.length_map]
    exact h2.1 c' hc'

theorem totalDeltas_map (l : List (List (BitVec 64))) :
    totalDeltas (l.map implBlock) = l.flatten.length := by
  induction l with
  | nil => rfl
  | cons c l ih =>
    simp only [totalDeltas, List.map_cons, List.sum_cons, List.flatten_cons, List.length_append] at ih ⊢
    rw [ih]; simp [implBlock]

theorem implStream_wf (v : BitVec 64) (rest : List (BitVec 64)) (hlen : rest.length + 1 ≤ 2147483647) :
    (implStream v rest).wf := by
  obtain ⟨h1, h2, h3⟩ := blocksOf_shape (deltasFrom v rest) [] (by simp)
  have hleg : Geometry.legal ⟨128, 4⟩ := by decide
  refine ⟨hleg, blocksWf_map _ h1 h3, Or.inl ?_, ?_⟩
  · simp only [implStream]
    rw [totalDeltas_map, h2]
    simp [length_deltasFrom]
  · refine ⟨?_, ?_, ?_, inI64_toInt v⟩ <;> simp only [implStream] <;> omega

theorem encodeOut_eq (v : BitVec 64) (rest : List (BitVec 64)) (h : rest.length + 1 ≤ 2147483647) :
    encodeOut v rest = (implStream v rest).bytes := by
  unfold encodeOut Stream.bytes Stream.header implStream headerBytes
  simp only [writeUleb128_eq, zigzagEncode64_toNat, List.flatMap_map]
  congr 1
  · have e : ∀ n : Nat, n ≤ 2147483647 → (BitVec.ofNat 64 n).toNat = n := by
      intro n hn; rw [BitVec.toNat_ofNat, Nat.mod_eq_of_lt (by omega)]
    rw [e blockSize (by decide), e miniBlocks (by decide), e _ h]
    rfl
  · have : blockBytes false = fun a => Block.bytes ⟨128, 4⟩ (implBlock a) := funext blockBytes_eq
    rw [this]

theorem bdeltas_implBlock (c : List (BitVec 64)) : bdeltas (implBlock c) = c := by
  simp only [bdeltas, implBlock, List.map_map]
  conv => rhs; rw [← List.map_id c]
  apply List.map_congr_left
  intro d _
  simp only [Function.comp_def, BitVec.ofInt_toInt, BitVec.ofNat_toNat, BitVec.setWidth_eq, id]
  rw [BitVec.add_comm, BitVec.sub_add_cancel]

theorem sums_deltasFrom (v : BitVec 64) (rest : List (BitVec 64)) : sums v (deltasFrom v rest) = rest := by
  induction rest generalizing v with
  | nil => rfl
  | cons x xs ih =>
    simp only [deltasFrom, sums]
    have : v + (x - v) = x := by rw [BitVec.add_comm, BitVec.sub_add_cancel]
    rw [this, ih]

theorem implValues_implStream (v : BitVec 64) (rest : List (BitVec 64)) :
    implValues (implStream v rest) = v :: rest := by
  unfold implValues implStream
  simp only [Nat.succ_ne_zero, if_false, BitVec.ofInt_toInt, List.flatMap_map]
  have : (blocksOf [] (deltasFrom v rest)).flatMap (fun c => bdeltas (implBlock c)) = deltasFrom v rest := by
    have h2 := (blocksOf_shape (deltasFrom v rest) [] (by simp)).2.1
    simp only [bdeltas_implBlock]
    simp only [List.nil_append] at h2
    rw [List.flatMap_id', h2]
  rw [this, sums_deltasFrom]

/-- Everything about a successful encode in one statement: the bytes are the image of a
well-formed 128/4 stream whose register values are the input. -/
theorem encodeV_stream (v : BitVec 64) (rest : List (BitVec 64)) (cap : Nat) (bs : List UInt8)
    (hlen : rest.length + 1 ≤ 2147483647) (h : encodeV false (v :: rest) cap = .ok bs) :
    ∃ s : Stream, s.wf ∧ s.geom = ⟨128, 4⟩ ∧ bs = s.bytes ∧ s.count = rest.length + 1 ∧
      implValues s = v :: rest :=
  ⟨implStream v rest, implStream_wf v rest hlen, rfl,
   by rw [encodeV_ok v rest cap bs h, encodeOut_eq v rest hlen], rfl, implValues_implStream v rest⟩

end Carquet.Impl.Delta
