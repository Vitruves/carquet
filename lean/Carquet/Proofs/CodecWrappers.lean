import Carquet.Impl.CodecWrappers
/- Helper lemmas for the gzip / zstd wrapper theorems. -/
namespace Carquet.Proofs.CodecWrappers
open Carquet.Impl.CodecWrappers

theorem clamp_range (lo hi level : Int) (h : lo ≤ hi) : lo ≤ clamp lo hi level ∧ clamp lo hi level ≤ hi := by
  unfold clamp
  split <;> split <;> omega

theorem clamp_id (lo hi level : Int) (h1 : lo ≤ level) (h2 : level ≤ hi) : clamp lo hi level = level := by
  unfold clamp
  split <;> split <;> omega

/-- the identity "codec": a library that satisfies the contract, used for counterexamples -/
def storeLib : Lib where
  compress := fun _ x cap => if x.length ≤ cap then some x else none
  decompress := fun c cap => if c.length ≤ cap then some c else none
  bound := fun n => n

theorem storeLib_compress {lvl : Int} {x c : List UInt8} {cap : Nat} :
    storeLib.compress lvl x cap = some c ↔ x.length ≤ cap ∧ c = x := by
  simp only [storeLib]
  split <;> simp [*, eq_comm]

theorem storeLib_decompress {c y : List UInt8} {cap : Nat} :
    storeLib.decompress c cap = some y ↔ c.length ≤ cap ∧ y = c := by
  simp only [storeLib]
  split <;> simp [*, eq_comm]

theorem storeLib_contract (lo hi : Int) : storeLib.Contract lo hi where
  fits := fun _ x _ _ _ h => ⟨x, storeLib_compress.mpr ⟨h, rfl⟩⟩
  le_cap := fun _ _ _ _ h => by obtain ⟨h1, rfl⟩ := storeLib_compress.mp h; exact h1
  le_bound := fun _ _ _ _ _ _ h => by obtain ⟨_, rfl⟩ := storeLib_compress.mp h; exact Nat.le_refl _
  roundtrip := fun _ _ _ _ _ _ _ h hc => by
    obtain ⟨_, rfl⟩ := storeLib_compress.mp h
    exact storeLib_decompress.mpr ⟨hc, rfl⟩
  dec_le_cap := fun _ _ _ h => by obtain ⟨h1, rfl⟩ := storeLib_decompress.mp h; exact h1

theorem gzipDecompress_eq (L : Lib) (c : List UInt8) (cap : Nat) :
    gzipDecompress L c cap =
      match L.decompress c cap with
      | some y => .ok y
      | none => .error .invalidData := by
  simp only [gzipDecompress, gzipDecompressG, Bool.or_self, Bool.false_eq_true, if_false, List.take_length]
  cases L.decompress c cap <;> rfl

/-- `zstd.c` and `gzip.c` are the same code up to the level range -/
theorem zstdDecompress_eq (L : Lib) (c : List UInt8) (cap : Nat) :
    zstdDecompress L c cap = gzipDecompress L c cap := rfl

theorem gzipCompress_eq (L : Lib) (x : List UInt8) (cap : Nat) (level : Int) :
    gzipCompress L x cap level = zstdCompress L 9 x cap level := rfl

end Carquet.Proofs.CodecWrappers
