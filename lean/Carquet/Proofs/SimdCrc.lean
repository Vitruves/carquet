import Carquet.Spec.Kernels
import Carquet.Impl.Simd
import Carquet.Gen.Dispatch
import Carquet.Proofs.SimdBlocked
import Carquet.Proofs.Lfsr
/-
C15 helper lemmas: the byte-at-a-time table step of `scalar_crc32c` (dispatch.c) equals eight
shifts of the Castagnoli LFSR (`Lfsr.step8_split` at the polynomial 0x82F63B78); the cascade of
CRC32-instruction loops of `carquet_sse_crc32c`.
-/
namespace Carquet.Proofs.SimdCrc
open Carquet.Spec.Kernels

/-- the table-driven byte update: eight LFSR steps = (eight steps of the low byte) xor (c >> 8) -/
theorem step8_split (c : BitVec 32) : crcStep8 c = crcStep8 (c &&& 0xFF#32) ^^^ (c >>> 8) :=
  Lfsr.step8_split crc32cPoly c

/-- one iteration of the loop of `scalar_crc32c`, for any table whose 256 entries are eight LFSR
steps of their index -/
def tableStep (table : List Nat) (c : BitVec 32) (b : UInt8) : BitVec 32 :=
  BitVec.ofNat 32 (table.getD ((c ^^^ b.toBitVec.setWidth 32) &&& 0xFF#32).toNat 0) ^^^ (c >>> 8)

theorem tableStep_eq_crcByte (table : List Nat)
    (ht : ∀ i : Fin 256, table[i.val]? = some (crcStep8 (BitVec.ofNat 32 i.val)).toNat)
    (c : BitVec 32) (b : UInt8) : tableStep table c b = crcByte c b := by
  unfold tableStep crcByte
  have hlt := Lfsr.and255_lt (c ^^^ b.toBitVec.setWidth 32)
  have hi := ht ⟨_, hlt⟩
  simp only at hi
  rw [List.getD_eq_getElem?_getD, hi, Option.getD_some]
  rw [BitVec.ofNat_toNat, BitVec.setWidth_eq, BitVec.ofNat_toNat, BitVec.setWidth_eq]
  rw [step8_split (c ^^^ b.toBitVec.setWidth 32), BitVec.ushiftRight_xor_distrib, Lfsr.byte_shr8]
  simp

theorem scalarCrc32c_eq (table : List Nat)
    (ht : ∀ i : Fin 256, table[i.val]? = some (crcStep8 (BitVec.ofNat 32 i.val)).toNat)
    (crc : BitVec 32) (data : List UInt8) :
    Carquet.Impl.Simd.scalarCrc32c table crc data = crc32c crc data := by
  unfold Carquet.Impl.Simd.scalarCrc32c crc32c
  congr 1
  generalize ~~~crc = c
  induction data generalizing c with
  | nil => rfl
  | cons b bs ih =>
    simp only [List.foldl_cons]
    have := tableStep_eq_crcByte table ht c b
    unfold tableStep at this
    rw [this]
    exact ih _

/-- the extracted table as a whole (compared front to back: looking the entries up one by one would
walk the list 256 times) -/
theorem crcTable_eq :
    Gen.Dispatch.crc32cTable = (List.range 256).map fun i => (crcStep8 (BitVec.ofNat 32 i)).toNat := by
  decide +kernel

theorem crcTable_ok :
    ∀ i : Fin 256, Gen.Dispatch.crc32cTable[i.val]? = some (crcStep8 (BitVec.ofNat 32 i.val)).toNat := fun i => by
  rw [crcTable_eq, List.getElem?_map, List.getElem?_range i.isLt]; rfl

/-! ### the hardware loops -/

open Carquet.Impl.Simd Carquet.Proofs.SimdBlocked

/-- one loop of the cascade: `W` bytes per CRC32 instruction, in front of a tail that already is the byte loop -/
theorem crcLevel (W : Nat) (hW : 0 < W) (tail : BitVec 32 → List UInt8 → BitVec 32)
    (htail : ∀ c t, tail c t = t.foldl crcByte c) (c : BitVec 32) (data : List UInt8) :
    blockedFold W crc32Instr tail c data = data.foldl crcByte c :=
  blockedFold_eq W hW _ _ _ (fun _ _ _ => rfl) (fun c t _ => htail c t) c data

theorem sseCrcLoops_eq (c : BitVec 32) (data : List UInt8) : sseCrcLoops c data = data.foldl crcByte c :=
  crcLevel 8 (by decide) _ (crcLevel 4 (by decide) _ (crcLevel 2 (by decide) _ fun _ _ => rfl)) c data

theorem sse_crc (crc : BitVec 32) (data : List UInt8) : sseCrc32c crc data = crc32c crc data := by
  unfold sseCrc32c crc32c
  rw [sseCrcLoops_eq]

end Carquet.Proofs.SimdCrc
