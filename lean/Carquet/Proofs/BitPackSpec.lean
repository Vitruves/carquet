import Carquet.Spec.BitPack
import Carquet.Proofs.BitpackImpl
/-
The bit-string definitions of Spec/BitPack.lean in integer form, their round trip, and the
equality of carquet's byte loops (Impl/Bitpack.lean) with them.
-/
namespace Carquet.Proofs.BitPackSpec
open Carquet.Spec.BitPack Carquet.Proofs.NatBits Carquet.Proofs.BitpackImpl
open Carquet.Impl.Bitpack (leNat leBytes)

theorem bitsOf_length (w v : Nat) : (bitsOf w v).length = w := by
  induction w generalizing v with
  | zero => rfl
  | succ w ih => simp [bitsOf, ih]

theorem natOfBits_bitsOf (w v : Nat) : natOfBits (bitsOf w v) = v % 2 ^ w := by
  induction w generalizing v with
  | zero => simp [bitsOf, natOfBits, Nat.mod_one]
  | succ w ih =>
    simp only [bitsOf, natOfBits, ih]
    rw [show w + 1 = 1 + w by omega, mod_pow_add]
    have h : (if (v % 2 == 1) = true then 1 else 0) = v % 2 := by
      have := Nat.mod_two_eq_zero_or_one v
      rcases this with h | h <;> simp [h]
    rw [h]

theorem natOfBits_append (a b : List Bool) :
    natOfBits (a ++ b) = natOfBits a + 2 ^ a.length * natOfBits b := by
  induction a with
  | nil => simp [natOfBits]
  | cons x a ih =>
    simp only [List.cons_append, natOfBits, ih, List.length_cons]
    rw [Nat.pow_succ, Nat.mul_add]
    have : 2 * (2 ^ a.length * natOfBits b) = 2 ^ a.length * 2 * natOfBits b := by
      rw [Nat.mul_comm (2 ^ a.length) 2, Nat.mul_assoc]
    omega

theorem natOfBits_lt (bs : List Bool) : natOfBits bs < 2 ^ bs.length := by
  induction bs with
  | nil => simp [natOfBits]
  | cons b bs ih =>
    simp only [natOfBits, List.length_cons, Nat.pow_succ]
    split <;> omega

theorem natOfBits_take (bs : List Bool) (k : Nat) : natOfBits (bs.take k) = natOfBits bs % 2 ^ k := by
  induction k generalizing bs with
  | zero => simp [natOfBits, Nat.mod_one]
  | succ k ih =>
    cases bs with
    | nil => simp [natOfBits]
    | cons b bs =>
      simp only [List.take_succ_cons, natOfBits, ih]
      rw [show k + 1 = 1 + k by omega, mod_pow_add]
      have h1 : ((if b = true then 1 else 0) + 2 * natOfBits bs) % 2 ^ 1 = (if b = true then 1 else 0) := by
        split <;> omega
      have h2 : ((if b = true then 1 else 0) + 2 * natOfBits bs) / 2 ^ 1 = natOfBits bs := by
        split <;> omega
      rw [h1, h2]

theorem natOfBits_drop (bs : List Bool) (k : Nat) : natOfBits (bs.drop k) = natOfBits bs >>> k := by
  induction k generalizing bs with
  | zero => simp
  | succ k ih =>
    cases bs with
    | nil => simp [natOfBits]
    | cons b bs =>
      simp only [List.drop_succ_cons, ih, natOfBits]
      rw [show k + 1 = 1 + k by omega, ← shr_shr]
      congr 1
      rw [shr_eq]
      split <;> omega

theorem valueBits_length (w : Nat) (vals : List Nat) : (valueBits w vals).length = vals.length * w := by
  induction vals with
  | nil => simp [valueBits]
  | cons v vs ih =>
    simp only [valueBits, List.flatMap_cons, List.length_append, bitsOf_length, List.length_cons] at ih ⊢
    rw [ih, Nat.add_mul]; omega

theorem natOfBits_valueBits (w : Nat) (vals : List Nat) : natOfBits (valueBits w vals) = concat w vals := by
  induction vals with
  | nil => simp [valueBits, natOfBits, concat]
  | cons v vs ih =>
    simp only [valueBits, List.flatMap_cons] at ih ⊢
    rw [natOfBits_append, natOfBits_bitsOf, bitsOf_length, ih, concat]

theorem bytesOfBitsN_eq (n : Nat) (bits : List Bool) :
    bytesOfBitsN n bits = leBytes n (natOfBits bits) := by
  induction n generalizing bits with
  | zero => rfl
  | succ n ih =>
    simp only [bytesOfBitsN, leBytes, ih, natOfBits_take, natOfBits_drop]
    rw [shr_eq]

/-- `Spec.BitPack.pack` in integer form -/
theorem pack_eq (w : Nat) (vals : List Nat) :
    pack w vals = leBytes ((vals.length * w + 7) / 8) (concat w vals) := by
  unfold pack bytesOfBits
  rw [bytesOfBitsN_eq, valueBits_length, natOfBits_valueBits]

theorem bitsOfBytes_length (bs : List UInt8) : (bitsOfBytes bs).length = 8 * bs.length := by
  induction bs with
  | nil => rfl
  | cons b bs ih =>
    simp only [bitsOfBytes, List.flatMap_cons, List.length_append, bitsOf_length, List.length_cons] at ih ⊢
    omega

theorem natOfBits_bitsOfBytes (bs : List UInt8) : natOfBits (bitsOfBytes bs) = leNat bs := by
  induction bs with
  | nil => rfl
  | cons b bs ih =>
    simp only [bitsOfBytes, List.flatMap_cons] at ih ⊢
    rw [natOfBits_append, natOfBits_bitsOf, bitsOf_length, ih, leNat]
    have := b.toNat_lt
    have h8 : (2:Nat) ^ 8 = 256 := by decide
    rw [h8, Nat.mod_eq_of_lt this]

theorem takeValues_eq (w n : Nat) (bits : List Bool) (h : n * w ≤ bits.length) :
    takeValues w n bits = some ((List.range n).map (nth w (natOfBits bits))) := by
  induction n generalizing bits with
  | zero => simp [takeValues]
  | succ n ih =>
    have hw : w ≤ bits.length := by
      rw [Nat.add_mul] at h; omega
    have hrest : n * w ≤ (bits.drop w).length := by
      rw [List.length_drop, Nat.add_mul] at *; omega
    simp only [takeValues, Nat.not_lt.mpr hw, if_false, ih (bits.drop w) hrest]
    rw [List.range_succ_eq_map, List.map_cons, List.map_map]
    congr 2
    · simp [natOfBits_take, nth]
    · apply List.map_congr_left
      intro i _
      simp only [Function.comp, nth, natOfBits_drop, shr_shr]
      rw [show w + w * i = w * (i + 1) by rw [Nat.mul_add]; omega]

/-- `Spec.BitPack.unpack` in integer form -/
theorem unpack_eq (w n : Nat) (bytes : List UInt8) (h : n * w ≤ 8 * bytes.length) :
    unpack w bytes n = some ((List.range n).map (nth w (leNat bytes))) := by
  unfold unpack
  rw [takeValues_eq w n _ (by rw [bitsOfBytes_length]; exact h), natOfBits_bitsOfBytes]

theorem unpack_none (w n : Nat) (bytes : List UInt8) (h : 8 * bytes.length < n * w) :
    unpack w bytes n = none := by
  unfold unpack
  have hb := bitsOfBytes_length bytes
  generalize bitsOfBytes bytes = bits at hb
  rw [← hb] at h
  clear hb
  induction n generalizing bits with
  | zero => simp at h
  | succ n ih =>
    simp only [takeValues]
    split
    · rfl
    · rename_i hlt
      rw [ih (bits.drop w)]
      rw [List.length_drop, Nat.add_mul] at *; omega

/-- Spec round trip: values below `2^w` survive `pack` then `unpack`. -/
theorem unpack_pack (w : Nat) (vals : List Nat) (hv : ∀ v ∈ vals, v < 2 ^ w) :
    unpack w (pack w vals) vals.length = some vals := by
  have hlen : vals.length * w ≤ 8 * ((vals.length * w + 7) / 8) := by omega
  rw [unpack_eq _ _ _ (by rw [pack_eq, leBytes_length]; exact hlen), pack_eq, fields_of_packed w _ vals hv hlen]

/-! ### carquet's loops equal the Spec -/

/-- `carquet_bitpack8_32` writes the Spec packing of its eight values. -/
theorem impl_pack8_eq_spec {w : Nat} (hw : w ≤ 32) (vals : List Nat) (hlen : vals.length = 8) :
    Carquet.Impl.Bitpack.pack8 w vals = pack w vals := by
  rw [pack8_eq hw vals hlen, pack_eq, hlen]
  congr 1; omega

/-- `carquet_bitunpack8_32` reads the Spec unpacking of the first `w` bytes. -/
theorem impl_unpack8_eq_spec {w : Nat} (hw : w ≤ 32) (inp : List UInt8) (hlen : w ≤ inp.length) :
    some (Carquet.Impl.Bitpack.unpack8 w inp) = unpack w (inp.take w) 8 := by
  rw [unpack8_eq hw, unpack_eq]
  rw [List.length_take, Nat.min_eq_left hlen]; omega

end Carquet.Proofs.BitPackSpec
