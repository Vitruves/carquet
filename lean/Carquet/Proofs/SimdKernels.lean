import Carquet.Impl.Simd
import Carquet.Proofs.SimdBlocked
import Carquet.Proofs.SimdPrefix
import Carquet.Proofs.SimdBss
import Carquet.Proofs.SimdBools
import Carquet.Proofs.SimdLevels
/-
C15 helper lemmas: per kernel family, the theorem that takes a block lemma (through the blocked-loop theorem of
`SimdBlocked`) to `kernel model = Spec.Kernels`; the kernels of a family are its instances, in C15 and in the registry.
-/
namespace Carquet.Proofs.SimdKernels
open Carquet Carquet.Impl.Simd
open Carquet.Proofs.SimdBlocked Carquet.Proofs.SimdPrefix Carquet.Proofs.SimdBss Carquet.Proofs.SimdBools
open Carquet.Proofs.SimdLevels

/-! ### prefix sums -/

theorem prefix_of_block {w : Nat} (W : Nat) (blk : BitVec w → List (BitVec w) → List (BitVec w) × BitVec w)
    (hblk : ∀ c b, b.length = W → blk c b = scalarScan psStep c b) (init : BitVec w) (vals : List (BitVec w)) :
    (blockedScan W blk psStep init vals).1 = Spec.Kernels.prefixSum init vals := by
  rw [blockedScan_eq W blk psStep hblk, prefixSum_eq_scan]

/-! ### byte-stream split -/

theorem streams_spec (vals : List (BitVec 32)) :
    streamsOf (bssEncScalar vals) = Spec.Kernels.bssEncode (k := 4) vals := by
  have r4 : List.range 4 = [0, 1, 2, 3] := by decide
  unfold streamsOf bssEncScalar Spec.Kernels.bssEncode
  rw [r4]
  simp [List.flatMap_cons, List.map_map, Function.comp_def]

theorem bss_enc (W : Nat) (hW : 0 < W) (blk : List (BitVec 32) → List T4)
    (hblk : ∀ b, b.length = W → blk b = bssEncScalar b) (vals : List (BitVec 32)) :
    streamsOf (blockedMap W blk bssEncScalar vals) = Spec.Kernels.bssEncode (k := 4) vals := by
  rw [blockedMap_eq W hW blk bssEncScalar bssEncScalar hblk (fun _ _ => rfl)
    (fun a r _ => by simp [bssEncScalar]), streams_spec]

theorem zipStreams_length (n : Nat) (data : List UInt8) (h : data.length = 4 * n) :
    (zipStreams n data).length = n := by
  simp [zipStreams, zip4, List.length_zipWith, List.length_zip, List.length_take, List.length_drop]
  omega

theorem bssDecScalar_zip (n : Nat) (data : List UInt8) (h : data.length = 4 * n) :
    some (bssDecScalar (zipStreams n data)) = Spec.Kernels.bssDecode 4 n data := by
  unfold Spec.Kernels.bssDecode
  rw [if_pos h]
  congr 1
  apply List.ext_getElem
  · simp [bssDecScalar, zipStreams_length n data h]
  · intro i h1 h2
    have hi : i < n := by simpa [bssDecScalar, zipStreams_length n data h] using h1
    have r4 : List.range 4 = [0, 1, 2, 3] := by decide
    simp only [bssDecScalar, List.getElem_map, List.getElem_range, r4, List.map_cons, List.map_nil]
    have g (j : Nat) (hj : j < data.length) : data.getD j 0 = data[j] := by
      rw [List.getD_eq_getElem?_getD, List.getElem?_eq_getElem hj]; rfl
    rw [g _ (by omega), g _ (by omega), g _ (by omega), g _ (by omega)]
    simp [zipStreams, zip4, le32, List.getElem_zipWith, List.getElem_zip, List.getElem_take, List.getElem_drop]

theorem bss_dec (W : Nat) (hW : 0 < W) (blk : List T4 → List (BitVec 32))
    (hblk : ∀ b, b.length = W → blk b = bssDecScalar b) (n : Nat) (data : List UInt8) (h : data.length = 4 * n) :
    some (blockedMap W blk bssDecScalar (zipStreams n data)) = Spec.Kernels.bssDecode 4 n data := by
  rw [blockedMap_eq W hW blk bssDecScalar bssDecScalar hblk (fun _ _ => rfl)
    (fun a r _ => by simp [bssDecScalar]), bssDecScalar_zip n data h]

/-! ### pack -/

theorem pack_of_block (blk : List UInt8 → List UInt8)
    (hblk : ∀ b, b.length = 8 → (∀ x ∈ b, x = 0 ∨ x = 1) → blk b = packScalar b)
    (xs : List UInt8) (hd : ∀ x ∈ xs, x = 0 ∨ x = 1) : blockedMap 8 blk packScalar xs = Spec.Kernels.packBools xs :=
  blockedMap_eq_dom (fun x => x = 0 ∨ x = 1) 8 (by decide) blk packScalar packScalar hblk (fun _ _ _ => rfl)
    (fun a r ha => packScalar_append a r 1 (by omega)) xs hd

theorem avx512_pack (xs : List UInt8) : avx512PackBools xs = Spec.Kernels.packBools xs :=
  blockedMap_eq 64 (by decide) avx512PackBlk avx512PackTail packScalar (fun b _ => avx512_pack_block b)
    (fun t _ => avx512_pack_tail t)
    (fun a r ha => packScalar_append a r 8 (by omega)) xs

/-! ### levels -/

theorem sse_count (levels : List (BitVec 16)) (mx : BitVec 16) :
    sseCountNonNulls levels mx = Spec.Kernels.countNonNulls levels mx := by
  unfold sseCountNonNulls Spec.Kernels.countNonNulls
  rw [blockedFold_eq 8 (by decide) _ _ (cnnStep mx) (fun c b _ => sse_count_block mx c b) (fun _ _ _ => rfl),
    cnn_fold]
  omega

theorem sse_null_bitmap (levels : List (BitVec 16)) (mx : BitVec 16) :
    sseBuildNullBitmap levels mx = Spec.Kernels.buildNullBitmap levels mx :=
  blockedMap_eq 8 (by decide) _ _ (nullBitmapScalar mx) (sse_null_bitmap_block mx) (fun _ _ => rfl)
    (nullBitmapScalar_append mx) levels

theorem scalar_null_bitmap (levels : List (BitVec 16)) (mx : BitVec 16) :
    scalarBuildNullBitmap levels mx = Spec.Kernels.buildNullBitmap levels mx :=
  blockedMap_eq 8 (by decide) _ _ (nullBitmapScalar mx) (fun _ _ => rfl) (fun _ _ => rfl)
    (nullBitmapScalar_append mx) levels

theorem sse_fill (old : List (BitVec 16)) (v : BitVec 16) :
    sseFillDefLevels old v = Spec.Kernels.fillDefLevels old.length v := by
  unfold sseFillDefLevels Spec.Kernels.fillDefLevels
  rw [blockedMap_eq 8 (by decide) _ _ (fun t => t.map fun _ => v) (fun b _ => sse_fill_block v b) (fun _ _ => rfl)
    (fun a r _ => by simp), List.map_const']

/-! ### run length -/

theorem find_run (W : Nat) (blk : BitVec 32 → List (BitVec 32) → Option Nat)
    (hblk : ∀ first b, b.length = W →
      blk first b = if firstIdx (· != first) b < W then some (firstIdx (· != first) b) else none)
    (vals : List (BitVec 32)) : findRunLength W blk vals = Spec.Kernels.findRunLength vals := by
  cases vals with
  | nil => rfl
  | cons x xs =>
    show blockedSearch W (blk x) (· != x) (x :: xs) = Spec.Kernels.firstIdx (· != x) (x :: xs)
    rw [blockedSearch_eq W (blk x) (· != x) (hblk x), firstIdx_spec]

end Carquet.Proofs.SimdKernels
