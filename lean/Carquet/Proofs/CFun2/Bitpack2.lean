import Carquet.Proofs.CFun2.Bitpack
import Carquet.Proofs.CSem
/-
Stage-2 link lemmas for the remaining specialised unpackers of src/core/bitpack.c: read_le16/40/48/56 and
carquet_bitunpack8_1bit/2bit/5bit/6bit/7bit.
-/
namespace Carquet.Proofs.CFun2
open Carquet Carquet.Impl Carquet.Impl.CSem Carquet.Proofs.CSem

theorem read_le40_toNat (p : List UInt8) : (Gen.CFun.read_le40 p).toNat = Bitpack.leNat (p.take 5) :=
  orBytes_toNat p 0 4 (by decide)

theorem read_le48_toNat (p : List UInt8) : (Gen.CFun.read_le48 p).toNat = Bitpack.leNat (p.take 6) :=
  orBytes_toNat p 0 5 (by decide)

theorem read_le56_toNat (p : List UInt8) : (Gen.CFun.read_le56 p).toNat = Bitpack.leNat (p.take 7) :=
  orBytes_toNat p 0 6 (by decide)

theorem extract64_toNat (x : BitVec 64) (m s : Nat) (hm : m < 2 ^ 32) :
    (BitVec.setWidth 32 ((x >>> s) &&& BitVec.ofNat 64 m)).toNat = (x.toNat >>> s) &&& m := by
  rw [BitVec.toNat_setWidth, BitVec.toNat_and, BitVec.toNat_ushiftRight, BitVec.toNat_ofNat,
    Nat.mod_eq_of_lt (Nat.lt_trans hm (by decide)), Nat.mod_eq_of_lt (Nat.lt_of_le_of_lt Nat.and_le_right hm)]

theorem bitunpack8_5bit_eq (input : List UInt8) (values : List (BitVec 32)) (hv : 8 ≤ values.length) :
    (Gen.CFun.carquet_bitunpack8_5bit input values).map BitVec.toNat =
      Bitpack.unpack8_5bit input ++ (values.drop 8).map BitVec.toNat := by
  rw [Gen.CFun.carquet_bitunpack8_5bit, wr_eight _ hv, List.map_append]
  simp only [List.map, extract64_toNat _ 31 _ (by decide), read_le40_toNat]
  rfl

theorem bitunpack8_6bit_eq (input : List UInt8) (values : List (BitVec 32)) (hv : 8 ≤ values.length) :
    (Gen.CFun.carquet_bitunpack8_6bit input values).map BitVec.toNat =
      Bitpack.unpack8_6bit input ++ (values.drop 8).map BitVec.toNat := by
  rw [Gen.CFun.carquet_bitunpack8_6bit, wr_eight _ hv, List.map_append]
  simp only [List.map, extract64_toNat _ 63 _ (by decide), read_le48_toNat]
  rfl

theorem bitunpack8_7bit_eq (input : List UInt8) (values : List (BitVec 32)) (hv : 8 ≤ values.length) :
    (Gen.CFun.carquet_bitunpack8_7bit input values).map BitVec.toNat =
      Bitpack.unpack8_7bit input ++ (values.drop 8).map BitVec.toNat := by
  rw [Gen.CFun.carquet_bitunpack8_7bit, wr_eight _ hv, List.map_append]
  simp only [List.map, extract64_toNat _ 127 _ (by decide), read_le56_toNat]
  rfl

/-- a zero-extended narrower value is non-negative as an `int`: `>>` on it is the logical shift -/
theorem sshr_setWidth {n : Nat} (x : BitVec n) (hn : n < 32) (s : Nat) :
    BitVec.sshiftRight (BitVec.setWidth 32 x) s = BitVec.setWidth 32 x >>> s :=
  sshr_small _ (small_setWidth x (Nat.le_of_lt_succ hn)) s

theorem extractS_toNat {n : Nat} (x : BitVec n) (hn : n < 32) (m : BitVec 32) (s : Nat) :
    (BitVec.sshiftRight (BitVec.setWidth 32 x) s &&& m).toNat = (x.toNat >>> s) &&& m.toNat := by
  rw [sshr_setWidth x hn, extract32_toNat, BitVec.toNat_setWidth_of_le (Nat.le_of_lt hn)]

/-- `read_le16` computes in `int` and converts back to `uint16_t` -/
theorem read_le16_toNat (p : List UInt8) : (Gen.CFun.read_le16 p).toNat = Bitpack.leNat (p.take 2) := by
  have h : (BitVec.setWidth 32 (rd8 p 0) ||| (BitVec.setWidth 32 (rd8 p 1) <<< 8)).toNat = Bitpack.leNat (p.take 2) :=
    orBytes_toNat p 0 1 (by decide)
  rw [Gen.CFun.read_le16, BitVec.setWidth_setWidth (by decide), BitVec.setWidth_setWidth (by decide),
    BitVec.toNat_setWidth, h]
  exact Nat.mod_eq_of_lt (leNat_take_lt p 2)

theorem bitunpack8_2bit_eq (input : List UInt8) (values : List (BitVec 32)) (hv : 8 ≤ values.length) :
    (Gen.CFun.carquet_bitunpack8_2bit input values).map BitVec.toNat =
      Bitpack.unpack8_2bit input ++ (values.drop 8).map BitVec.toNat := by
  rw [Gen.CFun.carquet_bitunpack8_2bit, wr_eight _ hv, List.map_append]
  simp only [List.map, extractS_toNat _ (show 16 < 32 by decide), read_le16_toNat]
  rfl

theorem bitunpack8_1bit_eq (input : List UInt8) (values : List (BitVec 32)) (hv : 8 ≤ values.length) :
    (Gen.CFun.carquet_bitunpack8_1bit input values).map BitVec.toNat =
      Bitpack.unpack8_1bit input ++ (values.drop 8).map BitVec.toNat := by
  rw [Gen.CFun.carquet_bitunpack8_1bit, wr_eight _ hv, List.map_append]
  simp only [List.map, extractS_toNat _ (show 8 < 32 by decide)]
  rfl

/-- the dispatch part of `carquet_bitunpack8_32`: widths 0..8 -/
theorem bitunpack8_32_small (input : List UInt8) (values : List (BitVec 32)) (w : Nat) (hw : w ≤ 8)
    (hi : w ≤ input.length) (hv : 8 ≤ values.length) :
    (Gen.CFun.carquet_bitunpack8_32 input (BitVec.ofNat 32 w) values).map BitVec.toNat =
      Bitpack.unpack8 w input ++ (values.drop 8).map BitVec.toNat := by
  match w, hw with
  | 0, _ => simp [Gen.CFun.carquet_bitunpack8_32, Bitpack.unpack8, fill, List.take_zero]
  | 1, _ => exact bitunpack8_1bit_eq input values hv
  | 2, _ => exact bitunpack8_2bit_eq input values hv
  | 3, _ => exact bitunpack8_3bit_eq input values hv
  | 4, _ => exact bitunpack8_4bit_eq input values hv
  | 5, _ => exact bitunpack8_5bit_eq input values hv
  | 6, _ => exact bitunpack8_6bit_eq input values hv
  | 7, _ => exact bitunpack8_7bit_eq input values hv
  | 8, _ => exact bitunpack8_8bit_eq input values hv
  | w + 9, hw => exact absurd hw (by omega)

end Carquet.Proofs.CFun2
