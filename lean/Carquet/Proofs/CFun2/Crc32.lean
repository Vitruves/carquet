import Carquet.Proofs.CFun2.Mem
import Carquet.Proofs.CFun.Basic
import Carquet.Impl.Crc32
import Carquet.Gen.CFun
import Carquet.Proofs.Lfsr
/-
Stage-2 link lemmas for src/util/crc32.c: the two loops of `crc32_slicing_by_8` against Impl.Crc32.loop on a built table,
and `crc32_init_tables` building that table (row 0 by the bit loop, rows 1..7 from the rows before).
-/
namespace Carquet.Proofs.CFun2
open Carquet Carquet.Impl Carquet.Impl.CSem Carquet.Proofs.CSem
open Carquet.Proofs.Lfsr (and255_lt)

/-- `T` is the content of `crc32_tables[8][256]` (flat, row-major) after `crc32_init_tables` -/
def IsCrcTable (T : List (BitVec 32)) : Prop :=
  T.length = 2048 ∧ ∀ k i, k < 8 → i < 256 → rd T (i + 256 * k) = Crc32.table k i

theorem shr24_lt (x : BitVec 32) : (x >>> 24).toNat < 256 := by
  rw [BitVec.toNat_ushiftRight, Nat.shiftRight_eq_div_pow]
  exact Nat.div_lt_of_lt_mul x.isLt

theorem ld32le_drop (d : List UInt8) (p : Nat) :
    ld32le d p = Crc32.le32 (d.getD p 0) (d.getD (p + 1) 0) (d.getD (p + 2) 0) (d.getD (p + 3) 0) := rfl

/-- the tail loop `while (length--)`, `length` bytes being left from `off` on -/
theorem crc_loop2 (d : List UInt8) (T : List (BitVec 32)) (fl : BitVec 32) (hT : IsCrcTable T) :
    ∀ (fuel : Nat) (crc : BitVec 32) (off : Nat) (len : BitVec 64), off + len.toNat = d.length → len.toNat < fuel →
      Gen.CFun.crc32_slicing_by_8_loop2 fuel d crc off len T fl = (~~~ ((d.drop off).foldl Crc32.tailStep crc), T, fl) ∧
      Gen.CFun.crc32_slicing_by_8_loop2_defined fuel d crc off len T fl = true := by
  have hL : ∀ f crc off len, Gen.CFun.crc32_slicing_by_8_loop2 (f + 1) d crc off len T fl =
      if len != 0#64 then
        Gen.CFun.crc32_slicing_by_8_loop2 f d
          (rd T ((crc ^^^ BitVec.setWidth 32 (rd8 d off)) &&& 255#32).toNat ^^^ (crc >>> 8)) (off + 1) (len - 1#64) T fl
      else (~~~crc, T, fl) := fun _ _ _ _ => rfl
  intro fuel
  induction fuel with
  | zero => intro crc off len _ hf; exact absurd hf (Nat.not_lt_zero _)
  | succ f ih =>
    intro crc off len hoff hf
    rw [hL, Gen.CFun.crc32_slicing_by_8_loop2_defined]
    by_cases h0 : len = 0#64
    · subst h0
      rw [drop_short d off (by rw [← hoff]; exact Nat.le_refl _)]
      exact ⟨rfl, rfl⟩
    · have hsub : (len - 1#64).toNat = len.toNat - 1 := CFun.toNat_sub_one (w := 63) len h0
      have hpos : 0 < len.toNat := Nat.pos_of_ne_zero fun e => h0 (BitVec.eq_of_toNat_eq e)
      have hidx := and255_lt (crc ^^^ BitVec.setWidth 32 (rd8 d off))
      have ht := hT.2 0 _ (by decide) hidx
      rw [Nat.mul_zero, Nat.add_zero] at ht
      have hi := fun c => ih c (off + 1) (len - 1#64) (by omega) (by omega)
      rw [if_pos (by simpa using h0), if_pos (by simpa using h0), (hi _).1, (hi _).2, drop_eq_cons d off (by omega), List.foldl_cons,
        (inb_iff d off 1).mpr (by omega), decide_eq_true hidx, ht]
      exact ⟨rfl, rfl⟩

theorem shr24_and (x : BitVec 32) : (x >>> 24) &&& 255#32 = x >>> 24 := by
  apply BitVec.eq_of_toNat_eq
  rw [BitVec.toNat_and, show (255#32).toNat = 2 ^ 8 - 1 from rfl, Nat.and_two_pow_sub_one_eq_mod]
  exact Nat.mod_eq_of_lt (shr24_lt x)

theorem crc_loop_short (crc : BitVec 32) (l : List UInt8) (h : l.length < 8) :
    Crc32.loop crc l = l.foldl Crc32.tailStep crc := by
  rw [Crc32.loop.eq_2]
  intros; rename_i heq; subst heq; simp only [List.length_cons] at h; omega

/-- the eight look-ups of one round of `while (length >= 8)` in the table memory `T`, on the two words loaded (the first
already XORed with the register) -/
def slice8T (T : List (BitVec 32)) (one two : BitVec 32) : BitVec 32 :=
  rd T ((one &&& 255#32).toNat + 1792) ^^^ rd T (((one >>> 8) &&& 255#32).toNat + 1536) ^^^
  rd T (((one >>> 16) &&& 255#32).toNat + 1280) ^^^ rd T ((one >>> 24).toNat + 1024) ^^^
  rd T ((two &&& 255#32).toNat + 768) ^^^ rd T (((two >>> 8) &&& 255#32).toNat + 512) ^^^
  rd T (((two >>> 16) &&& 255#32).toNat + 256) ^^^ rd T (two >>> 24).toNat

/-- in a built table they are the model's round -/
theorem slice8T_eq {T : List (BitVec 32)} (hT : IsCrcTable T) (crc : BitVec 32) (b0 b1 b2 b3 b4 b5 b6 b7 : UInt8) :
    slice8T T (Crc32.le32 b0 b1 b2 b3 ^^^ crc) (Crc32.le32 b4 b5 b6 b7) = Crc32.slice8 crc b0 b1 b2 b3 b4 b5 b6 b7 := by
  have t0 : ∀ x : BitVec 32, rd T (x >>> 24).toNat = Crc32.table 0 (x >>> 24).toNat := fun x =>
    hT.2 0 _ (by decide) (shr24_lt x)
  have t : ∀ k, k < 8 → ∀ i, i < 256 → rd T (i + 256 * k) = Crc32.table k i := fun k hk i hi => hT.2 k i hk hi
  rw [slice8T, t 7 (by decide) _ (and255_lt _), t 6 (by decide) _ (and255_lt _), t 5 (by decide) _ (and255_lt _),
    t 4 (by decide) _ (shr24_lt _), t 3 (by decide) _ (and255_lt _), t 2 (by decide) _ (and255_lt _),
    t 1 (by decide) _ (and255_lt _), t0]
  simp only [Crc32.slice8, Crc32.idx, shr24_and, BitVec.ushiftRight_zero]

/-- the main loop `while (length >= 8)`, and the tail loop it ends in -/
theorem crc_loop1 (d : List UInt8) (T : List (BitVec 32)) (fl : BitVec 32) (hT : IsCrcTable T) :
    ∀ (fuel : Nat) (crc : BitVec 32) (off : Nat) (len : BitVec 64), off + len.toNat = d.length → len.toNat / 8 < fuel →
      Gen.CFun.crc32_slicing_by_8_loop1 fuel d crc off len T fl = (~~~ (Crc32.loop crc (d.drop off)), T, fl) ∧
      Gen.CFun.crc32_slicing_by_8_loop1_defined fuel d crc off len T fl = true := by
  have hL : ∀ f crc off len, Gen.CFun.crc32_slicing_by_8_loop1 (f + 1) d crc off len T fl =
      if decide (8#64 ≤ len) then
        Gen.CFun.crc32_slicing_by_8_loop1 f d (slice8T T (ld32le d off ^^^ crc) (ld32le d (off + 4))) (off + 8) (len - 8#64) T fl
      else Gen.CFun.crc32_slicing_by_8_loop2 (len.toNat + 1) d crc off len T fl := fun _ _ _ _ => rfl
  intro fuel
  induction fuel with
  | zero => intro crc off len _ hf; exact absurd hf (Nat.not_lt_zero _)
  | succ f ih =>
    intro crc off len hoff hf
    rw [hL, Gen.CFun.crc32_slicing_by_8_loop1_defined]
    by_cases h8 : 8#64 ≤ len
    · have h8n : 8 ≤ len.toNat := h8
      have hsub : (len - 8#64).toNat = len.toNat - 8 := BitVec.toNat_sub_of_le h8
      have hi := fun c => ih c (off + 8) (len - 8#64) (by omega) (by omega)
      rw [decide_eq_true h8, if_pos rfl, if_pos rfl, (hi _).1, (hi _).2, drop_eq_cons8 d off (by omega), Crc32.loop.eq_1,
        (inb_iff d off 4).mpr (by omega), (inb_iff d (off + 4) 4).mpr (by omega), ld32le_drop, ld32le_drop, slice8T_eq hT]
      simp only [and255_lt, shr24_lt, decide_true, Bool.and_self, and_self]
    · have h8n : len.toNat < 8 := Nat.lt_of_not_le h8
      obtain ⟨r1, r2⟩ := crc_loop2 d T fl hT (len.toNat + 1) crc off len hoff (Nat.lt_succ_self _)
      rw [decide_eq_false h8, if_neg Bool.false_ne_true, if_neg Bool.false_ne_true, r1, r2,
        crc_loop_short _ _ (by rw [List.length_drop]; omega)]
      exact ⟨rfl, rfl⟩

/-- entry `n` of the flat table: `crc32_tables[n / 256][n % 256]` -/
def tb (n : Nat) : BitVec 32 := Crc32.table (n / 256) (n % 256)

/-- the table when the first `m` entries have been generated, on top of the initial content `T0` -/
def F (T0 : List (BitVec 32)) (m : Nat) : List (BitVec 32) := (List.range m).map tb ++ T0.drop m

theorem F_length (T0 : List (BitVec 32)) (m : Nat) (h0 : T0.length = 2048) (hm : m ≤ 2048) : (F T0 m).length = 2048 := by
  simp [F]; omega

theorem rd_F (T0 : List (BitVec 32)) (m j : Nat) (hj : j < m) : rd (F T0 m) j = tb j := by
  simp [rd, F, List.getD, List.getElem?_append_left, hj]

theorem wr_F (T0 : List (BitVec 32)) (m : Nat) (h0 : T0.length = 2048) (hm : m < 2048) :
    wr (F T0 m) m (tb m) = F T0 (m + 1) := by
  have hl : ((List.range m).map tb).length = m := by simp
  have hd : T0.drop m = T0[m]'(by omega) :: T0.drop (m + 1) := List.drop_eq_getElem_cons (by omega)
  simp only [wr, F, List.set_append, hl, Nat.lt_irrefl, if_false, Nat.sub_self, hd, List.set_cons_zero,
    List.range_succ, List.map_append, List.append_assoc]
  rfl

theorem F_zero (T0 : List (BitVec 32)) : F T0 0 = T0 := by simp [F]

theorem and1_ne0 (x : BitVec 32) : (x &&& 1#32 != 0#32) = decide (x &&& 1#32 = 1#32) := by
  rw [BitVec.and_one_eq_setWidth_ofBool_getLsbD]
  cases x.getLsbD 0 <;> decide

theorem init_loop2_eq (T : List (BitVec 32)) (fl i crc : BitVec 32) :
    Gen.CFun.crc32_init_tables_loop2 9 T fl i crc 0#32 =
      (Crc32.tblStep (Crc32.tblStep (Crc32.tblStep (Crc32.tblStep (Crc32.tblStep (Crc32.tblStep (Crc32.tblStep (Crc32.tblStep crc))))))), 8#32) := by
  have hstep : ∀ c : BitVec 32, (if c &&& 1#32 = 0#32 then c >>> 1 else (c >>> 1) ^^^ 3988292384#32) = Crc32.tblStep c := by
    intro c
    have := and1_ne0 c
    simp only [Crc32.tblStep, Crc32.poly]
    by_cases h : c &&& 1#32 = 0#32
    · simp [h]
    · have h1 : c &&& 1#32 = 1#32 := by
        have h2 : (c &&& 1#32 != 0#32) = true := by simp [h]
        rw [this] at h2
        exact of_decide_eq_true h2
      simp [h1]
  simp [Gen.CFun.crc32_init_tables_loop2, hstep]

theorem init_loop2_defined (T : List (BitVec 32)) (fl i crc : BitVec 32) :
    Gen.CFun.crc32_init_tables_loop2_defined 9 T fl i crc 0#32 = true := by
  simp [Gen.CFun.crc32_init_tables_loop2_defined, sAddOk, BitVec.saddOverflow]
theorem tb_row0 (n : Nat) (h : n < 256) : tb n = Crc32.table0 n := by
  simp [tb, Nat.div_eq_of_lt h, Nat.mod_eq_of_lt h, Crc32.table]

theorem tb_row (k n : Nat) (h : n < 256) : tb (k * 256 + n) = Crc32.table k n := by
  have h1 : (k * 256 + n) / 256 = k := by omega
  have h2 : (k * 256 + n) % 256 = n := by omega
  simp [tb, h1, h2]

/-- loop #3/#4 of `crc32_init_tables`: row `k + 1` from row `k` and row 0 -/
theorem init_loop4 (T0 : List (BitVec 32)) (fl : BitVec 32) (h0 : T0.length = 2048) (k : Nat) (hk : k < 7) :
    ∀ (fuel n : Nat), n ≤ 256 → 256 - n < fuel →
      Gen.CFun.crc32_init_tables_loop4 fuel (F T0 ((k + 1) * 256 + n)) fl (BitVec.ofNat 32 (k + 1)) (BitVec.ofNat 32 n) =
        (F T0 ((k + 1) * 256 + 256), 256#32) ∧
      Gen.CFun.crc32_init_tables_loop4_defined fuel (F T0 ((k + 1) * 256 + n)) fl (BitVec.ofNat 32 (k + 1)) (BitVec.ofNat 32 n) = true := by
  intro fuel
  induction fuel with
  | zero => intro n _ hf; exact absurd hf (Nat.not_lt_zero _)
  | succ f ih =>
    intro n hn hf
    rw [Gen.CFun.crc32_init_tables_loop4, Gen.CFun.crc32_init_tables_loop4_defined, ofNat_slt _ _ (by omega) (by decide)]
    by_cases hlt : n < 256
    · have hidx := and255_lt (Crc32.table k n)
      obtain ⟨r1, r2⟩ := ih (n + 1) hlt (by omega)
      rw [decide_eq_true hlt, if_pos rfl, if_pos rfl, ← ofNat_add k 1, BitVec.add_sub_cancel, ofNat_add _ _,
        ofNat_toInt_toNat (k + 1) (by omega), ofNat_toInt_toNat (k) (by omega), ofNat_toInt (n) (by omega),
        ofNat_toInt (k + 1) (by omega), ofNat_toInt (k) (by omega), padd_nat, padd_nat, paddOk_nat, paddOk_nat,
        rd_F T0 _ (k * 256 + n) (by omega), tb_row k n hlt, rd_F T0 _ _ (by omega), tb_row0 _ hidx,
        show (Crc32.table k n >>> 8) ^^^ Crc32.table0 (Crc32.table k n &&& 255#32).toNat = tb ((k + 1) * 256 + n) from
          (tb_row (k + 1) n hlt).symm,
        wr_F T0 _ h0 (by omega), ofNat_add _ _, Nat.add_assoc, r1, r2, ofNat_msb (k + 1) (by omega),
        ofNat_msb (k) (by omega), ofNat_sAddOk _ _ (by omega), ofNat_sSubOk _ _ (by omega) (by decide),
        decide_eq_true hidx, decide_eq_true (show ((k + 1 : Nat) : Int) < 8 by omega),
        decide_eq_true (show ((k : Nat) : Int) < 8 by omega), decide_eq_true (show ((n : Nat) : Int) < 256 by omega)]
      exact ⟨rfl, rfl⟩
    · rw [decide_eq_false hlt, if_neg Bool.false_ne_true, if_neg Bool.false_ne_true, show n = 256 by omega]
      exact ⟨rfl, rfl⟩

theorem init_loop3 (T0 : List (BitVec 32)) (fl : BitVec 32) (h0 : T0.length = 2048) :
    ∀ (fuel k : Nat), k ≤ 7 → 7 - k < fuel →
      Gen.CFun.crc32_init_tables_loop3 fuel (F T0 ((k + 1) * 256)) fl (BitVec.ofNat 32 (k + 1)) = (F T0 2048, 1#32) ∧
      Gen.CFun.crc32_init_tables_loop3_defined fuel (F T0 ((k + 1) * 256)) fl (BitVec.ofNat 32 (k + 1)) = true := by
  intro fuel
  induction fuel with
  | zero => intro k _ hf; exact absurd hf (Nat.not_lt_zero _)
  | succ f ih =>
    intro k hk hf
    rw [Gen.CFun.crc32_init_tables_loop3, Gen.CFun.crc32_init_tables_loop3_defined, ofNat_slt _ _ (by omega) (by decide)]
    by_cases hlt : k < 7
    · obtain ⟨r1, r2⟩ := init_loop4 T0 fl h0 k hlt 257 0 (Nat.zero_le _) (by decide)
      obtain ⟨s1, s2⟩ := ih (k + 1) hlt (by omega)
      rw [Nat.add_zero] at r1 r2
      rw [Nat.add_mul, Nat.one_mul] at s1 s2
      rw [decide_eq_true (by omega), if_pos rfl, if_pos rfl, r1, r2, ofNat_add _ _, ofNat_sAddOk _ _ (by omega)]
      refine ⟨s1, ?_⟩
      show (true && (true && Gen.CFun.crc32_init_tables_loop3_defined f _ fl _)) = true
      rw [s2]; rfl
    · rw [decide_eq_false (by omega), if_neg Bool.false_ne_true, if_neg Bool.false_ne_true, show k = 7 by omega]
      exact ⟨rfl, rfl⟩

/-- the loop over row 0 (and, in its exit branch, the rest of the function) -/
theorem init_loop1 (T0 : List (BitVec 32)) (fl : BitVec 32) (h0 : T0.length = 2048) :
    ∀ (fuel n : Nat), n ≤ 256 → 256 - n < fuel →
      Gen.CFun.crc32_init_tables_loop1 fuel (F T0 n) fl (BitVec.ofNat 32 n) = (F T0 2048, 1#32) ∧
      Gen.CFun.crc32_init_tables_loop1_defined fuel (F T0 n) fl (BitVec.ofNat 32 n) = true := by
  intro fuel
  induction fuel with
  | zero => intro n _ hf; exact absurd hf (Nat.not_lt_zero _)
  | succ f ih =>
    intro n hn hf
    rw [Gen.CFun.crc32_init_tables_loop1, Gen.CFun.crc32_init_tables_loop1_defined, ofNat_slt _ _ (by omega) (by decide)]
    by_cases hlt : n < 256
    · obtain ⟨r1, r2⟩ := ih (n + 1) hlt (by omega)
      rw [decide_eq_true hlt, if_pos rfl, if_pos rfl, init_loop2_eq, init_loop2_defined]
      show Gen.CFun.crc32_init_tables_loop1 f (wr (F T0 n) (BitVec.ofNat 32 n).toInt.toNat (Crc32.table0 n)) fl _ = _ ∧
        (true && (!(BitVec.ofNat 32 n).msb && decide ((BitVec.ofNat 32 n).toInt < 256) &&
          (sAddOk (BitVec.ofNat 32 n) 1#32 && Gen.CFun.crc32_init_tables_loop1_defined f
            (wr (F T0 n) (BitVec.ofNat 32 n).toInt.toNat (Crc32.table0 n)) fl _))) = true
      rw [ofNat_toInt_toNat _ (by omega), ← tb_row0 n hlt, wr_F T0 n h0 (by omega), ofNat_add _ _, r1, r2,
        ofNat_msb _ (by omega), ofNat_sAddOk _ _ (by omega), ofNat_toInt _ (by omega),
        decide_eq_true (show ((n : Nat) : Int) < 256 by omega)]
      exact ⟨rfl, rfl⟩
    · obtain ⟨r1, r2⟩ := init_loop3 T0 fl h0 8 0 (by decide) (by decide)
      rw [decide_eq_false hlt, if_neg Bool.false_ne_true, if_neg Bool.false_ne_true, show n = 256 by omega]
      exact ⟨r1, r2⟩
theorem isCrcTable_F (T0 : List (BitVec 32)) (h0 : T0.length = 2048) : IsCrcTable (F T0 2048) := by
  refine ⟨F_length T0 2048 h0 (by omega), ?_⟩
  intro k i hk hi
  rw [rd_F _ _ _ (by omega), show i + 256 * k = k * 256 + i from by omega, tb_row k i hi]

theorem init_tables_eq (T0 : List (BitVec 32)) (h0 : T0.length = 2048) :
    Gen.CFun.crc32_init_tables T0 0#32 = (F T0 2048, 1#32) ∧ Gen.CFun.crc32_init_tables_defined T0 0#32 = true := by
  have h1 := init_loop1 T0 0#32 h0 257 0 (by omega) (by omega)
  simp only [F_zero] at h1
  simp [Gen.CFun.crc32_init_tables, Gen.CFun.crc32_init_tables_defined, h1.1, h1.2, h0]
/-- the state of the lazily built table: not yet built (the flag is 0; the memory has the right size, its content does not
matter), or built -/
def CrcState (T : List (BitVec 32)) (fl : BitVec 32) : Prop :=
  (fl = 0#32 ∧ T.length = 2048) ∨ (fl ≠ 0#32 ∧ IsCrcTable T)

theorem CrcState.length {T : List (BitVec 32)} {fl : BitVec 32} (h : CrcState T fl) : T.length = 2048 :=
  h.elim (·.2) (·.2.1)

theorem slicing_eq (T : List (BitVec 32)) (fl crc : BitVec 32) (d : List UInt8) (len : BitVec 64)
    (hlen : len.toNat = d.length) (hst : CrcState T fl) :
    ∃ T' fl', IsCrcTable T' ∧ fl' ≠ 0#32 ∧
      Gen.CFun.crc32_slicing_by_8 T fl crc d len = (Crc32.slicingBy8 crc d, T', fl') ∧
      Gen.CFun.crc32_slicing_by_8_defined T fl crc d len = true := by
  have hk : ∀ T' fl', IsCrcTable T' →
      Gen.CFun.crc32_slicing_by_8_k1 d crc len T' fl' = (Crc32.slicingBy8 crc d, T', fl') ∧
      Gen.CFun.crc32_slicing_by_8_k1_defined d crc len T' fl' = true := fun T' fl' hT' =>
    crc_loop1 d T' fl' hT' (len.toNat / 8 + 1) (~~~crc) 0 len (by omega) (Nat.lt_succ_self _)
  rw [Gen.CFun.crc32_slicing_by_8, Gen.CFun.crc32_slicing_by_8_defined]
  rcases hst with ⟨rfl, hT⟩ | ⟨hfl, hT⟩
  · have hi := init_tables_eq T hT
    have hF := isCrcTable_F T hT
    refine ⟨F T 2048, 1#32, hF, by decide, ?_, ?_⟩
    · rw [show (!(0#32 != 0#32)) = true from rfl, if_pos rfl, hi.1]; exact (hk _ _ hF).1
    · rw [show (!(0#32 != 0#32)) = true from rfl, if_pos rfl, hi.1, hi.2, hT]
      show (_ && (true && Gen.CFun.crc32_slicing_by_8_k1_defined d crc len (F T 2048) 1#32)) = true
      rw [(hk _ _ hF).2]; rfl
  · have hne : (!(fl != 0#32)) = false := by rw [bne_iff_ne.mpr hfl]; rfl
    refine ⟨T, fl, hT, hfl, ?_, ?_⟩
    · rw [hne, if_neg Bool.false_ne_true]; exact (hk _ _ hT).1
    · rw [hne, if_neg Bool.false_ne_true, (hk _ _ hT).2, hT.1]; rfl
end Carquet.Proofs.CFun2
