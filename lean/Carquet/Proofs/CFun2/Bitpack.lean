import Carquet.Proofs.CFun2.Loads
import Carquet.Proofs.Lists
import Carquet.Impl.Bitpack
import Carquet.Gen.CFun
/-
Stage-2 link lemmas for src/core/bitpack.c (read_le24/32, carquet_bitunpack8_3bit/4bit/8bit) and the little-endian loads of
src/core/endian.h, against Impl.Bitpack.
-/
namespace Carquet.Proofs.CFun2
open Carquet Carquet.Impl Carquet.Impl.CSem
open Carquet.Proofs.Lists (exists_cons8)

theorem read_le24_toNat (p : List UInt8) : (Gen.CFun.read_le24 p).toNat = Bitpack.leNat (p.take 3) :=
  orBytes_toNat p 0 2 (by decide)

theorem read_le24_defined_iff (p : List UInt8) : Gen.CFun.read_le24_defined p = decide (3 ≤ p.length) := by
  rw [Bool.eq_iff_iff]
  simp [Gen.CFun.read_le24_defined, inb]
  omega

theorem read_le32_toNat (p : List UInt8) : (Gen.CFun.read_le32 p).toNat = Bitpack.leNat (p.take 4) :=
  orBytes_toNat p 0 3 (by decide)

/-- the eight stores `values[0] = x0; …; values[7] = x7` of a specialised unpacker -/
theorem wr_eight (v : List (BitVec 32)) (hv : 8 ≤ v.length) (x0 x1 x2 x3 x4 x5 x6 x7 : BitVec 32) :
    wr (wr (wr (wr (wr (wr (wr (wr v 0 x0) 1 x1) 2 x2) 3 x3) 4 x4) 5 x5) 6 x6) 7 x7 =
      [x0, x1, x2, x3, x4, x5, x6, x7] ++ v.drop 8 := by
  obtain ⟨v0, v1, v2, v3, v4, v5, v6, v7, rest, rfl⟩ := exists_cons8 v hv
  rfl

theorem extract32_toNat (x m : BitVec 32) (s : Nat) : ((x >>> s) &&& m).toNat = (x.toNat >>> s) &&& m.toNat := by
  rw [BitVec.toNat_and, BitVec.toNat_ushiftRight]

theorem bitunpack8_3bit_eq (input : List UInt8) (values : List (BitVec 32)) (hv : 8 ≤ values.length) :
    (Gen.CFun.carquet_bitunpack8_3bit input values).map BitVec.toNat =
      Bitpack.unpack8_3bit input ++ (values.drop 8).map BitVec.toNat := by
  rw [Gen.CFun.carquet_bitunpack8_3bit, wr_eight _ hv, List.map_append]
  simp only [List.map, extract32_toNat, read_le24_toNat]
  rfl

theorem bitunpack8_3bit_defined (input : List UInt8) (values : List (BitVec 32)) (hi : 3 ≤ input.length)
    (hv : 8 ≤ values.length) : Gen.CFun.carquet_bitunpack8_3bit_defined input values = true := by
  simp [Gen.CFun.carquet_bitunpack8_3bit_defined, read_le24_defined_iff, hi, inb, wr]
  omega

theorem bitunpack8_4bit_eq (input : List UInt8) (values : List (BitVec 32)) (hv : 8 ≤ values.length) :
    (Gen.CFun.carquet_bitunpack8_4bit input values).map BitVec.toNat =
      Bitpack.unpack8_4bit input ++ (values.drop 8).map BitVec.toNat := by
  rw [Gen.CFun.carquet_bitunpack8_4bit, wr_eight _ hv, List.map_append]
  simp only [List.map, extract32_toNat, read_le32_toNat]
  rfl

theorem bitunpack8_8bit_eq (input : List UInt8) (values : List (BitVec 32)) (hv : 8 ≤ values.length) :
    (Gen.CFun.carquet_bitunpack8_8bit input values).map BitVec.toNat =
      Bitpack.unpack8_8bit input ++ (values.drop 8).map BitVec.toNat := by
  rw [Gen.CFun.carquet_bitunpack8_8bit, wr_eight _ hv, List.map_append]
  simp only [List.map, BitVec.toNat_setWidth_of_le (show 8 ≤ 32 by decide)]
  rfl

/-! ### src/core/endian.h: `memcpy(&v, p, sizeof v)` loads -/

theorem read_u16_le_toNat (p : List UInt8) : (Gen.CFun.carquet_read_u16_le p).toNat = Bitpack.leNat (p.take 2) :=
  ld16le_leNat p 0

theorem read_u32_le_toNat (p : List UInt8) : (Gen.CFun.carquet_read_u32_le p).toNat = Bitpack.leNat (p.take 4) :=
  ld32le_leNat p 0

theorem read_u64_le_toNat (p : List UInt8) (_ : 8 ≤ p.length) :
    (Gen.CFun.carquet_read_u64_le p).toNat = Bitpack.leNat (p.take 8) :=
  ld64le_leNat p 0

end Carquet.Proofs.CFun2
