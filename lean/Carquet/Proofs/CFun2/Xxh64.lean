import Carquet.Proofs.CFun2.Mem
import Carquet.Properties.C20.CFun
/-
Stage-2 link lemmas for src/util/xxhash.c `carquet_xxhash64` against Impl.Xxh64: the stripe loop, the 8/4/1-byte tail steps
and the avalanche, each loop with its `_defined` in one induction.

Each loop proof begins by reading the translated loop in the model's words (`hL`, by `rfl`): that line is where the generated
text is looked at, up to unfolding, so the `f_vN` helpers of Gen/CFun.lean are never named and a rewrite of the C source
that computes the same terms leaves the proofs as they are.
-/
namespace Carquet.Proofs.CFun2
open Carquet Carquet.Impl Carquet.Impl.CSem Carquet.Properties.C20

theorem read64_le_drop (d : List UInt8) (p : Nat) :
    Gen.CFun.read64_le (d.drop p) =
      Xxh64.read64le (d.getD p 0) (d.getD (p + 1) 0) (d.getD (p + 2) 0) (d.getD (p + 3) 0) (d.getD (p + 4) 0)
        (d.getD (p + 5) 0) (d.getD (p + 6) 0) (d.getD (p + 7) 0) := by
  simp only [Gen.CFun.read64_le, rd8_drop, Nat.add_zero]
  rfl

theorem read32_le_drop (d : List UInt8) (p : Nat) :
    Gen.CFun.read32_le (d.drop p) =
      Xxh64.read32le (d.getD p 0) (d.getD (p + 1) 0) (d.getD (p + 2) 0) (d.getD (p + 3) 0) := by
  simp only [Gen.CFun.read32_le, rd8_drop, Nat.add_zero]
  rfl

theorem read64_le_defined_drop (d : List UInt8) (p : Nat) :
    Gen.CFun.read64_le_defined (d.drop p) = decide (p + 8 ≤ d.length) := by
  rw [Bool.eq_iff_iff]
  simp [Gen.CFun.read64_le_defined]
  omega

theorem read32_le_defined_drop (d : List UInt8) (p : Nat) :
    Gen.CFun.read32_le_defined (d.drop p) = decide (p + 4 ≤ d.length) := by
  rw [Bool.eq_iff_iff]
  simp [Gen.CFun.read32_le_defined]
  omega

theorem rotl_lit (x : BitVec 64) (r : BitVec 32) (n : Nat) (hn : r.toNat = n) (h : 0 < n ∧ n < 64) :
    Gen.CFun.xxh64_rotl x r = Xxh64.rotl x n ∧ Gen.CFun.xxh64_rotl_defined x r = true := by
  subst hn
  rw [C20_cfun_xxh64_rotl x r (Nat.le_of_lt h.2), C20_cfun_xxh64_rotl_defined, decide_eq_true h]
  exact ⟨rfl, rfl⟩

theorem tail1_cons (h : BitVec 64) (b : UInt8) (r : List UInt8) :
    Xxh64.tail1 h (b :: r) = Xxh64.tail1 (Xxh64.tail1Body h b) r := rfl

/-- `while (p < end)` and the final mix -/
theorem loop3_eq (d : List UInt8) (len seed : BitVec 64) :
    ∀ (fuel p : Nat) (h : BitVec 64), p ≤ d.length → d.length - p < fuel →
      Gen.CFun.carquet_xxhash64_loop3 fuel d len seed p d.length h = Xxh64.finalMix (Xxh64.tail1 h (d.drop p)) ∧
      Gen.CFun.carquet_xxhash64_loop3_defined fuel d len seed p d.length h = true := by
  have hL : ∀ f p h, Gen.CFun.carquet_xxhash64_loop3 (f + 1) d len seed p d.length h =
      if decide (p < d.length) then
        Gen.CFun.carquet_xxhash64_loop3 f d len seed (p + 1) d.length (Xxh64.tail1Body h (d.getD p 0))
      else Xxh64.finalMix h := fun _ _ _ => rfl
  intro fuel
  induction fuel with
  | zero => intro p h _ hf; exact absurd hf (Nat.not_lt_zero _)
  | succ f ih =>
    intro p h hp hf
    rw [hL, Gen.CFun.carquet_xxhash64_loop3_defined]
    by_cases hlt : p < d.length
    · rw [decide_eq_true hlt, if_pos rfl, if_pos rfl, (ih (p + 1) _ hlt (by omega)).1, (ih (p + 1) _ hlt (by omega)).2,
        drop_eq_cons d p hlt, (inb_iff d p 1).mpr hlt, (rotl_lit _ 11#32 11 rfl (by decide)).2, tail1_cons]
      exact ⟨rfl, rfl⟩
    · rw [decide_eq_false hlt, if_neg Bool.false_ne_true, if_neg Bool.false_ne_true, drop_short d p (by omega)]
      exact ⟨rfl, rfl⟩

theorem tail8_short (hh : BitVec 64) (l : List UInt8) (h : l.length < 8) : Xxh64.tail8 hh l = (hh, l) := by
  rw [Xxh64.tail8, Xxh64.while8.eq_2]
  intros; rename_i heq; subst heq; simp only [List.length_cons] at h; omega

theorem tail4_short (hh : BitVec 64) (l : List UInt8) (h : l.length < 4) : Xxh64.tail4 hh l = (hh, l) := by
  rw [Xxh64.tail4.eq_2]
  intros; rename_i heq; subst heq; simp only [List.length_cons] at h; omega

theorem finish_cons8 (h : BitVec 64) (b0 b1 b2 b3 b4 b5 b6 b7 : UInt8) (r : List UInt8) :
    Xxh64.finish h (b0 :: b1 :: b2 :: b3 :: b4 :: b5 :: b6 :: b7 :: r) =
      Xxh64.finish (Xxh64.tail8Body h b0 b1 b2 b3 b4 b5 b6 b7) r := by
  simp only [Xxh64.finish, Xxh64.tail8, Xxh64.while8]

/-- `while (p + 8 <= end)`, the 4-byte step, the byte loop and the final mix -/
theorem loop2_eq (d : List UInt8) (len seed : BitVec 64) (hlen : len.toNat = d.length) :
    ∀ (fuel p : Nat) (h : BitVec 64), p ≤ d.length → (d.length - p) / 8 < fuel →
      Gen.CFun.carquet_xxhash64_loop2 fuel d len seed p d.length h = Xxh64.finish h (d.drop p) ∧
      Gen.CFun.carquet_xxhash64_loop2_defined fuel d len seed p d.length h = true := by
  have hL : ∀ f p h, Gen.CFun.carquet_xxhash64_loop2 (f + 1) d len seed p d.length h =
      if decide (p + 8 ≤ d.length) then
        Gen.CFun.carquet_xxhash64_loop2 f d len seed (p + 8) d.length
          (Xxh64.rotl (h ^^^ Xxh64.round 0#64 (Gen.CFun.read64_le (d.drop p))) 27 * Xxh64.prime1 + Xxh64.prime4)
      else
        Gen.CFun.carquet_xxhash64_loop3 (len.toNat + 1) d len seed (if decide (p + 4 ≤ d.length) then p + 4 else p) d.length
          (if decide (p + 4 ≤ d.length) then
            Xxh64.rotl (h ^^^ (Gen.CFun.read32_le (d.drop p)).setWidth 64 * Xxh64.prime1) 23 * Xxh64.prime2 + Xxh64.prime3
           else h) := fun _ _ _ => rfl
  intro fuel
  induction fuel with
  | zero => intro p h _ hf; exact absurd hf (Nat.not_lt_zero _)
  | succ f ih =>
    intro p h hp hf
    rw [hL, Gen.CFun.carquet_xxhash64_loop2_defined]
    by_cases h8 : p + 8 ≤ d.length
    · rw [decide_eq_true h8, if_pos rfl, if_pos rfl, (ih (p + 8) _ h8 (by omega)).1, (ih (p + 8) _ h8 (by omega)).2,
        read64_le_defined_drop, decide_eq_true h8, C20_cfun_xxh64_round_defined, (rotl_lit _ 27#32 27 rfl (by decide)).2,
        read64_le_drop, drop_eq_cons8 d p h8, finish_cons8]
      exact ⟨rfl, rfl⟩
    · rw [decide_eq_false h8, if_neg Bool.false_ne_true, if_neg Bool.false_ne_true, Xxh64.finish,
        tail8_short _ _ (by rw [List.length_drop]; omega)]
      by_cases h4 : p + 4 ≤ d.length
      · rw [decide_eq_true h4, if_pos rfl, if_pos rfl, if_pos rfl, (loop3_eq d len seed _ (p + 4) _ h4 (by omega)).1,
          (loop3_eq d len seed _ (p + 4) _ h4 (by omega)).2, read32_le_defined_drop, decide_eq_true h4,
          (rotl_lit _ 23#32 23 rfl (by decide)).2, read32_le_drop, drop_eq_cons4 d p h4]
        exact ⟨rfl, rfl⟩
      · rw [decide_eq_false h4, if_neg Bool.false_ne_true, if_neg Bool.false_ne_true, if_neg Bool.false_ne_true,
          (loop3_eq d len seed _ p _ hp (by omega)).1, (loop3_eq d len seed _ p _ hp (by omega)).2,
          tail4_short _ _ (by rw [List.length_drop]; omega)]
        exact ⟨rfl, rfl⟩

theorem k1_eq (d : List UInt8) (len seed : BitVec 64) (hlen : len.toNat = d.length) (p : Nat) (h : BitVec 64)
    (hp : p ≤ d.length) :
    Gen.CFun.carquet_xxhash64_k1 d len seed p d.length h = Xxh64.finish (h + len) (d.drop p) ∧
    Gen.CFun.carquet_xxhash64_k1_defined d len seed p d.length h = true :=
  loop2_eq d len seed hlen _ _ _ hp (by omega)

theorem stripeLoop_short (v : Xxh64.V4) (l : List UInt8) (h : l.length < 32) :
    Xxh64.while32 Xxh64.stripeBody v l = (v, l) := by
  rw [Xxh64.while32.eq_2]
  intros; rename_i heq; subst heq; simp only [List.length_cons] at h; omega

theorem drop_eq_cons32 (d : List UInt8) (p : Nat) (h : p + 32 ≤ d.length) :
    d.drop p = d.getD p 0 :: d.getD (p + 1) 0 :: d.getD (p + 2) 0 :: d.getD (p + 3) 0 :: d.getD (p + 4) 0 ::
      d.getD (p + 5) 0 :: d.getD (p + 6) 0 :: d.getD (p + 7) 0 ::
      d.getD (p + 8) 0 :: d.getD (p + 8 + 1) 0 :: d.getD (p + 8 + 2) 0 :: d.getD (p + 8 + 3) 0 :: d.getD (p + 8 + 4) 0 ::
      d.getD (p + 8 + 5) 0 :: d.getD (p + 8 + 6) 0 :: d.getD (p + 8 + 7) 0 ::
      d.getD (p + 16) 0 :: d.getD (p + 16 + 1) 0 :: d.getD (p + 16 + 2) 0 :: d.getD (p + 16 + 3) 0 :: d.getD (p + 16 + 4) 0 ::
      d.getD (p + 16 + 5) 0 :: d.getD (p + 16 + 6) 0 :: d.getD (p + 16 + 7) 0 ::
      d.getD (p + 24) 0 :: d.getD (p + 24 + 1) 0 :: d.getD (p + 24 + 2) 0 :: d.getD (p + 24 + 3) 0 :: d.getD (p + 24 + 4) 0 ::
      d.getD (p + 24 + 5) 0 :: d.getD (p + 24 + 6) 0 :: d.getD (p + 24 + 7) 0 :: d.drop (p + 32) := by
  rw [drop_eq_cons8 d p (by omega), drop_eq_cons8 d (p + 8) (by omega), drop_eq_cons8 d (p + 16) (by omega),
    drop_eq_cons8 d (p + 24) (by omega)]

/-- the stripe loop `do { … } while (p <= limit)`, the merge rounds and everything after them -/
theorem loop1_eq (d : List UInt8) (len seed : BitVec 64) (hlen : len.toNat = d.length) :
    ∀ (fuel p : Nat) (v1 v2 v3 v4 : BitVec 64), p + 32 ≤ d.length → (d.length - p) / 32 ≤ fuel →
      Gen.CFun.carquet_xxhash64_loop1 fuel d len seed p d.length (d.length - 32) v1 v2 v3 v4 =
        Xxh64.finish (Xxh64.mergeAll (Xxh64.stripeLoop ⟨v1, v2, v3, v4⟩ (d.drop p)).1 + len)
          (Xxh64.stripeLoop ⟨v1, v2, v3, v4⟩ (d.drop p)).2 ∧
      Gen.CFun.carquet_xxhash64_loop1_defined fuel d len seed p d.length (d.length - 32) v1 v2 v3 v4 = true := by
  have hL : ∀ f p v1 v2 v3 v4, Gen.CFun.carquet_xxhash64_loop1 (f + 1) d len seed p d.length (d.length - 32) v1 v2 v3 v4 =
      if decide (p + 32 ≤ d.length - 32) then
        Gen.CFun.carquet_xxhash64_loop1 f d len seed (p + 32) d.length (d.length - 32)
          (Xxh64.round v1 (Gen.CFun.read64_le (d.drop p))) (Xxh64.round v2 (Gen.CFun.read64_le (d.drop (p + 8))))
          (Xxh64.round v3 (Gen.CFun.read64_le (d.drop (p + 16)))) (Xxh64.round v4 (Gen.CFun.read64_le (d.drop (p + 24))))
      else
        Gen.CFun.carquet_xxhash64_k1 d len seed (p + 32) d.length
          (Xxh64.mergeAll ⟨Xxh64.round v1 (Gen.CFun.read64_le (d.drop p)), Xxh64.round v2 (Gen.CFun.read64_le (d.drop (p + 8))),
            Xxh64.round v3 (Gen.CFun.read64_le (d.drop (p + 16))), Xxh64.round v4 (Gen.CFun.read64_le (d.drop (p + 24)))⟩) :=
    fun _ _ _ _ _ _ => rfl
  intro fuel
  induction fuel with
  | zero => intro p v1 v2 v3 v4 hp hf; omega
  | succ f ih =>
    intro p v1 v2 v3 v4 hp hf
    rw [hL, Gen.CFun.carquet_xxhash64_loop1_defined]
    simp only [read64_le_drop, read64_le_defined_drop, C20_cfun_xxh64_round_defined,
      decide_eq_true (show p + 8 ≤ d.length by omega), decide_eq_true (show p + 8 + 8 ≤ d.length by omega),
      decide_eq_true (show p + 16 + 8 ≤ d.length by omega), decide_eq_true (show p + 24 + 8 ≤ d.length by omega),
      Bool.true_and]
    rw [drop_eq_cons32 d p hp, Xxh64.stripeLoop, Xxh64.while32.eq_1, Xxh64.stripeBody]
    by_cases hl : p + 32 ≤ d.length - 32
    · rw [decide_eq_true hl, if_pos rfl, if_pos rfl]
      exact ih (p + 32) _ _ _ _ (by omega) (by omega)
    · have hk := fun h => k1_eq d len seed hlen (p + 32) h hp
      rw [decide_eq_false hl, if_neg Bool.false_ne_true, if_neg Bool.false_ne_true,
        stripeLoop_short _ _ (by rw [List.length_drop]; omega), Gen.CFun.carquet_xxhash64_k2_defined, (hk _).1, (hk _).2]
      simp only [C20_cfun_xxh64_merge_round_defined, rotl_lit _ 1#32 1 rfl (by decide),
        rotl_lit _ 7#32 7 rfl (by decide), rotl_lit _ 12#32 12 rfl (by decide), rotl_lit _ 18#32 18 rfl (by decide),
        Bool.and_self, and_self]

theorem xxhash64_eq (d : List UInt8) (len seed : BitVec 64) (hlen : len.toNat = d.length) :
    Gen.CFun.carquet_xxhash64 d len seed = Xxh64.xxh64 d seed ∧ Gen.CFun.carquet_xxhash64_defined d len seed = true := by
  have hl : BitVec.ofNat 64 d.length = len := by rw [← hlen, BitVec.ofNat_toNat, BitVec.setWidth_eq]
  rw [Gen.CFun.carquet_xxhash64, Gen.CFun.carquet_xxhash64_defined, Xxh64.xxh64, Xxh64.start, hl, hlen]
  by_cases h32 : 32 ≤ d.length
  · obtain ⟨r1, r2⟩ := loop1_eq d len seed hlen (d.length / 32 + 1) 0 (seed + 11400714785074694791#64 + 14029467366897019727#64)
      (seed + 14029467366897019727#64) (seed + 0#64) (seed - 11400714785074694791#64) (by omega) (by omega)
    rw [decide_eq_true (show 32#64 ≤ len by rw [BitVec.le_def, hlen]; exact h32), if_pos rfl, if_pos rfl, if_pos h32, r1, r2, decide_eq_true h32]
    exact ⟨rfl, rfl⟩
  · obtain ⟨r1, r2⟩ := k1_eq d len seed hlen 0 (seed + 2870177450012600261#64) (Nat.zero_le _)
    rw [decide_eq_false (show ¬ 32#64 ≤ len by rw [BitVec.le_def, hlen]; exact h32), if_neg Bool.false_ne_true,
      if_neg Bool.false_ne_true, if_neg h32, r1, r2]
    exact ⟨rfl, rfl⟩
end Carquet.Proofs.CFun2
