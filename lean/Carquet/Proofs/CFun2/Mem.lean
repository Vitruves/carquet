import Carquet.Impl.CSem
/-
Memory lemmas of the link theorems (arrays as lists, pointers as offsets): reading through `List.drop`, splitting the bytes
ahead of a pointer into the next `k` bytes and the rest, bounds predicates, the cell at a split point `pre ++ x :: rest`,
`p + k` for a natural `k`.
-/
namespace Carquet.Proofs.CFun2
open Carquet.Impl.CSem

theorem rd8_drop (d : List UInt8) (p i : Nat) : rd8 (d.drop p) i = rd8 d (p + i) := by
  simp [rd8, List.getD, List.getElem?_drop]

theorem rd_drop (d : List (BitVec w)) (p i : Nat) : rd (d.drop p) i = rd d (p + i) := by
  simp [rd, List.getD, List.getElem?_drop]

@[simp] theorem rd8_cons_zero (b : UInt8) (r : List UInt8) : rd8 (b :: r) 0 = b.toBitVec := rfl
@[simp] theorem rd8_cons_succ (b : UInt8) (r : List UInt8) (i : Nat) : rd8 (b :: r) (i + 1) = rd8 r i := by
  simp [rd8, List.getD]

theorem inb_iff (a : List α) (i n : Nat) : inb a i n = true ↔ i + n ≤ a.length := by simp [inb]

@[simp] theorem inb_drop (d : List α) (p i n : Nat) : inb (d.drop p) i n = decide (p + i + n ≤ d.length ∨ (i + n = 0)) := by
  simp only [inb, List.length_drop]
  by_cases h : i + n = 0
  · have : i = 0 ∧ n = 0 := by omega
    simp [this.1, this.2]
  · simp only [h, or_false]
    congr 1
    apply propext
    omega

theorem drop_eq_cons (d : List UInt8) (p : Nat) (h : p < d.length) :
    d.drop p = d.getD p 0 :: d.drop (p + 1) := by
  rw [List.drop_eq_getElem_cons h]
  simp [List.getD, List.getElem?_eq_getElem h]

theorem drop_eq_cons4 (d : List UInt8) (p : Nat) (h : p + 4 ≤ d.length) :
    d.drop p = d.getD p 0 :: d.getD (p + 1) 0 :: d.getD (p + 2) 0 :: d.getD (p + 3) 0 :: d.drop (p + 4) := by
  rw [drop_eq_cons d p (by omega), drop_eq_cons d (p + 1) (by omega), drop_eq_cons d (p + 2) (by omega),
    drop_eq_cons d (p + 3) (by omega)]

theorem drop_eq_cons8 (d : List UInt8) (p : Nat) (h : p + 8 ≤ d.length) :
    d.drop p = d.getD p 0 :: d.getD (p + 1) 0 :: d.getD (p + 2) 0 :: d.getD (p + 3) 0 :: d.getD (p + 4) 0 ::
      d.getD (p + 5) 0 :: d.getD (p + 6) 0 :: d.getD (p + 7) 0 :: d.drop (p + 8) := by
  rw [drop_eq_cons4 d p (by omega), drop_eq_cons4 d (p + 4) (by omega)]

theorem drop_short (d : List α) (p : Nat) (h : d.length ≤ p) : d.drop p = [] := by
  simp [List.drop_eq_nil_iff, h]

theorem rd8_eq (d : List UInt8) (i : Nat) : rd8 d i = (d.getD i 0).toBitVec := rfl

/-! ### the cell at a split point -/

theorem rd_at {w : Nat} (pre : List (BitVec w)) (x : BitVec w) (rest : List (BitVec w)) :
    rd (pre ++ x :: rest) pre.length = x := by simp [rd]

theorem rd8_at (pre : List UInt8) (x : UInt8) (rest : List UInt8) : rd8 (pre ++ x :: rest) pre.length = x.toBitVec := by
  simp [rd8]

theorem wr_at {w : Nat} (pre : List (BitVec w)) (x v : BitVec w) (rest : List (BitVec w)) :
    wr (pre ++ x :: rest) pre.length v = pre ++ v :: rest := by simp [wr]

theorem wr8_at (pre : List UInt8) (x : UInt8) (v : BitVec 8) (rest : List UInt8) :
    wr8 (pre ++ x :: rest) pre.length v = pre ++ UInt8.ofBitVec v :: rest := by simp [wr8]

theorem inb_at {α : Type} (pre : List α) (x : α) (rest : List α) : inb (pre ++ x :: rest) pre.length 1 = true := by
  simp [inb]

/-! ### pointers as offsets -/

theorem padd_nat (a n : Nat) : padd a (n : Int) = a + n := by
  rw [padd, Int.ofNat_eq_natCast, ← Int.natCast_add, Int.toNat_natCast]

theorem paddOk_nat (a n : Nat) : paddOk a (n : Int) = true :=
  decide_eq_true (by rw [Int.ofNat_eq_natCast, ← Int.natCast_add]; exact Int.natCast_nonneg _)

end Carquet.Proofs.CFun2
