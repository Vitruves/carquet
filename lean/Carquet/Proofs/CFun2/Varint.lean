import Carquet.Proofs.CFun2.Mem
import Carquet.Proofs.CSem
import Carquet.Impl.Varint
import Carquet.Proofs.DeltaVarint
import Carquet.Gen.CFun
/-
Stage-2 link lemmas for the varint readers / writers: src/core/endian.h carquet_decode_varint32/64, carquet_encode_varint32/64,
src/encoding/delta.c read_uleb128, src/encoding/rle.c read_varint, as translated from the C source, against Impl.Varint / Impl.Delta.

The four readers are one loop up to the width of the accumulator, the test that bounds the number of bytes and the shape
of the result, and so are the two writers: each family is proved once (`read_loop`, `write_loop`) about a function that
satisfies the unfolding equations of the translated loop, and the translated loops are put in by `rfl`.
-/
namespace Carquet.Proofs.CFun2
open Carquet Carquet.Impl Carquet.Impl.CSem Carquet.Proofs.CSem

theorem cont_bit (b : UInt8) : ((BitVec.setWidth 32 b.toBitVec &&& 128#32) == 0#32) = decide (b.toNat &&& 0x80 = 0) := by
  have hb := b.toNat_lt
  rw [Bool.eq_iff_iff, beq_iff_eq, decide_eq_true_eq, ← BitVec.toNat_inj]
  simp [BitVec.toNat_and, BitVec.toNat_setWidth, Nat.mod_eq_of_lt (show b.toNat < 2 ^ 32 by omega)]

theorem pay32_toNat (b : BitVec 8) : (BitVec.setWidth 32 b &&& 127#32).toNat = b.toNat &&& 0x7F := by
  rw [BitVec.toNat_and, BitVec.toNat_setWidth_of_le (by omega)]; rfl

/-- `(uint64_t)(byte & 0x7F)`: the `int` operand is never negative, so its sign extension adds nothing -/
theorem pay64_toNat (b : BitVec 8) :
    (BitVec.signExtend 64 (BitVec.setWidth 32 b &&& 127#32)).toNat = b.toNat &&& 0x7F := by
  rw [BitVec.signExtend_eq_setWidth_of_msb_false (by rw [BitVec.msb_and, show (127#32).msb = false from rfl, Bool.and_false]),
    BitVec.toNat_setWidth_of_le (by omega), pay32_toNat]

/-- The loop of the four varint readers.  `L` and `D` stand for a translated loop and its `_defined` with the arguments
that never change put in; `test` is the loop test (inside the buffer, and one of the first `n` iterations: `htest`, so that
the order of its two halves in the C source does not matter); `pay` widens the seven payload bits; `done` / `fail` build the results.  Iteration `k` reads `p[pos + k]` with `shift = 7 * k`, and `m`
iterations are left. -/
theorem read_loop {w : Nat} {α : Type} (p : List UInt8) (pos n : Nat)
    (L : Nat → BitVec w → BitVec 32 → BitVec 64 → α) (D : Nat → BitVec w → BitVec 32 → BitVec 64 → Bool)
    (test : BitVec 32 → BitVec 64 → Bool) (pay : BitVec 8 → BitVec w) (done : BitVec 64 → BitVec w → α)
    (fail : BitVec w → α)
    (hL : ∀ f r s i, L (f + 1) r s i =
      if test s i then
        (if (BitVec.setWidth 32 (rd8 p i.toNat) &&& 128#32) == 0#32 then
          done (i + 1#64) (r ||| (pay (rd8 p i.toNat) <<< s.toNat))
         else L f (r ||| (pay (rd8 p i.toNat) <<< s.toNat)) (s + 7#32) (i + 1#64))
      else fail r)
    (hD : ∀ f r s i, D (f + 1) r s i =
      (if test s i then
        (inb p i.toNat 1 && (shCountOk true w s &&
          (if (BitVec.setWidth 32 (rd8 p i.toNat) &&& 128#32) == 0#32 then true
           else (sAddOk s 7#32 && D f (r ||| (pay (rd8 p i.toNat) <<< s.toNat)) (s + 7#32) (i + 1#64)))))
      else true))
    (hlen : p.length < 2 ^ 64) (hpay : ∀ b, (pay b).toNat = b.toNat &&& 0x7F)
    (htest : ∀ k, k ≤ n → pos + k ≤ p.length →
      test (BitVec.ofNat 32 (7 * k)) (BitVec.ofNat 64 (pos + k)) = (decide (pos + k < p.length) && decide (k < n)))
    (hn : 7 * n < w + 7) (hw : w ≤ 64) :
    ∀ (fuel m k : Nat) (r : BitVec w), k + m = n → m < fuel → pos + k ≤ p.length →
      (match Varint.readLoop w m (7 * k) r.toNat (p.drop (pos + k)) with
       | some (v, rest) => L fuel r (BitVec.ofNat 32 (7 * k)) (BitVec.ofNat 64 (pos + k)) =
           done (BitVec.ofNat 64 (p.length - rest.length)) (BitVec.ofNat w v)
       | none => ∃ r', L fuel r (BitVec.ofNat 32 (7 * k)) (BitVec.ofNat 64 (pos + k)) = fail r') ∧
      D fuel r (BitVec.ofNat 32 (7 * k)) (BitVec.ofNat 64 (pos + k)) = true := by
  intro fuel
  induction fuel with
  | zero => intro m k _ _ hf; exact absurd hf (Nat.not_lt_zero m)
  | succ f ih =>
    intro m k r hk hf hpk
    have hi : (BitVec.ofNat 64 (pos + k)).toNat = pos + k := toNat_ofNat _ (Nat.lt_of_le_of_lt hpk hlen)
    rw [hL, hD, htest k (hk ▸ Nat.le_add_right k m) hpk, hi]
    cases m with
    | zero =>
      rw [Varint.readLoop, decide_eq_false (show ¬ k < n by omega), Bool.and_false]
      exact ⟨⟨r, rfl⟩, rfl⟩
    | succ m =>
      have hk7 : 7 * k < w ∧ 7 * k + 7 < 2 ^ 31 := by omega
      have hs : (BitVec.ofNat 32 (7 * k)).toNat = 7 * k := ofNat_toNat _ (by omega)
      rw [decide_eq_true (show k < n by omega), Bool.and_true, hs]
      by_cases h1 : pos + k < p.length
      · have hacc : (r ||| (pay (p.getD (pos + k) 0).toBitVec <<< (7 * k))).toNat =
            r.toNat ||| (((p.getD (pos + k) 0).toNat &&& 0x7F) <<< (7 * k)) % 2 ^ w := by
          rw [BitVec.toNat_or, BitVec.toNat_shiftLeft, hpay]; rfl
        have e1 : BitVec.ofNat 32 (7 * k) + 7#32 = BitVec.ofNat 32 (7 * (k + 1)) := (BitVec.ofNat_add _ _).symm
        have e2 : BitVec.ofNat 64 (pos + k) + 1#64 = BitVec.ofNat 64 (pos + (k + 1)) := (BitVec.ofNat_add _ _).symm
        have hnext := ih m (k + 1) (r ||| (pay (p.getD (pos + k) 0).toBitVec <<< (7 * k))) (by omega) (by omega) h1
        rw [hacc] at hnext
        rw [drop_eq_cons p _ h1, Varint.readLoop, e1, e2, decide_eq_true h1, if_pos rfl, if_pos rfl,
          (inb_iff p _ 1).mpr h1, ofNat_shCountOk true w _ hk7.1 (by omega), rd8_eq, cont_bit]
        by_cases hc : (p.getD (pos + k) 0).toNat &&& 0x80 = 0
        · rw [decide_eq_true hc, if_pos rfl, if_pos hc, if_pos rfl, ← hacc]
          refine ⟨?_, rfl⟩
          show done _ _ = done _ _
          rw [BitVec.ofNat_toNat, BitVec.setWidth_eq, List.length_drop,
            Nat.sub_sub_self (show pos + k + 1 ≤ p.length from h1), Nat.add_assoc]
        · rw [decide_eq_false hc, if_neg Bool.false_ne_true, if_neg hc, if_neg Bool.false_ne_true, hnext.2,
            sAddOk_small _ _ (by rw [hs]; exact hk7.2)]
          exact ⟨hnext.1, rfl⟩
      · rw [drop_short p _ (Nat.le_of_not_lt h1), Varint.readLoop, decide_eq_false h1, if_neg Bool.false_ne_true,
          if_neg Bool.false_ne_true]
        exact ⟨⟨r, rfl⟩, rfl⟩

/-- the loop test of three of the readers, `i < len` and `i < n`, at byte `k` from offset 0.  The C source may have the two
in either order: the instances prove `ht` up to `and_comm`. -/
theorem count_test {len n k : Nat} {t : Bool} (hlen : len < 2 ^ 64) (hn : n < 2 ^ 64) (hkl : 0 + k ≤ len)
    (ht : t = true ↔ BitVec.ofNat 64 (0 + k) < BitVec.ofNat 64 n ∧ BitVec.ofNat 64 (0 + k) < BitVec.ofNat 64 len) :
    t = (decide (0 + k < len) && decide (k < n)) := by
  rw [Bool.eq_iff_iff, ht, Bool.and_eq_true, decide_eq_true_eq, decide_eq_true_eq, BitVec.lt_def, BitVec.lt_def,
    toNat_ofNat _ (Nat.lt_of_le_of_lt hkl hlen), toNat_ofNat _ hlen, toNat_ofNat _ hn, Nat.zero_add]
  exact and_comm

theorem decode_varint32_eq (p : List UInt8) (out : BitVec 32) (hlen : p.length < 2 ^ 64) :
    Gen.CFun.carquet_decode_varint32 p (BitVec.ofNat 64 p.length) out =
      (match Varint.decodeVarint32 p with
       | some (v, rest) => (BitVec.ofNat 32 (p.length - rest.length), BitVec.ofNat 32 v)
       | none => (4294967295#32, out)) ∧
    Gen.CFun.carquet_decode_varint32_defined p (BitVec.ofNat 64 p.length) out = true := by
  have h := read_loop p 0 5
    (fun f r s i => Gen.CFun.carquet_decode_varint32_loop1 f p (BitVec.ofNat 64 p.length) out r s i)
    (fun f r s i => Gen.CFun.carquet_decode_varint32_loop1_defined f p _ out r s i)
    _ (fun b => BitVec.setWidth 32 b &&& 127#32) (fun i v => (BitVec.setWidth 32 i, v))
    (fun _ => (4294967295#32, out)) (fun _ _ _ _ => rfl) (fun _ _ _ _ => rfl) hlen pay32_toNat
    (fun k _ hkl => count_test hlen (by decide) hkl (by simp only [Bool.and_eq_true, decide_eq_true_eq, and_comm]))
    (by omega) (by omega) 6 5 0 0#32 rfl (by omega) (Nat.zero_le _)
  refine ⟨?_, h.2⟩
  have h1 := h.1
  unfold Gen.CFun.carquet_decode_varint32 Varint.decodeVarint32
  revert h1
  show (match Varint.readLoop 32 5 0 0 p with | some (v, rest) => _ | none => _) → _
  cases Varint.readLoop 32 5 0 0 p with
  | none => exact fun ⟨_, h⟩ => h
  | some vr => exact fun h => h.trans (by rw [BitVec.setWidth_ofNat_of_le (by omega)])

theorem decode_varint64_eq (p : List UInt8) (out : BitVec 64) (hlen : p.length < 2 ^ 64) :
    Gen.CFun.carquet_decode_varint64 p (BitVec.ofNat 64 p.length) out =
      (match Varint.decodeVarint64 p with
       | some (v, rest) => (BitVec.ofNat 32 (p.length - rest.length), BitVec.ofNat 64 v)
       | none => (4294967295#32, out)) ∧
    Gen.CFun.carquet_decode_varint64_defined p (BitVec.ofNat 64 p.length) out = true := by
  have h := read_loop p 0 10
    (fun f r s i => Gen.CFun.carquet_decode_varint64_loop1 f p (BitVec.ofNat 64 p.length) out r s i)
    (fun f r s i => Gen.CFun.carquet_decode_varint64_loop1_defined f p _ out r s i)
    _ (fun b => BitVec.signExtend 64 (BitVec.setWidth 32 b &&& 127#32))
    (fun i v => (BitVec.setWidth 32 i, v)) (fun _ => (4294967295#32, out)) (fun _ _ _ _ => rfl) (fun _ _ _ _ => rfl)
    hlen pay64_toNat
    (fun k _ hkl => count_test hlen (by decide) hkl (by simp only [Bool.and_eq_true, decide_eq_true_eq, and_comm]))
    (by omega) (by omega) 11 10 0 0#64 rfl (by omega) (Nat.zero_le _)
  refine ⟨?_, h.2⟩
  have h1 := h.1
  unfold Gen.CFun.carquet_decode_varint64 Varint.decodeVarint64
  revert h1
  show (match Varint.readLoop 64 10 0 0 p with | some (v, rest) => _ | none => _) → _
  cases Varint.readLoop 64 10 0 0 p with
  | none => exact fun ⟨_, h⟩ => h
  | some vr => exact fun h => h.trans (by rw [BitVec.setWidth_ofNat_of_le (by omega)])


theorem read_uleb128_eq (p : List UInt8) (value : BitVec 64) (hlen : p.length < 2 ^ 64) :
    (match Delta.readUleb128 p with
     | some (v, n) => Gen.CFun.read_uleb128 p (BitVec.ofNat 64 p.length) value = (BitVec.ofNat 64 n, v)
     | none => (Gen.CFun.read_uleb128 p (BitVec.ofNat 64 p.length) value).1 = 0#64) ∧
    Gen.CFun.read_uleb128_defined p (BitVec.ofNat 64 p.length) value = true := by
  have h := read_loop p 0 10
    (fun f r s i => Gen.CFun.read_uleb128_loop1 f p (BitVec.ofNat 64 p.length) r s i)
    (fun f r s i => Gen.CFun.read_uleb128_loop1_defined f p _ r s i)
    _ (fun b => BitVec.signExtend 64 (BitVec.setWidth 32 b &&& 127#32))
    (fun i v => (i, v)) (fun r => (0#64, r)) (fun _ _ _ _ => rfl) (fun _ _ _ _ => rfl)
    hlen pay64_toNat
    (fun k _ hkl => count_test hlen (by decide) hkl (by simp only [Bool.and_eq_true, decide_eq_true_eq, and_comm]))
    (by omega) (by omega) 11 10 0 0#64 rfl (by omega) (Nat.zero_le _)
  refine ⟨?_, h.2⟩
  have h1 := h.1
  unfold Gen.CFun.read_uleb128 Delta.readUleb128
  rw [Delta.readUlebLoop_eq, show (0#64).toNat = 0 from rfl]
  revert h1
  show (match Varint.readLoop 64 10 0 0 p with | some (v, rest) => _ | none => _) → _
  cases Varint.readLoop 64 10 0 0 p with
  | none => exact fun ⟨_, h⟩ => congrArg Prod.fst h
  | some vr => exact fun h => h.trans (by rw [Nat.zero_add])


theorem rle_read_varint_eq (p : List UInt8) (pos : BitVec 64) (out : BitVec 32) (hlen : p.length < 2 ^ 64)
    (hpos : pos.toNat ≤ p.length) :
    Gen.CFun.rle_read_varint p (BitVec.ofNat 64 p.length) pos out =
      (match Varint.readVarintRle (p.drop pos.toNat) with
       | some (v, rest) => (0#32, BitVec.ofNat 64 (p.length - rest.length), BitVec.ofNat 32 v)
       | none => (4294967295#32, pos, out)) ∧
    Gen.CFun.rle_read_varint_defined p (BitVec.ofNat 64 p.length) pos out = true := by
  have h := read_loop p pos.toNat 5
    (fun f r s i => Gen.CFun.rle_read_varint_loop1 f p (BitVec.ofNat 64 p.length) pos out r s i)
    (fun f r s i => Gen.CFun.rle_read_varint_loop1_defined f p _ pos out r s i)
    _ (fun b => BitVec.setWidth 32 b &&& 127#32) (fun i v => (0#32, i, v))
    (fun _ => (4294967295#32, pos, out)) (fun _ _ _ _ => rfl) (fun _ _ _ _ => rfl) hlen pay32_toNat
    (fun k _ _ => by
      rw [Bool.eq_iff_iff]
      simp only [Bool.and_eq_true, decide_eq_true_eq, BitVec.lt_def, BitVec.toNat_ofNat,
        ofNat_slt _ _ (show 7 * k < 2 ^ 31 by omega) (show 32 < 2 ^ 31 by decide)]
      omega)
    (by omega) (by omega) 6 5 0 0#32 rfl (by omega) hpos
  rw [show BitVec.ofNat 64 (pos.toNat + 0) = pos by rw [Nat.add_zero, BitVec.ofNat_toNat, BitVec.setWidth_eq]] at h
  refine ⟨?_, h.2⟩
  have h1 := h.1
  unfold Gen.CFun.rle_read_varint Varint.readVarintRle
  revert h1
  show (match Varint.readLoop 32 5 0 0 (p.drop pos.toNat) with | some (v, rest) => _ | none => _) → _
  cases Varint.readLoop 32 5 0 0 (p.drop pos.toNat) with
  | none => exact fun ⟨_, h⟩ => h
  | some vr => exact id

theorem byte_of_setWidth {w : Nat} (x : BitVec w) : UInt8.ofBitVec (BitVec.setWidth 8 x) = UInt8.ofNat x.toNat :=
  UInt8.eq_of_toBitVec_eq (BitVec.eq_of_toNat_eq (by simp))

theorem shr7_lt (v f : Nat) (h : v < 2 ^ (7 * (f + 1 + 1))) : v >>> 7 < 2 ^ (7 * (f + 1)) := by
  rw [Nat.shiftRight_eq_div_pow, Nat.div_lt_iff_lt_mul (by decide), ← Nat.pow_add]; exact h

/-- The `while (v >= 0x80)` loop of `carquet_encode_varint32/64` (`L`, with `D` its `_defined`: `hD` says what it unfolds to
once the flags of the store `p[i]` and of `i++` hold, in whatever order the translation lists them), on a buffer split at the
write position.  A value below `2^(7 (f + 1))` leaves the loop after at most `f` rounds: `f + 1` tests in the C loop
against `f` continuation bytes in the model. -/
theorem write_loop {w : Nat} (hw : 8 ≤ w)
    (L : Nat → List UInt8 → BitVec w → BitVec 32 → BitVec 32 × List UInt8)
    (D : Nat → List UInt8 → BitVec w → BitVec 32 → Bool)
    (hL : ∀ f p v i, L (f + 1) p v i =
      if decide (128#w ≤ v) then
        L f (wr8 p i.toInt.toNat (BitVec.setWidth 8 ((v &&& 127#w) ||| 128#w))) (v >>> 7) (i + 1#32)
      else (i + 1#32, wr8 p i.toInt.toNat (BitVec.setWidth 8 v)))
    (hD : ∀ f p v i, sAddOk i 1#32 = true → i.msb = false → inb p i.toInt.toNat 1 = true →
      D (f + 1) p v i =
        (if decide (128#w ≤ v) then
          D f (wr8 p i.toInt.toNat (BitVec.setWidth 8 ((v &&& 127#w) ||| 128#w))) (v >>> 7) (i + 1#32)
        else true)) :
    ∀ (f : Nat) (v : BitVec w) (pre rest : List UInt8), pre.length + f < 2 ^ 20 → v.toNat < 2 ^ (7 * (f + 1)) →
      (Varint.writeLoop f v.toNat).length ≤ rest.length →
      L (f + 1) (pre ++ rest) v (BitVec.ofNat 32 pre.length) =
        (BitVec.ofNat 32 (pre.length + (Varint.writeLoop f v.toNat).length),
         pre ++ Varint.writeLoop f v.toNat ++ rest.drop (Varint.writeLoop f v.toNat).length) ∧
      D (f + 1) (pre ++ rest) v (BitVec.ofNat 32 pre.length) = true := by
  intro f
  induction f using Nat.strongRecOn with
  | _ f ih =>
    intro v pre rest hk hv hl
    obtain ⟨r0, rest, rfl⟩ : ∃ r0 rest', rest = r0 :: rest' := by
      cases rest with
      | nil => cases f <;> simp [Varint.writeLoop] at hl <;> split at hl <;> simp at hl
      | cons a b => exact ⟨a, b, rfl⟩
    have hi : (BitVec.ofNat 32 pre.length).toInt.toNat = pre.length := by
      rw [ofNat_toInt _ (by omega)]; rfl
    have hlit : ∀ n, n < 2 ^ 8 → (BitVec.ofNat w n).toNat = n := fun n h =>
      Nat.mod_eq_of_lt (Nat.lt_of_lt_of_le h (Nat.pow_le_pow_right (by decide) hw))
    have h128 := hlit 128 (by decide)
    have hc : decide (128#w ≤ v) = decide (v.toNat ≥ 0x80) := decide_eq_decide.mpr (by rw [BitVec.le_def, h128])
    rw [hL, hD _ _ _ _ (ofNat_sAddOk _ _ (by omega)) (ofNat_msb _ (by omega)) (by rw [hi]; exact inb_at ..), hc, hi, wr8_at, wr8_at,
      ofNat_add _ _]
    by_cases hv128 : v.toNat ≥ 0x80
    · obtain ⟨f, rfl⟩ : ∃ f', f = f' + 1 := by
        cases f with
        | zero => omega
        | succ f => exact ⟨f, rfl⟩
      have hb : UInt8.ofBitVec (BitVec.setWidth 8 ((v &&& 127#w) ||| 128#w)) = UInt8.ofNat ((v.toNat &&& 0x7F) ||| 0x80) := by
        rw [byte_of_setWidth, BitVec.toNat_or, BitVec.toNat_and, h128, hlit 127 (by decide)]
      rw [Varint.writeLoop, if_pos hv128] at hl ⊢
      have := ih f (Nat.lt_succ_self f) (v >>> 7) (pre ++ [UInt8.ofBitVec (BitVec.setWidth 8 ((v &&& 127#w) ||| 128#w))])
        rest (by simp; omega) (by rw [BitVec.toNat_ushiftRight]; exact shr7_lt _ _ hv)
        (by rw [BitVec.toNat_ushiftRight]; simpa using hl)
      rw [List.length_append, List.length_singleton, BitVec.toNat_ushiftRight, List.append_assoc, List.singleton_append] at this
      rw [decide_eq_true hv128, if_pos rfl, if_pos rfl, this.1, this.2, hb]
      simp [Nat.add_assoc, Nat.add_comm 1]
    · rw [decide_eq_false hv128, if_neg Bool.false_ne_true, if_neg Bool.false_ne_true, byte_of_setWidth]
      have : Varint.writeLoop f v.toNat = [UInt8.ofNat v.toNat] := by
        cases f with
        | zero => rfl
        | succ f => rw [Varint.writeLoop, if_neg hv128]
      rw [this]
      simp

theorem encode_varint32_eq (p : List UInt8) (v : BitVec 32) (h : (Varint.writeVarint32 v.toNat).length ≤ p.length) :
    Gen.CFun.carquet_encode_varint32 p v =
      (BitVec.ofNat 32 (Varint.writeVarint32 v.toNat).length,
       Varint.writeVarint32 v.toNat ++ p.drop (Varint.writeVarint32 v.toNat).length) ∧
    Gen.CFun.carquet_encode_varint32_defined p v = true := by
  have := write_loop (by decide) Gen.CFun.carquet_encode_varint32_loop1 Gen.CFun.carquet_encode_varint32_loop1_defined
    (fun _ _ _ _ => rfl)
    (fun _ _ _ _ h1 h2 h3 => by simp [Gen.CFun.carquet_encode_varint32_loop1_defined, h1, h2, h3]) 4 v [] p (by decide) (Nat.lt_of_lt_of_le v.isLt (by decide)) h
  rwa [List.length_nil, Nat.zero_add] at this

theorem encode_varint64_eq (p : List UInt8) (v : BitVec 64) (h : (Varint.writeVarint64 v.toNat).length ≤ p.length) :
    Gen.CFun.carquet_encode_varint64 p v =
      (BitVec.ofNat 32 (Varint.writeVarint64 v.toNat).length,
       Varint.writeVarint64 v.toNat ++ p.drop (Varint.writeVarint64 v.toNat).length) ∧
    Gen.CFun.carquet_encode_varint64_defined p v = true := by
  have := write_loop (by decide) Gen.CFun.carquet_encode_varint64_loop1 Gen.CFun.carquet_encode_varint64_loop1_defined
    (fun _ _ _ _ => rfl)
    (fun _ _ _ _ h1 h2 h3 => by simp [Gen.CFun.carquet_encode_varint64_loop1_defined, h1, h2, h3]) 9 v [] p (by decide) (Nat.lt_of_lt_of_le v.isLt (by decide)) h
  rwa [List.length_nil, Nat.zero_add] at this

end Carquet.Proofs.CFun2
