import Carquet.Proofs.CFun2.Loads
import Carquet.Proofs.CSem
import Carquet.Proofs.StatsCmp
import Carquet.Gen.CFun
/-
Stage-2 link lemmas for the typed comparators of src/metadata/statistics.c (`compare_boolean/int32/int64/int96`) against
Impl.Stats.
-/
namespace Carquet.Proofs.CFun2
open Carquet Carquet.Impl Carquet.Impl.CSem Carquet.Proofs.CSem

theorem ld32le_readU (a : List UInt8) : (ld32le a 0).toNat = Stats.readU 4 a := by
  rw [ld32le_leNat, Stats.readU, StatsCmp.leNat_eq]; rfl

theorem ld64le_readU (a : List UInt8) : (ld64le a 0).toNat = Stats.readU 8 a := by
  rw [ld64le_leNat, Stats.readU, StatsCmp.leNat_eq]; rfl

theorem ld32le_word (a : List UInt8) (i : Nat) : (ld32le a (i * 4)).toNat = Stats.word a i := by
  rw [ld32le_leNat, Stats.word, StatsCmp.leNat_eq, Nat.mul_comm]

theorem rd8_readU (a : List UInt8) : (BitVec.setWidth 32 (rd8 a 0)).toNat = Stats.readU 1 a := by
  rw [le_first a 0 (by decide), Stats.readU, StatsCmp.leNat_eq]; rfl

theorem sgn_toInt (p q : Bool) : (ofBool p - ofBool q).toInt = Stats.sgn3 p q := by
  cases p <;> cases q <;> decide

theorem sgn_subOk (p q : Bool) : sSubOk (ofBool p) (ofBool q) = true := by
  cases p <;> cases q <;> decide

theorem compare_int32_eq (a b : List UInt8) : (Gen.CFun.stats_compare_int32 a b).toInt = Stats.cmpI32 a b := by
  rw [Gen.CFun.stats_compare_int32, sgn_toInt]
  simp only [Stats.cmpI32, BitVec.slt_eq_decide, StatsCmp.toInt_toSigned, ld32le_readU, gt_iff_lt]

theorem compare_int64_eq (a b : List UInt8) : (Gen.CFun.stats_compare_int64 a b).toInt = Stats.cmpI64 a b := by
  rw [Gen.CFun.stats_compare_int64, sgn_toInt]
  simp only [Stats.cmpI64, BitVec.slt_eq_decide, StatsCmp.toInt_toSigned, ld64le_readU, gt_iff_lt]

theorem compare_boolean_eq (a b : List UInt8) : (Gen.CFun.stats_compare_boolean a b).toInt = Stats.cmpBool a b := by
  rw [Gen.CFun.stats_compare_boolean, sgn_toInt, slt_small _ _ (small_setWidth _ (by decide)) (small_setWidth _ (by decide)),
    slt_small _ _ (small_setWidth _ (by decide)) (small_setWidth _ (by decide)), rd8_readU, rd8_readU]
  rfl

/-- one round of `for (int i = 2; i >= 0; i--)` in `compare_int96`, at word `n` -/
theorem int96_step (f : Nat) (a b : List UInt8) (n : Nat) (hn : n < 2 ^ 31) :
    (Gen.CFun.stats_compare_int96_loop1 (f + 1) a b (BitVec.ofNat 32 n)).toInt =
      if Stats.word a n ≠ Stats.word b n then
        Stats.sgn3 (decide (Stats.word a n > Stats.word b n)) (decide (Stats.word a n < Stats.word b n))
      else (Gen.CFun.stats_compare_int96_loop1 f a b (BitVec.ofNat 32 n - 1#32)).toInt := by
  rw [Gen.CFun.stats_compare_int96_loop1, (ofNat_sle _ _ (by decide) hn).trans (decide_eq_true (Nat.zero_le n)),
    if_pos rfl, ofNat_toInt_toNat _ hn, ← ld32le_word, ← ld32le_word, apply_ite BitVec.toInt, sgn_toInt]
  simp only [bne_iff_ne, ne_eq, BitVec.toNat_inj, BitVec.lt_def, gt_iff_lt]

theorem compare_int96_eq (a b : List UInt8) : (Gen.CFun.stats_compare_int96 a b).toInt = Stats.cmpI96 a b := by
  rw [Gen.CFun.stats_compare_int96, int96_step 3 a b 2 (by decide), show (2#32 - 1#32 : BitVec 32) = 1#32 from rfl,
    int96_step 2 a b 1 (by decide), show (1#32 - 1#32 : BitVec 32) = 0#32 from rfl, int96_step 1 a b 0 (by decide)]
  rfl

theorem int96_step_defined (f : Nat) (a b : List UInt8) (n : Nat) (hn : n < 2 ^ 31) (ha : n * 4 + 4 ≤ a.length)
    (hb : n * 4 + 4 ≤ b.length)
    (hrec : Gen.CFun.stats_compare_int96_loop1_defined f a b (BitVec.ofNat 32 n - 1#32) = true) :
    Gen.CFun.stats_compare_int96_loop1_defined (f + 1) a b (BitVec.ofNat 32 n) = true := by
  rw [Gen.CFun.stats_compare_int96_loop1_defined, ofNat_toInt_toNat _ hn, ofNat_msb _ hn, (inb_iff a _ 4).mpr ha,
    (inb_iff b _ 4).mpr hb, Nat.mul_mod_left, sgn_subOk, ofNat_sSubOk _ _ hn (by decide), hrec]
  simp

theorem compare_int96_defined (a b : List UInt8) (ha : 12 ≤ a.length) (hb : 12 ≤ b.length) :
    Gen.CFun.stats_compare_int96_defined a b = true :=
  int96_step_defined 3 a b 2 (by decide) (by omega) (by omega)
    (int96_step_defined 2 a b 1 (by decide) (by omega) (by omega)
      (int96_step_defined 1 a b 0 (by decide) (by omega) (by omega) rfl))

/-! the comparators read exactly `width` bytes from each operand, at offset 0 (aligned if the operand is) -/

theorem compare_int32_defined (a b : List UInt8) :
    Gen.CFun.stats_compare_int32_defined a b = decide (4 ≤ a.length ∧ 4 ≤ b.length) := by
  rw [Bool.eq_iff_iff]
  simp [Gen.CFun.stats_compare_int32_defined, sgn_subOk, inb]

theorem compare_int64_defined (a b : List UInt8) :
    Gen.CFun.stats_compare_int64_defined a b = decide (8 ≤ a.length ∧ 8 ≤ b.length) := by
  rw [Bool.eq_iff_iff]
  simp [Gen.CFun.stats_compare_int64_defined, sgn_subOk, inb]

theorem compare_boolean_defined (a b : List UInt8) :
    Gen.CFun.stats_compare_boolean_defined a b = decide (1 ≤ a.length ∧ 1 ≤ b.length) := by
  rw [Bool.eq_iff_iff]
  simp [Gen.CFun.stats_compare_boolean_defined, sgn_subOk, inb]
end Carquet.Proofs.CFun2
