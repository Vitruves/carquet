import Carquet.Proofs.CFun2.Varint
import Carquet.Proofs.CFun2.Loads
import Carquet.Impl.Snappy
/-
Stage-2 link lemmas for src/compression/snappy.c `snappy_read_varint` (a `(p, end)` pointer pair, `*p++`, `p - start`)
against Impl.Snappy.readVarint (which adds where the C code ORs: the accumulated value is below `2^shift`).
-/
namespace Carquet.Proofs.CFun2
open Carquet Carquet.Impl Carquet.Impl.CSem Carquet.Proofs.CSem

/-- `value |= (byte & 0x7F) << shift`, the shift count `n` being the number `s` -/
theorem payload_snappy (r : BitVec 32) (b : UInt8) (s : Nat) {n : Nat} (hn : n = s) (hr : r.toNat < 2 ^ s) :
    (r ||| ((BitVec.setWidth 32 b.toBitVec &&& 127#32) <<< n)).toNat =
      (r.toNat + (b.toNat % 128 * 2 ^ s) % 2 ^ 32) % 2 ^ 32 ∧
    (r ||| ((BitVec.setWidth 32 b.toBitVec &&& 127#32) <<< n)).toNat < 2 ^ (s + 7) := by
  subst n
  have key : (r ||| ((BitVec.setWidth 32 b.toBitVec &&& 127#32) <<< s)).toNat = (r.toNat + b.toNat % 128 * 2 ^ s) % 2 ^ 32 := by
    rw [BitVec.toNat_or, BitVec.toNat_shiftLeft, pay32_toNat, UInt8.toNat_toBitVec,
      Nat.and_two_pow_sub_one_eq_mod _ 7, ← or_shl_add _ _ _ hr, Nat.or_mod_two_pow, Nat.mod_eq_of_lt r.isLt]
  rw [key, Nat.add_mod_mod]
  refine ⟨rfl, Nat.lt_of_le_of_lt (Nat.mod_le _ _) ?_⟩
  calc r.toNat + b.toNat % 128 * 2 ^ s < 2 ^ s + b.toNat % 128 * 2 ^ s := Nat.add_lt_add_right hr _
    _ = (b.toNat % 128 + 1) * 2 ^ s := by rw [Nat.add_mul, Nat.one_mul, Nat.add_comm]
    _ ≤ 2 ^ 7 * 2 ^ s := Nat.mul_le_mul_right _ (Nat.mod_lt _ (by decide))
    _ = 2 ^ (s + 7) := by rw [Nat.pow_add, Nat.mul_comm]

theorem and128_eq_zero_iff (n : Nat) (h : n < 256) : n &&& 0x80 = 0 ↔ n < 128 := by
  have e := Nat.div_add_mod (n &&& 0x80) (2 ^ 7)
  rw [Nat.and_div_two_pow, Nat.and_mod_two_pow, show 0x80 / 2 ^ 7 = 1 from rfl, show 0x80 % 2 ^ 7 = 0 from rfl,
    Nat.and_one_is_mod, Nat.and_zero] at e
  rw [← e]
  omega

theorem snappy_loop (p : List UInt8) :
    ∀ (fuel m k : Nat) (value : BitVec 32), k + m = 4 → m + 1 < fuel → value.toNat < 2 ^ (7 * k) →
      (match Snappy.readVarintLoop Snappy.Fixes.all p.toArray (m + 1) k (7 * k) value.toNat with
       | some (v, n) => Gen.CFun.snappy_read_varint_loop1 fuel p k p.length value (BitVec.ofNat 32 (7 * k)) =
            (BitVec.ofNat 64 n, BitVec.ofNat 32 v)
       | none => (Gen.CFun.snappy_read_varint_loop1 fuel p k p.length value (BitVec.ofNat 32 (7 * k))).1 = 0#64) ∧
      Gen.CFun.snappy_read_varint_loop1_defined fuel p k p.length value (BitVec.ofNat 32 (7 * k)) = true := by
  have hL : ∀ f k value shift, Gen.CFun.snappy_read_varint_loop1 (f + 1) p k p.length value shift =
      if decide (k < p.length) then
        if shift == 28#32 && BitVec.slt 15#32 (BitVec.setWidth 32 (rd8 p k)) then (0#64, value)
        else if (BitVec.setWidth 32 (rd8 p k) &&& 128#32) == 0#32 then
          (BitVec.ofInt 64 (Int.ofNat (k + 1) - Int.ofNat 0),
            value ||| ((BitVec.setWidth 32 (rd8 p k) &&& 127#32) <<< shift.toNat))
        else if BitVec.sle 32#32 (shift + 7#32) then
          (0#64, value ||| ((BitVec.setWidth 32 (rd8 p k) &&& 127#32) <<< shift.toNat))
        else Gen.CFun.snappy_read_varint_loop1 f p (k + 1) p.length
          (value ||| ((BitVec.setWidth 32 (rd8 p k) &&& 127#32) <<< shift.toNat)) (shift + 7#32)
      else (0#64, value) := fun _ _ _ _ => rfl
  intro fuel
  induction fuel with
  | zero => intro m k _ _ hf; exact absurd hf (Nat.not_lt_zero _)
  | succ f ih =>
    intro m k value hk hf hval
    rw [hL, Gen.CFun.snappy_read_varint_loop1_defined, Snappy.readVarintLoop]
    by_cases hin : k < p.length
    · have hs : (BitVec.ofNat 32 (7 * k)).toNat = 7 * k := ofNat_toNat _ (by omega)
      have hget : p.toArray[k]'(by simpa using hin) = p.getD k 0 := by
        simp [List.getD, List.getElem?_eq_getElem hin]
      have hpl := payload_snappy value (p.getD k 0) (7 * k) hs hval
      have hb := (p.getD k 0).toNat_lt
      have c28 : (BitVec.ofNat 32 (7 * k) == 28#32) = (7 * k == 28) := by
        rw [Bool.eq_iff_iff, beq_iff_eq, beq_iff_eq, ← BitVec.toNat_inj, hs]; rfl
      have c32 : BitVec.sle 32#32 (BitVec.ofNat 32 (7 * k) + 7#32) = decide (7 * k + 7 ≥ 32) := by
        rw [← BitVec.ofNat_add]; exact ofNat_sle _ _ (by decide) (by omega)
      rw [dif_pos (by simpa using hin), hget, decide_eq_true hin, if_pos rfl, if_pos rfl, c28,
        slt_small 15#32 _ (by decide) (small_setWidth _ (by decide)), show (15#32).toNat = 15 from rfl,
        BitVec.toNat_setWidth_of_le (by decide), c32, rd8_eq, cont_bit, (inb_iff p k 1).mpr hin,
        decide_eq_decide.mpr (and128_eq_zero_iff _ hb),
        ofNat_shCountOk true 32 _ (by omega) (by omega), sAddOk_small _ _ (by rw [hs]; exact Nat.add_lt_add_right (by omega) 7), UInt8.toNat_toBitVec,
        show Snappy.Fixes.all.f25b = true from rfl, Bool.true_and]
      by_cases hA : 7 * k = 28 ∧ (p.getD k 0).toNat > 15
      · rw [show (7 * k == 28 && decide ((p.getD k 0).toNat > 15)) = true by rw [hA.1, decide_eq_true hA.2]; rfl]
        exact ⟨rfl, rfl⟩
      · rw [show (7 * k == 28 && decide ((p.getD k 0).toNat > 15)) = false by
          rw [Bool.and_eq_false_iff, beq_eq_false_iff_ne, decide_eq_false_iff_not]; omega]
        by_cases hc : (p.getD k 0).toNat < 128
        · rw [if_pos hc, decide_eq_true hc, ← hpl.1]
          refine ⟨?_, rfl⟩
          show (_, _) = (_, BitVec.ofNat 32 (BitVec.toNat _))
          rw [BitVec.ofNat_toNat, BitVec.setWidth_eq]
          rfl
        · rw [if_neg hc, decide_eq_false hc]
          by_cases h32 : 7 * k + 7 ≥ 32
          · rw [if_pos h32, decide_eq_true h32]
            exact ⟨rfl, rfl⟩
          · obtain ⟨m, rfl⟩ : ∃ m', m = m' + 1 := ⟨m - 1, by omega⟩
            have hnext := ih m (k + 1)
              (value ||| ((BitVec.setWidth 32 (p.getD k 0).toBitVec &&& 127#32) <<< (BitVec.ofNat 32 (7 * k)).toNat))
              (by omega) (by omega) hpl.2
            rw [hpl.1] at hnext
            rw [if_neg h32, decide_eq_false h32, ← BitVec.ofNat_add]
            exact hnext
    · rw [dif_neg (by simpa using hin), decide_eq_false hin, if_neg Bool.false_ne_true, if_neg Bool.false_ne_true]
      exact ⟨rfl, rfl⟩

theorem snappy_read_varint_eq (p : List UInt8) (value : BitVec 32) :
    (match Snappy.readVarint Snappy.Fixes.all p.toArray with
     | some (v, n) => Gen.CFun.snappy_read_varint p p.length value = (BitVec.ofNat 64 n, BitVec.ofNat 32 v)
     | none => (Gen.CFun.snappy_read_varint p p.length value).1 = 0#64) ∧
    Gen.CFun.snappy_read_varint_defined p p.length value = true :=
  snappy_loop p 6 4 0 0#32 rfl (by decide) (by decide)

end Carquet.Proofs.CFun2
