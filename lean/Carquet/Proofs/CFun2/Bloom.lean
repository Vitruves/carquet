import Carquet.Proofs.CFun2.Mem
import Carquet.Proofs.CSem
import Carquet.Proofs.Bloom
import Carquet.Gen.CFun
/-
Stage-2 link lemmas for src/metadata/bloom_filter.c: the block loops as translated from the C source
(`uint32_t* block`: a list of words) against the word-level view of the byte model (`Proofs.Bloom.insWords / chkWords`).
-/
namespace Carquet.Proofs.CFun2
open Carquet Carquet.Impl Carquet.Impl.CSem Carquet.Proofs.CSem
open Carquet.Proofs.Bloom (insWords chkWords bitpos_lt)

/-- the table the translator read from the initialiser of `SALT[8]` in the AST is the table the model uses (which is
re-extracted from the source text by translate/gen.py) -/
theorem salt_table_eq : Gen.CFun.bloom_filter_SALT = Impl.Bloom.salt := by decide

theorem shcount_bitpos (x : BitVec 32) : shCountOk false 32 (x >>> 27) = true := by
  rw [shCountOk, decide_eq_true (bitpos_lt x)]; rfl

theorem salt_drop (i : Nat) (h : i < 8) :
    Gen.CFun.bloom_filter_SALT.drop i = rd Gen.CFun.bloom_filter_SALT i :: Gen.CFun.bloom_filter_SALT.drop (i + 1) := by
  have hl : i < Gen.CFun.bloom_filter_SALT.length := h
  rw [List.drop_eq_getElem_cons hl, rd, List.getD_eq_getElem?_getD, List.getElem?_eq_getElem hl]; rfl

/-- `for (i = …; i < 8; i++) block[i] |= mask(i)` and `for (i = …; i < 8; i++) if ((block[i] & mask(i)) == 0) return false;`
with the words before `block[i]` split off -/
theorem block_loops (hash : BitVec 64) (key : BitVec 32) :
    ∀ (fuel : Nat) (pre ws : List (BitVec 32)), pre.length ≤ 8 → 8 - pre.length < fuel → 8 ≤ pre.length + ws.length →
      Gen.CFun.bloom_filter_block_insert_loop1 fuel (pre ++ ws) hash key (BitVec.ofNat 32 pre.length) =
        pre ++ insWords key (Gen.CFun.bloom_filter_SALT.drop pre.length) ws ∧
      Gen.CFun.bloom_filter_block_insert_loop1_defined fuel (pre ++ ws) hash key (BitVec.ofNat 32 pre.length) = true ∧
      Gen.CFun.bloom_filter_block_check_loop1 fuel (pre ++ ws) hash key (BitVec.ofNat 32 pre.length) =
        chkWords key (Gen.CFun.bloom_filter_SALT.drop pre.length) ws ∧
      Gen.CFun.bloom_filter_block_check_loop1_defined fuel (pre ++ ws) hash key (BitVec.ofNat 32 pre.length) = true := by
  intro fuel
  induction fuel with
  | zero => intro pre _ _ hf; exact absurd hf (Nat.not_lt_zero _)
  | succ f ih =>
    intro pre ws h8 hf hl
    rw [Gen.CFun.bloom_filter_block_insert_loop1, Gen.CFun.bloom_filter_block_insert_loop1_defined,
      Gen.CFun.bloom_filter_block_check_loop1, Gen.CFun.bloom_filter_block_check_loop1_defined,
      ofNat_slt _ _ (by omega) (by decide)]
    by_cases hi : pre.length < 8
    · obtain ⟨w, ws, rfl⟩ := List.exists_cons_of_length_pos (l := ws) (by omega)
      have next := fun x => ih (pre ++ [x]) ws (by simp; omega) (by simp; omega) (by simp at hl ⊢; omega)
      have ins := next (w ||| Impl.Bloom.bitOf (rd Gen.CFun.bloom_filter_SALT pre.length) key)
      have chk := next w
      rw [List.length_append, List.length_singleton] at ins chk
      rw [List.append_assoc, List.singleton_append] at chk
      rw [decide_eq_true hi, if_pos rfl, if_pos rfl, if_pos rfl, if_pos rfl, ofNat_toInt_toNat _ (by omega),
        ofNat_toInt _ (by omega), ofNat_msb _ (by omega), rd_at, wr_at, List.append_cons, ofNat_add _ _,
        ofNat_sAddOk _ _ (by omega), shcount_bitpos, inb_at, salt_drop _ hi, insWords, chkWords,
        ← Impl.Bloom.bitOf, ins.1, ins.2.1, chk.2.2.1, chk.2.2.2, List.append_assoc, decide_eq_true (by omega)]
      refine ⟨rfl, rfl, ?_, ?_⟩
      · simp only [beq_iff_eq]
      · cases w &&& Impl.Bloom.bitOf (rd Gen.CFun.bloom_filter_SALT pre.length) key == 0#32 <;> rfl
    · have h8' : pre.length = 8 := by omega
      rw [decide_eq_false hi, if_neg Bool.false_ne_true, if_neg Bool.false_ne_true, if_neg Bool.false_ne_true,
        if_neg Bool.false_ne_true, h8']
      exact ⟨rfl, rfl, rfl, rfl⟩
theorem block_insert_eq (ws : List (BitVec 32)) (hash : BitVec 64) (h : 8 ≤ ws.length) :
    Gen.CFun.bloom_filter_block_insert ws hash = insWords (hash.setWidth 32) Impl.Bloom.salt ws ∧
    Gen.CFun.bloom_filter_block_insert_defined ws hash = true := by
  have hl := block_loops hash (hash.setWidth 32) 9 [] ws (by decide) (by decide) (by simpa using h)
  rw [← salt_table_eq]
  exact ⟨hl.1, hl.2.1⟩

theorem block_check_eq (ws : List (BitVec 32)) (hash : BitVec 64) (h : 8 ≤ ws.length) :
    Gen.CFun.bloom_filter_block_check ws hash = chkWords (hash.setWidth 32) Impl.Bloom.salt ws ∧
    Gen.CFun.bloom_filter_block_check_defined ws hash = true := by
  have hl := block_loops hash (hash.setWidth 32) 9 [] ws (by decide) (by decide) (by simpa using h)
  rw [← salt_table_eq]
  exact hl.2.2

end Carquet.Proofs.CFun2
