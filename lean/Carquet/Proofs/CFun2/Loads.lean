import Carquet.Proofs.CFun2.Mem
import Carquet.Proofs.NatBits
/-
Little-endian loads assembled from bytes (`CSem.ld16le / ld32le / ld64le`, and the `read_leNN` of bitpack.c that spell the
same expression out): the value is `Bitpack.leNat` of the bytes read (`orBytes_toNat`, one byte at a time by `le_first`,
`le_step`).
-/
namespace Carquet.Proofs.CFun2
open Carquet Carquet.Impl.CSem
open Carquet.Impl.Bitpack (leNat)

theorem or_shl_add (x y i : Nat) (hx : x < 2 ^ i) : x ||| (y <<< i) = x + y * 2 ^ i := by
  rw [Nat.or_comm, ← Nat.shiftLeft_add_eq_or_of_lt hx, Nat.shiftLeft_eq, Nat.add_comm]

theorem getD_drop (a : List UInt8) (k i : Nat) : (a.drop k).getD i 0 = a.getD (k + i) 0 := by
  rw [List.getD_eq_getElem?_getD, List.getD_eq_getElem?_getD, List.getElem?_drop]

theorem leNat_take_succ (l : List UInt8) (k : Nat) :
    leNat (l.take (k + 1)) = leNat (l.take k) + (l.getD k 0).toNat * 2 ^ (8 * k) := by
  induction k generalizing l with
  | zero => cases l <;> simp [leNat]
  | succ k ih =>
    cases l with
    | nil => simp [leNat]
    | cons b bs =>
      rw [List.take_succ_cons, List.take_succ_cons, leNat, leNat, ih, List.getD_cons_succ, Nat.mul_add,
        show 8 * (k + 1) = 8 * k + 8 from rfl, Nat.pow_add, Nat.mul_left_comm, Nat.mul_comm 256, Nat.add_assoc,
        Nat.mul_comm (2 ^ (8 * k))]

theorem leNat_take_lt (l : List UInt8) (k : Nat) : leNat (l.take k) < 2 ^ (8 * k) := by
  rw [NatBits.leNat_take]; exact Nat.mod_lt _ (Nat.two_pow_pos _)

/-- One more byte ORed into a little-endian load.  A byte beyond the end of the list reads as 0, in `rd8` as in `take`,
so no bound on `i + k` is needed. -/
theorem le_step {W : Nat} (d : List UInt8) (i k : Nat) (acc : BitVec W) (hk : 8 * (k + 1) ≤ W)
    (h : acc.toNat = leNat ((d.drop i).take k)) :
    (acc ||| (BitVec.setWidth W (rd8 d (i + k)) <<< (8 * k))).toNat = leNat ((d.drop i).take (k + 1)) := by
  have hb : ((d.drop i).getD k 0).toNat * 2 ^ (8 * k) < 2 ^ W :=
    calc _ < 2 ^ 8 * 2 ^ (8 * k) := Nat.mul_lt_mul_of_pos_right (UInt8.toNat_lt _) (Nat.two_pow_pos _)
      _ = 2 ^ (8 * (k + 1)) := by rw [← Nat.pow_add, Nat.mul_add, Nat.mul_one, Nat.add_comm]
      _ ≤ 2 ^ W := Nat.pow_le_pow_right (by decide) hk
  rw [leNat_take_succ, BitVec.toNat_or, BitVec.toNat_shiftLeft, BitVec.toNat_setWidth_of_le (by omega), ← rd8_drop, rd8_eq,
    UInt8.toNat_toBitVec, h, Nat.shiftLeft_eq, Nat.mod_eq_of_lt hb, ← Nat.shiftLeft_eq,
    or_shl_add _ _ _ (leNat_take_lt _ _), Nat.shiftLeft_eq]

theorem le_first {W : Nat} (d : List UInt8) (i : Nat) (hW : 8 ≤ W) :
    (BitVec.setWidth W (rd8 d i)).toNat = leNat ((d.drop i).take 1) := by
  rw [leNat_take_succ, BitVec.toNat_setWidth_of_le hW, ← Nat.add_zero i, ← rd8_drop, rd8_eq]
  simp [leNat]

/-- bytes `i … i + k` of `d` ORed into a `W`-bit word, in the spelling of `ld16le` … `ld64le` and of the translated
`read_leNN` of bitpack.c: each of them is an `orBytes` by `rfl` -/
def orBytes (W : Nat) (d : List UInt8) (i : Nat) : Nat → BitVec W
  | 0 => BitVec.setWidth W (rd8 d i)
  | k + 1 => orBytes W d i k ||| (BitVec.setWidth W (rd8 d (i + (k + 1))) <<< (8 * (k + 1)))

theorem orBytes_toNat {W : Nat} (d : List UInt8) (i : Nat) : ∀ k, 8 * (k + 1) ≤ W →
    (orBytes W d i k).toNat = leNat ((d.drop i).take (k + 1))
  | 0, h => le_first d i (by omega)
  | k + 1, h => le_step d i (k + 1) _ h (orBytes_toNat d i k (by omega))

theorem ld16le_leNat (d : List UInt8) (i : Nat) : (ld16le d i).toNat = leNat ((d.drop i).take 2) :=
  orBytes_toNat d i 1 (by decide)

theorem ld32le_leNat (d : List UInt8) (i : Nat) : (ld32le d i).toNat = leNat ((d.drop i).take 4) :=
  orBytes_toNat d i 3 (by decide)

theorem ld64le_leNat (d : List UInt8) (i : Nat) : (ld64le d i).toNat = leNat ((d.drop i).take 8) :=
  orBytes_toNat d i 7 (by decide)

theorem ld32le_toNat (d : List UInt8) (p : Nat) :
    (ld32le d p).toNat = (d.getD p 0).toNat + (d.getD (p + 1) 0).toNat * 2 ^ 8 + (d.getD (p + 2) 0).toNat * 2 ^ 16 +
      (d.getD (p + 3) 0).toNat * 2 ^ 24 := by
  rw [ld32le_leNat, leNat_take_succ, leNat_take_succ, leNat_take_succ, leNat_take_succ]
  simp only [List.take_zero, leNat, getD_drop, Nat.zero_add, Nat.add_zero, Nat.mul_zero, Nat.pow_zero, Nat.mul_one]

theorem ld64le_toNat (d : List UInt8) (p : Nat) :
    (ld64le d p).toNat = (d.getD p 0).toNat + (d.getD (p + 1) 0).toNat * 2 ^ 8 + (d.getD (p + 2) 0).toNat * 2 ^ 16 +
      (d.getD (p + 3) 0).toNat * 2 ^ 24 + (d.getD (p + 4) 0).toNat * 2 ^ 32 + (d.getD (p + 5) 0).toNat * 2 ^ 40 +
      (d.getD (p + 6) 0).toNat * 2 ^ 48 + (d.getD (p + 7) 0).toNat * 2 ^ 56 := by
  rw [ld64le_leNat, leNat_take_succ, leNat_take_succ, leNat_take_succ, leNat_take_succ, leNat_take_succ, leNat_take_succ,
    leNat_take_succ, leNat_take_succ]
  simp only [List.take_zero, leNat, getD_drop, Nat.zero_add, Nat.add_zero, Nat.mul_zero, Nat.pow_zero, Nat.mul_one]

end Carquet.Proofs.CFun2
