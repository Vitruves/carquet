import Carquet.Proofs.NatBits
/-
Facts used by both the Snappy and the LZ4 proofs: bytes of small numbers, that a little-endian 32-bit
word determines its four bytes (the compressors' 4-byte candidate tests).
-/
namespace Carquet.Proofs.CodecBytes
open Carquet.Impl.Bitpack (leNat leBytes)
open Carquet.Proofs.NatBits (leBytes_leNat)

theorem ofNat_toNat (n : Nat) (h : n < 256) : (UInt8.ofNat n).toNat = n :=
  UInt8.toNat_ofNat_of_lt' h

theorem leNat_inj {as bs : List UInt8} (hl : as.length = bs.length) (h : leNat as = leNat bs) : as = bs := by
  rw [← leBytes_leNat as, ← leBytes_leNat bs, hl, h]

theorem le32_inj {a0 a1 a2 a3 b0 b1 b2 b3 : UInt8}
    (h : a0.toNat + 256 * a1.toNat + 65536 * a2.toNat + 16777216 * a3.toNat =
      b0.toNat + 256 * b1.toNat + 65536 * b2.toNat + 16777216 * b3.toNat) :
    a0 = b0 ∧ a1 = b1 ∧ a2 = b2 ∧ a3 = b3 := by
  have e : [a0, a1, a2, a3] = [b0, b1, b2, b3] := leNat_inj rfl (by simp only [leNat]; omega)
  injection e with h0 e; injection e with h1 e; injection e with h2 e; injection e with h3
  exact ⟨h0, h1, h2, h3⟩

end Carquet.Proofs.CodecBytes
