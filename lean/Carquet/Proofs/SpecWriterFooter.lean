import Carquet.Proofs.FileRealFooter
import Carquet.Proofs.SpecFileFooterFull
import Carquet.Proofs.SpecFileSchema
import Carquet.Spec.ParquetThriftValue
import Carquet.Impl.WriterSpecTable
/-
Footer stage of `Spec.File.read` on the footer carquet's writer emits
(`Impl.FileReal.footer md = parquet_write_file_metadata (build_file_metadata …)`): the bytes are
the canonical compact encoding of the Thrift value parquet.thrift assigns to the structure (C13),
the independent generic decoder reads that value back consuming the footer exactly, and the
reader's extraction with the REQUIRED-field rules finds version 2, the schema elements of the
tree `specSchemaOf cols`, `num_rows`, and per row group / chunk the metadata carquet wrote
(the extra members `file_offset`, `total_compressed_size`, `ordinal`, `created_by` are legal and
ignored by the reader).  Then the schema stage: the element list parses back to the tree and its
leaves are the columns.
-/
namespace Carquet.Proofs.SpecWriter
open Carquet.Impl Carquet.Impl.Writer Carquet.Impl.FileReal Carquet.Impl.ThriftParquet
open Carquet.Spec Carquet.Spec.Thrift Carquet.Spec.ParquetThrift
open Carquet.Proofs.FileRealFooter Carquet.Proofs.SpecFile

/-! ### strings -/

theorem toList_loop (bs : ByteArray) : ∀ (k i : Nat) (r : List UInt8), bs.size - i = k →
    ByteArray.toList.loop bs i r = r.reverse ++ bs.data.toList.drop i := by
  have hsz : bs.data.toList.length = bs.size := by rw [Array.length_toList]; rfl
  intro k
  induction k with
  | zero =>
    intro i r h
    rw [ByteArray.toList.loop]
    have : ¬ i < bs.size := by omega
    simp only [this, if_false]
    have hd : bs.data.toList.drop i = [] := List.drop_eq_nil_of_le (by omega)
    rw [hd, List.append_nil]
  | succ k ih =>
    intro i r h
    rw [ByteArray.toList.loop]
    have hi : i < bs.size := by omega
    simp only [hi, if_true]
    rw [ih (i + 1) _ (by omega)]
    have hlt : i < bs.data.toList.length := by omega
    rw [List.drop_eq_getElem_cons hlt]
    have hg : bs.get! i = bs.data.toList[i] := by
      show bs.data[i]! = _
      rw [getElem!_pos bs.data i (by rw [← Array.length_toList]; exact hlt)]
      rfl
    rw [hg]
    simp

theorem strBytes_eq (s : String) : FileReal.strBytes s = File.strBytes s := by
  unfold FileReal.strBytes File.strBytes ByteArray.toList
  rw [toList_loop _ _ 0 [] rfl]
  rfl

/-! ### the metadata the reader extracts -/

/-- ColumnMetaData of a written chunk as the independent reader extracts it -/
def cmOf (ch : ChunkMeta) : File.ColumnMeta :=
  ⟨ch.ptype.code, [0, 3], [File.strBytes ch.path], ch.codec, ch.numValues, ch.totalUncompressed, ch.totalCompressed,
   ch.fileOffset, none⟩

def rgMetaOf (g : RgMeta) : File.RowGroupMeta := ⟨g.chunks.map cmOf, g.totalByteSize, g.numRows⟩

/-- FileMetaData of a written file as the independent reader extracts it -/
def fileMetaOfWritten (md : FooterData) : File.FileMeta :=
  ⟨2, Schema.flatten (specSchemaOf md.cols), md.numRows, md.rowGroups.map rgMetaOf⟩

/-! ### schema elements -/

theorem flattenList_leaves (cols : List Col) :
    Schema.flattenList (cols.map specLeafNode) =
      cols.map (fun c => (⟨⟨c.name, some (specRep c.rep), some c.ptype.code, (c.typeLen : Int), none, specLogicalOf c⟩, 0⟩ : Schema.Element)) := by
  induction cols with
  | nil => rfl
  | cons c cs ih => simp [Schema.flattenList, Schema.flatten, specLeafNode, ih]

theorem repCode_specRep (r : Rep) : File.repCode (specRep r) = (r.code : Int) := by cases r <;> rfl

theorem rootTV (n : Nat) :
    schemaElementTV ({ name := some (FileReal.strBytes "schema"), numChildren := n } : SchemaElement) =
      TVal.struct (seFields ⟨⟨"schema", none, none, 0, none, none⟩, n⟩) := by
  by_cases h0 : n = 0
  · simp [schemaElementTV, seFields, fOpt, fPos, fNonZero, fLogical, File.optField, strBytes_eq, h0]
  · have hpos : 0 < n := by omega
    simp [schemaElementTV, seFields, fOpt, fPos, fNonZero, fLogical, File.optField, strBytes_eq, hpos, h0]

theorem timeUnitTV_spec (u : TimeUnit) : timeUnitTV u = File.annotUnitTV (specUnit u) := by cases u <;> rfl

/-- **field 10 of a written column element**: what `write_schema_element` / `write_logical_type` emit for the
logical type `build_file_metadata` sets is the LogicalType union value that STATES the annotation the
column was created with (one member, every required field of the member struct) — and no field 10
at all for a NULL pointer or id UNKNOWN -/
theorem fLogical_written (c : Col) :
    fLogical (colLogical c) = File.optField 10 File.annotationTV (specLogicalOf c) := by
  unfold colLogical specLogicalOf
  cases c.logical with
  | none => rfl
  | some lt =>
    cases lt <;> first
      | rfl
      | simp [fLogical, logicalTypeTV, timeTV, f1, timeUnitTV_spec, specLogical, File.optField, File.annotationTV]

theorem leafTV (c : Col) :
    schemaElementTV (schemaElementOfCol c) =
      TVal.struct (seFields ⟨⟨c.name, some (specRep c.rep), some c.ptype.code, (c.typeLen : Int), none, specLogicalOf c⟩, 0⟩) := by
  have hl := fLogical_written c
  by_cases h0 : c.typeLen = 0
  · simp [schemaElementTV, schemaElementOfCol, seFields, fOpt, fPos, fNonZero, hl, File.optField, strBytes_eq, h0, repCode_specRep]
  · have hpos : 0 < c.typeLen := by omega
    simp [schemaElementTV, schemaElementOfCol, seFields, fOpt, fPos, fNonZero, hl, File.optField, strBytes_eq, hpos, h0,
      repCode_specRep]

theorem schema_written (md : FooterData) :
    (FileReal.fileMetaData md).schema.map schemaElementTV =
      (Schema.flatten (specSchemaOf md.cols)).map (fun e => TVal.struct (seFields e)) := by
  show schemaElementTV _ :: (md.cols.map schemaElementOfCol).map schemaElementTV = _
  rw [rootTV, specSchemaOf, Schema.flatten, flattenList_leaves, List.map_cons, List.map_map, List.map_map, List.length_map]
  exact congrArg _ (List.map_congr_left (fun c _ => leafTV c))

/-! ### row groups -/

/-- the ColumnChunk / RowGroup structures `build_file_metadata` fills (as in `FileReal.fileMetaData`) -/
def chunkW (ch : ChunkMeta) : ColumnChunk :=
  { fileOffset := ch.fileOffset,
    metaData := some { type := ch.ptype.code, encodings := [0, 3], pathInSchema := [FileReal.strBytes ch.path],
                       codec := ch.codec, numValues := ch.numValues,
                       totalUncompressedSize := ch.totalUncompressed,
                       totalCompressedSize := ch.totalCompressed,
                       dataPageOffset := ch.fileOffset } }

def groupW (g : RgMeta) : RowGroup :=
  { columns := g.chunks.map chunkW,
    totalByteSize := g.totalByteSize, numRows := g.numRows, fileOffset := some g.fileOffset,
    totalCompressedSize := some g.totalCompressed, ordinal := some g.ordinal }

theorem rowGroups_written (md : FooterData) : (FileReal.fileMetaData md).rowGroups = md.rowGroups.map groupW := rfl

theorem columnChunkTV_written (ch : ChunkMeta) :
    columnChunkTV (chunkW ch) = TVal.struct (ccFields ch.fileOffset (cmOf ch)) := by
  simp [columnChunkTV, chunkW, columnMetaDataTV, ccFields, cmFields, cmOf, f1, fOpt, File.optField, strBytes_eq]

/-- the fields of the Thrift value of a written row group -/
def rgFieldsW (g : RgMeta) : File.Fields :=
  [(1, TVal.list .struct (g.chunks.map (fun ch => TVal.struct (ccFields ch.fileOffset (cmOf ch))))),
   (2, TVal.i64 g.totalByteSize), (3, TVal.i64 g.numRows), (5, TVal.i64 g.fileOffset), (6, TVal.i64 g.totalCompressed),
   (7, TVal.i16 g.ordinal)]

theorem rowGroupTV_written (g : RgMeta) : rowGroupTV (groupW g) = TVal.struct (rgFieldsW g) := by
  have h : (groupW g).columns.map columnChunkTV = g.chunks.map (fun ch => TVal.struct (ccFields ch.fileOffset (cmOf ch))) := by
    rw [show (groupW g).columns = g.chunks.map chunkW from rfl, List.map_map]
    exact List.map_congr_left (fun ch _ => columnChunkTV_written ch)
  unfold rowGroupTV
  rw [h]
  rfl

theorem rowGroupOf_rgFieldsW (g : RgMeta) : File.rowGroupOf (rgFieldsW g) = .ok (rgMetaOf g) := by
  unfold File.rowGroupOf rgFieldsW
  rw [checkStruct_ok _ _ rfl rfl]
  have h := structsOf_map "RowGroup.columns" (fun ch : ChunkMeta => ccFields ch.fileOffset (cmOf ch)) g.chunks
  have h2 := columnChunksOf_map (g.chunks.map (fun ch => (ch.fileOffset, cmOf ch)))
  simp only [List.map_map, Function.comp_def] at h2
  simp [bind, Except.bind, pure, Except.pure, File.getList, File.field?, h, h2, File.natField, File.getInt, File.intOf,
    natCast_not_neg, rgMetaOf]

theorem rowGroupsOf_map_W (gs : List RgMeta) : File.rowGroupsOf (gs.map rgFieldsW) = .ok (gs.map rgMetaOf) := by
  induction gs with
  | nil => rfl
  | cons g r ih =>
    simp [File.rowGroupsOf, rowGroupOf_rgFieldsW, ih, bind, Except.bind, pure, Except.pure]

/-! ### the file -/

/-- the fields of the Thrift value of a written FileMetaData -/
def fmFieldsW (md : FooterData) : File.Fields :=
  [(1, TVal.i32 2), (2, TVal.list .struct ((Schema.flatten (specSchemaOf md.cols)).map (fun e => TVal.struct (seFields e)))),
   (3, TVal.i64 md.numRows), (4, TVal.list .struct (md.rowGroups.map (fun g => TVal.struct (rgFieldsW g)))),
   (6, TVal.binary (FileReal.strBytes md.createdBy))]

theorem fileMetaDataTV_written (md : FooterData) :
    fileMetaDataTV (FileReal.fileMetaData md) = TVal.struct (fmFieldsW md) := by
  have hs := schema_written md
  have hg : (FileReal.fileMetaData md).rowGroups.map rowGroupTV = md.rowGroups.map (fun g => TVal.struct (rgFieldsW g)) := by
    rw [rowGroups_written, List.map_map]
    apply List.map_congr_left
    intro g _
    exact rowGroupTV_written g
  unfold fileMetaDataTV
  rw [hs, hg]
  simp [FileReal.fileMetaData, fmFieldsW, f1, fOpt, fKeyValues]

theorem fileMetaOf_fmFieldsW (md : FooterData) : File.fileMetaOf (fmFieldsW md) = .ok (fileMetaOfWritten md) := by
  unfold File.fileMetaOf fmFieldsW
  have h1 := structsOf_map "FileMetaData.schema" seFields (Schema.flatten (specSchemaOf md.cols))
  have h2 := structsOf_map "FileMetaData.row_groups" rgFieldsW md.rowGroups
  rw [checkStruct_ok _ _ rfl rfl]
  simp [bind, Except.bind, pure, Except.pure, File.getList, File.field?, h1, h2, schemaElementsOf_map, rowGroupsOf_map_W,
    File.natField, File.getInt, File.intOf, natCast_not_neg, fileMetaOfWritten]

/-- the INDEPENDENT generic compact-protocol decoder reads the footer of a written file, to its last byte,
as the Thrift value `fmFieldsW md` (whose schema elements are `seFields` of the tree `specSchemaOf cols`) -/
theorem decodeStruct_written (md : FooterData) (hok : footerOk md = true) :
    decodeStruct (FileReal.footer md) = some (TVal.struct (fmFieldsW md)) := by
  have w := fileMetaData_wf md hok
  have hw := (Carquet.Proofs.Thrift.writeFileMetaData_eq (FileReal.fileMetaData md)
    (Carquet.Proofs.Thrift.lensOk_of_wf _ w)).1
  have hdec := Carquet.Proofs.Thrift.decode_encode (fileMetaDataTV (FileReal.fileMetaData md))
    (Carquet.Proofs.Thrift.fm_wf _ w) []
  rw [List.append_nil, fileMetaDataTV_written] at hdec
  rw [fileMetaDataTV_written] at hw
  have hty : (TVal.struct (fmFieldsW md)).ty = TType.struct := rfl
  rw [hty] at hdec
  unfold FileReal.footer decodeStruct
  rw [hw, hdec]

/-- **footer stage**: the independent reader parses the footer of a written file to the metadata
the writer assembled -/
theorem parseFooter_written (md : FooterData) (hok : footerOk md = true) :
    File.parseFooter (FileReal.footer md) = .ok (fileMetaOfWritten md) := by
  unfold File.parseFooter
  rw [decodeStruct_written md hok]
  exact fileMetaOf_fmFieldsW md

end Carquet.Proofs.SpecWriter
