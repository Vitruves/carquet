import Carquet.Proofs.DeltaBytes
import Carquet.Proofs.DeltaImplCap
/-
Success of the byte-array delta encoders (DELTA_LENGTH_BYTE_ARRAY, DELTA_BYTE_ARRAY): the scratch
capacity the current source computes (`Gen.deltaLengthScratch`, `Gen.deltaStringsScratch`,
re-extracted on every run) is enough for every input, so the encoders fail on no list of byte
arrays the API can express; the capacity before F61 (`10·n + 100`) was not.
Also: the encoders' length streams as functions of the lengths alone (`encodeLens`), which is what
the correspondence evaluates on values too long to print.
-/
namespace Carquet.Impl.Delta

/-- `carquet_delta_encode_int32` succeeds with 40 bytes and `27 + 1038` per started block -/
theorem encodeInt32_succeeds (vs : List (BitVec 32)) (cap : Nat) (hne : vs ≠ [])
    (hlen : vs.length ≤ 2147483647) (h40 : 40 ≤ cap)
    (hcap : 27 + 1038 * ((vs.length + 126) / 128) ≤ cap) : ∃ bs, encodeInt32 vs cap = .ok bs := by
  cases vs with
  | nil => exact absurd rfl hne
  | cons v rest =>
    exact encodeV_succeeds_of_cap (v.signExtend 64) (rest.map (BitVec.signExtend 64)) cap (by simpa using hlen) h40
      (by simpa using hcap)

end Carquet.Impl.Delta

namespace Carquet.Impl.DeltaLength
open Carquet.Impl.Delta

/-- the scratch capacity in the current source holds the worst case of `n` values -/
theorem lengthsCapacity_suffices (n : Nat) :
    40 ≤ lengthsCapacity n ∧ 27 + 1038 * ((n + 126) / 128) ≤ lengthsCapacity n := by
  unfold lengthsCapacity Gen.deltaLengthScratch
  omega

/-- `carquet_delta_length_encode` fails on no non-empty list of byte arrays -/
theorem encode_succeeds (vs : List (List UInt8)) (hne : vs ≠ []) (hlen : vs.length ≤ 2147483647) :
    ∃ bs, encode vs = .ok bs := by
  obtain ⟨h40, hcap⟩ := lengthsCapacity_suffices vs.length
  obtain ⟨lb, hl⟩ := encodeInt32_succeeds (vs.map (fun v => BitVec.ofNat 32 v.length)) (lengthsCapacity vs.length)
    (by simpa using hne) (by simpa using hlen) h40 (by simpa using hcap)
  exact ⟨lb ++ vs.flatten, by simp only [encode, if_neg hne, hl]⟩

/-- the length stream depends on the lengths only -/
theorem encode_eq_encodeLens (vs : List (List UInt8)) :
    encode vs = (encodeLens (vs.map List.length)).map (fun lb => lb ++ vs.flatten) := by
  unfold encode encodeLens encodeLensWith
  by_cases h : vs = []
  · subst h; rfl
  · rw [if_neg h, if_neg (by simpa using h)]
    simp only [Bool.false_eq_true, if_false, List.map_map, List.length_map]
    have e : (BitVec.ofNat 32 ∘ List.length : List UInt8 → BitVec 32) = fun v => BitVec.ofNat 32 v.length := rfl
    rw [e]
    cases encodeInt32 (vs.map (fun v => BitVec.ofNat 32 v.length)) (lengthsCapacity vs.length) <;> rfl

theorem encodePreFix_eq_encodeLens (vs : List (List UInt8)) :
    encodePreFix vs = (encodeLensWith true (vs.map List.length)).map (fun lb => lb ++ vs.flatten) := by
  unfold encodePreFix encodeLensWith
  by_cases h : vs = []
  · subst h; rfl
  · rw [if_neg h, if_neg (by simpa using h)]
    simp only [if_true, List.map_map, List.length_map]
    have e : (BitVec.ofNat 32 ∘ List.length : List UInt8 → BitVec 32) = fun v => BitVec.ofNat 32 v.length := rfl
    rw [e]
    cases encodeInt32 (vs.map (fun v => BitVec.ofNat 32 v.length)) (lengthsCapacityPreFix vs.length) <;> rfl

/-- F61 on the model of the old code: three byte arrays of lengths 0, 2^27, 0 — whatever their
bytes — are refused with `CARQUET_ERROR_ENCODE` (one 29-bit miniblock: 5 + 14 + 116 > 130). -/
theorem encodePreFix_fails (a b c : List UInt8) (ha : a.length = 0) (hb : b.length = 134217728)
    (hc : c.length = 0) : encodePreFix [a, b, c] = .error .encode := by
  rw [encodePreFix_eq_encodeLens]
  simp only [List.map_cons, List.map_nil, ha, hb, hc]
  have : encodeLensWith true [0, 134217728, 0] = .error .encode := by decide +kernel
  rw [this]; rfl

end Carquet.Impl.DeltaLength

namespace Carquet.Impl.DeltaStrings
open Carquet.Impl.Delta Carquet.Impl.DeltaLength

theorem deltaCapacity_suffices (n : Nat) :
    40 ≤ deltaCapacity n ∧ 27 + 1038 * ((n + 126) / 128) ≤ deltaCapacity n := by
  unfold deltaCapacity Gen.deltaStringsScratch
  omega

/-- `carquet_delta_strings_encode` fails on no non-empty list of byte arrays -/
theorem encode_succeeds (vs : List (List UInt8)) (hne : vs ≠ []) (hlen : vs.length ≤ 2147483647) :
    ∃ bs, encode vs = .ok bs := by
  obtain ⟨h40, hcap⟩ := deltaCapacity_suffices vs.length
  obtain ⟨pre, h1⟩ := encodeInt32_succeeds ((prefixLengths none vs).map (BitVec.ofNat 32)) (deltaCapacity vs.length)
    (ne_nil_of_length (by simp [length_prefixLengths]) hne)
    (by simpa [length_prefixLengths] using hlen) h40 (by simpa [length_prefixLengths] using hcap)
  obtain ⟨suf, h2⟩ := encodeInt32_succeeds
    (List.zipWith (fun p (v : List UInt8) => BitVec.ofNat 32 (v.length - p)) (prefixLengths none vs) vs)
    (deltaCapacity vs.length)
    (ne_nil_of_length (by simp [length_prefixLengths]) hne)
    (by simpa [length_prefixLengths] using hlen) h40 (by simpa [length_prefixLengths] using hcap)
  exact ⟨pre ++ suf ++ (List.zipWith (fun p (v : List UInt8) => v.drop p) (prefixLengths none vs) vs).flatten,
    by simp only [encode, if_neg hne, h1, h2]⟩

theorem commonPrefixLength_nil_right (a : List UInt8) : commonPrefixLength a [] = 0 := by
  cases a <;> rfl

/-- the two length streams depend on the prefix and suffix lengths only -/
theorem encode_eq_encodeLens (vs : List (List UInt8)) :
    encode vs = (encodeLens (prefixLengths none vs) (suffixLens (prefixLengths none vs) vs)).map
      (fun lb => lb ++ (suffixes (prefixLengths none vs) vs).flatten) := by
  unfold encode encodeLens encodeLensWith
  by_cases h : vs = []
  · subst h; rfl
  · have hp : prefixLengths none vs ≠ [] := ne_nil_of_length (length_prefixLengths none vs) h
    rw [if_neg h, if_neg hp, zipWith_suffixLens]
    simp only [Bool.false_eq_true, if_false, length_prefixLengths]
    cases encodeInt32 ((prefixLengths none vs).map (BitVec.ofNat 32)) (deltaCapacity vs.length) with
    | error s => rfl
    | ok p =>
      simp only
      cases encodeInt32 ((suffixLens (prefixLengths none vs) vs).map (BitVec.ofNat 32)) (deltaCapacity vs.length) with
      | error s => rfl
      | ok q => rfl

/-- F61 on the model of the old code, DELTA_BYTE_ARRAY: a 2^27-byte value followed by two empty ones -/
theorem encodePreFix_fails (b : List UInt8) (hb : b.length = 134217728) :
    encodePreFix [b, [], []] = .error .encode := by
  unfold encodePreFix
  simp only [prefixLengths, commonPrefixLength_nil_right, commonPrefixLength, List.zipWith_cons_cons,
    List.zipWith_nil_right, hb, List.length_cons, List.length_nil, List.map_cons, List.map_nil]
  have h1 : encodeInt32 [BitVec.ofNat 32 0, BitVec.ofNat 32 0, BitVec.ofNat 32 0] (deltaCapacityPreFix (0 + 1 + 1 + 1)) =
      .ok [0x80, 0x01, 0x04, 0x03, 0x00, 0x00, 0x00, 0x00, 0x00, 0x00] := by decide +kernel
  have h2 : encodeInt32 [BitVec.ofNat 32 (134217728 - 0), BitVec.ofNat 32 (0 - 0), BitVec.ofNat 32 (0 - 0)]
      (deltaCapacityPreFix (0 + 1 + 1 + 1)) = .error .encode := by decide +kernel
  simp [h1, h2]

end Carquet.Impl.DeltaStrings
