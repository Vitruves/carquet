import Carquet.Spec.Lz4
import Carquet.Impl.Lz4
import Carquet.Proofs.Lz4Spec
import Carquet.Proofs.CodecBytes
/-
The compressor model: whatever the hash table holds, every emitted sequence describes a copy of
bytes that really are equal (copy validity); the emitted bytes are the Spec encoding of those
sequences; the sequences respect the end-of-block rules; the output fits the advertised bound.
-/
namespace Carquet.Proofs.Lz4Comp
open Carquet
open Carquet.Impl.Lz4

/-- `c` bytes at `p` equal the `c` bytes at `m` -/
def Agree (src : Bytes) (p m c : Nat) : Prop := ∀ i, i < c → byteAt src (p + i) = byteAt src (m + i)

theorem Agree.zero (src : Bytes) (p m : Nat) : Agree src p m 0 := by intro i h; omega

theorem Agree.append {src : Bytes} {p m a b : Nat} (h1 : Agree src p m a) (h2 : Agree src (p + a) (m + a) b) :
    Agree src p m (a + b) := by
  intro i hi
  by_cases h : i < a
  · exact h1 i h
  · have := h2 (i - a) (by omega)
    rw [show p + a + (i - a) = p + i by omega, show m + a + (i - a) = m + i by omega] at this
    exact this

theorem Agree.cons {src : Bytes} {p m k : Nat} (h : byteAt src p = byteAt src m)
    (ha : Agree src (p + 1) (m + 1) k) : Agree src p m (1 + k) :=
  Agree.append (a := 1) (fun i hi => by rw [show i = 0 by omega]; exact h) ha

theorem Agree.symm {src : Bytes} {p m c : Nat} (h : Agree src p m c) : Agree src m p c :=
  fun i hi => (h i hi).symm

/-! ### `lz4_count` computes the length of the common run -/

theorem eq8_iff_agree {src : Bytes} {p m : Nat} : eq8 src p m = true ↔ Agree src p m 8 := by
  simp only [eq8, Bool.and_eq_true, beq_iff_eq]
  constructor
  · rintro ⟨⟨⟨⟨⟨⟨⟨h0, h1⟩, h2⟩, h3⟩, h4⟩, h5⟩, h6⟩, h7⟩
    exact Agree.cons h0 <| Agree.cons h1 <| Agree.cons h2 <| Agree.cons h3 <| Agree.cons h4 <| Agree.cons h5 <|
      Agree.cons h6 <| Agree.cons h7 <| Agree.zero _ _ _
  · intro h
    exact ⟨⟨⟨⟨⟨⟨⟨h 0 (by omega), h 1 (by omega)⟩, h 2 (by omega)⟩, h 3 (by omega)⟩, h 4 (by omega)⟩,
      h 5 (by omega)⟩, h 6 (by omega)⟩, h 7 (by omega)⟩

/-- length of the common run of the bytes from `p` and from `m`, looking at no more than `k` of them -/
def runLen (src : Bytes) : Nat → Nat → Nat → Nat
  | _, _, 0 => 0
  | p, m, k + 1 => if byteAt src p = byteAt src m then runLen src (p + 1) (m + 1) k + 1 else 0

theorem runLen_le (src : Bytes) : ∀ (k p m : Nat), runLen src p m k ≤ k
  | 0, _, _ => Nat.le_refl _
  | k + 1, p, m => by
    rw [runLen]
    split
    · exact Nat.succ_le_succ (runLen_le src k _ _)
    · exact Nat.zero_le _

theorem runLen_agree (src : Bytes) : ∀ (k p m : Nat), Agree src p m (runLen src p m k)
  | 0, _, _ => Agree.zero _ _ _
  | k + 1, p, m => by
    rw [runLen]
    split
    · rw [Nat.add_comm]; exact Agree.cons ‹_› (runLen_agree src k _ _)
    · exact Agree.zero _ _ _

theorem runLen_of_agree (src : Bytes) (k : Nat) : ∀ (a p m : Nat), Agree src p m a →
    runLen src p m (a + k) = a + runLen src (p + a) (m + a) k
  | 0, _, _, _ => by simp
  | a + 1, p, m, h => by
    rw [Nat.add_right_comm, runLen, if_pos (by simpa using h 0 (by omega)),
      runLen_of_agree src k a (p + 1) (m + 1) (fun i hi => by simpa [Nat.add_assoc, Nat.add_comm 1 i] using h (i + 1) (by omega))]
    simp only [Nat.add_assoc, Nat.add_comm 1 a]
    omega

/-- once a difference has been seen, looking further changes nothing -/
theorem runLen_stop (src : Bytes) : ∀ (k p m j : Nat), runLen src p m k < k → k ≤ j → runLen src p m j = runLen src p m k
  | 0, _, _, _, h, _ => absurd h (Nat.not_lt_zero _)
  | k + 1, p, m, j, h, hj => by
    obtain ⟨j, rfl⟩ : ∃ j', j = j' + 1 := ⟨j - 1, by omega⟩
    rw [runLen] at h ⊢
    rw [runLen]
    split
    · rw [if_pos ‹_›] at h; rw [runLen_stop src k _ _ j (by omega) (by omega)]
    · rfl

theorem firstDiff_eq (src : Bytes) : ∀ (fuel p m acc : Nat), firstDiff src fuel p m acc = acc + runLen src p m fuel
  | 0, _, _, _ => rfl
  | fuel + 1, p, m, acc => by
    rw [firstDiff, runLen]
    split
    · rw [firstDiff_eq src fuel]; omega
    · rfl

theorem countTail_eq (src : Bytes) (limit : Nat) : ∀ (fuel p m acc : Nat), limit - p ≤ fuel →
    countTail src limit fuel p m acc = acc + runLen src p m (limit - p)
  | 0, _, _, _, h => by rw [Nat.le_zero.mp h]; rfl
  | fuel + 1, p, m, acc, h => by
    rw [countTail]
    by_cases hp : p < limit
    · rw [show limit - p = limit - (p + 1) + 1 by omega, runLen]
      by_cases hb : byteAt src p = byteAt src m
      · rw [if_pos ⟨hp, hb⟩, if_pos hb, countTail_eq src limit fuel _ _ _ (by omega)]; omega
      · rw [if_neg (fun h => hb h.2), if_neg hb]; rfl
    · rw [if_neg (fun h => hp h.1), show limit - p = 0 by omega]; rfl

/-- with the fuel `count` gives it, the fast path and the two byte loops together return the common run up to `limit` -/
theorem countFast_eq (src : Bytes) (limit : Nat) : ∀ (fuel p m acc : Nat), limit - p < fuel →
    countFast src limit fuel p m acc = acc + runLen src p m (limit - p)
  | 0, _, _, _, h => absurd h (Nat.not_lt_zero _)
  | fuel + 1, p, m, acc, h => by
    rw [countFast]
    split
    · split
      · rename_i h8
        rw [countFast_eq src limit fuel _ _ _ (by omega), show limit - p = 8 + (limit - (p + 8)) by omega,
          runLen_of_agree src _ 8 p m (eq8_iff_agree.mp h8)]
        omega
      · rename_i h8
        -- the words differ: the difference lies within the 8 bytes the inner loop may look at
        have hlt : runLen src p m 8 < 8 := Nat.lt_of_le_of_ne (runLen_le src 8 p m)
          (fun e => h8 (eq8_iff_agree.mpr (e ▸ runLen_agree src 8 p m)))
        rw [firstDiff_eq, runLen_stop src 8 p m (limit - p) hlt (by omega)]
    · rw [countTail_eq src limit _ _ _ _ (Nat.le_refl _)]

theorem count_eq (src : Bytes) (p m limit : Nat) : count src p m limit = runLen src p m (limit - p) := by
  rw [count, countFast_eq src limit _ p m 0 (Nat.lt_succ_self _), Nat.zero_add]

theorem count_agree (src : Bytes) (p m limit : Nat) : Agree src p m (count src p m limit) := by
  rw [count_eq]; exact runLen_agree src _ p m

/-! ### the 4-byte test -/

theorem read32_agree {src : Bytes} {a b : Nat} (h : read32 src a = read32 src b) : Agree src a b 4 := by
  obtain ⟨h0, h1, h2, h3⟩ := CodecBytes.le32_inj h
  intro i hi
  rcases (by omega : i = 0 ∨ i = 1 ∨ i = 2 ∨ i = 3) with rfl | rfl | rfl | rfl <;> assumption

/-! ### copy validity, for any candidate position whatsoever -/

/-- what makes a sequence safe to emit at `ip` in a source of `n` bytes -/
structure MatchOk (src : Bytes) (n ip off mlen : Nat) : Prop where
  off_pos : 0 < off
  off_le : off ≤ ip
  off_le_max : off ≤ 65535
  mlen_ge : 4 ≤ mlen
  end_le : ip + mlen + 12 ≤ n
  agree : Agree src ip (ip - off) mlen

theorem probeAt_ok {src : Bytes} {n ip ref off mlen : Nat} (h : probeAt src n ip ref = some (off, mlen)) :
    MatchOk src n ip off mlen := by
  unfold probeAt at h
  split at h
  · cases h
  · rename_i hc
    split at h
    · cases h
    · rename_i hd
      simp only [Option.some.injEq, Prod.mk.injEq] at h
      obtain ⟨rfl, rfl⟩ := h
      have hc1 : ref < ip := by omega
      have hc2 : ip - ref ≤ 65535 := by omega
      have hc3 : read32 src ref = read32 src ip := by
        apply Classical.byContradiction; intro hne; exact hc (Or.inr (Or.inr hne))
      refine ⟨by omega, by omega, hc2, by omega, by omega, ?_⟩
      rw [show ip - (ip - ref) = ref by omega, Nat.add_comm]
      exact Agree.append (read32_agree hc3).symm (count_agree src (ip + 4) (ref + 4) (n - 12))

/-- **Copy validity, independent of the hash table**: whatever `tbl` contains, a sequence emitted
at `ip` has `0 < off ≤ ip`, `off ≤ 65535` and `src[ip + i] = src[ip − off + i]` for `i < mlen`. -/
theorem probe_ok {src : Bytes} {n ip off mlen : Nat} (tbl : Array UInt16)
    (h : probe src n ip tbl = some (off, mlen)) : MatchOk src n ip off mlen :=
  probeAt_ok h

/-! ### the match finder emits a chain of valid sequences -/

def SeqOk (src : Bytes) (n : Nat) (s : Seq) : Prop := s.anchor ≤ s.ip ∧ MatchOk src n s.ip s.off s.mlen

/-- sequences in emission order from anchor `a`, ending at anchor `b` -/
def Chain (src : Bytes) (n : Nat) : Nat → List Seq → Nat → Prop
  | a, [], b => a = b
  | a, s :: r, b => s.anchor = a ∧ SeqOk src n s ∧ Chain src n (s.ip + s.mlen) r b

theorem Chain.snoc {src : Bytes} {n : Nat} {s : Seq} (hs : SeqOk src n s) : ∀ {l : List Seq} {a : Nat},
    Chain src n a l s.anchor → Chain src n a (l ++ [s]) (s.ip + s.mlen) := by
  intro l
  induction l with
  | nil => intro a h; exact ⟨h.symm, hs, rfl⟩
  | cons t r ih => intro a h; exact ⟨h.1, h.2.1, ih h.2.2⟩

theorem findLoop_chain (src : Bytes) (n : Nat) : ∀ (fuel ip anchor : Nat) (tbl : Array UInt16) (acc : List Seq),
    Chain src n 0 acc.reverse anchor → anchor ≤ ip →
    Chain src n 0 (findLoop src n fuel ip anchor tbl acc).1.reverse (findLoop src n fuel ip anchor tbl acc).2 := by
  intro fuel
  induction fuel with
  | zero => intro ip anchor tbl acc h _; exact h
  | succ fuel ih =>
    intro ip anchor tbl acc h ha
    simp only [findLoop]
    split
    · split
      · rename_i off mlen hp
        apply ih
        · rw [List.reverse_cons]
          exact Chain.snoc (s := ⟨anchor, ip, off, mlen⟩) ⟨ha, probe_ok tbl hp⟩ h
        · omega
      · apply ih _ _ _ _ h (by omega)
    · exact h

theorem ops_chain (src : Bytes) : Chain src src.size 0 (ops src).1 (ops src).2 :=
  findLoop_chain src src.size src.size 0 0 emptyTable [] rfl (Nat.le_refl _)

/-! ### executing the sequences gives the source back -/

open Carquet.Spec.Lz4 (applyMatch copy1)

theorem byteAt_toArray (x : List UInt8) (i : Nat) (h : i < x.length) : byteAt x.toArray i = x[i] := by
  simp [byteAt, h]

theorem Agree.repeats {x : List UInt8} {p off m : Nat} (hp : off ≤ p) (hle : p + m ≤ x.length)
    (h : Agree x.toArray p (p - off) m) : Lz77.Repeats x p off m := by
  intro i hi
  have := h i hi
  rw [byteAt_toArray x _ (by omega), byteAt_toArray x _ (by omega)] at this
  rw [show p + i - off = p - off + i by omega, List.getElem?_eq_getElem (by omega), List.getElem?_eq_getElem (by omega),
    this]

/-- the Spec view of an emitted sequence -/
def toSpec (src : Bytes) (s : Seq) : Spec.Lz4.Seq := ⟨slice src s.anchor s.ip, s.off, s.mlen⟩

theorem slice_toArray (x : List UInt8) (a b : Nat) : slice x.toArray a b = (x.take b).drop a := by
  simp [slice, List.extract_toArray, List.extract_eq_take_drop, List.drop_take]

theorem take_append_slice (x : List UInt8) (a b : Nat) (h : a ≤ b) :
    x.take a ++ slice x.toArray a b = x.take b := by
  rw [slice_toArray]
  have : x.take a = (x.take b).take a := by rw [List.take_take]; congr 1; omega
  rw [this, List.take_append_drop]

theorem exec_chain (x : List UInt8) : ∀ (seqs : List Seq) (a b : Nat), Chain x.toArray x.length a seqs b →
    a ≤ x.length →
    Spec.Lz4.exec (x.take a) (seqs.map (toSpec x.toArray)) (x.drop b) = some x := by
  intro seqs
  induction seqs with
  | nil =>
    intro a b h _
    simp only [Chain] at h
    subst h
    simp [Spec.Lz4.exec]
  | cons s r ih =>
    intro a b h ha
    obtain ⟨hsa, ⟨hanc, hm⟩, hr⟩ := h
    subst hsa
    have hend := hm.end_le
    simp only [List.map_cons, Spec.Lz4.exec, toSpec]
    rw [take_append_slice x s.anchor s.ip hanc]
    have hlen : (x.take s.ip).length = s.ip := by simp; omega
    rw [hlen, if_pos ⟨hm.off_pos, hm.off_le, hm.off_le_max, hm.mlen_ge⟩]
    rw [Lz4Spec.applyMatch_eq, Lz77.backCopy_take hm.off_pos s.mlen hm.off_le (by omega) (hm.agree.repeats hm.off_le (by omega))]
    exact ih _ _ hr (by omega)

/-! ### the emitted bytes are the Spec encoding of the sequences -/

theorem chainBytes_eq : ∀ (fuel rem : Nat), rem / 255 ≤ fuel →
    chainBytes fuel rem = List.replicate (rem / 255) 255 ++ [UInt8.ofNat (rem % 255)] := by
  intro fuel
  induction fuel with
  | zero =>
    intro rem h
    have h0 : rem / 255 = 0 := by omega
    have h1 : rem % 255 = rem := by omega
    simp [chainBytes, h0, h1]
  | succ fuel ih =>
    intro rem h
    simp only [chainBytes]
    split
    · rename_i hge
      rw [ih (rem - 255) (by omega)]
      rw [show rem / 255 = (rem - 255) / 255 + 1 by omega, show (rem - 255) % 255 = rem % 255 by omega]
      simp [List.replicate_succ]
    · have h0 : rem / 255 = 0 := by omega
      have h1 : rem % 255 = rem := by omega
      simp [h0, h1]

theorem lenBytes_eq (len : Nat) : lenBytes len = Spec.Lz4.lenExt len := by
  unfold lenBytes Spec.Lz4.lenExt
  by_cases h : 15 ≤ len
  · rw [if_pos h, if_neg (by omega), chainBytes_eq _ _ (by omega)]
  · rw [if_neg h, if_pos (by omega)]

theorem nibble_eq (len : Nat) : nibble len = Spec.Lz4.lenNibble len := by
  unfold nibble Spec.Lz4.lenNibble
  by_cases h : 15 ≤ len
  · rw [if_pos h, if_neg (by omega)]
  · rw [if_neg h, if_pos (by omega)]

theorem slice_length (src : Bytes) (a b : Nat) (hb : b ≤ src.size) : (slice src a b).length = b - a := by
  simp [slice]; omega

theorem seqBytes_eq (src : Bytes) (s : Seq) (h : s.ip ≤ src.size) :
    seqBytes src s = Spec.Lz4.encodeSeq (toSpec src s) := by
  simp only [seqBytes, Spec.Lz4.encodeSeq, toSpec, Spec.Lz4.token, slice_length src _ _ h, lenBytes_eq, nibble_eq]

theorem lastBytes_eq (src : Bytes) (a : Nat) :
    lastBytes src a = Spec.Lz4.encodeLast (slice src a src.size) := by
  have h0 : Spec.Lz4.lenNibble 0 = 0 := by simp [Spec.Lz4.lenNibble]
  simp only [lastBytes, Spec.Lz4.encodeLast, Spec.Lz4.token, slice_length src _ _ (Nat.le_refl _), lenBytes_eq,
    nibble_eq, h0, Nat.add_zero]

/-- all bytes the emission writes -/
def emitted (src : Bytes) (seqs : List Seq) (anchor : Nat) : List UInt8 :=
  Spec.Lz4.encode (seqs.map (toSpec src)) (slice src anchor src.size)

/-- number of additional length bytes -/
def extLen (len : Nat) : Nat := if 15 ≤ len then (len - 15) / 255 + 1 else 0

/-- the length fields of the space test `max_out` never exceed the bytes really written for them -/
theorem div_le_extLen (len : Nat) : len / 255 ≤ extLen len ∧ (len + 4) / 255 ≤ extLen len ∧ extLen len ≤ (len + 240) / 255 := by
  unfold extLen; split <;> omega

theorem lenBytes_length (len : Nat) : (lenBytes len).length = extLen len := by
  unfold extLen
  rw [lenBytes_eq]
  unfold Spec.Lz4.lenExt
  by_cases h : 15 ≤ len
  · rw [if_pos h, if_neg (by omega)]; simp
  · rw [if_neg h, if_pos (by omega)]; simp

theorem seqBytes_length (src : Bytes) (s : Seq) (h : s.ip ≤ src.size) :
    (seqBytes src s).length = 1 + extLen (s.ip - s.anchor) + (s.ip - s.anchor) + 2 + extLen (s.mlen - 4) := by
  simp only [seqBytes, List.length_cons, List.length_append, lenBytes_length, slice_length src _ _ h,
    List.length_nil]
  omega

theorem lastBytes_length (src : Bytes) (a : Nat) :
    (lastBytes src a).length = 1 + extLen (src.size - a) + (src.size - a) := by
  simp only [lastBytes, List.length_cons, List.length_append, lenBytes_length,
    slice_length src _ _ (Nat.le_refl _)]
  omega

theorem emitted_nil (src : Bytes) (a : Nat) : emitted src [] a = lastBytes src a := by
  simp [emitted, Spec.Lz4.encode, lastBytes_eq]

theorem emitted_cons (src : Bytes) (s : Seq) (r : List Seq) (b : Nat) (h : s.ip ≤ src.size) :
    emitted src (s :: r) b = seqBytes src s ++ emitted src r b := by
  simp [emitted, Spec.Lz4.encode, seqBytes_eq src s h]

/-- The space tests never decide: `max_out` and the test before the last literals ask for no more than the bytes that are
then written, so where everything that is to be written fits, emission succeeds and writes the Spec encoding. -/
theorem serialize_eq (src : Bytes) (cap : Nat) : ∀ (seqs : List Seq) (a b : Nat) (out : List UInt8),
    Chain src src.size a seqs b → out.length + (emitted src seqs b).length ≤ cap →
    serialize src cap b seqs out.toArray = .ok (out ++ emitted src seqs b).toArray
  | [], _, b, out, _, h => by
    have := (div_le_extLen (src.size - b)).1
    rw [emitted_nil, lastBytes_length] at h
    rw [serialize, wr, List.size_toArray, lastBytes_length, if_neg (by omega), if_neg (by omega), emitted_nil,
      List.toArray_appendList]
  | s :: r, _, b, out, ⟨_, ⟨_, hm⟩, hr⟩, h => by
    have hip : s.ip ≤ src.size := by have := hm.end_le; omega
    have := (div_le_extLen (s.ip - s.anchor)).1
    have := (div_le_extLen (s.mlen - 4)).2.1
    rw [emitted_cons src s r b hip, List.length_append, seqBytes_length src s hip] at h
    rw [serialize, wr, List.size_toArray, maxOut, seqBytes_length src s hip, if_neg (by omega), if_neg (by omega),
      emitted_cons src s r b hip, ← List.append_assoc, List.toArray_appendList]
    exact serialize_eq src cap r _ b _ hr (by rw [List.length_append, seqBytes_length src s hip]; omega)

/-- Why the advertised bound suffices: a sequence of `l` literals and a match of `m ≥ 4` takes at most
`l + m + (l + m) / 255` bytes, the last literals two more than that. -/
theorem emitted_length (src : Bytes) : ∀ (seqs : List Seq) (a b : Nat), Chain src src.size a seqs b → a ≤ src.size →
    (emitted src seqs b).length ≤ (src.size - a) + (src.size - a) / 255 + 2
  | [], a, b, h, _ => by
    cases (show a = b from h)
    have := (div_le_extLen (src.size - a)).2.2
    rw [emitted_nil, lastBytes_length]
    omega
  | s :: r, a, b, ⟨hsa, ⟨hanc, hm⟩, hr⟩, ha => by
    cases hsa
    have hend := hm.end_le
    have hge := hm.mlen_ge
    have := (div_le_extLen (s.ip - s.anchor)).2.2
    have := (div_le_extLen (s.mlen - 4)).2.2
    have := emitted_length src r _ b hr (by omega)
    rw [emitted_cons src s r b (by omega), List.length_append, seqBytes_length src s (by omega)]
    omega

/-! ### end-of-block rules -/

theorem chain_last {src : Bytes} {n : Nat} : ∀ {seqs : List Seq} {a b : Nat} {s : Seq}, Chain src n a seqs b →
    seqs.getLast? = some s → b = s.ip + s.mlen ∧ SeqOk src n s := by
  intro seqs
  induction seqs with
  | nil => intro a b s _ h; simp at h
  | cons t r ih =>
    intro a b s h hl
    obtain ⟨_, ht, hr⟩ := h
    cases r with
    | nil =>
      simp only [List.getLast?_singleton, Option.some.injEq] at hl
      subst hl
      simp only [Chain] at hr
      exact ⟨hr.symm, ht⟩
    | cons u r' =>
      rw [List.getLast?_cons_cons] at hl
      exact ih hr hl

theorem endRules_chain (src : Bytes) (seqs : List Seq) (b : Nat) (h : Chain src src.size 0 seqs b) :
    Spec.Lz4.EndRules (seqs.map (toSpec src)) (slice src b src.size) := by
  unfold Spec.Lz4.EndRules
  rw [List.getLast?_map]
  cases hl : seqs.getLast? with
  | none => simp
  | some s =>
    obtain ⟨hb, _, hm⟩ := chain_last h hl
    have := hm.end_le
    simp only [Option.map_some, toSpec, slice_length src _ _ (Nat.le_refl _)]
    omega

/-! ### the compressor as a whole -/

theorem finish_ok (l : List UInt8) : finish (.ok l.toArray) = .ok l := by simp [finish]

theorem compress_small (x : List UInt8) (cap : Nat) (hcap : bound x.length ≤ cap) (h13 : x.length < 13) :
    compress x cap = .ok (Spec.Lz4.encode [] x) := by
  have e : Spec.Lz4.encode [] x = UInt8.ofNat (x.length * 16) :: x := by
    simp only [Spec.Lz4.encode, Spec.Lz4.encodeLast, Spec.Lz4.token, Spec.Lz4.lenNibble, Spec.Lz4.lenExt]
    rw [if_pos (by omega), if_pos (by omega), if_pos (by omega)]
    simp
  unfold bound at hcap
  simp only [compress, compressA, bound, List.size_toArray, small, wr, e]
  rw [if_neg (by omega)]
  by_cases h0 : x.length = 0
  · obtain rfl := List.eq_nil_of_length_eq_zero h0
    rw [if_pos h0, if_neg (by omega), if_neg (by simp; omega)]
    rfl
  · rw [if_neg h0, if_pos h13, if_neg (by omega), if_pos (by omega), if_neg (by simp; omega)]
    simp [finish]

/-- With at least the advertised bound as capacity the compressor succeeds, its output is the
Spec encoding of sequences that reproduce `x`, respects the end-of-block rules, and is not longer
than the bound. -/
theorem compress_spec (x : List UInt8) (cap : Nat) (hcap : bound x.length ≤ cap) :
    ∃ seqs last, compress x cap = .ok (Spec.Lz4.encode seqs last) ∧
      Spec.Lz4.exec [] seqs last = some x ∧ Spec.Lz4.EndRules seqs last ∧
      (Spec.Lz4.encode seqs last).length ≤ bound x.length := by
  by_cases h13 : x.length < 13
  · refine ⟨[], x, compress_small x cap hcap h13, by simp [Spec.Lz4.exec], by simp [Spec.Lz4.EndRules], ?_⟩
    simp only [Spec.Lz4.encode, Spec.Lz4.encodeLast, Spec.Lz4.lenExt, bound]
    rw [if_pos (by omega)]
    simp; omega
  · unfold bound at hcap
    have hch := ops_chain x.toArray
    simp only [List.size_toArray] at hch
    have hlen := emitted_length x.toArray _ 0 _ (by simpa using hch) (Nat.zero_le _)
    have hs := serialize_eq x.toArray cap _ 0 _ [] (by simpa using hch) (by simp at hlen ⊢; omega)
    refine ⟨(ops x.toArray).1.map (toSpec x.toArray), slice x.toArray (ops x.toArray).2 x.length, ?_, ?_, ?_, ?_⟩
    · simp only [compress, compressA, bound, List.size_toArray, compressMain]
      rw [if_neg (by omega), if_neg (by omega), if_neg h13]
      have e : (#[] : Array UInt8) = ([] : List UInt8).toArray := rfl
      rw [e, hs]
      exact finish_ok _
    · have := exec_chain x _ 0 _ hch (Nat.zero_le _)
      simpa [slice_toArray] using this
    · have := endRules_chain x.toArray _ _ (by simpa using hch)
      simpa using this
    · simp only [emitted, List.size_toArray] at hlen
      unfold bound
      omega

theorem compress_refused (x : List UInt8) (cap : Nat) (h : cap < bound x.length) :
    compress x cap = .error .compression := by
  simp only [compress, compressA, List.size_toArray]
  rw [if_pos h]
  rfl

theorem compress_ok {x out : List UInt8} {cap : Nat} (h : compress x cap = .ok out) :
    ∃ seqs last, out = Spec.Lz4.encode seqs last ∧ Spec.Lz4.exec [] seqs last = some x ∧
      Spec.Lz4.EndRules seqs last := by
  by_cases hc : bound x.length ≤ cap
  · obtain ⟨seqs, last, h1, h2, h3, _⟩ := compress_spec x cap hc
    rw [h1] at h
    cases h
    exact ⟨seqs, last, rfl, h2, h3⟩
  · rw [compress_refused x cap (by omega)] at h
    cases h

/-! ### a test vector, stepped through the match finder

40 equal bytes: nothing at position 0 (the zeroed table proposes position 0 itself), an overlapping
match of 27 at position 1, and from position 28 on `findLoop_tail`. -/

theorem findLoop_tail (src : Bytes) (n : Nat) : ∀ (fuel ip anchor : Nat) (tbl : Array UInt16) (acc : List Seq),
    n < ip + 16 → findLoop src n fuel ip anchor tbl acc = (acc, anchor) := by
  intro fuel
  induction fuel with
  | zero => intro ip anchor tbl acc _; rfl
  | succ fuel ih =>
    intro ip anchor tbl acc h
    have hp : probe src n ip tbl = none := by
      simp only [probe, probeAt]
      split
      · rfl
      · rw [if_pos (by omega)]
    simp only [findLoop, hp]
    split
    · exact ih _ _ _ _ (by omega)
    · rfl

theorem lookup_emptyTable (h : Nat) : lookup emptyTable h = 0 := by
  simp [lookup, emptyTable, Array.getD]

theorem insert_emptyTable_zero (h : Nat) : Impl.Lz4.insert emptyTable h 0 = emptyTable := by
  simp [Impl.Lz4.insert, emptyTable]

theorem probe_replicate_40 : probe (List.replicate 40 7).toArray 40 1 emptyTable = some (1, 27) := by
  rw [probe, lookup_emptyTable]
  decide +kernel

theorem findLoop_replicate_40 :
    findLoop (List.replicate 40 7).toArray 40 40 0 0 emptyTable [] = ([⟨0, 1, 1, 27⟩], 28) := by
  rw [findLoop, if_pos (by decide), probe, lookup_emptyTable, probeAt, if_pos (Or.inl (Nat.le_refl _))]
  simp only [insert_emptyTable_zero, Nat.zero_add]
  rw [findLoop, if_pos (by decide), probe_replicate_40]
  exact findLoop_tail _ _ _ _ _ _ _ (by decide)

theorem compress_replicate_40 :
    compress (List.replicate 40 7) 56 = .ok [0x1f, 7, 1, 0, 8, 0xc0, 7, 7, 7, 7, 7, 7, 7, 7, 7, 7, 7, 7] := by
  rw [compress, compressA, if_neg (by decide), if_neg (by decide), if_neg (by decide), ops, List.size_toArray,
    List.length_replicate, findLoop_replicate_40]
  decide +kernel

end Carquet.Proofs.Lz4Comp
