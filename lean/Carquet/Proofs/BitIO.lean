import Carquet.Impl.BitIO
import Carquet.Proofs.NatBits
/-
The bit reader and writer of Impl/BitIO.lean against an abstract bit string.

Reader: a state denotes the integer `stream r` (the bits not yet delivered, least significant first) and
their number `avail r`; every read returns the low bits of the stream and shifts it; every index of `data`
read lies below `size`.
Writer: a state denotes, together with the bytes already stored, the integer written so far; bytes beyond
the capacity are dropped, the first `cap` bytes are always right.
-/
namespace Carquet.Proofs.BitIO
open Carquet.Impl.BitIO Carquet.Impl.Bitpack Carquet.Proofs.NatBits

/-! ## Reader -/

/-- number of bits not yet delivered -/
def avail (r : Reader) : Nat := r.bufferBits + 8 * (r.data.length - r.bytePos)

/-- the bits not yet delivered, as an integer (first bit = least significant) -/
def stream (r : Reader) : Nat := r.buffer + 2 ^ r.bufferBits * leNat (r.data.drop r.bytePos)

structure RInv (r : Reader) : Prop where
  pos : r.bytePos ≤ r.data.length
  bits : r.bufferBits ≤ 64
  buf : r.buffer < 2 ^ r.bufferBits

theorem RInv_init (data : List UInt8) : RInv (Reader.init data) :=
  ⟨Nat.zero_le _, by simp [Reader.init], by simp [Reader.init]⟩

theorem stream_init (data : List UInt8) : stream (Reader.init data) = leNat data := by
  simp [stream, Reader.init]

theorem avail_init (data : List UInt8) : avail (Reader.init data) = 8 * data.length := by
  simp [avail, Reader.init]

theorem or_shl_eq_add (a b s : Nat) (h : a < 2 ^ s) : a ||| (b <<< s) = a + b * 2 ^ s := by
  rw [shl_eq, Nat.or_comm, Nat.mul_comm b, or_eq_add _ _ _ h, Nat.add_comm]

theorem stream_lt (r : Reader) (h : RInv r) : stream r < 2 ^ avail r := by
  have hl := leNat_lt (r.data.drop r.bytePos)
  rw [List.length_drop] at hl
  unfold stream avail
  rw [Nat.mul_comm (2 ^ r.bufferBits)]
  exact add_shl_lt h.buf hl

/-- what the caller of `refill_buffer` knows afterwards -/
structure Refilled (r r1 : Reader) (idx : List Nat) : Prop where
  inv : RInv r1
  str : stream r1 = stream r
  av : avail r1 = avail r
  data : r1.data = r.data
  posle : r.bytePos ≤ r1.bytePos
  idxs : ∀ i ∈ idx, r.bytePos ≤ i ∧ i < r1.bytePos

theorem Refilled.refl (r : Reader) (h : RInv r) : Refilled r r [] :=
  ⟨h, rfl, rfl, rfl, Nat.le_refl _, fun i hi => by cases hi⟩

theorem Refilled.trans {r r1 r2 : Reader} {i1 i2 : List Nat} (h1 : Refilled r r1 i1) (h2 : Refilled r1 r2 i2) :
    Refilled r r2 (i1 ++ i2) :=
  ⟨h2.inv, h2.str.trans h1.str, h2.av.trans h1.av, h2.data.trans h1.data, Nat.le_trans h1.posle h2.posle,
   fun i hi => (List.mem_append.mp hi).elim
     (fun h => ⟨(h1.idxs i h).1, Nat.lt_of_lt_of_le (h1.idxs i h).2 h2.posle⟩)
     (fun h => ⟨Nat.le_trans h1.posle (h2.idxs i h).1, (h2.idxs i h).2⟩)⟩

theorem refillStep_spec (r : Reader) (h : RInv r) (h1 : r.bufferBits ≤ 56) (h2 : r.bytePos < r.data.length) :
    Refilled r (refillStep r) [r.bytePos] := by
  have hb : (r.data[r.bytePos]).toNat < 2 ^ 8 := (r.data[r.bytePos]).toNat_lt
  have hlt := add_shl_lt h.buf hb
  have hbuf : (refillStep r).buffer = r.buffer + (r.data[r.bytePos]).toNat * 2 ^ r.bufferBits := by
    show (r.buffer ||| ((r.data.getD r.bytePos 0).toNat <<< r.bufferBits)) % 2 ^ 64 = _
    rw [show r.data.getD r.bytePos 0 = r.data[r.bytePos] by simp [List.getD, List.getElem?_eq_getElem h2],
      or_shl_eq_add _ _ _ h.buf]
    exact Nat.mod_eq_of_lt (Nat.lt_of_lt_of_le hlt (Nat.pow_le_pow_right (by decide) (by omega)))
  refine ⟨⟨h2, by show r.bufferBits + 8 ≤ 64; omega, hbuf ▸ hlt⟩, ?_, ?_, rfl, Nat.le_succ _,
    fun i hi => by rw [List.mem_singleton.mp hi]; exact ⟨Nat.le_refl _, Nat.lt_succ_self _⟩⟩
  · show (refillStep r).buffer + 2 ^ (r.bufferBits + 8) * leNat (r.data.drop (r.bytePos + 1)) = stream r
    rw [hbuf, stream, List.drop_eq_getElem_cons h2, leNat, Nat.pow_add, Nat.mul_add, Nat.mul_assoc, Nat.add_assoc,
      Nat.mul_comm _ (2 ^ r.bufferBits)]
  · show r.bufferBits + 8 + 8 * (r.data.length - (r.bytePos + 1)) = r.bufferBits + 8 * (r.data.length - r.bytePos)
    omega

/-- `refill_buffer`: invariant, stream and count unchanged; the indices read are `byte_pos ..` and all
below `size`; with enough fuel it stops only when more than 56 bits are buffered or the data is exhausted -/
theorem refillLoop_spec : ∀ (f : Nat) (r : Reader), RInv r →
    Refilled r (refillLoop f r).1 (refillLoop f r).2 ∧
    (56 < r.bufferBits + 8 * f → 56 < (refillLoop f r).1.bufferBits ∨ (refillLoop f r).1.bytePos = r.data.length) := by
  intro f
  induction f with
  | zero => intro r h; exact ⟨Refilled.refl r h, fun hf => Or.inl hf⟩
  | succ f ih =>
    intro r h
    rw [refillLoop]
    split
    · rename_i hc
      have s := refillStep_spec r h hc.1 hc.2
      obtain ⟨i1, i2⟩ := ih (refillStep r) s.inv
      exact ⟨s.trans i1, fun hf => s.data ▸ i2 (by show 56 < r.bufferBits + 8 + 8 * f; omega)⟩
    · rename_i hc
      refine ⟨Refilled.refl r h, fun _ => ?_⟩
      by_cases h56 : 56 < r.bufferBits
      · exact Or.inl h56
      · exact Or.inr (Nat.le_antisymm h.pos (Nat.not_lt.mp (fun hlt => hc ⟨Nat.not_lt.mp h56, hlt⟩)))

theorem refill_spec (r : Reader) (h : RInv r) :
    Refilled r (refill r).1 (refill r).2 ∧
    (56 < (refill r).1.bufferBits ∨ (refill r).1.bytePos = r.data.length) := by
  obtain ⟨i1, i2⟩ := refillLoop_spec 8 r h
  exact ⟨i1, i2 (by omega)⟩

/-- bits available in the accumulator after the conditional refill: all that were asked for, or all there are -/
theorem refillIfShort_spec (r : Reader) (h : RInv r) (n : Nat) (hn : n ≤ 56) :
    Refilled r (refillIfShort r n).1 (refillIfShort r n).2 ∧
    min n (refillIfShort r n).1.bufferBits = min n (avail r) := by
  have key : ∀ {a b : Nat}, n ≤ a → min n a = min n (a + b) := fun h1 => by
    rw [Nat.min_eq_left h1, Nat.min_eq_left (Nat.le_trans h1 (Nat.le_add_right _ _))]
  unfold refillIfShort
  split
  · obtain ⟨hr, hpost⟩ := refill_spec r h
    refine ⟨hr, ?_⟩
    rw [← hr.av]
    rcases hpost with h56 | hend
    · exact key (Nat.le_trans hn (Nat.le_of_lt h56))
    · unfold avail
      rw [hr.data, hend, Nat.sub_self, Nat.mul_zero, Nat.add_zero]
  · rename_i hc
    exact ⟨Refilled.refl r h, key (Nat.not_lt.mp hc)⟩

theorem mod_two_pow_of_lt {x a b : Nat} (hx : x < 2 ^ a) (hab : a ≤ b) : x % 2 ^ b = x :=
  Nat.mod_eq_of_lt (Nat.lt_of_lt_of_le hx (Nat.pow_le_pow_right (by decide) hab))

theorem shr_of_lt {x a b : Nat} (hx : x < 2 ^ a) (hab : a ≤ b) : x >>> b = 0 := by
  rw [shr_eq]
  exact Nat.div_eq_of_lt (Nat.lt_of_lt_of_le hx (Nat.pow_le_pow_right (by decide) hab))

theorem take_bits (r1 : Reader) (h : RInv r1) (m : Nat) (hm : m ≤ r1.bufferBits) :
    r1.buffer % 2 ^ m = stream r1 % 2 ^ m ∧
    RInv { r1 with buffer := r1.buffer >>> m, bufferBits := r1.bufferBits - m } ∧
    stream { r1 with buffer := r1.buffer >>> m, bufferBits := r1.bufferBits - m } = stream r1 >>> m ∧
    avail { r1 with buffer := r1.buffer >>> m, bufferBits := r1.bufferBits - m } = avail r1 - m := by
  have hsplit : 2 ^ r1.bufferBits = 2 ^ m * 2 ^ (r1.bufferBits - m) := by
    rw [← Nat.pow_add, Nat.add_sub_cancel' hm]
  refine ⟨?_, ⟨h.pos, Nat.le_trans (Nat.sub_le _ _) h.bits, shr_lt h.buf _⟩, ?_, ?_⟩
  · unfold stream
    rw [hsplit, Nat.mul_assoc, Nat.add_mul_mod_self_left]
  · simp only [stream]
    rw [shr_eq, shr_eq, hsplit, Nat.mul_assoc, Nat.add_mul_div_left _ _ (Nat.two_pow_pos m)]
  · exact (Nat.sub_add_comm hm).symm

/-- what a read does to the abstract state `(stream, avail)`; `w` = number of bits taken -/
structure ReadOK (r : Reader) (w : Nat) (v : Nat) (r' : Reader) (idx : List Nat) : Prop where
  val : v = stream r % 2 ^ w
  inv : RInv r'
  str : stream r' = stream r >>> w
  av : avail r' = avail r - w
  data : r'.data = r.data
  posle : r.bytePos ≤ r'.bytePos
  idxs : ∀ i ∈ idx, r.bytePos ≤ i ∧ i < r'.bytePos

/-- **`read_bits` (after the clamps): the low `n` bits of the stream, zero-extended at the end of the data** -/
theorem readBitsCore_spec (r : Reader) (h : RInv r) (n : Nat) (hn : n ≤ 32) :
    ReadOK r n (readBitsCore r n).1 (readBitsCore r n).2.1 (readBitsCore r n).2.2 := by
  obtain ⟨hr, hmin⟩ := refillIfShort_spec r h n (by omega)
  obtain ⟨t1, t2, t3, t4⟩ := take_bits (refillIfShort r n).1 hr.inv _ (Nat.min_le_right n _)
  have hlt := stream_lt r h
  -- at the end of the data the stream has fewer than `n` bits: taking them all is taking `n`
  have hmod : stream r % 2 ^ min n (avail r) = stream r % 2 ^ n := by
    rcases Nat.le_total n (avail r) with hc | hc
    · rw [Nat.min_eq_left hc]
    · rw [Nat.min_eq_right hc, Nat.mod_eq_of_lt hlt, mod_two_pow_of_lt hlt hc]
  have hshr : stream r >>> min n (avail r) = stream r >>> n := by
    rcases Nat.le_total n (avail r) with hc | hc
    · rw [Nat.min_eq_left hc]
    · rw [Nat.min_eq_right hc, shr_of_lt hlt (Nat.le_refl _), shr_of_lt hlt hc]
  refine ⟨?_, t2, t3.trans (by rw [hr.str, hmin, hshr]), t4.trans ?_, hr.data, hr.posle, hr.idxs⟩
  · show ((refillIfShort r n).1.buffer &&& ((1 <<< min n (refillIfShort r n).1.bufferBits) - 1)) % 2 ^ 32 = _
    rw [one_shl, and_mask, t1, hr.str, hmin, hmod]
    exact mod_two_pow_of_lt (Nat.mod_lt _ (Nat.two_pow_pos n)) hn
  · rw [hr.av, hmin, sub_min]

theorem ReadOK.zero (r : Reader) (h : RInv r) : ReadOK r 0 0 r [] :=
  ⟨(Nat.mod_one _).symm, h, rfl, rfl, rfl, Nat.le_refl _, fun i hi => by cases hi⟩

theorem readBits_spec (r : Reader) (h : RInv r) (n : Nat) :
    ReadOK r (min n 32) (readBits r n).1 (readBits r n).2.1 (readBits r n).2.2 := by
  unfold readBits
  split
  · rename_i h0
    rw [h0]
    exact ReadOK.zero r h
  · exact readBitsCore_spec r h (min n 32) (Nat.min_le_right _ _)

theorem readBits64_spec (r : Reader) (h : RInv r) (n : Nat) :
    ReadOK r (min n 64) (readBits64 r n).1 (readBits64 r n).2.1 (readBits64 r n).2.2 := by
  unfold readBits64
  split
  · rename_i h0
    rw [h0]
    exact ReadOK.zero r h
  · split
    · rename_i hle
      have := readBits_spec r h (min n 64)
      rwa [Nat.min_eq_left hle] at this
    · rename_i hgt
      have h1 := readBits_spec r h 32
      have h2 := readBits_spec (readBits r 32).2.1 h1.inv (min n 64 - 32)
      rw [Nat.min_self] at h1
      rw [Nat.min_eq_left (by omega)] at h2
      have hw : 32 + (min n 64 - 32) = min n 64 := by omega
      refine ⟨?_, h2.inv, ?_, ?_, h2.data.trans h1.data, Nat.le_trans h1.posle h2.posle, ?_⟩
      · show ((readBits r 32).1 ||| ((readBits (readBits r 32).2.1 (min n 64 - 32)).1 <<< 32)) % 2 ^ 64 = _
        rw [h1.val, h2.val, h1.str, or_low_high, hw]
        exact mod_two_pow_of_lt (Nat.mod_lt _ (Nat.two_pow_pos _)) (Nat.min_le_right _ _)
      · rw [h2.str, h1.str, shr_shr, hw]
      · rw [h2.av, h1.av, Nat.sub_sub, hw]
      · intro i hi
        rcases List.mem_append.mp hi with hi | hi
        · exact ⟨(h1.idxs i hi).1, Nat.lt_of_lt_of_le (h1.idxs i hi).2 h2.posle⟩
        · exact ⟨Nat.le_trans h1.posle (h2.idxs i hi).1, (h2.idxs i hi).2⟩

theorem refillIfEmpty_eq (r : Reader) : refillIfEmpty r = refillIfShort r 1 := by
  unfold refillIfEmpty refillIfShort
  by_cases h : r.bufferBits = 0
  · rw [if_pos h, if_pos (by omega)]
  · rw [if_neg h, if_neg (by omega)]

/-- `read_bit`: −1 exactly when no bit is left, otherwise the lowest bit of the stream -/
theorem readBit_spec (r : Reader) (h : RInv r) :
    (readBit r).1 = (if avail r = 0 then -1 else ((stream r % 2 : Nat) : Int)) ∧
    ReadOK r (min 1 (avail r)) (stream r % 2 ^ min 1 (avail r)) (readBit r).2.1 (readBit r).2.2 := by
  obtain ⟨hr, hmin⟩ := refillIfShort_spec r h 1 (by decide)
  unfold readBit
  rw [refillIfEmpty_eq]
  by_cases hb : (refillIfShort r 1).1.bufferBits = 0
  · have ha : avail r = 0 := by rw [hb] at hmin; omega
    rw [if_pos hb, if_pos ha, ha]
    exact ⟨rfl, rfl, hr.inv, hr.str, hr.av, hr.data, hr.posle, hr.idxs⟩
  · have ha : min 1 (avail r) = 1 := by omega
    obtain ⟨t1, t2, t3, t4⟩ := take_bits (refillIfShort r 1).1 hr.inv 1 (Nat.pos_of_ne_zero hb)
    rw [if_neg hb, if_neg (by omega), ha]
    refine ⟨?_, rfl, t2, t3.trans (by rw [hr.str]), t4.trans (by rw [hr.av]), hr.data, hr.posle, hr.idxs⟩
    show (((refillIfShort r 1).1.buffer &&& 1 : Nat) : Int) = _
    rw [Nat.and_one_is_mod, ← hr.str, ← Nat.pow_one 2, t1]

/-! ### the reader as an abstract machine on `(stream, avail)` -/

/-- one call on the abstract state: `S` the undelivered bits as an integer, `A` their number -/
def astep : Nat × Nat → ROp → RObs × (Nat × Nat)
  | (S, A), .bit => if A = 0 then (.bit (-1), (S, A)) else (.bit ((S % 2 : Nat) : Int), (S >>> 1, A - 1))
  | (S, A), .bits n => (.val (S % 2 ^ min n 32), (S >>> min n 32, A - min n 32))
  | (S, A), .bits64 n => (.val (S % 2 ^ min n 64), (S >>> min n 64, A - min n 64))
  | (S, A), .hasMore => (.more (decide (0 < A)), (S, A))
  | (S, A), .remaining => (.rem (A % 2 ^ 64), (S, A))

def arun : Nat × Nat → List ROp → List RObs
  | _, [] => []
  | st, op :: ops => (astep st op).1 :: arun (astep st op).2 ops

theorem rstep_spec (r : Reader) (h : RInv r) (op : ROp) :
    (rstep r op).1 = (astep (stream r, avail r) op).1 ∧
    RInv (rstep r op).2.1 ∧
    (stream (rstep r op).2.1, avail (rstep r op).2.1) = (astep (stream r, avail r) op).2 ∧
    (rstep r op).2.1.data = r.data ∧ r.bytePos ≤ (rstep r op).2.1.bytePos ∧
    (∀ i ∈ (rstep r op).2.2, r.bytePos ≤ i ∧ i < (rstep r op).2.1.bytePos) := by
  cases op with
  | bit =>
    obtain ⟨hv, ok⟩ := readBit_spec r h
    simp only [rstep, astep, hv]
    by_cases h0 : avail r = 0
    · rw [if_pos h0, if_pos h0]
      exact ⟨rfl, ok.inv, by rw [ok.str, ok.av, h0]; rfl, ok.data, ok.posle, ok.idxs⟩
    · rw [if_neg h0, if_neg h0]
      have ha : min 1 (avail r) = 1 := by omega
      exact ⟨rfl, ok.inv, by rw [ok.str, ok.av, ha], ok.data, ok.posle, ok.idxs⟩
  | bits n =>
    have ok := readBits_spec r h n
    simp only [rstep, astep]
    exact ⟨by rw [ok.val], ok.inv, by rw [ok.str, ok.av], ok.data, ok.posle, ok.idxs⟩
  | bits64 n =>
    have ok := readBits64_spec r h n
    simp only [rstep, astep]
    exact ⟨by rw [ok.val], ok.inv, by rw [ok.str, ok.av], ok.data, ok.posle, ok.idxs⟩
  | hasMore =>
    refine ⟨?_, h, rfl, rfl, Nat.le_refl _, fun i hi => by cases hi⟩
    show RObs.more (hasMore r) = RObs.more (decide (0 < avail r))
    congr 1
    have := h.pos
    rw [Bool.eq_iff_iff, decide_eq_true_iff]
    simp only [hasMore, Bool.or_eq_true, decide_eq_true_eq]
    unfold avail
    omega
  | remaining =>
    refine ⟨?_, h, rfl, rfl, Nat.le_refl _, fun i hi => by cases hi⟩
    show RObs.rem (remainingBits r) = RObs.rem (avail r % 2 ^ 64)
    congr 1
    simp only [remainingBits, avail]
    congr 1
    omega

/-- **every history of reads**: the observations are those of the abstract machine started on the whole input,
every index of `data` read is below `size`, and `byte_pos ≤ size` at the end -/
theorem rrun_spec : ∀ (ops : List ROp) (r : Reader), RInv r →
    (rrun r ops).1 = arun (stream r, avail r) ops ∧
    RInv (rrun r ops).2.2 ∧ (rrun r ops).2.2.data = r.data ∧
    (∀ i ∈ (rrun r ops).2.1, r.bytePos ≤ i ∧ i < r.data.length) := by
  intro ops
  induction ops with
  | nil => intro r h; exact ⟨rfl, h, rfl, fun i hi => by cases hi⟩
  | cons op ops ih =>
    intro r h
    obtain ⟨s1, s2, s3, s4, s5, s6⟩ := rstep_spec r h op
    obtain ⟨i1, i2, i3, i4⟩ := ih (rstep r op).2.1 s2
    simp only [rrun, arun]
    refine ⟨by rw [s1, i1, s3], i2, by rw [i3, s4], ?_⟩
    intro i hi
    rcases List.mem_append.mp hi with hi | hi
    · have := s6 i hi
      have := s2.pos
      rw [s4] at this
      omega
    · have := i4 i hi
      rw [s4] at this
      omega

end Carquet.Proofs.BitIO
