import Carquet.Impl.Simd
import Carquet.Proofs.SimdBlocked
import Carquet.Proofs.SimdBools
/-
C15 helper lemmas: definition-level kernels (count_non_nulls, build_null_bitmap, fill) and the
run-length search.
-/
namespace Carquet.Proofs.SimdLevels
open Carquet Carquet.Impl.Simd Carquet.Proofs.SimdBlocked Carquet.Proofs.SimdBools

/-! ### compare + movemask -/

theorem cmpMask_replicate {w : Nat} (r : BitVec w → BitVec w → Bool) (m : BitVec w) (a : List (BitVec w)) :
    cmpMask r a (set1 a.length m) = a.map fun x => if r x m then BitVec.allOnes w else 0#w := by
  unfold cmpMask set1
  induction a with
  | nil => rfl
  | cons x xs ih => simp [List.replicate_succ, ih]

theorem movemask_cmp {w : Nat} (r : BitVec w → BitVec w → Bool) (m : BitVec w) (a : List (BitVec w)) :
    movemaskLanes (cmpMask r a (set1 a.length m)) = a.flatMap fun x => List.replicate (w / 8) (r x m) := by
  rw [cmpMask_replicate, movemaskLanes, List.flatMap_map]
  congr 1
  funext x
  have e : List.replicate (w / 8) (r x m) = (List.range (w / 8)).map fun _ => r x m := by
    rw [List.map_const', List.length_range]
  rw [e]
  apply List.map_congr_left
  intro j hj
  have : 8 * j + 7 < w := by have := List.mem_range.mp hj; omega
  cases r x m <;> simp [this]

/-! ### count_non_nulls -/

theorem cnn_fold (mx : BitVec 16) (b : List (BitVec 16)) :
    ∀ c, b.foldl (cnnStep mx) c = c + (b.filter (· == mx)).length := by
  induction b with
  | nil => intro c; rfl
  | cons x xs ih =>
    intro c
    simp only [List.foldl_cons, ih, cnnStep, List.filter_cons]
    by_cases h : (x == mx) = true <;> simp [h] <;> omega

theorem popcount_replicate (k : Nat) (mx : BitVec 16) (b : List (BitVec 16)) :
    popcount (b.flatMap fun x => List.replicate k (x == mx)) = k * (b.filter (· == mx)).length := by
  unfold popcount
  induction b with
  | nil => rfl
  | cons x xs ih =>
    simp only [List.flatMap_cons, List.count_append, ih, List.filter_cons, List.count_replicate]
    by_cases h : (x == mx) = true <;> simp [h, Nat.mul_succ] <;> omega

theorem sse_count_block (mx : BitVec 16) (c : Nat) (b : List (BitVec 16)) :
    sseCountNonNullsBlk mx c b = b.foldl (cnnStep mx) c := by
  unfold sseCountNonNullsBlk
  rw [movemask_cmp, popcount_replicate, cnn_fold]
  omega

/-! ### null bitmap -/

theorem packs_movemask (r : BitVec 16 → BitVec 16 → Bool) (m : BitVec 16) (a : List (BitVec 16)) :
    movemaskEpi8 (packsEpi16Zero (cmpMask r a (set1 a.length m))) =
      a.map (fun x => r x m) ++ List.replicate 8 false := by
  rw [cmpMask_replicate]
  unfold movemaskEpi8 packsEpi16Zero
  rw [List.map_append, List.map_map, List.map_map]
  congr 1
  apply List.map_congr_left
  intro x _
  simp only [Function.comp]
  cases r x m <;> decide

theorem sse_null_bitmap_block (mx : BitVec 16) (b : List (BitVec 16)) (h : b.length = 8) :
    sseNullBitmapBlk mx b = nullBitmapScalar mx b := by
  simp only [sseNullBitmapBlk, nullBitmapScalar, bytesOfMask, packs_movemask]
  obtain ⟨c0, c1, c2, c3, c4, c5, c6, c7, hc⟩ := list_len8 (b.map fun x => x.slt mx) (by simpa using h)
  rw [hc]
  simp [Spec.Kernels.packBits, List.replicate]

theorem nullBitmapScalar_append (mx : BitVec 16) (a r : List (BitVec 16)) (h : a.length = 8) :
    nullBitmapScalar mx (a ++ r) = nullBitmapScalar mx a ++ nullBitmapScalar mx r := by
  unfold nullBitmapScalar
  rw [List.map_append, packBits_append 1 _ (by simpa using h)]

/-! ### fill -/

theorem sse_fill_block (v : BitVec 16) (old : List (BitVec 16)) : sseFillBlk v old = old.map fun _ => v :=
  (List.map_const' ..).symm

/-! ### run-length search -/

theorem firstIdx_not_map {α : Type} (f : α → Bool) (l : List α) :
    firstIdx (fun b => !b) (l.map f) = firstIdx (fun x => !f x) l := by
  induction l with
  | nil => rfl
  | cons x xs ih => simp [firstIdx, ih]

theorem firstIdx_replicate4 {α : Type} (f : α → Bool) (l : List α) :
    firstIdx (fun b => !b) (l.flatMap fun x => List.replicate 4 (f x)) = 4 * firstIdx (fun x => !f x) l := by
  induction l with
  | nil => rfl
  | cons x xs ih =>
    rw [List.flatMap_cons, firstIdx]
    cases f x
    · rfl
    · show firstIdx _ (xs.flatMap _) + 1 + 1 + 1 + 1 = 4 * (firstIdx _ xs + 1)
      rw [ih]; omega

theorem all_id_map {α : Type} (f : α → Bool) (l : List α) :
    ((l.map f).all id = true) ↔ ¬ (firstIdx (fun x => !f x) l < l.length) := by
  induction l with
  | nil => simp [firstIdx]
  | cons x xs ih =>
    cases hf : f x
    · simp [firstIdx, hf]
    · simp only [List.map_cons, List.all_cons, id, hf, Bool.true_and, firstIdx, Bool.not_true,
        Bool.false_eq_true, if_false, List.length_cons, Nat.add_lt_add_iff_right]
      exact ih

theorem all_id_replicate4 {α : Type} (f : α → Bool) (l : List α) :
    ((l.flatMap fun x => List.replicate 4 (f x)).all id = true) ↔ ((l.map f).all id = true) := by
  induction l with
  | nil => simp
  | cons x xs ih =>
    simp only [List.flatMap_cons, List.all_append, List.map_cons, List.all_cons, Bool.and_eq_true, ih]
    cases f x <;> simp [List.replicate]

theorem bne_as_not (first x : BitVec 32) : (x != first) = !(x == first) := rfl

/-- the shape of every search block: `none` if the whole block matches, else the index of the first mismatch -/
theorem search_result (c : Bool) (n W r : Nat) (hc : c = true ↔ ¬ n < W) (hr : r = n) :
    (if c then none else some r) = if n < W then some n else none := by
  by_cases h : n < W
  · rw [if_pos h, if_neg (fun e => (hc.mp e) h), hr]
  · rw [if_neg h, if_pos (hc.mpr h)]

theorem sse_run_block (first : BitVec 32) (b : List (BitVec 32)) (h : b.length = 4) :
    sseRunBlk first b =
      if firstIdx (· != first) b < 4 then some (firstIdx (· != first) b) else none := by
  simp only [sseRunBlk, movemask_cmp, Nat.reduceDiv, ctzNot, firstIdx_replicate4]
  exact search_result _ _ 4 _ (h ▸ (all_id_replicate4 (· == first) b).trans (all_id_map (· == first) b))
    (Nat.mul_div_cancel_left _ (by decide))

theorem avx2_run_block (first : BitVec 32) (b : List (BitVec 32)) (h : b.length = 8) :
    avx2RunBlk first b =
      if firstIdx (· != first) b < 8 then some (firstIdx (· != first) b) else none := by
  simp only [avx2RunBlk, movemask_cmp, Nat.reduceDiv]
  exact search_result _ _ 8 _ (h ▸ (all_id_replicate4 (· == first) b).trans (all_id_map (· == first) b)) rfl

theorem avx512_run_block (first : BitVec 32) (b : List (BitVec 32)) (h : b.length = 16) :
    avx512RunBlk first b =
      if firstIdx (· != first) b < 16 then some (firstIdx (· != first) b) else none := by
  simp only [avx512RunBlk, ctzNot, firstIdx_not_map]
  exact search_result _ _ 16 _ (h ▸ all_id_map (· == first) b) rfl

theorem firstIdx_spec {α : Type} (p : α → Bool) (l : List α) : firstIdx p l = Spec.Kernels.firstIdx p l := by
  induction l with
  | nil => rfl
  | cons x xs ih => simp [firstIdx, Spec.Kernels.firstIdx, ih]

end Carquet.Proofs.SimdLevels
