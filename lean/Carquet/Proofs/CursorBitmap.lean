import Carquet.Impl.BatchReader
/-
C02, null bitmap: bit `i` of the bitmap a batch hands out is set exactly when the definition level
of row `i` is below the maximum — for the unrolled full-byte loop, the tail loop and the calloc'ed
all-zero bitmaps.
-/
namespace Carquet.Proofs.Cursor
open Carquet.Impl.BatchReader

theorem testBit_mask : ∀ t, t < 8 → ∀ j, j < 8 → testBit (mask t) j = decide (j = t) := by decide

theorem testBit_or (a b : UInt8) (t : Nat) : testBit (a ||| b) t = (testBit a t || testBit b t) := by
  simp [testBit]

theorem testBit_zero (t : Nat) : testBit 0 t = false := by simp [testBit]

theorem testBit_ite (b : Bool) (c : UInt8) (t : Nat) : testBit (if b then c else 0) t = (b && testBit c t) := by
  cases b
  · exact testBit_zero t
  · rfl

theorem pack8_eq (b0 b1 b2 b3 b4 b5 b6 b7 : Bool) : pack8 b0 b1 b2 b3 b4 b5 b6 b7 =
    (if b0 then mask 0 else 0) ||| (if b1 then mask 1 else 0) ||| (if b2 then mask 2 else 0) |||
    (if b3 then mask 3 else 0) ||| (if b4 then mask 4 else 0) ||| (if b5 then mask 5 else 0) |||
    (if b6 then mask 6 else 0) ||| (if b7 then mask 7 else 0) := rfl

theorem bitmapBit_zeroBitmap (rows i : Nat) : bitmapBit (zeroBitmap rows) i = false := by
  unfold bitmapBit zeroBitmap
  by_cases h : i / 8 < (rows + 7) / 8
  · simp [h, testBit_zero]
  · simp [h]

/-- bit `t` of the unrolled loop body's byte is the test on `def_levels[base + t]` -/
theorem testBit_fullByte (maxDef : Nat) (defs : List (Option Nat)) (base t : Nat) (ht : t < 8) :
    testBit (fullByte maxDef defs base) t = nullAt maxDef defs (base + t) := by
  rw [fullByte, pack8_eq]
  have hm : ∀ k, k < 8 → testBit (mask k) t = decide (t = k) := fun k hk => testBit_mask k hk t ht
  simp only [testBit_or, testBit_ite, hm, Nat.reduceLT]
  have : t = 0 ∨ t = 1 ∨ t = 2 ∨ t = 3 ∨ t = 4 ∨ t = 5 ∨ t = 6 ∨ t = 7 := by omega
  rcases this with rfl | rfl | rfl | rfl | rfl | rfl | rfl | rfl <;> simp

theorem length_fullLoop (maxDef : Nat) (defs : List (Option Nat)) (n b : Nat) (bm : List UInt8) :
    (fullLoop maxDef defs n b bm).length = bm.length := by
  induction n generalizing b bm with
  | zero => rfl
  | succ n ih => simp [fullLoop, ih]

/-- the full-byte loop writes bytes `b … b+n-1` and nothing else -/
theorem getElem?_fullLoop (maxDef : Nat) (defs : List (Option Nat)) (n b : Nat) (bm : List UInt8) (idx : Nat)
    (hidx : idx < bm.length) :
    (fullLoop maxDef defs n b bm)[idx]? =
      if b ≤ idx ∧ idx < b + n then some (fullByte maxDef defs (idx * 8)) else bm[idx]? := by
  induction n generalizing b bm with
  | zero =>
    simp [fullLoop]
    intro h1 h2; omega
  | succ n ih =>
    rw [fullLoop, ih (b + 1) _ (by simpa using hidx)]
    by_cases h1 : b + 1 ≤ idx ∧ idx < b + 1 + n
    · have : b ≤ idx ∧ idx < b + (n + 1) := by omega
      simp [h1, this]
    · simp only [h1, if_false]
      by_cases h2 : b = idx
      · subst h2
        have : b ≤ b ∧ b < b + (n + 1) := by omega
        simp [this, hidx]
      · have : ¬ (b ≤ idx ∧ idx < b + (n + 1)) := by omega
        simp [this, h2]

theorem length_tailLoop (maxDef : Nat) (defs : List (Option Nat)) (n j : Nat) (bm : List UInt8) :
    (tailLoop maxDef defs n j bm).length = bm.length := by
  induction n generalizing j bm with
  | zero => rfl
  | succ n ih =>
    rw [tailLoop, ih]
    split <;> simp

theorem bitmapBit_modify (bm : List UInt8) (j i : Nat) (hi : i / 8 < bm.length) :
    bitmapBit (bm.modify (j / 8) (· ||| mask (j % 8))) i = (bitmapBit bm i || decide (i = j)) := by
  unfold bitmapBit
  rw [List.getElem?_modify]
  have hsome : bm[i / 8]? = some bm[i / 8] := List.getElem?_eq_getElem hi
  rw [hsome]
  by_cases hb : j / 8 = i / 8
  · simp only [hb, if_true, Option.map_eq_map, Option.map_some, testBit_or]
    rw [testBit_mask (j % 8) (Nat.mod_lt _ (by decide)) (i % 8) (Nat.mod_lt _ (by decide))]
    congr 1
    have : (i % 8 = j % 8) ↔ (i = j) := by omega
    simp [this]
  · simp only [hb, if_false, Option.map_eq_map, Option.map_some]
    have : ¬ i = j := fun h => hb (by rw [h])
    simp [this]

/-- the tail loop ORs in the bits of rows `j … j+n-1` that are null and nothing else -/
theorem bitmapBit_tailLoop (maxDef : Nat) (defs : List (Option Nat)) (n j : Nat) (bm : List UInt8) (i : Nat)
    (hi : i / 8 < bm.length) :
    bitmapBit (tailLoop maxDef defs n j bm) i =
      (bitmapBit bm i || (decide (j ≤ i ∧ i < j + n) && nullAt maxDef defs i)) := by
  induction n generalizing j bm with
  | zero =>
    simp [tailLoop]
    intro h1 h2; omega
  | succ n ih =>
    rw [tailLoop]
    by_cases hn : nullAt maxDef defs j = true
    · simp only [hn, if_true]
      rw [ih (j + 1) _ (by simpa using hi), bitmapBit_modify bm j i hi]
      by_cases hij : i = j
      · subst hij
        have : (i ≤ i ∧ i < i + (n + 1)) := by omega
        simp [hn, this]
      · have h1 : (j + 1 ≤ i ∧ i < j + 1 + n) ↔ (j ≤ i ∧ i < j + (n + 1)) := by omega
        simp [hij, h1]
    · have hn' : nullAt maxDef defs j = false := by simpa using hn
      simp only [hn', Bool.false_eq_true, if_false]
      rw [ih (j + 1) _ hi]
      by_cases hij : i = j
      · subst hij
        have h1 : ¬ (i + 1 ≤ i ∧ i < i + 1 + n) := by omega
        simp [hn', h1]
      · have h1 : (j + 1 ≤ i ∧ i < j + 1 + n) ↔ (j ≤ i ∧ i < j + (n + 1)) := by omega
        simp [h1]

theorem nullAt_zero (defs : List (Option Nat)) (i : Nat) : nullAt 0 defs i = false := by
  unfold nullAt
  split <;> simp

/-- **Polarity of the standard path's bitmap** (both loops, and the plain calloc when the column has
no definition levels): bit `i` is set iff `def_levels[i] < max_def`. -/
theorem buildBitmap_bit (maxDef : Nat) (defs : List (Option Nat)) (vr rtr : Nat) (h : vr ≤ rtr) (i : Nat)
    (hi : i < vr) :
    bitmapBit (buildBitmap maxDef defs vr rtr) i = nullAt maxDef defs i := by
  unfold buildBitmap
  by_cases hm : maxDef > 0
  · rw [if_pos hm]
    have hsz : (zeroBitmap rtr).length = (rtr + 7) / 8 := by simp [zeroBitmap]
    have hi8 : i / 8 < (rtr + 7) / 8 := by omega
    -- row `i` is written by the full-byte loop iff it lies below the last full byte's end `vr / 8 * 8`
    have hfullIff : i / 8 < vr / 8 ↔ i < vr / 8 * 8 := Nat.div_lt_iff_lt_mul (by decide)
    have hbe : vr / 8 * 8 ≤ vr := Nat.div_mul_le_self vr 8
    rw [bitmapBit_tailLoop _ _ _ _ _ _ (by rw [length_fullLoop, hsz]; exact hi8)]
    have hfull : bitmapBit (fullLoop maxDef defs (vr / 8) 0 (zeroBitmap rtr)) i =
        (decide (i / 8 < vr / 8) && nullAt maxDef defs i) := by
      rw [bitmapBit, getElem?_fullLoop _ _ _ _ _ _ (by rw [hsz]; exact hi8), Nat.zero_add]
      by_cases hlt : i / 8 < vr / 8
      · rw [if_pos ⟨Nat.zero_le _, hlt⟩, decide_eq_true hlt, Bool.true_and]
        show testBit (fullByte maxDef defs (i / 8 * 8)) (i % 8) = nullAt maxDef defs i
        rw [testBit_fullByte _ _ _ _ (Nat.mod_lt _ (by decide)), Nat.div_add_mod']
      · rw [if_neg (fun hc => hlt hc.2), decide_eq_false hlt, Bool.false_and]
        exact bitmapBit_zeroBitmap rtr i
    rw [hfull]
    generalize vr / 8 * 8 = e at hfullIff hbe
    by_cases hlt : i / 8 < vr / 8
    · have : ¬ (e ≤ i ∧ i < e + (vr - e)) := by omega
      simp [hlt, this]
    · have : e ≤ i ∧ i < e + (vr - e) := by omega
      simp [hlt, this]
  · rw [if_neg hm, Nat.eq_zero_of_not_pos hm, nullAt_zero, bitmapBit_zeroBitmap]

end Carquet.Proofs.Cursor
