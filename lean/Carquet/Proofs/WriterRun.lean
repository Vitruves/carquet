import Carquet.Proofs.WriterInv
/-
A completed run of the writer model (generic in `Deps`), about ONE explicit pair: the footer data `mdOfRun` and the
page records `pagesOfRun` of the state whose footer `close` writes.

`fileOf_groups`: when close returns OK the file is magic, the bytes of those page records, the footer of that data,
its length, magic; and footer and page records are `Groups` from offset 4 (Proofs/WriterInv.lean) — what every
theorem about a file reported complete starts from.  `run_table`: when every call returned OK and the batches are
well formed, the contents of the page records are the table the history denotes (`tableOf`); a call that returned OK
does to the abstract state what `aStep` says (`step_abs`), which needs the invariant only where a row group is
committed.  `RunFacts`, `run_facts`: both together, as one record about a file, its footer data and its page records.
-/
namespace Carquet.Proofs.SpecWriter
open Carquet.Impl.Writer Carquet.Proofs.WriterLayout

/-- the writer state whose footer `close` writes, after the history `ops` -/
def runState (D : Deps) (cols : List Col) (codec pageSize : Nat) (createdBy : String) (ops : List Op) : W :=
  closing D (stateAfter D { cols := cols, codec := codec, pageSize := pageSize, createdBy := createdBy } ops)

/-- what `build_file_metadata` assembles at close -/
def mdOfRun (D : Deps) (cols : List Col) (codec pageSize : Nat) (createdBy : String) (ops : List Op) : FooterData :=
  ⟨(runState D cols codec pageSize createdBy ops).cols, (runState D cols codec pageSize createdBy ops).createdBy,
   (runState D cols codec pageSize createdBy ops).totalRows, (runState D cols codec pageSize createdBy ops).rowGroups⟩

/-- the (ghost) page records of the run: row groups → chunks → pages -/
def pagesOfRun (D : Deps) (cols : List Col) (codec pageSize : Nat) (createdBy : String) (ops : List Op) :
    List (List (List PageRec)) :=
  (runState D cols codec pageSize createdBy ops).pagesDone

end Carquet.Proofs.SpecWriter

namespace Carquet.Proofs.WriterInv
open Carquet.Impl.Writer Carquet.Proofs.Writer Carquet.Proofs.WriterLayout Carquet.Proofs.WriterPages
open Carquet.Proofs.WriterTable
open Carquet.Proofs.SpecWriter (mdOfRun pagesOfRun runState)
open Carquet.Impl.WriterSink (commitRowGroup)

variable {D : Deps}

/-- **What every theorem about a file that closed OK starts from**: the file is magic, the page records of the closing
state, its footer; the footer's row groups and those page records are `Groups` from offset 4. -/
theorem fileOf_groups (D : Deps) (pp : Pred D) (cols : List Col) (codec pageSize : Nat) (createdBy : String) (ops : List Op)
    (hq : ∀ b, Op.batch b ∈ ops → ∀ c, cols[b.col]? = some c → pp.Q c b)
    (hok : (fileOf D cols codec pageSize createdBy ops).2.getLast? = some .ok) :
    (fileOf D cols codec pageSize createdBy ops).1 =
      magic ++ dataBytes D (pagesOfRun D cols codec pageSize createdBy ops) ++
        D.footer (mdOfRun D cols codec pageSize createdBy ops) ++
        le32 (D.footer (mdOfRun D cols codec pageSize createdBy ops)).length ++ magic ∧
    (mdOfRun D cols codec pageSize createdBy ops).cols = cols ∧
    (mdOfRun D cols codec pageSize createdBy ops).createdBy = createdBy ∧
    (mdOfRun D cols codec pageSize createdBy ops).numRows =
      ((mdOfRun D cols codec pageSize createdBy ops).rowGroups.map (·.numRows)).sum ∧
    Groups D pp codec cols (mdOfRun D cols codec pageSize createdBy ops).rowGroups
      (pagesOfRun D cols codec pageSize createdBy ops) 4 0 := by
  have hm : Moves D pp.Q _ (runState D cols codec pageSize createdBy ops) :=
    (stateAfter_moves ops (init cols codec pageSize createdBy) hq).trans
      (closing_moves _)
  have hI := (inv_init pp cols codec pageSize createdBy).moves hm
  obtain ⟨p1, p2, -, p4⟩ := hm.params
  have hg := hI.groups
  rw [p1, p2] at hg
  refine ⟨?_, p1, p4, hI.rows, hg⟩
  rw [fileOf_eq] at hok ⊢
  rw [close_writes D _ (by simpa using hok)]
  simp only [List.flatten_append, show closing D _ = runState D cols codec pageSize createdBy ops from rfl,
    hI.out (closing_header D _)]
  simp [footerOf, mdOfRun, pagesOfRun, List.append_assoc]

/-! ### the table -/

theorem abs_ensureHeader (w : W) : abs (ensureHeader w) = abs w := by
  unfold ensureHeader; split <;> rfl

/-- one call that returned OK does to the table what `aStep` says; the invariant is needed where a row group is
committed (the page records then hold everything the columns received) -/
theorem step_abs {pp : Pred D} (hwf : pp.WF) (w : W) (op : Op) (h : Inv D pp w) (hok : (step D w op).2 = .ok) :
    abs (step D w op).1 = aStep w.cols (abs w) op := by
  have hcols : (ensureHeader w).cols = w.cols := (ensureHeader_moves (D := D) (B := pp.Q) w).params.1
  have hrg : (abs w).cur = (ensureHeader w).rg.map (·.map colData) := by rw [← abs_ensureHeader]; rfl
  cases op with
  | newRowGroup =>
    have hE := h.moves (ensureHeader_moves w)
    simp only [step] at hok ⊢
    rcases flushRowGroup_cases D (ensureHeader w) with ⟨hr, e⟩ | ⟨_, -, -, e⟩ | ⟨cws, bytes, metas, hr, hf, e⟩ <;> rw [e] at hok ⊢
    · simp [aStep, hrg, hr, abs_ensureHeader]
    · cases hok
    · obtain ⟨-, -, d3⟩ := finalizeCols_chunks _ _ cws _ bytes metas (hE.cur cws hr).1 hf
      simp only [aStep, hrg, hr, Option.map_some]
      simp only [abs, commitRowGroup, d3 hwf, List.map_append, List.map_cons, List.map_nil, Option.map_none]
      exact congrArg (fun a => A.mk (a.done ++ _) none) (abs_ensureHeader w)
  | batch b =>
    simp only [step] at hok ⊢
    rcases writeBatch_cases D w b with ⟨-, e⟩ | ⟨-, e⟩ | e | ⟨c, cws, cw, cw', hc, r1, hcw, hcb, e⟩ <;> rw [e] at hok ⊢
    · cases hok
    · cases hok
    · cases hok
    · have r3 : cws.map colData = (abs w).cur.getD (w.cols.map (fun _ => {})) := by
        unfold ensureRowGroup at r1
        cases hr : (ensureHeader w).rg with
        | some cws0 => obtain rfl : cws0 = cws := by simpa [hr] using r1
                       simp [hrg, hr]
        | none => obtain rfl : (ensureHeader w).cols.map (fun _ => ({} : ColW)) = cws := by simpa [hr] using r1
                  simp [hrg, hr, hcols, colData, pagesData, pageData, ColData.append]
      have hpd : (ensureRowGroup (ensureHeader w)).pagesDone = w.pagesDone := by
        unfold ensureRowGroup ensureHeader; split <;> split <;> rfl
      simp only [aStep, hc]
      simp only [abs, hpd, Option.map_some, setAt]
      rw [modify_map_eq colData cws b.col cw cw' (·.append (batchData c b)) hcw (colWriteBatch_colData hcb), r3]
      rfl

theorem stateAfter_abs {pp : Pred D} (hwf : pp.WF) : ∀ (ops : List Op) (w : W), Inv D pp w →
    (∀ b, Op.batch b ∈ ops → ∀ c, w.cols[b.col]? = some c → pp.Q c b) → (∀ s ∈ stepStatuses D w ops, s = .ok) →
    abs (stateAfter D w ops) = ops.foldl (aStep w.cols) (abs w) := by
  intro ops
  induction ops with
  | nil => intro w _ _ _; rfl
  | cons op ops ih =>
    intro w h hq hok
    have hm : Moves D pp.Q w (step D w op).1 := step_moves w op (fun b hb c hc => hq b (by simp [hb]) c hc)
    have := ih _ (h.moves hm) (fun b hb c hc => hq b (List.mem_cons_of_mem _ hb) c (hm.params.1 ▸ hc))
      (fun s hs => hok s (List.mem_cons_of_mem _ hs))
    simp only [stateAfter, List.foldl_cons] at this ⊢
    rw [this, step_abs hwf w op h (hok _ List.mem_cons_self), hm.params.1]

/-- the page records of a run in which every call returned OK hold the table the history denotes -/
theorem run_table {pp : Pred D} (hwf : pp.WF) (cols : List Col) (codec pageSize : Nat) (createdBy : String) (ops : List Op)
    (hq : ∀ b, Op.batch b ∈ ops → ∀ c, cols[b.col]? = some c → pp.Q c b)
    (hok : ∀ s ∈ (fileOf D cols codec pageSize createdBy ops).2, s = .ok) :
    (pagesOfRun D cols codec pageSize createdBy ops).map (·.map pagesData) = tableOf cols ops := by
  rw [fileOf_eq] at hok
  have a1 : ∀ s ∈ stepStatuses D (init cols codec pageSize createdBy) ops, s = .ok := fun s hs => hok s (by simp [hs])
  have a2 := hok _ (List.mem_append_right _ List.mem_cons_self)
  have hI := inv_init pp cols codec pageSize createdBy
  have hm : Moves D pp.Q _ _ :=
    stateAfter_moves ops (init cols codec pageSize createdBy) hq
  have h1 := stateAfter_abs hwf ops _ hI hq a1
  have h2 := step_abs hwf _ .newRowGroup (hI.moves hm) ((close_status D _).symm.trans a2)
  rw [h1, hm.params.1] at h2
  exact congrArg A.done h2

end Carquet.Proofs.WriterInv

/-! ### all of it about one pair of footer data and page records -/

namespace Carquet.Proofs.SpecWriter
open Carquet.Impl.Writer Carquet.Proofs.Writer Carquet.Proofs.WriterPages Carquet.Proofs.WriterTable Carquet.Proofs.WriterInv

/-- the facts about a completed run in which every call returned OK, about one file, footer data and page records -/
structure RunFacts (D : Deps) (pp : Pred D) (cols : List Col) (codec : Nat) (ops : List Op)
    (file : Bytes) (md : FooterData) (gs : List (List (List PageRec))) : Prop where
  file_eq : file = magic ++ dataBytes D gs ++ D.footer md ++ le32 (D.footer md).length ++ magic
  cols_eq : md.cols = cols
  numRows_eq : md.numRows = (md.rowGroups.map (·.numRows)).sum
  groups : Groups D pp codec cols md.rowGroups gs 4 0
  table : gs.map (·.map pagesData) = tableOf cols ops

theorem run_facts (D : Deps) (pp : Pred D) (hwf : pp.WF) (cols : List Col) (codec pageSize : Nat) (createdBy : String)
    (ops : List Op) (hq : ∀ b, Op.batch b ∈ ops → ∀ c, cols[b.col]? = some c → pp.Q c b)
    (hok : ∀ s ∈ (fileOf D cols codec pageSize createdBy ops).2, s = .ok) :
    RunFacts D pp cols codec ops (fileOf D cols codec pageSize createdBy ops).1
      (mdOfRun D cols codec pageSize createdBy ops) (pagesOfRun D cols codec pageSize createdBy ops) := by
  obtain ⟨hfile, hc, -, hrows, hg⟩ :=
    fileOf_groups D pp cols codec pageSize createdBy ops hq (fileOf_last_ok D cols codec pageSize createdBy ops hok)
  exact ⟨hfile, hc, hrows, hg, run_table hwf cols codec pageSize createdBy ops hq hok⟩

end Carquet.Proofs.SpecWriter
