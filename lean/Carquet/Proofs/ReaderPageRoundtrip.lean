import Carquet.Proofs.ReaderPlain
import Carquet.Impl.FileReal
import Carquet.Properties.C11.Plain
import Carquet.Proofs.Dictionary
import Carquet.Proofs.RleLevelsF58
import Carquet.Proofs.RleEncoder
/-
The page body under carquet's page decoder.  Whoever wrote it: a length-prefixed level section that is a stream of
the hybrid grammar (`Spec.RleHybrid.Stream`) is read back by `decode_levels_rle` (`levelBlock_stream`; the reference
writer's sections are instances in Proofs/ImplReadsValues).  For carquet's writer: levels (`levelBlock_roundtrip`),
PLAIN values of every type (`plainValues_roundtrip`) and the whole body (`readDataPageV1_pageBody`, for
C01_page_body_roundtrip) over the page builder's invariant `PageShape`.
-/
namespace Carquet.Proofs.ReaderPageRoundtrip
open Carquet.Impl Carquet.Impl.Reader
open Carquet.Proofs.ReaderPlain

theorem le32_eq_leBytes (n : Nat) : Writer.le32 n = Bitpack.leBytes 4 n := by
  simp only [Writer.le32, Bitpack.leBytes, Nat.div_div_eq_div_mul]

theorem le32_le32 (n : Nat) (h : n < 2 ^ 32) (rest : Reader.Bytes) : le32 (Writer.le32 n ++ rest) = n := by
  unfold le32
  rw [List.take_left' (show (Writer.le32 n).length = 4 from rfl), le32_eq_leBytes, Carquet.Proofs.NatBits.leNat_leBytes]
  exact Nat.mod_eq_of_lt h

theorem chunks_flatten (k : Nat) : ∀ (vs : List Reader.Bytes), (∀ v ∈ vs, v.length = k) → ∀ (extra : Reader.Bytes),
    chunks k vs.length (vs.flatten ++ extra) = vs := by
  intro vs
  induction vs with
  | nil => intro _ _; rfl
  | cons v vs ih =>
    intro h extra
    have hv : v.length = k := h v (by simp)
    simp only [List.flatten_cons, List.length_cons, chunks, List.append_assoc]
    rw [List.take_left' hv, List.drop_left' hv, ih (fun x hx => h x (by simp [hx]))]

theorem levelBlock_framed (fx : Fixes) (maxLevel n : Nat) (enc tail : Reader.Bytes) (hsmall : enc.length < 2 ^ 32)
    (hn : (Rle.decodeLevels (bitWidthForMax maxLevel) enc n).length = n) :
    levelBlock fx maxLevel n (Writer.le32 enc.length ++ (enc ++ tail)) =
      .ok ((Rle.decodeLevels (bitWidthForMax maxLevel) enc n).map Int.toNat, tail) := by
  have h4 : (Writer.le32 enc.length).length = 4 := rfl
  have hlen : (Writer.le32 enc.length ++ (enc ++ tail)).length = 4 + (enc.length + tail.length) := by
    rw [List.length_append, List.length_append, h4]
  unfold levelBlock
  rw [le32_le32 _ hsmall, hlen, if_neg (by omega), if_neg (by omega), List.drop_left' h4, List.take_left' rfl,
    if_neg (by rw [hn]; exact fun h => h rfl), ← List.append_assoc, List.drop_left' (by rw [List.length_append, h4])]

theorem bitWidthForMax_le (m : Nat) (h : m < 32768) : bitWidthForMax m ≤ 32 := by
  unfold bitWidthForMax
  split
  · omega
  · rename_i h0
    have : m.log2 < 15 := (Nat.log2_lt h0).mpr (by omega)
    omega

/-- **the level section, whoever wrote it**: a length-prefixed stream of the hybrid grammar that holds `ls`
(`Spec.RleHybrid.Stream`) is read back by `decode_levels_rle`, which stops exactly behind it -/
theorem levelBlock_stream (fx : Fixes) (maxLevel : Nat) (hmax : maxLevel < 32768) (ls : List Nat) (enc tail : Reader.Bytes)
    (hs : Carquet.Spec.RleHybrid.Stream (bitWidthForMax maxLevel) enc ls) (hle : ∀ l ∈ ls, l ≤ maxLevel)
    (hsmall : enc.length < 2 ^ 32) :
    levelBlock fx maxLevel ls.length (Writer.le32 enc.length ++ (enc ++ tail)) = .ok (ls, tail) := by
  obtain ⟨pad, hruns⟩ := hs
  have hdec := Carquet.Proofs.RleLevels.decodeLevels_of_runs (bitWidthForMax_le maxLevel hmax) hruns ls.length (by simp)
    (fun v hv => by rw [List.take_left] at hv; exact Nat.lt_of_le_of_lt (hle v hv) hmax)
  rw [List.take_left] at hdec
  have := levelBlock_framed fx maxLevel ls.length enc tail hsmall (by rw [hdec, List.length_map])
  rwa [hdec, List.map_map, show (Int.toNat ∘ Int.ofNat) = id from rfl, List.map_id] at this

theorem levelBlock_roundtrip (fx : Fixes) (ls : List Nat) (tail : Reader.Bytes) (h01 : ∀ d ∈ ls, d ≤ 1)
    (hsmall : (Rle.encode 1 ls).length < 2 ^ 32) :
    levelBlock fx 1 ls.length (FileReal.levels 1 ls ++ tail) = .ok (ls, tail) := by
  obtain ⟨pad, hruns, _⟩ := Carquet.Proofs.RleEncoder.encode_runs (w := 1) (by decide) ls
    (fun v hv => by have := h01 v hv; omega)
  have := levelBlock_stream fx 1 (by decide) ls (Rle.encode 1 ls) tail ⟨pad, hruns⟩ h01 hsmall
  rwa [← List.append_assoc] at this

def pageValuesBytes (c : Writer.Col) (vals : List Writer.Val) : Reader.Bytes :=
  if c.ptype = .boolean then FileReal.plainBools vals else FileReal.plain c.ptype c.typeLen vals

/-- the values a caller may hand to `write_batch` for a column of this type (bit patterns):
BOOLEAN one byte 0/1, fixed-width types their width, BYTE_ARRAY shorter than 2^31 -/
def ValsOk (c : Writer.Col) (vals : List Writer.Val) : Prop :=
  match c.ptype with
  | .boolean => ∀ v ∈ vals, v = [0] ∨ v = [1]
  | .byteArray => ∀ v ∈ vals, v.length < 2 ^ 31
  | .flba => 0 < c.typeLen ∧ ∀ v ∈ vals, v.length = c.typeLen
  | .int32 => ∀ v ∈ vals, v.length = 4
  | .float => ∀ v ∈ vals, v.length = 4
  | .int64 => ∀ v ∈ vals, v.length = 8
  | .double => ∀ v ∈ vals, v.length = 8
  | .int96 => ∀ v ∈ vals, v.length = 12

theorem fixed_roundtrip (code : Nat) (tl : Nat) (k : Nat) (vals : List Writer.Val)
    (hk : valueSize (code : Int) (tl : Int) = k) (hfw : fixedWidth (code : Int) = true) (hflba : (code : Int) = 7 → 0 < (tl : Int))
    (hv : ∀ v ∈ vals, v.length = k) (hsz : vals.flatten.length < 2 ^ 64) :
    plainValues (code : Int) (tl : Int) vals.flatten vals.length = .ok vals := by
  have hl := Carquet.Proofs.Dictionary.flatten_length_of_all vals hv
  rw [plainValues_fixed (code : Int) (tl : Int) vals.flatten vals.length hfw hflba (by rw [hk, hl]; exact Nat.le_refl _) hsz, hk]
  have := chunks_flatten k vals hv []
  rw [List.append_nil] at this
  rw [this]

theorem plainValues_roundtrip (c : Writer.Col) (vals : List Writer.Val) (h : ValsOk c vals)
    (hsz : (pageValuesBytes c vals).length < 2 ^ 64) :
    plainValues (c.ptype.code : Int) (c.typeLen : Int) (pageValuesBytes c vals) vals.length = .ok vals := by
  unfold pageValuesBytes at hsz ⊢
  unfold ValsOk at h
  cases hp : c.ptype with
  | boolean =>
    rw [hp] at h
    simp only [hp, if_true, Writer.PType.code] at hsz ⊢
    have hrt := (Carquet.Properties.C11.C11_plain_boolean_roundtrip (vals.map (fun v => v.headD 0)) []).1
    rw [List.append_nil, List.length_map] at hrt
    simp only [plainValues, FileReal.plainBools, Int.natCast_zero, if_true, hrt, plainRes]
    congr 1
    rw [List.map_map, List.map_map]
    refine (List.map_congr_left fun v hv => ?_).trans (List.map_id vals)
    rcases h v hv with rfl | rfl <;> rfl
  | int32 | int64 | int96 | float | double =>
    rw [hp] at h
    simp only [hp, Writer.PType.code, FileReal.plain, reduceCtorEq, ↓reduceIte] at hsz ⊢
    exact fixed_roundtrip _ c.typeLen _ vals rfl (by decide) (by intro h7; cases h7) h hsz
  | byteArray =>
    rw [hp] at h
    simp only [hp, Writer.PType.code, FileReal.plain, reduceCtorEq, ↓reduceIte] at hsz ⊢
    obtain ⟨slices, hd, hs⟩ := Carquet.Properties.C11.C11_plain_byte_array_roundtrip vals [] h
    rw [List.append_nil] at hd hs
    have e6 : ((6 : Nat) : Int) = 6 := rfl
    simp only [plainValues, e6, Int.reduceEq, if_false, if_true, ↓reduceIte, hd, plainRes, hs]
  | flba =>
    rw [hp] at h
    simp only [hp, Writer.PType.code, FileReal.plain, reduceCtorEq, ↓reduceIte] at hsz ⊢
    exact fixed_roundtrip 7 c.typeLen c.typeLen vals (by simp [valueSize]) (by decide) (by intro _; exact_mod_cast h.1) h.2 hsz

/-- the column reader's view of a writer column (the chunk metadata plays no role in page decoding) -/
def colOf (c : Writer.Col) (cm : ThriftParquet.ColumnMetaData) : Col := ⟨cm, c.maxDef, c.maxRep, c.ptype.code, c.typeLen⟩

/-- A page as the page builder of a flat REQUIRED / OPTIONAL / REPEATED column holds it when it is
finalised (the invariants `carquet_page_writer_add_values` maintains), with values of the column's
type and sizes that fit the C types. -/
structure PageShape (c : Writer.Col) (p : Writer.Page) : Prop where
  defsLen : c.maxDef > 0 → p.defs.length = p.numValues ∧ 0 < p.numValues
  defsNone : c.maxDef = 0 → p.defs = []
  defs01 : ∀ d ∈ p.defs, d ≤ 1
  count : p.values.length = (if c.maxDef > 0 then p.defs.countP (· == 1) else p.numValues)
  vals : ValsOk c p.values
  levelsSmall : (Rle.encode 1 p.defs).length < 2 ^ 32
  valuesSmall : (pageValuesBytes c p.values).length < 2 ^ 64
  repsLen : c.maxRep > 0 → p.reps.length = p.numValues ∧ 0 < p.numValues
  repsNone : c.maxRep = 0 → p.reps = []
  reps01 : ∀ r ∈ p.reps, r ≤ 1
  repLevelsSmall : (Rle.encode 1 p.reps).length < 2 ^ 32

theorem pageBody_eq (c : Writer.Col) (p : Writer.Page) :
    Writer.pageBody (FileReal.deps []) c p =
      (if p.reps.length > 0 then FileReal.levels c.maxRep p.reps else []) ++
      ((if p.defs.length > 0 then FileReal.levels c.maxDef p.defs else []) ++ pageValuesBytes c p.values) := by
  unfold Writer.pageBody pageValuesBytes
  simp only [FileReal.deps, List.append_assoc]

theorem maxDef_le_1 (c : Writer.Col) : c.maxDef ≤ 1 := by unfold Writer.Col.maxDef; split <;> omega

theorem maxRep_le_1 (c : Writer.Col) : c.maxRep ≤ 1 := by unfold Writer.Col.maxRep; split <;> omega

theorem readDataPageV1_pageBody (c : Writer.Col) (p : Writer.Page) (h : PageShape c p) (cm : ThriftParquet.ColumnMetaData)
    (dict : Option Dict) :
    readDataPageV1 Fixes.all (colOf c cm) dict (Writer.pageBody (FileReal.deps []) c p) p.numValues 0 =
      .ok ⟨if c.maxDef > 0 then p.defs else List.replicate p.numValues 0,
           if c.maxRep > 0 then p.reps else List.replicate p.numValues 0, p.values⟩ := by
  rw [pageBody_eq c p]
  have hvals := plainValues_roundtrip c p.values h.vals h.valuesSmall
  -- the repetition-level stage
  have hrl : ∀ tail, repLevels Fixes.all (colOf c cm) p.numValues
      ((if p.reps.length > 0 then FileReal.levels c.maxRep p.reps else []) ++ tail) =
      .ok (if c.maxRep > 0 then p.reps else List.replicate p.numValues 0, tail) := by
    intro tail
    by_cases hr : c.maxRep > 0
    · have hr1 : c.maxRep = 1 := by have := maxRep_le_1 c; omega
      obtain ⟨hlen, hpos⟩ := h.repsLen hr
      have hlb := levelBlock_roundtrip Fixes.all p.reps tail h.reps01 h.repLevelsSmall
      rw [hlen] at hlb
      simp only [repLevels, colOf, hr1, Nat.lt_add_one, if_true, show p.reps.length > 0 by omega, hlb]
    · have hr0 : c.maxRep = 0 := by omega
      simp only [repLevels, colOf, hr0, Nat.lt_irrefl, if_false, h.repsNone hr0, List.length_nil, List.nil_append]
  by_cases hd : c.maxDef > 0
  · have hd1 : c.maxDef = 1 := by have := maxDef_le_1 c; omega
    obtain ⟨hlen, hpos⟩ := h.defsLen hd
    have hcount := h.count
    rw [if_pos hd] at hcount
    have hlb := levelBlock_roundtrip Fixes.all p.defs (pageValuesBytes c p.values) h.defs01 h.levelsSmall
    rw [hlen] at hlb
    unfold readDataPageV1
    rw [hrl]
    simp only [defLevels, colOf, hd1, Nat.lt_add_one,
      if_true, show p.defs.length > 0 by omega, hlb, nonNullCount, ← hcount, decodeValues, hvals]
  · have hd0 : c.maxDef = 0 := by omega
    have hdn := h.defsNone hd0
    have hcount := h.count
    rw [if_neg hd] at hcount
    unfold readDataPageV1
    rw [hrl]
    simp only [defLevels, colOf, hd0, Nat.lt_irrefl, if_false, hdn, List.length_nil,
      List.nil_append, nonNullCount, List.length_replicate, decodeValues, if_true]
    rw [← hcount, hvals]

instance (c : Writer.Col) (vals : List Writer.Val) : Decidable (ValsOk c vals) := by
  unfold ValsOk; split <;> infer_instance

/-- so that the shape of a concrete page is checked by evaluation -/
instance (c : Writer.Col) (p : Writer.Page) : Decidable (PageShape c p) :=
  decidable_of_iff
    ((c.maxDef > 0 → p.defs.length = p.numValues ∧ 0 < p.numValues) ∧ (c.maxDef = 0 → p.defs = []) ∧ (∀ d ∈ p.defs, d ≤ 1) ∧
     p.values.length = (if c.maxDef > 0 then p.defs.countP (· == 1) else p.numValues) ∧ ValsOk c p.values ∧
     (Rle.encode 1 p.defs).length < 2 ^ 32 ∧ (pageValuesBytes c p.values).length < 2 ^ 64 ∧
     (c.maxRep > 0 → p.reps.length = p.numValues ∧ 0 < p.numValues) ∧ (c.maxRep = 0 → p.reps = []) ∧ (∀ r ∈ p.reps, r ≤ 1) ∧
     (Rle.encode 1 p.reps).length < 2 ^ 32)
    ⟨fun ⟨a, b, c, d, e, f, g, h, i, j, k⟩ => ⟨a, b, c, d, e, f, g, h, i, j, k⟩,
     fun h => ⟨h.1, h.2, h.3, h.4, h.5, h.6, h.7, h.8, h.9, h.10, h.11⟩⟩

end Carquet.Proofs.ReaderPageRoundtrip
