import Carquet.Spec.Varint
import Carquet.Impl.Varint
import Carquet.Proofs.NatBits
/-
carquet's varint writers/readers (Impl/Varint.lean) against ULEB128 (Spec/Varint.lean).
-/
namespace Carquet.Proofs.VarintImpl
open Carquet.Impl.Varint Carquet.Proofs.NatBits
open Carquet.Spec

/-- bit 7 of a byte is its continuation flag -/
theorem byte_cont (n : Nat) (hn : n < 256) : n &&& 0x80 = 0 ↔ n < 128 := by
  have e := Nat.div_add_mod (n &&& 0x80) (2 ^ 7)
  rw [Nat.and_div_two_pow, Nat.and_mod_two_pow, show 0x80 / 2 ^ 7 = 1 from rfl, show 0x80 % 2 ^ 7 = 0 from rfl,
    Nat.and_one_is_mod, Nat.and_zero] at e
  rw [← e]
  omega

theorem low7 (n : Nat) : n &&& 0x7F = n % 128 := and_mask n 7

theorem low7_or (v : Nat) : (v &&& 0x7F) ||| 0x80 = v % 128 + 128 := by
  rw [low7, Nat.or_comm, Nat.add_comm]
  exact or_eq_add 1 (v % 128) 7 (Nat.mod_lt _ (by decide))

/-- the write loop is `Spec.Varint.encodeFuel` with the digit arithmetic written as masks and shifts -/
theorem writeLoop_eq_encodeFuel : ∀ f v, writeLoop f v = Varint.encodeFuel f v
  | 0, _ => rfl
  | f + 1, v => by
    rw [writeLoop, Varint.encodeFuel, writeLoop_eq_encodeFuel f, low7_or, shr_eq]
    by_cases h : v < 128
    · rw [if_pos h, if_neg (Nat.not_le.mpr h)]
    · rw [if_neg h, if_pos (Nat.not_lt.mp h)]

theorem writeLoop_eq (f v : Nat) (h : v < 128 ^ (f + 1)) : writeLoop f v = Varint.encode v := by
  rw [writeLoop_eq_encodeFuel, Varint.encodeFuel_eq_encode h]

theorem writeVarint32_eq {v : Nat} (h : v < 2 ^ 32) : writeVarint32 v = Varint.encode v :=
  writeLoop_eq 4 v (Nat.lt_of_lt_of_le h (by decide))

theorem writeVarint64_eq {v : Nat} (h : v < 2 ^ 64) : writeVarint64 v = Varint.encode v :=
  writeLoop_eq 9 v (Nat.lt_of_lt_of_le h (by decide))

/-- the read loop computes what `Spec.Varint.decode` computes, as long as the number is
short enough for the fuel and fits the register -/
theorem readLoop_eq (bits : Nat) : ∀ (bs : List UInt8) (fuel shift result v : Nat) (rest : List UInt8),
    Varint.decode bs = some (v, rest) → bs.length - rest.length ≤ fuel →
    result < 2 ^ shift → result + v * 2 ^ shift < 2 ^ bits →
    readLoop bits fuel shift result bs = some (result + v * 2 ^ shift, rest) := by
  intro bs
  induction bs with
  | nil => intro fuel shift result v rest h; simp [Varint.decode] at h
  | cons b tl ih =>
    intro fuel shift result v rest hdec hfuel hres hfit
    have hrl := Varint.decode_rest_length hdec
    simp only [List.length_cons] at hrl hfuel
    cases fuel with
    | zero => omega
    | succ f =>
      have hb := b.toNat_lt
      simp only [Varint.decode] at hdec
      simp only [readLoop]
      have hor : ∀ x, result + x * 2 ^ shift < 2 ^ bits →
          result ||| ((x <<< shift) % 2 ^ bits) = result + x * 2 ^ shift := by
        intro x hx
        rw [shl_eq, Nat.mod_eq_of_lt (by omega), Nat.or_comm, Nat.mul_comm, or_eq_add _ _ _ hres,
          Nat.add_comm]
      split at hdec
      · rename_i hlt
        cases hdec
        have : b.toNat &&& 0x80 = 0 := (byte_cont _ hb).mpr hlt
        simp only [this, if_true]
        rw [low7, Nat.mod_eq_of_lt hlt, hor _ hfit]
      · rename_i hge
        have hne : ¬ (b.toNat &&& 0x80 = 0) := fun h => hge ((byte_cont _ hb).mp h)
        simp only [hne, if_false]
        split at hdec
        · cases hdec
        · rename_i v' r' heq
          cases hdec
          have hrl' := Varint.decode_rest_length heq
          have hb7 : b.toNat - 128 < 2 ^ 7 := Nat.sub_lt_left_of_lt_add (Nat.not_lt.mp hge) hb
          have hmod : b.toNat % 128 = b.toNat - 128 := by
            rw [Nat.mod_eq_sub_mod (Nat.not_lt.mp hge), Nat.mod_eq_of_lt hb7]
          have hexp : (b.toNat - 128 + 128 * v') * 2 ^ shift
              = (b.toNat - 128) * 2 ^ shift + v' * 2 ^ (shift + 7) := by
            rw [Nat.add_mul, Nat.pow_add, Nat.mul_comm 128 v', Nat.mul_assoc, Nat.mul_comm 128]
          rw [hexp, ← Nat.add_assoc] at hfit
          rw [low7, hmod, hor _ (Nat.lt_of_le_of_lt (Nat.le_add_right _ _) hfit),
            ih f (shift + 7) _ v' rest heq (by omega) (add_shl_lt hres hb7) hfit, hexp, Nat.add_assoc]

/-- rle.c `read_varint` (and `carquet_decode_varint32`) on a number of at most 5 bytes below 2^32 -/
theorem readVarintRle_of_spec {bs rest : List UInt8} {v : Nat} (h : Varint.decode bs = some (v, rest))
    (hlen : bs.length - rest.length ≤ 5) (hv : v < 2 ^ 32) : readVarintRle bs = some (v, rest) := by
  have := readLoop_eq 32 bs 5 0 0 v rest h hlen (by decide) (by simpa using hv)
  simpa [readVarintRle] using this

/-- every reader of the tree reads a canonical encoding back, if its register holds the number and its byte limit the
encoding -/
theorem readLoop_encode {bits fuel n : Nat} (hn : n < 2 ^ bits) (hf : (Varint.encode n).length ≤ fuel)
    (rest : List UInt8) : readLoop bits fuel 0 0 (Varint.encode n ++ rest) = some (n, rest) := by
  have := readLoop_eq bits _ fuel 0 0 n rest (Varint.decode_encode_append n rest)
    (by rw [List.length_append, Nat.add_sub_cancel]; exact hf) Nat.one_pos (by simpa using hn)
  simpa using this

theorem readVarintRle_write {v : Nat} (hv : v < 2 ^ 32) (rest : List UInt8) :
    readVarintRle (writeVarint32 v ++ rest) = some (v, rest) := by
  rw [writeVarint32_eq hv]
  exact readLoop_encode hv (Varint.encode_length_le 4 v (Nat.lt_of_lt_of_le hv (by decide))) rest

/-- the non-failing header loop of `carquet_rle_decode_levels` agrees with `read_varint`
whenever the latter succeeds -/
theorem readLoopNoFail_of_readLoop : ∀ (bs : List UInt8) (fuel shift result v : Nat) (rest : List UInt8),
    readLoop 32 fuel shift result bs = some (v, rest) →
    readLoopNoFail fuel shift result bs = (v, rest) := by
  intro bs
  induction bs with
  | nil => intro fuel shift result v rest h; cases fuel <;> simp [readLoop] at h
  | cons b tl ih =>
    intro fuel shift result v rest h
    cases fuel with
    | zero => simp [readLoop] at h
    | succ f =>
      simp only [readLoop] at h
      simp only [readLoopNoFail]
      split
      · rename_i h0
        simp only [h0, if_true] at h
        cases h; rfl
      · rename_i h0
        simp only [h0, if_false] at h
        exact ih _ _ _ _ _ h

theorem readHeaderLevels_of_readVarintRle {bs rest : List UInt8} {v : Nat}
    (h : readVarintRle bs = some (v, rest)) : readHeaderLevels bs = (v, rest) :=
  readLoopNoFail_of_readLoop bs 5 0 0 v rest h

end Carquet.Proofs.VarintImpl
