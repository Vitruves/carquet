import Carquet.Proofs.RleGrammar
/-
The reference decoder of Spec/RleHybrid.lean is complete for the grammar: from a legal stream
it returns the first `n` values the runs denote.
-/
namespace Carquet.Proofs.RleSpecDecoder
open Carquet.Spec Carquet.Spec.RleHybrid
open Carquet.Proofs.NatBits Carquet.Proofs.BitpackImpl Carquet.Proofs.BitPackSpec Carquet.Proofs.RleGrammar

theorem readHeader_of_isHeader {hdr : List UInt8} {h : Nat} (hh : IsHeader hdr h) (rest : List UInt8) :
    readHeader (hdr ++ rest) = .ok (h, rest) := by
  obtain ⟨h1, h2, h3⟩ := hh
  unfold readHeader
  rw [Varint.decode_append h1 rest]
  simp only [List.length_append, Nat.add_sub_cancel]
  rw [if_pos ⟨h2, h3⟩]

theorem unpack_prefix {w g : Nat} {data : List UInt8} {xs : List Nat} (hlen : data.length = g * w)
    (hu : BitPack.unpack w data (8 * g) = some xs) (k : Nat) (hk : k ≤ 8 * g) :
    BitPack.unpack w data k = some (xs.take k) := by
  have hb : 8 * g * w ≤ 8 * data.length := by rw [hlen, Nat.mul_assoc]; exact Nat.le_refl _
  rw [unpack_eq w (8 * g) data hb] at hu
  cases hu
  rw [unpack_eq w k data (Nat.le_trans (Nat.mul_le_mul_right w hk) hb)]
  congr 1
  rw [← List.map_take, List.take_range, Nat.min_eq_left hk]

theorem unpack_length {w g : Nat} {data : List UInt8} {xs : List Nat} (hlen : data.length = g * w)
    (hu : BitPack.unpack w data (8 * g) = some xs) : xs.length = 8 * g := by
  have hb : 8 * g * w ≤ 8 * data.length := by rw [hlen, Nat.mul_assoc]; exact Nat.le_refl _
  rw [unpack_eq w (8 * g) data hb] at hu
  cases hu; simp

theorem decodeRuns_zero (w f : Nat) (bs : List UInt8) : decodeRuns w f bs 0 = .ok [] := by
  cases f <;> rfl

theorem decodeRuns_complete {w : Nat} {bs : List UInt8} {xs : List Nat} (h : Runs w bs xs) :
    ∀ (f n : Nat), bs.length < f → n ≤ xs.length → decodeRuns w f bs n = .ok (xs.take n) := by
  induction h with
  | nil =>
    intro f n _ hn
    rw [Nat.le_zero.mp hn, decodeRuns_zero]; rfl
  | rle hdr cnt v rest vals hh hv _ ih =>
    intro f n hf hn
    obtain ⟨f, rfl⟩ := Nat.exists_eq_add_one_of_ne_zero (Nat.ne_zero_of_lt hf)
    cases n with
    | zero => rw [decodeRuns_zero]; rfl
    | succ m =>
      have hvb : (leBytes (valueBytes w) v).length = valueBytes w := by
        rw [spec_leBytes_eq]; exact leBytes_length _ _
      have hval : leValue ((leBytes (valueBytes w) v ++ rest).take (valueBytes w)) = v := by
        rw [List.take_left' hvb, spec_leValue_eq, spec_leBytes_eq, leNat_leBytes]
        exact Nat.mod_eq_of_lt (Nat.lt_of_lt_of_le hv (pow_le_valueBytes w))
      rw [List.length_append, List.length_replicate] at hn
      rw [decodeRuns, if_neg (header_append_ne_nil hh _ _), List.append_assoc, readHeader_of_isHeader hh]
      simp only
      rw [if_pos (Nat.mul_mod_right 2 cnt),
        if_neg (Nat.not_lt.mpr (by rw [List.length_append, hvb]; exact Nat.le_add_right _ _)), hval,
        if_neg (Nat.not_le.mpr hv), List.drop_left' hvb, Nat.mul_div_cancel_left cnt (by decide : 0 < 2),
        ih f _ (rest_lt_of_header hh _ _ hf) (sub_min_le hn)]
      simp only
      rw [take_run, List.length_replicate, List.take_replicate, Nat.min_eq_left (Nat.min_le_left _ _)]
  | packed hdr g data xs rest vals hh hlen hu _ ih =>
    intro f n hf hn
    obtain ⟨f, rfl⟩ := Nat.exists_eq_add_one_of_ne_zero (Nat.ne_zero_of_lt hf)
    cases n with
    | zero => rw [decodeRuns_zero]; rfl
    | succ m =>
      have hxl := unpack_length hlen hu
      rw [List.length_append, hxl] at hn
      rw [decodeRuns, if_neg (header_append_ne_nil hh _ _), List.append_assoc, readHeader_of_isHeader hh]
      simp only
      rw [if_neg (by rw [Nat.mul_add_mod]; decide), show (2 * g + 1) / 2 = g by omega,
        if_neg (Nat.not_lt.mpr (by rw [List.length_append, hlen]; exact Nat.le_add_right _ _)),
        ← hlen, List.take_left' rfl, List.drop_left' rfl, unpack_prefix hlen hu _ (Nat.min_le_left _ _),
        ih f _ (rest_lt_of_header hh _ _ hf) (sub_min_le hn)]
      simp only
      rw [take_run, hxl]

/-- **The Spec decoder reads every legal stream.** -/
theorem decode_complete {w : Nat} {bs : List UInt8} {xs : List Nat} (h : Runs w bs xs) (n : Nat)
    (hn : n ≤ xs.length) : RleHybrid.decode w bs n = .ok (xs.take n) :=
  decodeRuns_complete h (bs.length + 1) n (Nat.lt_succ_self _) hn

end Carquet.Proofs.RleSpecDecoder
