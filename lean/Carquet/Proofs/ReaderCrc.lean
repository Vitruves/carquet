import Carquet.Proofs.ReaderBounds
import Carquet.Proofs.Crc32Damage
/-
Page checksum verification in the page loaders (helper lemmas for C14_page_damage_reported and
C14_clean_page_accepted).
-/
namespace Carquet.Proofs.ReaderCrc
open Carquet.Impl Carquet.Impl.Reader
open Carquet.Proofs.ReaderBounds

/-- The stored body of the data page whose header `hr` the loader has found in state `st`, when
everything the loader tests before the checksum passes (page type, sizes, value count, body inside
the file). -/
def storedDataPage (mode : Mode) (b : Reader.Bytes) (st : PState) (hr : ThriftParquetReq.PageHdr × Nat) : Option Reader.Bytes :=
  if hr.1.type = 3 then none
  else if hr.1.type ≠ 0 then none
  else if (!sizesValid hr.1 || decide (hr.1.word0 < 0) || decide (hr.1.word0 > st.valuesRemaining)) = true then none
  else
    match (bodyBytes mode b (st.dataStart + st.currentPage).toNat hr.2 hr.1.compressed.toNat).1 with
    | .error _ => none
    | .ok body => some body

/-- likewise the dictionary page at `off` -/
def storedDictPage (mode : Mode) (b : Reader.Bytes) (off : Int) : Option (ThriftParquetReq.PageHdr × Nat × Reader.Bytes) :=
  match (loadHeader mode b off).result with
  | .error _ => none
  | .ok hr =>
    if hr.1.type ≠ 2 then none
    else if (!sizesValid hr.1 || decide (hr.1.word0 < 0)) = true then none
    else
      match (bodyBytes mode b off.toNat hr.2 hr.1.compressed.toNat).1 with
      | .error _ => none
      | .ok body => some (hr.1, hr.2, body)

theorem storedDataPage_some {mode : Mode} {b : Reader.Bytes} {st : PState} {hr : ThriftParquetReq.PageHdr × Nat} {body : Reader.Bytes}
    (h : storedDataPage mode b st hr = some body) :
    dataGate st hr.1 = none ∧
    (bodyBytes mode b (st.dataStart + st.currentPage).toNat hr.2 hr.1.compressed.toNat).1 = .ok body := by
  unfold storedDataPage at h
  unfold dataGate
  split at h
  · cases h
  · split at h
    · cases h
    · split at h
      · cases h
      · rename_i h3 h0 hs
        rw [if_neg h3, if_neg h0, if_neg hs]
        split at h
        · cases h
        · cases h; exact ⟨rfl, ‹_›⟩

theorem finishDataPage_stored (fx : Fixes) (L : Libs) (verify : Bool) (mode : Mode) (b : Reader.Bytes) (c : Col) (st : PState)
    (hr : ThriftParquetReq.PageHdr × Nat) (body : Reader.Bytes) (hst : storedDataPage mode b st hr = some body) :
    (finishDataPage fx L verify mode b c st hr).result = (afterBody fx L verify mode b c st hr body).result := by
  obtain ⟨hg, hb⟩ := storedDataPage_some hst
  exact finishDataPage_of_body fx L verify mode b c st hr body hg hb

theorem finishDataPage_crcBad (fx : Fixes) (L : Libs) (verify : Bool) (mode : Mode) (b : Reader.Bytes) (c : Col) (st : PState)
    (hr : ThriftParquetReq.PageHdr × Nat) (body : Reader.Bytes)
    (hst : storedDataPage mode b st hr = some body) (hbad : crcBad verify hr.1.crc body = true) :
    (finishDataPage fx L verify mode b c st hr).result = .error .crcMismatch := by
  rw [finishDataPage_stored fx L verify mode b c st hr body hst, afterBody_result, if_pos hbad]

theorem loadDictionary_crcBad (fx : Fixes) (L : Libs) (verify : Bool) (mode : Mode) (b : Reader.Bytes) (c : Col) (off : Int)
    (h : ThriftParquetReq.PageHdr) (hs : Nat) (body : Reader.Bytes)
    (hst : storedDictPage mode b off = some (h, hs, body)) (hbad : crcBad verify h.crc body = true) :
    (loadDictionary fx L verify mode b c off).result = .error .crcMismatch := by
  unfold storedDictPage at hst
  unfold loadDictionary
  rw [andThen_result]
  split at hst
  · cases hst
  · rename_i hr hh
    rw [hh]
    split at hst
    · cases hst
    · split at hst
      · cases hst
      · rename_i ht hsz
        simp only [Bool.not_eq_true] at hsz
        simp only [if_neg ht, hsz, Bool.false_eq_true, if_false]
        rw [andThen_result, Load.ofPair]
        split at hst
        · cases hst
        · rename_i body' hb
          cases hst
          simp only [hb, hbad, if_true, Load.pure]

theorem crcBad_of_burst (crc : Int) (orig body : Reader.Bytes) (w : Nat) (hw : w ≤ 32)
    (hcrc : (crc % 4294967296).toNat = (Crc32.crc32 orig).toNat)
    (hd : Carquet.Spec.Crc32.BurstDamage w orig body) : crcBad true (some crc) body = true := by
  unfold crcBad
  simp only [Bool.true_and, decide_eq_true_eq]
  rw [hcrc]
  intro heq
  have hne : Crc32.crc32 orig ≠ Crc32.crc32 body := by
    rw [Carquet.Proofs.Crc32.impl_crc32_eq, Carquet.Proofs.Crc32.impl_crc32_eq]
    exact Carquet.Proofs.Crc32.crc32_burst_ne w hw orig body hd
  exact hne (BitVec.eq_of_toNat_eq heq.symm)

theorem crcBad_clean (verify : Bool) (crc : Int) (body : Reader.Bytes)
    (hcrc : (crc % 4294967296).toNat = (Crc32.crc32 body).toNat) : crcBad verify (some crc) body = false := by
  unfold crcBad
  simp [hcrc]

theorem crcBad_off (crc : Option Int) (body : Reader.Bytes) : crcBad false crc body = false := by
  unfold crcBad; cases crc <;> simp

theorem crcBad_none (verify : Bool) (body : Reader.Bytes) : crcBad verify none body = false := rfl

/-! ### nothing after the checksum test reports CRC_MISMATCH -/

def NoCrc {α : Type} (r : Except Err α) : Prop := r ≠ .error .crcMismatch

theorem noCrc_ok {α : Type} (a : α) : NoCrc (Except.ok a : Except Err α) := nofun

theorem noCrc_error {α : Type} {e : Err} (h : e ≠ .crcMismatch := by exact nofun) : NoCrc (Except.error e : Except Err α) :=
  fun he => h (Except.error.inj he)

theorem mapSnappy_noCrc (r : Except Snappy.Err Reader.Bytes) : NoCrc (mapSnappy r) := by
  unfold mapSnappy NoCrc; split <;> simp

theorem mapLz4_noCrc (r : Except Lz4.Err Reader.Bytes) : NoCrc (mapLz4 r) := by
  unfold mapLz4 NoCrc; split <;> simp

theorem mapWrap_noCrc (r : Except CodecWrappers.Err Reader.Bytes) : NoCrc (mapWrap r) := by
  unfold mapWrap NoCrc; split <;> simp

theorem pageData_noCrc (L : Libs) (codec : Int) (body : Reader.Bytes) (u : Nat) : NoCrc (pageData L codec body u) := by
  unfold pageData decompressPage
  refine ite_of (fun _ => noCrc_ok _) fun _ => ite_of (fun _ => ite_of (fun _ => noCrc_error) fun _ => noCrc_ok _) fun _ => ?_
  exact ite_of (fun _ => mapSnappy_noCrc _) fun _ => ite_of (fun _ => mapLz4_noCrc _) fun _ =>
    ite_of (fun _ => mapWrap_noCrc _) fun _ => ite_of (fun _ => mapWrap_noCrc _) fun _ => noCrc_error

theorem levelBlock_noCrc (fx : Fixes) (m n : Nat) (data : Reader.Bytes) : NoCrc (levelBlock fx m n data) := by
  unfold levelBlock
  exact ite_of (fun _ => noCrc_error) fun _ => ite_of (fun _ => noCrc_error) fun _ =>
    ite_of (fun _ => ite_of (fun _ => noCrc_error) fun _ => noCrc_error) fun _ => noCrc_ok _

theorem plainRes_noCrc {α : Type} (f : α → List Reader.Bytes) (r : Plain.Res α) : NoCrc (plainRes f r) := by
  unfold plainRes NoCrc; split <;> simp

theorem plainValues_noCrc (ptype tl : Int) (input : Reader.Bytes) (n : Nat) : NoCrc (plainValues ptype tl input n) := by
  unfold plainValues
  iterate 8 refine ite_of (fun _ => plainRes_noCrc _ _) fun _ => ?_
  exact noCrc_error

theorem gatherBytes_noCrc (d : Dict) : ∀ (is : List Nat), NoCrc (gatherBytes d is) := by
  intro is
  induction is with
  | nil => exact noCrc_ok _
  | cons i is ih =>
    unfold gatherBytes
    refine ite_of (fun _ => noCrc_error) fun _ => ?_
    split
    · exact noCrc_error
    · split
      · rename_i e he
        intro h
        cases h
        exact ih he
      · exact noCrc_ok _

theorem gatherFixed_noCrc (k : Nat) (d : Dict) (idx : List Nat) : NoCrc (gatherFixed k d idx) := by
  unfold gatherFixed
  exact ite_of (fun _ => noCrc_error) fun _ => noCrc_ok _

theorem dictValues_noCrc (fx : Fixes) (c : Col) (dict : Option Dict) (input : Reader.Bytes) (n : Nat) :
    NoCrc (dictValues fx c dict input n) := by
  unfold dictValues
  split
  · exact noCrc_error
  · split
    · exact noCrc_error
    · refine ite_of (fun _ => ite_of (fun _ => noCrc_error) fun _ => noCrc_error) fun _ =>
        ite_of (fun _ => ite_of (fun _ => noCrc_error) fun _ => noCrc_error) fun _ =>
        ite_of (fun _ => gatherBytes_noCrc _ _) fun _ => ite_of (fun _ => ?_) fun _ => gatherFixed_noCrc _ _ _
      exact ite_of (fun _ => noCrc_error) fun _ => ite_of (fun _ => noCrc_ok _) fun _ =>
        ite_of (fun _ => noCrc_error) fun _ => noCrc_error

theorem decodeValues_noCrc (fx : Fixes) (c : Col) (dict : Option Dict) (enc : Int) (input : Reader.Bytes) (n : Nat) :
    NoCrc (decodeValues fx c dict enc input n) := by
  unfold decodeValues
  exact ite_of (fun _ => plainValues_noCrc _ _ _ _) fun _ => ite_of (fun _ => dictValues_noCrc _ _ _ _ _) fun _ => noCrc_error

/-- an error passed on from an earlier stage that does not report CRC_MISMATCH -/
theorem noCrc_passed {α β : Type} {r : Except Err α} {e : Err} (hr : NoCrc r) (he : r = .error e) :
    NoCrc (Except.error e : Except Err β) :=
  fun h => hr (by rw [he, Except.error.inj h])

theorem readDataPageV1_noCrc (fx : Fixes) (c : Col) (dict : Option Dict) (pd : Reader.Bytes) (n : Nat) (enc : Int) :
    NoCrc (readDataPageV1 fx c dict pd n enc) := by
  have hlev : ∀ (mx : Nat) (data : Reader.Bytes) (r : List Nat × Reader.Bytes),
      NoCrc (if mx > 0 then levelBlock fx mx n data else .ok r) :=
    fun mx data r => ite_of (fun _ => levelBlock_noCrc _ _ _ _) fun _ => noCrc_ok _
  unfold readDataPageV1
  split
  · exact noCrc_passed (hlev c.maxRep pd _) ‹_›
  · split
    · exact noCrc_passed (hlev c.maxDef _ _) ‹_›
    · split
      · exact noCrc_passed (decodeValues_noCrc _ _ _ _ _ _) ‹_›
      · exact noCrc_ok _

theorem copyPage_noCrc (fx : Fixes) (L : Libs) (c : Col) (dict : Option Dict) (hr : ThriftParquetReq.PageHdr × Nat)
    (body : Reader.Bytes) : NoCrc (copyPage fx L c dict hr body) := by
  unfold copyPage
  split
  · exact noCrc_passed (pageData_noCrc _ _ _ _) ‹_›
  · split
    · exact noCrc_passed (readDataPageV1_noCrc _ _ _ _ _ _) ‹_›
    · exact noCrc_ok _

theorem finishDataPage_clean (fx : Fixes) (L : Libs) (verify : Bool) (mode : Mode) (b : Reader.Bytes) (c : Col) (st : PState)
    (hr : ThriftParquetReq.PageHdr × Nat) (body : Reader.Bytes)
    (hst : storedDataPage mode b st hr = some body) (hok : crcBad verify hr.1.crc body = false) :
    (finishDataPage fx L verify mode b c st hr).result ≠ .error .crcMismatch := by
  rw [finishDataPage_stored fx L verify mode b c st hr body hst, afterBody_result, hok, if_neg Bool.false_ne_true]
  refine ite_of (P := NoCrc) (fun _ => noCrc_ok _) fun _ => ite_of (fun _ => ?_) fun _ => copyPage_noCrc _ _ _ _ _ _
  unfold viewPage
  split
  · rename_i e he
    refine noCrc_passed (r := if _ then _ else _) (ite_of (fun _ => noCrc_error) fun _ => noCrc_ok _) he
  · exact noCrc_ok _

end Carquet.Proofs.ReaderCrc
