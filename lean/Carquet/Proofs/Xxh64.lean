import Carquet.Spec.Xxh64
import Carquet.Impl.Xxh64
import Carquet.Proofs.Word32
/-
Helper lemmas for C20 (XXH64 part): the pointer-style model of `carquet_xxhash64` equals the
specification's XXH64 for every input and seed.
-/
namespace Carquet.Proofs.Xxh64
open Carquet

/-! ### constants and word operations -/

theorem prime1_eq : Impl.Xxh64.prime1 = Spec.Xxh64.PRIME64_1 := by decide
theorem prime2_eq : Impl.Xxh64.prime2 = Spec.Xxh64.PRIME64_2 := by decide
theorem prime3_eq : Impl.Xxh64.prime3 = Spec.Xxh64.PRIME64_3 := by decide
theorem prime4_eq : Impl.Xxh64.prime4 = Spec.Xxh64.PRIME64_4 := by decide
theorem prime5_eq : Impl.Xxh64.prime5 = Spec.Xxh64.PRIME64_5 := by decide

theorem rotl_eq (x : BitVec 64) (r : Nat) (h : r < 64) : Impl.Xxh64.rotl x r = x.rotateLeft r := by
  simp only [Impl.Xxh64.rotl, BitVec.rotateLeft_def, Nat.mod_eq_of_lt h]

theorem round_eq (a b : BitVec 64) : Impl.Xxh64.round a b = Spec.Xxh64.round a b := by
  simp only [Impl.Xxh64.round, Spec.Xxh64.round, rotl_eq _ 31 (by decide), prime1_eq, prime2_eq]

theorem mergeRound_eq (a b : BitVec 64) : Impl.Xxh64.mergeRound a b = Spec.Xxh64.mergeAccumulator a b := by
  simp only [Impl.Xxh64.mergeRound, Spec.Xxh64.mergeAccumulator, round_eq, prime1_eq, prime4_eq]

/-! ### little-endian reads -/

theorem lane_cons (b : UInt8) (bs : List UInt8) :
    Spec.Xxh64.lane (b :: bs) = (Spec.Xxh64.lane bs <<< 8) ||| b.toBitVec.setWidth 64 := rfl

theorem lane_one (b : UInt8) : Spec.Xxh64.lane [b] = b.toBitVec.setWidth 64 := by
  rw [lane_cons]
  show (0#64 <<< 8) ||| _ = _
  rw [BitVec.zero_shiftLeft, BitVec.zero_or]

/- Shifted terms are generalised to atoms before the AC step: comparing two different
`x <<< n` terms up to definitional equality unfolds `Nat.shiftLeft` and does not terminate in
reasonable time. -/
theorem horner8 (x0 x1 x2 x3 x4 x5 x6 x7 : BitVec 64) :
    x0 ||| (x1 <<< 8) ||| (x2 <<< 16) ||| (x3 <<< 24) ||| (x4 <<< 32) ||| (x5 <<< 40) ||| (x6 <<< 48) ||| (x7 <<< 56)
    = (((((((x7 <<< 8 ||| x6) <<< 8 ||| x5) <<< 8 ||| x4) <<< 8 ||| x3) <<< 8 ||| x2) <<< 8 ||| x1) <<< 8 ||| x0) := by
  simp only [BitVec.shiftLeft_or_distrib]
  simp only [← BitVec.shiftLeft_add]
  rw [show (8+8+8+8+8+8+8 : Nat) = 56 from rfl, show (8+8+8+8+8+8 : Nat) = 48 from rfl,
    show (8+8+8+8+8 : Nat) = 40 from rfl, show (8+8+8+8 : Nat) = 32 from rfl,
    show (8+8+8 : Nat) = 24 from rfl, show (8+8 : Nat) = 16 from rfl]
  generalize x7 <<< 56 = y7
  generalize x6 <<< 48 = y6
  generalize x5 <<< 40 = y5
  generalize x4 <<< 32 = y4
  generalize x3 <<< 24 = y3
  generalize x2 <<< 16 = y2
  generalize x1 <<< 8 = y1
  ac_rfl

theorem read64le_eq (b0 b1 b2 b3 b4 b5 b6 b7 : UInt8) :
    Impl.Xxh64.read64le b0 b1 b2 b3 b4 b5 b6 b7 = Spec.Xxh64.lane [b0, b1, b2, b3, b4, b5, b6, b7] := by
  rw [lane_cons, lane_cons, lane_cons, lane_cons, lane_cons, lane_cons, lane_cons, lane_one]
  exact horner8 _ _ _ _ _ _ _ _

theorem setWidth_shiftLeft_setWidth {w m n k : Nat} (x : BitVec w) (h1 : w + k ≤ m) (h2 : m ≤ n) :
    (x.setWidth m <<< k).setWidth n = x.setWidth n <<< k := by
  apply BitVec.eq_of_toNat_eq
  have hx : x.toNat * 2 ^ k < 2 ^ m :=
    Nat.lt_of_lt_of_le (Nat.mul_lt_mul_of_pos_right x.isLt (Nat.two_pow_pos k))
      (by rw [← Nat.pow_add]; exact Nat.pow_le_pow_right (by decide) h1)
  have hm : 2 ^ m ≤ 2 ^ n := Nat.pow_le_pow_right (by decide) h2
  have hx0 : x.toNat < 2 ^ m := Nat.lt_of_le_of_lt (Nat.le_mul_of_pos_right _ (Nat.two_pow_pos k)) hx
  simp only [BitVec.toNat_setWidth, BitVec.toNat_shiftLeft, Nat.shiftLeft_eq]
  rw [Nat.mod_eq_of_lt hx0, Nat.mod_eq_of_lt hx, Nat.mod_eq_of_lt (Nat.lt_of_lt_of_le hx hm),
    Nat.mod_eq_of_lt (Nat.lt_of_lt_of_le hx0 hm), Nat.mod_eq_of_lt (Nat.lt_of_lt_of_le hx hm)]

/-- the `(uint64_t)` conversion of the 32-bit read is the 4-byte little-endian lane -/
theorem read32le_eq (b0 b1 b2 b3 : UInt8) :
    (Impl.Xxh64.read32le b0 b1 b2 b3).setWidth 64 = Spec.Xxh64.lane [b0, b1, b2, b3] := by
  rw [lane_cons, lane_cons, lane_cons, lane_one]
  simp only [Impl.Xxh64.read32le, Impl.Xxh64.u32, BitVec.setWidth_or]
  rw [BitVec.setWidth_setWidth (by decide), setWidth_shiftLeft_setWidth _ (by decide) (by decide),
    setWidth_shiftLeft_setWidth _ (by decide) (by decide), setWidth_shiftLeft_setWidth _ (by decide) (by decide)]
  exact Word32.horner4 _ _ _ _

/-! ### cutting lists into pieces -/

theorem pieces_short {α} (n : Nat) (l : List α) (h : l.length < n) : Spec.Xxh64.pieces n l = [] := by
  simp only [Spec.Xxh64.pieces, Nat.div_eq_of_lt h, Spec.Xxh64.piecesAux]

theorem leftover_short {α} (n : Nat) (l : List α) (h : l.length < n) : Spec.Xxh64.leftover n l = l := by
  simp only [Spec.Xxh64.leftover, Nat.div_eq_of_lt h, Nat.mul_zero, List.drop_zero]

theorem div_step (m n : Nat) (hn : 0 < n) (h : n ≤ m) : m / n = (m - n) / n + 1 := by
  have e : m = (m - n) + n := by omega
  conv => lhs; rw [e]
  exact Nat.add_div_right _ hn

theorem pieces_long {α} (n : Nat) (l : List α) (hn : 0 < n) (h : n ≤ l.length) :
    Spec.Xxh64.pieces n l = l.take n :: Spec.Xxh64.pieces n (l.drop n) := by
  simp only [Spec.Xxh64.pieces, div_step l.length n hn h, Spec.Xxh64.piecesAux, List.length_drop]

theorem leftover_long {α} (n : Nat) (l : List α) (hn : 0 < n) (h : n ≤ l.length) :
    Spec.Xxh64.leftover n l = Spec.Xxh64.leftover n (l.drop n) := by
  simp only [Spec.Xxh64.leftover, div_step l.length n hn h, List.length_drop, List.drop_drop,
    Nat.mul_add, Nat.mul_one]
  congr 1
  omega

theorem leftover_length_lt {α} (n : Nat) (l : List α) (hn : 0 < n) : (Spec.Xxh64.leftover n l).length < n := by
  simp only [Spec.Xxh64.leftover, List.length_drop]
  have := Nat.mod_lt l.length hn
  have := Nat.div_add_mod l.length n
  omega

/-! ### a list that does not start with k conses is shorter than k -/

theorem lt4_of_not_cons {α} (l : List α)
    (h : ∀ (b0 b1 b2 b3 : α) (rest : List α), l = b0 :: b1 :: b2 :: b3 :: rest → False) : l.length < 4 := by
  iterate 4 (rcases l with _ | ⟨b, l⟩; · exact Nat.le_of_ble_eq_true rfl)
  exact (h _ _ _ _ _ rfl).elim

theorem lt8_of_not_cons {α} (l : List α)
    (h : ∀ (b0 b1 b2 b3 b4 b5 b6 b7 : α) (rest : List α),
      l = b0 :: b1 :: b2 :: b3 :: b4 :: b5 :: b6 :: b7 :: rest → False) : l.length < 8 := by
  iterate 8 (rcases l with _ | ⟨b, l⟩; · exact Nat.le_of_ble_eq_true rfl)
  exact (h _ _ _ _ _ _ _ _ _ rfl).elim

theorem lt32_of_not_cons {α} (l : List α)
    (h : ∀ (b0 b1 b2 b3 b4 b5 b6 b7 b8 b9 b10 b11 b12 b13 b14 b15 b16 b17 b18 b19 b20 b21 b22 b23 b24 b25 b26 b27 b28 b29 b30 b31 : α) (rest : List α),
      l = b0 :: b1 :: b2 :: b3 :: b4 :: b5 :: b6 :: b7 :: b8 :: b9 :: b10 :: b11 :: b12 :: b13 :: b14 :: b15 :: b16 :: b17 :: b18 :: b19 :: b20 :: b21 :: b22 :: b23 :: b24 :: b25 :: b26 :: b27 :: b28 :: b29 :: b30 :: b31 :: rest → False) : l.length < 32 := by
  apply Nat.lt_of_not_le
  intro hl
  -- eight elements at a time, four times
  have c8 : ∀ l : List α, 8 ≤ l.length → ∃ b0 b1 b2 b3 b4 b5 b6 b7 rest,
      l = b0 :: b1 :: b2 :: b3 :: b4 :: b5 :: b6 :: b7 :: rest ∧ rest.length + 8 = l.length := by
    intro l hl
    apply Classical.byContradiction
    intro hn
    exact Nat.not_lt.mpr hl (lt8_of_not_cons l fun b0 b1 b2 b3 b4 b5 b6 b7 rest e =>
      hn ⟨b0, b1, b2, b3, b4, b5, b6, b7, rest, e, by rw [e]; rfl⟩)
  obtain ⟨b0, b1, b2, b3, b4, b5, b6, b7, r1, rfl, e1⟩ := c8 l (by omega)
  obtain ⟨b8, b9, b10, b11, b12, b13, b14, b15, r2, rfl, e2⟩ := c8 r1 (by omega)
  obtain ⟨b16, b17, b18, b19, b20, b21, b22, b23, r3, rfl, e3⟩ := c8 r2 (by omega)
  obtain ⟨b24, b25, b26, b27, b28, b29, b30, b31, r4, rfl, e4⟩ := c8 r3 (by omega)
  exact h _ _ _ _ _ _ _ _ _ _ _ _ _ _ _ _ _ _ _ _ _ _ _ _ _ _ _ _ _ _ _ _ _ rfl

/-! ### the loops -/

theorem while32_eq {σ : Type} (body : σ → UInt8 → UInt8 → UInt8 → UInt8 → UInt8 → UInt8 → UInt8 → UInt8 → UInt8 → UInt8 → UInt8 → UInt8 → UInt8 → UInt8 → UInt8 → UInt8 → UInt8 → UInt8 → UInt8 → UInt8 → UInt8 → UInt8 → UInt8 → UInt8 → UInt8 → UInt8 → UInt8 → UInt8 → UInt8 → UInt8 → UInt8 → UInt8 → σ) (g : σ → List UInt8 → σ)
    (hg : ∀ s b0 b1 b2 b3 b4 b5 b6 b7 b8 b9 b10 b11 b12 b13 b14 b15 b16 b17 b18 b19 b20 b21 b22 b23 b24 b25 b26 b27 b28 b29 b30 b31, body s b0 b1 b2 b3 b4 b5 b6 b7 b8 b9 b10 b11 b12 b13 b14 b15 b16 b17 b18 b19 b20 b21 b22 b23 b24 b25 b26 b27 b28 b29 b30 b31 = g s [b0, b1, b2, b3, b4, b5, b6, b7, b8, b9, b10, b11, b12, b13, b14, b15, b16, b17, b18, b19, b20, b21, b22, b23, b24, b25, b26, b27, b28, b29, b30, b31])
    (s : σ) (p : List UInt8) :
    (Impl.Xxh64.while32 body s p).1 = (Spec.Xxh64.pieces 32 p).foldl g s ∧
    (Impl.Xxh64.while32 body s p).2 = Spec.Xxh64.leftover 32 p := by
  induction s, p using Impl.Xxh64.while32.induct body with
  | case1 s b0 b1 b2 b3 b4 b5 b6 b7 b8 b9 b10 b11 b12 b13 b14 b15 b16 b17 b18 b19 b20 b21 b22 b23 b24 b25 b26 b27 b28 b29 b30 b31 rest ih =>
    rw [Impl.Xxh64.while32.eq_1]
    have hl : 32 ≤ (b0 :: b1 :: b2 :: b3 :: b4 :: b5 :: b6 :: b7 :: b8 :: b9 :: b10 :: b11 :: b12 :: b13 :: b14 :: b15 :: b16 :: b17 :: b18 :: b19 :: b20 :: b21 :: b22 :: b23 :: b24 :: b25 :: b26 :: b27 :: b28 :: b29 :: b30 :: b31 :: rest).length := by
      simp only [List.length_cons]; omega
    rw [pieces_long 32 _ (by decide) hl, leftover_long 32 _ (by decide) hl, ih.1, ih.2, hg]
    simp only [List.foldl_cons, List.drop_succ_cons, List.drop_zero, List.take_succ_cons,
      List.take_zero, and_self]
  | case2 s short hshort =>
    rw [Impl.Xxh64.while32.eq_2 _ _ _ hshort]
    have hl := lt32_of_not_cons short hshort
    simp only [pieces_short 32 short hl, leftover_short 32 short hl, List.foldl_nil, and_self]

theorem while8_eq {σ : Type} (body : σ → UInt8 → UInt8 → UInt8 → UInt8 → UInt8 → UInt8 → UInt8 → UInt8 → σ) (g : σ → List UInt8 → σ)
    (hg : ∀ s b0 b1 b2 b3 b4 b5 b6 b7, body s b0 b1 b2 b3 b4 b5 b6 b7 = g s [b0, b1, b2, b3, b4, b5, b6, b7])
    (s : σ) (p : List UInt8) :
    (Impl.Xxh64.while8 body s p).1 = (Spec.Xxh64.pieces 8 p).foldl g s ∧
    (Impl.Xxh64.while8 body s p).2 = Spec.Xxh64.leftover 8 p := by
  induction s, p using Impl.Xxh64.while8.induct body with
  | case1 s b0 b1 b2 b3 b4 b5 b6 b7 rest ih =>
    rw [Impl.Xxh64.while8.eq_1]
    have hl : 8 ≤ (b0 :: b1 :: b2 :: b3 :: b4 :: b5 :: b6 :: b7 :: rest).length := by
      simp only [List.length_cons]; omega
    rw [pieces_long 8 _ (by decide) hl, leftover_long 8 _ (by decide) hl, ih.1, ih.2, hg]
    simp only [List.foldl_cons, List.drop_succ_cons, List.drop_zero, List.take_succ_cons,
      List.take_zero, and_self]
  | case2 s short hshort =>
    rw [Impl.Xxh64.while8.eq_2 _ _ _ hshort]
    have hl := lt8_of_not_cons short hshort
    simp only [pieces_short 8 short hl, leftover_short 8 short hl, List.foldl_nil, and_self]

theorem while1_eq {σ : Type} (body : σ → UInt8 → σ) (s : σ) (p : List UInt8) :
    Impl.Xxh64.while1 body s p = p.foldl body s := by
  induction p generalizing s with
  | nil => rfl
  | cons b rest ih => rw [Impl.Xxh64.while1, ih, List.foldl_cons]

def toAccs (v : Impl.Xxh64.V4) : Spec.Xxh64.Accs := ⟨v.v1, v.v2, v.v3, v.v4⟩
def ofAccs (a : Spec.Xxh64.Accs) : Impl.Xxh64.V4 := ⟨a.acc1, a.acc2, a.acc3, a.acc4⟩

theorem stripeBody_eq (v : Impl.Xxh64.V4) (b0 b1 b2 b3 b4 b5 b6 b7 b8 b9 b10 b11 b12 b13 b14 b15 b16 b17 b18 b19 b20 b21 b22 b23 b24 b25 b26 b27 b28 b29 b30 b31 : UInt8) :
    Impl.Xxh64.stripeBody v b0 b1 b2 b3 b4 b5 b6 b7 b8 b9 b10 b11 b12 b13 b14 b15 b16 b17 b18 b19 b20 b21 b22 b23 b24 b25 b26 b27 b28 b29 b30 b31 = ofAccs (Spec.Xxh64.stripe (toAccs v) [b0, b1, b2, b3, b4, b5, b6, b7, b8, b9, b10, b11, b12, b13, b14, b15, b16, b17, b18, b19, b20, b21, b22, b23, b24, b25, b26, b27, b28, b29, b30, b31]) := by
  simp only [Impl.Xxh64.stripeBody, ofAccs, toAccs, Spec.Xxh64.stripe, round_eq, read64le_eq,
    List.take_succ_cons, List.take_zero, List.drop_succ_cons, List.drop_zero]

theorem foldl_ofAccs (l : List (List UInt8)) (a : Spec.Xxh64.Accs) :
    l.foldl (fun v s => ofAccs (Spec.Xxh64.stripe (toAccs v) s)) (ofAccs a) =
      ofAccs (l.foldl Spec.Xxh64.stripe a) := by
  induction l generalizing a with
  | nil => rfl
  | cons s l ih => simp only [List.foldl_cons]; exact ih _

theorem stripeLoop_eq (a : Spec.Xxh64.Accs) (p : List UInt8) :
    (Impl.Xxh64.stripeLoop (ofAccs a) p).1 = ofAccs ((Spec.Xxh64.pieces 32 p).foldl Spec.Xxh64.stripe a) ∧
    (Impl.Xxh64.stripeLoop (ofAccs a) p).2 = Spec.Xxh64.leftover 32 p := by
  have h := while32_eq Impl.Xxh64.stripeBody (fun v s => ofAccs (Spec.Xxh64.stripe (toAccs v) s))
    (fun v b0 b1 b2 b3 b4 b5 b6 b7 b8 b9 b10 b11 b12 b13 b14 b15 b16 b17 b18 b19 b20 b21 b22 b23 b24 b25 b26 b27 b28 b29 b30 b31 => stripeBody_eq v b0 b1 b2 b3 b4 b5 b6 b7 b8 b9 b10 b11 b12 b13 b14 b15 b16 b17 b18 b19 b20 b21 b22 b23 b24 b25 b26 b27 b28 b29 b30 b31) (ofAccs a) p
  rw [foldl_ofAccs] at h
  exact h

theorem tail8_eq (h : BitVec 64) (p : List UInt8) :
    (Impl.Xxh64.tail8 h p).1 = (Spec.Xxh64.pieces 8 p).foldl Spec.Xxh64.consume8 h ∧
    (Impl.Xxh64.tail8 h p).2 = Spec.Xxh64.leftover 8 p := by
  apply while8_eq
  intro s b0 b1 b2 b3 b4 b5 b6 b7
  simp only [Impl.Xxh64.tail8Body, Spec.Xxh64.consume8, round_eq, read64le_eq,
    rotl_eq _ 27 (by decide), prime1_eq, prime4_eq]

theorem tail1_eq (h : BitVec 64) (p : List UInt8) :
    Impl.Xxh64.tail1 h p = p.foldl Spec.Xxh64.consume1 h := by
  rw [Impl.Xxh64.tail1, while1_eq]
  have e : Impl.Xxh64.tail1Body = Spec.Xxh64.consume1 := by
    funext s b
    simp only [Impl.Xxh64.tail1Body, Spec.Xxh64.consume1, Impl.Xxh64.u64, rotl_eq _ 11 (by decide),
      prime1_eq, prime5_eq]
  rw [e]

theorem tail41_eq (h : BitVec 64) (p : List UInt8) :
    Impl.Xxh64.tail1 (Impl.Xxh64.tail4 h p).1 (Impl.Xxh64.tail4 h p).2 =
      if 4 ≤ p.length then (p.drop 4).foldl Spec.Xxh64.consume1 (Spec.Xxh64.consume4 h (p.take 4))
      else p.foldl Spec.Xxh64.consume1 h := by
  induction h, p using Impl.Xxh64.tail4.fun_cases with
  | case1 h b0 b1 b2 b3 rest =>
    rw [Impl.Xxh64.tail4, tail1_eq]
    have hl : 4 ≤ (b0 :: b1 :: b2 :: b3 :: rest).length := by
      simp only [List.length_cons]; omega
    rw [if_pos hl]
    simp only [List.drop_succ_cons, List.drop_zero, List.take_succ_cons, List.take_zero,
      Impl.Xxh64.tail4Body, Spec.Xxh64.consume4, read32le_eq, rotl_eq _ 23 (by decide),
      prime1_eq, prime2_eq, prime3_eq]
  | case2 h short hshort =>
    rw [Impl.Xxh64.tail4.eq_2 _ _ hshort, tail1_eq]
    have hl := lt4_of_not_cons short hshort
    rw [if_neg (by omega)]

theorem finalMix_eq (h : BitVec 64) : Impl.Xxh64.finalMix h = Spec.Xxh64.avalanche h := by
  simp only [Impl.Xxh64.finalMix, Spec.Xxh64.avalanche, Spec.Xxh64.avalanche1, Spec.Xxh64.avalanche2,
    Spec.Xxh64.avalanche3, prime2_eq, prime3_eq]

theorem finish_eq (h : BitVec 64) (p : List UInt8) :
    Impl.Xxh64.finish h p = Spec.Xxh64.avalanche (Spec.Xxh64.consumeRemaining h p) := by
  rw [Impl.Xxh64.finish, finalMix_eq, tail41_eq, (tail8_eq h p).1, (tail8_eq h p).2,
    Spec.Xxh64.consumeRemaining]

theorem mergeAll_eq (a : Spec.Xxh64.Accs) : Impl.Xxh64.mergeAll (ofAccs a) = Spec.Xxh64.converge a := by
  simp only [Impl.Xxh64.mergeAll, Spec.Xxh64.converge, ofAccs, mergeRound_eq,
    rotl_eq _ 1 (by decide), rotl_eq _ 7 (by decide), rotl_eq _ 12 (by decide), rotl_eq _ 18 (by decide)]

theorem init_eq (seed : BitVec 64) :
    (⟨seed + Impl.Xxh64.prime1 + Impl.Xxh64.prime2, seed + Impl.Xxh64.prime2, seed + 0#64,
      seed - Impl.Xxh64.prime1⟩ : Impl.Xxh64.V4) = ofAccs (Spec.Xxh64.initAccs seed) := by
  simp only [ofAccs, Spec.Xxh64.initAccs, prime1_eq, prime2_eq]

theorem start_eq (data : List UInt8) (seed : BitVec 64) :
    (Impl.Xxh64.start data seed).1 = Spec.Xxh64.startAcc data seed ∧
    (Impl.Xxh64.start data seed).2 = Spec.Xxh64.leftover 32 data := by
  by_cases h : 32 ≤ data.length
  · have h' : ¬ data.length < 32 := by omega
    simp only [Impl.Xxh64.start, Spec.Xxh64.startAcc, if_pos h, if_neg h']
    rw [init_eq, (stripeLoop_eq _ data).1, (stripeLoop_eq _ data).2, mergeAll_eq]
    exact ⟨rfl, rfl⟩
  · have h' : data.length < 32 := by omega
    simp only [Impl.Xxh64.start, Spec.Xxh64.startAcc, if_neg h, if_pos h', prime5_eq,
      leftover_short 32 data h', and_self]

/-- The model of `carquet_xxhash64` computes the specification's XXH64. -/
theorem xxh64_eq (data : List UInt8) (seed : BitVec 64) :
    Impl.Xxh64.xxh64 data seed = Spec.Xxh64.xxh64 data seed := by
  rw [Impl.Xxh64.xxh64, finish_eq, (start_eq data seed).1, (start_eq data seed).2, Spec.Xxh64.xxh64]

end Carquet.Proofs.Xxh64
