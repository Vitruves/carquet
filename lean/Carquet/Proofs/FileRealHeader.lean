import Carquet.Impl.FileReal
import Carquet.Proofs.ThriftRoundtripTop
/-
The page header `carquet_page_writer_finalize` writes by hand (Impl.FileReal.pageHeader) is
byte for byte what `parquet_write_page_header` produces for the corresponding `PageHeader`
structure — so the Thrift round trip of C13 (`C13_roundtrip_pageheader`) applies to the
headers of written files.
-/
namespace Carquet.Proofs.FileRealHeader
open Carquet.Impl Carquet.Impl.FileReal Carquet.Impl.ThriftParquet

/-- the `PageHeader` structure a written data page's header denotes -/
def headerOf (unc comp crc numValues : Nat) (stats : Option Writer.PageStats) : PageHeader :=
  { type := 0, uncompressedPageSize := unc, compressedPageSize := comp, crc := some (asI32 crc),
    dataPageHeader :=
      { numValues := numValues, encoding := 0, definitionLevelEncoding := 3, repetitionLevelEncoding := 3,
        statistics := stats.map (fun s => { nullCount := some (s.nullCount : Int), maxValue := s.max, minValue := s.min }) } }

theorem pageHeader_eq_write (unc comp crc numValues : Nat) (stats : Option Writer.PageStats)
    (hs : ∀ s, stats = some s → s.max ≠ [] ∧ s.min ≠ []) :
    pageHeader unc comp crc numValues stats = writePageHeader (headerOf unc comp crc numValues stats) := by
  cases stats with
  | none =>
    simp [pageHeader, writePageHeader, writePageHeaderEnc, headerOf, wPageMember, wDataPageHeader, wOptStats, wOptI,
      pageData, wI]
  | some s =>
    obtain ⟨h1, h2⟩ := hs s rfl
    have e1 : s.max.isEmpty = false := by cases hm : s.max <;> simp_all
    have e2 : s.min.isEmpty = false := by cases hm : s.min <;> simp_all
    simp [pageHeader, writePageHeader, writePageHeaderEnc, headerOf, wPageMember, wDataPageHeader, wOptStats, wOptI,
      pageData, wI, writeStatistics, wBinNonEmpty, e1, e2]

theorem asI32_isI32 (crc : Nat) (h : crc < 4294967296) : isI32 (asI32 crc) = true := by
  unfold asI32 isI32; split <;> simp <;> omega

theorem headerOf_wf (unc comp crc numValues : Nat) (stats : Option Writer.PageStats)
    (h1 : unc < 2147483648) (h2 : comp < 2147483648) (h3 : crc < 4294967296) (h4 : numValues < 2147483648)
    (hs : ∀ s, stats = some s → s.nullCount < 9223372036854775808 ∧ s.max.length < 2147483648 ∧ s.min.length < 2147483648) :
    (headerOf unc comp crc numValues stats).wf = true := by
  have hc := asI32_isI32 crc h3
  cases stats with
  | none =>
    simp [headerOf, PageHeader.wf, DataPageHeader.wf, isI32, okOpt, pageData] at hc ⊢
    omega
  | some s =>
    obtain ⟨a, b, c⟩ := hs s rfl
    simp [headerOf, PageHeader.wf, DataPageHeader.wf, Statistics.wf, isI32, isI64, isBin, okOpt, pageData] at hc ⊢
    omega

theorem parse_written_header (unc comp crc numValues : Nat) (stats : Option Writer.PageStats) (rest : List UInt8)
    (h1 : unc < 2147483648) (h2 : comp < 2147483648) (h3 : crc < 4294967296) (h4 : numValues < 2147483648)
    (hs : ∀ s, stats = some s → s.nullCount < 9223372036854775808 ∧ s.max.length < 2147483648 ∧ s.min.length < 2147483648 ∧
          s.max ≠ [] ∧ s.min ≠ []) :
    parsePageHeader (pageHeader unc comp crc numValues stats ++ rest) =
      .ok (headerOf unc comp crc numValues stats, (pageHeader unc comp crc numValues stats).length) := by
  have e := pageHeader_eq_write unc comp crc numValues stats (fun s h => ⟨(hs s h).2.2.2.1, (hs s h).2.2.2.2⟩)
  have w := headerOf_wf unc comp crc numValues stats h1 h2 h3 h4 (fun s h => ⟨(hs s h).1, (hs s h).2.1, (hs s h).2.2.1⟩)
  have r := Carquet.Proofs.Thrift.roundtrip_pageheader (headerOf unc comp crc numValues stats) w rest
  rw [e]
  unfold parsePageHeader
  rw [r.1]
  cases stats <;> simp [headerOf, PageHeader.norm, DataPageHeader.norm, Statistics.norm, pageData, pageDataV2, pageDictionary]

end Carquet.Proofs.FileRealHeader
