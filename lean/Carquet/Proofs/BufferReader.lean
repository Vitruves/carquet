import Carquet.Impl.BufferReader
/-
Invariants of the buffer read cursor (Impl/BufferReader.lean): `pos ≤ size` after every call (pinned and
repaired `has` alike), and — for the repaired `has` — every access inside `data[0 .. size)`.
-/
namespace Carquet.Proofs.BufferReader
open Carquet.Impl.BufferReader

theorem subSz_of_le {a b : Nat} (h : b ≤ a) (ha : a < 2 ^ 64) : subSz a b = a - b := by
  unfold subSz
  have hb : b % 2 ^ 64 = b := Nat.mod_eq_of_lt (by omega)
  rw [hb]
  have : a + 2 ^ 64 - b = (a - b) + 2 ^ 64 := by omega
  rw [this, Nat.add_mod_right]
  exact Nat.mod_eq_of_lt (by omega)

/-- the repaired test says what it should: `n` bytes are left -/
theorem hasFixed_iff (r : Reader) (n : Nat) (hp : r.pos ≤ r.data.length) (hsz : r.data.length < 2 ^ 64) :
    hasFixed r n = true ↔ r.pos + n ≤ r.data.length := by
  unfold hasFixed
  rw [subSz_of_le hp hsz, decide_eq_true_eq]
  omega

theorem addSz_of_le {a b c : Nat} (h : a + b ≤ c) (hc : c < 2 ^ 64) : addSz a b = a + b := by
  unfold addSz; exact Nat.mod_eq_of_lt (by omega)

/-- a test that lets the call through: the sum the cursor then stores does not pass the end (it is the
wrapped sum that the pinned test compares *and* that is stored); with the repaired test it has not wrapped -/
theorem has_ok (fixed : Bool) (r : Reader) (n : Nat) (hp : r.pos ≤ r.data.length) (hsz : r.data.length < 2 ^ 64)
    (hh : ¬ has fixed r n = false) :
    addSz r.pos n ≤ r.data.length ∧ (fixed = true → addSz r.pos n = r.pos + n) := by
  cases fixed with
  | true =>
    have hle := (hasFixed_iff r n hp hsz).mp (by simpa [has] using hh)
    have ha := addSz_of_le hle hsz
    exact ⟨ha ▸ hle, fun _ => ha⟩
  | false => exact ⟨by simpa [has, hasPreFix] using hh, fun h => by cases h⟩

/-- `fixed = true`: the repaired `has` test -/
structure StepOK (fixed : Bool) (r : Reader) (res : Res) : Prop where
  data : res.next.data = r.data
  inv : res.next.pos ≤ r.data.length
  mono : fixed = true → r.pos ≤ res.next.pos
  accs : fixed = true → ∀ a ∈ res.accs, r.pos ≤ a.off ∧ a.off + a.len ≤ res.next.pos

theorem StepOK.stay {fixed : Bool} {r : Reader} (hp : r.pos ≤ r.data.length) (o : Obs) : StepOK fixed r ⟨o, r, []⟩ :=
  ⟨rfl, hp, fun _ => Nat.le_refl _, fun _ a h => by cases h⟩

/-- every call that moves the cursor tests `n` bytes, then steps over them -/
theorem advance_ok (fixed : Bool) (r : Reader) (n : Nat) (hp : r.pos ≤ r.data.length) (hsz : r.data.length < 2 ^ 64)
    (o1 o2 : Obs) (accs : List Acc) (hacc : ∀ a ∈ accs, a = ⟨r.pos, n⟩) :
    StepOK fixed r (if has fixed r n = false then ⟨o1, r, []⟩ else ⟨o2, { r with pos := addSz r.pos n }, accs⟩) := by
  split
  · exact StepOK.stay hp o1
  · rename_i hh
    obtain ⟨h1, h2⟩ := has_ok fixed r n hp hsz hh
    refine ⟨rfl, h1, fun hf => by rw [h2 hf]; exact Nat.le_add_right _ _, fun hf a ha => ?_⟩
    rw [hacc a ha, h2 hf]
    exact ⟨Nat.le_refl _, Nat.le_refl _⟩

theorem step_ok (fixed : Bool) (r : Reader) (op : Op) (hp : r.pos ≤ r.data.length) (hsz : r.data.length < 2 ^ 64) :
    StepOK fixed r (step fixed r op) := by
  have hk : ∀ k, StepOK fixed r (readFixed fixed r k) := fun k =>
    advance_ok fixed r k hp hsz _ _ _ (fun a h => List.mem_singleton.mp h)
  cases op with
  | has n => exact StepOK.stay hp _
  | remaining => exact StepOK.stay hp _
  | peek => exact StepOK.stay hp _
  | skip n => exact advance_ok fixed r n hp hsz _ _ _ (fun a h => by cases h)
  | read n => exact advance_ok fixed r n hp hsz _ _ _ (fun a h => List.mem_singleton.mp h)
  | readByte => exact hk 1
  | readU16 => exact hk 2
  | readU32 => exact hk 4
  | readU64 => exact hk 8
  | readF32 => exact hk 4
  | readF64 => exact hk 8

theorem run_ok (fixed : Bool) : ∀ (ops : List Op) (r : Reader), r.pos ≤ r.data.length → r.data.length < 2 ^ 64 →
    (run fixed r ops).2.2.data = r.data ∧ (run fixed r ops).2.2.pos ≤ r.data.length ∧
    (fixed = true → r.pos ≤ (run fixed r ops).2.2.pos ∧
      ∀ a ∈ (run fixed r ops).2.1, r.pos ≤ a.off ∧ a.off + a.len ≤ r.data.length) := by
  intro ops
  induction ops with
  | nil => intro r hp _; exact ⟨rfl, hp, fun _ => ⟨Nat.le_refl _, fun a h => by cases h⟩⟩
  | cons op ops ih =>
    intro r hp hsz
    have h1 := step_ok fixed r op hp hsz
    have h2 := ih (step fixed r op).next (h1.data ▸ h1.inv) (h1.data ▸ hsz)
    rw [h1.data] at h2
    refine ⟨h2.1, h2.2.1, fun hf => ⟨Nat.le_trans (h1.mono hf) (h2.2.2 hf).1, fun a ha => ?_⟩⟩
    rcases List.mem_append.mp ha with h | h
    · have := h1.accs hf a h
      exact ⟨this.1, Nat.le_trans this.2 h1.inv⟩
    · have := (h2.2.2 hf).2 a h
      exact ⟨Nat.le_trans (h1.mono hf) this.1, this.2⟩

end Carquet.Proofs.BufferReader
