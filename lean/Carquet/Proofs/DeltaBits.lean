import Carquet.Spec.Delta
import Carquet.Impl.Delta
import Carquet.Proofs.BitPackSpec
/-
The LSB-first bit strings of the delta family.  `Spec.Delta` repeats `bitsOf`, `natOfBits`, `bytesOfBitsN` and `bitsOfBytes` of
`Spec.BitPack`, and the model `Impl.Delta` repeats `Spec.Delta`'s: each copy is identified with the one it repeats.  Packing and
unpacking are then read as integers (`pack_eq`, `unpack_eq`: the little-endian bytes of `concat w vals`, the `w`-bit fields of
`leNat bytes`), and the round trip is `BitpackImpl.fields_of_packed`.
-/
namespace Carquet.Spec.Delta
open Carquet.Proofs Carquet.Proofs.BitpackImpl
open Carquet.Impl.Bitpack (leNat leBytes)

theorem bitsOfNat_eq : ∀ w n, bitsOfNat w n = BitPack.bitsOf w n
  | 0, _ => rfl
  | w + 1, n => congrArg _ (bitsOfNat_eq w (n / 2))

theorem natOfBits_eq : ∀ l, natOfBits l = BitPack.natOfBits l
  | [] => rfl
  | b :: bs => congrArg ((if b then 1 else 0) + 2 * ·) (natOfBits_eq bs)

theorem bytesOfBits_eq : ∀ n l, bytesOfBits n l = BitPack.bytesOfBitsN n l
  | 0, _ => rfl
  | n + 1, l => by rw [bytesOfBits, BitPack.bytesOfBitsN, natOfBits_eq, bytesOfBits_eq n]

theorem bitsOfBytes_eq (bs : List UInt8) : bitsOfBytes bs = BitPack.bitsOfBytes bs := by
  rw [bitsOfBytes, BitPack.bitsOfBytes]; simp only [bitsOfNat_eq]

theorem natOfBits_lt (l : List Bool) : natOfBits l < 2 ^ l.length := natOfBits_eq l ▸ BitPackSpec.natOfBits_lt l

theorem bitsOfNat_natOfBits (w : Nat) (l : List Bool) (h : l.length ≤ w) :
    bitsOfNat w (natOfBits l) = l ++ List.replicate (w - l.length) false := by
  induction w generalizing l with
  | zero =>
    have : l = [] := List.eq_nil_of_length_eq_zero (by omega)
    subst this; rfl
  | succ w ih =>
    cases l with
    | nil =>
      simp only [natOfBits, bitsOfNat, List.length_nil, Nat.sub_zero, List.nil_append, List.replicate_succ]
      have := ih [] (by simp)
      simp only [natOfBits, List.length_nil, Nat.sub_zero, List.nil_append] at this
      simp [this]
    | cons b bs =>
      simp only [List.length_cons] at h
      have h' : bs.length ≤ w := by omega
      simp only [natOfBits, bitsOfNat, List.length_cons, List.cons_append]
      have e1 : ((if b = true then 1 else 0) + 2 * natOfBits bs) / 2 = natOfBits bs := by
        cases b <;> simp <;> omega
      have e2 : (((if b = true then 1 else 0) + 2 * natOfBits bs) % 2 == 1) = b := by
        cases b <;> simp <;> omega
      rw [e1, e2, ih bs h', Nat.add_sub_add_right]

@[simp] theorem length_bitsOfBytes (bs : List UInt8) : (bitsOfBytes bs).length = 8 * bs.length :=
  bitsOfBytes_eq bs ▸ BitPackSpec.bitsOfBytes_length bs

/-! ### packing and unpacking as integers -/

theorem pack_eq (w : Nat) (vals : List Nat) : pack w vals = leBytes (packedSize w vals.length) (concat w vals) := by
  rw [pack, bytesOfBits_eq, BitPackSpec.bytesOfBitsN_eq, funext (bitsOfNat_eq w)]
  exact congrArg _ (BitPackSpec.natOfBits_valueBits w vals)

@[simp] theorem length_pack (w : Nat) (vals : List Nat) : (pack w vals).length = packedSize w vals.length := by
  rw [pack_eq, NatBits.leBytes_length]

@[simp] theorem pack_zero (vals : List Nat) : pack 0 vals = [] := by
  simp [pack, packedSize, bytesOfBits]

/-- `unpackBits` never fails: past the end of the bit string it reads zeros, as the fields of the number do -/
theorem unpackBits_eq (w : Nat) : ∀ n bits, unpackBits w n bits = (List.range n).map (nth w (BitPack.natOfBits bits))
  | 0, _ => rfl
  | n + 1, bits => by
    rw [unpackBits, unpackBits_eq w n, natOfBits_eq, BitPackSpec.natOfBits_take, BitPackSpec.natOfBits_drop,
      List.range_succ_eq_map, List.map_cons, List.map_map]
    refine congrArg (_ :: ·) (List.map_congr_left fun i _ => ?_)
    show (_ >>> w >>> (w * i)) % _ = (_ >>> (w * (i + 1))) % _
    rw [NatBits.shr_shr, Nat.mul_succ, Nat.add_comm]

theorem unpack_eq (w n : Nat) (bytes : List UInt8) : unpack w n bytes = (List.range n).map (nth w (leNat bytes)) := by
  rw [unpack, unpackBits_eq, bitsOfBytes_eq, BitPackSpec.natOfBits_bitsOfBytes]

/-- only the bytes that hold the `n` fields matter -/
theorem unpack_take {w n L : Nat} (h : w * n ≤ 8 * L) (bytes : List UInt8) :
    unpack w n (bytes.take L) = unpack w n bytes := by
  rw [unpack_eq, unpack_eq, NatBits.leNat_take]
  exact List.map_congr_left fun i hi => nth_mod w _ (List.mem_range.mp hi) h

theorem unpack_pack_take (w : Nat) (vals : List Nat) (k : Nat) (h : ∀ v ∈ vals, v < 2 ^ w) (hk : k ≤ vals.length) :
    unpack w k (pack w vals) = vals.take k := by
  have hf := fields_of_packed w (packedSize w vals.length) vals h (by unfold packedSize; omega)
  rw [unpack_eq, pack_eq]
  conv => rhs; rw [← hf, ← List.map_take, List.take_range, Nat.min_eq_left hk]

theorem unpack_take_pack_prefix (w : Nat) (vals : List Nat) (tail : List UInt8) (k : Nat)
    (h : ∀ v ∈ vals, v < 2 ^ w) (hk : k ≤ vals.length) :
    unpack w k ((pack w vals ++ tail).take (packedSize w vals.length)) = vals.take k := by
  rw [List.take_left' (length_pack w vals), unpack_pack_take w vals k h hk]

theorem unpack_take_pack (w : Nat) (vals : List Nat) (tail : List UInt8) (h : ∀ v ∈ vals, v < 2 ^ w) :
    unpack w vals.length ((pack w vals ++ tail).take (packedSize w vals.length)) = vals := by
  rw [unpack_take_pack_prefix w vals tail _ h (Nat.le_refl _), List.take_length]

theorem unpack_pack (w : Nat) (vals : List Nat) (tail : List UInt8) (h : ∀ v ∈ vals, v < 2 ^ w) :
    unpack w vals.length (pack w vals ++ tail) = vals := by
  rw [← unpack_take (L := packedSize w vals.length) (by unfold packedSize; rw [Nat.mul_comm]; omega),
    unpack_take_pack w vals tail h]

end Carquet.Spec.Delta

namespace Carquet.Impl.Delta
open Carquet.Proofs.BitpackImpl (concat concat_mod)

theorem bitsOfNat_eq : ∀ w n, bitsOfNat w n = Spec.Delta.bitsOfNat w n
  | 0, _ => rfl
  | w + 1, n => congrArg _ (bitsOfNat_eq w (n / 2))

theorem natOfBits_eq : ∀ l, natOfBits l = Spec.Delta.natOfBits l
  | [] => rfl
  | b :: bs => congrArg ((if b then 1 else 0) + 2 * ·) (natOfBits_eq bs)

theorem bytesOfBits_eq : ∀ n l, bytesOfBits n l = Spec.Delta.bytesOfBits n l
  | 0, _ => rfl
  | n + 1, l => by rw [bytesOfBits, Spec.Delta.bytesOfBits, natOfBits_eq, bytesOfBits_eq n]

theorem bitsOfBytes_eq (bs : List UInt8) : bitsOfBytes bs = Spec.Delta.bitsOfBytes bs := by
  rw [bitsOfBytes, Spec.Delta.bitsOfBytes]; simp only [bitsOfNat_eq]

theorem unpackNat_eq (w : Nat) : ∀ n l, unpackNat w n l = Spec.Delta.unpackBits w n l
  | 0, _ => rfl
  | n + 1, l => by rw [unpackNat, Spec.Delta.unpackBits, natOfBits_eq, unpackNat_eq w n]

theorem unpackBits_eq (w n : Nat) (bytes : List UInt8) :
    unpackBits w n bytes = (Spec.Delta.unpack w n bytes).map (BitVec.ofNat 64) := by
  rw [unpackBits, Spec.Delta.unpack, unpackNat_eq, bitsOfBytes_eq]

theorem packBits_eq_pack (w : Nat) (vals : List (BitVec 64)) :
    packBits w vals = Spec.Delta.pack w (vals.map (·.toNat)) := by
  rw [packBits, Spec.Delta.pack, bytesOfBits_eq, List.length_map, List.flatMap_map]
  simp only [bitsOfNat_eq]; rfl

/-- the packer keeps the low `w` bits of each value -/
theorem packBits_eq (w : Nat) (vals : List (BitVec 64)) :
    packBits w vals = Spec.Delta.pack w (vals.map (fun v => v.toNat % 2 ^ w)) := by
  rw [packBits_eq_pack, Spec.Delta.pack_eq, Spec.Delta.pack_eq, List.length_map, List.length_map,
    ← concat_mod (Nat.le_refl w), List.map_map]
  rfl

end Carquet.Impl.Delta
