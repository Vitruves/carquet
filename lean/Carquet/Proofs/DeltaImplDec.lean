import Carquet.Proofs.DeltaBits
import Carquet.Proofs.DeltaVarint
import Carquet.Proofs.DeltaSafe
import Carquet.Proofs.DeltaSpec
/-
The Impl decoder (model of the repaired delta.c) is correct for the grammar at geometry 128/4:
every well-formed `Spec.Delta.Stream` with that geometry, a count that fits `int32_t` and frames
of reference that fit `int64_t`, followed by any bytes, decodes to the values it denotes, and
`bytes_consumed` is the length of the stream.
-/
namespace Carquet.Impl.Delta
open Carquet.Spec.Delta (Stream Block Geometry fits packMinis pack packedSize ulebEncode zigzagEnc blocksWf totalDeltas)

/-! running sums in the 64-bit register -/

def sums (L : BitVec 64) : List (BitVec 64) → List (BitVec 64)
  | [] => []
  | x :: xs => (L + x) :: sums (L + x) xs

@[simp] theorem length_sums (L : BitVec 64) (a : List (BitVec 64)) : (sums L a).length = a.length := by
  induction a generalizing L with
  | nil => rfl
  | cons x xs ih => simp [sums, ih]

theorem packMinis_nil (vpm : Nat) (ws : List UInt8) : packMinis vpm ws [] = [] := by
  cases ws <;> simp [packMinis]

theorem packMinis_cons (vpm : Nat) (w : UInt8) (ws : List UInt8) (xs : List Nat) :
    packMinis vpm (w :: ws) xs = pack w.toNat (xs.take vpm) ++ packMinis vpm ws (xs.drop vpm) := by
  simp only [packMinis]
  by_cases h : xs = []
  · subst h
    simp [packMinis_nil, pack, packedSize, Spec.Delta.bytesOfBits]
  · rw [if_neg h]

open Carquet.Spec.Delta (inI64)

/-! the decoder as a cursor on the deltas still to come

`At d ws xs bs tail`: the decoder stands in a block of a 128/4 stream of which the values `xs` (padding included) are
not yet unpacked, `ws` being the width bytes from theirs on, before the blocks `bs` and the bytes `tail`.  `future`
lists what it will still hand out; `next` takes the head of that list (`next_at`). -/

def bdeltas (b : Block) : List (BitVec 64) :=
  b.adj.map (fun a => BitVec.ofInt 64 b.minDelta + BitVec.ofNat 64 a)

/-- the deltas the decoder buffers for a block: those of the padding too -/
def allDeltas (b : Block) : List (BitVec 64) :=
  (b.adj ++ b.pad).map (fun a => BitVec.ofInt 64 b.minDelta + BitVec.ofNat 64 a)

def future (d : Dec) (xs : List Nat) (bs : List Block) : List (BitVec 64) :=
  d.pending ++ (xs.map (fun a => d.minDelta + BitVec.ofNat 64 a) ++ bs.flatMap allDeltas)

structure At (d : Dec) (ws : List UInt8) (xs : List Nat) (bs : List Block) (tail : List UInt8) : Prop where
  rest : d.rest = packMinis 32 ws xs ++ (bs.flatMap (Block.bytes ⟨128, 4⟩) ++ tail)
  widths : d.widthsLeft = ws
  geom : d.blockSize = 128 ∧ d.miniBlocksPerBlock = 4
  fits : fits 32 ws xs
  whole : xs.length % 32 = 0
  blocks : blocksWf ⟨128, 4⟩ bs
  /-- a block that another one follows is full: all its widths belong to miniblocks -/
  full : bs ≠ [] → xs.length = 32 * ws.length

/-- the fields `next` compares and adds to; reading a miniblock or a block header leaves them alone -/
def Same (d d0 : Dec) : Prop :=
  d0.lastValue = d.lastValue ∧ d0.valuesDecoded = d.valuesDecoded ∧ d0.totalValues = d.totalValues

theorem readMiniData_pack (d : Dec) (w : UInt8) (ws : List UInt8) (vals : List Nat) (r : List UInt8)
    (hlen : vals.length = 32) (hw : w.toNat ≤ 64) (hfit : ∀ v ∈ vals, v < 2 ^ w.toNat)
    (hr : d.rest = pack w.toNat vals ++ r) (hg : d.blockSize = 128 ∧ d.miniBlocksPerBlock = 4) :
    readMiniData false d w ws = .ok { d with
      pending := vals.map (fun a => d.minDelta + BitVec.ofNat 64 a), rest := r,
      pos := d.pos + (pack w.toNat vals).length, widthsLeft := ws } := by
  obtain ⟨rest, pos, bsz, mb, tv, vd, fv, lv, md, wl, pend⟩ := d
  obtain ⟨rfl, rfl⟩ := hg
  subst hr
  simp only [readMiniData]
  by_cases h0 : w.toNat = 0
  · have hz : vals = List.replicate 32 0 :=
      List.eq_replicate_iff.mpr ⟨hlen, fun v hv => by have := hfit v hv; rw [h0] at this; omega⟩
    rw [if_pos h0, h0, Spec.Delta.pack_zero, hz]
    simp
  · have hpl : (pack w.toNat vals).length = (128 / 4 * w.toNat + 7) / 8 := by
      rw [Spec.Delta.length_pack, hlen]; rfl
    have hu := Spec.Delta.unpack_pack w.toNat vals [] hfit
    rw [hlen, List.append_nil] at hu
    rw [if_neg h0, if_pos (Or.inr ⟨by simp, hw⟩), if_neg (by rw [List.length_append, hpl]; omega), ← hpl,
      List.take_left, List.drop_left, unpackBits_eq, show (128 / 4 : Nat) = 32 from rfl, hu, List.map_map]
    rfl

theorem readBlock_block (d : Dec) (b : Block) (r : List UInt8) (hw : b.widths.length = 4) (hmd : inI64 b.minDelta)
    (hr : d.rest = b.bytes ⟨128, 4⟩ ++ r) (hmb : d.miniBlocksPerBlock = 4) :
    readBlock d = .ok { d with
      minDelta := BitVec.ofInt 64 b.minDelta, widthsLeft := b.widths,
      rest := packMinis 32 b.widths (b.adj ++ b.pad) ++ r,
      pos := d.pos + (ulebEncode (zigzagEnc b.minDelta)).length + 4 } := by
  have hb : b.bytes ⟨128, 4⟩ ++ r =
      ulebEncode (zigzagEnc b.minDelta) ++ (b.widths ++ (packMinis 32 b.widths (b.adj ++ b.pad) ++ r)) := by
    rw [Block.bytes, List.append_assoc, List.append_assoc]; rfl
  have hne : d.rest ≠ [] := fun h =>
    Spec.Delta.ulebEncode_ne_nil _ (List.append_eq_nil_iff.mp ((hr.trans hb).symm.trans h)).1
  simp only [readBlock, if_neg hne, hmb]
  rw [hr, hb, readUleb128_ulebEncode _ _ (Spec.Delta.zigzagEnc_lt64 _ hmd)]
  simp only []
  rw [List.drop_left, if_neg (by simp [hw]), ← hw, List.take_left, List.drop_left,
    zigzagDecode64_zigzagEnc _ hmd]

/-- a wf block of geometry 128/4, with the numerals in place of the geometry's fields -/
theorem wf_128 {b : Block} (h : b.wf ⟨128, 4⟩) :
    b.widths.length = 4 ∧ 0 < b.adj.length ∧ (b.adj ++ b.pad).length % 32 = 0 ∧ b.pad.length < 32 ∧
    fits 32 b.widths (b.adj ++ b.pad) ∧ inI64 b.minDelta :=
  ⟨h.1, h.2.1, by rw [List.length_append]; exact h.2.2.2.1, h.2.2.2.2.1, h.2.2.2.2.2.1, h.2.2.2.2.2.2⟩

variable {d : Dec} {ws : List UInt8} {xs : List Nat} {bs : List Block} {tail : List UInt8}

theorem mini_at (h : At d ws xs bs tail) (hx : xs ≠ []) (hp : d.pending = []) :
    ∃ w ws' d0, ws = w :: ws' ∧ readMiniData false d w ws' = .ok d0 ∧ At d0 ws' (xs.drop 32) bs tail ∧
      d0.pending ≠ [] ∧ future d0 (xs.drop 32) bs = future d xs bs ∧ Same d d0 := by
  have hlen : 32 ≤ xs.length := Nat.le_of_dvd (List.length_pos_iff.mpr hx) (Nat.dvd_of_mod_eq_zero h.whole)
  have htake : (xs.take 32).length = 32 := by rw [List.length_take]; omega
  cases ws with
  | nil => exact absurd h.fits hx
  | cons w ws' =>
    obtain ⟨hw, hfit, hrest⟩ := h.fits.resolve_left hx
    refine ⟨w, ws', _, rfl, readMiniData_pack d w ws' (xs.take 32) _ htake hw hfit
        (by rw [h.rest, packMinis_cons, List.append_assoc]) h.geom,
      ⟨rfl, rfl, h.geom, hrest, by rw [List.length_drop]; have := h.whole; omega, h.blocks,
        fun hne => by have := h.full hne; rw [List.length_drop, List.length_cons] at *; omega⟩, ?_, ?_, rfl, rfl, rfl⟩
    · intro hnil
      rw [List.map_eq_nil_iff] at hnil
      rw [hnil] at htake
      cases htake
    · simp only [future, hp, List.nil_append, ← List.append_assoc, ← List.map_append, List.take_append_drop]

theorem block_at {b : Block} (h : At d ws [] (b :: bs) tail) :
    ws = [] ∧ ∃ d1, readBlock d = .ok d1 ∧ At d1 b.widths (b.adj ++ b.pad) bs tail ∧ b.adj ++ b.pad ≠ [] ∧
      d1.pending = d.pending ∧ (d.pending = [] → future d1 (b.adj ++ b.pad) bs = future d [] (b :: bs)) ∧
      Same d d1 := by
  obtain ⟨hbwf, hfull, hwf'⟩ := (Spec.Delta.blocksWf_cons _ b bs).mp h.blocks
  obtain ⟨hw4, hapos, hmod, hpad, hfits, hmd⟩ := wf_128 hbwf
  have hws : ws = [] := List.eq_nil_of_length_eq_zero (by have := h.full (by simp); rw [List.length_nil] at this; omega)
  refine ⟨hws, _, readBlock_block d b (bs.flatMap (Block.bytes ⟨128, 4⟩) ++ tail) hw4 hmd
      (by rw [h.rest, packMinis_nil, List.nil_append, List.flatMap_cons, List.append_assoc]) h.geom.2,
    ⟨rfl, rfl, h.geom, hfits, hmod, hwf', fun hne => ?_⟩, ?_, rfl, fun hp => ?_, rfl, rfl, rfl⟩
  · rw [Spec.Delta.pad_nil_of_full ⟨128, 4⟩ (by decide) b hbwf (hfull hne), List.append_nil, hfull hne, hw4]
  · intro hnil
    rw [(List.append_eq_nil_iff.mp hnil).1] at hapos
    cases hapos
  · simp only [future, hp, allDeltas, List.map_nil, List.nil_append, List.flatMap_cons]

/-- `fut` is what the decoder, standing somewhere in a 128/4 stream that `tail` follows, will still hand out -/
def Ahead (d : Dec) (fut : List (BitVec 64)) (tail : List UInt8) : Prop :=
  ∃ ws xs bs, At d ws xs bs tail ∧ future d xs bs = fut

variable {fut : List (BitVec 64)}

/-- an empty buffer is refilled from the next miniblock, after the next block header where the block is used up -/
theorem refill_at (h : Ahead d fut tail) (hp : d.pending = []) (hne : fut ≠ []) :
    ∃ d0, readMiniBlock false d = .ok d0 ∧ Ahead d0 fut tail ∧ d0.pending ≠ [] ∧ Same d d0 := by
  obtain ⟨ws, xs, bs, h, rfl⟩ := h
  by_cases hx : xs = []
  · subst hx
    cases bs with
    | nil => simp [future, hp] at hne
    | cons b bs =>
      obtain ⟨hws, d1, hrb, h1, hx1, hp1, hf1, s1⟩ := block_at h
      obtain ⟨w, ws', d0, hw1, h0, r1, r2, r3, s0⟩ := mini_at h1 hx1 (hp1.trans hp)
      refine ⟨d0, ?_, ⟨ws', _, bs, r1, r3.trans (hf1 hp)⟩, r2, s0.1.trans s1.1, s0.2.1.trans s1.2.1, s0.2.2.trans s1.2.2⟩
      rw [readMiniBlock, h.widths, hws]
      simp only [hrb, h1.widths, hw1]
      exact h0
  · obtain ⟨w, ws', d0, hw, h0, r1, r2, r3, s0⟩ := mini_at h hx hp
    exact ⟨d0, by rw [readMiniBlock, h.widths, hw]; exact h0, ⟨ws', _, bs, r1, r3⟩, r2, s0⟩

theorem pop_at {x : BitVec 64} (h : Ahead d (x :: fut) tail) (hp : d.pending ≠ []) :
    ∃ d', popDelta d = .ok (d.lastValue + x, d') ∧ Ahead d' fut tail ∧ d'.lastValue = d.lastValue + x ∧
      d'.valuesDecoded = d.valuesDecoded + 1 ∧ d'.totalValues = d.totalValues := by
  obtain ⟨ws, xs, bs, h, hf⟩ := h
  cases hq : d.pending with
  | nil => exact absurd hq hp
  | cons y ys =>
    simp only [future, hq, List.cons_append, List.cons.injEq] at hf
    obtain ⟨rfl, hf⟩ := hf
    exact ⟨{ d with lastValue := d.lastValue + y, pending := ys, valuesDecoded := d.valuesDecoded + 1 },
      by rw [popDelta, hq], ⟨ws, xs, bs, ⟨h.rest, h.widths, h.geom, h.fits, h.whole, h.blocks, h.full⟩, hf⟩, rfl, rfl, rfl⟩

theorem next_at {x : BitVec 64} (h : Ahead d (x :: fut) tail) (h1 : 1 ≤ d.valuesDecoded)
    (hT : d.valuesDecoded < d.totalValues) :
    ∃ d', next false d = .ok (d.lastValue + x, d') ∧ Ahead d' fut tail ∧ d'.lastValue = d.lastValue + x ∧
      d'.valuesDecoded = d.valuesDecoded + 1 ∧ d'.totalValues = d.totalValues := by
  rw [next, if_neg (by omega), if_neg (by omega)]
  cases hq : d.pending with
  | cons y ys => exact pop_at h (by rw [hq]; simp)
  | nil =>
    obtain ⟨d0, hr, h0, hp0, hl, hv, ht⟩ := refill_at h hq (by simp)
    obtain ⟨d', r1, r2, r3, r4, r5⟩ := pop_at h0 hp0
    exact ⟨d', by simp only [hr, r1, hl], r2, by rw [r3, hl], by rw [r4, hv], by rw [r5, ht]⟩

theorem decodeLoop_at : ∀ (n : Nat) {d : Dec} {fut : List (BitVec 64)}, Ahead d fut tail → n ≤ fut.length →
    1 ≤ d.valuesDecoded → d.valuesDecoded + n ≤ d.totalValues →
    ∃ d', decodeLoop false n d = .ok (sums d.lastValue (fut.take n), d') ∧ Ahead d' (fut.drop n) tail
  | 0, d, _, h, _, _, _ => ⟨d, rfl, h⟩
  | n + 1, d, [], _, hn, _, _ => by cases hn
  | n + 1, d, x :: fut, h, hn, h1, hT => by
    obtain ⟨d1, e1, a1, l1, v1, t1⟩ := next_at h h1 (by omega)
    obtain ⟨d', e2, a2⟩ := decodeLoop_at n a1 (by simpa using hn) (by omega) (by omega)
    exact ⟨d', by simp only [decodeLoop, e1, e2, l1, List.take_succ_cons, sums], a2⟩

/-- of the buffered deltas of all blocks, the first `totalDeltas` are the stream's; fewer than a miniblock follow -/
theorem allDeltas_blocks : ∀ (blocks : List Block), blocksWf ⟨128, 4⟩ blocks →
    (blocks.flatMap allDeltas).take (totalDeltas blocks) = blocks.flatMap bdeltas ∧
    totalDeltas blocks ≤ (blocks.flatMap allDeltas).length ∧
    (blocks.flatMap allDeltas).length < totalDeltas blocks + 32
  | [], _ => ⟨rfl, Nat.le_refl _, by decide⟩
  | b :: bs, hwf => by
    obtain ⟨hbwf, hfull, hwf'⟩ := (Spec.Delta.blocksWf_cons _ b bs).mp hwf
    obtain ⟨i1, i2, i3⟩ := allDeltas_blocks bs hwf'
    have htot : totalDeltas (b :: bs) = b.adj.length + totalDeltas bs := by simp [totalDeltas]
    have hpad : b.pad.length < 32 := hbwf.2.2.2.2.1
    rw [htot, List.flatMap_cons, List.flatMap_cons, List.length_append]
    by_cases hne : bs = []
    · subst hne
      simp only [allDeltas, bdeltas, totalDeltas, List.map_nil, List.sum_nil, Nat.add_zero, List.flatMap_nil,
        List.append_nil, List.map_append, List.length_append, List.length_map, List.length_nil]
      exact ⟨by rw [List.take_left' (by simp)], by omega, by omega⟩
    · have hb : allDeltas b = bdeltas b := by
        rw [allDeltas, Spec.Delta.pad_nil_of_full _ (by decide) b hbwf (hfull hne), List.append_nil]; rfl
      have hl : (bdeltas b).length = b.adj.length := by simp [bdeltas]
      rw [hb, hl, ← hl, List.take_append, List.take_of_length_le (by omega), hl]
      exact ⟨by rw [show b.adj.length + totalDeltas bs - b.adj.length = totalDeltas bs by omega, i1], by omega, by omega⟩

/-- a cursor with fewer than 32 deltas to come stands at the end of the stream -/
theorem at_end (h : Ahead d fut tail) (hlt : fut.length < 32) : d.rest = tail := by
  obtain ⟨ws, xs, bs, h, rfl⟩ := h
  simp only [future, List.length_append, List.length_map] at hlt
  have hxs : xs = [] := List.eq_nil_of_length_eq_zero (by have := h.whole; omega)
  have hbs : bs = [] := by
    cases bs with
    | nil => rfl
    | cons b bs' =>
      obtain ⟨_, hapos, hmod, _⟩ := wf_128 ((Spec.Delta.blocksWf_cons _ b bs').mp h.blocks).1
      simp only [List.flatMap_cons, allDeltas, List.length_append, List.length_map] at hlt hmod
      omega
  rw [h.rest, hxs, hbs, packMinis_nil]; rfl

theorem init_header (s : Stream) (rest : List UInt8) (hg : s.geom = ⟨128, 4⟩)
    (hc : s.count ≤ 2147483647) (hf : inI64 s.first) :
    init (s.header ++ rest) = .ok
      { rest := rest, pos := s.header.length, blockSize := 128, miniBlocksPerBlock := 4,
        totalValues := s.count, valuesDecoded := 0, firstValue := BitVec.ofInt 64 s.first,
        lastValue := BitVec.ofInt 64 s.first, minDelta := 0#64, widthsLeft := [], pending := [] } := by
  have ec : (BitVec.ofNat 64 s.count).toNat = s.count := by
    rw [BitVec.toNat_ofNat, Nat.mod_eq_of_lt (by omega)]
  rw [init_eq, Stream.header, hg]
  simp only [List.append_assoc]
  rw [readUleb128_ulebEncode 128 _ (by decide)]
  simp only []
  rw [List.drop_left, readUleb128_ulebEncode 4 _ (by decide)]
  simp only []
  rw [if_pos (by decide), ← List.drop_drop, List.drop_left, List.drop_left,
    readUleb128_ulebEncode s.count _ (by omega)]
  simp only []
  rw [ec, if_neg (by omega), ← List.drop_drop, ← List.drop_drop, List.drop_left, List.drop_left, List.drop_left,
    readUleb128_ulebEncode _ _ (Spec.Delta.zigzagEnc_lt64 s.first hf)]
  simp only []
  rw [← List.drop_drop, ← List.drop_drop, ← List.drop_drop, List.drop_left, List.drop_left, List.drop_left,
    List.drop_left, zigzagDecode64_zigzagEnc s.first hf]
  simp only [List.length_append, Nat.add_assoc]

theorem init_other_geometry (bs mb : Nat) (rest : List UInt8) (hb : bs < 2 ^ 64) (hm : mb < 2 ^ 64)
    (hne : ¬ (bs = 128 ∧ mb = 4)) : init (ulebEncode bs ++ (ulebEncode mb ++ rest)) = .error .decode := by
  rw [init_eq, readUleb128_ulebEncode _ _ hb]
  simp only []
  rw [List.drop_left, readUleb128_ulebEncode _ _ hm]
  simp only []
  rw [BitVec.toNat_ofNat, BitVec.toNat_ofNat, Nat.mod_eq_of_lt hb, Nat.mod_eq_of_lt hm, if_neg hne]

/-- the 64-bit values the Impl decoder produces for a stream -/
def implValues (s : Stream) : List (BitVec 64) :=
  if s.count = 0 then [] else BitVec.ofInt 64 s.first :: sums (BitVec.ofInt 64 s.first) (s.blocks.flatMap bdeltas)

/-- Main lemma: the Impl decoder on a well-formed 128/4 stream whose count fits `int32_t`, followed
by any bytes. -/
theorem decodeV_stream (s : Stream) (tail : List UInt8) (hwf : s.wf) (hg : s.geom = ⟨128, 4⟩)
    (hcnt : s.count ≤ 2147483647) :
    decodeV false (s.bytes ++ tail) s.count = .ok (implValues s, s.bytes.length) := by
  obtain ⟨_, hb, hc, _, _, _, hfirst⟩ := hwf
  unfold decodeV Stream.bytes
  rw [List.append_assoc, init_header s _ hg hcnt hfirst]
  simp only
  rw [hg] at hb ⊢
  rcases hc with hc | ⟨hc, hnil⟩
  · -- the first value comes from the header; the others are the head of `future`, one by one
    obtain ⟨i1, i2, i3⟩ := allDeltas_blocks s.blocks hb
    rw [implValues, hc]
    have hat : Ahead ⟨s.blocks.flatMap (Block.bytes ⟨128, 4⟩) ++ tail, s.header.length, 128, 4, totalDeltas s.blocks + 1,
        1, BitVec.ofInt 64 s.first, BitVec.ofInt 64 s.first, 0#64, [], []⟩ (s.blocks.flatMap allDeltas) tail :=
      ⟨[], [], s.blocks, ⟨rfl, rfl, ⟨rfl, rfl⟩, rfl, rfl, hb, fun _ => rfl⟩, rfl⟩
    obtain ⟨d', e, a'⟩ := decodeLoop_at (totalDeltas s.blocks) hat i2 (Nat.le_refl 1) (by show 1 + _ ≤ _ + 1; omega)
    have hpos := (decodeLoop_pos false _ _ _ _ e).1
    rw [at_end a' (by rw [List.length_drop]; omega)] at hpos
    simp only [List.length_append] at hpos
    simp only [decodeLoop, next, if_neg (show ¬ totalDeltas s.blocks + 1 ≤ 0 by omega), if_true, e, i1,
      Nat.add_one_ne_zero, if_false, List.length_append, Except.ok.injEq, Prod.mk.injEq, true_and]
    omega
  · rw [hc, hnil]
    simp [decodeLoop, implValues, hc]

/-! from the 64-bit register values to the values the stream denotes -/

theorem ofInt_wrap (W : Nat) (x : Int) : BitVec.ofInt W (Spec.Delta.wrap W x) = BitVec.ofInt W x := by
  apply BitVec.eq_of_toNat_eq
  simp only [BitVec.toNat_ofInt, Spec.Delta.wrap]
  rw [Int.bmod_emod]

theorem truncate_ofInt (W : Nat) (h : W ≤ 64) (x : Int) :
    BitVec.truncate W (BitVec.ofInt 64 x) = BitVec.ofInt W x := by
  apply BitVec.eq_of_toNat_eq
  simp only [BitVec.truncate_eq_setWidth, BitVec.toNat_setWidth, BitVec.toNat_ofInt]
  have hdvd : ((2 ^ W : Nat) : Int) ∣ ((2 ^ 64 : Nat) : Int) := by
    refine Int.natCast_dvd_natCast.mpr ?_
    exact Nat.pow_dvd_pow 2 h
  have hpos : (0 : Int) ≤ x % ((2 ^ 64 : Nat) : Int) := Int.emod_nonneg _ (by
    have := Nat.two_pow_pos 64; omega)
  have := Int.emod_emod_of_dvd x hdvd
  rw [← this]
  obtain ⟨n, hn⟩ := Int.eq_ofNat_of_zero_le hpos
  rw [hn, Int.toNat_natCast, ← Int.natCast_emod, Int.toNat_natCast]

theorem truncate_sums (W : Nat) (h : W ≤ 64) (L : BitVec 64) (x : Int) (hL : BitVec.truncate W L = BitVec.ofInt W x)
    (ds : List Int) :
    (sums L (ds.map (BitVec.ofInt 64))).map (BitVec.truncate W) =
      (Spec.Delta.accum W x ds).map (BitVec.ofInt W) := by
  induction ds generalizing L x with
  | nil => rfl
  | cons d ds ih =>
    simp only [List.map_cons, sums, Spec.Delta.accum]
    have hstep : BitVec.truncate W (L + BitVec.ofInt 64 d) = BitVec.ofInt W (Spec.Delta.wrap W (x + d)) := by
      rw [ofInt_wrap, BitVec.ofInt_add, ← hL, ← truncate_ofInt W h d]
      simp only [BitVec.truncate_eq_setWidth]
      exact BitVec.setWidth_add L (BitVec.ofInt 64 d) h
    rw [hstep, ih _ _ hstep]

theorem bdeltas_eq (b : Block) : bdeltas b = b.deltas.map (BitVec.ofInt 64) := by
  simp only [bdeltas, Block.deltas, List.map_map]
  apply List.map_congr_left
  intro a _
  simp [BitVec.ofInt_add]

theorem flatMap_bdeltas (bs : List Block) :
    bs.flatMap bdeltas = (bs.flatMap Block.deltas).map (BitVec.ofInt 64) := by
  induction bs with
  | nil => rfl
  | cons b bs ih => simp [List.flatMap_cons, ih, bdeltas_eq]

theorem implValues_truncate (W : Nat) (h : W ≤ 64) (s : Stream) :
    (implValues s).map (BitVec.truncate W) = (s.values W).map (BitVec.ofInt W) := by
  unfold implValues Stream.values
  by_cases hc : s.count = 0
  · simp [hc]
  · rw [if_neg hc, if_neg hc]
    simp only [List.map_cons]
    have h0 : BitVec.truncate W (BitVec.ofInt 64 s.first) = BitVec.ofInt W (Spec.Delta.wrap W s.first) := by
      rw [ofInt_wrap, truncate_ofInt W h]
    rw [h0, flatMap_bdeltas, truncate_sums W h _ _ h0]

end Carquet.Impl.Delta
