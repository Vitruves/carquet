import Carquet.Impl.ReaderTable
import Carquet.Proofs.RoundtripPage
import Carquet.Proofs.RoundtripOpen
import Carquet.Proofs.RoundtripLayout
import Carquet.Proofs.CursorRun
import Carquet.Proofs.Lists
/-
C01, file level — stage "one chunk, read completely": for the chunk of row group `i`, column `j`
of a completed run (`Cell`, Proofs/RoundtripLayout.lean), the column reader that `get_column`
creates, driven by ONE `carquet_column_read_batch` of `num_values` rows with a definition-level
array (what `Impl.Reader.readRowGroup` does), returns exactly the column's entry of the table the
history denotes: `readerColOf c (pagesData ps)`.

Composition of: `RecOkL` for every page (stage "pages"), the chunk theorem of the reader half
(`chunkOf_writer`: the page iteration delivers the writer's pages, in any mode), the column reader
refinement (`readBatch_all`, C02: a read of `num_values` rows on a fresh reader delivers the chunk's rows) and the
description of the written rows (`writtenRows_content`).
-/
namespace Carquet.Proofs.Roundtrip
open Carquet.Impl Carquet.Impl.Reader
open Carquet.Impl.Writer (ChunkMeta PageRec readerColOf readerDefs)
open Carquet.Proofs.SpecWriter Carquet.Proofs.WriterTable
open Carquet.Proofs.ReaderPageRoundtrip Carquet.Proofs.ReaderChunkRoundtrip
open Carquet.Proofs.Cursor

theorem mapM_id_some {β : Type} : ∀ (xs : List β), (xs.map some).mapM id = some xs
  | [] => rfl
  | x :: xs => by
    simp only [List.map_cons, List.mapM_cons, id, mapM_id_some xs]
    rfl

theorem columnData_of_resOk (maxDef k : Nat) (res : ColumnReader.ReadResult Reader.Bytes)
    (rows : List (Carquet.Spec.Cursor.Row Reader.Bytes)) (wr : Bool)
    (h : ResOk true wr k res rows) (hwf : ∀ row ∈ rows, Carquet.Spec.Cursor.Row.WF maxDef row) :
    columnData maxDef res (rows.length : Int) = some ⟨rows.map (·.defLevel), rows.filterMap (·.val)⟩ := by
  unfold columnData
  rw [if_neg (by rw [h.count]; simp), h.rowDefs, h.vals]
  simp only [Int.toNat_natCast]
  have h1 : (rows.map (fun row => some row.defLevel)).take rows.length = (rows.map (·.defLevel)).map some := by
    rw [List.take_of_length_le (by simp), List.map_map]; rfl
  rw [h1, countP_some, ← length_filterMap_val maxDef rows hwf, take_fill, mapM_id_some, mapM_id_some]

theorem cell_chunk (L : Libs) (verify : Bool) (mode : Mode) (codec : Nat) (o : FileReal.Oracle)
    (hst : StoredOk L o codec) (file : Reader.Bytes) (c : Writer.Col) (hc : ColOk c)
    (m : ChunkMeta) (ps : List PageRec) (hcell : Cell o codec file c m ps) (hfile : file.length < 2 ^ 64) :
    (∀ r ∈ ps, RecShape c r) ∧
    ChunkOk (chunkOf Fixes.all L verify mode file (colOf c (cmdOf m))) ∧
    chunkRows (chunkOf Fixes.all L verify mode file (colOf c (cmdOf m))) = writtenRows c ps ∧
    (m.numValues : Int) = (Carquet.Proofs.ReaderChunkRoundtrip.sumRows ps : Int) := by
  obtain ⟨pre, post, hsplit, hpre, hpost⟩ := hcell.split
  have hall : ∀ r ∈ ps, RecOkL L c codec r := fun r hr => recOkL_of_facts hst hc (hcell.facts r hr)
  have hshape : ∀ r ∈ ps, RecShape c r := fun r hr => (hall r hr).toRecShape
  rw [pagesBytes_oracle] at hsplit
  obtain ⟨n1, _, _, n4, _⟩ := hcell.pages
  have hcm1 : (cmdOf m).codec = (codec : Int) := by simp [cmdOf, n4]
  have hcm3 : (cmdOf m).dataPageOffset = (pre.length : Int) := by simp [cmdOf, hpre]
  have hcm4 : (cmdOf m).numValues = (Carquet.Proofs.ReaderChunkRoundtrip.sumRows ps : Int) := by
    simp [cmdOf, n1]; rfl
  rw [hsplit] at hfile ⊢
  have hcw := chunkOf_writer L verify mode c (cmdOf m) codec ps pre post hcm1 rfl hcm3 hcm4 hall hpost hfile
  rw [chunkBytes_eq] at hcw
  obtain ⟨hok, hrows⟩ := chunkOk_writer _ c ps hshape hcw.1 hcw.2.1 hcw.2.2
  exact ⟨hshape, hok, hrows, hcm4⟩

/-- one `carquet_column_read_batch` of `num_values` rows delivers all the written rows — also when there are
none: the call returns 0 and touches nothing -/
theorem cell_read (L : Libs) (verify : Bool) (mode : Mode) (codec : Nat) (o : FileReal.Oracle)
    (hst : StoredOk L o codec) (file : Reader.Bytes) (c : Writer.Col) (hc : ColOk c)
    (m : ChunkMeta) (ps : List PageRec) (hcell : Cell o codec file c m ps)
    (hnv : m.numValues < 2147483648) (hfile : file.length < 2 ^ 64) (wd : Bool) :
    (∀ r ∈ ps, RecShape c r) ∧ (m.numValues : Int) = ((writtenRows c ps).length : Int) ∧
    (∀ row ∈ writtenRows c ps, Carquet.Spec.Cursor.Row.WF c.maxDef row) ∧
    ResOk wd false (writtenRows c ps).length
      (ColumnReader.readBatch ColumnReader.Fixes.all
        (ColumnReader.getColumn (chunkOf Fixes.all L verify mode file (colOf c (cmdOf m)))) (colOf c (cmdOf m)).cm.numValues wd false).2
      (writtenRows c ps) := by
  obtain ⟨hshape, hok, hrows, hm⟩ := cell_chunk L verify mode codec o hst file c hc m ps hcell hfile
  rw [← (writtenRows_content c ps hshape).1] at hm
  have hall := readBatch_all _ hok (by rw [hrows]; omega) wd false
  rw [hrows] at hall
  exact ⟨hshape, hm, hrows ▸ (rep_getColumn _ hok).wf, hall⟩

/-- **one chunk, read completely** -/
theorem readCell (L : Libs) (verify : Bool) (mode : Mode) (codec : Nat) (o : FileReal.Oracle)
    (hst : StoredOk L o codec) (file : Reader.Bytes) (c : Writer.Col) (hc : ColOk c)
    (m : ChunkMeta) (ps : List PageRec) (hcell : Cell o codec file c m ps)
    (hnv : m.numValues < 2147483648) (hfile : file.length < 2 ^ 64) :
    columnData (colOf c (cmdOf m)).maxDef
      (ColumnReader.readBatch ColumnReader.Fixes.all
        (ColumnReader.getColumn (chunkOf Fixes.all L verify mode file (colOf c (cmdOf m)))) (colOf c (cmdOf m)).cm.numValues true false).2
      (colOf c (cmdOf m)).cm.numValues = some (readerColOf c (pagesData ps)) := by
  obtain ⟨hshape, hnum, hwf, hres⟩ := cell_read L verify mode codec o hst file c hc m ps hcell hnv hfile true
  obtain ⟨_, hdefs, _, hvals⟩ := writtenRows_content c ps hshape
  show columnData c.maxDef _ (m.numValues : Int) = _
  rw [hnum, columnData_of_resOk c.maxDef _ _ (writtenRows c ps) false hres hwf, hdefs, hvals]
  rfl

/-- **one chunk through the public call** `carquet_column_read_batch(cr, values, num_values, def_levels?, NULL)`
(what harness/ops_file.c does and `Impl.Reader.readChunk` models; `wd` = a def_levels array is passed):
the call returns the chunk's row count, fills the level array (if any) with the definition level of
every row and the value array with the dense values, leaving its remaining slots untouched -/
theorem readCellApi (L : Libs) (verify : Bool) (mode : Mode) (codec : Nat) (o : FileReal.Oracle)
    (hst : StoredOk L o codec) (file : Reader.Bytes) (c : Writer.Col) (hc : ColOk c)
    (m : ChunkMeta) (ps : List PageRec) (hcell : Cell o codec file c m ps)
    (hnv : m.numValues < 2147483648) (hfile : file.length < 2 ^ 64) (wd : Bool) :
    ∃ res, (ColumnReader.readBatch ColumnReader.Fixes.all
        (ColumnReader.getColumn (chunkOf Fixes.all L verify mode file (colOf c (cmdOf m)))) (colOf c (cmdOf m)).cm.numValues wd false).2 = res ∧
      res.count = ((pagesData ps).rows : Int) ∧
      res.defs = (if wd then (readerDefs c (pagesData ps)).map some else []) ∧ res.reps = [] ∧
      res.vals = (pagesData ps).vals.map some ++ List.replicate ((pagesData ps).rows - (pagesData ps).vals.length) none := by
  obtain ⟨hshape, _, _, hres⟩ := cell_read L verify mode codec o hst file c hc m ps hcell hnv hfile wd
  obtain ⟨hlen, hdefs, _, hvals⟩ := writtenRows_content c ps hshape
  have hrows : (writtenRows c ps).length = (pagesData ps).rows := hlen.trans (sumRows_pagesData c ps hshape)
  refine ⟨_, rfl, by rw [hres.count, hrows], ?_, hres.reps, by rw [hres.vals, hvals, hrows]; rfl⟩
  -- a level array of `rows` slots is filled completely
  rw [hres.defs, hdefs, hrows]
  cases wd
  · rfl
  · have : (readerDefs c (pagesData ps)).length = (pagesData ps).rows := by rw [← hdefs, List.length_map, hrows]
    simp only [if_true, fill, this, Nat.sub_self, List.replicate_zero, List.append_nil]

end Carquet.Proofs.Roundtrip
