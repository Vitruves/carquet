import Carquet.Impl.FileReal
import Carquet.Proofs.ThriftRoundtripTop
/-
The footer of a written file parses back to the metadata the writer assembled
(`C13_roundtrip_filemetadata` applied to `Impl.FileReal.fileMetaData`): under the explicit size
bounds `footerOk`, `norm` is the identity on what carquet's writer produces.
-/
namespace Carquet.Proofs.FileRealFooter
open Carquet.Impl Carquet.Impl.FileReal Carquet.Impl.ThriftParquet Carquet.Impl.Writer

def chunkOk (ch : ChunkMeta) : Bool :=
  decide (ch.fileOffset < 9223372036854775808) && decide (ch.numValues < 9223372036854775808) &&
  decide (ch.totalUncompressed < 9223372036854775808) && decide (ch.totalCompressed < 9223372036854775808) &&
  decide (ch.codec < 2147483648) && isStr (strBytes ch.path)

def groupOk (g : RgMeta) : Bool :=
  g.chunks.all chunkOk && decide (g.chunks.length ≤ 10000) && decide (g.totalByteSize < 9223372036854775808) &&
  decide (g.numRows < 9223372036854775808) && decide (g.fileOffset < 9223372036854775808) &&
  decide (g.totalCompressed < 9223372036854775808) && decide (g.ordinal ≤ 32767)

/-- the sizes of a footer fit the C types and the parser's limits; names are C strings; the parameters
of a column's logical type are what the C struct can hold (`int32_t` scale / precision, `int8_t`
bit_width) -/
def footerOk (f : FooterData) : Bool :=
  decide (f.cols.length < 10000) &&
  f.cols.all (fun c => isStr (strBytes c.name) && decide (c.typeLen < 2147483648) && okOpt LogicalType.wf c.logical) &&
  isStr (strBytes f.createdBy) && decide (f.numRows < 9223372036854775808) &&
  f.rowGroups.all groupOk && decide (f.rowGroups.length ≤ 100000)

theorem schema_bytes : strBytes "schema" = [0x73, 0x63, 0x68, 0x65, 0x6d, 0x61] := by decide +kernel

theorem nat_norm (n : Nat) : (if (0 : Int) < (n : Int) then (n : Int) else 0) = (n : Int) := by
  split <;> omega

theorem ptype_code_le (t : PType) : t.code ≤ 7 := by cases t <;> decide

theorem colLogical_norm (c : Col) : normLogical (colLogical c) = colLogical c := by
  unfold colLogical
  cases c.logical with
  | none => rfl
  | some lt => cases lt <;> rfl

theorem colLogical_wf (c : Col) (h : okOpt LogicalType.wf c.logical = true) : okOpt LogicalType.wf (colLogical c) = true := by
  unfold colLogical
  cases hl : c.logical with
  | none => rfl
  | some lt =>
    rw [hl] at h
    cases lt <;> first | rfl | exact h

theorem rep_code_le (r : Rep) : r.code ≤ 2 := by cases r <;> decide

theorem fileMetaData_wf (f : FooterData) (h : footerOk f = true) : (fileMetaData f).wf = true := by
  simp only [footerOk, Bool.and_eq_true, decide_eq_true_eq, List.all_eq_true] at h
  obtain ⟨⟨⟨⟨⟨h1, h2⟩, h3⟩, h4⟩, h5⟩, h6⟩ := h
  simp only [FileMetaData.wf, fileMetaData, Bool.and_eq_true, decide_eq_true_eq, List.all_eq_true, List.all_cons,
    List.mem_map, forall_exists_index, and_imp, forall_apply_eq_imp_iff₂, List.length_cons, List.length_map, okOpt]
  refine ⟨⟨⟨⟨⟨⟨⟨⟨by decide, ?_, ?_⟩, ?_⟩, ?_⟩, ?_⟩, ?_⟩, ?_⟩, ?_⟩, h3⟩
  · simp [SchemaElement.wf, okOpt, isI32, isStr, isBin, schema_bytes]
    omega
  · intro c hc
    have := h2 c hc
    have hp := ptype_code_le c.ptype
    have hr := rep_code_le c.rep
    have hl := colLogical_wf c this.2
    simp [SchemaElement.wf, schemaElementOfCol, okOpt, this.1.1, isI32]
    refine ⟨by omega, ?_⟩
    simpa [okOpt] using hl
  · simp [maxSchemaElements]; omega
  · simp [isI64]; omega
  · intro g hg
    have hgo := h5 g hg
    simp only [groupOk, Bool.and_eq_true, decide_eq_true_eq, List.all_eq_true] at hgo
    obtain ⟨⟨⟨⟨⟨⟨g1, g2⟩, g3⟩, g4⟩, g5⟩, g6⟩, g7⟩ := hgo
    simp only [RowGroup.wf, Bool.and_eq_true, decide_eq_true_eq, List.all_eq_true, List.mem_map, forall_exists_index,
      and_imp, forall_apply_eq_imp_iff₂, List.length_map, okOpt]
    refine ⟨⟨⟨⟨⟨⟨?_, ?_⟩, ?_⟩, ?_⟩, ?_⟩, ?_⟩, ?_⟩
    · intro ch hch
      have hc := g1 ch hch
      simp only [chunkOk, Bool.and_eq_true, decide_eq_true_eq] at hc
      obtain ⟨⟨⟨⟨⟨c1, c2⟩, c3⟩, c4⟩, c5⟩, c6⟩ := hc
      have hp := ptype_code_le ch.ptype
      simp [ColumnChunk.wf, ColumnMetaData.wf, okOpt, isI64, isI32, c6, maxEncodings, maxPathElements]
      omega
    · simp [maxColumnsPerRg]; omega
    · simp [isI64]; omega
    · simp [isI64]; omega
    · simp [isI64]; omega
    · simp [isI64]; omega
    · simp [isI16]; omega
  · simp [maxRowGroups]; omega
  · intro kv hkv; simp at hkv
  · simp [maxKeyValuePairs]

theorem fileMetaData_norm (f : FooterData) : (fileMetaData f).norm = fileMetaData f := by
  simp only [FileMetaData.norm, fileMetaData, List.map_cons, List.map_map, List.map_nil]
  congr 1
  · congr 1
    · simp [SchemaElement.norm, normLogical]
      intro h; simp [h]
    · apply List.map_congr_left
      intro c _
      show SchemaElement.norm (schemaElementOfCol c) = schemaElementOfCol c
      unfold SchemaElement.norm schemaElementOfCol
      simp only [colLogical_norm]
      simp
      intro h; simp [h]
  · apply List.map_congr_left
    intro g _
    simp only [Function.comp, RowGroup.norm, List.map_map]
    congr 1

theorem parse_written_footer (f : FooterData) (h : footerOk f = true) :
    parseFileMetaData (footer f) = .ok (fileMetaData f) := by
  have w := fileMetaData_wf f h
  have r := Carquet.Proofs.Thrift.roundtrip_filemetadata (fileMetaData f) w
  unfold footer parseFileMetaData
  rw [r.1, fileMetaData_norm]
  rfl

end Carquet.Proofs.FileRealFooter
