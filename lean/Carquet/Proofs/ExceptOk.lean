/-
A `do` block in `Except` succeeds iff every check passes and every stage succeeds: rewriting with these four turns
`f x = .ok r`, for `f` a `do` block of guards (`if c then throw e`) and binds, into the conjunction of its checks and
the existence of its intermediate results — in a hypothesis (what an accepted input satisfies) as in a goal.
-/
namespace Carquet.Proofs.ExceptOk

theorem bind_ok_iff {ε α β : Type} {a : Except ε α} {f : α → Except ε β} {r : β} :
    (a >>= f) = .ok r ↔ ∃ x, a = .ok x ∧ f x = .ok r := by
  cases a <;> simp [bind, Except.bind]

theorem guard_ok_iff {ε β : Type} {c : Prop} [Decidable c] {e : ε} {k : Unit → Except ε β} {r : β} :
    (if c then (throw e >>= k) else k ()) = .ok r ↔ ¬ c ∧ k () = .ok r := by
  by_cases h : c <;> simp [h, bind, Except.bind, throw, throwThe, MonadExceptOf.throw]

theorem guard_ok_iff' {ε β : Type} {c : Prop} [Decidable c] {e : ε} {a : Except ε β} {k : Unit → Except ε β} {r : β} :
    (if c then a else (throw e >>= k)) = .ok r ↔ c ∧ a = .ok r := by
  by_cases h : c <;> simp [h, bind, Except.bind, throw, throwThe, MonadExceptOf.throw]

theorem pure_ok_iff {ε α : Type} {a r : α} : (pure a : Except ε α) = .ok r ↔ a = r := by
  simp [pure, Except.pure]

end Carquet.Proofs.ExceptOk
