import Carquet.Proofs.ReaderModes
/-
What an accepted open means (helper lemmas for C18_prefix_rejected and C04_bad_indices_rejected).
-/
namespace Carquet.Proofs.ReaderOpen
open Carquet.Impl Carquet.Impl.Reader

/-- envelope + footer, as the model's three open paths require it when the file starts with the
magic: both magics, a footer length that fits, and a footer that `parquet_parse_file_metadata`
accepts — which (after 28d9213) includes the presence of version, schema, num_rows, row_groups —
and whose schema `build_schema` accepts -/
def Complete (p : Reader.Bytes) : Prop :=
  12 ≤ p.length ∧ p.take 4 = magic ∧ slice p (p.length - 4) 4 = magic ∧ footerLen p ≤ p.length - 8 ∧
  ∃ o, parseFooter (footerBytes p) = .ok o

theorem openFread_ok (p : Reader.Bytes) (o : Opened) (h : (openFread p).1 = .ok o) :
    12 ≤ p.length ∧ slice p (p.length - 4) 4 = magic ∧ footerLen p ≤ p.length - 8 ∧ parseFooter (footerBytes p) = .ok o := by
  unfold openFread at h
  split at h
  · cases h
  · split at h
    · cases h
    · split at h
      · cases h
      · rename_i h12 hm hf
        exact ⟨by omega, by simpa using hm, by omega, h⟩

theorem openMapped_ok (p : Reader.Bytes) (o : Opened) (h : (openMapped p).1 = .ok o) :
    12 ≤ p.length ∧ p.take 4 = magic ∧ slice p (p.length - 4) 4 = magic ∧ footerLen p ≤ p.length - 8 ∧
    parseFooter (footerBytes p) = .ok o := by
  unfold openMapped at h
  split at h
  · cases h
  · split at h
    · cases h
    · split at h
      · cases h
      · split at h
        · cases h
        · rename_i h12 h0 hm hf
          exact ⟨by omega, by simpa using h0, by simpa using hm, by omega, h⟩

theorem openFile_ok (mode : Mode) (p : Reader.Bytes) (o : Opened) (h : openFile mode p = .ok o) :
    12 ≤ p.length ∧ slice p (p.length - 4) 4 = magic ∧ footerLen p ≤ p.length - 8 ∧ parseFooter (footerBytes p) = .ok o := by
  cases mode with
  | fread => exact openFread_ok p o h
  | mmap =>
    have h' : (if p.length = 0 then openFread p else openMapped p).1 = .ok o := h
    split at h'
    · exact openFread_ok p o h'
    · have := openMapped_ok p o h'; exact ⟨this.1, this.2.2.1, this.2.2.2.1, this.2.2.2.2⟩
  | buffer =>
    have h' : (if p.length = 0 then (Except.error Err.invalidArgument, []) else openMapped p).1 = .ok o := h
    split at h'
    · cases h'
    · have := openMapped_ok p o h'; exact ⟨this.1, this.2.2.1, this.2.2.2.1, this.2.2.2.2⟩

/-- no "PAR1" strictly inside the file: at no prefix length `12 ≤ k < |f|` does the prefix end in the magic -/
def noInnerMagic (f : Reader.Bytes) : Bool :=
  (List.range f.length).all (fun k => decide (k < 12) || decide (slice f (k - 4) 4 ≠ magic))

theorem slice_take (f : Reader.Bytes) (k off len : Nat) (h : off + len ≤ k) : slice (f.take k) off len = slice f off len := by
  unfold slice
  rw [List.drop_take, List.take_take]
  congr 1; omega

theorem openFile_take_ok (f : Reader.Bytes) (k : Nat) (hk : k ≤ f.length) (mode : Mode) (o : Opened)
    (h : openFile mode (f.take k) = .ok o) : 12 ≤ k ∧ slice f (k - 4) 4 = magic := by
  have h := openFile_ok mode _ o h
  have hlen : (f.take k).length = k := by simp; omega
  rw [hlen] at h
  exact ⟨h.1, by rw [← slice_take f k (k - 4) 4 (by omega)]; exact h.2.1⟩

/-- `noInnerMagic` in one pass (the definition walks to every offset from the start of the file):
`r` is the file from offset `j` on; the prefix of length `j + 4` is proper while a fifth byte follows -/
def noMagicFrom : Nat → Reader.Bytes → Bool
  | _, [] => true
  | j, a :: r => (decide (j < 8) || (r.drop 3).isEmpty || decide ((a :: r).take 4 ≠ magic)) && noMagicFrom (j + 1) r

theorem noMagicFrom_iff (f : Reader.Bytes) : ∀ (r : Reader.Bytes) (j : Nat), f.drop j = r →
    (noMagicFrom j r = true ↔ ∀ k, j + 4 ≤ k → k < f.length → k < 12 ∨ slice f (k - 4) 4 ≠ magic) := by
  intro r
  induction r with
  | nil =>
    intro j hj
    have : f.length ≤ j := List.drop_eq_nil_iff.mp hj
    exact ⟨fun _ k h1 h2 => by omega, fun _ => rfl⟩
  | cons a r ih =>
    intro j hj
    have hr : f.drop (j + 1) = r := by rw [← List.drop_drop, hj]; rfl
    have hlen : r.length = f.length - (j + 1) := by rw [← hr, List.length_drop]
    have hd : (r.drop 3).isEmpty = true ↔ f.length ≤ j + 4 := by
      rw [List.isEmpty_iff, List.drop_eq_nil_iff]; omega
    have hs : (a :: r).take 4 = slice f j 4 := by unfold slice; rw [hj]
    rw [noMagicFrom, Bool.and_eq_true, ih (j + 1) hr]
    simp only [Bool.or_eq_true, decide_eq_true_eq, hd, hs]
    constructor
    · rintro ⟨h0, h1⟩ k hk1 hk2
      by_cases hk : k = j + 4
      · subst hk
        rcases h0 with (h | h) | h
        · left; omega
        · omega
        · right; exact h
      · exact h1 k (by omega) hk2
    · intro h
      refine ⟨?_, fun k hk1 hk2 => h k (by omega) hk2⟩
      by_cases hk : j + 4 < f.length
      · rcases h (j + 4) (Nat.le_refl _) hk with h | h
        · left; left; omega
        · right; exact h
      · left; right; omega

theorem noInnerMagic_eq (f : Reader.Bytes) : noInnerMagic f = noMagicFrom 0 f := by
  rw [Bool.eq_iff_iff, noMagicFrom_iff f f 0 rfl]
  unfold noInnerMagic
  simp only [List.all_eq_true, List.mem_range, Bool.or_eq_true, decide_eq_true_eq]
  exact ⟨fun h k _ hk => h k hk, fun h k hk => by
    by_cases h4 : 4 ≤ k
    · exact h k (by omega) hk
    · left; omega⟩

theorem prefix_rejected_of_noInnerMagic (f : Reader.Bytes) (hn : noInnerMagic f = true) (k : Nat) (hk : k < f.length)
    (mode : Mode) : ∃ e, openFile mode (f.take k) = .error e := by
  cases hres : openFile mode (f.take k) with
  | error e => exact ⟨e, rfl⟩
  | ok o =>
    exfalso
    have h := openFile_take_ok f k (by omega) mode o hres
    rw [noInnerMagic_eq, noMagicFrom_iff f f 0 rfl] at hn
    rcases hn k (by omega) hk with h1 | h1
    · omega
    · exact h1 h.2

theorem prefix_rejected_or_complete (f : Reader.Bytes) (hstart : f.take 4 = magic) (k : Nat) (mode : Mode) :
    (∃ e, openFile mode (f.take k) = .error e) ∨ Complete (f.take k) := by
  cases hres : openFile mode (f.take k) with
  | error e => exact Or.inl ⟨e, rfl⟩
  | ok o =>
    right
    have h := openFile_ok mode _ o hres
    refine ⟨h.1, ?_, h.2.1, h.2.2.1, o, h.2.2.2⟩
    have hk : 4 ≤ k := by
      have : (f.take k).length ≤ k := by simp; omega
      omega
    rw [List.take_take, Nat.min_eq_left hk]
    exact hstart

/-! ### get_column -/

theorem getColumn_parts (o : Opened) (rg col : Int) (c : Col) (h : getColumn o rg col = .ok c) :
    ¬ (rg < 0 ∨ rg ≥ o.md.rowGroups.length) ∧ ¬ (col < 0 ∨ col ≥ o.leaves.length) ∧
    ∃ g lf ch m el, o.md.rowGroups[rg.toNat]? = some g ∧ o.leaves[col.toNat]? = some lf ∧ ¬ (col ≥ g.columns.length) ∧
      g.columns[col.toNat]? = some ch ∧ ch.metaData = some m ∧ o.md.schema[lf.elemIdx]? = some el ∧
      chunkMismatch m el = false ∧ c = ⟨m, lf.maxDef, lf.maxRep, m.type, el.typeLength⟩ := by
  unfold getColumn at h
  split at h; · cases h
  rename_i hrg
  split at h; · cases h
  rename_i hcol
  refine ⟨hrg, hcol, ?_⟩
  split at h
  · rename_i g lf hg hlf
    split at h; · cases h
    rename_i hcg
    split at h; · cases h
    rename_i ch hch
    split at h; · cases h
    rename_i m hm
    split at h; · cases h
    rename_i el hel
    split at h; · cases h
    rename_i hmis
    cases h
    exact ⟨g, lf, ch, m, el, hg, hlf, hcg, hch, hm, hel, Bool.eq_false_iff.mpr hmis, rfl⟩
  · cases h

theorem getColumn_of_parts (o : Opened) (i j : Nat) {g : ThriftParquet.RowGroup} {lf : Carquet.Spec.Schema.Leaf}
    {ch : ThriftParquet.ColumnChunk} {m : ThriftParquet.ColumnMetaData} {el : ThriftParquet.SchemaElement}
    (hg : o.md.rowGroups[i]? = some g) (hlf : o.leaves[j]? = some lf) (hch : g.columns[j]? = some ch)
    (hm : ch.metaData = some m) (hel : o.md.schema[lf.elemIdx]? = some el) (hmis : chunkMismatch m el = false) :
    getColumn o i j = .ok ⟨m, lf.maxDef, lf.maxRep, m.type, el.typeLength⟩ := by
  have hi := (List.getElem?_eq_some_iff.mp hg).1
  have hj := (List.getElem?_eq_some_iff.mp hlf).1
  have hjc := (List.getElem?_eq_some_iff.mp hch).1
  unfold getColumn
  rw [if_neg (by omega), if_neg (by omega)]
  simp only [Int.toNat_natCast, hg, hlf]
  rw [if_neg (by omega)]
  simp only [hch, hm, hel, hmis, Bool.false_eq_true, if_false]

theorem getColumn_ok (o : Opened) (rg col : Int) (c : Col) (h : getColumn o rg col = .ok c) :
    0 ≤ rg ∧ rg < o.md.rowGroups.length ∧ 0 ≤ col ∧ col < o.leaves.length ∧
    (∀ g, o.md.rowGroups[rg.toNat]? = some g → col < g.columns.length) ∧
    Carquet.Proofs.ReaderPlain.ColValid c := by
  obtain ⟨hrg, hcol, g, lf, ch, m, el, hg, _, hcg, _, _, _, hmis, rfl⟩ := getColumn_parts o rg col c h
  refine ⟨by omega, by omega, by omega, by omega, ?_, ?_⟩
  · intro g' hg'
    cases hg.symm.trans hg'
    omega
  · -- FIXED_LEN_BYTE_ARRAY in the chunk metadata: the schema says so too, with a positive length
    intro h7
    simp only [chunkMismatch, Bool.or_eq_false_iff, Bool.and_eq_false_iff, decide_eq_false_iff_not] at hmis
    obtain ⟨⟨⟨_, h2⟩, h3⟩, _⟩ := hmis
    have hel7 : el.type = some 7 := by rw [← Decidable.not_not.mp h2]; exact congrArg some h7
    exact Int.not_le.mp (h3.resolve_left (fun hn => hn hel7))

end Carquet.Proofs.ReaderOpen
