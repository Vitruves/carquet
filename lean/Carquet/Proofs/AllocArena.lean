import Carquet.Impl.Arena
/-
Helper lemmas about the Impl model of carquet_arena (C19).
-/
namespace Carquet.Impl.Alloc.Arena
open Carquet.Impl.Alloc

theorem alignUp_ge (v a : Nat) (ha : 0 < a) : v ≤ alignUp v a := by
  unfold alignUp
  have h1 := Nat.div_add_mod (v + a - 1) a
  have h2 := Nat.mod_lt (v + a - 1) ha
  have h3 : (v + a - 1) / a * a = a * ((v + a - 1) / a) := Nat.mul_comm _ _
  omega

theorem alignUp_lt (v a : Nat) (ha : 0 < a) : alignUp v a < v + a := by
  unfold alignUp
  have h1 := Nat.div_add_mod (v + a - 1) a
  have h3 : (v + a - 1) / a * a = a * ((v + a - 1) / a) := Nat.mul_comm _ _
  omega

theorem alignUp_mod (v a : Nat) : alignUp v a % a = 0 := by
  unfold alignUp; exact Nat.mul_mod_left _ _

theorem alignedOffset_ge (b : Block) (used a : Nat) (ha : 0 < a) : used ≤ alignedOffset b used a := by
  unfold alignedOffset
  have := alignUp_ge (b.base + used) a ha
  omega

theorem alignedOffset_lt (b : Block) (used a : Nat) (ha : 0 < a) : alignedOffset b used a < used + a := by
  unfold alignedOffset
  have := alignUp_lt (b.base + used) a ha
  omega

theorem alignedOffset_aligned (b : Block) (used a : Nat) (ha : 0 < a) :
    (b.base + alignedOffset b used a) % a = 0 := by
  unfold alignedOffset
  have h := alignUp_ge (b.base + used) a ha
  have : b.base + (alignUp (b.base + used) a - b.base) = alignUp (b.base + used) a := by omega
  rw [this]; exact alignUp_mod _ _

theorem effAlign_pos (a : Nat) : 0 < effAlign a := by
  unfold effAlign; split <;> omega

theorem findFit_some (bs : List Block) (i s a j : Nat) (h : findFit bs i s a = some j) :
    i ≤ j ∧ ∃ b, bs[j - i]? = some b ∧ fits b s a = true := by
  induction bs generalizing i with
  | nil => simp [findFit] at h
  | cons b bs ih =>
    simp only [findFit] at h
    by_cases hf : fits b s a = true
    · simp [hf] at h; subst h; simp [hf]
    · simp [hf] at h
      obtain ⟨h1, b', h2, h3⟩ := ih (i + 1) h
      refine ⟨by omega, b', ?_, h3⟩
      have : j - i = (j - (i + 1)) + 1 := by omega
      rw [this]; simpa using h2

/-- `used` of block `i`, 0 for a block that does not exist (yet) -/
def usedAt (ar : Arena) (i : Nat) : Nat := (ar.blocks[i]?.map (·.used)).getD 0

/-- What a successful carquet_arena_alloc_aligned guarantees. -/
structure AllocOk (ar ar' : Arena) (size a i off : Nat) : Prop where
  lower : usedAt ar i ≤ off
  upper : usedAt ar' i = off + size
  inBlock : ∃ b' : Block, ar'.blocks[i]? = some b' ∧ off + size ≤ b'.size ∧ (b'.base + off) % a = 0
  others : ∀ j, j ≠ i → usedAt ar' j = usedAt ar j
  geometry : ∀ (j : Nat) (b : Block), ar.blocks[j]? = some b → ∃ b' : Block, ar'.blocks[j]? = some b' ∧ b'.base = b.base ∧ b'.size = b.size
  inv : Inv ar'

theorem inv_set (ar : Arena) (j : Nat) (b : Block) (h : Inv ar) (hb : b.used ≤ b.size) (c : Nat) (hc : c < ar.blocks.length) :
    c < (ar.blocks.set j b).length ∧ ∀ x ∈ ar.blocks.set j b, x.used ≤ x.size := by
  refine ⟨by simpa using hc, ?_⟩
  intro x hx
  rcases List.mem_or_eq_of_mem_set hx with h1 | h1
  · exact h.2 x h1
  · subst h1; exact hb

theorem usedAt_set_self (ar : Arena) (j : Nat) (b : Block) (hj : j < ar.blocks.length) (ar' : Arena)
    (h : ar'.blocks = ar.blocks.set j b) : usedAt ar' j = b.used := by
  simp [usedAt, h, hj]

theorem usedAt_set_ne (ar : Arena) (j k : Nat) (b : Block) (hk : k ≠ j) (ar' : Arena)
    (h : ar'.blocks = ar.blocks.set j b) : usedAt ar' k = usedAt ar k := by
  simp [usedAt, h, List.getElem?_set_ne (Ne.symm hk)]

/-- the case "the request fits into an existing block `j`" -/
theorem allocOk_of_fit (ar ar' : Arena) (size a j c : Nat) (bj : Block) (hinv : Inv ar) (ha : 0 < a)
    (hbj : ar.blocks[j]? = some bj) (hfit : fits bj size a = true)
    (hblocks : ar'.blocks = ar.blocks.set j (bump bj size a)) (hcur : ar'.current = c) (hc : c < ar.blocks.length) :
    AllocOk ar ar' size a j (alignedOffset bj bj.used a) := by
  have hj : j < ar.blocks.length := by
    have := List.getElem?_eq_some_iff.mp hbj; exact this.1
  have hfit' : alignedOffset bj bj.used a + size ≤ bj.size := by simpa [fits] using hfit
  refine ⟨?_, ?_, ?_, ?_, ?_, ?_⟩
  · simp [usedAt, hbj]; exact alignedOffset_ge bj bj.used a ha
  · rw [usedAt_set_self ar j _ hj ar' hblocks]; rfl
  · refine ⟨bump bj size a, ?_, hfit', alignedOffset_aligned bj bj.used a ha⟩
    simp [hblocks, hj]
  · intro k hk; exact usedAt_set_ne ar j k _ hk ar' hblocks
  · intro k b hb
    by_cases hkj : k = j
    · subst hkj
      rw [hbj] at hb; cases hb
      exact ⟨bump bj size a, by simp [hblocks, hj], rfl, rfl⟩
    · exact ⟨b, by simp [hblocks, List.getElem?_set_ne (Ne.symm hkj), hb], rfl, rfl⟩
  · have := inv_set ar j (bump bj size a) hinv (by simpa [bump] using hfit') c hc
    exact ⟨by rw [hcur, hblocks]; exact this.1, by rw [hblocks]; exact this.2⟩

theorem blockSizeFor_ge (n : Nat) : n ≤ blockSizeFor n := by
  unfold blockSizeFor
  split
  · omega
  · exact alignUp_ge n _ (by decide)

/-- Full specification of carquet_arena_alloc_aligned on a well-formed arena. -/
theorem allocAligned_spec (ar : Arena) (size align nb : Nat) (o : Oracle) (hinv : Inv ar) :
    match allocAligned ar size align nb o with
    | (some (i, off), ar', _) => 0 < size ∧ AllocOk ar ar' size (effAlign align) i off
    | (none, ar', _) => ar' = ar := by
  unfold allocAligned
  by_cases h0 : size = 0
  · simp [h0]
  · simp only [h0, if_false]
    have ha := effAlign_pos align
    have hcur : ar.current < ar.blocks.length := hinv.1
    obtain ⟨cur, hget⟩ : ∃ cur, ar.blocks[ar.current]? = some cur := ⟨_, List.getElem?_eq_getElem hcur⟩
    rw [hget]
    simp only
    by_cases hf : fits cur size (effAlign align) = true
    · simp only [hf, if_true]
      exact ⟨by omega, allocOk_of_fit ar _ size _ ar.current ar.current _ hinv ha hget hf rfl rfl hcur⟩
    · simp only [hf]
      cases hff : findFit (ar.blocks.drop (ar.current + 1)) (ar.current + 1) size (effAlign align) with
      | some j =>
        obtain ⟨hle, b, hb, hfit⟩ := findFit_some _ _ _ _ _ hff
        have hbj : ar.blocks[j]? = some b := by
          rw [List.getElem?_drop] at hb
          have : ar.current + 1 + (j - (ar.current + 1)) = j := by omega
          rwa [this] at hb
        simp only [hbj]
        have hj : j < ar.blocks.length := (List.getElem?_eq_some_iff.mp hbj).1
        exact ⟨by omega, allocOk_of_fit ar _ size _ j j b hinv ha hbj hfit rfl rfl hj⟩
      | none =>
        simp only [newBlock]
        by_cases hg : o.grant = true
        · simp only [hg, if_true]
          refine ⟨by omega, ?_⟩
          generalize hreq : (if size + effAlign align > ar.defaultBlockSize then size + effAlign align
              else ar.defaultBlockSize) = req
          have hreq' : size + effAlign align ≤ req := by rw [← hreq]; split <;> omega
          have hbs := blockSizeFor_ge req
          have hoff := alignedOffset_lt ⟨nb, blockSizeFor req, 0⟩ 0 (effAlign align) ha
          refine ⟨?_, ?_, ?_, ?_, ?_, ?_⟩
          · simp [usedAt]
          · simp [usedAt, bump]
          · refine ⟨bump ⟨nb, blockSizeFor req, 0⟩ size (effAlign align), by simp, ?_, ?_⟩
            · simp [bump]; omega
            · simpa [bump] using alignedOffset_aligned ⟨nb, blockSizeFor req, 0⟩ 0 (effAlign align) ha
          · intro k hk
            simp only [usedAt]
            by_cases hkl : k < ar.blocks.length
            · simp [List.getElem?_append_left hkl]
            · have h1 : ar.blocks[k]? = none := by simp; omega
              have h2 : (ar.blocks ++ [bump ⟨nb, blockSizeFor req, 0⟩ size (effAlign align)])[k]? = none := by
                simp; omega
              simp [h1, h2]
          · intro k b hb
            have hk : k < ar.blocks.length := (List.getElem?_eq_some_iff.mp hb).1
            exact ⟨b, by simp [List.getElem?_append_left hk, hb], rfl, rfl⟩
          · refine ⟨by simp, ?_⟩
            intro x hx
            simp only [List.mem_append, List.mem_singleton] at hx
            rcases hx with hx | hx
            · exact hinv.2 x hx
            · subst hx; simp [bump]; omega
        · simp [hg]

theorem alloc_none_unchanged (ar : Arena) (size align nb : Nat) (o : Oracle) (hinv : Inv ar)
    (h : (allocAligned ar size align nb o).1 = none) : (allocAligned ar size align nb o).2.1 = ar := by
  have := allocAligned_spec ar size align nb o hinv
  generalize allocAligned ar size align nb o = r at *
  obtain ⟨res, ar', o'⟩ := r
  cases res with
  | none => simpa using this
  | some p => simp at h

end Carquet.Impl.Alloc.Arena
