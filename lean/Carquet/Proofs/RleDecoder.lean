import Carquet.Impl.Rle
import Carquet.Proofs.BitpackImpl
import Carquet.Proofs.VarintImpl
/-
Refinement of the streaming decoder of Impl/Rle.lean to a list cursor, for every decoder state.

`allValues w bytes` is everything the decoder will ever deliver from `bytes` (it stops silently at the end of
the input and at the first malformed or truncated run).  `future d` is what a state `d` will still deliver —
also a state no history reaches: a buffer longer than the run delivers `run_remaining` of its values, a run
length that is not a multiple of 8 uses its last group in part, a width above 32 still unpacks 8 values per
group, a status other than OK delivers nothing.  `get`, `getBatch k`, `skip k` act on `future d` as `head`,
`take k`, `drop k` (`runOps_eq_cursor`); that `get_batch` / `skip` never exceed the requested count and that a
successful `prep` leaves a value at hand are corollaries.  `WF` (last section) names the shape of the states
reachable from `Dec.init`; nothing depends on it.
-/
namespace Carquet.Proofs.RleDecoder
open Carquet.Impl Carquet.Impl.Rle Carquet.Proofs.BitpackImpl

/-! ### what the bytes denote -/

/-- the next `g` groups of a bit-packed run: the values of the complete ones, and the input behind them unless one
is cut short -/
def groups (w : Nat) : Nat → List UInt8 → List Nat × Option (List UInt8)
  | 0, rest => ([], some rest)
  | g + 1, rest =>
    if rest.length < w then ([], none)
    else (Bitpack.unpack8 w rest ++ (groups w g (rest.drop w)).1, (groups w g (rest.drop w)).2)

/-- `m` further values of the current bit-packed run (read group by group, the last group possibly in part), then
`k` of what follows; nothing after a truncated group -/
def packedThen (w : Nat) (k : List UInt8 → List Nat) (m : Nat) (rest : List UInt8) : List Nat :=
  (groups w ((m + 7) / 8) rest).1.take m ++ (groups w ((m + 7) / 8) rest).2.elim [] k

theorem packedThen_zero (w : Nat) (k : List UInt8 → List Nat) (rest : List UInt8) : packedThen w k 0 rest = k rest := rfl

theorem packedThen_pos (w : Nat) (k : List UInt8 → List Nat) {m : Nat} (hm : 0 < m) (rest : List UInt8) :
    packedThen w k m rest =
      if rest.length < w then [] else (Bitpack.unpack8 w rest).take m ++ packedThen w k (m - 8) (rest.drop w) := by
  obtain ⟨g, hg⟩ : ∃ g, (m + 7) / 8 = g + 1 := ⟨(m + 7) / 8 - 1, by omega⟩
  have hg' : (m - 8 + 7) / 8 = g := by omega
  unfold packedThen
  rw [hg, hg', groups]
  split
  · exact congrArg (· ++ []) List.take_nil
  · rw [List.take_append, unpack8_length_any, List.append_assoc]

theorem groups_rest_le (w : Nat) : ∀ (g : Nat) (rest r : List UInt8), (groups w g rest).2 = some r →
    r.length ≤ rest.length := by
  intro g
  induction g with
  | zero => intro rest r h; cases h; exact Nat.le_refl _
  | succ g ih =>
    intro rest r h
    rw [groups] at h
    split at h
    · cases h
    · exact Nat.le_trans (ih _ _ h) (by rw [List.length_drop]; exact Nat.sub_le _ _)

theorem packedThen_congr (w : Nat) (k k' : List UInt8 → List Nat) (m : Nat) (rest : List UInt8)
    (h : ∀ l : List UInt8, l.length ≤ rest.length → k l = k' l) : packedThen w k m rest = packedThen w k' m rest := by
  unfold packedThen
  cases hr : (groups w ((m + 7) / 8) rest).2 with
  | none => rfl
  | some r => exact congrArg _ (h r (groups_rest_le w _ rest r hr))

/-- everything the runs in `bs` deliver (fuel: one unit per run) -/
def valuesOf (w : Nat) : Nat → List UInt8 → List Nat
  | 0, _ => []
  | f + 1, bs =>
    if bs.length = 0 then []
    else
      match Varint.readVarintRle bs with
      | none => []
      | some (h, rest) =>
        if h &&& 1 = 0 then
          if rest.length < valueBytes w then []
          else
            List.replicate (h >>> 1) (Bitpack.leNat (rest.take (valueBytes w)) &&& valueMask w) ++
              valuesOf w f (rest.drop (valueBytes w))
        else packedThen w (valuesOf w f) ((h >>> 1) * 8) rest

def allValues (w : Nat) (bs : List UInt8) : List Nat := valuesOf w (bs.length + 1) bs

theorem readLoop_rest_lt (bits : Nat) : ∀ (bs : List UInt8) (f s r v : Nat) (rest : List UInt8),
    Varint.readLoop bits f s r bs = some (v, rest) → rest.length < bs.length := by
  intro bs
  induction bs with
  | nil => intro f s r v rest h; cases f <;> simp [Varint.readLoop] at h
  | cons b tl ih =>
    intro f s r v rest h
    cases f with
    | zero => simp [Varint.readLoop] at h
    | succ f =>
      simp only [Varint.readLoop] at h
      split at h
      · cases h; simp
      · have := ih _ _ _ _ _ h
        simp only [List.length_cons]; omega

theorem readVarintRle_rest_lt {bs rest : List UInt8} {v : Nat}
    (h : Varint.readVarintRle bs = some (v, rest)) : rest.length < bs.length :=
  readLoop_rest_lt 32 bs 5 0 0 v rest h

theorem valuesOf_fuel (w : Nat) : ∀ (f f' : Nat) (bs : List UInt8),
    bs.length < f → bs.length < f' → valuesOf w f bs = valuesOf w f' bs := by
  intro f
  induction f with
  | zero => intro f' bs h; omega
  | succ f ih =>
    intro f' bs h h'
    cases f' with
    | zero => omega
    | succ f' =>
      simp only [valuesOf]
      split
      · rfl
      · cases hrv : Varint.readVarintRle bs with
        | none => rfl
        | some p =>
          obtain ⟨hd, rest⟩ := p
          have hlt := readVarintRle_rest_lt hrv
          simp only
          split
          · split
            · rfl
            · rw [ih f' (rest.drop (valueBytes w)) (by rw [List.length_drop]; omega)
                (by rw [List.length_drop]; omega)]
          · exact packedThen_congr w _ _ _ _ (fun l hl => ih f' l (by omega) (by omega))

theorem valuesOf_eq_all (w f : Nat) (bs : List UInt8) (h : bs.length < f) :
    valuesOf w f bs = allValues w bs :=
  valuesOf_fuel w f (bs.length + 1) bs h (Nat.lt_succ_self _)

/-- what a decoder state would still deliver if its status were OK -/
def futureU (d : Dec) : List Nat :=
  if d.inRle = true then List.replicate d.runRemaining d.rleValue ++ allValues d.width d.rest
  else d.bp.take d.runRemaining ++ packedThen d.width (allValues d.width) (d.runRemaining - d.bp.length) d.rest

/-- what a decoder state will still deliver -/
def future (d : Dec) : List Nat := if d.status ≠ .ok then [] else futureU d

theorem future_ok {d : Dec} (hs : d.status = .ok) : future d = futureU d := if_neg (not_not_intro hs)

theorem future_failed {d : Dec} (h : d.status ≠ .ok) : future d = [] := if_pos h

theorem future_init (w : Nat) (hw : w ≤ 32) (bs : List UInt8) : future (Dec.init w bs) = allValues w bs := by
  simp [future, futureU, Dec.init, packedThen_zero, maxWidth, hw]

theorem futureU_between {d : Dec} (h0 : d.runRemaining = 0) : futureU d = allValues d.width d.rest := by
  unfold futureU
  rw [h0, Nat.zero_sub, packedThen_zero]
  split <;> rfl

/-- what `start_new_run`, `fill_bitpack_buffer` and their callers, started in status `s`, establish about the
values `V` that were to come: after success the state satisfies `P`, still has status `s` and would deliver `V`;
after a failure there were none and nothing more is delivered -/
structure Outcome (P : Dec → Prop) (V : List Nat) (s : Status) (r : Bool × Dec) : Prop where
  ok : r.1 = true → P r.2 ∧ futureU r.2 = V ∧ r.2.status = s
  fail : r.1 = false → V = [] ∧ future r.2 = [] ∧ hasNext r.2 = false

theorem Outcome.failed {P : Dec → Prop} {V : List Nat} {s : Status} {d' : Dec} (hV : V = [])
    (hs : d'.status ≠ .ok) : Outcome P V s (false, d') :=
  ⟨fun h => (by cases h), fun _ => ⟨hV, future_failed hs, by simp [hasNext, hs]⟩⟩

theorem Outcome.done {P : Dec → Prop} {V : List Nat} {s : Status} {d' : Dec} (hP : P d') (hV : futureU d' = V)
    (hs : d'.status = s) : Outcome P V s (true, d') :=
  ⟨fun _ => ⟨hP, hV, hs⟩, fun h => (by cases h)⟩

/-- the state in which `start_new_run` recurses after an empty RLE run -/
def afterEmptyRle (d : Dec) (rest : List UInt8) : Dec :=
  { d with rest := rest.drop (valueBytes d.width), inRle := true, runRemaining := 0,
           rleValue := Bitpack.leNat (rest.take (valueBytes d.width)) &&& valueMask d.width }

/-- the state in which `start_new_run` recurses after an empty bit-packed run -/
def afterEmptyPacked (d : Dec) (rest : List UInt8) : Dec :=
  { d with rest := rest, inRle := false, runRemaining := 0 }

/-- `start_new_run`, in any state between two runs: either a run with at least one value is open and nothing was
lost, or the decoder has nothing more to deliver -/
theorem startNewRunF_spec : ∀ (f : Nat) (d : Dec), d.runRemaining = 0 → d.rest.length < f →
    Outcome (fun d' => 0 < d'.runRemaining) (valuesOf d.width f d.rest) d.status (startNewRunF f d) := by
  intro f
  induction f with
  | zero => intro d _ h; omega
  | succ f ih =>
    intro d h0 hlen
    simp only [startNewRunF, valuesOf]
    by_cases hnil : d.rest.length = 0
    · simp only [hnil, if_true]
      refine ⟨fun h => (by cases h), fun _ => ⟨rfl, ?_, by simp [hasNext, h0, hnil]⟩⟩
      unfold future
      rw [futureU_between h0, allValues, List.eq_nil_of_length_eq_zero hnil]
      exact ite_self _
    · simp only [hnil, if_false]
      cases hrv : Varint.readVarintRle d.rest with
      | none => exact Outcome.failed rfl (fun h => (by cases h))
      | some p =>
        obtain ⟨hd, rest⟩ := p
        have hlt := readVarintRle_rest_lt hrv
        simp only
        by_cases hpar : hd &&& 1 = 0
        · simp only [hpar, if_true]
          by_cases htr : rest.length < valueBytes d.width
          · simp only [htr, if_true]
            exact Outcome.failed rfl (fun h => (by cases h))
          · simp only [htr, if_false]
            by_cases hz : hd >>> 1 = 0
            · simp only [hz, if_true, List.replicate_zero, List.nil_append]
              exact ih (afterEmptyRle d rest) rfl (by simp only [afterEmptyRle, List.length_drop]; omega)
            · simp only [hz, if_false]
              refine Outcome.done (Nat.pos_of_ne_zero hz) ?_ rfl
              simp only [futureU, if_true]
              rw [valuesOf_eq_all _ _ _ (by simp only [List.length_drop]; omega)]
        · simp only [hpar, if_false]
          by_cases hz : (hd >>> 1) * 8 = 0
          · simp only [if_true, hz, packedThen_zero]
            exact ih (afterEmptyPacked d rest) rfl (by show rest.length < f; omega)
          · simp only [hz, if_false]
            refine Outcome.done (Nat.pos_of_ne_zero hz) ?_ rfl
            simp only [futureU, List.length_nil, Nat.sub_zero, List.take_nil, List.nil_append, Bool.false_eq_true,
              if_false]
            exact packedThen_congr _ _ _ _ _ (fun l hl => (valuesOf_eq_all _ _ _ (by omega)).symm)

/-- a state in which the next value can be delivered without reading a header or a group -/
structure Ready (d : Dec) : Prop where
  pos : 0 < d.runRemaining
  buf : d.inRle = false → d.bp ≠ []

theorem fill_spec (d : Dec) (hr : d.inRle = false) (hbp : d.bp = []) (hpos : 0 < d.runRemaining) :
    Outcome Ready (futureU d) d.status (fill d) := by
  have hfut : futureU d = packedThen d.width (allValues d.width) d.runRemaining d.rest := by
    simp [futureU, hr, hbp]
  have hlen := unpack8_length_any d.width d.rest
  rw [hfut, packedThen_pos _ _ hpos]
  unfold fill
  rw [if_neg (Nat.ne_of_gt hpos)]
  by_cases htr : d.rest.length < d.width
  · rw [if_pos htr, if_pos htr]
    exact Outcome.failed rfl (fun h => (by cases h))
  · rw [if_neg htr, if_neg htr]
    refine Outcome.done ⟨hpos, fun _ h => ?_⟩ ?_ rfl
    · rw [show Bitpack.unpack8 d.width d.rest = [] from h] at hlen
      cases hlen
    · simp only [futureU, hr, Bool.false_eq_true, if_false, hlen]

theorem prep_spec (d : Dec) : Outcome Ready (futureU d) d.status (prep d) := by
  have hrun : Outcome (fun d' => 0 < d'.runRemaining) (futureU d) d.status (ensureRun d) := by
    unfold ensureRun
    by_cases h0 : d.runRemaining = 0
    · rw [if_pos h0, futureU_between h0]
      exact startNewRunF_spec _ d h0 (Nat.lt_succ_self _)
    · rw [if_neg h0]
      exact Outcome.done (Nat.pos_of_ne_zero h0) rfl rfl
  unfold prep
  by_cases h1 : (ensureRun d).1 = true
  · rw [if_pos h1]
    obtain ⟨hpos1, hfut1, hs1⟩ := hrun.ok h1
    rw [← hfut1, ← hs1]
    unfold ensureBuf
    by_cases hr : (ensureRun d).2.inRle = true
    · rw [if_pos hr]
      exact Outcome.done ⟨hpos1, fun h => (by rw [hr] at h; cases h)⟩ rfl rfl
    · rw [if_neg hr]
      by_cases hb : (ensureRun d).2.bp.length = 0
      · rw [if_pos hb]
        exact fill_spec _ (by simpa using hr) (List.eq_nil_of_length_eq_zero hb) hpos1
      · rw [if_neg hb]
        exact Outcome.done ⟨hpos1, fun _ h => hb (by rw [h]; rfl)⟩ rfl rfl
  · rw [if_neg h1]
    exact ⟨fun h => (by cases h), fun _ => hrun.fail (by simpa using h1)⟩

theorem chunkLen_le (d : Dec) (want : Nat) : chunkLen d want ≤ want := by
  unfold chunkLen; split <;> exact Nat.min_le_left _ _

theorem chunk_spec (d : Dec) (hr : Ready d) (want : Nat) (hw : 0 < want) :
    0 < chunkLen d want ∧
    chunkVals d want = (futureU d).take (chunkLen d want) ∧
    futureU (chunkDec d want) = (futureU d).drop (chunkLen d want) := by
  obtain ⟨hpos, hbuf⟩ := hr
  by_cases hrle : d.inRle = true
  · have hle : min want d.runRemaining ≤ (List.replicate d.runRemaining d.rleValue).length :=
      List.length_replicate ▸ Nat.min_le_right _ _
    simp only [chunkVals, chunkDec, chunkLen, futureU, if_pos hrle]
    refine ⟨Nat.lt_min.mpr ⟨hw, hpos⟩, ?_, ?_⟩
    · rw [List.take_append_of_le_length hle, List.take_replicate, Nat.min_eq_left (Nat.min_le_right _ _)]
    · rw [List.drop_append_of_le_length hle, List.drop_replicate]
  · have hn1 : min want (min d.bp.length d.runRemaining) ≤ d.bp.length :=
      Nat.le_trans (Nat.min_le_right _ _) (Nat.min_le_left _ _)
    have hn2 : min want (min d.bp.length d.runRemaining) ≤ d.runRemaining :=
      Nat.le_trans (Nat.min_le_right _ _) (Nat.min_le_right _ _)
    have hle : min want (min d.bp.length d.runRemaining) ≤ (d.bp.take d.runRemaining).length := by
      rw [List.length_take]; exact Nat.le_min.mpr ⟨hn2, hn1⟩
    simp only [chunkVals, chunkDec, chunkLen, futureU, if_neg hrle]
    refine ⟨Nat.lt_min.mpr ⟨hw, Nat.lt_min.mpr ⟨List.length_pos_iff.mpr (hbuf (by simpa using hrle)), hpos⟩⟩, ?_, ?_⟩
    · rw [List.take_append_of_le_length hle, List.take_take, Nat.min_eq_left hn2]
    · rw [List.drop_append_of_le_length hle, List.drop_take, List.length_drop,
        Nat.sub_sub_sub_cancel_right hn1]

theorem chunkDec_status (d : Dec) (want : Nat) : (chunkDec d want).status = d.status := by
  unfold chunkDec; split <;> rfl

theorem hasNext_false_future {d : Dec} (h : hasNext d = false) : future d = [] := by
  by_cases hs : d.status = .ok
  · have h0 : d.runRemaining = 0 := by
      simp only [hasNext, hs, ne_eq, not_true_eq_false, if_false] at h
      split at h
      · cases h
      · omega
    have hr : d.rest = [] := by
      simp only [hasNext, hs, ne_eq, not_true_eq_false, if_false, h0, Nat.lt_irrefl] at h
      exact List.eq_nil_of_length_eq_zero (by simpa using h)
    rw [future_ok hs, futureU_between h0, hr]
    simp [allValues, valuesOf]
  · exact future_failed hs

theorem batchLoop_spec : ∀ (fuel : Nat) (d : Dec) (want : Nat), want ≤ fuel →
    (batchLoop fuel d want).1 = (future d).take want ∧
    future (batchLoop fuel d want).2 = (future d).drop want := by
  intro fuel
  induction fuel with
  | zero =>
    intro d want h
    have : want = 0 := by omega
    subst this
    simp [batchLoop]
  | succ f ih =>
    intro d want hle
    simp only [batchLoop]
    by_cases h0 : want = 0
    · subst h0; simp
    rw [if_neg h0]
    by_cases hn : hasNext d = false
    · rw [if_pos hn, hasNext_false_future hn]; simp
    rw [if_neg hn]
    have hs : d.status = .ok := by
      by_cases hs : d.status = .ok
      · exact hs
      · exfalso; apply hn; simp [hasNext, hs]
    obtain ⟨hok, hfail⟩ := prep_spec d
    by_cases hp : (prep d).1 = false
    · rw [if_pos hp]
      obtain ⟨a, b, _⟩ := hfail hp
      rw [future_ok hs, a]; simp [b]
    · rw [if_neg hp]
      have hp' : (prep d).1 = true := by simpa using hp
      obtain ⟨hready, hfut, hst⟩ := hok hp'
      obtain ⟨c1, c3, c5⟩ := chunk_spec (prep d).2 hready want (Nat.pos_of_ne_zero h0)
      have c2 := chunkLen_le (prep d).2 want
      obtain ⟨i1, i3⟩ := ih (chunkDec (prep d).2 want) (want - chunkLen (prep d).2 want) (by omega)
      rw [future_ok (d := chunkDec (prep d).2 want) (by rw [chunkDec_status, hst, hs]), c5, hfut] at i1 i3
      rw [future_ok hs]
      refine ⟨?_, ?_⟩
      · show chunkVals (prep d).2 want ++ (batchLoop f (chunkDec (prep d).2 want) (want - chunkLen (prep d).2 want)).1
            = (futureU d).take want
        rw [i1, c3, hfut]
        have : want = chunkLen (prep d).2 want + (want - chunkLen (prep d).2 want) := by omega
        conv => rhs; rw [this, List.take_add]
      · show future (batchLoop f (chunkDec (prep d).2 want) (want - chunkLen (prep d).2 want)).2
            = (futureU d).drop want
        rw [i3, List.drop_drop]
        congr 1; omega

theorem getBatch_spec (d : Dec) (k : Nat) :
    (getBatch d k).1 = (future d).take k ∧ future (getBatch d k).2 = (future d).drop k :=
  batchLoop_spec k d k (Nat.le_refl _)

theorem chunkVals_length (d : Dec) (want : Nat) : (chunkVals d want).length = chunkLen d want := by
  unfold chunkVals
  split
  · exact List.length_replicate
  · rename_i h
    rw [List.length_take]
    unfold chunkLen
    rw [if_neg h]
    omega

/-- `skip` walks exactly like `get_batch` and only counts -/
theorem skipLoop_eq_batchLoop : ∀ (fuel : Nat) (d : Dec) (want : Nat),
    skipLoop fuel d want = ((batchLoop fuel d want).1.length, (batchLoop fuel d want).2) := by
  intro fuel
  induction fuel with
  | zero => intro d want; rfl
  | succ f ih =>
    intro d want
    simp only [skipLoop, batchLoop]
    split
    · rfl
    · split
      · rfl
      · split
        · rfl
        · rw [ih, List.length_append, chunkVals_length]

theorem skip_spec (d : Dec) (k : Nat) :
    (skip d k).1 = min k (future d).length ∧ future (skip d k).2 = (future d).drop k := by
  unfold skip
  rw [skipLoop_eq_batchLoop k d k]
  obtain ⟨a, c⟩ := batchLoop_spec k d k (Nat.le_refl _)
  exact ⟨by simp [a], c⟩

theorem pop_eq_chunk (d : Dec) (h1 : chunkLen d 1 = 1) : pop d = ((chunkVals d 1).headD 0, chunkDec d 1) := by
  unfold pop chunkVals chunkDec
  rw [h1]
  split
  · rfl
  · cases d.bp <;> rfl

theorem get_spec (d : Dec) :
    (Rle.get d).1 = (future d).headD 0 ∧ future (Rle.get d).2 = (future d).drop 1 := by
  unfold Rle.get
  by_cases hs : d.status = .ok
  · rw [if_neg (not_not_intro hs)]
    obtain ⟨hok, hfail⟩ := prep_spec d
    by_cases hp : (prep d).1 = true
    · obtain ⟨hready, hfut, hst⟩ := hok hp
      obtain ⟨c1, c3, c5⟩ := chunk_spec (prep d).2 hready 1 Nat.one_pos
      have h1 : chunkLen (prep d).2 1 = 1 := Nat.le_antisymm (chunkLen_le _ _) c1
      rw [h1, hfut] at c3 c5
      rw [if_pos hp, pop_eq_chunk _ h1, c3, future_ok hs, future_ok (by rw [chunkDec_status, hst, hs]), c5]
      exact ⟨by cases futureU d <;> rfl, rfl⟩
    · rw [if_neg hp]
      obtain ⟨a, b, _⟩ := hfail (by simpa using hp)
      rw [future_ok hs, a]
      exact ⟨rfl, b⟩
  · rw [if_pos hs, future_failed hs]
    exact ⟨rfl, rfl⟩

/-- **Refinement**: a history of `get` / `get_batch` / `skip` calls on ANY decoder state shows
the caller exactly what the list cursor shows on the state's future. -/
theorem runOps_eq_cursor (ops : List Op) : ∀ (d : Dec), runOps d ops = cursorOps (future d) ops := by
  induction ops with
  | nil => intro d; rfl
  | cons op ops ih =>
    intro d
    cases op with
    | get =>
      obtain ⟨a, c⟩ := get_spec d
      simp only [runOps, step, cursorOps, a, ih, c]
    | getBatch k =>
      obtain ⟨a, c⟩ := getBatch_spec d k
      simp only [runOps, step, cursorOps, a, ih, c]
    | skip k =>
      obtain ⟨a, c⟩ := skip_spec d k
      simp only [runOps, step, cursorOps, a, ih, c]

/-- the one-shot decode is a prefix of everything the bytes denote -/
theorem decodeAll_eq (w : Nat) (hw : w ≤ 32) (bs : List UInt8) (n : Nat) :
    decodeAll w bs n = (allValues w bs).take n := by
  unfold decodeAll
  rw [(getBatch_spec _ n).1, future_init w hw]

/-! ### corollaries: never more values than requested; a successful `prep` leaves a value at hand -/

theorem getBatch_length_le (d : Dec) (count : Nat) : (getBatch d count).1.length ≤ count := by
  rw [getBatch, (batchLoop_spec count d count (Nat.le_refl _)).1, List.length_take]
  exact Nat.min_le_left _ _

theorem prep_progress (d : Dec) (want : Nat) (hw : 0 < want) (h : (prep d).1 = true) :
    0 < chunkLen (prep d).2 want :=
  (chunk_spec _ ((prep_spec d).ok h).1 want hw).1

theorem skipLoop_le (f : Nat) (d : Dec) (want : Nat) (h : want ≤ f) : (skipLoop f d want).1 ≤ want := by
  rw [skipLoop_eq_batchLoop, (batchLoop_spec f d want h).1, List.length_take]
  exact Nat.min_le_left _ _

theorem cursorOps_take (ops : List Op) : ∀ (l : List Nat) (n : Nat), demand ops ≤ n →
    cursorOps (l.take n) ops = cursorOps l ops := by
  induction ops with
  | nil => intro l n _; rfl
  | cons op ops ih =>
    intro l n h
    cases op with
    | get =>
      rw [demand] at h
      obtain ⟨m, rfl⟩ := Nat.exists_eq_add_one_of_ne_zero (n := n) (by omega)
      rw [cursorOps, cursorOps, List.drop_take, ih _ _ (by omega)]
      cases l <;> rfl
    | getBatch k =>
      rw [demand] at h
      rw [cursorOps, cursorOps, List.take_take, Nat.min_eq_left (by omega), List.drop_take, ih _ _ (by omega)]
    | skip k =>
      rw [demand] at h
      rw [cursorOps, cursorOps, List.length_take, List.drop_take, ih _ _ (by omega), ← Nat.min_assoc,
        Nat.min_eq_left (a := k) (by omega)]

/-! ### reachable states -/

/-- The shape of the states the operations leave when started from `Dec.init` at a width up to 32: no group
buffer in an RLE run; in a bit-packed run the buffer holds at most what the run still has to deliver, and the rest
of the run is whole groups.  The refinement above holds for every state and does not use it. -/
structure WF (d : Dec) : Prop where
  wle : d.width ≤ 32
  rle : d.inRle = true → d.bp = []
  packed : d.inRle = false → d.bp.length ≤ d.runRemaining ∧ (d.runRemaining - d.bp.length) % 8 = 0

theorem WF_init (w : Nat) (hw : w ≤ 32) (bs : List UInt8) : WF (Dec.init w bs) :=
  ⟨hw, fun h => by simp [Dec.init] at h, fun _ => by simp [Dec.init]⟩

end Carquet.Proofs.RleDecoder
