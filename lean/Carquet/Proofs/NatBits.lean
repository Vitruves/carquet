import Carquet.Impl.Bitpack
/-
Arithmetic of little-endian byte strings and of shift / mask / or on `Nat`, used by the
bit-packing and RLE proofs.
-/
namespace Carquet.Proofs.NatBits
open Carquet.Impl.Bitpack

theorem shl_eq (a b : Nat) : a <<< b = a * 2 ^ b := Nat.shiftLeft_eq a b
theorem shr_eq (a b : Nat) : a >>> b = a / 2 ^ b := Nat.shiftRight_eq_div_pow a b

theorem and_mask (x w : Nat) : x &&& (2 ^ w - 1) = x % 2 ^ w := Nat.and_two_pow_sub_one_eq_mod x w

theorem one_shl (w : Nat) : 1 <<< w = 2 ^ w := by rw [shl_eq]; simp

theorem or_eq_add (a b i : Nat) (h : b < 2 ^ i) : 2 ^ i * a ||| b = 2 ^ i * a + b :=
  (Nat.two_pow_add_eq_or_of_lt h a).symm

/-- splitting the low `a+b` bits -/
theorem mod_pow_add (x a b : Nat) : x % 2 ^ (a + b) = x % 2 ^ a + 2 ^ a * (x / 2 ^ a % 2 ^ b) := by
  rw [Nat.pow_add, Nat.mod_mul]

theorem or_low_high (x a b : Nat) : x % 2 ^ a ||| ((x >>> a) % 2 ^ b) <<< a = x % 2 ^ (a + b) := by
  rw [mod_pow_add, shl_eq, shr_eq, Nat.or_comm, Nat.mul_comm _ (2 ^ a),
    or_eq_add _ _ _ (Nat.mod_lt _ (Nat.two_pow_pos a)), Nat.add_comm]

theorem or_byte_rest (x s : Nat) : (x % 256) <<< s ||| (x >>> 8) <<< (s + 8) = x <<< s := by
  rw [shl_eq, shl_eq, shl_eq, shr_eq, Nat.or_comm]
  have h1 : x / 2 ^ 8 * 2 ^ (s + 8) = 2 ^ (s + 8) * (x / 256) := by
    rw [Nat.mul_comm]
  have h2 : x % 256 * 2 ^ s < 2 ^ (s + 8) := by
    rw [Nat.pow_add, Nat.mul_comm]
    exact Nat.mul_lt_mul_of_pos_left (Nat.mod_lt _ (by decide)) (Nat.two_pow_pos s)
  rw [h1, or_eq_add _ _ _ h2]
  have h3 : x = 256 * (x / 256) + x % 256 := (Nat.div_add_mod x 256).symm
  conv => rhs; rw [h3]
  rw [Nat.add_mul, Nat.pow_add]
  congr 1
  rw [Nat.mul_comm (2 ^ s) (2 ^ 8), Nat.mul_assoc, Nat.mul_comm (2 ^ s), ← Nat.mul_assoc]

theorem shr_mod_window (x a s w : Nat) (h : s + w ≤ a) :
    ((x % 2 ^ a) >>> s) % 2 ^ w = (x >>> s) % 2 ^ w := by
  apply Nat.eq_of_testBit_eq
  intro i
  simp only [Nat.testBit_mod_two_pow, Nat.testBit_shiftRight]
  by_cases hi : i < w
  · have : s + i < a := by omega
    simp [hi, this]
  · simp [hi]

theorem add_shl_lt {a f s wd : Nat} (ha : a < 2 ^ s) (hf : f < 2 ^ wd) : a + f * 2 ^ s < 2 ^ (s + wd) :=
  calc a + f * 2 ^ s < 2 ^ s + f * 2 ^ s := Nat.add_lt_add_right ha _
    _ = (f + 1) * 2 ^ s := by rw [Nat.add_mul, Nat.one_mul, Nat.add_comm]
    _ ≤ 2 ^ wd * 2 ^ s := Nat.mul_le_mul_right _ hf
    _ = 2 ^ (s + wd) := by rw [Nat.pow_add, Nat.mul_comm]

theorem shr_lt {x a : Nat} (hx : x < 2 ^ a) (m : Nat) : x >>> m < 2 ^ (a - m) := by
  rw [shr_eq, Nat.div_lt_iff_lt_mul (Nat.two_pow_pos m), ← Nat.pow_add]
  exact Nat.lt_of_lt_of_le hx (Nat.pow_le_pow_right (by decide) (Nat.le_add_of_sub_le (Nat.le_refl _)))

theorem shr_shr (x a b : Nat) : (x >>> a) >>> b = x >>> (a + b) := (Nat.shiftRight_add x a b).symm

theorem sub_min (n k : Nat) : n - min k n = n - k := by
  rcases Nat.le_total k n with h | h
  · rw [Nat.min_eq_left h]
  · rw [Nat.min_eq_right h, Nat.sub_self, Nat.sub_eq_zero_of_le h]

theorem sub_min_le {n k l : Nat} (h : n ≤ k + l) : n - min k n ≤ l := by
  rw [sub_min]; exact Nat.sub_le_of_le_add (Nat.add_comm k l ▸ h)

/-! ### little-endian byte strings -/

theorem leBytes_length (n x : Nat) : (leBytes n x).length = n := by
  induction n generalizing x with
  | zero => rfl
  | succ n ih => simp [leBytes, ih]

theorem toNat_ofNat_mod (x : Nat) : (UInt8.ofNat (x % 256)).toNat = x % 256 := by
  simp [UInt8.toNat_ofNat']

theorem ofNat_mod (x : Nat) : UInt8.ofNat (x % 256) = UInt8.ofNat x := by
  apply UInt8.toNat_inj.mp
  simp [UInt8.toNat_ofNat']

theorem leNat_leBytes (n x : Nat) : leNat (leBytes n x) = x % 2 ^ (8 * n) := by
  induction n generalizing x with
  | zero => simp [leBytes, leNat, Nat.mod_one]
  | succ n ih =>
    simp only [leBytes, leNat, ih, toNat_ofNat_mod]
    rw [show 8 * (n + 1) = 8 + 8 * n by omega, mod_pow_add]

/-- the two ways the size of an `n`-byte number is written -/
theorem pow256 (n : Nat) : 2 ^ (8 * n) = 256 ^ n := Nat.pow_mul 2 8 n

theorem leNat_leBytes_of_lt {n x : Nat} (h : x < 256 ^ n) : leNat (leBytes n x) = x := by
  rw [leNat_leBytes, pow256, Nat.mod_eq_of_lt h]

theorem leNat_cons_mod (b : UInt8) (bs : List UInt8) : leNat (b :: bs) % 256 = b.toNat := by
  rw [leNat, Nat.add_mul_mod_self_left, Nat.mod_eq_of_lt b.toNat_lt]

theorem leNat_cons_div (b : UInt8) (bs : List UInt8) : leNat (b :: bs) / 256 = leNat bs := by
  rw [leNat, Nat.add_mul_div_left _ _ (by decide : 0 < 256), Nat.div_eq_of_lt b.toNat_lt, Nat.zero_add]

theorem leNat_lt (bs : List UInt8) : leNat bs < 2 ^ (8 * bs.length) := by
  induction bs with
  | nil => exact Nat.one_pos
  | cons b bs ih =>
    rw [leNat, List.length_cons, Nat.mul_succ, Nat.add_comm _ 8, Nat.mul_comm 256]
    exact add_shl_lt (s := 8) b.toNat_lt ih

theorem leBytes_leNat (bs : List UInt8) : leBytes bs.length (leNat bs) = bs := by
  induction bs with
  | nil => rfl
  | cons b bs ih =>
    rw [List.length_cons, leBytes, leNat_cons_mod, leNat_cons_div, ih]
    simp

theorem leBytes_take (n m x : Nat) (h : m ≤ n) : (leBytes n x).take m = leBytes m x := by
  induction m generalizing n x with
  | zero => simp [leBytes]
  | succ m ih =>
    cases n with
    | zero => omega
    | succ n => simp [leBytes, ih n (x / 256) (by omega)]

theorem leBytes_mod (n x : Nat) : leBytes n (x % 2 ^ (8 * n)) = leBytes n x := by
  induction n generalizing x with
  | zero => rfl
  | succ n ih =>
    simp only [leBytes]
    have e : 8 * (n + 1) = 8 + 8 * n := by omega
    have h8 : (2:Nat) ^ 8 = 256 := by decide
    have h1 : x % 2 ^ (8 * (n + 1)) % 256 = x % 256 := by
      rw [e, Nat.pow_add, h8]
      exact Nat.mod_mul_right_mod x 256 _
    have h2 : x % 2 ^ (8 * (n + 1)) / 256 = (x / 256) % 2 ^ (8 * n) := by
      rw [e, Nat.pow_add, h8, Nat.mod_mul_right_div_self]
    rw [h1, h2, ih]

theorem leNat_append (a b : List UInt8) : leNat (a ++ b) = leNat a + 2 ^ (8 * a.length) * leNat b := by
  induction a with
  | nil => simp [leNat]
  | cons x a ih =>
    simp only [List.cons_append, leNat, ih, List.length_cons]
    rw [show 8 * (a.length + 1) = 8 + 8 * a.length by omega, Nat.pow_add]
    have h8 : (2:Nat) ^ 8 = 256 := by decide
    rw [h8, Nat.mul_add, Nat.mul_assoc]
    omega

theorem leNat_take (bs : List UInt8) (n : Nat) : leNat (bs.take n) = leNat bs % 2 ^ (8 * n) := by
  induction n generalizing bs with
  | zero => simp [leNat, Nat.mod_one]
  | succ n ih =>
    cases bs with
    | nil => simp [leNat]
    | cons b bs =>
      rw [List.take_succ_cons, leNat, ih, Nat.mul_succ, Nat.add_comm _ 8, mod_pow_add]
      show _ = leNat (b :: bs) % 256 + 256 * (leNat (b :: bs) / 256 % 2 ^ (8 * n))
      rw [leNat_cons_mod, leNat_cons_div]

theorem leNat_drop (bs : List UInt8) (n : Nat) : leNat (bs.drop n) = leNat bs >>> (8 * n) := by
  induction n generalizing bs with
  | zero => rfl
  | succ n ih =>
    cases bs with
    | nil => simp [leNat]
    | cons b bs =>
      rw [List.drop_succ_cons, ih, Nat.mul_succ, Nat.add_comm _ 8, ← shr_shr, shr_eq (leNat (b :: bs))]
      exact congrArg (· >>> (8 * n)) (leNat_cons_div b bs).symm

theorem leBytes_append (a b x y : Nat) (hx : x < 2 ^ (8 * a)) :
    leBytes a x ++ leBytes b y = leBytes (a + b) (x + 2 ^ (8 * a) * y) := by
  induction a generalizing x with
  | zero =>
    have : x = 0 := by simpa using hx
    subst this; simp [leBytes]
  | succ a ih =>
    have e : 8 * (a + 1) = 8 + 8 * a := by omega
    have h8 : (2:Nat) ^ 8 = 256 := by decide
    rw [e, Nat.pow_add, h8] at hx
    rw [show a + 1 + b = (a + b) + 1 by omega]
    simp only [leBytes, List.cons_append]
    rw [e, Nat.pow_add, h8]
    have h1 : (x + 256 * 2 ^ (8 * a) * y) % 256 = x % 256 := by
      rw [Nat.mul_assoc, Nat.add_mul_mod_self_left]
    have h2 : (x + 256 * 2 ^ (8 * a) * y) / 256 = x / 256 + 2 ^ (8 * a) * y := by
      rw [Nat.mul_assoc, Nat.add_mul_div_left _ _ (by decide : 0 < 256)]
    rw [h1, h2, ih (x / 256) (by omega)]

/-- `input[k]` in the integer view -/
theorem byteAt_eq (inp : List UInt8) (k : Nat) : byteAt inp k = (leNat inp >>> (8 * k)) % 256 := by
  unfold byteAt
  rw [← leNat_drop]
  induction k generalizing inp with
  | zero =>
    cases inp with
    | nil => rfl
    | cons b bs => exact (leNat_cons_mod b bs).symm
  | succ k ih =>
    cases inp with
    | nil => simp [leNat]
    | cons b bs => simpa using ih bs

end Carquet.Proofs.NatBits
