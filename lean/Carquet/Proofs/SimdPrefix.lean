import Carquet.Impl.Simd
import Carquet.Proofs.SimdBlocked
/-
C15 helper lemmas: the SSE / AVX2 / AVX-512 prefix-sum block steps equal the scalar loop on every block (all inputs, all
carries).  Each block step is a doubling ladder (Hillis–Steele): `log2 W` steps "add the register moved up by 1, 2, 4, …
lanes", then the carry added to every lane.  `Ladder` is the invariant of the ladder, `ladder_step` one step,
`ladder_done` the end; the AVX-512 kernels move lanes with `_mm512_maskz_alignr` (`maskzAlignr_zeros`), the AVX2 kernels
run two ladders side by side in the 128-bit halves and add the last lane of the low half to the high half
(`ladder_halves`).  A block lemma is then the kernel read off: which shifts, how many, at which width.
-/
namespace Carquet.Proofs.SimdPrefix
open Carquet Carquet.Impl.Simd Carquet.Proofs.SimdBlocked

theorem prefixSum_eq_scan {w : Nat} (xs : List (BitVec w)) :
    ∀ init, Spec.Kernels.prefixSum init xs = (scalarScan psStep init xs).1 := by
  induction xs with
  | nil => intro; rfl
  | cons x xs ih => intro init; simp [Spec.Kernels.prefixSum, scalarScan, psStep, ih]

variable {w : Nat}

/-! ### lane-wise addition and the lane shift -/

/-- `v` moved up by `k` lanes, zeros shifted in, *not* cut back to the register width: `addLanes` against a register does
the cutting (`addLanes_slli`), so the algebra below never mentions `take`.  Writing `S` for `up 1`, the registers of one
width are a module over the polynomials in `S`: `up_addLanes` (`S ^ k` is additive), `up_up`, and `S ^ m` vanishes on a
register of at most `m` lanes (`addLanes_up_of_le`). -/
def up (k : Nat) (v : List (BitVec w)) : List (BitVec w) := List.replicate k 0#w ++ v

theorem addLanes_assoc : ∀ a b c : List (BitVec w), addLanes (addLanes a b) c = addLanes a (addLanes b c)
  | [], _, _ => rfl
  | _ :: _, [], _ => rfl
  | _ :: _, _ :: _, [] => rfl
  | x :: a, y :: b, z :: c => List.cons_eq_cons.mpr ⟨BitVec.add_assoc x y z, addLanes_assoc a b c⟩

theorem addLanes_take (a l : List (BitVec w)) : addLanes a (l.take a.length) = addLanes a l := by
  have := List.take_zipWith (f := (· + ·)) (l := a) (l' := l) (i := a.length)
  rw [List.take_of_length_le (Nat.le_refl _), List.take_of_length_le (by rw [List.length_zipWith]; omega)] at this
  exact this.symm

theorem addLanes_slli (k : Nat) (v : List (BitVec w)) : addLanes v (slliSi128 k v) = addLanes v (up k v) :=
  addLanes_take v _

theorem up_addLanes (a b : List (BitVec w)) : ∀ k, up k (addLanes a b) = addLanes (up k a) (up k b)
  | 0 => rfl
  | k + 1 => List.cons_eq_cons.mpr ⟨(BitVec.add_zero _).symm, up_addLanes a b k⟩

theorem up_up (j k : Nat) (v : List (BitVec w)) : up j (up k v) = up (j + k) v := by
  rw [up, up, ← List.append_assoc, List.replicate_append_replicate]; rfl

theorem addLanes_up_of_le (v : List (BitVec w)) : ∀ (u : List (BitVec w)) (m : Nat), u.length ≤ m → addLanes u (up m v) = u
  | [], _, _ => rfl
  | x :: u, m + 1, h => List.cons_eq_cons.mpr ⟨BitVec.add_zero x, addLanes_up_of_le v u m (Nat.le_of_succ_le_succ h)⟩

/-! ### the ladder -/

/-- The state `u` of a ladder over the block `v` whose next shift is by `m` lanes: `(1 - S) u = (1 - S ^ m) v`, said
without subtraction.  So `u = (1 + S + … + S ^ (m - 1)) v`: lane `i` of `u` is the sum of the `m` lanes of `v` ending at
lane `i`.  A step `u + S ^ m u` doubles `m` because `(1 - S ^ m) (1 + S ^ m) = 1 - S ^ (2 m)` (`ladder_step`); once `m`
reaches the register width `S ^ m v` has left the register and `u = v + S u`, the recurrence of the scalar loop
(`scan_of_rec`). -/
def Ladder (v : List (BitVec w)) (m : Nat) (u : List (BitVec w)) : Prop :=
  u.length = v.length ∧ addLanes u (up m v) = addLanes v (up 1 u)

theorem ladder_one (v : List (BitVec w)) : Ladder v 1 v := ⟨rfl, rfl⟩

theorem ladder_step {v u s : List (BitVec w)} {m : Nat} (h : Ladder v m u) (hs : s = slliSi128 m u) :
    Ladder v (m + m) (addLanes u s) := by
  subst hs
  refine ⟨by rw [addLanes, List.length_zipWith, slliSi128, List.length_take, List.length_append, ← h.1]; omega, ?_⟩
  -- (u + Sᵐu) + S²ᵐv = u + Sᵐ(u + Sᵐv) = u + Sᵐ(v + Su) = (u + Sᵐv) + Sᵐ⁺¹u = (v + Su) + S¹⁺ᵐu = v + S(u + Sᵐu)
  rw [addLanes_slli, addLanes_assoc, ← up_up, ← up_addLanes, h.2, up_addLanes, ← addLanes_assoc, h.2, up_up, Nat.add_comm,
    addLanes_assoc, ← up_up 1 m, ← up_addLanes]

/-! ### the end of a ladder: the scalar loop -/

/-- `u = v + S u` (with `d` entering lane 0) is the recurrence of the scalar loop; `c` is added to every lane afterwards -/
theorem scan_of_rec : ∀ (v u : List (BitVec w)) (d c : BitVec w), u = addLanes v (d :: u) →
    addLanes u (set1 v.length c) = (scalarScan psStep (d + c) v).1
  | [], _, _, _, h => by rw [h]; rfl
  | x :: xs, [], _, _, h => nomatch h
  | x :: xs, y :: ys, d, c, h => by
    obtain ⟨hy, hys⟩ := List.cons.inj h
    have e : y + c = d + c + x := by rw [hy]; ac_rfl
    exact List.cons_eq_cons.mpr ⟨e, (scan_of_rec xs ys y c hys).trans (by rw [e]; rfl)⟩

/-- the carry the scalar loop hands on is its last output -/
theorem scan_carry (step : BitVec w → BitVec w → BitVec w × BitVec w) (hs : ∀ c x, (step c x).2 = (step c x).1) :
    ∀ (v : List (BitVec w)) (c : BitVec w) (n : Nat), v.length = n + 1 →
      (scalarScan step c v).2 = lane (scalarScan step c v).1 n
  | [x], c, 0, _ => hs c x
  | _ :: y :: ys, _, n + 1, h => scan_carry step hs (y :: ys) _ n (Nat.succ.inj h)

theorem lane_addLanes : ∀ (a b : List (BitVec w)) (i : Nat), a.length = b.length →
    lane (addLanes a b) i = lane a i + lane b i
  | [], [], _, _ => (BitVec.add_zero _).symm
  | _ :: _, _ :: _, 0, _ => rfl
  | _ :: a, _ :: b, i + 1, h => lane_addLanes a b i (Nat.succ.inj h)

theorem lane_set1 (n : Nat) (c : BitVec w) (i : Nat) (hi : i < n) : lane (set1 n c) i = c := by
  rw [lane, set1, List.getD_eq_getElem?_getD, List.getElem?_replicate, if_pos hi]; rfl

theorem scan_pair {v X : List (BitVec w)} {c : BitVec w} (hX : X = (scalarScan psStep c v).1) (n : Nat) (hn : v.length = n + 1) :
    (X, lane X n) = scalarScan psStep c v := by
  rw [hX, ← scan_carry psStep (fun _ _ => rfl) v c n hn]

theorem ladder_done {v u : List (BitVec w)} {m : Nat} (h : Ladder v m u) (n : Nat) (hn : v.length = n + 1) (hm : n < m)
    (c : BitVec w) : (addLanes u (set1 (n + 1) c), lane (addLanes u (set1 (n + 1) c)) n) = scalarScan psStep c v := by
  have hu : u = addLanes v (0#w :: u) := by
    have := h.2
    rwa [addLanes_up_of_le v u m (by rw [h.1, hn]; omega)] at this
  have := scan_of_rec v u 0#w c hu
  rw [BitVec.zero_add, hn] at this
  exact scan_pair this n hn

/-! ### AVX-512: lanes moved by `_mm512_maskz_alignr` -/

/-- a mask that is clear only on lanes that hold zero selects every lane -/
theorem sel_shifted : ∀ (ys : List (BitVec w)) (k : Nat),
    List.zipWith (fun (m : Bool) (x : BitVec w) => if m then x else 0#w)
      (List.replicate k false ++ List.replicate ys.length true) (List.replicate k 0#w ++ ys) =
    List.replicate k 0#w ++ ys
  | [], 0 => rfl
  | y :: ys, 0 => congrArg (y :: ·) (sel_shifted ys 0)
  | ys, k + 1 => congrArg (0#w :: ·) (sel_shifted ys k)

/-- an `alignr` of the register over zeros whose mask clears exactly the lanes shifted in is the lane shift -/
theorem maskzAlignr_zeros (mask k n : Nat) (v : List (BitVec w)) (hn : v.length = n) (hk : k ≤ n)
    (hm : maskBits mask n = List.replicate k false ++ List.replicate (n - k) true) :
    maskzAlignr mask v (set1 n 0#w) (n - k) = slliSi128 k v := by
  subst hn
  have e : ((set1 v.length 0#w ++ v).drop (v.length - k)).take v.length = List.replicate k 0#w ++ v.take (v.length - k) := by
    rw [set1, List.drop_append_of_le_length (by rw [List.length_replicate]; omega), List.drop_replicate,
      List.take_append, List.take_replicate, List.length_replicate]
    congr 2 <;> omega
  have := sel_shifted (v.take (v.length - k)) k
  rw [List.length_take, Nat.min_eq_left (Nat.sub_le _ _)] at this
  rw [maskzAlignr, hm, e, this, slliSi128, List.take_append, List.take_replicate, List.length_replicate]
  congr 2; omega

theorem ladder_alignr {v u : List (BitVec w)} {m : Nat} (h : Ladder v m u) (mask n : Nat) (hn : v.length = n) (hk : m ≤ n)
    (hm : maskBits mask n = List.replicate m false ++ List.replicate (n - m) true) :
    Ladder v (m + m) (addLanes u (maskzAlignr mask u (set1 n 0#w) (n - m))) :=
  ladder_step h (maskzAlignr_zeros mask m n u (h.1.trans hn) hk hm)

/-! ### the SSE and AVX-512 blocks -/

theorem sse_i32_block (c : BitVec 32) (b : List (BitVec 32)) (h : b.length = 4) :
    ssePrefixSumI32Blk c b = scalarScan psStep c b :=
  ladder_done (ladder_step (ladder_step (ladder_one b) rfl) rfl) 3 h (by decide) c

theorem sse_i64_block (c : BitVec 64) (b : List (BitVec 64)) (h : b.length = 2) :
    ssePrefixSumI64Blk c b = scalarScan psStep c b :=
  ladder_done (ladder_step (ladder_one b) rfl) 1 h (by decide) c

theorem avx512_i64_block (c : BitVec 64) (b : List (BitVec 64)) (h : b.length = 8) :
    avx512PrefixSumI64Blk c b = scalarScan psStep c b :=
  ladder_done (ladder_alignr (ladder_alignr (ladder_alignr (ladder_one b) 0xFE 8 h (by decide) rfl)
    0xFC 8 h (by decide) rfl) 0xF0 8 h (by decide) rfl) 7 h (by decide) c

theorem avx512_i32_block (c : BitVec 32) (b : List (BitVec 32)) (h : b.length = 16) :
    avx512PrefixSumI32Blk c b = scalarScan psStep c b :=
  ladder_done (ladder_alignr (ladder_alignr (ladder_alignr (ladder_alignr (ladder_one b) 0xFFFE 16 h (by decide) rfl)
    0xFFFC 16 h (by decide) rfl) 0xFFF0 16 h (by decide) rfl) 0xFF00 16 h (by decide) rfl) 15 h (by decide) c

/-! ### AVX2: a ladder in each 128-bit half -/

/-- two ladders side by side (the 128-bit halves of an AVX2 register), the last lane of the low one added to the high one -/
theorem ladder_halves {l r L R : List (BitVec w)} {m : Nat} (hl : Ladder l m L) (hr : Ladder r m R) (n : Nat)
    (hln : l.length = n + 1) (hrn : r.length = n + 1) (hm : n < m) (c x : BitVec w) (hx : x = lane L n) :
    addLanes (L ++ addLanes R (set1 (n + 1) x)) (set1 (n + 1 + (n + 1)) c) = (scalarScan psStep c (l ++ r)).1 := by
  have hL := ladder_done hl n hln hm c
  have hc : (scalarScan psStep c l).2 = x + c := by
    rw [← hL, hx, lane_addLanes _ _ _ (by rw [hl.1, hln]; exact (List.length_replicate ..).symm),
      lane_set1 _ _ _ (Nat.lt_succ_self n)]
  have hR := ladder_done hr n hrn hm (x + c)
  rw [scalarScan_append, hc, ← hL, ← hR]
  show List.zipWith _ _ (List.replicate _ c) = _
  rw [← List.replicate_append_replicate, List.zipWith_append (by rw [hl.1, hln, List.length_replicate])]
  show addLanes L _ ++ addLanes (addLanes R _) _ = _
  rw [addLanes_assoc R]
  show _ ++ addLanes R (List.zipWith _ (List.replicate _ x) (List.replicate _ c)) = _
  rw [List.zipWith_replicate, Nat.min_self]; rfl

/-- `_mm256_slli_si256` shifts inside each half: one step of both ladders -/
theorem split_step (h k : Nat) (L R : List (BitVec w)) (hL : L.length = h) :
    addLanes (L ++ R) (slliSi256 h k (L ++ R)) = addLanes L (slliSi128 k L) ++ addLanes R (slliSi128 k R) := by
  rw [slliSi256, List.take_left' hL, List.drop_left' hL]
  exact List.zipWith_append (by rw [slliSi128, List.length_take, List.length_append]; omega)

theorem lane_srli (k : Nat) (v : List (BitVec w)) (i : Nat) : lane (srliSi128 k v) i = lane v (k + i) := by
  rw [lane, lane, srliSi128, List.getD_eq_getElem?_getD, List.getD_eq_getElem?_getD, ← List.getElem?_drop]
  by_cases hi : i < (v.drop k).length
  · rw [List.getElem?_append_left hi]
  · rw [List.getElem?_append_right (by omega), List.getElem?_replicate, List.getElem?_eq_none (by omega)]
    split <;> rfl

theorem avx2_i32_block (c : BitVec 32) (b : List (BitVec 32)) (h : b.length = 8) :
    avx2PrefixSumI32Blk c b = scalarScan psStep c b := by
  obtain ⟨l, r, hl, hr, rfl⟩ := list_halves 4 b h
  have l1 := ladder_step (ladder_one l) rfl
  have l2 := ladder_step l1 rfl
  have r2 := ladder_step (ladder_step (ladder_one r) rfl) rfl
  simp only [avx2PrefixSumI32Blk, split_step 4 _ _ _ hl, split_step 4 _ _ _ (l1.1.trans hl), extractLo, extractHi, insertHi,
    List.take_left' (l2.1.trans hl), List.drop_left' (l2.1.trans hl)]
  exact scan_pair (ladder_halves l2 r2 3 hl hr (by decide) c _ rfl) 7 h

theorem avx2_i64_block (c : BitVec 64) (b : List (BitVec 64)) (h : b.length = 4) :
    avx2PrefixSumI64Blk c b = scalarScan psStep c b := by
  obtain ⟨l, r, hl, hr, rfl⟩ := list_halves 2 b h
  have l1 := ladder_step (ladder_one l) rfl
  have r1 := ladder_step (ladder_one r) rfl
  simp only [avx2PrefixSumI64Blk, split_step 2 _ _ _ hl, extractLo, extractHi, insertHi,
    List.take_left' (l1.1.trans hl), List.drop_left' (l1.1.trans hl), lane_srli]
  exact scan_pair (ladder_halves l1 r1 1 hl hr (by decide) c _ rfl) 3 h

end Carquet.Proofs.SimdPrefix
