import Carquet.Proofs.ReaderBounds
import Carquet.Proofs.ThriftSafe
/-
Progress of page iteration (helper lemmas for C04_steps_linear): a page header that parses
occupies at least one byte, so every successful page load moves the page offset forward, and a
load succeeds only at an offset with at least 8 bytes of file behind it.
-/
namespace Carquet.Proofs.ReaderSteps
open Carquet.Impl Carquet.Impl.Reader Carquet.Impl.Thrift Carquet.Impl.ThriftParquet
open Carquet.Proofs.ReaderBounds

/-- a `read_field_begin` that ends without error has consumed a byte (the stop byte, when it says "no more fields") -/
theorem readFieldBegin_stop (d : Dec) (hs : (readFieldBegin d).dec.status = none) : 1 ≤ (readFieldBegin d).dec.pos := by
  obtain ⟨pre, hr, hp⟩ := (Proofs.ThriftSafe.fwd_readFieldBegin.adv d).rest
  have := Proofs.ThriftSafe.fwd_readFieldBegin.prog d _ rfl hs
  rw [hr, List.length_append] at this
  omega

/-- When a top-level parse loop ends without an early return and without a decoder error, its last
step consumed the struct's stop byte: the position is at least 1. -/
theorem fieldLoop_pos {σ : Type} (body : Nat → Int → Dec → Top σ → Top σ × Dec) :
    ∀ (f : Nat) (d : Dec) (s : Top σ),
      (fieldLoop (fun s => s.abort.isSome) body f d s).1.abort = none →
      (fieldLoop (fun s => s.abort.isSome) body f d s).2.status = none →
      1 ≤ (fieldLoop (fun s => s.abort.isSome) body f d s).2.pos := by
  intro f
  induction f with
  | zero =>
    intro d s _ h2
    exact absurd h2 (Proofs.Thrift.setError_status_ne d .fuel)
  | succ f ih =>
    intro d s h1 h2
    cases hm : (readFieldBegin d).more
    · rw [Proofs.Thrift.fieldLoop_end _ _ _ _ _ hm] at h2 ⊢
      exact readFieldBegin_stop d h2
    · rw [Proofs.Thrift.fieldLoop_iter _ _ _ _ _ hm] at h1 h2 ⊢
      cases hs : (body (readFieldBegin d).ty (readFieldBegin d).fid (readFieldBegin d).dec s).1.abort.isSome
      · simp only [hs, Bool.false_eq_true, if_false] at h1 h2 ⊢
        exact ih _ _ h1 h2
      · simp only [hs, if_true] at h1
        rw [h1] at hs; simp at hs

theorem topParse_consumed_pos {α : Type} (body : Nat → Int → Dec → Top α → Top α × Dec) (init : α) (data : List UInt8)
    (h : (topParse body init data).status = none) : 1 ≤ (topParse body init data).consumed := by
  unfold topParse topFinish at h ⊢
  split at h
  · cases h
  · rename_i hab
    simp only [hab]
    apply fieldLoop_pos body _ _ _ hab
    simpa [structEnd] using h

theorem parsePageHeaderC_size (w : List UInt8) (r : ThriftParquetReq.PageHdr × Nat)
    (h : ThriftParquetReq.parsePageHeaderC w = .ok r) : 1 ≤ r.2 := by
  unfold ThriftParquetReq.parsePageHeaderC at h
  split at h
  · cases h
  · rename_i hst
    simp only [Except.ok.injEq] at h
    rw [← h]
    exact topParse_consumed_pos _ _ _ hst

/-! ### dictionaries are loaded at most once -/

/-- nothing left to do about dictionaries: the explicit dictionary step is done (no
`dictionary_page_offset`, or the dictionary is loaded) and the inline one (F52s) cannot trigger any
more (a dictionary is loaded, or a page has been stepped over) -/
def Settled (c : Col) (st : PState) : Prop :=
  (c.cm.dictionaryPageOffset = none ∨ st.dict.isSome = true) ∧ (st.dict.isSome = true ∨ 0 < st.currentPage)

theorem dictStep_settled (fx : Fixes) (L : Libs) (verify : Bool) (mode : Mode) (b : Reader.Bytes) (c : Col) (st : PState)
    (h : c.cm.dictionaryPageOffset = none ∨ st.dict.isSome = true) : dictStep fx L verify mode b c st = Load.pure (.ok st) := by
  unfold dictStep
  rcases h with h | h
  · rw [h]
  · split
    · rfl
    · rw [if_pos h]

theorem inlineDictDue_settled (st : PState) (hd : ThriftParquetReq.PageHdr) (h : st.dict.isSome = true ∨ 0 < st.currentPage) :
    inlineDictDue st hd = false := by
  unfold inlineDictDue
  rcases h with h | h
  · cases hdict : st.dict with
    | none => rw [hdict] at h; cases h
    | some d => simp
  · have : ¬ st.currentPage = 0 := by omega
    simp [this]

theorem loadPage_of_header (fx : Fixes) (L : Libs) (verify : Bool) (mode : Mode) (b : Reader.Bytes) (c : Col) (st : PState)
    (hr : ThriftParquetReq.PageHdr × Nat) (hd : c.cm.dictionaryPageOffset = none ∨ st.dict.isSome = true)
    (hh : (loadHeader mode b (st.dataStart + st.currentPage)).result = .ok hr) (hdue : inlineDictDue st hr.1 = false) :
    (loadPage fx L verify mode b c st).result = (finishDataPage fx L verify mode b c st hr).result ∧
    stateAfterLoad fx L verify mode b c st = st := by
  have hds := dictStep_settled fx L verify mode b c st hd
  have hprep : (prepStage fx L verify mode b c st).result = .ok (st, hr) := by
    unfold prepStage
    rw [andThen_result, hh]
    simp only [hdue, Bool.false_eq_true, if_false, Load.pure]
  constructor
  · unfold loadPage
    rw [andThen_result, hds]
    exact loadDataPage_of_prep fx L verify mode b c st _ hprep
  · unfold stateAfterLoad
    rw [hds]
    simp only [Load.pure, stateAfterPrep, hh, hdue, Bool.false_eq_true, if_false]

theorem dictStep_ok {fx : Fixes} {L : Libs} {verify : Bool} {mode : Mode} {b : Reader.Bytes} {c : Col} {st st' : PState}
    (h : (dictStep fx L verify mode b c st).result = .ok st') :
    (c.cm.dictionaryPageOffset = none ∨ st'.dict.isSome = true) ∧ st'.currentPage = st.currentPage ∧
    st'.valuesRemaining = st.valuesRemaining ∧ (st.dict.isSome = true → st'.dict.isSome = true) := by
  unfold dictStep at h
  split at h
  · rename_i hnone
    cases h; exact ⟨Or.inl hnone, rfl, rfl, id⟩
  · split at h
    · rename_i hsome
      cases h; exact ⟨Or.inr hsome, rfl, rfl, id⟩
    · obtain ⟨dl, _, hk⟩ := andThen_ok _ _ _ h
      cases hk
      exact ⟨Or.inr rfl, rfl, rfl, fun _ => rfl⟩

theorem prepStage_ok {fx : Fixes} {L : Libs} {verify : Bool} {mode : Mode} {b : Reader.Bytes} {c : Col} {st : PState}
    {sh : PState × (ThriftParquetReq.PageHdr × Nat)} (h : (prepStage fx L verify mode b c st).result = .ok sh) :
    stateAfterPrep fx L verify mode b c st = sh.1 ∧ sh.1.currentPage = st.currentPage ∧
    sh.1.valuesRemaining = st.valuesRemaining ∧
    (st.dict.isSome = true → sh.1.dict.isSome = true) ∧
    (loadHeader mode b (sh.1.dataStart + sh.1.currentPage)).result = .ok sh.2 := by
  unfold prepStage at h
  obtain ⟨hr, hh, hk⟩ := andThen_ok _ _ _ h
  unfold stateAfterPrep
  rw [hh]
  by_cases hdue : inlineDictDue st hr.1 = true
  · rw [if_pos hdue] at hk
    obtain ⟨dl, hd, hk⟩ := andThen_ok _ _ _ hk
    obtain ⟨hr2, hh2, hk⟩ := andThen_ok _ _ _ hk
    cases hk
    have hcp : st.currentPage = 0 := by
      simp only [inlineDictDue, Bool.and_eq_true, decide_eq_true_eq] at hdue
      exact hdue.2
    refine ⟨by simp only [if_pos hdue, hd], rfl, rfl, fun _ => rfl, ?_⟩
    simp only [hcp, Int.add_zero]
    exact hh2
  · rw [if_neg hdue] at hk
    cases hk
    exact ⟨by simp only [if_neg hdue], rfl, rfl, id, hh⟩

theorem finishDataPage_ok {fx : Fixes} {L : Libs} {verify : Bool} {mode : Mode} {b : Reader.Bytes} {c : Col} {st : PState}
    {hr : ThriftParquetReq.PageHdr × Nat} {p : PageLoaded} (h : (finishDataPage fx L verify mode b c st hr).result = .ok p) :
    p.headerSize = hr.2 := (finishDataPage_ok_inv h).2.1

theorem loadPage_ok {fx : Fixes} {L : Libs} {verify : Bool} {mode : Mode} {b : Reader.Bytes} {c : Col} {st : PState} {p : PageLoaded}
    (h : (loadPage fx L verify mode b c st).result = .ok p) :
    (c.cm.dictionaryPageOffset = none ∨ (stateAfterLoad fx L verify mode b c st).dict.isSome = true) ∧
    (stateAfterLoad fx L verify mode b c st).currentPage = st.currentPage ∧
    (st.dict.isSome = true → (stateAfterLoad fx L verify mode b c st).dict.isSome = true) ∧
    0 ≤ (stateAfterLoad fx L verify mode b c st).dataStart + st.currentPage ∧
    ((stateAfterLoad fx L verify mode b c st).dataStart + st.currentPage).toNat + 8 ≤ b.length ∧
    1 ≤ p.headerSize := by
  unfold loadPage at h
  obtain ⟨st1, hst1, hk⟩ := andThen_ok _ _ _ h
  have hs := dictStep_ok hst1
  unfold loadDataPage at hk
  obtain ⟨sh, hsh, hfin⟩ := andThen_ok _ _ _ hk
  have hp := prepStage_ok hsh
  have hstate : stateAfterLoad fx L verify mode b c st = sh.1 := by
    unfold stateAfterLoad; rw [hst1]; exact hp.1
  have hhdr := loadHeader_ok mode b _ sh.2 hp.2.2.2.2
  obtain ⟨W, hW⟩ := hhdr.2.2
  have hsz := parsePageHeaderC_size _ sh.2 hW
  have hfo := finishDataPage_ok hfin
  rw [hstate]
  have hcp : sh.1.currentPage = st.currentPage := by rw [hp.2.1, hs.2.1]
  refine ⟨?_, hcp, ?_, ?_, ?_, by omega⟩
  · rcases hs.1 with h1 | h1
    · exact Or.inl h1
    · exact Or.inr (hp.2.2.2.1 h1)
  · exact fun hsome => hp.2.2.2.1 (hs.2.2.2 hsome)
  · rw [← hcp]; exact hhdr.1
  · rw [← hcp]; exact hhdr.2.1

theorem stateAfterLoad_settled (fx : Fixes) (L : Libs) (verify : Bool) (mode : Mode) (b : Reader.Bytes) (c : Col) (st : PState)
    (h : Settled c st) : stateAfterLoad fx L verify mode b c st = st := by
  unfold stateAfterLoad
  rw [dictStep_settled fx L verify mode b c st h.1]
  simp only [Load.pure]
  unfold stateAfterPrep
  split
  · rfl
  · rw [inlineDictDue_settled st _ h.2]; rfl

/-! ### offsets of successful loads increase -/

def nextOff (k : Cursor) : Int := k.pre.dataStart + k.pre.currentPage

theorem pre_nextCursor_ok {fx : Fixes} {L : Libs} {verify : Bool} {mode : Mode} {b : Reader.Bytes} {c : Col} {k : Cursor} {p : PageLoaded}
    (h : (loadPage fx L verify mode b c k.pre).result = .ok p) :
    (nextCursor fx L verify mode b c k).pre = stepOver (stateAfterLoad fx L verify mode b c k.pre) p := by
  show Cursor.pre ⟨_, okPage (loadPage fx L verify mode b c k.pre).result⟩ = _
  rw [h]; rfl

theorem pre_nextCursor_err {fx : Fixes} {L : Libs} {verify : Bool} {mode : Mode} {b : Reader.Bytes} {c : Col} {k : Cursor} {e : Reader.Err}
    (h : (loadPage fx L verify mode b c k.pre).result = .error e) :
    (nextCursor fx L verify mode b c k).pre = stateAfterLoad fx L verify mode b c k.pre := by
  show Cursor.pre ⟨_, okPage (loadPage fx L verify mode b c k.pre).result⟩ = _
  rw [h]; rfl

theorem stateAfterLoad_currentPage (fx : Fixes) (L : Libs) (verify : Bool) (mode : Mode) (b : Reader.Bytes) (c : Col) (st : PState) :
    (stateAfterLoad fx L verify mode b c st).currentPage = st.currentPage := by
  unfold stateAfterLoad
  cases hd : (dictStep fx L verify mode b c st).result with
  | error e => rfl
  | ok st1 =>
    simp only
    rw [← (dictStep_ok hd).2.1]
    unfold stateAfterPrep
    split
    · rfl
    · split
      · split <;> rfl
      · rfl

theorem okOffsets_increasing (fx : Fixes) (L : Libs) (verify : Bool) (mode : Mode) (b : Reader.Bytes) (c : Col) :
    ∀ (n : Nat) (k : Cursor), 0 ≤ k.pre.currentPage ∨ Settled c k.pre →
      (∀ o ∈ okOffsets fx L verify mode b c n k, (Settled c k.pre → nextOff k ≤ o) ∧ 0 ≤ o ∧ o.toNat + 8 ≤ b.length) ∧
      (okOffsets fx L verify mode b c n k).Pairwise (· < ·) := by
  intro n
  induction n with
  | zero => intro k _; exact ⟨(fun o h => by cases h), List.Pairwise.nil⟩
  | succ n ih =>
    intro k hk
    have hsd := stateAfterLoad_settled fx L verify mode b c k.pre
    unfold okOffsets
    cases hl : (loadPage fx L verify mode b c k.pre).result with
    | error e =>
      -- a failed attempt leaves `current_page`, and a settled state, as they are
      simp only
      have hpre := pre_nextCursor_err hl
      have := ih (nextCursor fx L verify mode b c k) (by
        rw [hpre]
        exact hk.imp (fun h => by rw [stateAfterLoad_currentPage]; exact h) (fun h => by rw [hsd h]; exact h))
      refine ⟨fun o ho => ⟨fun hs => ?_, (this.1 o ho).2⟩, this.2⟩
      rw [hsd hs] at hpre
      have h1 := (this.1 o ho).1 (by rw [hpre]; exact hs)
      unfold nextOff at h1 ⊢
      rwa [hpre] at h1
    | ok p =>
      -- a successful load settles the state and steps over at least the header's byte
      simp only
      obtain ⟨hd, hcp, hdict, h0, h8, hhs⟩ := loadPage_ok hl
      have hpre := pre_nextCursor_ok hl
      have hs' : Settled c (nextCursor fx L verify mode b c k).pre := by
        rw [hpre]
        refine ⟨hd, ?_⟩
        rcases hk with h | h
        · right; unfold stepOver; simp only; omega
        · exact h.2.imp hdict (fun h => by unfold stepOver; simp only; omega)
      have hnext : nextOff (nextCursor fx L verify mode b c k) =
          pageOffset fx L verify mode b c k + p.headerSize + p.compressedSize := by
        unfold nextOff pageOffset; rw [hpre]; unfold stepOver; simp only; omega
      have tail := ih _ (Or.inr hs')
      refine ⟨fun o ho => ?_, List.Pairwise.cons (fun o ho => by have := (tail.1 o ho).1 hs'; omega) tail.2⟩
      have hhead : Settled c k.pre → nextOff k ≤ pageOffset fx L verify mode b c k := fun hs => by
        unfold pageOffset nextOff; rw [hsd hs]; exact Int.le_refl _
      rcases List.mem_cons.mp ho with rfl | h
      · exact ⟨hhead, h0, h8⟩
      · exact ⟨fun hs => by have := (tail.1 o h).1 hs'; have := hhead hs; omega, (tail.1 o h).2⟩

theorem increasing_length : ∀ (l : List Int) (lo hi : Int), l.Pairwise (· < ·) → (∀ o ∈ l, lo ≤ o ∧ o < hi) →
    (l.length : Int) ≤ max (hi - lo) 0 := by
  intro l
  induction l with
  | nil => intro lo hi _ _; simp; omega
  | cons a t ih =>
    intro lo hi hp hb
    have ha := hb a (List.mem_cons_self)
    have hp' := List.pairwise_cons.mp hp
    have := ih (a + 1) hi hp'.2 (by
      intro o ho
      have h1 := hp'.1 o ho
      have h2 := hb o (List.mem_cons_of_mem _ ho)
      omega)
    simp only [List.length_cons]
    omega

end Carquet.Proofs.ReaderSteps
