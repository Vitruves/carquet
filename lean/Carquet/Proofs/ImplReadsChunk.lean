import Carquet.Proofs.ImplReadsPages
import Carquet.Proofs.ImplReadsValues
import Carquet.Proofs.ImplReadsCodec
import Carquet.Proofs.ImplReadsHeader
import Carquet.Proofs.SpecFileWholeFull
import Carquet.Proofs.RoundtripChunk
import Carquet.Proofs.Crc32Damage
import Carquet.Proofs.ImplReadsPrefix
/-
C06, implementation half — stage "one chunk": a column chunk as the reference writer lays it out
(`writeChunk`: gap, optional dictionary page, data pages) is, for carquet's reader model, a chunk whose
page iteration delivers the entries' levels and dense values page by page (`chunkPages_chunk` with the
stage lemmas for header, stored body and values), and ONE `carquet_column_read_batch` of `num_values`
entries on the column reader `get_column` creates returns them all.
-/
namespace Carquet.Proofs.ImplReads
open Carquet.Spec Carquet.Spec.File Carquet.Spec.Thrift
open Carquet.Impl
open Carquet.Impl.Reader hiding Bytes
open Carquet.Impl.ThriftParquetReq (PageHdr parsePageHeaderC)
open Carquet.Proofs.SpecFile (PageAdm DictAdm ChunkAdm dataPageHdrTV dictPageHdrTV writeDataPage_adm writeDictPage_adm
  writeChunk_adm)
open Carquet.Proofs.ReaderPlain (ColValid)
open Carquet.Proofs.SpecFile (wellFormed_parts)

/-! ### the fread window, as a decidable check on the written page -/

theorem windowOk_sound (hb : Bytes) (h : windowOk hb = true) : WindowOk hb := by
  unfold Carquet.Impl.Reader.Claim.windowOk at h
  simp only [Bool.and_eq_true, decide_eq_true_eq, List.all_eq_true, List.mem_range, Bool.or_eq_true] at h
  refine ⟨h.1, ?_⟩
  intro k hk
  have hk16 : k < 16 := pow_window_lt hk h.1
  rcases h.2 k hk16 with h1 | h1
  · omega
  · cases hp : parsePageHeaderC (hb.take (256 * 2 ^ k)) with
    | error e => exact ⟨e, rfl⟩
    | ok r => rw [hp] at h1; cases h1

theorem pageWindow_sound (hb comp : Bytes) {hdr : ThriftParquetReq.PageHdr}
    (hany : ∀ rest, parsePageHeaderC (hb ++ rest) = .ok (hdr, hb.length)) (h : pageWindowOk (hb ++ comp) = true) :
    WindowOk hb := by
  unfold Carquet.Impl.Reader.Claim.pageWindowOk at h
  rw [hany comp] at h
  exact windowOk_of_any hb hdr (by simpa using h) hany

/-! ### the checksum -/

theorem crcBad_crcField (verify withCrc : Bool) (comp : Bytes) :
    crcBad verify (if withCrc then some (crcField comp) else none) comp = false := by
  cases withCrc with
  | false => rfl
  | true =>
    simp only [if_true]
    apply Carquet.Proofs.ReaderCrc.crcBad_clean
    rw [Carquet.Proofs.Crc32.impl_crc32_eq]
    unfold crcField
    have hlt := (Carquet.Spec.Crc32.crc32 comp).isLt
    split <;> omega

/-! ### one data page -/

theorem ptypeCode_flba (t : Order.PType) : (ptypeCode t : Int) = 7 → t = .flba := by
  cases t <;> simp [ptypeCode]

theorem colValid_leaf (leaf : LeafInfo) (cm : ThriftParquet.ColumnMetaData) (h : leaf.ptype = .flba → 0 < leaf.typeLength) :
    ColValid (colOfLeaf leaf cm) := by
  intro h7
  simp only [colOfLeaf] at h7 ⊢
  have := h (ptypeCode_flba _ h7)
  omega

/-- what the stage lemmas need of the dictionary a chunk carries -/
structure DictHyp (leaf : LeafInfo) (dict : Option (List Bytes)) : Prop where
  valid : ∀ d, dict = some d → ∀ v ∈ d, validValue leaf v = true
  size : ∀ d, dict = some d → (plainEncode leaf d).length < 2 ^ 31 ∧ d.length < 2 ^ 31
  noBool : dict.isSome = true → leaf.ptype ≠ .boolean

theorem DictHyp.none (leaf : LeafInfo) : DictHyp leaf none :=
  ⟨(fun _ h => by cases h), (fun _ h => by cases h), (fun h => by cases h)⟩

structure LeafHyp (leaf : LeafInfo) : Prop where
  flba : leaf.ptype = .flba → 0 < leaf.typeLength
  levels : leaf.maxDef < 32768 ∧ leaf.maxRep < 32768

/-- **one data page** of the reference writer is, for the loaders, a page that decodes to its entries -/
theorem dataPage_ok (L : Libs) (verify : Bool) (mode : Mode) (leaf : LeafInfo) (cm : ThriftParquet.ColumnMetaData) (codec : Nat)
    (dict : Option (List Bytes)) (pl : PageLayout) (es : List Entry) (a : Written)
    (hp : PageAdm pl) (hcodec : pl.comp.codec = codec) (hcm : cm.codec = (codec : Int))
    (hdepth : pageExtrasDepthOk pl = true) (hw : writeDataPage leaf dict pl es = some a)
    (hwf : ∀ e ∈ es, wellFormedEntry leaf e = true)
    (hlen : a.bytes.length < 2 ^ 31) (hus : a.usize < 2 ^ 31) (hes : es.length < 2 ^ 31)
    (hdict : DictHyp leaf dict) (hleaf : LeafHyp leaf) (hL : LibsDecode L a.oracle)
    (hwin : mode = .fread → pageWindowOk a.bytes = true) :
    ∃ p : RPage, a.bytes = p.bytes ∧
      DataPageOk L verify mode (colOfLeaf leaf cm) (dict.map (dictOf leaf)) p (decodedOfEntries es) := by
  obtain ⟨repB, defB, valB, comp, hr, hd, hv, hc, hbytes, horacle, husize, -, -, hbody, hcomp, hpwf⟩ :=
    Carquet.Proofs.SpecFile.writeDataPage_small hp hw hwf hlen hus hes (Or.inr (fun d hd' =>
      Carquet.Proofs.SpecFile.value_length_lt leaf d (hdict.valid d hd') (hdict.size d hd').1))
  have hparse := parse_dataPageHdr leaf pl es (v1Body leaf .v1 es repB defB valB).length comp hp hdepth hpwf
  generalize hhb : encodeValF pl.form (dataPageHdrTV leaf pl es (v1Body leaf .v1 es repB defB valB).length comp) = hb at *
  refine ⟨⟨hb, comp, ⟨0, ((v1Body leaf .v1 es repB defB valB).length : Int), (comp.length : Int),
    (if pl.crc then some (crcField comp) else none), (es.length : Int), valueEncTag pl.values⟩⟩, hbytes, ?_⟩
  have hdl : (decodedOfEntries es).defs.length = es.length := by simp [decodedOfEntries]
  refine ⟨⟨hparse, rfl, by simp, ?_⟩, rfl, by simp [decodedOfEntries], crcBad_crcField verify pl.crc comp, ?_, ?_⟩
  · intro hm
    exact pageWindow_sound hb comp hparse (by rw [← hbytes]; exact hwin hm)
  · refine ⟨v1Body leaf .v1 es repB defB valB, ?_, ?_⟩
    · simp only [colOfLeaf, hcm, Int.toNat_natCast, ← hcodec]
      exact pageData_compressWith L pl.comp _ comp hc hp.comp (by rw [← horacle]; exact hL)
    · rw [hdl]
      simp only
      exact readDataPageV1_written leaf cm dict pl.values es pl.repRuns pl.defRuns repB defB valB hr hd hv hp.values hwf
        hdict.valid
        (fun tag w runs he => hdict.noBool (by
          cases dict with
          | none => rw [he] at hv; simp [valueBytes] at hv
          | some d => rfl))
        hleaf.flba hleaf.levels hbody hdict.size
  · intro h0
    rw [hdl] at h0
    rw [List.eq_nil_of_length_eq_zero h0]; rfl

/-! ### the data pages of a chunk -/

theorem take_drop_parts {α : Type} (n : Nat) (es : List α) (parts : List (List α)) (h : parts.flatten = es.drop n) :
    (es.take n :: parts).flatten = es := by
  simp [h]

/-- **the data pages** the reference writer lays out back to back are, for the loaders, a list of pages
each decoding to its share of the entries (a page may hold none, F63) -/
theorem dataPages_ok (L : Libs) (verify : Bool) (mode : Mode) (leaf : LeafInfo) (cm : ThriftParquet.ColumnMetaData) (codec : Nat)
    (dict : Option (List Bytes)) (hcm : cm.codec = (codec : Int)) (hdict : DictHyp leaf dict) (hleaf : LeafHyp leaf)
    (pls : List PageLayout) (es : List Entry) (w : Written)
    (hpl : ∀ pl ∈ pls, PageAdm pl ∧ pl.comp.codec = codec ∧ pageExtrasDepthOk pl = true)
    (hw : writeDataPages leaf dict pls es = some w)
    (hwf : ∀ e ∈ es, wellFormedEntry leaf e = true) (hlen : w.bytes.length < 2 ^ 31) (hus : w.usize < 2 ^ 31)
    (hes : es.length < 2 ^ 31) (hL : LibsDecode L w.oracle) (hwin : mode = .fread → pagesWindowOk leaf dict pls es = true) :
    ∃ (ps : List (RPage × Decoded)) (parts : List (List Entry)), w.bytes = pagesBytes ps ∧ parts.flatten = es ∧
      ps.map (·.2) = parts.map decodedOfEntries ∧ ps.length = pls.length ∧
      ∀ q ∈ ps, DataPageOk L verify mode (colOfLeaf leaf cm) (dict.map (dictOf leaf)) q.1 q.2 := by
  fun_induction writeDataPages leaf dict pls es generalizing w with
  | case1 => cases hw; exact ⟨[], [], rfl, rfl, rfl, rfl, fun q hq => by cases hq⟩
  | case2 | case3 | case5 => cases hw
  | case4 pl r es hcount a b h2 h1 ih =>
    cases hw
    simp only [List.length_append] at hlen
    simp only at hus hL
    obtain ⟨hadm, hcodec, hdepth⟩ := hpl pl (by simp)
    have hwin' : mode = .fread → pageWindowOk a.bytes = true ∧ pagesWindowOk leaf dict r (es.drop pl.count) = true := by
      intro hm
      have := hwin hm
      simpa only [Carquet.Impl.Reader.Claim.pagesWindowOk, h1, Bool.and_eq_true] using this
    obtain ⟨p, hpb, hpok⟩ := dataPage_ok L verify mode leaf cm codec dict pl (es.take pl.count) a hadm hcodec hcm hdepth h1
      (fun e he => hwf e (List.mem_of_mem_take he)) (by omega) (by omega) (by simp; omega) hdict hleaf
      (hL.mono (fun e he => by simp [he])) (fun hm => (hwin' hm).1)
    obtain ⟨ps, parts, hb, hparts, hmap, hlen', hall⟩ := ih b (fun x hx => hpl x (by simp [hx])) h2
      (fun e he => hwf e (List.mem_of_mem_drop he)) (by omega) (by omega) (by simp; omega)
      (hL.mono (fun e he => by simp [he])) (fun hm => (hwin' hm).2)
    refine ⟨(p, decodedOfEntries (es.take pl.count)) :: ps, es.take pl.count :: parts, by rw [pagesBytes_cons, ← hpb, ← hb],
      take_drop_parts pl.count es parts hparts, by simp [hmap], by simp [hlen'], ?_⟩
    intro q hq
    rcases List.mem_cons.mp hq with rfl | hq'
    · exact hpok
    · exact hall q hq'

/-! ### the dictionary page -/

theorem dictPage_ok (L : Libs) (verify : Bool) (mode : Mode) (leaf : LeafInfo) (cm : ThriftParquet.ColumnMetaData) (codec : Nat)
    (dl : DictLayout) (a : Written) (hd : DictAdm dl) (hcodec : dl.comp.codec = codec) (hcm : cm.codec = (codec : Int))
    (hdepth : dictExtrasDepthOk dl = true) (hw : writeDictPage leaf dl = some a)
    (hvalid : ∀ v ∈ dl.values, validValue leaf v = true) (hnb : leaf.ptype ≠ .boolean) (hleaf : LeafHyp leaf)
    (hlen : a.bytes.length < 2 ^ 31) (hus : a.usize < 2 ^ 31) (hL : LibsDecode L a.oracle)
    (hwin : mode = .fread → pageWindowOk a.bytes = true) :
    ∃ p : RPage, a.bytes = p.bytes ∧ DictPageOk L verify mode (colOfLeaf leaf cm) p (dictOf leaf dl.values) := by
  obtain ⟨comp, hc, hbytes, horacle, husize, hbody, hcomp, hpwf⟩ :=
    Carquet.Proofs.SpecFile.writeDictPage_small hd hw hlen hus
  have hparse := parse_dictPageHdr leaf dl comp hd hdepth hpwf
  generalize hhb : encodeValF dl.form (dictPageHdrTV leaf dl comp) = hb at *
  refine ⟨⟨hb, comp, ⟨2, ((plainEncode leaf dl.values).length : Int), (comp.length : Int),
    (if dl.crc then some (crcField comp) else none), (dl.values.length : Int), (dl.encoding : Int)⟩⟩, hbytes, ?_⟩
  refine ⟨⟨hparse, rfl, by simp, ?_⟩, rfl, by simp, crcBad_crcField verify dl.crc comp, ?_⟩
  · intro hm
    exact pageWindow_sound hb comp hparse (by rw [← hbytes]; exact hwin hm)
  · refine ⟨plainEncode leaf dl.values, ?_, ?_⟩
    · simp only [colOfLeaf, hcm, Int.toNat_natCast, ← hcodec]
      exact pageData_compressWith L dl.comp _ comp hc hd.comp (by rw [← horacle]; exact hL)
    · exact readDictionaryPage_written leaf cm dl.values hvalid hnb hleaf.flba

/-! ### the column reader over the decoded pages -/

open Carquet.Proofs.Cursor in
theorem vals_length_nn (leaf : LeafInfo) (es : List Entry) (hwf : ∀ e ∈ es, wellFormedEntry leaf e = true) :
    (es.filterMap (·.val)).length = nn leaf.maxDef (es.map (·.dl)) := by
  rw [← Carquet.Proofs.SpecFile.nonNullCount_written leaf es hwf]
  unfold nn Spec.File.nonNullCount
  rw [List.countP_eq_length_filter]

open Carquet.Proofs.Cursor in
theorem pageOk_entries (leaf : LeafInfo) (es : List Entry) (hwf : ∀ e ∈ es, wellFormedEntry leaf e = true) :
    PageOk leaf.maxDef (cursorPage (decodedOfEntries es)) := by
  unfold PageOk cursorPage decodedOfEntries
  simp only
  exact ⟨by simp, vals_length_nn leaf es hwf, (wellFormed_parts hwf).2.1⟩

end Carquet.Proofs.ImplReads
