/-
Facts about lists that components which share nothing else have in common.
-/
namespace Carquet.Proofs.Lists

theorem mapM_some {α β : Type} (f : α → Option β) (g : α → β) (l : List α) (h : ∀ x ∈ l, f x = some (g x)) :
    l.mapM f = some (l.map g) := by
  induction l with
  | nil => rfl
  | cons x xs ih =>
    rw [List.mapM_cons, h x (by simp), ih (fun y hy => h y (by simp [hy]))]
    rfl

theorem exists_cons8 {α} (l : List α) (h : 8 ≤ l.length) :
    ∃ a0 a1 a2 a3 a4 a5 a6 a7 rest, l = a0 :: a1 :: a2 :: a3 :: a4 :: a5 :: a6 :: a7 :: rest := by
  iterate 8 (rcases l with _ | ⟨b, l⟩; · exact absurd h (Nat.not_le_of_lt (Nat.le_of_ble_eq_true rfl)))
  exact ⟨_, _, _, _, _, _, _, _, _, rfl⟩

theorem take_succ_of_get {α : Type} (l : List α) (n : Nat) (x : α) (h : l[n]? = some x) : l.take (n + 1) = l.take n ++ [x] := by
  rw [List.take_add_one, h]; rfl

/-- A relation between a state and the list of what it has absorbed so far, kept by every step, is kept by the fold. -/
theorem foldl_inv {σ α β : Type} {I : σ → List β → Prop} {step : σ → α → σ} (f : α → β)
    (hstep : ∀ s l a, I s l → I (step s a) (l ++ [f a])) (as : List α) (s : σ) (l : List β) (h : I s l) :
    I (as.foldl step s) (l ++ as.map f) := by
  induction as generalizing s l with
  | nil => rwa [List.map_nil, List.append_nil]
  | cons a as ih =>
    rw [List.foldl_cons, List.map_cons, ← List.singleton_append, ← List.append_assoc]
    exact ih _ _ (hstep s l a h)

/-- element `b` of row `i` of a list of rows of one length `k`, flattened -/
theorem flatMap_getElem? {α β : Type} (g : α → List β) (k : Nat) (hg : ∀ v, (g v).length = k) :
    ∀ (vals : List α) (i b : Nat) (hi : i < vals.length), b < k → (vals.flatMap g)[i * k + b]? = (g vals[i])[b]? := by
  intro vals
  induction vals with
  | nil => intro i b hi; simp at hi
  | cons v vs ih =>
    intro i b hi hb
    rw [List.flatMap_cons]
    cases i with
    | zero => simp; rw [List.getElem?_append_left (by rw [hg]; exact hb)]
    | succ i =>
      rw [List.getElem?_append_right (by rw [hg]; rw [Nat.add_mul]; omega), hg]
      have : (i + 1) * k + b - k = i * k + b := by rw [Nat.add_mul]; omega
      rw [this]
      simpa using ih i b (by simpa using hi) hb

end Carquet.Proofs.Lists
