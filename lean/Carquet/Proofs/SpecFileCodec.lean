import Carquet.Proofs.SpecFileExtras
import Carquet.Proofs.SnappySpec
import Carquet.Proofs.Lz4Spec
/-
Compressed page bodies: what `compressWith` stores under a plan, `decompress` gives back —
SNAPPY and LZ4 / LZ4_RAW through the Spec decoders (the reference encoders only emit streams of
the grammar, and the decoders accept the grammar), GZIP / ZSTD through the oracle table (the pair
the writer emits is what the reader looks up).
-/
namespace Carquet.Proofs.SpecFile
open Carquet.Spec Carquet.Spec.File

theorem decompress_compressWith (o : Oracle) (plan : CompPlan) (body comp : Bytes)
    (hc : compressWith plan body = some comp) (hp : planOk plan = true)
    (ho : ∀ e ∈ oracleEntry plan comp body, oracleLookup o e.1 = some e.2) :
    decompress o plan.codec comp body.length = .ok body := by
  cases plan with
  | none =>
    simp only [compressWith, Option.some.injEq] at hc
    subst hc
    simp [decompress, CompPlan.codec]
  | snappy ops =>
    simp only [compressWith] at hc
    split at hc
    · rename_i hrun
      obtain ⟨out, hrun', hstream⟩ := Carquet.Proofs.Snappy.encode_stream hc
      rw [hrun] at hrun'
      cases hrun'
      have := Carquet.Proofs.Snappy.decode_of_stream hstream
      simp [decompress, CompPlan.codec, this]
    · cases hc
  | lz4 tag seqs last =>
    simp only [compressWith] at hc
    split at hc
    · rename_i hexec
      simp only [Option.some.injEq] at hc
      subst hc
      have hb := Carquet.Proofs.Lz4Spec.encode_block hexec
      have hd := Carquet.Proofs.Lz4Spec.decode_complete hb (cap := body.length) (Nat.le_refl _)
      simp only [planOk, Bool.or_eq_true, beq_iff_eq] at hp
      rcases hp with rfl | rfl <;> simp [decompress, CompPlan.codec, hd]
    · cases hc
  | gzip k name =>
    have := ho (comp, body) (by simp [oracleEntry])
    simp only at this
    simp [decompress, CompPlan.codec, this]
  | zstd f zp =>
    have := ho (comp, body) (by simp [oracleEntry])
    simp only at this
    simp [decompress, CompPlan.codec, this]

end Carquet.Proofs.SpecFile
