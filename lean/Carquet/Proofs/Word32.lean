/-
Little-endian assembly of a 32-bit word from bytes, as `Impl.Xxh64.read32le`, `Impl.Crc32.le32` and
`Impl.Bloom.load32` write it (`b0 | b1 << 8 | b2 << 16 | b3 << 24`).  The expression is brought into
Horner form; everything else is said about one Horner step: `x <<< 8 ||| b` puts the byte `b` below
the word `x`.
-/
namespace Carquet.Proofs.Word32

/- Shifted terms are generalised to atoms before the AC step: comparing two different
`x <<< n` terms up to definitional equality unfolds `Nat.shiftLeft` and does not terminate in
reasonable time. -/
theorem horner4 {w : Nat} (x0 x1 x2 x3 : BitVec w) :
    x0 ||| (x1 <<< 8) ||| (x2 <<< 16) ||| (x3 <<< 24)
    = (((x3 <<< 8 ||| x2) <<< 8 ||| x1) <<< 8 ||| x0) := by
  simp only [BitVec.shiftLeft_or_distrib]
  simp only [← BitVec.shiftLeft_add]
  rw [show (8+8+8 : Nat) = 24 from rfl, show (8+8 : Nat) = 16 from rfl]
  generalize x3 <<< 24 = y3
  generalize x2 <<< 16 = y2
  generalize x1 <<< 8 = y1
  ac_rfl

theorem shr8_shl8_or_low (x : BitVec 32) : ((x >>> 8) <<< 8) ||| (x.setWidth 8).setWidth 32 = x := by
  ext i hi
  simp only [BitVec.getElem_or, BitVec.getElem_shiftLeft, BitVec.getElem_setWidth, BitVec.getLsbD_setWidth]
  by_cases h : i < 8
  · simp [h, BitVec.getLsbD_eq_getElem hi]
  · simp [h, show 8 + (i - 8) = i by omega, BitVec.getLsbD_eq_getElem hi]

theorem setWidth8_shl8_or (x : BitVec 32) (b : BitVec 8) : ((x <<< 8) ||| b.setWidth 32).setWidth 8 = b := by
  ext i hi
  simp only [BitVec.getElem_setWidth, BitVec.getLsbD_or, BitVec.getLsbD_shiftLeft, BitVec.getLsbD_setWidth]
  simp [hi, show i < 32 by omega]

theorem and_ff (x : BitVec 32) : x &&& 0xFF#32 = (x.setWidth 8).setWidth 32 := by
  apply BitVec.eq_of_toNat_eq
  rw [BitVec.toNat_and, BitVec.toNat_setWidth, BitVec.toNat_setWidth]
  exact (Nat.and_two_pow_sub_one_eq_mod x.toNat 8).trans
    (Nat.mod_eq_of_lt (Nat.lt_trans (Nat.mod_lt _ (by decide)) (by decide))).symm

/-- as long as no bit is shifted out, putting a byte below a word is `* 256 + b` -/
theorem toNat_shl8_or (x : BitVec 32) (b : BitVec 8) (hx : x.toNat < 2 ^ 24) :
    ((x <<< 8) ||| b.setWidth 32).toNat = x.toNat * 256 + b.toNat := by
  have hb := b.isLt
  rw [BitVec.toNat_or, BitVec.toNat_shiftLeft, BitVec.toNat_setWidth, Nat.mod_eq_of_lt (a := b.toNat) (by omega),
    Nat.shiftLeft_eq, Nat.mod_eq_of_lt (by omega), ← Nat.shiftLeft_eq, ← Nat.shiftLeft_add_eq_or_of_lt hb,
    Nat.shiftLeft_eq]

theorem shl8_or_shr8 (x : BitVec 32) (b : BitVec 8) (hx : x.toNat < 2 ^ 24) :
    ((x <<< 8) ||| b.setWidth 32) >>> 8 = x := by
  apply BitVec.eq_of_toNat_eq
  rw [BitVec.toNat_ushiftRight, toNat_shl8_or x b hx, Nat.shiftRight_eq_div_pow]
  have := b.isLt
  omega

theorem toNat_shl8_or_lt (x : BitVec 32) (b : BitVec 8) (n : Nat) (hn : n ≤ 16) (hx : x.toNat < 2 ^ n) :
    ((x <<< 8) ||| b.setWidth 32).toNat < 2 ^ (n + 8) := by
  have := Nat.pow_le_pow_right (show 0 < 2 by decide) hn
  rw [toNat_shl8_or x b (by omega), Nat.pow_add]
  have := b.isLt
  omega

theorem toNat_horner3_lt (b1 b2 b3 : BitVec 8) :
    (((b3.setWidth 32 <<< 8) ||| b2.setWidth 32) <<< 8 ||| b1.setWidth 32).toNat < 2 ^ 24 :=
  toNat_shl8_or_lt _ _ 16 (by decide) <| toNat_shl8_or_lt _ _ 8 (by decide) <| by
    rw [BitVec.toNat_setWidth]
    exact Nat.lt_of_le_of_lt (Nat.mod_le _ _) b3.isLt

end Carquet.Proofs.Word32
