import Carquet.Impl.AllocExt
import Carquet.Proofs.AllocFlow
/-
C19, the page-by-page column reader (Impl/AllocExt.lean): every loader step consumes a prefix of the oracle and
succeeds exactly when that prefix holds no refusal; the page loop of carquet_column_read_batch and
carquet_column_skip account truthfully for the rows they deliver (conservation of `values_remaining`), and deliver
everything that was asked for unless a request was refused.
-/
namespace Carquet.Impl.Alloc.Ext
open Carquet.Impl.Alloc
open Carquet.Impl.Alloc.Flow

/-- what a loader step does to the oracle and to `values_remaining`: it consumes a prefix, succeeds iff nothing in that
prefix was refused, and never touches the row accounting -/
def Step.Spec (a : Step) : Prop :=
  ∀ s o, (a s o).2.1.remaining = s.remaining ∧
    ∃ pre : List Bool, o = pre ++ (a s o).2.2 ∧ ((a s o).1 = .ok ↔ ∀ b ∈ pre, b = true)

theorem spec_skip : Step.Spec Step.skip := fun s o => ⟨rfl, [], rfl, by simp [Step.skip]⟩

theorem spec_map (f : CR → CR) (hf : ∀ s, (f s).remaining = s.remaining := by exact fun _ => rfl) : Step.Spec (Step.map f) :=
  fun s o => ⟨hf s, [], rfl, by simp [Step.map]⟩

theorem spec_reqN (n : Nat) (f g : CR → CR) (hf : ∀ s, (f s).remaining = s.remaining := by exact fun _ => rfl)
    (hg : ∀ s, (g s).remaining = s.remaining := by exact fun _ => rfl) :
    Step.Spec (Step.reqN n f g) := by
  intro s o
  unfold Step.reqN
  by_cases h : (o.take n).all id = true
  · simp only [h, if_true]
    refine ⟨hf s, o.take n, (List.take_append_drop n o).symm, ?_⟩
    simp only [true_iff]
    intro b hb
    have := List.all_eq_true.mp h b hb
    simpa using this
  · simp only [h]
    refine ⟨hg s, o.take n, (List.take_append_drop n o).symm, ?_⟩
    constructor
    · intro hc; cases hc
    · intro hall
      exfalso; apply h
      exact List.all_eq_true.mpr (fun b hb => by simp [hall b hb])

theorem spec_when (c : Bool) (a : Step) (ha : Step.Spec a) : Step.Spec (Step.when c a) := by
  unfold Step.when; cases c
  · exact spec_skip
  · exact ha

theorem spec_andThen (a b : Step) (ha : Step.Spec a) (hb : Step.Spec b) : Step.Spec (Step.andThen a b) := by
  intro s o
  obtain ⟨ra, pa, ea, ia⟩ := ha s o
  unfold Step.andThen
  generalize hr : a s o = r at ra ea ia
  obtain ⟨st, s1, o1⟩ := r
  simp only at ra ea ia
  cases st with
  | ok =>
    simp only
    obtain ⟨rb, pb, eb, ib⟩ := hb s1 o1
    refine ⟨by rw [rb, ra], pa ++ pb, by rw [List.append_assoc, ← eb, ← ea], ?_⟩
    rw [ib]
    have hpa := ia.mp rfl
    constructor
    · intro h b hb'
      rcases List.mem_append.mp hb' with h1 | h1
      · exact hpa b h1
      · exact h b h1
    · intro h b hb'; exact h b (List.mem_append.mpr (Or.inr hb'))
  | oom =>
    simp only
    exact ⟨ra, pa, ea, by simpa using ia⟩
  | other =>
    simp only
    exact ⟨ra, pa, ea, by simpa using ia⟩

theorem spec_cons {a : Step} {as : List Step} (ha : Step.Spec a) (has : Step.Spec (Step.seq as)) :
    Step.Spec (Step.seq (a :: as)) := spec_andThen a _ ha has

theorem spec_req1 (f g : CR → CR) (hf : ∀ s, (f s).remaining = s.remaining := by exact fun _ => rfl)
    (hg : ∀ s, (g s).remaining = s.remaining := by exact fun _ => rfl) : Step.Spec (Step.req1 f g) := spec_reqN 1 f g hf hg

theorem spec_dep (f : CR → Step) (h : ∀ s', Step.Spec (f s')) : Step.Spec (fun s o => f s s o) :=
  fun s o => h s s o

theorem spec_ite {c : CR → Prop} [DecidablePred c] {a b : Step} (ha : Step.Spec a) (hb : Step.Spec b) :
    Step.Spec (fun s o => if c s then a s o else b s o) := by
  intro s o
  by_cases h : c s
  · simpa only [if_pos h] using ha s o
  · simpa only [if_neg h] using hb s o

theorem spec_readDictionaryPage (c : ChunkD) : Step.Spec (readDictionaryPage c) :=
  spec_cons (spec_req1 _ _) <|
  spec_cons (spec_when _ _ (spec_req1 _ _)) <|
  spec_cons (spec_map _) spec_skip

theorem spec_headerWindow (c : ChunkD) : Step.Spec (headerWindow c) :=
  spec_ite (spec_req1 _ _) spec_skip

theorem spec_loadDictionaryPage (c : ChunkD) : Step.Spec (loadDictionaryPage c) :=
  spec_cons (spec_headerWindow c) <|
  spec_cons (spec_when _ _ (spec_req1 _ _)) <|
  spec_cons (spec_when _ _ (spec_req1 _ _)) <|
  spec_cons (spec_readDictionaryPage c) spec_skip

theorem spec_dictIfNeeded (c : ChunkD) : Step.Spec (dictIfNeeded c) :=
  spec_ite (spec_loadDictionaryPage c) spec_skip

theorem spec_dictAtData (c : ChunkD) : Step.Spec (dictAtData c) :=
  spec_ite (spec_loadDictionaryPage c) spec_skip

theorem spec_decodeBuffers3 (rows : Nat) : Step.Spec (decodeBuffers3 rows) :=
  spec_ite (spec_reqN 3 _ _) spec_skip

theorem spec_levelBuffers2 (rows : Nat) : Step.Spec (levelBuffers2 rows) :=
  spec_ite (spec_reqN 2 _ _) spec_skip

theorem spec_indicesBuffer (p : PageD) : Step.Spec (indicesBuffer p) :=
  spec_ite (spec_req1 _ _) spec_skip

theorem spec_retirePage : Step.Spec retirePage :=
  spec_ite (spec_map _) <|
    spec_ite (spec_req1 _ _) (spec_map _)

theorem spec_pageReady (p : PageD) : Step.Spec (pageReady p) := spec_map _

theorem spec_loadPageFread (c : ChunkD) (p : PageD) : Step.Spec (loadPageFread c p) :=
  spec_cons (spec_dictIfNeeded c) <|
  spec_cons (spec_headerWindow c) <|
  spec_cons (spec_dictAtData c) <|
  spec_cons (spec_req1 _ _) <|
  spec_cons (spec_when _ _ (spec_req1 _ _)) <|
  spec_cons (spec_map _) <|
  spec_cons (spec_decodeBuffers3 _) <|
  spec_cons (spec_indicesBuffer p) <|
  spec_cons (spec_when _ _ spec_retirePage) <|
  spec_cons (spec_pageReady p) spec_skip

theorem spec_loadPageMmap (c : ChunkD) (p : PageD) : Step.Spec (loadPageMmap c p) := by
  unfold loadPageMmap
  split
  · exact spec_cons (spec_dictIfNeeded c) <| spec_cons (spec_dictAtData c) <|
      spec_cons (spec_map _) <| spec_cons (spec_levelBuffers2 _) <|
      spec_cons (spec_pageReady p) spec_skip
  · refine spec_cons (spec_dictIfNeeded c) <| spec_cons (spec_dictAtData c) <|
      spec_cons (spec_when _ _ (spec_req1 _ _)) <|
      spec_cons (spec_map _ (fun s => ?_)) <|
      spec_cons (spec_decodeBuffers3 _) <| spec_cons (spec_indicesBuffer p) <|
      spec_cons (spec_when _ _ spec_retirePage) <| spec_cons (spec_pageReady p) spec_skip
    split <;> rfl

theorem spec_loadPageD (c : ChunkD) (p : PageD) : Step.Spec (loadPageD c p) := by
  unfold loadPageD
  split
  · exact spec_loadPageFread c p
  · exact spec_loadPageMmap c p

/-! ### what a successful page load establishes -/

def Step.Post (a : Step) (Q : CR → Prop) : Prop := ∀ s o, (a s o).1 = .ok → Q (a s o).2.1

theorem post_andThen_right (a b : Step) (Q : CR → Prop) (hb : Step.Post b Q) : Step.Post (Step.andThen a b) Q := by
  intro s o h
  unfold Step.andThen at h ⊢
  generalize a s o = r at h ⊢
  obtain ⟨st, s1, o1⟩ := r
  cases st with
  | ok => exact hb s1 o1 h
  | oom => simp at h
  | other => simp at h

theorem post_seq_getLast {l : List Step} {a : Step} {Q : CR → Prop} (hl : l.getLast? = some a) (h : Step.Post a Q) :
    Step.Post (Step.seq l) Q := by
  induction l with
  | nil => cases hl
  | cons b bs ih =>
    cases bs with
    | nil =>
      obtain rfl : b = a := by simpa using hl
      intro s o hok
      simp only [Step.seq, Step.andThen] at hok ⊢
      have := h s o
      generalize b s o = r at hok this ⊢
      obtain ⟨st, s1, o1⟩ := r
      cases st with
      | ok => exact this rfl
      | oom => cases hok
      | other => cases hok
    | cons b' bs' => exact post_andThen_right b _ Q (ih (by simpa using hl))

/-- the page is there: `page_loaded`, its row count, nothing of it consumed yet -/
def Ready (p : PageD) (s : CR) : Prop := s.loaded = true ∧ s.pageRows = p.rows ∧ s.pageRead = 0

theorem post_pageReady (p : PageD) : Step.Post (pageReady p) (Ready p) := by
  intro s o _; exact ⟨rfl, rfl, rfl⟩

theorem post_loadPageD (c : ChunkD) (p : PageD) : Step.Post (loadPageD c p) (Ready p) := by
  unfold loadPageD loadPageMmap
  split
  · exact post_seq_getLast rfl (post_pageReady p)
  · split <;> exact post_seq_getLast rfl (post_pageReady p)

theorem loadPageD_eq {c : ChunkD} {p : PageD} {s s2 : CR} {o o2 : Oracle} {st : Status}
    (h : loadPageD c p s o = (st, s2, o2)) :
    s2.remaining = s.remaining ∧ (∃ pre : List Bool, o = pre ++ o2 ∧ (st = .ok ↔ ∀ b ∈ pre, b = true)) ∧
    (st = .ok → Ready p s2) := by
  have h1 := spec_loadPageD c p s o
  have h2 := post_loadPageD c p s o
  rw [h] at h1 h2
  exact ⟨h1.1, h1.2, h2⟩

/-! ### the page loop -/

/-- rows delivered, as a number (`none` = −1 = an error before anything was delivered) -/
def delivered : Option Nat → Nat
  | some n => n
  | none => 0

theorem delivered_ite (n : Nat) : delivered (if n > 0 then some n else none) = n := by
  split
  · rfl
  · simp only [delivered]; omega

theorem eq_zero_of_ite_none {n : Nat} (h : (if n > 0 then some n else none) = none) : n = 0 := by
  split at h
  · cases h
  · omega

/-- rows of the loaded page that have not been handed out yet -/
def avail (s : CR) : Nat := if s.loaded && decide (s.pageRead < s.pageRows) then s.pageRows - s.pageRead else 0

theorem takeRows_eq (s : CR) (want : Nat) : takeRows s want = min want (min (avail s) s.remaining) := by
  unfold takeRows avail
  split <;> simp

theorem takeRows_le_remaining (s : CR) (want : Nat) : takeRows s want ≤ s.remaining :=
  takeRows_eq s want ▸ Nat.le_trans (Nat.min_le_right ..) (Nat.min_le_right ..)

theorem takeRows_le_want (s : CR) (want : Nat) : takeRows s want ≤ want :=
  takeRows_eq s want ▸ Nat.min_le_left ..

theorem consume_conserves (s : CR) (want total : Nat) :
    total + takeRows s want + (consume s (takeRows s want)).remaining = total + s.remaining := by
  rw [Nat.add_assoc]; exact congrArg _ (Nat.add_sub_cancel' (takeRows_le_remaining s want))

/-- Conservation: whatever happens — pages loaded, a load refused half-way, an error — the rows the call reports
as delivered are exactly the rows by which `values_remaining` went down (on top of the `total` it started with). -/
theorem readLoop_conserves (c : ChunkD) (pages : List PageD) (s : CR) (total max : Nat) (o : Oracle) :
    delivered (readLoop c pages s total max o).1 + (readLoop c pages s total max o).2.1.remaining = total + s.remaining ∧
    ((readLoop c pages s total max o).1 = none → total = 0) := by
  fun_induction readLoop c pages s total max o with
  | case1 pages s total max o hd => exact ⟨consume_conserves .., nofun⟩
  | case2 s total max o hd =>
    exact ⟨by rw [delivered_ite]; exact consume_conserves ..,
      fun h => (Nat.add_eq_zero_iff.mp (eq_zero_of_ite_none h)).1⟩
  | case3 s total max o hd p ps s2 o2 heq ih =>
    exact ⟨by rw [ih.1, (loadPageD_eq heq).1]; exact consume_conserves ..,
      fun h => (Nat.add_eq_zero_iff.mp (ih.2 h)).1⟩
  | case4 s total max o hd p ps st s2 o2 hst heq =>
    exact ⟨by rw [delivered_ite, (loadPageD_eq heq).1]; exact consume_conserves ..,
      fun h => (Nat.add_eq_zero_iff.mp (eq_zero_of_ite_none h)).1⟩

/-- carquet_column_read_batch: the count returned is the truth about `values_remaining` -/
theorem readBatch_conserves (c : ChunkD) (pages : List PageD) (s : CR) (max : Nat) (o : Oracle) :
    delivered (readBatch c pages s max o).1 + (readBatch c pages s max o).2.1.remaining = s.remaining := by
  unfold readBatch
  by_cases h : s.remaining = 0
  · simp [h, delivered]
  · simp only [h, if_false]
    have := (readLoop_conserves c pages { s with retiredNum := 0 } 0 max o).1
    simpa using this

theorem readBatch_eq {c : ChunkD} {pages ps2 : List PageD} {s s2 : CR} {max : Nat} {o o2 : Oracle} {res : Option Nat}
    (h : readBatch c pages s max o = (res, s2, ps2, o2)) : delivered res + s2.remaining = s.remaining := by
  have := readBatch_conserves c pages s max o; rwa [h] at this

theorem skipLoop_conserves (c : ChunkD) (fuel : Nat) (pages : List PageD) (s : CR) (total n : Nat) (o : Oracle) :
    (skipLoop c fuel pages s total n o).1 + (skipLoop c fuel pages s total n o).2.1.remaining = total + s.remaining := by
  fun_induction skipLoop c fuel pages s total n o with
  | case1 => rfl
  | case2 => rfl
  | case3 fuel pages s total n o hd s2 ps2 o2 heq =>
    exact congrArg (total + ·) (by simpa [delivered] using readBatch_eq heq)
  | case4 fuel pages s total n o hd got s2 ps2 o2 heq hg ih =>
    rw [ih, Nat.add_assoc]; exact congrArg (total + ·) (readBatch_eq heq)
  | case5 fuel pages s total n o hd s2 ps2 o2 heq =>
    exact congrArg (total + ·) (by simpa [delivered] using readBatch_eq heq)

/-- carquet_column_skip: the reader stands exactly as many values further as the call says it skipped — also when
the temporary buffer or a page could not be allocated and the call returns less than was asked for -/
theorem skip_conserves (c : ChunkD) (pages : List PageD) (s : CR) (n : Nat) (o : Oracle) :
    (skip c pages s n o).1 + (skip c pages s n o).2.1.remaining = s.remaining := by
  unfold skip
  split
  · simp
  · split
    · simp
    · have := skipLoop_conserves c n pages s 0 n o.rest
      simpa using this

/-! ### everything asked for is delivered unless a request was refused -/

/-- the loaded page and the pages still to come hold exactly the values the chunk still owes -/
def Covers (pages : List PageD) (s : CR) : Prop := avail s + (pages.map (·.rows)).sum = s.remaining

theorem takeRows_covered {pages : List PageD} {s : CR} (hc : Covers pages s) (want : Nat) :
    takeRows s want = min want (avail s) := by
  rw [takeRows_eq, Nat.min_eq_left (Nat.le.intro hc)]

theorem avail_ready {p : PageD} {s : CR} (h : Ready p s) : avail s = p.rows := by
  obtain ⟨hl, hr, hz⟩ := h
  unfold avail; rw [hl, hr, hz]
  by_cases hp0 : 0 < p.rows <;> simp [hp0]
  omega

/-- the exit test of the page loop fired: the rows handed out so far are all that was asked for, or all there is -/
theorem exit_total {total max a r : Nat} (ht : total ≤ max) (hav : a ≤ r)
    (hd : max ≤ total + min (max - total) a ∨ r - min (max - total) a = 0) :
    total + min (max - total) a = min max (total + r) := by
  have h1 : total + min (max - total) a ≤ max := Nat.add_le_of_le_sub' ht (Nat.min_le_left ..)
  have h2 : min (max - total) a ≤ r := Nat.le_trans (Nat.min_le_right ..) hav
  rcases hd with h | h
  · rw [Nat.le_antisymm h1 h, Nat.min_eq_left (Nat.le_trans h (Nat.add_le_add_left h2 _))]
  · rw [Nat.le_antisymm h2 (Nat.le_of_sub_eq_zero h)] at h1 ⊢; exact (Nat.min_eq_right h1).symm

/-- it did not fire: the loaded page was handed out completely -/
theorem not_exit {total max a : Nat} (ht : total ≤ max) (hn : ¬max ≤ total + min (max - total) a) :
    min (max - total) a = a :=
  Nat.min_eq_right <| Nat.le_of_lt <| Nat.lt_of_not_le fun h =>
    hn (by rw [Nat.min_eq_left h, Nat.add_sub_cancel' ht]; exact Nat.le_refl _)

theorem readLoop_full (c : ChunkD) (max : Nat) (pages : List PageD) (s : CR) (total : Nat) (o : Oracle)
    (hc : Covers pages s) (ht : total ≤ max) :
    ∃ pre : List Bool, o = pre ++ (readLoop c pages s total max o).2.2.2 ∧
      ((∀ b ∈ pre, b = true) → (readLoop c pages s total max o).1 = some (min max (total + s.remaining))) := by
  fun_induction readLoop c pages s total max o with
  | case1 pages s total max o hd =>
    rw [takeRows_covered hc] at hd ⊢
    exact ⟨[], rfl, fun _ => congrArg some (exit_total ht (Nat.le.intro hc) hd)⟩
  | case2 s total max o hn =>
    -- no page left although values are owed: excluded by `Covers`
    have ha : avail s = s.remaining := by simpa [Covers] using hc
    rw [takeRows_covered hc, not_or] at hn
    rw [not_exit ht hn.1, consume, ha] at hn
    exact absurd (Nat.sub_self _) hn.2
  | case3 s total max o hn p ps s2 o2 heq ih =>
    have hcov : avail s + (p.rows + (ps.map (·.rows)).sum) = s.remaining := by simpa [Covers] using hc
    have hta : takeRows s (max - total) = avail s := by
      rw [takeRows_covered hc, not_or] at hn; rw [takeRows_covered hc, not_exit ht hn.1]
    obtain ⟨hrem, ⟨pre1, e1, -⟩, hready⟩ := loadPageD_eq heq
    have hcov2 : Covers ps s2 := by
      unfold Covers; rw [avail_ready (hready rfl), hrem]
      show _ = s.remaining - takeRows s (max - total)
      rw [hta]; exact Nat.eq_sub_of_add_eq' hcov
    obtain ⟨pre2, e2, i2⟩ := ih hcov2 (Nat.le_of_not_le (not_or.mp hn).1)
    refine ⟨pre1 ++ pre2, by rw [List.append_assoc, ← e2]; exact e1, fun hall => ?_⟩
    rw [i2 fun b hb => hall b (List.mem_append.mpr (Or.inr hb)), hrem]
    exact congrArg (some <| min max ·) (consume_conserves s _ total)
  | case4 s total max o hn p ps st s2 o2 hst heq =>
    obtain ⟨-, ⟨pre, e, i⟩, -⟩ := loadPageD_eq heq
    exact ⟨pre, e, fun hall => absurd (i.mpr hall) hst⟩

theorem readBatch_full (c : ChunkD) (pages : List PageD) (s : CR) (max : Nat) (o : Oracle) (hc : Covers pages s) :
    ∃ pre : List Bool, o = pre ++ (readBatch c pages s max o).2.2.2 ∧
      ((∀ b ∈ pre, b = true) → (readBatch c pages s max o).1 = some (min max s.remaining)) := by
  unfold readBatch
  by_cases h : s.remaining = 0
  · simp only [h, if_true]
    exact ⟨[], rfl, fun _ => by simp⟩
  · simp only [h, if_false]
    have hc' : Covers pages { s with retiredNum := 0 } := by simpa [Covers, avail] using hc
    obtain ⟨pre, e, i⟩ := readLoop_full c max pages { s with retiredNum := 0 } 0 o hc' (Nat.zero_le _)
    exact ⟨pre, e, fun hall => by simpa using i hall⟩

end Carquet.Impl.Alloc.Ext
