import Carquet.Impl.Reader
/-
The page loaders of the reader model in the form the proofs about them use (slices of a file laid
out as `pre ++ x ++ post`, results of `Load.andThen`, `finishDataPage` in stages: `finishDataPage_eq`, and read
backwards from a success, `finishDataPage_ok_inv`; `takesView_iff`), and the first fact about them: every read of the file
that the model reports lies inside the file, every read of a heap copy of a page inside that copy —
for every byte string, mode, column description and reader state (C04_accesses_in_bounds).
-/
namespace Carquet.Proofs.ReaderBounds
open Carquet.Impl Carquet.Impl.Reader
open Carquet.Impl.ThriftParquetReq (PageHdr)

theorem slice_length (b : Bytes) (off len : Nat) : (slice b off len).length = min len (b.length - off) := by
  simp [slice]

theorem slice_length_le (b : Bytes) (off len : Nat) : (slice b off len).length ≤ len := by
  rw [slice_length]; omega

theorem slice_inb (b : Bytes) (off len : Nat) :
    (slice b off len).length = 0 ∨ off + (slice b off len).length ≤ b.length := by
  rw [slice_length]; omega

/-! ### slices of a file laid out as `pre ++ x ++ post` -/

theorem slice_at (pre x : Bytes) (W : Nat) : slice (pre ++ x) pre.length W = x.take W := by
  unfold slice
  rw [List.drop_left' rfl]

theorem slice_mid (pre mid post : Bytes) : slice (pre ++ mid ++ post) pre.length mid.length = mid := by
  rw [List.append_assoc, slice_at, List.take_left' rfl]

theorem slice_mid2 (pre a mid post : Bytes) : slice (pre ++ (a ++ mid) ++ post) (pre.length + a.length) mid.length = mid := by
  have : pre ++ (a ++ mid) ++ post = (pre ++ a) ++ mid ++ post := by simp [List.append_assoc]
  rw [this]
  have := slice_mid (pre ++ a) mid post
  rwa [List.length_append] at this

/-! ### the `Load` plumbing -/

/-- What holds of both branches holds of the conditional.  The loaders are long `if` cascades;
peeling them with this lemma costs a unification per test, `split` a traversal of all that is left. -/
theorem ite_of {α : Sort u} {P : α → Prop} {c : Prop} [Decidable c] {a b : α} (ha : c → P a) (hb : ¬ c → P b) :
    P (if c then a else b) := by
  split
  · exact ha ‹_›
  · exact hb ‹_›

theorem andThen_result {α β : Type} (l : Load α) (k : α → Load β) :
    (l.andThen k).result = match l.result with | .error e => .error e | .ok a => (k a).result := by
  unfold Load.andThen; split <;> simp_all

theorem andThen_ok {α β : Type} (l : Load α) (k : α → Load β) (x : β) (h : (l.andThen k).result = .ok x) :
    ∃ a, l.result = .ok a ∧ (k a).result = .ok x := by
  rw [andThen_result] at h
  split at h
  · cases h
  · exact ⟨_, ‹_›, h⟩

/-! ### `load_next_page` in stages -/

theorem loadDataPage_of_prep (fx : Fixes) (L : Libs) (verify : Bool) (mode : Mode) (b : Bytes) (c : Col) (st : PState)
    (sh : PState × (PageHdr × Nat)) (h : (prepStage fx L verify mode b c st).result = .ok sh) :
    (loadDataPage fx L verify mode b c st).result = (finishDataPage fx L verify mode b c sh.1 sh.2).result := by
  unfold loadDataPage
  rw [andThen_result, h]

/-- the tests `finishDataPage` makes on the page header before it reads the body -/
def dataGate (st : PState) (h : PageHdr) : Option Err :=
  if h.type = 3 then some .notImplemented
  else if h.type ≠ 0 then some .invalidPage
  else if !sizesValid h || decide (h.word0 < 0) || decide (h.word0 > st.valuesRemaining) then some .invalidPage
  else none

/-- the standard (copying) path: decompression and `carquet_read_data_page_v1` -/
def copyPage (fx : Fixes) (L : Libs) (c : Col) (dict : Option Dict) (hr : PageHdr × Nat) (body : Bytes) : Except Err PageLoaded :=
  match pageData L c.cm.codec body hr.1.uncompressed.toNat with
  | .error e => .error e
  | .ok pd =>
    match readDataPageV1 fx c dict pd hr.1.word0.toNat hr.1.word4 with
    | .error e => .error e
    | .ok d => .ok ⟨d, hr.2, hr.1.compressed.toNat, false⟩

theorem copyPage_read_error {fx : Fixes} {L : Libs} {c : Col} {dict : Option Dict} {hr : PageHdr × Nat} {body pd : Bytes} {e : Err}
    (hpd : pageData L c.cm.codec body hr.1.uncompressed.toNat = .ok pd)
    (hrd : readDataPageV1 fx c dict pd hr.1.word0.toNat hr.1.word4 = .error e) :
    copyPage fx L c dict hr body = .error e := by
  unfold copyPage
  rw [hpd]
  simp only [hrd]

/-- what `finishDataPage` does with the stored body: checksum, the page without values, view or copy -/
def afterBody (fx : Fixes) (L : Libs) (verify : Bool) (mode : Mode) (b : Bytes) (c : Col) (st : PState)
    (hr : PageHdr × Nat) (body : Bytes) : Load PageLoaded :=
  if crcBad verify hr.1.crc body then Load.pure (.error .crcMismatch)
  else if hr.1.word0 = 0 then Load.pure (.ok ⟨⟨[], [], []⟩, hr.2, hr.1.compressed.toNat, false⟩)
  else if takesView fx mode c hr.1 then
    (viewPage b c ((st.dataStart + st.currentPage).toNat + hr.2) hr.1.word0.toNat).andThen (fun d =>
      Load.pure (.ok ⟨d, hr.2, hr.1.compressed.toNat, true⟩))
  else Load.pure (copyPage fx L c st.dict hr body)

theorem finishDataPage_eq (fx : Fixes) (L : Libs) (verify : Bool) (mode : Mode) (b : Bytes) (c : Col) (st : PState)
    (hr : PageHdr × Nat) :
    finishDataPage fx L verify mode b c st hr =
      match dataGate st hr.1 with
      | some e => Load.pure (.error e)
      | none =>
        (Load.ofPair (bodyBytes mode b (st.dataStart + st.currentPage).toNat hr.2 hr.1.compressed.toNat)).andThen
          (afterBody fx L verify mode b c st hr) := by
  unfold finishDataPage dataGate
  by_cases h3 : hr.1.type = 3
  · rw [if_pos h3, if_pos h3]
  rw [if_neg h3, if_neg h3]
  by_cases h0 : hr.1.type ≠ 0
  · rw [if_pos h0, if_pos h0]
  rw [if_neg h0, if_neg h0]
  by_cases hs : (!sizesValid hr.1 || decide (hr.1.word0 < 0) || decide (hr.1.word0 > st.valuesRemaining)) = true
  · rw [if_pos hs, if_pos hs]
  rw [if_neg hs, if_neg hs]
  refine congrArg _ (funext fun body => ?_)
  unfold afterBody copyPage
  cases pageData L c.cm.codec body hr.1.uncompressed.toNat with
  | error e => rfl
  | ok pd =>
    dsimp only
    cases readDataPageV1 fx c st.dict pd hr.1.word0.toNat hr.1.word4 <;> rfl

theorem finishDataPage_of_body (fx : Fixes) (L : Libs) (verify : Bool) (mode : Mode) (b : Bytes) (c : Col) (st : PState)
    (hr : PageHdr × Nat) (body : Bytes) (hg : dataGate st hr.1 = none)
    (hb : (bodyBytes mode b (st.dataStart + st.currentPage).toNat hr.2 hr.1.compressed.toNat).1 = .ok body) :
    (finishDataPage fx L verify mode b c st hr).result = (afterBody fx L verify mode b c st hr body).result := by
  rw [finishDataPage_eq, hg, andThen_result, Load.ofPair, hb]

theorem afterBody_result (fx : Fixes) (L : Libs) (verify : Bool) (mode : Mode) (b : Bytes) (c : Col) (st : PState)
    (hr : PageHdr × Nat) (body : Bytes) :
    (afterBody fx L verify mode b c st hr body).result =
      if crcBad verify hr.1.crc body then .error .crcMismatch
      else if hr.1.word0 = 0 then .ok ⟨⟨[], [], []⟩, hr.2, hr.1.compressed.toNat, false⟩
      else if takesView fx mode c hr.1 then
        match (viewPage b c ((st.dataStart + st.currentPage).toNat + hr.2) hr.1.word0.toNat).result with
        | .error e => .error e
        | .ok d => .ok ⟨d, hr.2, hr.1.compressed.toNat, true⟩
      else copyPage fx L c st.dict hr body := by
  unfold afterBody
  simp only [apply_ite Load.result, andThen_result, Load.pure]
  cases (viewPage b c ((st.dataStart + st.currentPage).toNat + hr.2) hr.1.word0.toNat).result <;> rfl

/-- What a successful data-page load went through: the header passed the gate, the stored body was read and its
checksum accepted, and the page is one without values (F63), a zero-copy view, or what
`carquet_read_data_page_v1` made of the decompressed body. -/
theorem finishDataPage_ok_inv {fx : Fixes} {L : Libs} {verify : Bool} {mode : Mode} {b : Bytes} {c : Col} {st : PState}
    {hr : PageHdr × Nat} {p : PageLoaded} (h : (finishDataPage fx L verify mode b c st hr).result = .ok p) :
    dataGate st hr.1 = none ∧ p.headerSize = hr.2 ∧ p.compressedSize = hr.1.compressed.toNat ∧
    ∃ body, (bodyBytes mode b (st.dataStart + st.currentPage).toNat hr.2 hr.1.compressed.toNat).1 = .ok body ∧
      crcBad verify hr.1.crc body = false ∧
      ((hr.1.word0 = 0 ∧ p.page = ⟨[], [], []⟩) ∨ takesView fx mode c hr.1 = true ∨
       ∃ pd, pageData L c.cm.codec body hr.1.uncompressed.toNat = .ok pd ∧
         readDataPageV1 fx c st.dict pd hr.1.word0.toNat hr.1.word4 = .ok p.page) := by
  rw [finishDataPage_eq] at h
  cases hg : dataGate st hr.1 with
  | some e => rw [hg] at h; cases h
  | none =>
    rw [hg] at h
    obtain ⟨body, hb, hk⟩ := andThen_ok _ _ _ h
    rw [afterBody_result] at hk
    by_cases hcrc : crcBad verify hr.1.crc body = true
    · rw [if_pos hcrc] at hk; cases hk
    rw [if_neg hcrc] at hk
    refine ⟨rfl, ?_⟩
    by_cases hw : hr.1.word0 = 0
    · rw [if_pos hw] at hk; cases hk
      exact ⟨rfl, rfl, body, hb, by simpa using hcrc, .inl ⟨hw, rfl⟩⟩
    rw [if_neg hw] at hk
    by_cases hv : takesView fx mode c hr.1 = true
    · rw [if_pos hv] at hk
      split at hk
      · cases hk
      · cases hk; exact ⟨rfl, rfl, body, hb, by simpa using hcrc, .inr (.inl hv)⟩
    rw [if_neg hv] at hk
    unfold copyPage at hk
    split at hk
    · cases hk
    · rename_i pd hpd
      split at hk
      · cases hk
      · rename_i d hd
        cases hk
        exact ⟨rfl, rfl, body, hb, by simpa using hcrc, .inr (.inr ⟨pd, hpd, hd⟩)⟩

/-! ### reads in bounds -/

/-- the access `(off, len)` lies inside a file of `n` bytes -/
def InBounds (n : Nat) (a : Access) : Prop := a.1 + a.2 ≤ n

instance (n : Nat) (a : Access) : Decidable (InBounds n a) := inferInstanceAs (Decidable (a.1 + a.2 ≤ n))

def AllIn (n : Nat) (l : List Access) : Prop := ∀ a ∈ l, InBounds n a

theorem allIn_nil (n : Nat) : AllIn n [] := by intro a h; cases h

theorem allIn_append {n : Nat} {l₁ l₂ : List Access} (h₁ : AllIn n l₁) (h₂ : AllIn n l₂) : AllIn n (l₁ ++ l₂) :=
  List.forall_mem_append.mpr ⟨h₁, h₂⟩

theorem allIn_cons {n : Nat} {a : Access} {l : List Access} (h₁ : InBounds n a) (h₂ : AllIn n l) : AllIn n (a :: l) :=
  List.forall_mem_cons.mpr ⟨h₁, h₂⟩

theorem allIn_access {n off len : Nat} (h : len = 0 ∨ off + len ≤ n) : AllIn n (access off len) := by
  unfold access
  refine ite_of (fun _ => allIn_nil n) fun hne => allIn_cons ?_ (allIn_nil n)
  exact h.resolve_left hne

/-- reads of a heap copy of a page (capacity, length) stay inside the copy -/
def HeapOk (l : List (Nat × Nat)) : Prop := ∀ r ∈ l, r.2 ≤ r.1

theorem heapOk_nil : HeapOk [] := by intro r h; cases h

theorem heapOk_append {l₁ l₂ : List (Nat × Nat)} (h₁ : HeapOk l₁) (h₂ : HeapOk l₂) : HeapOk (l₁ ++ l₂) :=
  List.forall_mem_append.mpr ⟨h₁, h₂⟩

/-- what one loader call reports is in bounds: the reads of the file (`n` bytes) and of heap copies -/
structure Safe (n : Nat) {α : Type} (l : Load α) : Prop where
  file : AllIn n l.accesses
  heap : HeapOk l.heapReads

theorem safe_pure {α : Type} (n : Nat) (r : Except Err α) : Safe n (Load.pure r) := ⟨allIn_nil n, heapOk_nil⟩

theorem safe_ofPair {α : Type} {n : Nat} {p : Except Err α × List Access} (h : AllIn n p.2) : Safe n (Load.ofPair p) :=
  ⟨h, heapOk_nil⟩

theorem safe_andThen {α β : Type} {n : Nat} {l : Load α} {k : α → Load β} (h₁ : Safe n l)
    (h₂ : ∀ a, l.result = .ok a → Safe n (k a)) : Safe n (l.andThen k) := by
  unfold Load.andThen
  split
  · exact ⟨h₁.file, h₁.heap⟩
  · rename_i a ha
    exact ⟨allIn_append h₁.file (h₂ a ha).file, heapOk_append h₁.heap (h₂ a ha).heap⟩

theorem allIn_snd_ite {α : Type} {n : Nat} {c : Prop} [Decidable c] {p q : α × List Access}
    (hp : c → AllIn n p.2) (hq : ¬ c → AllIn n q.2) : AllIn n (if c then p else q).2 :=
  ite_of (P := fun (p : α × List Access) => AllIn n p.2) hp hq

/-! #### open -/

theorem openFread_inb (b : Bytes) : AllIn b.length (openFread b).2 := by
  unfold openFread
  refine allIn_snd_ite (fun _ => allIn_nil _) fun h12 => ?_
  have k : InBounds b.length (b.length - 8, 8) := by unfold InBounds; simp only; omega
  refine allIn_snd_ite (fun _ => allIn_cons k (allIn_nil _)) fun _ =>
    allIn_snd_ite (fun _ => allIn_cons k (allIn_nil _)) fun hfl => ?_
  exact allIn_cons k (allIn_access (by omega))

theorem openMapped_inb (b : Bytes) : AllIn b.length (openMapped b).2 := by
  unfold openMapped
  refine allIn_snd_ite (fun _ => allIn_nil _) fun h12 => ?_
  have k1 : InBounds b.length (0, 4) := by unfold InBounds; simp only; omega
  have k2 : InBounds b.length (b.length - 4, 4) := by unfold InBounds; simp only; omega
  have k3 : InBounds b.length (b.length - 8, 4) := by unfold InBounds; simp only; omega
  have k := allIn_cons k1 (allIn_cons k2 (allIn_cons k3 (allIn_nil _)))
  refine allIn_snd_ite (fun _ => allIn_cons k1 (allIn_nil _)) fun _ =>
    allIn_snd_ite (fun _ => allIn_cons k1 (allIn_cons k2 (allIn_nil _))) fun _ => allIn_snd_ite (fun _ => k) fun hfl => ?_
  exact allIn_append k (allIn_access (by omega))

theorem openFileA_inb (mode : Mode) (b : Bytes) : AllIn b.length (openFileA mode b).2 := by
  cases mode
  · exact openFread_inb b
  · exact allIn_snd_ite (fun _ => openFread_inb b) fun _ => openMapped_inb b
  · exact allIn_snd_ite (fun _ => allIn_nil _) fun _ => openMapped_inb b

/-! #### header window and page body -/

theorem bodyBytes_inb (mode : Mode) (b : Bytes) (off hsize comp : Nat) : AllIn b.length (bodyBytes mode b off hsize comp).2 := by
  unfold bodyBytes
  have hl := slice_length b (off + hsize) comp
  refine allIn_snd_ite (fun _ => allIn_snd_ite (fun h => allIn_access (by omega)) fun _ => allIn_nil _) fun _ => ?_
  exact allIn_snd_ite (fun _ => allIn_access (slice_inb _ _ _)) fun h => allIn_access (by omega)

theorem bodyBytes_ok (mode : Mode) (b : Bytes) (off hsize comp : Nat) (body : Bytes)
    (h : (bodyBytes mode b off hsize comp).1 = .ok body) :
    body = slice b (off + hsize) comp ∧ body.length = comp ∧ (comp = 0 ∨ off + hsize + comp ≤ b.length) := by
  have hl := slice_length b (off + hsize) comp
  have key : (slice b (off + hsize) comp).length = comp → (Except.ok (slice b (off + hsize) comp) : Except Err Bytes) = .ok body →
      body = slice b (off + hsize) comp ∧ body.length = comp ∧ (comp = 0 ∨ off + hsize + comp ≤ b.length) := by
    intro hlen h
    cases h
    exact ⟨rfl, hlen, by omega⟩
  unfold bodyBytes at h
  split at h
  · split at h
    · exact key (by omega) h
    · cases h
  · split at h
    · cases h
    · rename_i hlen
      exact key (Decidable.not_not.mp hlen) h

theorem freadHeaderLoop_safe (b : Bytes) (off : Nat) : ∀ (fuel window : Nat),
    Safe b.length (freadHeaderLoop b off fuel window) := by
  intro fuel
  induction fuel with
  | zero => intro window; exact ⟨allIn_nil _, heapOk_nil⟩
  | succ fuel ih =>
    intro window
    have ha : AllIn b.length (access off (slice b off window).length) := allIn_access (slice_inb _ _ _)
    unfold freadHeaderLoop
    refine ite_of (fun _ => ⟨ha, heapOk_nil⟩) fun _ => ?_
    split
    · exact ⟨ha, heapOk_nil⟩
    · exact ite_of (fun _ => ⟨ha, heapOk_nil⟩) fun _ => ⟨allIn_append ha (ih _).file, heapOk_nil⟩

theorem loadHeader_safe (mode : Mode) (b : Bytes) (off : Int) : Safe b.length (loadHeader mode b off) := by
  unfold loadHeader
  refine ite_of (fun _ => ite_of (fun _ => safe_pure _ _) fun hoff => ite_of (fun _ => safe_pure _ _) fun _ => ?_)
    fun _ => ite_of (fun _ => safe_pure _ _) fun _ => freadHeaderLoop_safe _ _ _ _
  exact ⟨allIn_cons (by unfold InBounds; simp only; omega) (allIn_nil _), heapOk_nil⟩

theorem freadHeaderLoop_ok (b : Bytes) (off : Nat) (r : PageHdr × Nat) : ∀ (fuel window : Nat),
    (freadHeaderLoop b off fuel window).result = .ok r →
    off + 8 ≤ b.length ∧ ∃ W, ThriftParquetReq.parsePageHeaderC (slice b off W) = .ok r := by
  intro fuel
  induction fuel with
  | zero => intro window h; cases h
  | succ fuel ih =>
    intro window h
    unfold freadHeaderLoop at h
    split at h
    · cases h
    · rename_i h8
      have hl := slice_length b off window
      split at h
      · rename_i r' hr'
        cases h
        exact ⟨by omega, window, hr'⟩
      · split at h
        · cases h
        · exact ih _ h

theorem loadHeader_ok (mode : Mode) (b : Bytes) (off : Int) (r : PageHdr × Nat)
    (h : (loadHeader mode b off).result = .ok r) :
    0 ≤ off ∧ off.toNat + 8 ≤ b.length ∧ ∃ W, ThriftParquetReq.parsePageHeaderC (slice b off.toNat W) = .ok r := by
  unfold loadHeader at h
  split at h
  · split at h
    · cases h
    · split at h
      · cases h
      · rename_i hoff h8
        refine ⟨by omega, by omega, b.length - off.toNat, ?_⟩
        simp only [parseWindow] at h
        split at h
        · cases h
        · rename_i r' hr'
          cases h
          exact hr'
  · split at h
    · cases h
    · rename_i hoff
      have := freadHeaderLoop_ok b off.toNat r _ _ h
      exact ⟨by omega, this.1, this.2⟩

/-! #### dictionary page -/

theorem readDictionaryPage_copy_le (fx : Fixes) (hfx : fx.dictBound = true) (c : Col) (pd : Bytes) (n : Int) :
    (readDictionaryPage fx c pd n).2 ≤ pd.length := by
  unfold readDictionaryPage
  refine ite_of (P := fun p => Prod.snd p ≤ pd.length) (fun _ => ?_) fun _ =>
    ite_of (P := fun p => Prod.snd p ≤ pd.length) (fun _ => Nat.zero_le _) fun _ =>
    ite_of (P := fun p => Prod.snd p ≤ pd.length) (fun _ => ?_) fun h => Nat.le_of_not_lt h
  · split <;> exact Nat.zero_le _
  · rw [hfx]; exact Nat.zero_le _

theorem pageData_codec0 (L : Libs) (body : Bytes) (u : Nat) : pageData L 0 body u = .ok body := by
  simp [pageData]

/-- the dictionary copy reads the stored body in place only when the page is stored uncompressed -/
theorem dictCopyReport_safe (mode : Mode) (codec : Int) (b body pd : Bytes) (L : Libs) (u off hs comp copyLen : Nat)
    (hbody : body = slice b (off + hs) comp ∧ body.length = comp ∧ (comp = 0 ∨ off + hs + comp ≤ b.length))
    (hpd : pageData L codec body u = .ok pd) (hle : copyLen ≤ pd.length) :
    AllIn b.length (dictCopyReport mode codec (off + hs) pd.length copyLen).1 ∧
    HeapOk (dictCopyReport mode codec (off + hs) pd.length copyLen).2 := by
  unfold dictCopyReport
  refine ite_of (P := fun p => AllIn b.length (Prod.fst p) ∧ HeapOk (Prod.snd p)) (fun _ => ⟨allIn_nil _, heapOk_nil⟩) fun hz =>
    ite_of (P := fun p => AllIn b.length (Prod.fst p) ∧ HeapOk (Prod.snd p)) (fun hm => ⟨?_, heapOk_nil⟩) fun _ => ⟨allIn_nil _, ?_⟩
  · have hc : codec = 0 := hm.2
    subst hc
    rw [pageData_codec0] at hpd
    cases hpd
    exact allIn_cons (by unfold InBounds; simp only; omega) (allIn_nil _)
  · intro r hr
    cases List.mem_singleton.mp hr
    exact hle

theorem loadDictionary_safe (fx : Fixes) (hfx : fx.dictBound = true) (L : Libs) (verify : Bool) (mode : Mode) (b : Bytes)
    (c : Col) (off : Int) : Safe b.length (loadDictionary fx L verify mode b c off) := by
  unfold loadDictionary
  refine safe_andThen (loadHeader_safe mode b off) fun hr _ => ?_
  refine ite_of (fun _ => safe_pure _ _) fun _ => ite_of (fun _ => safe_pure _ _) fun _ => ?_
  refine safe_andThen (safe_ofPair (bodyBytes_inb _ _ _ _ _)) fun body hbody => ?_
  refine ite_of (fun _ => safe_pure _ _) fun _ => ?_
  split
  · exact safe_pure _ _
  · rename_i pd hpd
    have := dictCopyReport_safe mode c.cm.codec b body pd L _ off.toNat hr.2 hr.1.compressed.toNat _
      (bodyBytes_ok _ _ _ _ _ _ hbody) hpd (readDictionaryPage_copy_le fx hfx c pd hr.1.word0)
    exact ⟨this.1, this.2⟩

/-! #### data page -/

/-- when the zero-copy branch of `load_next_page_mmap` is taken -/
theorem takesView_iff (fx : Fixes) (mode : Mode) (c : Col) (h : PageHdr) :
    takesView fx mode c h = true ↔
      mode.mapped = true ∧ c.cm.codec = 0 ∧ h.word4 = 0 ∧ fixedWidth c.ptype = true ∧ c.maxDef = 0 ∧ c.maxRep = 0 ∧
      (fx.viewBound = true → h.word0.toNat * valueSize c.ptype c.typeLength ≤ h.compressed.toNat) := by
  unfold takesView zeroCopyEligible
  simp only [Bool.and_eq_true, Bool.not_eq_true', Bool.or_eq_false_iff, Bool.or_eq_true, decide_eq_true_eq, decide_eq_false_iff_not]
  constructor
  · rintro ⟨⟨⟨hm, ⟨hc, he⟩, hf⟩, hd, hr⟩, hb⟩
    exact ⟨hm, hc, he, hf, by omega, by omega, fun hv => hb.resolve_left (by rw [hv]; exact nofun)⟩
  · rintro ⟨hm, hc, he, hf, hd, hr, hb⟩
    refine ⟨⟨⟨hm, ⟨hc, he⟩, hf⟩, by omega, by omega⟩, ?_⟩
    cases hv : fx.viewBound
    · exact .inl rfl
    · exact .inr (hb hv)

theorem takesView_bound (fx : Fixes) (hfx : fx.viewBound = true) (mode : Mode) (c : Col) (h : PageHdr)
    (ht : takesView fx mode c h = true) :
    h.word0.toNat * valueSize c.ptype c.typeLength ≤ h.compressed.toNat ∧ mode.mapped = true :=
  have := (takesView_iff fx mode c h).mp ht
  ⟨this.2.2.2.2.2.2 hfx, this.1⟩

/-- with F51 the view is taken only over bytes of the page body, which lies in the file -/
theorem finishDataPage_safe (fx : Fixes) (hfx : fx.viewBound = true) (L : Libs) (verify : Bool) (mode : Mode) (b : Bytes)
    (c : Col) (st : PState) (hr : PageHdr × Nat) : Safe b.length (finishDataPage fx L verify mode b c st hr) := by
  rw [finishDataPage_eq]
  split
  · exact safe_pure _ _
  · refine safe_andThen (safe_ofPair (bodyBytes_inb _ _ _ _ _)) fun body hbody => ?_
    unfold afterBody
    refine ite_of (fun _ => safe_pure _ _) fun _ => ite_of (fun _ => safe_pure _ _) fun _ =>
      ite_of (fun hview => ?_) fun _ => safe_pure _ _
    have hb := bodyBytes_ok _ _ _ _ _ _ hbody
    have hv := takesView_bound fx hfx mode c hr.1 hview
    refine safe_andThen ⟨?_, heapOk_nil⟩ fun _ _ => safe_pure _ _
    exact allIn_access (by omega)

theorem prepStage_safe (fx : Fixes) (hd : fx.dictBound = true) (L : Libs) (verify : Bool) (mode : Mode) (b : Bytes)
    (c : Col) (st : PState) : Safe b.length (prepStage fx L verify mode b c st) := by
  unfold prepStage
  refine safe_andThen (loadHeader_safe mode b _) fun hr _ => ite_of (fun _ => ?_) fun _ => safe_pure _ _
  refine safe_andThen (loadDictionary_safe fx hd L verify mode b c _) fun dl _ => ?_
  exact safe_andThen (loadHeader_safe mode b _) fun hr2 _ => safe_pure _ _

theorem dictStep_safe (fx : Fixes) (hfx : fx.dictBound = true) (L : Libs) (verify : Bool) (mode : Mode) (b : Bytes)
    (c : Col) (st : PState) : Safe b.length (dictStep fx L verify mode b c st) := by
  unfold dictStep
  split
  · exact safe_pure _ _
  · refine ite_of (fun _ => safe_pure _ _) fun _ => ?_
    exact safe_andThen (loadDictionary_safe fx hfx L verify mode b c _) fun dl _ => safe_pure _ _

/-- every read of the file made by `load_next_page` lies inside the file, and the dictionary copy
inside the page it copies from: any bytes, any mode, any column description, any reader state
(repaired code: F51 and F12) -/
theorem loadPage_safe (fx : Fixes) (hv : fx.viewBound = true) (hd : fx.dictBound = true) (L : Libs) (verify : Bool)
    (mode : Mode) (b : Bytes) (c : Col) (st : PState) : Safe b.length (loadPage fx L verify mode b c st) := by
  unfold loadPage loadDataPage
  refine safe_andThen (dictStep_safe fx hd L verify mode b c st) fun st' _ => ?_
  exact safe_andThen (prepStage_safe fx hd L verify mode b c st') fun sh _ => finishDataPage_safe fx hv L verify mode b c sh.1 sh.2

/-! #### whole sessions -/

theorem session_call_inb (fx : Fixes) (hv : fx.viewBound = true) (hd : fx.dictBound = true) (L : Libs) (verify : Bool)
    (mode : Mode) (b : Bytes) (o : Opened) (s : Session) (call : Call)
    (h : AllIn b.length s.accesses ∧ HeapOk s.heapReads) :
    AllIn b.length (s.call fx L verify mode b o call).accesses ∧ HeapOk (s.call fx L verify mode b o call).heapReads := by
  cases call with
  | getColumn rg col =>
    cases hg : getColumn o rg col with
    | error e => simp only [Session.call, hg]; exact h
    | ok c => simp only [Session.call, hg]; exact h
  | next i =>
    cases hr : s.readers[i]? with
    | none => simp only [Session.call, hr]; exact h
    | some r =>
      simp only [Session.call, hr]
      have hl := loadPage_safe fx hv hd L verify mode b r.1 r.2.pre
      exact ⟨allIn_append h.1 hl.file, heapOk_append h.2 hl.heap⟩

theorem session_foldl_inb (fx : Fixes) (hv : fx.viewBound = true) (hd : fx.dictBound = true) (L : Libs) (verify : Bool)
    (mode : Mode) (b : Bytes) (o : Opened) (calls : List Call) :
    ∀ (s : Session), AllIn b.length s.accesses ∧ HeapOk s.heapReads →
      AllIn b.length (calls.foldl (Session.call fx L verify mode b o) s).accesses ∧
      HeapOk (calls.foldl (Session.call fx L verify mode b o) s).heapReads := by
  induction calls with
  | nil => intro s h; exact h
  | cons c cs ih => intro s h; exact ih _ (session_call_inb fx hv hd L verify mode b o s c h)

theorem apiRun_inb (fx : Fixes) (hv : fx.viewBound = true) (hd : fx.dictBound = true) (L : Libs) (verify : Bool)
    (mode : Mode) (b : Bytes) (calls : List Call) :
    AllIn b.length (apiRun fx L verify mode b calls).accesses ∧ HeapOk (apiRun fx L verify mode b calls).heapReads := by
  unfold apiRun
  split
  · exact ⟨openFileA_inb mode b, heapOk_nil⟩
  · exact session_foldl_inb fx hv hd L verify mode b _ calls _ ⟨openFileA_inb mode b, heapOk_nil⟩

end Carquet.Proofs.ReaderBounds
