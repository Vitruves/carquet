import Carquet.Impl.Buffer
/-
Helper lemmas about the Impl model of carquet_buffer (C19).
-/
namespace Carquet.Impl.Alloc.Buffer

theorem le_orShift (x k : Nat) : x ≤ orShift x k := Nat.left_le_or

theorem le_smear (x : Nat) : x ≤ smear x := by
  unfold smear
  exact Nat.le_trans (le_orShift _ _) (Nat.le_trans (le_orShift _ _) (Nat.le_trans (le_orShift _ _)
    (Nat.le_trans (le_orShift _ _) (Nat.le_trans (le_orShift _ _) (le_orShift _ _)))))

theorem le_nextPow2 (n : Nat) : n ≤ nextPow2 n := by
  unfold nextPow2
  split
  · omega
  · have := le_smear (n - 1); omega

theorem le_newCapacity (n : Nat) : n ≤ newCapacity n := by
  unfold newCapacity
  have := le_nextPow2 n
  split <;> omega

theorem ensureCapacity_spec (b : Buf) (needed : Nat) (o : Oracle) :
    ((ensureCapacity b needed o).1 = .ok ∧ needed ≤ (ensureCapacity b needed o).2.1.capacity ∧
        (ensureCapacity b needed o).2.1.data = b.data ∧ b.capacity ≤ (ensureCapacity b needed o).2.1.capacity) ∨
    ((ensureCapacity b needed o).1 = .oom ∧ (ensureCapacity b needed o).2.1 = b) := by
  unfold ensureCapacity
  by_cases h1 : needed ≤ b.capacity
  · simp [h1]
  · by_cases h2 : (!b.owns && b.hasData) = true
    · simp [h1, h2]
    · by_cases h3 : o.grant = true
      · have := le_newCapacity needed
        simp [h1, h2, h3]; omega
      · simp [h1, h2, h3]

theorem ensureCapacity_inv (b : Buf) (needed : Nat) (o : Oracle) (h : Inv b) :
    Inv (ensureCapacity b needed o).2.1 := by
  rcases ensureCapacity_spec b needed o with ⟨_, _, hd, hc⟩ | ⟨_, he⟩
  · unfold Inv Buf.size at *; rw [hd]; omega
  · rw [he]; exact h

/-- the oracle only ever moves forward by at most one request per ensure_capacity -/
theorem ensureCapacity_oracle (b : Buf) (needed : Nat) (o : Oracle) :
    (ensureCapacity b needed o).2.2 = o ∨ (ensureCapacity b needed o).2.2 = o.rest := by
  unfold ensureCapacity
  split
  · simp
  · split
    · simp
    · split <;> simp

theorem pushBytes_ok (r : Status × Buf × Oracle) (bytes : List UInt8) (h : r.1 = .ok) :
    pushBytes r bytes = (.ok, { r.2.1 with data := r.2.1.data ++ bytes }, r.2.2) := by
  obtain ⟨s, b, o⟩ := r
  simp at h; subst h; rfl

theorem pushBytes_err (r : Status × Buf × Oracle) (bytes : List UInt8) (h : r.1 ≠ .ok) :
    pushBytes r bytes = r := by
  obtain ⟨s, b, o⟩ := r
  cases s <;> simp_all [pushBytes]


theorem grow_push_spec (b : Buf) (bytes : List UInt8) (o : Oracle) {r : Status × Buf × Oracle}
    (hr : pushBytes (ensureCapacity b (b.size + bytes.length) o) bytes = r) :
    (r.1 = .ok ∧ r.2.1.data = b.data ++ bytes ∧ b.capacity ≤ r.2.1.capacity ∧ (Inv b → Inv r.2.1)) ∨
    (r.1 = .oom ∧ r.2.1 = b) := by
  subst hr
  rcases ensureCapacity_spec b (b.size + bytes.length) o with ⟨hs, hn, hd, hc⟩ | ⟨hs, he⟩
  · left
    rw [pushBytes_ok _ _ hs]
    refine ⟨rfl, by simp [hd], hc, fun _ => ?_⟩
    unfold Inv Buf.size at *; simp [hd]; omega
  · right
    rw [pushBytes_err _ _ (by rw [hs]; decide)]
    exact ⟨hs, he⟩

/-- append: either OK with the bytes added at the end (capacity sufficient), or OOM with the
buffer exactly as before. -/
theorem append_spec (b : Buf) (bytes : List UInt8) (o : Oracle) :
    ((append b bytes o).1 = .ok ∧ (append b bytes o).2.1.data = b.data ++ bytes ∧
        b.capacity ≤ (append b bytes o).2.1.capacity ∧
        (Inv b → Inv (append b bytes o).2.1)) ∨
    ((append b bytes o).1 = .oom ∧ (append b bytes o).2.1 = b) := by
  unfold append
  split
  · next h0 => simp [List.length_eq_zero_iff.mp h0]
  · exact grow_push_spec b bytes o rfl

theorem advance_spec (b : Buf) (fill : List UInt8) (o : Oracle) :
    ((advance b fill o).1 = .ok ∧ (advance b fill o).2.1.data = b.data ++ fill ∧
        (Inv b → Inv (advance b fill o).2.1)) ∨
    ((advance b fill o).1 = .oom ∧ (advance b fill o).2.1 = b) := by
  unfold advance
  split
  · exact .inr ⟨rfl, rfl⟩
  · exact (grow_push_spec b fill o rfl).imp (fun h => ⟨h.1, h.2.1, h.2.2.2⟩) id

theorem resize_spec (b : Buf) (n : Nat) (o : Oracle) :
    ((resize b n o).1 = .ok ∧ (resize b n o).2.1.size = n ∧ Inv (resize b n o).2.1 ∧
        (resize b n o).2.1.data = (b.data ++ List.replicate (n - b.size) 0).take n) ∨
    ((resize b n o).1 = .oom ∧ (resize b n o).2.1 = b) := by
  unfold resize
  rcases ensureCapacity_spec b n o with ⟨hs, hn, hd, hc⟩ | ⟨hs, he⟩
  · left
    generalize hr : ensureCapacity b n o = r at *
    obtain ⟨s, b', o'⟩ := r
    simp at hs hn hd hc; subst hs
    simp only [Buf.size, Inv, hd]
    refine ⟨trivial, ?_, ?_, trivial⟩
    · simp [List.length_take]; omega
    · simp [List.length_take]; omega
  · right
    generalize hr : ensureCapacity b n o = r at *
    obtain ⟨s, b', o'⟩ := r
    simp at hs he; subst hs; subst he
    simp

theorem shrinkToFit_spec (b : Buf) (o : Oracle) :
    (shrinkToFit b o).1 = .ok ∧ (shrinkToFit b o).2.1.data = b.data ∧
      (Inv b → Inv (shrinkToFit b o).2.1) := by
  unfold shrinkToFit Inv Buf.size
  by_cases h0 : b.data.length = 0
  · simp [h0]
  · by_cases h1 : b.data.length < b.capacity
    · by_cases h2 : o.grant = true <;> simp [h0, h1, h2]
    · simp [h0, h1]

theorem step_inv (b : Buf) (op : Op) (o : Oracle) (h : Inv b) : Inv (step b op o).2.1 := by
  cases op with
  | reserve n => exact ensureCapacity_inv b n o h
  | append bytes =>
    simp only [step, code]
    rcases append_spec b bytes o with ⟨_, _, _, hi⟩ | ⟨_, he⟩
    · exact hi h
    · rw [he]; exact h
  | advance fill =>
    simp only [step, code]
    rcases advance_spec b fill o with ⟨_, _, hi⟩ | ⟨_, he⟩
    · exact hi h
    · rw [he]; exact h
  | resize n =>
    simp only [step, code]
    rcases resize_spec b n o with ⟨_, _, hi, _⟩ | ⟨_, he⟩
    · exact hi
    · rw [he]; exact h
  | clear => simp [step, clear, Inv, Buf.size]
  | shrink =>
    simp only [step]
    split
    · exact (shrinkToFit_spec b o).2.2 h
    · exact h

theorem run_inv (ops : List Op) (b : Buf) (o : Oracle) (h : Inv b) : Inv (run ops b o).2.1 := by
  induction ops generalizing b o with
  | nil => exact h
  | cons op ops ih =>
    simp only [run]
    have := ih (step b op o).2.1 (step b op o).2.2 (step_inv b op o h)
    generalize step b op o = r at *
    obtain ⟨s, b', o'⟩ := r
    simp only at this ⊢
    generalize run ops b' o' = r2 at *
    obtain ⟨ss, b'', o''⟩ := r2
    exact this

end Carquet.Impl.Alloc.Buffer
