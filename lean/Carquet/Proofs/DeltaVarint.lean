import Carquet.Spec.Delta
import Carquet.Impl.Delta
import Carquet.Proofs.VarintImpl
import Carquet.Proofs.Zigzag
/-
The DELTA encodings' ULEB128 and zigzag are `Spec.Varint`'s, and carquet's `read_uleb128` / `write_uleb128` /
`zigzag_*64` in delta.c are those of core/endian.h (`Impl.Varint`) up to the spelling: each copy is identified
with the shared one here, and its facts are read off `Spec/Varint`, `Proofs/VarintImpl` and `Proofs/Zigzag`.
-/
namespace Carquet.Spec.Delta

theorem ulebEncodeAux_eq : ∀ f n, ulebEncodeAux f n = Varint.encodeFuel f n
  | 0, _ => rfl
  | f + 1, n => by rw [ulebEncodeAux, Varint.encodeFuel, ulebEncodeAux_eq f]

theorem ulebEncode_eq (n : Nat) : ulebEncode n = Varint.encode n := ulebEncodeAux_eq n n

theorem ulebDecode_eq : ∀ bs, ulebDecode bs = Varint.decode bs
  | [] => rfl
  | b :: bs => by rw [ulebDecode, Varint.decode, ulebDecode_eq bs]; rfl

theorem ulebEncode_ne_nil (n : Nat) : ulebEncode n ≠ [] := ulebEncode_eq n ▸ Varint.encode_ne_nil n

theorem ulebDecode64_ulebEncode (n : Nat) (tail : List UInt8) (h : n < 2 ^ 64) :
    ulebDecode64 (ulebEncode n ++ tail) = .ok (n, tail) := by
  rw [ulebDecode64, ulebDecode_eq, ulebEncode_eq, Varint.decode_encode_append]
  exact if_pos h

theorem zigzagEnc_eq (i : Int) : zigzagEnc i = Varint.zigzag i := by
  unfold zigzagEnc Varint.zigzag; split <;> omega

theorem zigzagDec_eq (n : Nat) : zigzagDec n = Varint.unzigzag n := by
  unfold zigzagDec Varint.unzigzag; split <;> omega

theorem zigzagEnc_lt64 (i : Int) (h : inI64 i) : zigzagEnc i < 2 ^ 64 := by
  unfold zigzagEnc; unfold inI64 at h; split <;> omega

theorem zigzagDec_zigzagEnc (i : Int) : zigzagDec (zigzagEnc i) = i := by
  rw [zigzagDec_eq, zigzagEnc_eq, Varint.unzigzag_zigzag]

end Carquet.Spec.Delta

namespace Carquet.Impl.Delta
open Carquet.Spec
open Carquet.Spec.Delta (ulebEncode ulebEncode_eq zigzagEnc zigzagDec zigzagEnc_eq zigzagDec_eq inI64 zigzagDec_zigzagEnc
  zigzagEnc_lt64)
open Carquet.Proofs

theorem or128 : ∀ r, r < 256 → (r ||| 128) = r % 128 + 128 := by decide +kernel

theorem ofNat_or128 (a : Nat) : UInt8.ofNat (a ||| 0x80) = UInt8.ofNat (a % 128 + 128) := by
  apply UInt8.toNat_inj.mp
  simp only [UInt8.toNat_ofNat']
  have h1 : (a ||| 128) % 2 ^ 8 = (a % 2 ^ 8 ||| 128 % 2 ^ 8) := Nat.or_mod_two_pow
  have h2 := or128 (a % 256) (Nat.mod_lt _ (by decide))
  simp only [Nat.reducePow, Nat.reduceMod] at h1
  rw [h1, h2]
  omega

/-- `write_uleb128` is `Spec.Varint.encodeFuel` on the value of the 64-bit register -/
theorem writeUlebLoop_eq : ∀ (f : Nat) (v : BitVec 64), writeUlebLoop f v = Varint.encodeFuel f v.toNat
  | 0, _ => rfl
  | f + 1, v => by
    rw [writeUlebLoop, Varint.encodeFuel, writeUlebLoop_eq f, ofNat_or128, BitVec.toNat_ushiftRight,
      Nat.shiftRight_eq_div_pow]
    by_cases h : v.toNat < 128
    · rw [if_pos h, if_neg (Nat.not_le.mpr h)]
    · rw [if_neg h, if_pos (Nat.not_lt.mp h)]

theorem writeUleb128_eq (v : BitVec 64) : writeUleb128 v = ulebEncode v.toNat := by
  rw [writeUleb128, writeUlebLoop_eq, ulebEncode_eq,
    Varint.encodeFuel_eq_encode (Nat.lt_of_lt_of_le v.isLt (by decide))]

theorem length_ulebEncode_le (n k : Nat) (h : n < 2 ^ (7 * (k + 1))) : (ulebEncode n).length ≤ k + 1 :=
  ulebEncode_eq n ▸ Varint.encode_length_le k n h

/-- `read_uleb128` is the reader of core/endian.h with a 64-bit register, counting the bytes instead of returning the rest -/
theorem readUlebLoop_eq : ∀ (f s : Nat) (acc : BitVec 64) (i : Nat) (bs : List UInt8),
    readUlebLoop f s acc i bs =
      (Varint.readLoop 64 f s acc.toNat bs).map fun r => (BitVec.ofNat 64 r.1, i + bs.length - r.2.length)
  | 0, _, _, _, _ => rfl
  | _ + 1, _, _, _, [] => rfl
  | f + 1, s, acc, i, b :: rest => by
    have hacc : (acc ||| (BitVec.ofNat 64 (b.toNat &&& 0x7F) <<< s)).toNat =
        acc.toNat ||| ((b.toNat &&& 0x7F) <<< s) % 2 ^ 64 := by
      rw [BitVec.toNat_or, BitVec.toNat_shiftLeft, BitVec.toNat_ofNat,
        Nat.mod_eq_of_lt (Nat.lt_of_le_of_lt Nat.and_le_right (by decide))]
    rw [readUlebLoop, Varint.readLoop, ← hacc]
    split
    · rw [Option.map_some, BitVec.ofNat_toNat, BitVec.setWidth_eq, List.length_cons, ← Nat.add_assoc,
        Nat.add_right_comm, Nat.add_sub_cancel]
    · rw [readUlebLoop_eq f, List.length_cons, ← Nat.add_assoc, Nat.add_right_comm]

theorem readUleb128_ulebEncode (n : Nat) (tail : List UInt8) (h : n < 2 ^ 64) :
    readUleb128 (ulebEncode n ++ tail) = some (BitVec.ofNat 64 n, (ulebEncode n).length) := by
  rw [readUleb128, readUlebLoop_eq, ulebEncode_eq, show (0#64).toNat = 0 from rfl,
    VarintImpl.readLoop_encode (fuel := 10) h (Varint.encode_length_le 9 n (Nat.lt_of_lt_of_le h (by decide)))]
  simp

/-! zigzag -/

theorem zigzagEncode64_toNat (v : BitVec 64) : (zigzagEncode64 v).toNat = zigzagEnc v.toInt :=
  (Zigzag.enc_eq_spec (n := 63) v).trans (zigzagEnc_eq _).symm

theorem zigzagDecode64_eq (n : BitVec 64) : zigzagDecode64 n = BitVec.ofInt 64 (zigzagDec n.toNat) := by
  rw [zigzagDec_eq, ← Zigzag.dec_eq_spec (n := 63), zigzagDecode64, BitVec.neg_eq_not_add]

theorem zigzagDecode64_zigzagEnc (i : Int) (h : inI64 i) :
    zigzagDecode64 (BitVec.ofNat 64 (zigzagEnc i)) = BitVec.ofInt 64 i := by
  rw [zigzagDecode64_eq, BitVec.toNat_ofNat, Nat.mod_eq_of_lt (zigzagEnc_lt64 i h), zigzagDec_zigzagEnc]

theorem zigzagDecode64_zigzagEncode64 (v : BitVec 64) :
    zigzagDecode64 (BitVec.ofNat 64 (zigzagEncode64 v).toNat) = v := by
  rw [BitVec.ofNat_toNat, BitVec.setWidth_eq, zigzagDecode64_eq, zigzagEncode64_toNat, zigzagDec_zigzagEnc,
    BitVec.ofInt_toInt]

end Carquet.Impl.Delta
