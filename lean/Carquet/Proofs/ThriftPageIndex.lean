import Carquet.Proofs.ThriftWriteStructs
import Carquet.Spec.ParquetThriftPageIndex
/-
The two serialisers of metadata/page_index.c against the compact protocol:
`carquet_offset_index_serialize` writes the canonical encoding of `offsetIndexWrittenTV`,
`carquet_column_index_serialize` writes an admitted encoding of `columnIndexTV` (canonical except
that `thrift_write_bool` spells a false list element 0 where the canonical encoder writes 2).
-/
namespace Carquet.Proofs.Thrift
open Carquet.Spec.Thrift Carquet.Spec.ParquetThrift
open Carquet.Impl.Thrift
open Carquet.Impl.ThriftParquet Carquet.Impl.ThriftPageIndex

/-! ### OffsetIndex -/

theorem pageLocation_ok (p : OIPage) : ValW 1 (fun e => writePageLocation e p) (pageLocationTV p) :=
  ValW.struct _ _ (((stepI64 1 p.offset).comp (stepI32 2 p.compressedSize)).comp (stepI64 3 p.firstRowIndex))

theorem pageLocations_field (b : OffsetIndexB) (hlen : b.pages.length < 2 ^ 31) :
    FieldsW 1 (fun e => wEach writePageLocation (writeListBegin (writeFieldHeader e tList 1) tStruct b.pages.length) b.pages)
      (f1 1 (.list .struct (b.pages.map pageLocationTV))) :=
  stepList 1 .struct writePageLocation pageLocationTV b.pages hlen (fun p _ => pageLocation_ok p)

theorem uncompressedSizes_field (b : OffsetIndexB) (hlen : b.pages.length < 2 ^ 31) :
    FieldsW 1 (fun e => wUncompressedSizes e b)
      (if b.trackUncompressed then f1 2 (.list .i32 (b.pages.map (fun p => .i32 p.uncompressedSize))) else []) := by
  unfold wUncompressedSizes
  cases b.trackUncompressed with
  | false => exact FieldsW.nil 1
  | true =>
    have hl : (b.pages.map (·.uncompressedSize)).length = b.pages.length := List.length_map _
    have h := stepList (k := 1) 2 .i32 writeI .i32 (b.pages.map (·.uncompressedSize)) (by rw [hl]; exact hlen)
      (fun x _ => (ValW.i32 x).mono)
    rw [hl, List.map_map] at h
    exact h

/-- before the F70 repair: the canonical encoding of a struct with a second, non-standard field -/
theorem writeOffsetIndexPreFix_eq (b : OffsetIndexB) (hlen : b.pages.length < 2 ^ 31) :
    writeOffsetIndexPreFix b = encode (offsetIndexWrittenTV b) := by
  have h := ValW.struct _ _ ((pageLocations_field b hlen).comp (uncompressedSizes_field b hlen))
  obtain ⟨h1, _, _⟩ := h Enc.init rfl (by simp [Enc.init, maxNesting])
  have e0 : Enc.init.out = [] := rfl
  rw [e0, List.nil_append] at h1
  exact h1

/-- `carquet_offset_index_serialize` (repaired) appends the canonical encoding of the OffsetIndex value -/
theorem writeOffsetIndex_eq (b : OffsetIndexB) (hlen : b.pages.length < 2 ^ 31) :
    writeOffsetIndex b = encode (offsetIndexTV b) ∧ writeOffsetIndexStatus b = none := by
  have h := ValW.struct _ _ (pageLocations_field b hlen)
  obtain ⟨h1, _, h3⟩ := h Enc.init rfl (by simp [Enc.init, maxNesting])
  refine ⟨?_, h3⟩
  have e0 : Enc.init.out = [] := rfl
  rw [e0, List.nil_append] at h1
  exact h1

theorem pageLocationTV_wf (p : OIPage) (h : p.wf = true) : (pageLocationTV p).wf = true := by
  simp only [OIPage.wf, isI64, isI32, Bool.and_eq_true, decide_eq_true_eq] at h
  simp [pageLocationTV, f1, TVal.wf, wfFields, inI16, inI32, inI64, h]

theorem offsetIndex_pages_lt {b : OffsetIndexB} (h : b.wf = true) : b.pages.length < 2 ^ 31 := by
  simp only [OffsetIndexB.wf, Bool.and_eq_true, decide_eq_true_eq] at h
  have := two_pow_31
  omega

theorem offsetIndexTV_wf (b : OffsetIndexB) (h : b.wf = true) : (offsetIndexTV b).wf = true := by
  have hl' := offsetIndex_pages_lt h
  simp only [OffsetIndexB.wf, Bool.and_eq_true, decide_eq_true_eq, List.all_eq_true] at h
  obtain ⟨hp, _⟩ := h
  have h1 : wfElems .struct (b.pages.map pageLocationTV) = true :=
    wfElems_map _ _ _ (fun p hm => ⟨rfl, pageLocationTV_wf p (hp p hm)⟩)
  simp [offsetIndexTV, f1, TVal.wf, wfFields, inI16, h1, hl']

theorem offsetIndexWrittenTV_wf (b : OffsetIndexB) (h : b.wf = true) : (offsetIndexWrittenTV b).wf = true := by
  have hl' := offsetIndex_pages_lt h
  simp only [OffsetIndexB.wf, Bool.and_eq_true, decide_eq_true_eq, List.all_eq_true] at h
  obtain ⟨hp, _⟩ := h
  have h1 : wfElems .struct (b.pages.map pageLocationTV) = true :=
    wfElems_map _ _ _ (fun p hm => ⟨rfl, pageLocationTV_wf p (hp p hm)⟩)
  have h2 : wfElems .i32 (b.pages.map (fun p => TVal.i32 p.uncompressedSize)) = true :=
    wfElems_map _ _ _ (fun p hm => by
      have := hp p hm
      simp only [OIPage.wf, isI64, isI32, Bool.and_eq_true, decide_eq_true_eq] at this
      exact ⟨rfl, by simp [TVal.wf, inI32, this]⟩)
  unfold offsetIndexWrittenTV
  cases b.trackUncompressed <;>
    simp [f1, TVal.wf, wfFields, inI16, h1, h2, hl']

/-! ### ColumnIndex -/

/-- what `thrift_write_bool` writes for the elements of the null_pages list -/
def boolBytes (bs : List Bool) : List UInt8 := bs.map (fun b => if b then 1 else 0)

/-- the list header `thrift_write_list_begin(enc, THRIFT_TYPE_TRUE, n)` writes -/
def boolListHdr (n : Nat) : List UInt8 := if n < 15 then shortListHdr 1 n else longListHdr 1 n

theorem wEach_writeBool (bs : List Bool) : ∀ e : Enc,
    (wEach writeBool e bs).out = e.out ++ boolBytes bs ∧ (wEach writeBool e bs).lastId = e.lastId ∧
      (wEach writeBool e bs).status = e.status := by
  induction bs with
  | nil => intro e; simp [wEach, boolBytes]
  | cons b r ih =>
    intro e
    obtain ⟨h1, h2, h3⟩ := ih (writeBool e b)
    simp only [wEach, List.foldl_cons] at h1 h2 h3 ⊢
    refine ⟨?_, by rw [h2]; simp [writeBool, writeByte], by rw [h3]; simp [writeBool, writeByte]⟩
    rw [h1]
    cases b <;> simp [writeBool, writeByte, boolBytes]

theorem writeListBegin_bool (e : Enc) (n : Nat) (hn : n < 2 ^ 31) :
    (writeListBegin e (tBool true) (n : Int)).out = e.out ++ boolListHdr n ∧
    (writeListBegin e (tBool true) (n : Int)).lastId = e.lastId ∧
    (writeListBegin e (tBool true) (n : Int)).status = e.status := by
  rw [two_pow_31] at hn
  unfold writeListBegin boolListHdr
  by_cases h15 : n < 15
  · have : ((n : Int) < 15) := by omega
    have hm : ((n : Int) % 16).toNat = n := by omega
    simp [this, h15, writeByte, shortListHdr, hm, tBool]
  · have : ¬ ((n : Int) < 15) := by omega
    have hu := toU64_nat n (Nat.lt_trans hn (by decide))
    simp [this, h15, writeByte, writeVarint, longListHdr, varintBytes_eq, hu, tBool]

theorem nullPages_field (e : Enc) (stk : List Int) (hl : e.lastId = 0 :: stk) (bs : List Bool) (hn : bs.length < 2 ^ 31) :
    (wEach writeBool (writeListBegin (writeFieldHeader e tList 1) (tBool true) (bs.length : Int)) bs).out =
      e.out ++ fieldHdr 0 1 9 ++ boolListHdr bs.length ++ boolBytes bs ∧
    (wEach writeBool (writeListBegin (writeFieldHeader e tList 1) (tBool true) (bs.length : Int)) bs).lastId = 1 :: stk ∧
    (wEach writeBool (writeListBegin (writeFieldHeader e tList 1) (tBool true) (bs.length : Int)) bs).status = e.status := by
  obtain ⟨a1, a2, a3⟩ := writeFieldHeader_spec e tList 1 0 stk hl (by simp [tList]) (by omega) (by omega) (by omega) (by omega)
  obtain ⟨b1, b2, b3⟩ := writeListBegin_bool (writeFieldHeader e tList 1) bs.length hn
  obtain ⟨c1, c2, c3⟩ := wEach_writeBool bs (writeListBegin (writeFieldHeader e tList 1) (tBool true) (bs.length : Int))
  refine ⟨by rw [c1, b1, a1]; rfl, by rw [c2, b2, a2], by rw [c3, b3, a3]⟩

/-- fields 2..5 of the ColumnIndex value -/
def columnIndexRest (b : ColumnIndexB) : Fields :=
  f1 2 (.list .binary (b.pages.map (fun p => boundTV p.minV))) ++
  f1 3 (.list .binary (b.pages.map (fun p => boundTV p.maxV))) ++
  f1 4 (.i32 b.boundaryOrder) ++
  f1 5 (.list .i64 (b.pages.map (fun p => .i64 p.nullCount)))

theorem optBin_ok (o : Option Bytes) : ValW 0 (fun e => writeOptBin e o) (boundTV o) := by
  cases o with
  | none => exact ValW.binary []
  | some x => exact ValW.binary x

theorem columnIndexRest_ok (b : ColumnIndexB) (hlen : b.pages.length < 2 ^ 31) :
    FieldsW 0 (fun e =>
      wEach writeI (writeListBegin (writeFieldHeader
        (wI
          (wEach writeOptBin (writeListBegin (writeFieldHeader
            (wEach writeOptBin (writeListBegin (writeFieldHeader e tList 2) tBinary b.pages.length) (b.pages.map (·.minV)))
            tList 3) tBinary b.pages.length) (b.pages.map (·.maxV)))
          tI32 4 b.boundaryOrder)
        tList 5) tI64 b.pages.length) (b.pages.map (·.nullCount)))
      (columnIndexRest b) := by
  have l1 : (b.pages.map (·.minV)).length = b.pages.length := List.length_map _
  have l2 : (b.pages.map (·.maxV)).length = b.pages.length := List.length_map _
  have l3 : (b.pages.map (·.nullCount)).length = b.pages.length := List.length_map _
  have f2 := stepList (k := 0) 2 .binary writeOptBin boundTV (b.pages.map (·.minV)) (by rw [l1]; exact hlen)
    (fun o _ => optBin_ok o)
  have f3 := stepList (k := 0) 3 .binary writeOptBin boundTV (b.pages.map (·.maxV)) (by rw [l2]; exact hlen)
    (fun o _ => optBin_ok o)
  have f5 := stepList (k := 0) 5 .i64 writeI .i64 (b.pages.map (·.nullCount)) (by rw [l3]; exact hlen)
    (fun x _ => ValW.i64 x)
  rw [l1, List.map_map] at f2
  rw [l2, List.map_map] at f3
  rw [l3, List.map_map] at f5
  exact ((f2.comp f3).comp (stepI32 4 b.boundaryOrder)).comp f5

/-- the bytes `carquet_column_index_serialize` appends -/
theorem writeColumnIndex_bytes (b : ColumnIndexB) (hlen : b.pages.length < 2 ^ 31) :
    writeColumnIndex b = fieldHdr 0 1 9 ++ boolListHdr b.pages.length ++ boolBytes (b.pages.map (·.nullPage)) ++
      encodeFields 1 (columnIndexRest b) ++ [0] ∧ writeColumnIndexStatus b = none := by
  have l0 : (b.pages.map (·.nullPage)).length = b.pages.length := List.length_map _
  have hb : writeStructBegin Enc.init = { Enc.init with lastId := [0] } := by
    simp [writeStructBegin, Enc.init, maxNesting]
  obtain ⟨a1, a2, a3⟩ := nullPages_field { Enc.init with lastId := [0] } [] rfl (b.pages.map (·.nullPage))
    (by rw [l0]; exact hlen)
  rw [l0] at a1 a2 a3
  obtain ⟨r1, r2, r3, _, _⟩ := columnIndexRest_ok b hlen _ 1 [] a2 (by rw [a3]; rfl) (by omega) (by omega)
    (by simp [maxNesting])
  unfold writeColumnIndex writeColumnIndexStatus writeColumnIndexEnc
  rw [hb]
  refine ⟨?_, ?_⟩
  · rw [writeStructEnd_out, r1, a1]
    simp [Enc.init, Enc.out]
  · simp [writeStructEnd, writeFieldStop, writeByte, r3]

theorem enc_boolElems (bs : List Bool) : Enc (.elems (bs.map TVal.bool)) (boolBytes bs) := by
  induction bs with
  | nil => exact Enc.elemsNil
  | cons b r ih =>
    have : boolBytes (b :: r) = [if b then 1 else 0] ++ boolBytes r := rfl
    rw [List.map_cons, this]
    refine Enc.elemsCons ?_ ih
    cases b
    · exact Enc.boolF0
    · exact Enc.boolT

theorem boolListHdr_ok (n : Nat) : ListHdr .bool n (boolListHdr n) := by
  unfold boolListHdr ListHdr
  refine ⟨1, Or.inr ⟨rfl, rfl⟩, ?_⟩
  split
  · rename_i h; exact Or.inl ⟨h, rfl⟩
  · exact Or.inr rfl

theorem columnIndex_pages_lt {b : ColumnIndexB} (h : b.wf = true) : b.pages.length < 2 ^ 31 := by
  simp only [ColumnIndexB.wf, Bool.and_eq_true, decide_eq_true_eq] at h
  have := two_pow_31
  omega

theorem columnIndexRest_wf (b : ColumnIndexB) (h : b.wf = true) : wfFields (columnIndexRest b) = true := by
  have hl' := columnIndex_pages_lt h
  simp only [ColumnIndexB.wf, Bool.and_eq_true, decide_eq_true_eq, List.all_eq_true, isI32] at h
  obtain ⟨⟨hp, _⟩, ho⟩ := h
  have hb : ∀ (sel : CIPage → Option Bytes), (∀ p ∈ b.pages, okOpt (fun x => isBin x && !x.isEmpty) (sel p) = true) →
      wfElems .binary (b.pages.map (fun p => boundTV (sel p))) = true := by
    intro sel hs
    refine wfElems_map _ _ _ (fun p hm => ⟨rfl, ?_⟩)
    have := hs p hm
    cases hsel : sel p with
    | none => simp [boundTV, TVal.wf]
    | some x =>
      rw [hsel] at this
      simp only [okOpt, isBin, Bool.and_eq_true, decide_eq_true_eq] at this
      simp [boundTV, TVal.wf, two_pow_31, this.1]
  have h2 := hb (·.minV) (fun p hm => by
    have := hp p hm; simp only [CIPage.wf, Bool.and_eq_true] at this; exact this.1.2)
  have h3 := hb (·.maxV) (fun p hm => by
    have := hp p hm; simp only [CIPage.wf, Bool.and_eq_true] at this; exact this.2)
  have h5 : wfElems .i64 (b.pages.map (fun p => TVal.i64 p.nullCount)) = true :=
    wfElems_map _ _ _ (fun p hm => by
      have := hp p hm
      simp only [CIPage.wf, isI64, Bool.and_eq_true, decide_eq_true_eq] at this
      exact ⟨rfl, by simp [TVal.wf, inI64, this.1.1]⟩)
  simp [columnIndexRest, f1, wfFields, TVal.wf, inI16, inI32, h2, h3, h5, hl', ho]

/-- **`carquet_column_index_serialize` writes an admitted compact-protocol encoding of the
ColumnIndex value** (canonical except for the spelling 0 of a false list element) -/
theorem writeColumnIndex_encodes (b : ColumnIndexB) (h : b.wf = true) :
    Encodes (columnIndexTV b) (writeColumnIndex b) ∧ writeColumnIndexStatus b = none := by
  have hl' := columnIndex_pages_lt h
  obtain ⟨hb, hs⟩ := writeColumnIndex_bytes b hl'
  refine ⟨?_, hs⟩
  rw [hb]
  have hrest := enc_encodeFields (columnIndexRest b) (columnIndexRest_wf b h) 1
  have hlist : Enc (.val (.list .bool (b.pages.map (fun p => TVal.bool p.nullPage))))
      (boolListHdr b.pages.length ++ boolBytes (b.pages.map (·.nullPage))) := by
    have he := enc_boolElems (b.pages.map (·.nullPage))
    rw [List.map_map] at he
    have hlen : (b.pages.map (fun p => TVal.bool p.nullPage)).length = b.pages.length := List.length_map _
    refine Enc.list (by rw [hlen]; exact hl') ?_ (by rw [hlen]; exact boolListHdr_ok _) he
    intro x hx
    obtain ⟨p, _, rfl⟩ := List.mem_map.mp hx
    rfl
  have hf : Enc (.fields 0 ((1, .list .bool (b.pages.map (fun p => TVal.bool p.nullPage))) :: columnIndexRest b))
      (fieldHdr 0 1 9 ++ (boolListHdr b.pages.length ++ boolBytes (b.pages.map (·.nullPage))) ++
        encodeFields 1 (columnIndexRest b)) :=
    Enc.fieldsCons (by unfold inI16; omega) (by simp [TVal.ty]) (fieldHdr_ok 0 1 9) hlist hrest
  have := Enc.struct hf
  simpa [Encodes, columnIndexTV, columnIndexRest, f1, List.append_assoc] using this

end Carquet.Proofs.Thrift
