import Carquet.Proofs.ThriftSafe
/-
C06, implementation half — PREFIX MONOTONICITY of the Thrift decoder (code after fix F62), part 1: the field loop
and `thrift_skip` run in lock-step on an input and on an extension of it (`Ext`, `Good`: Proofs.ImplReadsExt).
The straight-line readers are `Good` by `Fwd.ext` (Proofs.ThriftSafe); their two halves are stated here for the
readers the page-header parser calls.
-/
namespace Carquet.Proofs.ImplReads.Prefix
open Carquet.Impl Carquet.Impl.Thrift
open Carquet.Proofs.Thrift (fieldLoop_end fieldLoop_iter fieldLoop_of_err setError_status_ne)
open Carquet.Proofs.ThriftSafe (fwd_readByteRaw fwd_readVarint fwd_readI32 fwd_readI64 fwd_readBool fwd_readBinary
  fwd_readFieldBeginK fwd_readFieldBegin fwd_readListBegin fwd_readMapBegin fwd_skipFixed)

variable {x : List UInt8} {N : Nat}

/-! ### the readers of the page-header parser -/

theorem readI32_st (d : Dec) (h : (readI32 d).2.status = none) : d.status = none := (fwd_readI32.adv d).ok h
theorem readI64_st (d : Dec) (h : (readI64 d).2.status = none) : d.status = none := (fwd_readI64.adv d).ok h
theorem readI32_ext {d d' : Dec} (hE : Ext x N d d') (hs : (readI32 d).2.status = none) :
    (readI32 d').1 = (readI32 d).1 ∧ Ext x N (readI32 d).2 (readI32 d').2 := fwd_readI32.ext.2 d d' hE hs
theorem readI64_ext {d d' : Dec} (hE : Ext x N d d') (hs : (readI64 d).2.status = none) :
    (readI64 d').1 = (readI64 d).1 ∧ Ext x N (readI64 d).2 (readI64 d').2 := fwd_readI64.ext.2 d d' hE hs

theorem readBinary_st (d : Dec) (h : (readBinary d).2.2.status = none) : d.status = none :=
  ((fwd_readBinary fun r => r.1).ext (x := []) (N := 0)).sticky h rfl

theorem readBinary_ext {d d' : Dec} (hE : Ext x N d d') (hs : (readBinary d).2.2.status = none) :
    (readBinary d').1 = (readBinary d).1 ∧ (readBinary d').2.1 = (readBinary d).2.1 ∧
      Ext x N (readBinary d).2.2 (readBinary d').2.2 :=
  ⟨((fwd_readBinary fun r => r.1).ext.lockstep hE hs rfl).1, (fwd_readBinary fun r => r.2.1).ext.lockstep hE hs rfl⟩

theorem readBool_st (d : Dec) (h : (readBool d).2.status = none) : d.status = none := (fwd_readBool.adv d).ok h
theorem readBool_ext {d d' : Dec} (hE : Ext x N d d') (hs : (readBool d).2.status = none) :
    (readBool d').1 = (readBool d).1 ∧ Ext x N (readBool d).2 (readBool d').2 := fwd_readBool.ext.2 d d' hE hs

theorem readFieldBeginK_st (h0 : UInt8) (d : Dec) (h : (readFieldBeginK h0 d).dec.status = none) : d.status = none :=
  ((fwd_readFieldBeginK h0).adv d).ok h

theorem readFieldBegin_st (d : Dec) (h : (readFieldBegin d).dec.status = none) : d.status = none :=
  (fwd_readFieldBegin.adv d).ok h

theorem readListBegin_st (d : Dec) (h : (readListBegin d).dec.status = none) : d.status = none :=
  (fwd_readListBegin.adv d).ok h

theorem readMapBegin_st (d : Dec) (h : (readMapBegin d).dec.status = none) : d.status = none :=
  (fwd_readMapBegin.adv d).ok h

/-! ### the struct brackets (they change the nesting level, so they are not `Fwd`) -/

theorem good_structBegin : GoodD x N structBegin :=
  .peek (·.lastId) (fun _ _ hE => hE.lastId)
    (g := fun l d => if maxNesting ≤ l.length then d.setError .decode else { d with lastId := 0 :: d.lastId })
    fun _ => .ite .fail (good_mapLastId _)

theorem good_structEnd : GoodD x N structEnd := good_mapLastId _

theorem structBegin_st (d : Dec) (h : (structBegin d).status = none) : d.status = none :=
  (good_structBegin (x := []) (N := 0)).1 d h
theorem structBegin_ext {d d' : Dec} (hE : Ext x N d d') (hs : (structBegin d).status = none) :
    Ext x N (structBegin d) (structBegin d') := (good_structBegin.2 d d' hE hs).2
theorem structEnd_ext {d d' : Dec} (hE : Ext x N d d') : Ext x N (structEnd d) (structEnd d') :=
  (good_structEnd.2 d d' hE hE.st).2

/-! ### loops -/

theorem good_repeatOk {f : Dec → Dec} (hf : GoodD x N f) : ∀ n, GoodD x N (repeatOk f n)
  | 0 => .pure
  | n + 1 => .guard (hf.bind fun _ => good_repeatOk hf n)

theorem fieldLoop_st {σ : Type} (stop : σ → Bool) (body : Nat → Int → Dec → σ → σ × Dec)
    (f : Nat) (d : Dec) (s : σ) (h : (fieldLoop stop body f d s).2.status = none) : d.status = none := by
  cases hd : d.status with
  | none => rfl
  | some e => rw [fieldLoop_of_err stop body f d s e hd, hd] at h; cases h

theorem fieldLoop_ext {σ : Type} (stop : σ → Bool) (body : Nat → Int → Dec → σ → σ × Dec)
    (hb : ∀ ty fid s, GoodP x N (fun d => body ty fid d s)) :
    ∀ (f f' : Nat) (d d' : Dec) (s : σ), f ≤ f' → Ext x N d d' → (fieldLoop stop body f d s).2.status = none →
      (fieldLoop stop body f' d' s).1 = (fieldLoop stop body f d s).1 ∧
        Ext x N (fieldLoop stop body f d s).2 (fieldLoop stop body f' d' s).2 := by
  intro f
  induction f with
  | zero => intro _ d _ s _ _ h; exact absurd h (setError_status_ne _ _)
  | succ f ih =>
    intro f' d d' s hf hE hs
    obtain ⟨f', rfl⟩ : ∃ g, f' = g + 1 := ⟨f' - 1, by omega⟩
    -- the header of the next field is read alike on both inputs, once the short run is known to get past it
    have hfb : (readFieldBegin d).dec.status = none → (readFieldBegin d').more = (readFieldBegin d).more ∧
        (readFieldBegin d').ty = (readFieldBegin d).ty ∧ (readFieldBegin d').fid = (readFieldBegin d).fid ∧
        Ext x N (readFieldBegin d).dec (readFieldBegin d').dec := fun h => by
      obtain ⟨hv, h4⟩ := fwd_readFieldBegin.ext.2 d d' hE h
      simp only [Prod.mk.injEq] at hv
      exact ⟨hv.1, hv.2.1, hv.2.2, h4⟩
    -- … and so is its body
    have hbody : (body (readFieldBegin d).ty (readFieldBegin d).fid (readFieldBegin d).dec s).2.status = none →
        body (readFieldBegin d').ty (readFieldBegin d').fid (readFieldBegin d').dec s =
          ((body (readFieldBegin d).ty (readFieldBegin d).fid (readFieldBegin d).dec s).1,
            (body (readFieldBegin d').ty (readFieldBegin d').fid (readFieldBegin d').dec s).2) ∧
        (readFieldBegin d').more = (readFieldBegin d).more ∧
        Ext x N (body (readFieldBegin d).ty (readFieldBegin d).fid (readFieldBegin d).dec s).2
          (body (readFieldBegin d').ty (readFieldBegin d').fid (readFieldBegin d').dec s).2 := fun h => by
      obtain ⟨h1, h2, h3, h4⟩ := hfb ((hb _ _ _).1 _ h)
      obtain ⟨h5, h6⟩ := (hb (readFieldBegin d).ty (readFieldBegin d).fid s).2 _ _ h4 h
      rw [h2, h3]
      exact ⟨Prod.ext h5 rfl, h1, h6⟩
    cases hm : (readFieldBegin d).more
    · rw [fieldLoop_end _ _ _ _ _ hm] at hs ⊢
      obtain ⟨h1, _, _, h4⟩ := hfb hs
      rw [fieldLoop_end _ _ _ _ _ (h1.trans hm)]
      exact ⟨rfl, h4⟩
    · cases hstop : stop (body (readFieldBegin d).ty (readFieldBegin d).fid (readFieldBegin d).dec s).1
      · rw [fieldLoop_iter _ _ _ _ _ hm, hstop, if_neg Bool.false_ne_true] at hs ⊢
        obtain ⟨h5, h1, h6⟩ := hbody (fieldLoop_st stop body _ _ _ hs)
        rw [fieldLoop_iter _ _ _ _ _ (h1.trans hm), h5, hstop, if_neg Bool.false_ne_true]
        exact ih f' _ _ _ (by omega) h6 hs
      · rw [fieldLoop_iter _ _ _ _ _ hm, hstop, if_pos rfl] at hs ⊢
        obtain ⟨h5, h1, h6⟩ := hbody hs
        rw [fieldLoop_iter _ _ _ _ _ (h1.trans hm), h5, hstop, if_pos rfl]
        exact ⟨rfl, h6⟩

theorem good_structLoop {σ : Type} (body : Nat → Int → Dec → σ → σ × Dec)
    (hb : ∀ ty fid s, GoodP x N (fun d => body ty fid d s)) (init : σ) :
    GoodP x N (fun d => ((fieldLoop (fun _ => false) body d.budget (structBegin d) init).1,
      structEnd (fieldLoop (fun _ => false) body d.budget (structBegin d) init).2)) :=
  ⟨fun d h => (good_structBegin (x := x) (N := N)).1 d (fieldLoop_st _ _ _ _ _ h), fun d d' hE hs => by
    obtain ⟨h1, h2⟩ := fieldLoop_ext _ body hb d.budget d'.budget _ _ init hE.bud
      (good_structBegin.2 d d' hE (fieldLoop_st _ _ _ _ _ hs)).2 hs
    exact ⟨h1, (good_structEnd.2 _ _ h2 hs).2⟩⟩

/-! ### `thrift_skip` -/

section
variable {sk : Nat → Dec → Dec} (hsk : ∀ ty, GoodD x N (sk ty))
include hsk

theorem good_skipElement (ty : Nat) : GoodD x N (skipElement Cfg.fixed sk ty) := by
  unfold skipElement
  simp only [Cfg.fixed, if_true]
  exact .guard (.ite (fwd_readByteRaw.ext.bind (g := fun _ d => d) fun _ => .pure) (hsk ty))

theorem good_skipListBody : GoodD x N (skipListBody Cfg.fixed sk) :=
  fwd_readListBegin.ext.bind' (k := fun a => repeatOk (skipElement Cfg.fixed sk a.1) a.2.toNat)
    (fun a => good_repeatOk (good_skipElement hsk a.1) _)
    (fun r => repeatOk (skipElement Cfg.fixed sk r.elemTy) r.count.toNat r.dec)

theorem good_skipMapBody : GoodD x N (skipMapBody Cfg.fixed sk) :=
  fwd_readMapBegin.ext.bind'
    (k := fun a => repeatOk (fun y => skipElement Cfg.fixed sk a.2.1 (skipElement Cfg.fixed sk a.1 y)) a.2.2.toNat)
    (fun a => good_repeatOk ((good_skipElement hsk a.1).bind fun _ => good_skipElement hsk a.2.1) _)
    (fun r => repeatOk (fun y => skipElement Cfg.fixed sk r.valTy (skipElement Cfg.fixed sk r.keyTy y)) r.count.toNat r.dec)

omit hsk in
theorem good_enterContainer : GoodP x N enterContainer :=
  .peek (·.lastId) (fun _ _ hE => hE.lastId)
    (g := fun l d => if maxNesting ≤ l.length then (false, d.setError .decode) else (true, { d with lastId := 0 :: d.lastId }))
    fun _ => .ite .fail ((good_mapLastId (0 :: ·)).map fun _ => true)

omit hsk in
theorem good_skipContainer {body : Dec → Dec} (hbody : GoodD x N body) : GoodD x N (skipContainer Cfg.fixed body) := by
  unfold skipContainer
  simp only [Cfg.fixed, if_true]
  exact good_enterContainer.bind fun b => .ite (c := b = true) (hbody.bind fun _ => good_mapLastId List.tail)
    (.pure)

theorem good_skipCase (ty : Nat) : GoodD x N (skipCase Cfg.fixed sk ty) :=
  .ite .fail <|
  .ite (.peek (·.boolValue) (fun _ _ hE => hE.bv) (g := fun v d => { d with boolPending := false, boolValue := v })
    fun v => good_setBool false v) <|
  .ite (fwd_skipFixed 1).ext <|
  .ite (fwd_readVarint.ext.bind (g := fun _ d => d) fun _ => .pure) <|
  .ite (fwd_skipFixed 8).ext <|
  .ite ((fwd_readBinary fun _ => ()).ext.bind (g := fun _ d => d) fun _ => .pure) <|
  .ite (good_skipContainer (good_skipListBody hsk)) <|
  .ite (good_skipContainer (good_skipMapBody hsk)) <|
  .ite ((good_structLoop (fun ty _ d s => (s, sk ty d)) (fun ty _ s => (hsk ty).map fun _ => s) ()).bind (g := fun _ d => d)
    fun _ => .pure) <|
  .ite (fwd_skipFixed 16).ext .fail

end

theorem good_skip : ∀ stk ty, GoodD x N (skip Cfg.fixed stk ty)
  | 0, _ => .fail
  | stk + 1, ty => .guard (good_skipCase (good_skip stk) ty)

theorem good_skipField (ty : Nat) : GoodD x N (skipField Cfg.fixed ty) := good_skip _ ty

theorem skipField_ext (ty : Nat) {d d' : Dec} (hE : Ext x N d d') (hs : (skipField Cfg.fixed ty d).status = none) :
    Ext x N (skipField Cfg.fixed ty d) (skipField Cfg.fixed ty d') := ((good_skipField ty).2 d d' hE hs).2

/-- `thrift_skip` returns at once on a decoder in error, with or without the repairs (lock-step needs them:
`readerSkip` clamps at the end of the input it sees) -/
theorem skip_st (cfg : Cfg) (stk ty : Nat) (d : Dec) (h : (skip cfg stk ty d).status = none) : d.status = none := by
  cases stk with
  | zero => exact absurd h (setError_status_ne _ _)
  | succ stk =>
    rw [skip] at h
    split at h
    · rename_i e he; rw [he] at h; cases h
    · assumption

theorem skipField_st (cfg : Cfg) (ty : Nat) (d : Dec) (h : (skipField cfg ty d).status = none) : d.status = none :=
  skip_st cfg _ ty d h

end Carquet.Proofs.ImplReads.Prefix
