import Carquet.Proofs.AllocFlow
import Carquet.Proofs.AllocSchema
/-
The flow models against `Run` (C19), one statement per function: the repaired flows are `Strict` (a refused request
surfaces as an error, success means the fault-free result, no NULL dereference); the two read-side flows that absorb a
refused request (mmap fallback, ignored prefetch) are `Run` with a post-condition that ignores the certificate.
-/
namespace Carquet.Impl.Alloc.Flow
open Carquet.Impl.Alloc
open Carquet.Impl.Alloc.Buffer (Buf)

theorem run_arenaInitM (bs : Nat) : Strict (arenaInitM bs) := strict_of_cases fun o => by
  unfold arenaInitM Arena.initSize Arena.newBlock
  cases hg : o.grant
  · exact .inl ⟨.oom, o.rest, by simp, by decide⟩
  · exact .inr ⟨_, o.rest, rfl, Granted.step o hg, rfl⟩

theorem run_reqAll3 : Strict reqAll3 :=
  run_bind run_reqU fun _ a ha => run_bind run_reqU fun _ b hb => run_bind run_reqU fun _ c hc => by
    subst ha hb hc
    cases a <;> cases b <;> cases c <;> first | exact run_fail | exact strict_pure trivial

/-! ### schema builder -/

theorem run_schemaCreate : Strict (schemaCreate true) :=
  strict_bind run_req fun _ _ => strict_bind (run_arenaInitM _) fun _ _ => strict_bind run_req fun _ _ =>
  run_arenaU_guard fun _ => strict_bind run_reqAll3 fun _ _ => strict_pure trivial

theorem run_schemaBuild (cols : List (List UInt8 × Nat)) : Strict (schemaBuild true cols) :=
  strict_bind run_schemaCreate fun _ _ => strict_forEach' fun _ _ => run_schemaAddColumn _ _ _

/-! ### page builder -/

theorem run_appendRawLevels (b : Buf) (l : Levels) : Strict (appendRawLevels b l) := by
  cases l
  · exact run_appendM _ _
  · exact run_appendAll _ _

theorem run_pageAddValues (w : PageWriter) (rows : Nat) (d r : Levels) (vc : List (List UInt8)) :
    Strict (pageAddValues w rows d r vc) :=
  strict_bind (run_ite (run_appendRawLevels _ _) (strict_pure trivial)) fun _ _ =>
  strict_bind (run_ite (run_appendRawLevels _ _) (strict_pure trivial)) fun _ _ =>
  strict_bind (run_appendAll _ _) fun _ _ => strict_pure trivial

theorem run_encodeLevels (P : Payload) (raw : List UInt8) (maxLevel : Nat) (out : Buf) :
    Strict (encodeLevels P raw maxLevel out) :=
  run_ite (strict_pure trivial) <|
    strict_bind run_req fun _ _ => strict_bind (run_encodeChecked _ _) fun _ _ =>
    strict_bind (run_appendM _ _) fun _ _ => run_appendM _ _

theorem run_compressData (P : Payload) (codec : Nat) (input : List UInt8) (out : Buf) :
    Strict (compressData P codec input out) :=
  run_ite (run_appendM _ _) (strict_bind run_req fun _ _ => run_appendM _ _)

theorem run_pageBody (P : Payload) (w : PageWriter) : Strict (pageBody encodeLevels P w) :=
  strict_bind (run_ite (run_encodeLevels _ _ _ _) (strict_pure trivial)) fun _ _ =>
  strict_bind (run_ite (run_encodeLevels _ _ _ _) (strict_pure trivial)) fun _ _ =>
  run_ite (run_ite (strict_pure trivial) (run_appendM _ _)) (run_appendM _ _)

theorem run_pageFinalize (P : Payload) (w : PageWriter) : Strict (pageFinalize P w) :=
  strict_bind (run_pageBody P w) fun _ _ => strict_bind (run_compressData _ _ _ _) fun _ _ =>
  strict_bind (run_encodeChecked _ _) fun _ _ => strict_bind (run_appendM _ _) fun _ _ => strict_pure trivial

theorem run_pageWriterCreate (d r : Nat) (b : Bool) (c : Nat) : Strict (pageWriterCreate d r b c) :=
  strict_bind run_req fun _ _ => strict_pure trivial

/-! ### column writer, row group writer, file writer

One data invariant is needed: the repaired flush_row_group never stores a chunk without its encodings list
(`WriterInv`), so the footer writer never dereferences NULL. -/

theorem run_columnWriterCreate (d r : Nat) (b : Bool) (c t : Nat) : Strict (columnWriterCreate d r b c t) :=
  strict_bind run_req fun _ _ => strict_bind (run_pageWriterCreate _ _ _ _) fun _ _ => strict_pure trivial

theorem run_rowGroupAddColumn (codec target : Nat) (rg : RowGroupWriter) (c : ColDef) :
    Strict (rowGroupAddColumn true codec target rg c) :=
  strict_bind run_req fun _ _ => strict_bind run_req fun _ _ =>
  strict_bind (run_columnWriterCreate _ _ _ _ _) fun _ _ => run_reqU_guard (strict_pure trivial)

theorem run_ensureRowGroup (codec target : Nat) (cols : List ColDef) : Strict (ensureRowGroup true codec target cols) :=
  strict_bind run_req fun _ _ => strict_forEach' fun _ _ => run_rowGroupAddColumn _ _ _ _

theorem run_writerAddColumn (st : Nat × Nat) (c : ColDef) : Strict (writerAddColumn st c) :=
  strict_bind (run_reqIf _) fun _ _ => strict_bind (run_reqIf _) fun _ _ => strict_bind run_req fun _ _ =>
  strict_pure trivial

def AllEnc (l : List ChunkMeta) : Prop := ∀ c ∈ l, c.hasEncodings = true

theorem allEnc_snoc {l : List ChunkMeta} {c : ChunkMeta} (hl : AllEnc l) (hc : c.hasEncodings = true) : AllEnc (l ++ [c]) := by
  intro x hx
  rcases List.mem_append.mp hx with h | h
  · exact hl x h
  · simp at h; subst h; exact hc

def WriterInv (w : Writer) : Prop := ∀ rg ∈ w.rowGroups, AllEnc rg

theorem footerDerefOk_of_inv (m : FileMeta) (h : ∀ rg ∈ m.rowGroups, AllEnc rg) : footerDerefOk m = true := by
  unfold footerDerefOk
  simp only [List.all_eq_true]
  intro rg hrg c hc
  exact h rg hrg c hc

theorem run_writerCreate (codec target : Nat) (cols : List ColDef) : Strict (writerCreate codec target cols) WriterInv :=
  strict_bind run_req fun _ _ => strict_bind (run_arenaInitM _) fun _ _ => strict_bind run_req fun _ _ =>
  strict_bind (strict_forEach' fun _ _ => run_writerAddColumn _ _) fun _ _ =>
  strict_pure fun _ hrg => absurd hrg List.not_mem_nil

theorem run_chunkMeta (S : Sizes) (st : Arena.Arena × List ChunkMeta) (c : Option (List UInt8) × Nat) (hst : AllEnc st.2) :
    Strict (chunkMeta true S st c) fun r => AllEnc r.2 := by
  obtain ⟨path, n⟩ := c
  refine run_arenaU_guard fun _ => run_arenaU_guard fun _ => ?_
  have hpush := allEnc_snoc hst (c := ⟨none, true, n⟩) rfl
  cases path with
  | none => exact strict_pure hpush
  | some path => exact run_ite (strict_pure hpush) (run_arenaU_guard fun _ => strict_pure (allEnc_snoc hst rfl))

theorem run_buildFileMetadata (S : Sizes) (w : Writer) :
    Strict (buildFileMetadata true S w) fun r => r.2.rowGroups = w.rowGroups :=
  run_arenaU_guard fun _ => strict_bind (run_arenaM _ _ _) fun _ _ => run_arenaU_guard fun _ =>
  strict_bind (strict_forEach' fun _ _ => run_arenaU_guard fun _ => strict_pure trivial) fun _ _ =>
  strict_bind (run_arenaM _ _ _) fun _ _ => strict_pure rfl

section Writer
variable {fin : Payload → PageWriter → M (PageWriter × List UInt8)} (hfin : ∀ P w, Strict (fin P w))
include hfin

theorem run_flushCurrentPage (P : Payload) (cw : ColumnWriter) : Strict (flushCurrentPage fin P cw) :=
  run_ite (strict_pure trivial) <|
    strict_bind (hfin _ _) fun _ _ => strict_bind (run_appendM _ _) fun _ _ => strict_pure trivial

theorem run_columnWriteBatch (P : Payload) (cw : ColumnWriter) (b : Batch) : Strict (columnWriteBatch fin P cw b) :=
  strict_bind (run_pageAddValues _ _ _ _ _) fun _ _ => run_ite (run_flushCurrentPage hfin _ _) (strict_pure trivial)

theorem run_rowGroupFinalize (P : Payload) (rg : RowGroupWriter) : Strict (rowGroupFinalize fin P rg) :=
  strict_bind
    (strict_forEach' fun _ _ =>
      strict_bind (run_flushCurrentPage hfin _ _) fun _ _ => strict_bind (run_appendM _ _) fun _ _ => strict_pure trivial)
    fun _ _ => strict_pure trivial

theorem run_writerWriteBatch (P : Payload) (w : Writer) (i : Nat) (b : Batch) (hw : WriterInv w) :
    Strict (writerWriteBatch true fin P w i b) WriterInv := by
  unfold writerWriteBatch
  refine strict_bind (Q := fun _ => True) ?_ fun rg _ => ?_
  · cases w.rg
    · exact run_ensureRowGroup _ _ _
    · exact strict_pure trivial
  · cases rg.cols[i]?
    · exact run_fail
    · exact strict_bind (run_columnWriteBatch hfin _ _ _) fun _ _ => strict_pure hw

theorem run_flushRowGroup (P : Payload) (S : Sizes) (w : Writer) (hw : WriterInv w) :
    Strict (flushRowGroup true fin P S w) WriterInv := by
  unfold flushRowGroup
  cases w.rg with
  | none => exact strict_pure hw
  | some rg =>
    refine strict_bind (run_rowGroupFinalize hfin _ _) fun _ _ => strict_bind (run_reqIf _) fun _ _ =>
      strict_bind (run_arenaM _ _ _) fun _ _ =>
      strict_bind (strict_forEach (R := fun _ r => AllEnc r.2) (fun _ hc => absurd hc List.not_mem_nil)
        fun _ c st hst => run_chunkMeta S st c hst) fun r hr => strict_pure ?_
    intro g hg
    rcases List.mem_append.mp hg with h | h
    · exact hw g h
    · simp at h; subst h; exact hr

theorem run_writerClose (P : Payload) (S : Sizes) (footer : FileMeta → List (List UInt8)) (w : Writer) (hw : WriterInv w) :
    Strict (writerClose true fin P S footer w) := by
  unfold writerClose
  refine strict_bind (run_flushRowGroup hfin P S w hw) fun w1 hw1 => strict_bind (run_buildFileMetadata S w1) fun r hr => ?_
  -- the footer writer's dereferences are safe: every chunk kept by `flushRowGroup` has its lists
  simp only [footerDerefOk_of_inv r.2 (by rw [hr]; exact hw1), Bool.not_true, Bool.false_eq_true, if_false]
  exact strict_bind (run_encodeChecked _ _) fun _ _ => strict_pure trivial

theorem run_writeRowGroup (P : Payload) (w : Writer) (bs : List Batch) (hw : WriterInv w) :
    Strict (writeRowGroup true fin P w bs) WriterInv :=
  strict_bind
    (strict_forEach (R := fun _ (st : Writer × Nat) => WriterInv st.1) hw fun _ b st hst =>
      strict_bind (run_writerWriteBatch hfin P st.1 st.2 b hst) fun _ hw' => strict_pure hw')
    fun _ hst => strict_pure hst

theorem run_writeFile (P : Payload) (S : Sizes) (footer : FileMeta → List (List UInt8)) (codec target : Nat)
    (cols : List ColDef) (groups : List (List Batch)) :
    Strict (writeFile true fin P S footer codec target cols groups) :=
  strict_bind (run_writerCreate codec target cols) fun _ hw =>
  strict_bind (strict_forEach (R := fun _ => WriterInv) hw fun _ g w1 hwi =>
      strict_bind (run_writeRowGroup hfin P w1 g hwi) fun w' hw' => run_flushRowGroup hfin P S w' hw')
    fun w' hw' => run_writerClose hfin P S footer w' hw'

end Writer

/-! ### read side -/

theorem run_listAlloc (ar : Arena.Arena) (count size : Nat) : Strict (listAlloc true ar count size) := by
  have : listAlloc true ar count size = arenaM ar (count * size) 16 := by rw [arenaM_eq]; rfl
  rw [this]; exact run_arenaM ..

theorem run_strAlloc (ar : Arena.Arena) (s : List UInt8) : Strict (strAlloc true ar s) fun r => r.2 = some s :=
  run_bind (run_arenaU ..) fun _ r hg => by
    obtain ⟨ar', got⟩ := r
    cases got
    · exact run_fail
    · obtain rfl := hg rfl; exact strict_pure rfl

theorem strict_forEach_map {xs : List α} {f : (γ × List β) → α → M (γ × List β)} {g : α → β} (st : γ × List β)
    (hf : ∀ st x, Strict (f st x) fun r => r.2 = st.2 ++ [g x]) :
    Strict (forEach xs st f) fun r => r.2 = st.2 ++ xs.map g :=
  strict_forEach (R := fun pre r => r.2 = st.2 ++ pre.map g) (by simp) fun pre x s hs =>
    (hf s x).mono fun _ r hr => ⟨hr.1, by simp [hr.2, hs]⟩

theorem run_parseStrings (ar : Arena.Arena) (l : List (List UInt8)) :
    Strict (parseStrings true ar l) fun r => r.2 = l.map some :=
  (strict_forEach_map (g := some) (ar, []) fun st s =>
    strict_bind (run_strAlloc st.1 s) fun r hr => strict_pure (by simp [hr])).mono fun _ r hr => by simpa using hr

theorem run_parseChunk (S : Sizes) (st : Arena.Arena × List (List (Option (List UInt8)))) (c : ColShape) :
    Strict (parseChunk true S st c) fun r => r.2 = st.2 ++ [c.path.map some] :=
  strict_bind (run_listAlloc _ _ _) fun _ _ => strict_bind (run_listAlloc _ _ _) fun a2 _ =>
  strict_bind (run_parseStrings a2 c.path) fun r hr => strict_pure (by simp [hr])

theorem run_parseRowGroup (S : Sizes) (st : Arena.Arena × List (List (List (Option (List UInt8))))) (rg : List ColShape) :
    Strict (parseRowGroup true S st rg) fun r => r.2 = st.2 ++ [rg.map (fun c => c.path.map some)] :=
  strict_bind (run_listAlloc _ _ _) fun a1 _ =>
  strict_bind (strict_forEach_map (g := fun c => c.path.map some) (a1, []) (run_parseChunk S))
    fun r hr => strict_pure (by simp at hr; simp [hr])

/-- the metadata a successful parse yields: every string present -/
def fullMeta (f : FooterShape) : ParsedMeta :=
  ⟨f.schemaNames.map some, f.rowGroups.map (fun rg => rg.map (fun c => c.path.map some)), f.createdBy.map some⟩

theorem run_parseFileMetadata (S : Sizes) (ar : Arena.Arena) (f : FooterShape) :
    Strict (parseFileMetadata true S ar f) fun r => r.2 = fullMeta f := by
  unfold parseFileMetadata
  refine strict_bind (run_listAlloc _ _ _) fun a1 _ => strict_bind (run_parseStrings a1 f.schemaNames) fun names hn =>
    strict_bind (run_listAlloc _ _ _) fun a2 _ =>
    strict_bind (strict_forEach_map (g := fun rg => rg.map (fun c => c.path.map some)) (a2, []) (run_parseRowGroup S))
      fun rgs hr => ?_
  simp at hr
  cases hcb : f.createdBy with
  | none => exact strict_pure (by simp [fullMeta, hn, hr, hcb])
  | some cb =>
    exact strict_bind (run_strAlloc rgs.1 cb) fun r hrr => strict_pure (by simp [fullMeta, hn, hr, hcb, hrr])

theorem run_buildSchema (S : Sizes) (ar : Arena.Arena) (leaves : Nat) : Strict (buildSchema S ar leaves) :=
  strict_bind (run_arenaM _ _ _) fun _ _ =>
  run_bind (run_arenaU ..) fun _ l1 h1 => run_bind (run_arenaU ..) fun _ l2 h2 => run_bind (run_arenaU ..) fun _ l3 h3 => by
    obtain ⟨_, b1⟩ := l1; obtain ⟨_, b2⟩ := l2; obtain ⟨_, b3⟩ := l3
    cases b1 <;> cases b2 <;> cases b3 <;> first | exact run_fail | skip
    obtain rfl := h1 rfl; obtain rfl := h2 rfl; obtain rfl := h3 rfl
    exact strict_pure trivial

/-- whatever mode the reader ends up in, a successful open has the complete metadata; only the mapping handle of
`use_mmap` may be refused without an error (fallback to `fread`) -/
theorem run_readerOpen (S : Sizes) (want : IoMode) (f : FooterShape) (leaves : Nat) :
    Run (readerOpen true S want f leaves) fun g r => r.md = fullMeta f ∧ (want ≠ .mmap → g = true) := by
  unfold readerOpen
  refine strict_bind run_req fun _ _ => strict_bind (run_arenaInitM _) fun ar _ =>
    run_bind (Q := fun g _ => want ≠ .mmap → g = true) ?_ fun g mode hg =>
    (strict_bind (run_ite run_req (strict_pure trivial)) fun _ _ =>
      strict_bind (run_parseFileMetadata S ar f) fun r hr =>
      strict_bind (run_buildSchema S r.1 leaves) fun _ _ => strict_pure hr).mono fun g' r hr =>
        ⟨hr.2, fun hw => by rw [hg hw, hr.1]; rfl⟩
  cases want with
  | mmap => exact run_bind run_reqU fun _ _ _ => run_pure (fun h => absurd rfl h)
  | fread => exact run_pure fun _ => rfl
  | buffer => exact run_pure fun _ => rfl

theorem clean_readerOpen (S : Sizes) (want : IoMode) (f : FooterShape) (leaves : Nat) (hw : want ≠ .mmap) :
    Clean (readerOpen true S want f leaves) :=
  Run.clean (Q := fun _ => True) ((run_readerOpen S want f leaves).mono fun _ _ h => ⟨h.2 hw, trivial⟩)

theorem run_getColumn : Strict getColumn := strict_bind run_req fun _ _ => strict_pure trivial

theorem run_decodeBuffers (cr : ColumnReader) (p : PageShape) : Strict (decodeBuffers cr p) :=
  run_ite (strict_bind run_reqAll3 fun _ _ => strict_pure trivial) (strict_pure trivial)

theorem run_loadPage (mode : IoMode) (cr : ColumnReader) (p : PageShape) : Strict (loadPage true mode cr p) := by
  cases mode
  case fread =>
    exact strict_bind run_req fun _ _ => strict_bind (run_reqIf _) fun _ _ =>
      strict_bind (run_decodeBuffers _ _) fun _ _ => strict_bind (run_reqIf _) fun _ _ => strict_pure trivial
  -- the mmap and the buffer mode share their loader
  all_goals
    refine run_ite (run_ite ?_ (strict_pure trivial)) <|
      strict_bind (run_reqIf _) fun _ _ => strict_bind (run_decodeBuffers _ _) fun _ _ =>
      strict_bind (run_reqIf _) fun _ _ => strict_pure trivial
    exact run_bind run_reqU fun _ a ha => run_bind run_reqU fun _ b hb => by
      subst ha hb
      cases a <;> cases b <;> first | exact run_fail | exact strict_pure trivial

theorem run_readColumn (mode : IoMode) (cr : ColumnReader) (p : PageShape) (vals : α) :
    Strict (readColumn true mode cr p vals) fun r => r.2 = vals :=
  strict_bind (run_ite (strict_pure trivial) (run_loadPage _ _ _)) fun _ _ => strict_pure rfl

theorem run_tryLoad (mode : IoMode) (cr : ColumnReader) (p : PageShape) : Run (tryLoad true mode cr p) fun _ _ => True := by
  refine run_of_nocrash fun o o' h => ?_
  unfold tryLoad at h
  have hn := (run_loadPage mode cr p).2 o
  generalize loadPage true mode cr p o = r at h hn
  obtain ⟨(_ | _ | _) | _, o1⟩ := r <;> first | exact hn o1 rfl | cases h

/-- one column of a batch: whenever the call succeeds the caller gets the values, a bitmap, and the nulls -/
theorem run_batchColumn (mode : IoMode) (nullable : Bool) (st : List (ColumnOut α)) (c : ColumnReader × PageShape × α) :
    Run (batchColumn true mode nullable st c) fun _ r => r = st ++ [⟨c.2.2, true, nullable⟩] := by
  unfold batchColumn
  refine run_bind (run_tryLoad mode c.1 c.2.1) fun _ cr _ => ?_
  by_cases hc : (cr.loaded && c.2.1.zeroCopy && mode ≠ .fread && !nullable) = true
  · rw [if_pos hc]
    obtain rfl : nullable = false := by cases nullable <;> simp_all
    exact run_reqU_guard (run_pure rfl)
  · rw [if_neg hc]
    refine strict_bind run_req fun _ _ => run_reqU_guard ?_
    refine run_bind (Q := fun _ _ => True) (run_ite (run_reqU.mono fun _ _ _ => trivial) (run_pure trivial))
      fun _ dl _ => run_guard fun hdl => ?_
    subst hdl
    exact strict_bind (run_readColumn mode cr c.2.1 c.2.2) fun r hr => run_pure (by simp [hr])

theorem run_batchNext (mode : IoMode) (cols : List (Bool × PageShape × α)) :
    Run (batchNext true mode cols) fun _ outs => outs = cols.map (fun c => ⟨c.2.2, true, c.1⟩) := by
  unfold batchNext
  refine strict_bind (Q := fun crs => crs.length = cols.length)
    (strict_forEach (R := fun (pre : List (Bool × PageShape × α)) (crs : List ColumnReader) => crs.length = pre.length) rfl
      fun pre _ st hst => strict_bind run_getColumn fun _ _ => strict_pure (by simp [hst]))
    fun crs hlen => strict_bind run_req fun _ _ => strict_bind (run_arenaInitM _) fun _ _ =>
      strict_bind (run_arenaM _ _ _) fun _ _ => ?_
  -- the column readers are only threaded through: the outputs are determined by `cols`
  have h := run_forEach (xs := crs.zip cols) (s := ([] : List (ColumnOut α)))
    (f := fun st c => batchColumn true mode c.2.1 st (c.1, c.2.2.1, c.2.2.2))
    (R := fun pre _ outs => outs = (pre.map Prod.snd).map fun c => ⟨c.2.2, true, c.1⟩) rfl
    fun pre c _ st hst => (run_batchColumn mode c.2.1 st (c.1, c.2.2.1, c.2.2.2)).mono fun _ r hr => by simp [hr, hst]
  rwa [List.map_snd_zip (by omega)] at h

end Carquet.Impl.Alloc.Flow
