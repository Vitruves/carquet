import Carquet.Proofs.ThriftSafe
/-
Safety of the building blocks of the parsers of parquet_types.c on ARBITRARY bytes: nested struct
parsers, element loops, list-valued fields and the frame of the two top-level parsers are `Adv`
(Proofs.ThriftSafe) from any `Good` decoder state when their handlers are; a top-level parser then
neither exhausts a loop budget (`Err.fuel`) nor the stack grant of `thrift_skip` (`Err.stack`),
never passes the end of the buffer, and accepts no list count larger than the number of bytes
left.  The handlers themselves are gone through, struct by struct, in Proofs.ThriftCostParquet.
-/
namespace Carquet.Proofs.ThriftSafe
open Carquet.Impl.Thrift
open Carquet.Impl.ThriftParquet

/-- a loop body that is safe from every good state, at every nesting level -/
def BodyAdv {σ : Type} (body : Nat → Int → Dec → σ → σ × Dec) : Prop :=
  ∀ ty fid d s, Good d → Adv d (body ty fid d s).2

theorem BodyAdv.safe {σ : Type} {body : Nat → Int → Dec → σ → σ × Dec} (h : BodyAdv body) (N : Nat) :
    BodySafe (fun _ => True) N (fun _ => True) body :=
  fun ty fid d s hg _ _ _ => ⟨h ty fid d s hg, trivial⟩

theorem parseStruct_snd {σ : Type} (body : Nat → Int → Dec → σ → σ × Dec) (init : σ) (d : Dec) :
    (parseStruct body init d).2 = structEnd (fieldLoop (fun _ => false) body d.budget (structBegin d) init).2 := rfl

/-- every nested struct parser built from a safe body is safe -/
theorem parseStruct_adv {σ : Type} (body : Nat → Int → Dec → σ → σ × Dec) (hb : BodyAdv body) (init : σ) (d : Dec)
    (hg : Good d) : Adv d (parseStruct body init d).2 := by
  rw [parseStruct_snd]
  exact (structLoop_adv (fun _ => false) body _ d.rest.length _ (hb.safe _) d init hg (Nat.le_refl _)
    (fun _ _ => trivial) trivial).1

theorem readMany_length {α : Type} (elem : Dec → α × Dec) : ∀ (n : Nat) (d : Dec), (readMany elem n d).1.length = n
  | 0, _ => rfl
  | n + 1, d => by
    unfold readMany
    simp [readMany_length elem n (elem d).2]

theorem readMany_snd {α : Type} (elem : Dec → α × Dec) (n : Nat) (d : Dec) :
    (readMany elem (n + 1) d).2 = (readMany elem n (elem d).2).2 := by
  rw [readMany]

theorem readMany_adv {α : Type} (elem : Dec → α × Dec) (he : ∀ d, Good d → Adv d (elem d).2) :
    ∀ (n : Nat) (d : Dec), Good d → Adv d (readMany elem n d).2
  | 0, d, _ => Adv.refl d
  | n + 1, d, hg => by
    rw [readMany_snd]
    exact (he d hg).trans (readMany_adv elem he n (elem d).2 ((he d hg).good hg))

/-- `thrift_read_list_begin; VALIDATE_COUNT; calloc(count); for …`: an accepted list has at most
`max` elements and at most as many elements as there were bytes left — the bound on the allocation
made for it, whatever the element parser does -/
theorem parseListOf_len {α : Type} (max : Int) (elem : Dec → α × Dec) (d : Dec) (xs : List α)
    (h : (parseListOf max elem d).1 = some xs) : xs.length ≤ d.rest.length ∧ (xs.length : Int) ≤ max := by
  have h1 := (fwd_readListBegin.adv d).len
  have hc := readListBegin_count d
  unfold parseListOf at h
  split at h
  · cases h
  · simp only [Option.some.injEq] at h
    subst h
    rw [readMany_length]
    omega

theorem parseListOf_adv {α : Type} (max : Int) (elem : Dec → α × Dec) (he : ∀ d, Good d → Adv d (elem d).2)
    (d : Dec) (hg : Good d) : Adv d (parseListOf max elem d).2 := by
  have h1 := fwd_readListBegin.adv d
  unfold parseListOf
  split
  · obtain ⟨pre, hr, hp⟩ := h1.rest
    exact Adv.step' d _ pre h1.bud hr hp (fun h => by cases h) (Or.inr ⟨.decode, rfl, by decide, by decide⟩)
  · exact h1.trans (readMany_adv elem he _ _ (h1.good hg))

theorem setList_adv {σ α : Type} (s : σ) (set : σ → List α → σ) (r : Option (List α) × Dec) :
    (setList s set r).2 = r.2 := rfl

theorem fwd_bindupThrift : Fwd 1 Prod.fst Prod.snd bindupThrift := (fwd_readBinary Prod.fst).map bytesOf
theorem fwd_strdupBytes : Fwd 1 Prod.fst Prod.snd strdupBytes := (fwd_readBinary Prod.fst).map fun o => cstr (bytesOf o)
theorem fwd_strdupThrift : Fwd 1 Prod.fst Prod.snd strdupThrift := fwd_strdupBytes.map some

theorem noteOverlay_adv (b : Bool) (d : Dec) : Adv d (noteOverlay b d) := by
  unfold noteOverlay
  split
  · exact Adv.step d _ [] rfl (by simp) (by simp) rfl (Or.inl rfl)
  · exact Adv.refl d

/-! ### the frame of the two top-level parsers -/

/-- the early-return status of a top-level parser is never one of the two model artefacts -/
def TopInv {α : Type} (s : Top α) : Prop := s.abort ≠ some .fuel ∧ s.abort ≠ some .stack

theorem topErr_inv {α : Type} (s : Top α) (d : Dec) (e : Err) (hg : Good d) (h : d.status = some e) :
    TopInv { s with abort := some e } := by
  refine ⟨?_, ?_⟩
  · intro hh; simp only [Option.some.injEq] at hh; subst hh; exact hg.nofuel h
  · intro hh; simp only [Option.some.injEq] at hh; subst hh; exact hg.nostack h

theorem topListOf_adv {σ α : Type} (max : Int) (elem : Dec → α × Dec) (he : ∀ d, Good d → Adv d (elem d).2)
    (set : σ → List α → σ) (d : Dec) (s : Top σ) (hg : Good d) : Adv d (topListOf max elem set d s).2 := by
  have h1 := fwd_readListBegin.adv d
  unfold topListOf
  split
  · exact h1
  · exact h1.trans (readMany_adv elem he _ _ (h1.good hg))

theorem topListOf_inv {σ α : Type} (Inv : Top σ → Prop) (max : Int) (elem : Dec → α × Dec) (set : σ → List α → σ)
    (d : Dec) (s : Top σ) (habort : Inv { s with abort := some .invalidMetadata })
    (hset : ∀ xs : List α, xs.length ≤ d.rest.length → (xs.length : Int) ≤ max → Inv { s with val := set s.val xs }) :
    Inv (topListOf max elem set d s).1 := by
  have h1 := (fwd_readListBegin.adv d).len
  have hc := readListBegin_count d
  unfold topListOf
  split
  · exact habort
  · exact hset _ (by rw [readMany_length]; omega) (by rw [readMany_length]; omega)

theorem init_good (bs : Bytes) : Good (Dec.init bs) :=
  ⟨by simp [Dec.init], by simp [Dec.init], by simp [Dec.init]⟩

theorem structBegin_init (bs : Bytes) : structBegin (Dec.init bs) = { Dec.init bs with lastId := [0] } := by
  simp [structBegin, Dec.init, maxNesting]

theorem init_good' (bs : Bytes) : Good { Dec.init bs with lastId := [0] } :=
  ⟨(init_good bs).bud, (init_good bs).nofuel, (init_good bs).nostack⟩

/-- what the safety of the loop body gives for a top-level parser: the decoder state at the end
of the field loop is `Adv` from the initial one (one struct level deeper) -/
theorem topLoop_safe {α : Type} {bs : Bytes} (body : Nat → Int → Dec → Top α → Top α × Dec) (Inv : Top α → Prop)
    (hbody : BodySafe (fun _ => True) bs.length Inv body) (init : α) (hi : Inv ⟨init, none⟩) :
    Adv { Dec.init bs with lastId := [0] }
      (fieldLoop (fun s => s.abort.isSome) body (bs.length + 1) (structBegin (Dec.init bs)) ⟨init, none⟩).2 ∧
    Inv (fieldLoop (fun s => s.abort.isSome) body (bs.length + 1) (structBegin (Dec.init bs)) ⟨init, none⟩).1 := by
  rw [structBegin_init]
  exact fieldLoop_adv _ body _ bs.length Inv hbody (bs.length + 1) _ _ (init_good' bs) (by simp [Dec.init])
    (by simp [Dec.init]) (fun _ => trivial) hi

theorem topParse_safe {α : Type} (body : Nat → Int → Dec → Top α → Top α × Dec) (Inv : Top α → Prop)
    (hinv : ∀ s, Inv s → TopInv s) (bs : Bytes)
    (hbody : BodySafe (fun _ => True) bs.length Inv body) (init : α) (hi : Inv ⟨init, none⟩) :
    (topParse body init bs).status ≠ some .fuel ∧ (topParse body init bs).status ≠ some .stack ∧
    (topParse body init bs).consumed ≤ bs.length ∧
    ∃ s, Inv s ∧ (topParse body init bs).val = s.val := by
  obtain ⟨ha, hi'⟩ := topLoop_safe (bs := bs) body Inv hbody init hi
  have hg2 := ha.good (init_good' bs)
  have hpos := ha.pos_len
  unfold topParse topFinish
  generalize fieldLoop (fun s => s.abort.isSome) body (bs.length + 1) (structBegin (Dec.init bs)) ⟨init, none⟩ = r at *
  have hp : r.2.pos ≤ bs.length := by
    simp [Dec.init] at hpos; omega
  have ht := hinv _ hi'
  split
  · rename_i e he
    refine ⟨?_, ?_, hp, r.1, hi', rfl⟩
    · intro h; simp only [Option.some.injEq] at h; subst h; exact ht.1 he
    · intro h; simp only [Option.some.injEq] at h; subst h; exact ht.2 he
  · exact ⟨hg2.nofuel, hg2.nostack, hp, r.1, hi', rfl⟩

end Carquet.Proofs.ThriftSafe
