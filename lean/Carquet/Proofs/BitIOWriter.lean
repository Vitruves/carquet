import Carquet.Proofs.BitIO
/-
The bit writer of Impl/BitIO.lean: the bytes stored are the first `cap` bytes of the little-endian
representation of the integer whose bit fields are the values written, in order, least significant first.
-/
namespace Carquet.Proofs.BitIO
open Carquet.Impl.BitIO Carquet.Impl.Bitpack Carquet.Proofs.NatBits

/-- the integer whose bit fields (least significant first) are the listed `(width, value)` pairs -/
def concatFields : List (Nat × Nat) → Nat
  | [] => 0
  | (w, v) :: fs => v % 2 ^ w + 2 ^ w * concatFields fs

def widthSum (fs : List (Nat × Nat)) : Nat := (fs.map Prod.fst).sum

theorem concatFields_lt (fs : List (Nat × Nat)) : concatFields fs < 2 ^ widthSum fs := by
  induction fs with
  | nil => simp [concatFields, widthSum]
  | cons f fs ih =>
    obtain ⟨w, v⟩ := f
    rw [concatFields, widthSum, List.map_cons, List.sum_cons, Nat.mul_comm]
    exact add_shl_lt (Nat.mod_lt _ (Nat.two_pow_pos w)) ih

/-- `w` holds the `k`-bit integer `T`: with the bytes that *would* have been stored in an unbounded buffer
(`vout`) the value is `vout` followed by the accumulator; what is stored is the first `cap` bytes of `vout` -/
def Rel (w : Writer) (T k : Nat) : Prop :=
  ∃ vout : List UInt8, leNat vout + 2 ^ (8 * vout.length) * w.buffer = T ∧
    8 * vout.length + w.bufferBits = k ∧ w.out = vout.take w.cap

/-- holds at every point of a call on a writer of capacity `c` -/
structure Holds (c : Nat) (w : Writer) (T k : Nat) : Prop where
  capEq : w.cap = c
  buf : w.buffer < 2 ^ w.bufferBits
  len : w.out.length ≤ c
  rel : Rel w T k

/-- between calls fewer than 56 bits are pending -/
structure Idle (c : Nat) (w : Writer) (T k : Nat) : Prop extends Holds c w T k where
  bits : w.bufferBits ≤ 55

theorem Idle_init (cap : Nat) : Idle cap (Writer.init cap) 0 0 :=
  ⟨⟨rfl, Nat.one_pos, Nat.zero_le _, [], rfl, rfl, List.take_nil.symm⟩, Nat.zero_le _⟩

theorem Idle.of_state {c : Nat} {w : Writer} (h1 : w.cap = c) (h2 : w.buffer < 2 ^ w.bufferBits)
    (h3 : w.out.length ≤ c) (h4 : w.bufferBits ≤ 55) : ∃ T k, Idle c w T k :=
  ⟨_, _, ⟨h1, h2, h3, w.out, rfl, rfl, (List.take_of_length_le (h1 ▸ h3)).symm⟩, h4⟩

theorem take_append_singleton (vout : List UInt8) (b : UInt8) (cap : Nat) :
    (vout ++ [b]).take cap = if (vout.take cap).length < cap then vout.take cap ++ [b] else vout.take cap := by
  by_cases h : vout.length < cap
  · rw [List.take_of_length_le (by simp; omega), List.take_of_length_le (by omega), if_pos h]
  · rw [List.take_append_of_le_length (by omega)]
    rw [if_neg (by rw [List.length_take]; omega)]

theorem leNat_append_byte (vout : List UInt8) (x : Nat) :
    leNat (vout ++ [UInt8.ofNat x]) = leNat vout + 2 ^ (8 * vout.length) * (x % 256) := by
  rw [leNat_append]
  simp only [leNat, Nat.mul_zero, Nat.add_zero]
  congr 2

theorem leNat_push_byte (vout : List UInt8) (x : Nat) :
    leNat (vout ++ [UInt8.ofNat x]) + 2 ^ (8 * (vout.length + 1)) * (x >>> 8) =
      leNat vout + 2 ^ (8 * vout.length) * x := by
  rw [leNat_append_byte, shr_eq, Nat.mul_add 8, Nat.pow_add, Nat.mul_one, Nat.mul_assoc, Nat.add_assoc,
    ← Nat.mul_add]
  exact congrArg (fun t => leNat vout + 2 ^ (8 * vout.length) * t) (Nat.mod_add_div x 256)

/-- one iteration of `flush_buffer` -/
def flushByte (w : Writer) : Writer :=
  { w with out := if w.out.length < w.cap then w.out ++ [UInt8.ofNat w.buffer] else w.out,
           buffer := w.buffer >>> 8, bufferBits := w.bufferBits - 8 }

theorem flushByte_spec {c T k : Nat} {w : Writer} (h : Holds c w T k) (h8 : 8 ≤ w.bufferBits) :
    Holds c (flushByte w) T k := by
  obtain ⟨vout, r1, r2, r3⟩ := h.rel
  refine ⟨h.capEq, shr_lt h.buf _, ?_, vout ++ [UInt8.ofNat w.buffer], ?_, ?_, ?_⟩
  · show (if w.out.length < w.cap then w.out ++ [UInt8.ofNat w.buffer] else w.out).length ≤ c
    split
    · rw [List.length_append, ← h.capEq]; assumption
    · exact h.len
  · rw [List.length_append]; exact (leNat_push_byte vout w.buffer).trans r1
  · show 8 * (vout ++ [UInt8.ofNat w.buffer]).length + (w.bufferBits - 8) = k
    rw [List.length_append, List.length_singleton, Nat.mul_add, Nat.mul_one, Nat.add_assoc,
      Nat.add_sub_cancel' h8, r2]
  · show (if w.out.length < w.cap then w.out ++ [UInt8.ofNat w.buffer] else w.out) =
      (vout ++ [UInt8.ofNat w.buffer]).take w.cap
    rw [take_append_singleton, ← r3]

/-- `flush_buffer`: leaves fewer than 8 bits, keeps the value, never stores beyond the capacity -/
theorem flushLoop_spec {c T k : Nat} : ∀ (f : Nat) (w : Writer), w.bufferBits / 8 ≤ f → Holds c w T k →
    Holds c (flushLoop f w) T k ∧ (flushLoop f w).bufferBits = w.bufferBits % 8 := by
  intro f
  induction f with
  | zero =>
    intro w hf h
    exact ⟨h, (Nat.mod_eq_of_lt (Nat.lt_of_div_eq_zero (by decide) (Nat.le_zero.mp hf))).symm⟩
  | succ f ih =>
    intro w hf h
    rw [flushLoop]
    by_cases h8 : w.bufferBits ≥ 8
    · rw [if_pos h8]
      obtain ⟨i1, i2⟩ := ih (flushByte w) (by show (w.bufferBits - 8) / 8 ≤ f; omega) (flushByte_spec h h8)
      exact ⟨i1, i2.trans (Nat.mod_eq_sub_mod h8).symm⟩
    · rw [if_neg h8]
      exact ⟨h, (Nat.mod_eq_of_lt (Nat.not_le.mp h8)).symm⟩

theorem flushBuffer_spec {c T k : Nat} {w : Writer} (h : Holds c w T k) :
    Holds c (flushBuffer w) T k ∧ (flushBuffer w).bufferBits < 8 := by
  obtain ⟨i1, i2⟩ := flushLoop_spec (w.bufferBits / 8) w (Nat.le_refl _) h
  exact ⟨i1, i2 ▸ Nat.mod_lt _ (by decide)⟩

theorem flushIfFull_spec {c T k : Nat} {w : Writer} (h : Holds c w T k) : Idle c (flushIfFull w) T k := by
  unfold flushIfFull
  split
  · obtain ⟨i1, i2⟩ := flushBuffer_spec h
    exact ⟨i1, Nat.le_trans (Nat.le_of_lt_succ i2) (by decide)⟩
  · rename_i h56
    exact ⟨h, Nat.le_of_lt_succ (Nat.not_le.mp h56)⟩

def orField (w : Writer) (f wd : Nat) : Writer :=
  { w with buffer := (w.buffer ||| (f <<< w.bufferBits)) % 2 ^ 64, bufferBits := w.bufferBits + wd }

theorem orField_spec {c T k : Nat} {w : Writer} (h : Holds c w T k) (f wd : Nat) (hf : f < 2 ^ wd)
    (h64 : w.bufferBits + wd ≤ 64) : Holds c (orField w f wd) (T + 2 ^ k * f) (k + wd) := by
  have hlt : w.buffer + f * 2 ^ w.bufferBits < 2 ^ (w.bufferBits + wd) := add_shl_lt h.buf hf
  have hbuf : (orField w f wd).buffer = w.buffer + f * 2 ^ w.bufferBits := by
    show (w.buffer ||| (f <<< w.bufferBits)) % 2 ^ 64 = _
    rw [or_shl_eq_add _ _ _ h.buf]
    exact Nat.mod_eq_of_lt (Nat.lt_of_lt_of_le hlt (Nat.pow_le_pow_right (by decide) h64))
  obtain ⟨vout, r1, r2, r3⟩ := h.rel
  refine ⟨h.capEq, hbuf ▸ hlt, h.len, vout, ?_, by rw [← r2]; exact (Nat.add_assoc _ _ _).symm, r3⟩
  rw [hbuf, ← r1, ← r2, Nat.mul_add, Nat.add_assoc, Nat.pow_add, Nat.mul_assoc, Nat.mul_comm f]

theorem writeBit_spec {c T k : Nat} {w : Writer} (h : Idle c w T k) (b : Nat) :
    Idle c (writeBit w b) (T + 2 ^ k * (b % 2)) (k + 1) := by
  rw [← Nat.and_one_is_mod b]
  exact flushIfFull_spec
    (orField_spec h.toHolds (b &&& 1) 1 (by rw [Nat.and_one_is_mod]; omega) (by have := h.bits; omega))

theorem mask32_and (v n : Nat) (hn : n ≤ 32) : (v % 2 ^ 32) &&& mask32 n = v % 2 ^ n := by
  unfold mask32
  split
  · rename_i h; subst h
    rw [show (0xFFFFFFFF : Nat) = 2 ^ 32 - 1 from rfl, and_mask, Nat.mod_mod]
  · rw [one_shl, and_mask]
    exact Nat.mod_mod_of_dvd _ (Nat.pow_dvd_pow 2 hn)

theorem makeRoom_spec {c T k : Nat} {w : Writer} (h : Idle c w T k) :
    Holds c (makeRoom w) T k ∧ (makeRoom w).bufferBits ≤ 32 := by
  unfold makeRoom
  split
  · obtain ⟨i1, i2⟩ := flushBuffer_spec h.toHolds
    exact ⟨i1, by omega⟩
  · rename_i h32
    exact ⟨h.toHolds, Nat.not_lt.mp h32⟩

theorem writeBits_spec {c T k : Nat} {w : Writer} (h : Idle c w T k) (v n : Nat) :
    Idle c (writeBits w v n) (T + 2 ^ k * (v % 2 ^ min n 32)) (k + min n 32) := by
  by_cases h0 : n = 0
  · rw [writeBits, if_pos h0, h0, Nat.zero_min, Nat.pow_zero, Nat.mod_one, Nat.mul_zero]
    exact h
  · obtain ⟨m1, m2⟩ := makeRoom_spec h
    have hm := mask32_and v (min n 32) (Nat.min_le_right _ _)
    rw [writeBits, if_neg h0, ← hm]
    exact flushIfFull_spec
      (orField_spec m1 _ (min n 32) (hm ▸ Nat.mod_lt v (Nat.two_pow_pos _)) (by omega))

theorem writeBits64_spec {c T k : Nat} {w : Writer} (h : Idle c w T k) (v n : Nat) :
    Idle c (writeBits64 w v n) (T + 2 ^ k * (v % 2 ^ min n 64)) (k + min n 64) := by
  unfold writeBits64
  split
  · rename_i h0
    rw [h0, Nat.zero_min, Nat.pow_zero, Nat.mod_one, Nat.mul_zero]
    exact h
  · split
    · rename_i hle
      have := writeBits_spec h (v % 2 ^ 32) (min n 64)
      rwa [Nat.min_eq_left hle, Nat.mod_mod_of_dvd _ (Nat.pow_dvd_pow 2 hle)] at this
    · rename_i hgt
      have h1 := writeBits_spec h (v % 2 ^ 32) 32
      rw [Nat.min_self, Nat.mod_mod] at h1
      have h2 := writeBits_spec h1 ((v % 2 ^ 64) >>> 32) (min n 64 - 32)
      rw [Nat.min_eq_left (a := min n 64 - 32) (b := 32) (by omega)] at h2
      have hw : 32 + (min n 64 - 32) = min n 64 := by omega
      have hval : v % 2 ^ 32 + 2 ^ 32 * (((v % 2 ^ 64) >>> 32) % 2 ^ (min n 64 - 32)) = v % 2 ^ min n 64 := by
        rw [shr_mod_window v 64 32 (min n 64 - 32) (by omega), shr_eq, ← mod_pow_add, hw]
      rwa [Nat.add_assoc k, hw, Nat.add_assoc T, Nat.pow_add, Nat.mul_assoc, ← Nat.mul_add, hval] at h2

/-- **any sequence of writes**: the value written is the old value followed by the fields of the history -/
theorem wrun_spec {c : Nat} : ∀ (ops : List WOp) (w : Writer) (T k : Nat), WOp.flush ∉ ops → Idle c w T k →
    Idle c (wrun w ops) (T + 2 ^ k * concatFields (fieldsOf ops)) (k + totalBits ops) := by
  intro ops
  induction ops with
  | nil => intro w T k _ h; exact h
  | cons op ops ih =>
    intro w T k hnf h
    have key : ∀ (w1 : Writer) (wd f : Nat), Idle c w1 (T + 2 ^ k * f) (k + wd) → f < 2 ^ wd →
        Idle c (wrun w1 ops) (T + 2 ^ k * (f % 2 ^ wd + 2 ^ wd * concatFields (fieldsOf ops))) (k + (wd + totalBits ops)) := by
      intro w1 wd f h1 hf
      have := ih w1 _ _ (fun hm => hnf (List.mem_cons_of_mem _ hm)) h1
      rwa [Nat.mod_eq_of_lt hf, Nat.mul_add, ← Nat.add_assoc, ← Nat.mul_assoc, ← Nat.pow_add, ← Nat.add_assoc]
    cases op with
    | bit b => exact key _ 1 (b % 2) (writeBit_spec h b) (Nat.mod_lt _ (by decide))
    | bits v n => exact key _ (min n 32) _ (writeBits_spec h v n) (Nat.mod_lt _ (Nat.two_pow_pos _))
    | bits64 v n => exact key _ (min n 64) _ (writeBits64_spec h v n) (Nat.mod_lt _ (Nat.two_pow_pos _))
    | flush => exact absurd List.mem_cons_self hnf

theorem bytes_of_bits (n b : Nat) (hb : b < 8) : (8 * n + b + 7) / 8 = if b = 0 then n else n + 1 := by
  split <;> omega

/-- the final `flush`: the stored bytes are the first `cap` bytes of the `⌈k/8⌉`-byte representation of `T` -/
theorem flush_spec {c T k : Nat} {w : Writer} (h : Idle c w T k) :
    (flush w).out = (leBytes ((k + 7) / 8) T).take c ∧ (flush w).out.length ≤ c := by
  obtain ⟨⟨i4, i2, i3, vout, r1, r2, r3⟩, i1⟩ := flushBuffer_spec h.toHolds
  have hlen := bytes_of_bits vout.length _ i1
  rw [r2] at hlen
  unfold flush
  by_cases hpend : (flushBuffer w).bufferBits > 0
  · -- a partial byte is pending
    have hbyte : (flushBuffer w).buffer < 256 :=
      Nat.lt_of_lt_of_le i2 (Nat.pow_le_pow_right (by decide) (Nat.le_of_lt i1) : _ ≤ 2 ^ 8)
    have hfull : leBytes ((k + 7) / 8) T = vout ++ [UInt8.ofNat (flushBuffer w).buffer] := by
      have hfin := leNat_append_byte vout (flushBuffer w).buffer
      rw [Nat.mod_eq_of_lt hbyte, r1] at hfin
      have h := leBytes_leNat (vout ++ [UInt8.ofNat (flushBuffer w).buffer])
      rw [List.length_append, hfin] at h
      rw [hlen, if_neg (Nat.ne_of_gt hpend)]
      exact h
    rw [hfull, ← i4, take_append_singleton, ← r3]
    by_cases hroom : (flushBuffer w).out.length < (flushBuffer w).cap
    · rw [if_pos ⟨hpend, hroom⟩, if_pos hroom]
      exact ⟨rfl, by rw [List.length_append]; exact hroom⟩
    · rw [if_neg (fun h => hroom h.2), if_neg hroom]
      exact ⟨rfl, i4 ▸ i3⟩
  · rw [if_neg (fun h => hpend h.1)]
    have hb0 : (flushBuffer w).bufferBits = 0 := Nat.eq_zero_of_not_pos hpend
    have hbuf0 : (flushBuffer w).buffer = 0 := by
      rw [hb0] at i2; exact Nat.lt_one_iff.mp i2
    have hfull : leBytes ((k + 7) / 8) T = vout := by
      rw [hlen, if_pos hb0, ← r1, hbuf0, Nat.mul_zero, Nat.add_zero]
      exact leBytes_leNat vout
    rw [hfull, ← i4, ← r3]
    exact ⟨rfl, i4 ▸ i3⟩

/-- **writes then one flush, any capacity**: the bytes stored are the first `cap` bytes of the packed fields;
never more than `cap` -/
theorem flush_wrun (cap : Nat) (ops : List WOp) (hn : WOp.flush ∉ ops) :
    (flush (wrun (Writer.init cap) ops)).out =
      (leBytes ((totalBits ops + 7) / 8) (concatFields (fieldsOf ops))).take cap ∧
    (flush (wrun (Writer.init cap) ops)).out.length ≤ cap := by
  have := wrun_spec ops (Writer.init cap) 0 0 hn (Idle_init cap)
  rw [Nat.zero_add, Nat.pow_zero, Nat.one_mul, Nat.zero_add] at this
  exact flush_spec this

/-- the capacity is respected by every history, flushes anywhere -/
theorem wrun_cap {c : Nat} : ∀ (ops : List WOp) (w : Writer) (T k : Nat), Idle c w T k →
    ∃ T' k', Idle c (wrun w ops) T' k' := by
  intro ops
  induction ops with
  | nil => intro w T k h; exact ⟨T, k, h⟩
  | cons op ops ih =>
    intro w T k h
    have step : ∃ T' k', Idle c (wstep w op) T' k' := by
      cases op with
      | bit b => exact ⟨_, _, writeBit_spec h b⟩
      | bits v n => exact ⟨_, _, writeBits_spec h v n⟩
      | bits64 v n => exact ⟨_, _, writeBits64_spec h v n⟩
      | flush =>
        obtain ⟨i, i1⟩ := flushBuffer_spec h.toHolds
        show ∃ T' k', Idle c (flush w) T' k'
        unfold flush
        split
        · rename_i hc
          exact Idle.of_state i.capEq Nat.one_pos
            (by rw [List.length_append, ← i.capEq]; exact hc.2) (Nat.zero_le _)
        · exact ⟨T, k, i, Nat.le_trans (Nat.le_of_lt_succ i1) (by decide)⟩
    obtain ⟨T', k', h'⟩ := step
    exact ih (wstep w op) T' k' h'

end Carquet.Proofs.BitIO
