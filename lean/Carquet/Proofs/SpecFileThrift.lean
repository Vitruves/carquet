import Carquet.Spec.File.Write
import Carquet.Proofs.ThriftSpec
/-
The reference writer's form-steered Thrift encoder (`encodeValF`: short or long field headers,
short or long list headers, either spelling of bool elements) always produces an encoding the
compact-protocol relation `Enc` admits; hence the Spec's generic decoder reads it back
(`Proofs.Thrift.decode_of_encodes`).
-/
namespace Carquet.Proofs.SpecFile
open Carquet.Spec.Thrift Carquet.Spec.File Carquet.Proofs.Thrift

theorem fieldHdrF_ok (F : ThriftForm) (last id : Int) (code : Nat) : FieldHdr last id code (fieldHdrF F last id code) := by
  unfold fieldHdrF
  split
  · exact Or.inr rfl
  · exact fieldHdr_ok last id code

theorem elemCodeF_ok (F : ThriftForm) (et : TType) : ElemCode et (elemCodeF F et) := by
  unfold elemCodeF ElemCode
  split
  · rename_i h; exact Or.inr ⟨h.1, rfl⟩
  · exact Or.inl rfl

theorem listHdrF_ok (F : ThriftForm) (et : TType) (n : Nat) : ListHdr et n (listHdrF F et n) := by
  unfold listHdrF ListHdr
  refine ⟨elemCodeF F et, elemCodeF_ok F et, ?_⟩
  split
  · exact Or.inr rfl
  · split
    · rename_i h; exact Or.inl ⟨h, rfl⟩
    · exact Or.inr rfl

mutual
theorem enc_encodeValF (F : ThriftForm) : ∀ v : TVal, v.wf = true → Enc (.val v) (encodeValF F v)
  | .bool true, _ => by simp only [encodeValF]; exact Enc.boolT
  | .bool false, _ => by
    simp only [encodeValF]
    by_cases hb : F.boolAlt = true
    · simp [hb]; exact Enc.boolF0
    · simp [hb]; exact Enc.boolF
  | .i8 v, h => by simp only [TVal.wf, decide_eq_true_eq] at h; simp only [encodeValF]; exact Enc.i8 h
  | .i16 v, h => by simp only [TVal.wf, decide_eq_true_eq] at h; simp only [encodeValF]; exact Enc.i16 h
  | .i32 v, h => by simp only [TVal.wf, decide_eq_true_eq] at h; simp only [encodeValF]; exact Enc.i32 h
  | .i64 v, h => by simp only [TVal.wf, decide_eq_true_eq] at h; simp only [encodeValF]; exact Enc.i64 h
  | .double b, h => by simp only [TVal.wf, decide_eq_true_eq] at h; simp only [encodeValF]; exact Enc.double h
  | .binary b, h => by simp only [TVal.wf, decide_eq_true_eq] at h; simp only [encodeValF]; exact Enc.binary h
  | .uuid b, h => by simp only [TVal.wf, decide_eq_true_eq] at h; simp only [encodeValF]; exact Enc.uuid h
  | .list et xs, h => by
    simp only [TVal.wf, Bool.and_eq_true, decide_eq_true_eq] at h
    simp only [encodeValF]
    exact Enc.list h.1 (wfElems_ty h.2) (listHdrF_ok F et xs.length) (enc_encodeElemsF F et xs h.2)
  | .set et xs, h => by
    simp only [TVal.wf, Bool.and_eq_true, decide_eq_true_eq] at h
    simp only [encodeValF]
    exact Enc.set h.1 (wfElems_ty h.2) (listHdrF_ok F et xs.length) (enc_encodeElemsF F et xs h.2)
  | .map [], _ => by simp only [encodeValF]; exact Enc.mapNil
  | .map ((k, v) :: r), h => by
    simp only [TVal.wf, Bool.and_eq_true, decide_eq_true_eq] at h
    simp only [encodeValF]
    exact Enc.mapCons h.1 (wfKVs_ty h.2) (enc_encodeKVsF F k.ty v.ty ((k, v) :: r) h.2)
  | .struct fs, h => by
    simp only [TVal.wf] at h
    simp only [encodeValF]
    exact Enc.struct (enc_encodeFieldsF F fs h 0)
theorem enc_encodeElemsF (F : ThriftForm) : ∀ (et : TType) (xs : List TVal), wfElems et xs = true → Enc (.elems xs) (encodeElemsF F xs)
  | _, [], _ => by simp only [encodeElemsF]; exact Enc.elemsNil
  | et, x :: r, h => by
    simp only [wfElems, Bool.and_eq_true, decide_eq_true_eq] at h
    simp only [encodeElemsF]
    exact Enc.elemsCons (enc_encodeValF F x h.1.2) (enc_encodeElemsF F et r h.2)
theorem enc_encodeKVsF (F : ThriftForm) : ∀ (kt vt : TType) (kvs : List (TVal × TVal)), wfKVs kt vt kvs = true →
    Enc (.kvs kvs) (encodeKVsF F kvs)
  | _, _, [], _ => by simp only [encodeKVsF]; exact Enc.kvsNil
  | kt, vt, (k, v) :: r, h => by
    simp only [wfKVs, Bool.and_eq_true, decide_eq_true_eq] at h
    simp only [encodeKVsF]
    exact Enc.kvsCons (enc_encodeValF F k h.1.1.2) (enc_encodeValF F v h.1.2) (enc_encodeKVsF F kt vt r h.2)
theorem enc_encodeFieldsF (F : ThriftForm) : ∀ (fs : List (Int × TVal)), wfFields fs = true →
    ∀ last, Enc (.fields last fs) (encodeFieldsF F last fs)
  | [], _, last => by simp only [encodeFieldsF]; exact Enc.fieldsNil
  | (id, v) :: r, h, last => by
    simp only [wfFields, Bool.and_eq_true, decide_eq_true_eq] at h
    cases v with
    | bool b =>
      simp only [encodeFieldsF]
      exact Enc.fieldsBool h.1.1 (fieldHdrF_ok _ _ _ _) (enc_encodeFieldsF F r h.2 id)
    | _ =>
      simp only [encodeFieldsF]
      exact Enc.fieldsCons h.1.1 (by simp [TVal.ty]) (fieldHdrF_ok _ _ _ _) (enc_encodeValF F _ h.1.2) (enc_encodeFieldsF F r h.2 id)
end

theorem decode_encodeValF (F : ThriftForm) (v : TVal) (h : v.wf = true) (r : List UInt8) :
    decode v.ty (encodeValF F v ++ r) = some (v, r) :=
  decode_of_encodes v _ r (enc_encodeValF F v h)

theorem decodeStruct_encodeValF (F : ThriftForm) (fs : List (Int × TVal)) (h : (TVal.struct fs).wf = true) :
    decodeStruct (encodeValF F (.struct fs)) = some (.struct fs) := by
  have := decode_encodeValF F (.struct fs) h []
  simp only [List.append_nil, TVal.ty] at this
  simp [decodeStruct, this]

end Carquet.Proofs.SpecFile
