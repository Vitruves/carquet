import Carquet.Proofs.CursorBatchAbs
/-
C02 / C03, batch reader: the initial state of a batch reader over a valid file, projections by
name and by index, and the faithfulness of the dense encoding of rows.
-/
namespace Carquet.Proofs.Cursor
open Carquet.Spec.Cursor (Row)
open Carquet.Impl.ColumnReader (Fixes Reader Page)
open Carquet.Impl.BatchReader

/-- A projection the batch reader can serve: at least one column, all indices in range. -/
def ProjOk (f : File α) (proj : List Nat) : Prop := proj ≠ [] ∧ ∀ c ∈ proj, c < f.columns.length

theorem projRows_rowsOk (f : File α) (hf : FileOk f) (rg : List (ChunkData α)) (hrg : rg ∈ f.rowGroups) :
    ∀ (proj : List Nat), (∀ c ∈ proj, c < f.columns.length) → RowsOk (projCols f proj) (projRows f proj rg) := by
  intro proj
  induction proj with
  | nil => intro _; exact .nil
  | cons c proj ih =>
    intro hproj
    have hc : c < f.columns.length := hproj c (by simp)
    have hcol : f.columns[c]? = some f.columns[c] := List.getElem?_eq_getElem hc
    have hcr : c < rg.length := by rw [hf.shape rg hrg]; exact hc
    have hcd : rg[c]? = some rg[c] := List.getElem?_eq_getElem hcr
    simp only [projCols, projRows, List.filterMap_cons, hcol, hcd]
    exact .cons (rowsOfPages_wf _ _ (hf.chunks rg hrg c _ _ hcol hcd).1) (ih (fun x hx => hproj x (by simp [hx])))

theorem colRows_projRows (f : File α) (hf : FileOk f) (rg : List (ChunkData α)) (hrg : rg ∈ f.rowGroups) :
    ∀ (proj : List Nat) (j c : Nat), (∀ c ∈ proj, c < f.columns.length) → proj[j]? = some c →
      ∃ col cd, f.columns[c]? = some col ∧ rg[c]? = some cd ∧ colRows j (projRows f proj rg) = chunkDataRows col cd := by
  intro proj
  induction proj with
  | nil => intro j c _ h; simp at h
  | cons c0 proj ih =>
    intro j c hproj hj
    have hc0 : c0 < f.columns.length := hproj c0 (by simp)
    have hcol : f.columns[c0]? = some f.columns[c0] := List.getElem?_eq_getElem hc0
    have hcr : c0 < rg.length := by rw [hf.shape rg hrg]; exact hc0
    have hcd : rg[c0]? = some rg[c0] := List.getElem?_eq_getElem hcr
    cases j with
    | zero =>
      simp only [List.getElem?_cons_zero, Option.some.injEq] at hj
      subst hj
      exact ⟨_, _, hcol, hcd, by simp [colRows, projRows, hcol, hcd]⟩
    | succ j =>
      simp only [List.getElem?_cons_succ] at hj
      obtain ⟨col, cd, h1, h2, h3⟩ := ih j c (fun x hx => hproj x (by simp [hx])) hj
      refine ⟨col, cd, h1, h2, ?_⟩
      rw [← h3]
      simp [colRows, projRows, hcol, hcd]

/-- the batch reader right after `carquet_batch_reader_create` with a projection by index -/
def initReader (mode : IOMode) (f : File α) (bs : Nat) (proj : List Nat) : BatchReader α :=
  ⟨mode, f, (bs : Int), proj.map Int.ofNat, -1, []⟩

def initAbs (f : File α) (proj : List Nat) : AbsSt α := ⟨none, f.rowGroups.map (projRows f proj)⟩

theorem create_byIndex (mode : IOMode) (f : File α) (bs : Nat) (proj : List Nat) (hne : proj ≠ []) :
    create mode f ⟨(bs : Int), proj.map Int.ofNat, []⟩ = some (initReader mode f bs proj) := by
  have : proj.map Int.ofNat ≠ [] := by
    cases proj with
    | nil => exact absurd rfl hne
    | cons _ _ => simp
  simp [create, this, initReader]

theorem binv_init (mode : IOMode) (f : File α) (bs : Nat) (proj : List Nat) :
    BInv f proj bs (initReader mode f bs proj) (initAbs f proj) := by
  refine ⟨rfl, rfl, rfl, by simp [initReader], ?_, by simp [initAbs, initReader], by simp [initAbs, initReader]⟩
  simp only [initReader]
  omega

theorem absOk_init (f : File α) (hf : FileOk f) (proj : List Nat) (hproj : ∀ c ∈ proj, c < f.columns.length) :
    AbsOk (projCols f proj) (initAbs f proj) := by
  refine ⟨fun Ps h => by simp [initAbs] at h, ?_⟩
  intro rgRows hmem
  simp only [initAbs, List.mem_map] at hmem
  obtain ⟨rg, hrg, rfl⟩ := hmem
  exact ⟨projRows_rowsOk f hf rg hrg proj hproj, projRows_sameLen f hf proj rg hrg⟩

/-- number of `next` calls that certainly drain the file: rows of column `proj[0]` plus one per row group, plus one -/
def drainBound (f : File α) (proj : List Nat) : Nat := absMeasure (initAbs f proj)

/-- logical content of file column `c`: its chunks' rows, row group after row group -/
def fileColumnContent (f : File α) (c : Nat) : List (Option α) :=
  f.rowGroups.flatMap (fun rg =>
    match f.columns[c]?, rg[c]? with
    | some col, some cd => Spec.Cursor.content (chunkDataRows col cd)
    | _, _ => [])

theorem absContent_init (f : File α) (hf : FileOk f) (proj : List Nat) (hproj : ∀ c ∈ proj, c < f.columns.length)
    (j c : Nat) (hj : proj[j]? = some c) : absContent j (initAbs f proj) = fileColumnContent f c := by
  simp only [absContent, initAbs, Option.getD_none, colRows, List.getElem?_nil, Option.getD_none, List.map_nil,
    List.nil_append, fileColumnContent, List.flatMap_map]
  have : ∀ (rgs : List (List (ChunkData α))), (∀ rg ∈ rgs, rg ∈ f.rowGroups) →
      rgs.flatMap (fun rg => (((projRows f proj rg)[j]?).getD []).map (·.val)) =
      rgs.flatMap (fun rg => match f.columns[c]?, rg[c]? with
        | some col, some cd => Spec.Cursor.content (chunkDataRows col cd)
        | _, _ => []) := by
    intro rgs
    induction rgs with
    | nil => intro _; rfl
    | cons rg rgs ih =>
      intro hall
      obtain ⟨col, cd, h1, h2, h3⟩ := colRows_projRows f hf rg (hall rg (by simp)) proj j c hproj hj
      simp only [List.flatMap_cons, ih (fun x hx => hall x (by simp [hx])), h1, h2]
      congr 1
      simp only [colRows] at h3
      rw [h3]; rfl
  exact this f.rowGroups (fun _ h => h)

theorem content_erase (cd : ColData α) : (ColData.erase cd).content = cd.content := rfl

theorem batchCol_erase (j : Nat) (b : Batch α) : batchCol j (Batch.erase b) = batchCol j b := by
  simp only [batchCol, Batch.erase, List.getElem?_map]
  cases b.cols[j]? <;> simp [content_erase]

/-! ### projection by name -/

theorem findColumnFrom_spec (name : String) : ∀ (cols : List Column) (i j : Nat) (col : Column),
    cols[j]? = some col → col.name = name → (∀ k, k < j → ∀ c, cols[k]? = some c → c.name ≠ name) →
    findColumnFrom name cols i = ((i + j : Nat) : Int) := by
  intro cols
  induction cols with
  | nil => intro i j col h; simp at h
  | cons c cols ih =>
    intro i j col hj hname hbefore
    cases j with
    | zero =>
      simp only [List.getElem?_cons_zero, Option.some.injEq] at hj
      subst hj
      simp [findColumnFrom, hname]
    | succ j =>
      have hc : c.name ≠ name := hbefore 0 (by omega) c (by simp)
      simp only [findColumnFrom, hc, if_false]
      rw [ih (i + 1) j col (by simpa using hj) hname
        (fun k hk c' hc' => hbefore (k + 1) (by omega) c' (by simpa using hc'))]
      congr 1; omega

theorem findColumn_name (f : File α) (hnodup : (f.columns.map (·.name)).Nodup) (c : Nat) (col : Column)
    (hc : f.columns[c]? = some col) : findColumn f col.name = (c : Int) := by
  unfold findColumn
  have := findColumnFrom_spec col.name f.columns 0 c col hc rfl ?_
  · simpa using this
  · intro k hk c' hc' heq
    have hclt : c < f.columns.length := by
      rcases Nat.lt_or_ge c f.columns.length with h | h
      · exact h
      · rw [List.getElem?_eq_none h] at hc; cases hc
    have hklt : k < f.columns.length := by omega
    have h1 : (f.columns.map (·.name))[k]? = some c'.name := by simp [List.getElem?_map, hc']
    have h2 : (f.columns.map (·.name))[c]? = some col.name := by simp [List.getElem?_map, hc]
    have hk' : k < (f.columns.map (·.name)).length := by simpa using hklt
    have hc'' : c < (f.columns.map (·.name)).length := by simpa using hclt
    rw [List.getElem?_eq_getElem hk'] at h1
    rw [List.getElem?_eq_getElem hc''] at h2
    have : (f.columns.map (·.name))[k] = (f.columns.map (·.name))[c] := by
      simp only [Option.some.injEq] at h1 h2
      rw [h1, h2, heq]
    have := (List.getElem_inj hnodup).mp this
    omega

/-! ### the dense encoding of rows loses nothing -/

theorem encode_faithful (maxDef : Nat) : ∀ (rows1 rows2 : List (Row α)),
    (∀ row ∈ rows1, Row.WF maxDef row) → (∀ row ∈ rows2, Row.WF maxDef row) →
    rows1.map (·.defLevel) = rows2.map (·.defLevel) → rows1.map (·.repLevel) = rows2.map (·.repLevel) →
    rows1.filterMap (·.val) = rows2.filterMap (·.val) → rows1 = rows2 := by
  intro rows1
  induction rows1 with
  | nil =>
    intro rows2 _ _ hd _ _
    cases rows2 with
    | nil => rfl
    | cons _ _ => simp at hd
  | cons a rows1 ih =>
    intro rows2 h1 h2 hd hr hv
    cases rows2 with
    | nil => simp at hd
    | cons b rows2 =>
      simp only [List.map_cons, List.cons.injEq] at hd hr
      have ha := h1 a (by simp)
      have hb := h2 b (by simp)
      have hab : a.val = b.val ∧ rows1.filterMap (·.val) = rows2.filterMap (·.val) := by
        by_cases hmax : a.defLevel = maxDef
        · have hsa : a.val.isSome := ha.2.2 hmax
          have hsb : b.val.isSome := hb.2.2 (by rw [← hd.1]; exact hmax)
          cases hva : a.val with
          | none => simp [hva] at hsa
          | some va =>
            cases hvb : b.val with
            | none => simp [hvb] at hsb
            | some vb =>
              simp only [List.filterMap_cons, hva, hvb, List.cons.injEq] at hv
              exact ⟨by rw [hv.1], hv.2⟩
        · have hna : ¬ a.val.isSome := fun hs => hmax (ha.2.1 hs)
          have hnb : ¬ b.val.isSome := fun hs => hmax (by rw [hd.1]; exact hb.2.1 hs)
          cases hva : a.val with
          | some va => simp [hva] at hna
          | none =>
            cases hvb : b.val with
            | some vb => simp [hvb] at hnb
            | none =>
              simp only [List.filterMap_cons, hva, hvb] at hv
              exact ⟨rfl, hv⟩
      have hrest := ih rows2 (fun x hx => h1 x (by simp [hx])) (fun x hx => h2 x (by simp [hx])) hd.2 hr.2 hab.2
      have : a = b := by
        cases a; cases b
        simp only at hd hr hab
        simp [hd.1, hr.1, hab.1]
      rw [this, hrest]

end Carquet.Proofs.Cursor
