import Carquet.Impl.SimdBitunpack
import Carquet.Spec.Kernels
import Carquet.Impl.Bitpack
import Carquet.Proofs.SimdBools
/-
C15 helper lemmas: the ten SIMD bit unpackers equal `Spec.Kernels.bitUnpack` on every input.
Method: the Spec's value `j` is the `w`-bit field at bit `j * w` of the little-endian number the
input spells; for the widths below a byte the fields are cut from the bytes one by one, for 16 bits
they are the byte pairs.  Each kernel is reduced to the list of bytes (byte pairs) it widens.
-/
namespace Carquet.Proofs.SimdBitunpack
open Carquet Carquet.Impl.Simd Carquet.Proofs.SimdBlocked Carquet.Proofs.SimdBools
open Carquet.Spec.Kernels (bitUnpack bitAt bitsOfByte)
open Carquet.Impl.Bitpack (leNat)

/-! ### the Spec as bit fields of a number -/

theorem bitAt_eq_testBit : ∀ (bytes : List UInt8) (i : Nat), bitAt bytes i = (leNat bytes).testBit i
  | [], i => by simp [bitAt, leNat]
  | x :: xs, i => by
    have e : leNat (x :: xs) = 2 ^ 8 * leNat xs + x.toNat := Nat.add_comm _ _
    rw [e, Nat.testBit_two_pow_mul_add _ x.toNat_lt]
    by_cases h : i < 8
    · rw [if_pos h, bitAt, Nat.div_eq_of_lt h, Nat.mod_eq_of_lt h]; rfl
    · have hi : i = (i - 8) + 8 := by omega
      rw [if_neg h, ← bitAt_eq_testBit xs (i - 8), bitAt, bitAt, hi, Nat.add_div_right _ (by decide),
        Nat.add_mod_right, List.getD_cons_succ, ← hi]

theorem foldr_testBit : ∀ w n : Nat,
    (List.range w).foldr (fun b acc => (if n.testBit b then 1 else 0) + 2 * acc) 0 = n % 2 ^ w
  | 0, n => by simp [Nat.mod_one]
  | w + 1, n => by
    rw [List.range_succ_eq_map, List.foldr_cons, List.foldr_map]
    simp only [Nat.testBit_succ]
    have e : n % 2 ^ (w + 1) = n % 2 + 2 * (n / 2 % 2 ^ w) := by rw [Nat.pow_succ, Nat.mul_comm, Nat.mod_mul]
    rw [foldr_testBit w (n / 2), e, Nat.testBit_zero]
    rcases Nat.mod_two_eq_zero_or_one n with h | h <;> simp [h]

def fields (w k N : Nat) : List Nat := (List.range k).map fun j => N / 2 ^ (j * w) % 2 ^ w

theorem bitUnpack_eq_fields (w n : Nat) (bytes : List UInt8) (h : w * n ≤ 8 * bytes.length) :
    bitUnpack w n bytes = some (fields w n (leNat bytes)) := by
  rw [bitUnpack, if_pos h, fields]
  congr 1
  apply List.map_congr_left
  intro j _
  simp only [bitAt_eq_testBit, Nat.add_comm (j * w), ← Nat.testBit_div_two_pow]
  exact foldr_testBit w _

theorem fields_succ (w k N : Nat) : fields w (k + 1) N = N % 2 ^ w :: fields w k (N / 2 ^ w) := by
  simp only [fields, List.range_succ_eq_map, List.map_cons, List.map_map, Nat.zero_mul, Nat.pow_zero, Nat.div_one]
  congr 1
  apply List.map_congr_left
  intro j _
  simp only [Function.comp_apply, Nat.succ_mul, Nat.add_comm (j * w), Nat.pow_add, Nat.div_div_eq_div_mul]

theorem fields_add (w a b N : Nat) : fields w (a + b) N = fields w a N ++ fields w b (N / 2 ^ (a * w)) := by
  induction a generalizing N with
  | zero => simp [fields]
  | succ a ih =>
    rw [Nat.add_right_comm, fields_succ, fields_succ, ih, Nat.div_div_eq_div_mul, ← Nat.pow_add, Nat.succ_mul,
      Nat.add_comm w]
    rfl

theorem field_low (x R s w t : Nat) (h : s + w ≤ t) : (x + 2 ^ t * R) / 2 ^ s % 2 ^ w = x / 2 ^ s % 2 ^ w := by
  have e : 2 ^ t = 2 ^ s * (2 ^ w * 2 ^ (t - (s + w))) := by rw [← Nat.pow_add, ← Nat.pow_add]; congr 1; omega
  rw [e, Nat.mul_assoc, Nat.add_mul_div_left _ _ (Nat.two_pow_pos s), Nat.mul_assoc, Nat.add_mul_mod_self_left]

theorem fields_bytes (w k : Nat) (hk : k * w = 8) : ∀ bytes : List UInt8,
    fields w (k * bytes.length) (leNat bytes) = bytes.flatMap fun x => fields w k x.toNat
  | [] => by simp [fields]
  | x :: xs => by
    have e : leNat (x :: xs) = x.toNat + 2 ^ 8 * leNat xs := rfl
    have hlo : fields w k (leNat (x :: xs)) = fields w k x.toNat := by
      apply List.map_congr_left
      intro j hj
      have : (j + 1) * w ≤ k * w := Nat.mul_le_mul_right w (List.mem_range.mp hj)
      rw [e, field_low _ _ _ _ _ (by rw [Nat.succ_mul] at this; omega)]
    have hhi : leNat (x :: xs) / 2 ^ (k * w) = leNat xs := by
      have := x.toNat_lt
      rw [hk, e]; omega
    rw [List.length_cons, Nat.mul_succ, Nat.add_comm, fields_add, hlo, hhi, fields_bytes w k hk xs]
    rfl

theorem bitUnpack_bytewise (w k n : Nat) (bytes : List UInt8) (hk : k * w = 8) (hn : n = k * bytes.length) :
    bitUnpack w n bytes = some (bytes.flatMap fun x => fields w k x.toNat) := by
  subst hn
  rw [bitUnpack_eq_fields _ _ _ (by rw [Nat.mul_comm w, Nat.mul_right_comm, hk]; exact Nat.le_refl _),
    fields_bytes w k hk]

theorem fields16 : ∀ (n : Nat) (bytes : List UInt8), bytes.length = 2 * n →
    fields 16 n (leNat bytes) = (widen16 bytes).map (·.toNat)
  | 0, [], _ => rfl
  | n + 1, lo :: hi :: r, h => by
    have hl := lo.toNat_lt; have hh := hi.toNat_lt
    have e : leNat (lo :: hi :: r) = lo.toNat + 256 * hi.toNat + 2 ^ 16 * leNat r := by
      show lo.toNat + 256 * (hi.toNat + 256 * leNat r) = _; omega
    have hlt : lo.toNat + 256 * hi.toNat < 2 ^ 16 := by omega
    rw [fields_succ, e, Nat.add_mul_mod_self_left, Nat.add_mul_div_left _ _ (by decide), Nat.div_eq_of_lt hlt,
      Nat.mod_eq_of_lt hlt, Nat.zero_add, fields16 n r (by simp only [List.length_cons] at h; omega)]
    exact congrArg (· :: _) (Nat.mod_eq_of_lt (Nat.lt_trans hlt (by decide))).symm

/-! ### the fields of one byte -/

theorem fields_8_1 (x : UInt8) : fields 8 1 x.toNat = [x.toNat] := by
  show [x.toNat / 1 % 2 ^ 8] = _
  rw [Nat.div_one, Nat.mod_eq_of_lt x.toNat_lt]

theorem fields_4_2 (x : UInt8) : fields 4 2 x.toNat = [(x &&& 0x0F).toNat, (x >>> 4).toNat] := by
  have := x.toNat_lt
  have lo : (x &&& 0x0F).toNat = x.toNat % 16 := by
    rw [UInt8.toNat_and]; exact Nat.and_two_pow_sub_one_eq_mod _ 4
  have hi : (x >>> 4).toNat = x.toNat / 16 := by
    rw [UInt8.toNat_shiftRight]; exact Nat.shiftRight_eq_div_pow _ 4
  rw [lo, hi]
  show [x.toNat / 1 % 16, x.toNat / 16 % 16] = _
  rw [Nat.div_one, Nat.mod_eq_of_lt (a := x.toNat / 16) (by omega)]

theorem fields_1_8 (x : UInt8) : fields 1 8 x.toNat = (bitsOfByte x).map (·.toNat) := by
  rw [bitsOfByte, List.map_map]
  apply List.map_congr_left
  intro j _
  show _ = (if x.toNat.testBit j then (1 : UInt8) else 0).toNat
  rw [Nat.mul_one, Nat.pow_one, ← Nat.toNat_testBit]
  cases x.toNat.testBit j <;> rfl

/-! ### widening -/

def c8 (x : UInt8) : BitVec 32 := BitVec.ofNat 32 x.toNat

theorem map_c8_toNat (l : List UInt8) : (l.map c8).map (·.toNat) = l.map (·.toNat) := by
  rw [List.map_map]
  exact List.map_congr_left fun x _ => Nat.mod_eq_of_lt (Nat.lt_trans x.toNat_lt (by decide))

theorem widen16x_eq (v : List UInt8) (h : v.length = 16) : widen16x v = v.map c8 := by
  obtain ⟨a0, a1, a2, a3, a4, a5, a6, a7, a8, a9, a10, a11, a12, a13, a14, a15, rfl⟩ := list_len16 v h
  rfl

theorem cvtepu8_eq (n : Nat) (v : List UInt8) : cvtepu8Epi32 n v = (v.take n).map c8 := rfl

/-! ### 1 bit -/

theorem sseBits16_eq (v : List UInt8) (c0 c1 : Nat) :
    sseBits16 v c0 c1 = (bitsOfByte (v.getD (c0 % 16) 0) ++ bitsOfByte (v.getD (c1 % 16) 0)).map c8 := by
  rw [sseBits16, flags16]
  exact widen16x_eq _ rfl

theorem sse_32x1 (input : List UInt8) (h : input.length = 4) :
    some ((sseBitunpack32x1 input).map (·.toNat)) = bitUnpack 1 32 input := by
  rw [bitUnpack_bytewise 1 8 32 input rfl (by rw [h])]
  obtain ⟨p0, p1, p2, p3, rfl⟩ := list_len4 input h
  have hm : sseBitunpack32x1 [p0, p1, p2, p3] = ([p0, p1, p2, p3].flatMap bitsOfByte).map c8 := by
    rw [sseBitunpack32x1, sseBits16_eq, sseBits16_eq, ← List.map_append]; rfl
  rw [hm, map_c8_toNat, List.map_flatMap]
  simp only [fields_1_8]

theorem avx2_64x1 (input : List UInt8) (h : input.length = 8) :
    some ((avx2Bitunpack64x1 input).map (·.toNat)) = bitUnpack 1 64 input := by
  have hm : avx2Bitunpack64x1 input = (input.flatMap bitsOfByte).map c8 := by
    rw [avx2Bitunpack64x1, List.take_of_length_le (Nat.le_of_eq h), List.map_flatMap]
    congr 1
    funext x
    rw [bitsOfByte, List.map_map]
    exact List.map_congr_left fun i hi => congrArg c8 (shr_and_one x i (List.mem_range.mp hi))
  rw [bitUnpack_bytewise 1 8 64 input rfl (by rw [h]), hm, map_c8_toNat, List.map_flatMap]
  simp only [fields_1_8]

/-! ### 4 bits -/

/-- `_mm_srli_epi16(v, 4)` then `& 0x0F`, byte by byte: the low byte of the lane -/
theorem hiNib_lo (x y : UInt8) : (UInt8.ofNat ((x.toNat + 256 * y.toNat) >>> 4 % 256)) &&& (0x0F : UInt8) = x >>> 4 := by
  apply UInt8.toNat_inj.mp
  have hx := x.toNat_lt
  rw [UInt8.toNat_and, UInt8.toNat_ofNat', UInt8.toNat_shiftRight, Nat.shiftRight_eq_div_pow,
    Nat.shiftRight_eq_div_pow]
  show _ &&& 2 ^ 4 - 1 = _ / 2 ^ 4
  rw [Nat.and_two_pow_sub_one_eq_mod]
  omega

/-- the high byte of the lane -/
theorem hiNib_hi (x y : UInt8) : (UInt8.ofNat ((x.toNat + 256 * y.toNat) >>> 4 / 256)) &&& (0x0F : UInt8) = y >>> 4 := by
  apply UInt8.toNat_inj.mp
  have hx := x.toNat_lt; have hy := y.toNat_lt
  rw [UInt8.toNat_and, UInt8.toNat_ofNat', UInt8.toNat_shiftRight, Nat.shiftRight_eq_div_pow,
    Nat.shiftRight_eq_div_pow]
  show _ &&& 2 ^ 4 - 1 = _ / 2 ^ 4
  rw [Nat.and_two_pow_sub_one_eq_mod]
  omega

/-- what `loNibbles`, `hiNibbles` and the interleave make of one 16-bit lane -/
def nibs (x y : UInt8) : List UInt8 :=
  [x &&& 0x0F, UInt8.ofNat ((x.toNat + 256 * y.toNat) >>> 4 % 256) &&& 0x0F,
   y &&& 0x0F, UInt8.ofNat ((x.toNat + 256 * y.toNat) >>> 4 / 256) &&& 0x0F]

theorem nibs_toNat (x y : UInt8) : (nibs x y).map (·.toNat) = fields 4 2 x.toNat ++ fields 4 2 y.toNat := by
  rw [nibs, hiNib_lo, hiNib_hi, fields_4_2, fields_4_2]; rfl

theorem sse_8x4 (input : List UInt8) (h : input.length = 4) :
    some ((sseBitunpack8x4 input).map (·.toNat)) = bitUnpack 4 8 input := by
  rw [bitUnpack_bytewise 4 2 8 input rfl (by rw [h])]
  obtain ⟨p0, p1, p2, p3, rfl⟩ := list_len4 input h
  have hm : sseBitunpack8x4 [p0, p1, p2, p3] = (nibs p0 p1 ++ nibs p2 p3).map c8 := rfl
  rw [hm, map_c8_toNat]
  simp only [List.map_append, nibs_toNat, List.flatMap_cons, List.flatMap_nil, List.append_assoc, List.append_nil]

theorem avx2_16x4 (input : List UInt8) (h : input.length = 8) :
    some ((avx2Bitunpack16x4 input).map (·.toNat)) = bitUnpack 4 16 input := by
  rw [bitUnpack_bytewise 4 2 16 input rfl (by rw [h])]
  obtain ⟨p0, p1, p2, p3, p4, p5, p6, p7, rfl⟩ := list_len8 input h
  have hm : avx2Bitunpack16x4 [p0, p1, p2, p3, p4, p5, p6, p7] =
      (nibs p0 p1 ++ nibs p2 p3 ++ nibs p4 p5 ++ nibs p6 p7).map c8 := rfl
  rw [hm, map_c8_toNat]
  simp only [List.map_append, nibs_toNat, List.flatMap_cons, List.flatMap_nil, List.append_assoc, List.append_nil]

theorem avx512_32x4 (input : List UInt8) (h : input.length = 16) :
    some ((avx512Bitunpack32x4 input).map (·.toNat)) = bitUnpack 4 32 input := by
  rw [bitUnpack_bytewise 4 2 32 input rfl (by rw [h])]
  obtain ⟨p0, p1, p2, p3, p4, p5, p6, p7, p8, p9, p10, p11, p12, p13, p14, p15, rfl⟩ := list_len16 input h
  have hm : avx512Bitunpack32x4 [p0, p1, p2, p3, p4, p5, p6, p7, p8, p9, p10, p11, p12, p13, p14, p15] =
      (nibs p0 p1 ++ nibs p2 p3 ++ nibs p4 p5 ++ nibs p6 p7 ++ nibs p8 p9 ++ nibs p10 p11 ++ nibs p12 p13 ++
        nibs p14 p15).map c8 := rfl
  rw [hm, map_c8_toNat]
  simp only [List.map_append, nibs_toNat, List.flatMap_cons, List.flatMap_nil, List.append_assoc, List.append_nil]

/-! ### 8 bits -/

theorem bytes_toNat (l : List UInt8) : (l.map c8).map (·.toNat) = l.flatMap fun x => fields 8 1 x.toNat := by
  simp only [map_c8_toNat, fields_8_1, ← List.map_eq_flatMap]

theorem sse_8x8 (input : List UInt8) (h : input.length = 8) :
    some ((sseBitunpack8x8 input).map (·.toNat)) = bitUnpack 8 8 input := by
  rw [bitUnpack_bytewise 8 1 8 input rfl (by rw [h]), ← bytes_toNat]
  obtain ⟨p0, p1, p2, p3, p4, p5, p6, p7, rfl⟩ := list_len8 input h
  rfl

theorem avx2_16x8 (input : List UInt8) (h : input.length = 16) :
    some ((avx2Bitunpack16x8 input).map (·.toNat)) = bitUnpack 8 16 input := by
  have hm : avx2Bitunpack16x8 input = input.map c8 := by
    rw [avx2Bitunpack16x8, srliSi128Bytes, List.take_of_length_le (Nat.le_of_eq h), cvtepu8_eq, cvtepu8_eq,
      List.take_append_of_le_length (by rw [List.length_drop]; omega),
      List.take_of_length_le (l := input.drop 8) (by rw [List.length_drop]; omega), ← List.map_append,
      List.take_append_drop]
  rw [bitUnpack_bytewise 8 1 16 input rfl (by rw [h]), hm, bytes_toNat]

theorem avx512_32x8 (input : List UInt8) (h : input.length = 32) :
    some ((avx512Bitunpack32x8 input).map (·.toNat)) = bitUnpack 8 32 input := by
  have hm : avx512Bitunpack32x8 input = input.map c8 := by
    rw [avx512Bitunpack32x8, cvtepu8_eq, cvtepu8_eq, List.take_take, List.take_take, Nat.min_self,
      List.take_of_length_le (l := input.drop 16) (by rw [List.length_drop]; omega), ← List.map_append,
      List.take_append_drop]
  rw [bitUnpack_bytewise 8 1 32 input rfl (by rw [h]), hm, bytes_toNat]

/-! ### 16 bits -/

theorem cvtepu16_fields (n : Nat) (input : List UInt8) (h : input.length = 2 * n) :
    some ((cvtepu16Epi32 n (input.take (2 * n))).map (·.toNat)) = bitUnpack 16 n input := by
  rw [bitUnpack_eq_fields _ _ _ (by omega), fields16 n input h, cvtepu16Epi32, List.take_take,
    List.take_of_length_le (by omega)]

theorem avx2_8x16 (input : List UInt8) (h : input.length = 16) :
    some ((avx2Bitunpack8x16 input).map (·.toNat)) = bitUnpack 16 8 input := cvtepu16_fields 8 input h

theorem avx512_16x16 (input : List UInt8) (h : input.length = 32) :
    some ((avx512Bitunpack16x16 input).map (·.toNat)) = bitUnpack 16 16 input := cvtepu16_fields 16 input h

end Carquet.Proofs.SimdBitunpack
