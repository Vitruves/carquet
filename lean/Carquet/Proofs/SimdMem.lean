import Carquet.Impl.SimdMore
import Carquet.Spec.Kernels
import Carquet.Proofs.SimdBlocked
import Carquet.Proofs.SimdKernels
/-
C15 helper lemmas: the memset / memcpy helpers (cascades of 4xW, W, …, 16-byte and single-byte
loops) write `n` copies of the value / the source bytes, for every `n`.
-/
namespace Carquet.Proofs.SimdMem
open Carquet Carquet.Impl.Simd Carquet.Proofs.SimdBlocked Carquet.Proofs.SimdKernels

theorem memTail_append (v : UInt8) (a r : List UInt8) : memTail v (a ++ r) = memTail v a ++ memTail v r := by
  simp [memTail]

theorem memTail_replicate (v : UInt8) (b : List UInt8) : memTail v b = List.replicate b.length v :=
  List.map_const'

theorem store1 (W : Nat) (v : UInt8) (b : List UInt8) (h : b.length = W) : set1 W v = memTail v b := by
  rw [memTail_replicate, h]; rfl

theorem store4 (W : Nat) (v : UInt8) (b : List UInt8) (h : b.length = 4 * W) :
    set1 W v ++ set1 W v ++ set1 W v ++ set1 W v = memTail v b := by
  rw [memTail_replicate, h]
  simp only [set1, List.replicate_append_replicate]
  congr 1; omega

/-- one level of the cascade: a `W`-byte store loop in front of a tail that already is the scalar loop -/
theorem memsetLevel (W : Nat) (hW : 0 < W) (v : UInt8) (blk tail : List UInt8 → List UInt8)
    (hblk : ∀ b, b.length = W → blk b = memTail v b) (htail : ∀ t, tail t = memTail v t) (xs : List UInt8) :
    blockedMap W blk tail xs = memTail v xs :=
  blockedMap_eq W hW blk tail (memTail v) hblk (fun t _ => htail t) (fun a r _ => memTail_append v a r) xs

theorem sse_memset (old : List UInt8) (v : UInt8) : sseMemset old v = Spec.Kernels.memset old.length v := by
  unfold sseMemset Spec.Kernels.memset
  rw [memsetLevel 64 (by decide) v _ _ (store4 16 v) (memsetLevel 16 (by decide) v _ _ (store1 16 v) fun _ => rfl),
    memTail_replicate]

theorem avx2_memset (old : List UInt8) (v : UInt8) : avx2Memset old v = Spec.Kernels.memset old.length v := by
  unfold avx2Memset Spec.Kernels.memset
  rw [memsetLevel 128 (by decide) v _ _ (store4 32 v)
    (memsetLevel 32 (by decide) v _ _ (store1 32 v) (memsetLevel 16 (by decide) v _ _ (store1 16 v) fun _ => rfl)),
    memTail_replicate]

theorem avx512_memset (old : List UInt8) (v : UInt8) : avx512Memset old v = Spec.Kernels.memset old.length v := by
  unfold avx512Memset Spec.Kernels.memset
  rw [memsetLevel 256 (by decide) v _ _ (store4 64 v)
    (memsetLevel 64 (by decide) v _ _ (store1 64 v)
      (memsetLevel 32 (by decide) v _ _ (store1 32 v) (memsetLevel 16 (by decide) v _ _ (store1 16 v) fun _ => rfl))),
    memTail_replicate]

/-! ### memcpy -/

theorem take_all {α : Type} (W : Nat) (b : List α) (h : b.length = W) : b.take W = b :=
  List.take_of_length_le (by omega)

theorem copy4_eq (W : Nat) (b : List UInt8) (h : b.length = 4 * W) : copy4 W b = b := by
  unfold copy4
  have h3 : (b.drop (3 * W)).take W = b.drop (3 * W) := List.take_of_length_le (by rw [List.length_drop]; omega)
  rw [h3]
  have e1 : b.drop (3 * W) = (b.drop (2 * W)).drop W := by rw [List.drop_drop]; congr 1; omega
  rw [e1, List.append_assoc, List.take_append_drop]
  have e2 : b.drop (2 * W) = (b.drop W).drop W := by rw [List.drop_drop]; congr 1; omega
  rw [e2, List.append_assoc, List.take_append_drop, List.take_append_drop]

theorem memcpyLevel (W : Nat) (hW : 0 < W) (blk tail : List UInt8 → List UInt8)
    (hblk : ∀ b, b.length = W → blk b = b) (htail : ∀ t, tail t = t) (xs : List UInt8) :
    blockedMap W blk tail xs = xs :=
  blockedMap_eq W hW blk tail id hblk (fun t _ => htail t) (fun _ _ _ => rfl) xs

theorem sse_memcpy (src : List UInt8) : sseMemcpy src = Spec.Kernels.memcpy src := by
  unfold sseMemcpy Spec.Kernels.memcpy
  exact memcpyLevel 64 (by decide) _ _ (copy4_eq 16) (memcpyLevel 16 (by decide) _ _ (take_all 16) (fun _ => rfl)) src

theorem avx2_memcpy (src : List UInt8) : avx2Memcpy src = Spec.Kernels.memcpy src := by
  unfold avx2Memcpy Spec.Kernels.memcpy
  exact memcpyLevel 128 (by decide) _ _ (copy4_eq 32)
    (memcpyLevel 32 (by decide) _ _ (take_all 32) (memcpyLevel 16 (by decide) _ _ (take_all 16) (fun _ => rfl))) src

theorem avx512_memcpy (src : List UInt8) : avx512Memcpy src = Spec.Kernels.memcpy src := by
  unfold avx512Memcpy Spec.Kernels.memcpy
  exact memcpyLevel 256 (by decide) _ _ (copy4_eq 64)
    (memcpyLevel 64 (by decide) _ _ (take_all 64)
      (memcpyLevel 32 (by decide) _ _ (take_all 32) (memcpyLevel 16 (by decide) _ _ (take_all 16) (fun _ => rfl)))) src

end Carquet.Proofs.SimdMem
