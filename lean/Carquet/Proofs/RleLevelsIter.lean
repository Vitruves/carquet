import Carquet.Impl.Rle
import Carquet.Proofs.BitpackImpl
/-
The `while` loop of `carquet_rle_decode_levels` (`Impl.Rle.levelsLoop`; `levelsLoopPreF58` before repair
F58) as "read a run header, handle the run, go on with what is left".
-/
namespace Carquet.Proofs.RleLevels
open Carquet.Impl Carquet.Impl.Rle

/-- one iteration of the loop: the levels stored, the input left unread, and the two events that make
the function return -/
structure Iter where
  vals : List Int
  rest : List UInt8
  /-- the value bytes of an RLE run are missing -/
  short : Bool
  /-- a bit-packed group is cut short (ends the group loop; since F58 ends the function) -/
  cut : Bool

/-- behind the header `h`; an empty run stores nothing (`replicate 0`, `levelsGroups _ 0`) -/
def iterOf (w h : Nat) (rest : List UInt8) (want : Nat) : Iter :=
  if h &&& 1 = 0 then
    if rest.length < valueBytes w then ⟨[], rest, true, false⟩
    else ⟨List.replicate (min (h >>> 1) want) (truncI16 (Bitpack.leNat (rest.take (valueBytes w)) &&& valueMask w)),
          rest.drop (valueBytes w), false, false⟩
  else ⟨(levelsGroups w (h >>> 1) rest want).1, (levelsGroups w (h >>> 1) rest want).2, false,
        groupsCut w (h >>> 1) rest want⟩

def iter (w : Nat) (bs : List UInt8) (want : Nat) : Iter :=
  iterOf w (Varint.readHeaderLevels bs).1 (Varint.readHeaderLevels bs).2 want

theorem levelsLoop_succ (w f : Nat) (bs : List UInt8) (want : Nat) :
    levelsLoop w (f + 1) bs want =
      if want = 0 then [] else if bs.length = 0 then []
      else if (iter w bs want).short || (iter w bs want).cut then (iter w bs want).vals
      else (iter w bs want).vals ++ levelsLoop w f (iter w bs want).rest (want - (iter w bs want).vals.length) := by
  rw [levelsLoop]
  refine ite_congr rfl (fun _ => rfl) (fun _ => ite_congr rfl (fun _ => rfl) (fun _ => ?_))
  unfold iter
  generalize Varint.readHeaderLevels bs = hr
  unfold iterOf
  by_cases hp : hr.1 &&& 1 = 0
  · simp only [if_pos hp]
    by_cases hs : hr.2.length < valueBytes w
    · simp only [if_pos hs]; rfl
    · simp only [if_neg hs]
      by_cases hz : hr.1 >>> 1 = 0
      · simp only [hz, Nat.zero_min, List.replicate_zero, List.nil_append, List.length_nil, Nat.sub_zero]; rfl
      · simp only [if_neg hz, List.length_replicate]; rfl
  · simp only [if_neg hp]
    by_cases hz : hr.1 >>> 1 * 8 = 0
    · have hz' : hr.1 >>> 1 = 0 := by omega
      simp only [hz', levelsGroups, groupsCut, List.nil_append, List.length_nil, Nat.sub_zero]; rfl
    · simp only [if_neg hz]
      by_cases hc : groupsCut w (hr.1 >>> 1) hr.2 want = true
      · simp only [hc]; rfl
      · simp only [hc]; rfl

/-- before F58 a cut group did not end the function -/
theorem levelsLoopPreF58_succ (w f : Nat) (bs : List UInt8) (want : Nat) :
    levelsLoopPreF58 w (f + 1) bs want =
      if want = 0 then [] else if bs.length = 0 then []
      else if (iter w bs want).short then (iter w bs want).vals
      else (iter w bs want).vals ++
        levelsLoopPreF58 w f (iter w bs want).rest (want - (iter w bs want).vals.length) := by
  rw [levelsLoopPreF58]
  refine ite_congr rfl (fun _ => rfl) (fun _ => ite_congr rfl (fun _ => rfl) (fun _ => ?_))
  unfold iter
  generalize Varint.readHeaderLevels bs = hr
  unfold iterOf
  by_cases hp : hr.1 &&& 1 = 0
  · simp only [if_pos hp]
    by_cases hs : hr.2.length < valueBytes w
    · simp only [if_pos hs]; rfl
    · simp only [if_neg hs]
      by_cases hz : hr.1 >>> 1 = 0
      · simp only [hz, Nat.zero_min, List.replicate_zero, List.nil_append, List.length_nil, Nat.sub_zero]; rfl
      · simp only [if_neg hz, List.length_replicate]; rfl
  · simp only [if_neg hp]
    by_cases hz : hr.1 >>> 1 * 8 = 0
    · have hz' : hr.1 >>> 1 = 0 := by omega
      simp only [hz', levelsGroups, List.nil_append, List.length_nil, Nat.sub_zero]; rfl
    · simp only [if_neg hz]; rfl

end Carquet.Proofs.RleLevels
