import Carquet.Spec.Order
/-
Order facts about the Spec comparisons: every `keyCmp t` and the statistics order `tcmp t` is a
total preorder presented as a three-way comparison (`GoodCmp`: antisymmetric under swap,
transitive).  Everything later (builder invariant, pruning soundness) is derived from these two
laws only.
-/
namespace Carquet.Proofs.StatsOrder
open Carquet.Spec.Order

/-- A three-way comparison of a total preorder. -/
structure GoodCmp {α : Type} (c : α → α → Ordering) : Prop where
  swap : ∀ a b, c b a = (c a b).swap
  trans : ∀ a b d, c a b ≠ .gt → c b d ≠ .gt → c a d ≠ .gt

namespace GoodCmp
variable {α : Type} {c : α → α → Ordering}

theorem refl (h : GoodCmp c) (a : α) : c a a = .eq := by
  have := h.swap a a
  cases hc : c a a <;> rw [hc] at this <;> simp [Ordering.swap] at this ⊢

theorem gt_iff_lt (h : GoodCmp c) (a b : α) : c a b = .gt ↔ c b a = .lt := by
  rw [h.swap a b]; cases c a b <;> simp [Ordering.swap]

theorem lt_iff_gt (h : GoodCmp c) (a b : α) : c a b = .lt ↔ c b a = .gt := by
  rw [h.swap a b]; cases c a b <;> simp [Ordering.swap]

theorem eq_comm (h : GoodCmp c) (a b : α) : c a b = .eq ↔ c b a = .eq := by
  rw [h.swap a b]; cases c a b <;> simp [Ordering.swap]

/-- `a < b ≤ d → a < d` -/
theorem lt_of_lt_of_le (h : GoodCmp c) {a b d : α} (h1 : c a b = .lt) (h2 : c b d ≠ .gt) : c a d = .lt := by
  have hle : c a d ≠ .gt := h.trans a b d (by rw [h1]; decide) h2
  cases hc : c a d with
  | lt => rfl
  | gt => exact absurd hc hle
  | eq =>
    -- then d ≤ a, so b ≤ a, contradicting a < b
    have hda : c d a ≠ .gt := by rw [(h.eq_comm a d).1 hc]; decide
    have hba : c b a ≠ .gt := h.trans b d a h2 hda
    have : c b a = .gt := (h.lt_iff_gt a b).1 h1
    exact absurd this hba

/-- `a ≤ b < d → a < d` -/
theorem lt_of_le_of_lt (h : GoodCmp c) {a b d : α} (h1 : c a b ≠ .gt) (h2 : c b d = .lt) : c a d = .lt := by
  have hle : c a d ≠ .gt := h.trans a b d h1 (by rw [h2]; decide)
  cases hc : c a d with
  | lt => rfl
  | gt => exact absurd hc hle
  | eq =>
    have hda : c d a ≠ .gt := by rw [(h.eq_comm a d).1 hc]; decide
    have hdb : c d b ≠ .gt := h.trans d a b hda h1
    have : c d b = .gt := (h.lt_iff_gt b d).1 h2
    exact absurd this hdb

/-- `a ≤ b` and `b ≤ a` give `eq` -/
theorem eq_of_le_of_ge (h : GoodCmp c) {a b : α} (h1 : c a b ≠ .gt) (h2 : c b a ≠ .gt) : c a b = .eq := by
  cases hc : c a b with
  | eq => rfl
  | gt => exact absurd hc h1
  | lt => exact absurd ((h.lt_iff_gt a b).1 hc) h2

end GoodCmp

/-! ### comparisons through a key -/

theorem cmpInt_ne_gt (x y : Int) : cmpInt x y ≠ .gt ↔ x ≤ y := by
  unfold cmpInt
  by_cases h1 : x < y
  · rw [if_pos h1]; exact ⟨fun _ => Int.le_of_lt h1, fun _ => by decide⟩
  · rw [if_neg h1]
    by_cases h2 : y < x
    · rw [if_pos h2]; exact ⟨fun h => absurd rfl h, fun h => absurd h (Int.not_le.mpr h2)⟩
    · rw [if_neg h2]; exact ⟨fun _ => Int.not_lt.mp h2, fun _ => by decide⟩

theorem cmpInt_good {α : Type} (k : α → Int) : GoodCmp (fun a b => cmpInt (k a) (k b)) where
  swap a b := by
    simp only [cmpInt]
    by_cases h1 : k a < k b <;> by_cases h2 : k b < k a <;> simp [h1, h2, Ordering.swap] <;> omega
  trans a b d := by
    simp only [cmpInt_ne_gt]
    exact Int.le_trans

theorem cmpNat_eq_cmpInt (a b : Nat) : cmpNat a b = cmpInt (a : Int) (b : Int) := by
  simp only [cmpNat, cmpInt]
  by_cases h1 : a < b <;> by_cases h2 : b < a <;> simp [h1, h2] <;> try omega

theorem cmpNat_good {α : Type} (k : α → Nat) : GoodCmp (fun a b => cmpNat (k a) (k b)) := by
  have := cmpInt_good (fun a => (k a : Int))
  simpa only [cmpNat_eq_cmpInt] using this

theorem cmpSigned_eq (w a b : Nat) :
    cmpSigned w a b = cmpInt (BitVec.ofNat w a).toInt (BitVec.ofNat w b).toInt := by
  simp only [cmpSigned, cmpInt, BitVec.slt_iff_toInt_lt]

theorem cmpSigned_good {α : Type} (w : Nat) (k : α → Nat) : GoodCmp (fun a b => cmpSigned w (k a) (k b)) := by
  have := cmpInt_good (fun a => (BitVec.ofNat w (k a)).toInt)
  simpa only [cmpSigned_eq] using this

/-! ### lexicographic bytes -/

theorem u8_lt_asymm {a b : UInt8} (h : a < b) : ¬ b < a := by
  simp only [UInt8.lt_iff_toNat_lt] at *; omega

theorem u8_eq_of_not_lt {a b : UInt8} (h1 : ¬ a < b) (h2 : ¬ b < a) : a = b := by
  apply UInt8.toNat_inj.1
  simp only [UInt8.lt_iff_toNat_lt] at *; omega

theorem blex_swap : ∀ a b : List UInt8, blex b a = (blex a b).swap
  | [], [] => rfl
  | [], _ :: _ => rfl
  | _ :: _, [] => rfl
  | x :: xs, y :: ys => by
    simp only [blex]
    by_cases h1 : x < y
    · have := u8_lt_asymm h1; simp [h1, this, Ordering.swap]
    · by_cases h2 : y < x
      · simp [h1, h2, Ordering.swap]
      · simp [h1, h2, blex_swap xs ys]

theorem blex_trans : ∀ a b d : List UInt8, blex a b ≠ .gt → blex b d ≠ .gt → blex a d ≠ .gt
  | [], [], _ => by intro _ h; exact h
  | [], _ :: _, [] => by intro _ h; simp [blex] at h
  | [], _ :: _, _ :: _ => by intro _ _; simp [blex]
  | _ :: _, [], _ => by intro h; simp [blex] at h
  | x :: xs, y :: ys, [] => by intro _ h; simp [blex] at h
  | x :: xs, y :: ys, z :: zs => by
    simp only [blex]
    intro h1 h2
    by_cases hxy : x < y
    · by_cases hyz : y < z
      · have : x < z := by simp only [UInt8.lt_iff_toNat_lt] at *; omega
        simp [this]
      · by_cases hzy : z < y
        · simp [hyz, hzy] at h2
        · have := u8_eq_of_not_lt hyz hzy; subst this; simp [hxy]
    · by_cases hyx : y < x
      · simp [hxy, hyx] at h1
      · have := u8_eq_of_not_lt hxy hyx; subst this
        simp only [hxy, if_false] at h1
        by_cases hyz : x < z
        · simp [hyz]
        · by_cases hzy : z < x
          · simp [hyz, hzy] at h2
          · simp only [hyz, hzy, if_false] at h2 ⊢
            exact blex_trans xs ys zs h1 h2

theorem blex_good : GoodCmp blex := ⟨blex_swap, blex_trans⟩

/-! ### every type's comparison, and the statistics order -/

theorem keyCmp_good (t : PType) : GoodCmp (keyCmp t) := by
  cases t
  · exact cmpNat_good (fun a => uval 1 a)
  · exact cmpSigned_good 32 leNat
  · exact cmpSigned_good 64 leNat
  · exact cmpNat_good (fun a => uval 12 a)
  · exact cmpInt_good (fun a => fval f32 (uval 4 a))
  · exact cmpInt_good (fun a => fval f64 (uval 8 a))
  · exact blex_good
  · exact blex_good

theorem tcmp_good (t : PType) : GoodCmp (tcmp t) where
  swap a b := by
    simp only [tcmp]
    cases ha : isNaN t a <;> cases hb : isNaN t b <;> simp [Ordering.swap]
    exact (keyCmp_good t).swap a b
  trans a b d := by
    simp only [tcmp]
    cases ha : isNaN t a <;> cases hb : isNaN t b <;> cases hd : isNaN t d <;> simp
    exact (keyCmp_good t).trans a b d

theorem isNaN_false_of (t : PType) (h : t ≠ .float ∧ t ≠ .double) (a : List UInt8) : isNaN t a = false := by
  cases t <;> simp_all [isNaN]

theorem tcmp_of_not_nan {t : PType} {a b : List UInt8} (ha : isNaN t a = false) (hb : isNaN t b = false) :
    tcmp t a b = keyCmp t a b := by simp [tcmp, ha, hb]

theorem cmpT_of_not_nan {t : PType} {a b : List UInt8} (ha : isNaN t a = false) (hb : isNaN t b = false) :
    cmpT t a b = some (keyCmp t a b) := by simp [cmpT, ha, hb]

theorem tle_refl (t : PType) (a : List UInt8) : tle t a a := by
  unfold tle; rw [(tcmp_good t).refl]; decide

theorem tle_trans {t : PType} {a b d : List UInt8} (h1 : tle t a b) (h2 : tle t b d) : tle t a d :=
  (tcmp_good t).trans a b d h1 h2

theorem tle_total (t : PType) (a b : List UInt8) : tle t a b ∨ tle t b a := by
  unfold tle; rw [(tcmp_good t).swap a b]; cases tcmp t a b <;> simp [Ordering.swap]

end Carquet.Proofs.StatsOrder
