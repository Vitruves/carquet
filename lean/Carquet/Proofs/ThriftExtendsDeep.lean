import Carquet.Proofs.ThriftUnknown
/-
Unknown fields at EVERY nesting level, syntactically.

`Sch` describes where structs sit in a Thrift value (which ids a struct parser knows, how deep an
unknown field's value may be at that place, and the schema of each known member); `ExtD sch v v'`
says that `v'` is `v` with further fields inserted — at any struct the schema reaches, with ids the
parser of that struct does not know, of any wire type and bounded nesting depth — and nothing
else changed.  `TableExt`: a parser table does not see the difference (`okFields` is preserved,
`ofFields` is equal).  The schemas `schFileMeta`, `schPageHeader` are parquet.thrift restricted to
what carquet parses.
-/
namespace Carquet.Proofs.Thrift
open Carquet.Spec.Thrift Carquet.Spec.ParquetThrift
open Carquet.Impl.Thrift
open Carquet.Impl.ThriftParquet

/-- where structs sit: `struct R known child` — a struct whose parser knows the ids `known`,
skips values nested at most `R` deep under any other id, and whose known member `id` has schema
`child id`; `list e` — a list whose elements have schema `e`; `leaf` — anything else -/
inductive Sch where
  | leaf
  | struct (R : Nat) (known : List Int) (child : Int → Sch)
  | list (elem : Sch)

/-- `ext` is `base` with fields inserted anywhere (ids outside `known`, values nested at most `R`
deep), the kept fields related by `rel` -/
inductive ExtFs (R : Nat) (known : List Int) (rel : Int → TVal → TVal → Prop) : Fields → Fields → Prop
  | nil : ExtFs R known rel [] []
  | keep {id v v' base ext} : rel id v v' → ExtFs R known rel base ext → ExtFs R known rel ((id, v) :: base) ((id, v') :: ext)
  | add {id v base ext} : id ∉ known → v.depth ≤ R → ExtFs R known rel base ext → ExtFs R known rel base ((id, v) :: ext)

/-- two lists related element by element -/
inductive All2 {α : Type} (r : α → α → Prop) : List α → List α → Prop
  | nil : All2 r [] []
  | cons {a b l l'} : r a b → All2 r l l' → All2 r (a :: l) (b :: l')

/-- **ExtendsDeep**: `v'` is `v` with unknown fields inserted into the structs the schema reaches -/
def ExtD : Sch → TVal → TVal → Prop
  | .leaf, v, v' => v' = v
  | .struct R known child, v, v' =>
      v' = v ∨ ∃ fs fs', v = .struct fs ∧ v' = .struct fs' ∧ ExtFs R known (fun id => ExtD (child id)) fs fs'
  | .list e, v, v' => v' = v ∨ ∃ et xs xs', v = .list et xs ∧ v' = .list et xs' ∧ All2 (ExtD e) xs xs'

/-- a parser table does not see the extension: acceptability is preserved and the parsed state
is the same, from every initial state -/
def TableExt {σ : Type} (tbl : Table σ) (R : Nat) (child : Int → Sch) : Prop :=
  ∀ base ext, ExtFs R (tbl.map (·.1)) (fun id => ExtD (child id)) base ext → okFields tbl R base →
    okFields tbl R ext ∧ ∀ s : σ, ofFields tbl s ext = ofFields tbl s base

/-- one table entry does not see the extension of its member -/
def EntryExt {σ : Type} (sem : FieldSem σ) (sch : Sch) : Prop :=
  ∀ v v', ExtD sch v v' → sem.shape v → sem.shape v' ∧ ∀ s : σ, sem.upd s v' = sem.upd s v

theorem entryExt_leaf {σ : Type} (sem : FieldSem σ) : EntryExt sem .leaf := by
  intro v v' h hs
  simp only [ExtD] at h
  subst h
  exact ⟨hs, fun _ => rfl⟩

theorem lookupT_some_mem {σ : Type} (tbl : Table σ) (id : Int) (f : FieldSem σ) (h : lookupT tbl id = some f) :
    id ∈ tbl.map (·.1) := by
  have := lookupT_mem tbl id f h
  exact List.mem_map.mpr ⟨(id, f), this, rfl⟩

/-- the table-level statement from the entry-level ones -/
theorem tableExt_of_entries {σ : Type} (tbl : Table σ) (R : Nat) (child : Int → Sch)
    (hent : ∀ id sem, lookupT tbl id = some sem → EntryExt sem (child id))
    (hleaf : ∀ id, lookupT tbl id = none → child id = .leaf) : TableExt tbl R child := by
  intro base ext h
  induction h with
  | nil => intro hb; exact ⟨hb, fun _ => rfl⟩
  | @keep id v v' base ext hrel _ ih =>
    intro hb
    obtain ⟨hb0, hb'⟩ := okFields_cons.1 hb
    obtain ⟨ih1, ih2⟩ := ih hb'
    cases hl : lookupT tbl id with
    | none =>
      rw [hleaf id hl] at hrel
      simp only [ExtD] at hrel
      subst hrel
      exact ⟨okFields_cons.2 ⟨hb0, ih1⟩, fun s => by rw [ofFields_cons, ofFields_cons, ih2]⟩
    | some sem =>
      unfold okT at hb0
      rw [hl] at hb0
      obtain ⟨hs', hu⟩ := hent id sem hl v v' hrel hb0
      have hstep : ∀ s, stepT tbl s id v' = stepT tbl s id v := fun s => by simp [stepT, hl, hu]
      exact ⟨okFields_cons.2 ⟨by unfold okT; rw [hl]; exact hs', ih1⟩,
        fun s => by rw [ofFields_cons, ofFields_cons, hstep, ih2]⟩
  | @add id v base ext hid hd _ ih =>
    intro hb
    obtain ⟨ih1, ih2⟩ := ih hb
    have hl := (lookupT_eq_none_iff tbl id).2 hid
    have hstep : ∀ s, stepT tbl s id v = s := fun s => by simp [stepT, hl]
    exact ⟨okFields_cons.2 ⟨by unfold okT; rw [hl]; exact hd, ih1⟩, fun s => by rw [ofFields_cons, hstep, ih2]⟩

/-- a table all of whose members are leaves -/
theorem tableExt_leaf {σ : Type} (tbl : Table σ) (R : Nat) : TableExt tbl R (fun _ => .leaf) :=
  tableExt_of_entries tbl R _ (fun _ sem _ => entryExt_leaf sem) (fun _ _ => rfl)

/-! ### entry kinds with nested structs -/

/-- a struct-valued member whose handler is the table `tbl'`, started from a state that may depend
on the enclosing one: `okf` and `of` see a field list only through what `tbl'` makes of it -/
theorem entryExt_structS {σ β : Type} {τ : Type} (tbl' : Table τ) (R' : Nat) (child' : Int → Sch)
    (okf : Fields → Prop) (of : σ → Fields → β) (set : σ → β → σ)
    (h : ∀ fs fs', ExtFs R' (tbl'.map (·.1)) (fun id => ExtD (child' id)) fs fs' → okf fs →
      okf fs' ∧ ∀ s, of s fs' = of s fs) :
    EntryExt (semStructS okf of set) (.struct R' (tbl'.map (·.1)) child') := by
  intro v v' hv hs
  simp only [ExtD] at hv
  rcases hv with rfl | ⟨fs, fs', rfl, rfl, he⟩
  · exact ⟨hs, fun _ => rfl⟩
  obtain ⟨fs0, h0, hok⟩ := hs
  cases h0
  obtain ⟨hok', hof⟩ := h fs fs' he hok
  exact ⟨⟨fs', rfl, hok'⟩, fun s => by simp only [semStructS, asFields, hof]⟩

theorem entryExt_struct {σ τ : Type} (tbl' : Table τ) (R' : Nat) (child' : Int → Sch) (ht : TableExt tbl' R' child')
    (init : σ → τ) (set : σ → τ → σ) :
    EntryExt (semStructS (okFields tbl' R') (fun s fs => ofFields tbl' (init s) fs) set)
      (.struct R' (tbl'.map (·.1)) child') :=
  entryExt_structS tbl' R' child' _ _ set fun fs fs' he hok => ⟨(ht fs fs' he hok).1, fun s => (ht fs fs' he hok).2 _⟩

theorem entryExt_struct0 {σ τ : Type} (tbl' : Table τ) (R' : Nat) (child' : Int → Sch) (ht : TableExt tbl' R' child')
    (init : τ) (set : σ → τ → σ) :
    EntryExt (semStruct (okFields tbl' R') (ofFields tbl' init) set) (.struct R' (tbl'.map (·.1)) child') :=
  entryExt_struct tbl' R' child' ht (fun _ => init) set

theorem forall2_structs {τ : Type} (tbl' : Table τ) (R' : Nat) (child' : Int → Sch) (ht : TableExt tbl' R' child')
    (init : τ) : ∀ (xs xs' : List TVal), All2 (ExtD (.struct R' (tbl'.map (·.1)) child')) xs xs' →
      (∀ x ∈ xs, isStructOf tbl' R' x) →
      (∀ x ∈ xs', isStructOf tbl' R' x) ∧ xs'.length = xs.length ∧
        xs'.map (fun v => ofFields tbl' init (asFields v)) = xs.map (fun v => ofFields tbl' init (asFields v)) := by
  intro xs xs' h
  induction h with
  | nil => intro _; exact ⟨fun _ hx => absurd hx List.not_mem_nil, rfl, rfl⟩
  | @cons a b l l' hab _ ih =>
    intro hs
    obtain ⟨i1, i2, i3⟩ := ih (fun x hx => hs x (List.mem_cons_of_mem _ hx))
    -- the head: the same struct, or one with fields inserted
    have hb : isStructOf tbl' R' b ∧ ofFields tbl' init (asFields b) = ofFields tbl' init (asFields a) := by
      simp only [ExtD] at hab
      rcases hab with rfl | ⟨fs, fs', rfl, rfl, he⟩
      · exact ⟨hs _ List.mem_cons_self, rfl⟩
      · obtain ⟨fs0, h0, hok⟩ := hs _ List.mem_cons_self
        cases h0
        obtain ⟨hok', hof⟩ := ht fs fs' he hok
        exact ⟨⟨fs', rfl, hok'⟩, hof init⟩
    refine ⟨?_, by simp [i2], by simp only [List.map_cons, i3, hb.2]⟩
    intro x hx
    rcases List.mem_cons.mp hx with rfl | hx'
    · exact hb.1
    · exact i1 x hx'

theorem entryExt_list {σ τ : Type} (tbl' : Table τ) (R' : Nat) (child' : Int → Sch) (ht : TableExt tbl' R' child')
    (max : Int) (init : τ) (set : σ → List τ → σ) :
    EntryExt (semList max (isStructOf tbl' R') (fun v => ofFields tbl' init (asFields v)) set)
      (.list (.struct R' (tbl'.map (·.1)) child')) := by
  intro v v' h hs
  simp only [ExtD] at h
  rcases h with rfl | h
  · exact ⟨hs, fun _ => rfl⟩
  obtain ⟨et, xs, xs', rfl, rfl, hf⟩ := h
  obtain ⟨et0, xs0, h0, hmax, hsh⟩ := hs
  cases h0
  obtain ⟨i1, i2, i3⟩ := forall2_structs tbl' R' child' ht init xs xs' hf hsh
  exact ⟨⟨et, xs', rfl, by rw [i2]; exact hmax, i1⟩, fun s => by simp only [semList, asElems, i3]⟩

theorem entryExt_topList {α τ : Type} (tbl' : Table τ) (R' : Nat) (child' : Int → Sch) (ht : TableExt tbl' R' child')
    (max : Int) (init : τ) (set : α → List τ → α) :
    EntryExt (semTopList max (isStructOf tbl' R') (fun v => ofFields tbl' init (asFields v)) set)
      (.list (.struct R' (tbl'.map (·.1)) child')) :=
  entryExt_list tbl' R' child' ht max init fun (s : Top α) xs => { s with val := set s.val xs }

/-! ### schemas with a few non-leaf members -/

def lookupS : List (Int × Sch) → Int → Option Sch
  | [], _ => none
  | (k, s) :: r, id => if id = k then some s else lookupS r id

/-- the member schemas of a struct: those listed, `leaf` for every other id -/
def childOf (special : List (Int × Sch)) : Int → Sch := fun id => (lookupS special id).getD .leaf

def SpecialOK {σ : Type} (tbl : Table σ) : List (Int × Sch) → Prop
  | [] => True
  | (id, sch) :: r => (∃ sem, lookupT tbl id = some sem ∧ EntryExt sem sch) ∧ SpecialOK tbl r

theorem SpecialOK.lookup {σ : Type} {tbl : Table σ} : ∀ {special : List (Int × Sch)}, SpecialOK tbl special →
    ∀ id sch, lookupS special id = some sch → ∃ sem, lookupT tbl id = some sem ∧ EntryExt sem sch
  | [], _, _, _, h => by simp [lookupS] at h
  | (k, t) :: r, hs, id, sch, h => by
    simp only [lookupS] at h
    by_cases hk : id = k
    · simp only [hk, if_true, Option.some.injEq] at h; subst h; subst hk; exact hs.1
    · simp only [hk, if_false] at h; exact hs.2.lookup id sch h

theorem tableExt_special {σ : Type} (tbl : Table σ) (R : Nat) (special : List (Int × Sch)) (h : SpecialOK tbl special) :
    TableExt tbl R (childOf special) := by
  refine tableExt_of_entries tbl R _ ?_ ?_
  · intro id sem hl
    unfold childOf
    cases hs : lookupS special id with
    | none => exact entryExt_leaf sem
    | some sch =>
      obtain ⟨sem', hl', he⟩ := h.lookup id sch hs
      rw [hl] at hl'
      cases hl'
      exact he
  · intro id hl
    unfold childOf
    cases hs : lookupS special id with
    | none => rfl
    | some sch =>
      obtain ⟨sem', hl', _⟩ := h.lookup id sch hs
      rw [hl] at hl'
      cases hl'

/-- a struct all of whose known members are leaves -/
def schFlat (R : Nat) (known : List Int) : Sch := .struct R known (childOf [])

/-! ### parquet.thrift as carquet parses it -/

def schStats (R : Nat) : Sch := .struct R (tblStats.map (·.1)) (childOf [])
def schKV (R : Nat) : Sch := .struct R (tblKV.map (·.1)) (childOf [])
def schPES (R : Nat) : Sch := .struct R (tblPES.map (·.1)) (childOf [])
def schDecimal (R : Nat) : Sch := .struct R (tblDecimal.map (·.1)) (childOf [])
def schInteger (R : Nat) : Sch := .struct R (tblInteger.map (·.1)) (childOf [])
def schTimeUnit (R : Nat) : Sch := .struct R ((tblTimeUnit R).map (·.1)) (childOf [])
def spTime (R : Nat) : List (Int × Sch) := [(2, schTimeUnit R)]
def schTime (R : Nat) : Sch := .struct (R + 1) ((tblTime R).map (·.1)) (childOf (spTime R))
def spLogical (R : Nat) : List (Int × Sch) := [(5, schDecimal R), (7, schTime R), (8, schTime R), (10, schInteger R)]
def schLogical (R : Nat) : Sch := .struct (R + 2) ((tblLogical R).map (·.1)) (childOf (spLogical R))
def spSchema (R : Nat) : List (Int × Sch) := [(10, schLogical R)]
def schSchema (R : Nat) : Sch := .struct (R + 3) ((tblSchema R).map (·.1)) (childOf (spSchema R))
def spColumnMeta (R : Nat) : List (Int × Sch) := [(8, .list (schKV R)), (12, schStats R), (13, .list (schPES R))]
def schColumnMeta (R : Nat) : Sch := .struct (R + 1) ((tblColumnMeta R).map (·.1)) (childOf (spColumnMeta R))
def spColumnChunk (R : Nat) : List (Int × Sch) := [(3, schColumnMeta R)]
def schColumnChunk (R : Nat) : Sch := .struct (R + 2) ((tblColumnChunk R).map (·.1)) (childOf (spColumnChunk R))
def spRowGroup (R : Nat) : List (Int × Sch) := [(1, .list (schColumnChunk R))]
def schRowGroup (R : Nat) : Sch := .struct (R + 3) ((tblRowGroup R).map (·.1)) (childOf (spRowGroup R))
def spFileMeta (R : Nat) : List (Int × Sch) := [(2, .list (schSchema R)), (4, .list (schRowGroup R)), (5, .list (schKV R))]
/-- FileMetaData: unknown fields nested up to `R + 4` deep at the top, `R + 3` in schema elements
and row groups, `R + 2` in column chunks and logical types, `R + 1` in column metadata and
time types, `R` in statistics, key/values, encoding stats, decimal/integer/time-unit members -/
def schFileMeta (R : Nat) : Sch := .struct (R + 4) ((tblFileMeta R).map (·.1)) (childOf (spFileMeta R))
def spDataPage (R : Nat) : List (Int × Sch) := [(5, schStats R)]
def schDataPage (R : Nat) : Sch := .struct (R + 1) ((tblDataPage R).map (·.1)) (childOf (spDataPage R))
def spDataPageV2 (R : Nat) : List (Int × Sch) := [(8, schStats R)]
def schDataPageV2 (R : Nat) : Sch := .struct (R + 1) ((tblDataPageV2 R).map (·.1)) (childOf (spDataPageV2 R))
def schDictPage (R : Nat) : Sch := .struct R (tblDictPage.map (·.1)) (childOf [])
def spPageHeader (R : Nat) : List (Int × Sch) := [(5, schDataPage R), (7, schDictPage R), (8, schDataPageV2 R)]
def schPageHeader (R : Nat) : Sch := .struct (R + 2) ((tblPageHeader R).map (·.1)) (childOf (spPageHeader R))

theorem tableExt_flat {σ : Type} (tbl : Table σ) (R : Nat) : TableExt tbl R (childOf []) :=
  tableExt_special tbl R [] trivial

theorem tblTime_ext (R : Nat) : TableExt (tblTime R) (R + 1) (childOf (spTime R)) :=
  tableExt_special _ _ _ ⟨⟨_, rfl, entryExt_struct (tblTimeUnit R) R _ (tableExt_flat _ R) (fun s : Bool × TimeUnit => s.2) _⟩, trivial⟩

theorem tblLogical_ext (R : Nat) : TableExt (tblLogical R) (R + 2) (childOf (spLogical R)) :=
  tableExt_special _ _ _ ⟨⟨_, rfl, entryExt_struct0 tblDecimal R _ (tableExt_flat _ R) _ _⟩,
    ⟨_, rfl, entryExt_struct0 (tblTime R) (R + 1) _ (tblTime_ext R) _ _⟩,
    ⟨_, rfl, entryExt_struct0 (tblTime R) (R + 1) _ (tblTime_ext R) _ _⟩,
    ⟨_, rfl, entryExt_struct0 tblInteger R _ (tableExt_flat _ R) _ _⟩, trivial⟩

theorem tblSchema_ext (R : Nat) : TableExt (tblSchema R) (R + 3) (childOf (spSchema R)) :=
  tableExt_special _ _ _ ⟨⟨_, rfl, entryExt_structS (tblLogical R) (R + 2) _ (okLogical R)
    (fun (_ : SchemaElement) fs => (ofFields (tblLogical R) (.unknown, false) fs).1) (fun s lt => { s with logicalType := some lt })
    fun fs fs' he hok =>
      have ht := tblLogical_ext R fs fs' he hok.1
      ⟨⟨ht.1, by rw [ht.2]; exact hok.2⟩, fun _ => by rw [ht.2]⟩⟩, trivial⟩

theorem tblColumnMeta_ext (R : Nat) : TableExt (tblColumnMeta R) (R + 1) (childOf (spColumnMeta R)) :=
  tableExt_special _ _ _ ⟨⟨_, rfl, entryExt_list tblKV R _ (tableExt_flat _ R) _ _ _⟩,
    ⟨_, rfl, entryExt_struct0 tblStats R _ (tableExt_flat _ R) _ _⟩,
    ⟨_, rfl, entryExt_list tblPES R _ (tableExt_flat _ R) _ _ _⟩, trivial⟩

theorem tblColumnChunk_ext (R : Nat) : TableExt (tblColumnChunk R) (R + 2) (childOf (spColumnChunk R)) :=
  tableExt_special _ _ _ ⟨⟨_, rfl, entryExt_struct0 (tblColumnMeta R) (R + 1) _ (tblColumnMeta_ext R) _ _⟩, trivial⟩

theorem tblRowGroup_ext (R : Nat) : TableExt (tblRowGroup R) (R + 3) (childOf (spRowGroup R)) :=
  tableExt_special _ _ _ ⟨⟨_, rfl, entryExt_list (tblColumnChunk R) (R + 2) _ (tblColumnChunk_ext R) _ _ _⟩, trivial⟩

theorem tblFileMeta_ext (R : Nat) : TableExt (tblFileMeta R) (R + 4) (childOf (spFileMeta R)) :=
  tableExt_special _ _ _ ⟨⟨_, rfl, entryExt_topList (tblSchema R) (R + 3) _ (tblSchema_ext R) _ _ _⟩,
    ⟨_, rfl, entryExt_topList (tblRowGroup R) (R + 3) _ (tblRowGroup_ext R) _ _ _⟩,
    ⟨_, rfl, entryExt_topList tblKV R _ (tableExt_flat _ R) _ _ _⟩, trivial⟩

theorem tblDataPage_ext (R : Nat) : TableExt (tblDataPage R) (R + 1) (childOf (spDataPage R)) :=
  tableExt_special _ _ _ ⟨⟨_, rfl, entryExt_struct0 tblStats R _ (tableExt_flat _ R) _ _⟩, trivial⟩

theorem tblDataPageV2_ext (R : Nat) : TableExt (tblDataPageV2 R) (R + 1) (childOf (spDataPageV2 R)) :=
  tableExt_special _ _ _ ⟨⟨_, rfl, entryExt_struct0 tblStats R _ (tableExt_flat _ R) _ _⟩, trivial⟩

theorem tblPageHeader_ext (R : Nat) : TableExt (tblPageHeader R) (R + 2) (childOf (spPageHeader R)) :=
  tableExt_special _ _ _ ⟨⟨_, rfl, entryExt_struct (tblDataPage R) (R + 1) _ (tblDataPage_ext R) (fun s : Top (PageHeader × Seen) => s.val.1.dataPageHeader) _⟩,
    ⟨_, rfl, entryExt_struct tblDictPage R _ (tableExt_flat _ R) (fun s : Top (PageHeader × Seen) => s.val.1.dictionaryPageHeader) _⟩,
    ⟨_, rfl, entryExt_struct (tblDataPageV2 R) (R + 1) _ (tblDataPageV2_ext R)
      (fun s : Top (PageHeader × Seen) => { s.val.1.dataPageHeaderV2 with isCompressed := true }) _⟩, trivial⟩

/-! ### ExtendsDeep is reflexive and contains the top-level `Extends` -/

theorem extD_refl : ∀ (sch : Sch) (v : TVal), ExtD sch v v
  | .leaf, _ => by simp only [ExtD]
  | .struct _ _ _, _ => by rw [ExtD]; exact Or.inl rfl
  | .list _, _ => by rw [ExtD]; exact Or.inl rfl

theorem extFs_of_extends (R : Nat) (known : List Int) (rel : Int → TVal → TVal → Prop) (hrefl : ∀ id v, rel id v v)
    {base ext : Fields} (h : Extends known R base ext) : ExtFs R known rel base ext := by
  induction h with
  | nil => exact ExtFs.nil
  | @keep f _ _ _ ih => obtain ⟨id, v⟩ := f; exact ExtFs.keep (hrefl id v) ih
  | add hid hd _ ih => exact ExtFs.add hid hd ih

/-- FileMetaData: any encoding of the structure's Thrift value extended by unknown fields at any
nesting level parses to `norm` -/
theorem accepts_filemetadata_deep (m : FileMetaData) (h : m.wf = true) (v' : TVal)
    (hext : ExtD (schFileMeta 27) (fileMetaDataTV m) v') (bs : List UInt8) (henc : Encodes v' bs) (r : List UInt8) :
    parseFileMetaDataX Cfg.fixed (bs ++ r) = ⟨none, m.norm, bs.length, false⟩ := by
  have hbase := (fm_takes 27 (by omega) m h).ok
  have key : ∃ fs', v' = .struct fs' ∧ okFields (tblFileMeta 27) 31 fs' ∧
      ofFileMetaFields 27 fs' = ofFileMetaFields 27 (fmFields m) := by
    simp only [schFileMeta, ExtD] at hext
    rcases hext with rfl | ⟨fs, fs', hv, rfl, he⟩
    · exact ⟨fmFields m, fileMetaDataTV_eq m, hbase, rfl⟩
    · rw [fileMetaDataTV_eq] at hv
      cases hv
      obtain ⟨h1, h2⟩ := tblFileMeta_ext 27 _ _ he hbase
      exact ⟨fs', rfl, h1, by unfold ofFileMetaFields; rw [h2]⟩
  obtain ⟨fs', rfl, hok, hof⟩ := key
  have hp := parseFileMetaData_reads 27 (by simp [maxNesting]) fs' bs henc hok (by rw [hof, fm_of 27 (by omega) m h]; rfl) r
  rw [hp, hof, fm_of 27 (by omega) m h]

/-- PageHeader: the same -/
theorem accepts_pageheader_deep (h : PageHeader) (v' : TVal)
    (hext : ExtD (schPageHeader 27) (pageHeaderTV h) v') (bs : List UInt8) (henc : Encodes v' bs) (r : List UInt8) :
    parsePageHeaderX Cfg.fixed (bs ++ r) = ⟨none, h.norm, bs.length, false⟩ := by
  simp only [schPageHeader, ExtD] at hext
  rcases hext with rfl | ⟨fs, fs', hv, rfl, he⟩
  · exact parsePageHeaderX_of h _ bs r (by rwa [pageHeaderTV_eq] at henc) (ph_takes 27 h).ok rfl
  · rw [pageHeaderTV_eq] at hv
    cases hv
    obtain ⟨h1, h2⟩ := tblPageHeader_ext 27 _ _ he (ph_takes 27 h).ok
    exact parsePageHeaderX_of h fs' bs r henc h1 (h2 _)

/-- the top-level `Extends` of Proofs.ThriftUnknown is the special case "nothing inserted below" -/
theorem extD_of_extends_filemeta (m : FileMetaData) (fs : Fields) (hext : Extends fileMetaKnown 31 (fmFields m) fs) :
    ExtD (schFileMeta 27) (fileMetaDataTV m) (.struct fs) := by
  simp only [schFileMeta, ExtD]
  refine Or.inr ⟨fmFields m, fs, fileMetaDataTV_eq m, rfl, ?_⟩
  rw [fileMetaKnown_eq]
  exact extFs_of_extends _ _ _ (fun id v => extD_refl _ v) hext

theorem extD_of_extends_pageheader (h : PageHeader) (fs : Fields) (hext : Extends pageHeaderKnown 29 (phFields h) fs) :
    ExtD (schPageHeader 27) (pageHeaderTV h) (.struct fs) := by
  simp only [schPageHeader, ExtD]
  refine Or.inr ⟨phFields h, fs, pageHeaderTV_eq h, rfl, ?_⟩
  rw [pageHeaderKnown_eq]
  exact extFs_of_extends _ _ _ (fun id v => extD_refl _ v) hext

/-- FileMetaData: any encoding (any header forms) of the structure's Thrift value extended by
unknown top-level fields parses to `norm` -/
theorem accepts_filemetadata (m : FileMetaData) (h : m.wf = true) (fs : Fields)
    (hext : Extends fileMetaKnown 31 (fmFields m) fs) (bs : List UInt8) (henc : Encodes (.struct fs) bs) (r : List UInt8) :
    parseFileMetaDataX Cfg.fixed (bs ++ r) = ⟨none, m.norm, bs.length, false⟩ :=
  accepts_filemetadata_deep m h _ (extD_of_extends_filemeta m fs hext) bs henc r

/-- PageHeader: the same -/
theorem accepts_pageheader (h : PageHeader) (fs : Fields)
    (hext : Extends pageHeaderKnown 29 (phFields h) fs) (bs : List UInt8) (henc : Encodes (.struct fs) bs) (r : List UInt8) :
    parsePageHeaderX Cfg.fixed (bs ++ r) = ⟨none, h.norm, bs.length, false⟩ :=
  accepts_pageheader_deep h _ (extD_of_extends_pageheader h fs hext) bs henc r

end Carquet.Proofs.Thrift
