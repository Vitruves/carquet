import Carquet.Impl.CSem
import Carquet.Impl.Buffer
import Carquet.Impl.Arena
import Carquet.Gen.CFun
/-
Helper lemmas for Properties/C19/CFun.lean (link between the translated `next_power_of_two` / `align_up` and the
`Impl.Alloc` models).
-/
namespace Carquet.Proofs.CFun.C19
open Carquet Carquet.Impl

theorem orShift_lt (x k n : Nat) (h : x < 2 ^ n) : Impl.Alloc.Buffer.orShift x k < 2 ^ n := by
  unfold Impl.Alloc.Buffer.orShift
  apply Nat.or_lt_two_pow h
  exact Nat.lt_of_le_of_lt (Nat.shiftRight_le _ _) h

theorem smear_lt (x n : Nat) (h : x < 2 ^ n) : Impl.Alloc.Buffer.smear x < 2 ^ n := by
  unfold Impl.Alloc.Buffer.smear
  repeat apply orShift_lt
  exact h

theorem orShift_toNat (x : BitVec 64) (k : Nat) : (x ||| x >>> k).toNat = Impl.Alloc.Buffer.orShift x.toNat k := by
  simp [Impl.Alloc.Buffer.orShift]

/-- `next_power_of_two` read in the model's words: the six `n |= n >> k` statements are the model's `smear` -/
theorem next_power_of_two_smear (n : BitVec 64) : ∃ x : BitVec 64,
    x.toNat = Impl.Alloc.Buffer.smear (n - 1#64).toNat ∧
    Gen.CFun.next_power_of_two n = if n == 0#64 then 1#64 else x + 1#64 :=
  ⟨(fun (o : BitVec 64 → Nat → BitVec 64) => o (o (o (o (o (o (n - 1#64) 1) 2) 4) 8) 16) 32) fun x k => x ||| x >>> k,
    by simp only [Impl.Alloc.Buffer.smear, orShift_toNat], rfl⟩

theorem pow_sub_one_toNat (k : Nat) (hk : k < 64) : (BitVec.ofNat 64 (2 ^ k) - 1#64).toNat = 2 ^ k - 1 := by
  have ha : (BitVec.ofNat 64 (2 ^ k)).toNat = 2 ^ k := Nat.mod_eq_of_lt (Nat.pow_lt_pow_right (by decide) hk)
  rw [BitVec.toNat_sub_of_le (by rw [BitVec.le_def, ha]; exact Nat.two_pow_pos k), ha]
  rfl

/-- clearing the low `k` bits = rounding down to a multiple of `2^k` -/
theorem and_not_low (x : BitVec 64) (k : Nat) (hk : k < 64) :
    (x &&& ~~~(BitVec.ofNat 64 (2 ^ k) - 1#64)).toNat = x.toNat / 2 ^ k * 2 ^ k := by
  have hm := pow_sub_one_toNat k hk
  apply Nat.eq_of_testBit_eq
  intro i
  rw [BitVec.testBit_toNat, BitVec.getLsbD_and, BitVec.getLsbD_not, ← BitVec.testBit_toNat (BitVec.ofNat 64 (2 ^ k) - 1#64),
    hm, Nat.testBit_two_pow_sub_one, Nat.testBit_mul_two_pow, Nat.testBit_div_two_pow, ← BitVec.testBit_toNat]
  by_cases h1 : i < k
  · simp [h1]; omega
  · have h2 : k ≤ i := by omega
    have h3 : i - k + k = i := by omega
    by_cases h4 : i < 64
    · simp [h1, h2, h3, h4]
    · have : x.toNat.testBit i = false :=
        Nat.testBit_lt_two_pow (Nat.lt_of_lt_of_le x.isLt (Nat.pow_le_pow_right (by decide) (by omega)))
      simp [h1, h2, h3, h4, this]

end Carquet.Proofs.CFun.C19
