import Carquet.Proofs.CSem
/-
What the stage-1 link theorems `Properties/Cnn/CFun.lean` need beyond Proofs/CSem: `(size_t)x` of a possibly negative `int`,
tests against enumerators, `bitLen`.
-/
namespace Carquet.Proofs.CFun

/-- `(size_t)x` / `(uint64_t)x` of an `int32_t x`, as a number -/
theorem toNat_signExtend_32_64 (x : BitVec 32) :
    (BitVec.signExtend 64 x).toNat = if x.toInt < 0 then 2 ^ 64 - x.toInt.natAbs else x.toInt.toNat := by
  have := x.isLt
  rw [BitVec.toNat_signExtend, BitVec.toNat_setWidth_of_le (by decide), BitVec.toInt_eq_msb_cond]
  cases x.msb
  · rw [if_neg Bool.false_ne_true, if_neg Bool.false_ne_true, if_neg (by omega), Int.toNat_natCast]; rfl
  · rw [if_pos rfl, if_pos rfl, if_pos (by omega)]; omega

theorem beq_lit32 (t : BitVec 32) (k : Nat) (hk : k < 2 ^ 32) :
    (t == BitVec.ofNat 32 k) = decide ((t.toNat : Int) = (k : Int)) := by
  rw [Bool.eq_iff_iff, beq_iff_eq, decide_eq_true_eq, Int.ofNat_inj, ← BitVec.toNat_inj, BitVec.toNat_ofNat,
    Nat.mod_eq_of_lt hk]

theorem beq_ofNat_of_lt (c : BitVec 32) {n : Nat} (h : n < c.toNat) (k : Nat) (hk : k ≤ n) :
    (c == BitVec.ofNat 32 k) = false :=
  beq_eq_false_iff_ne.mpr fun e => by
    rw [e, BitVec.toNat_ofNat] at h
    exact absurd (Nat.le_trans (Nat.mod_le _ _) hk) (Nat.not_le.mpr h)

theorem eq_ofNat_of_lt (c : BitVec 32) {n : Nat} (h : c.toNat < n) : ∃ k, k < n ∧ c = BitVec.ofNat 32 k :=
  ⟨c.toNat, h, by rw [BitVec.ofNat_toNat, BitVec.setWidth_eq]⟩

theorem ite_beq_zero {w : Nat} {α : Sort _} (v : BitVec w) (a : α) (f : BitVec w → α) (h : f 0#w = a) :
    (if v == 0#w then a else f v) = f v := by
  split
  · next h0 => rw [eq_of_beq h0, h]
  · rfl

/-! ### `bitLen` (number of bits of a number) and the `width++` of the bit-width loops -/

open Carquet.Impl.CSem (bitLen)

theorem bitLen_zero : bitLen 0 = 0 := rfl

theorem bitLen_pos (n : Nat) (h : 0 < n) : bitLen n = bitLen (n / 2) + 1 := by
  unfold bitLen
  have hn : n ≠ 0 := by omega
  rw [if_neg hn, Nat.log2_def n]
  by_cases h2 : 2 ≤ n
  · have : n / 2 ≠ 0 := by omega
    rw [if_pos h2, if_neg this]
  · have : n = 1 := by omega
    subst this; rfl

theorem bitLen_le_of_lt (n k : Nat) (h : n < 2 ^ k) : bitLen n ≤ k := by
  unfold bitLen
  by_cases hn : n = 0
  · simp [hn]
  · rw [if_neg hn]
    have := (Nat.log2_lt hn).mpr h
    omega

theorem bitLen_eq_zero_iff (n : Nat) : bitLen n = 0 ↔ n = 0 := by
  unfold bitLen; by_cases h : n = 0 <;> simp [h]

theorem toNat_sub_one {w : Nat} (x : BitVec (w + 1)) (h : x ≠ 0#(w + 1)) : (x - 1#(w + 1)).toNat = x.toNat - 1 := by
  have h1 : (1#(w + 1)).toNat = 1 := Nat.mod_eq_of_lt (Nat.one_lt_two_pow (Nat.succ_ne_zero w))
  rw [BitVec.toNat_sub_of_le, h1]
  rw [BitVec.le_def, h1]
  exact Nat.pos_of_ne_zero fun e => h (BitVec.eq_of_toNat_eq e)

end Carquet.Proofs.CFun
