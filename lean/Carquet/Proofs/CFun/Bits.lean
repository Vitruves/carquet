import Carquet.Impl.CSem
import Carquet.Proofs.CFun.Basic
/-
What the builtins of Impl/CSem.lean compute, in terms of `Nat.testBit` (used by Properties/C11/CFun.lean for
`carquet_ctz32`, `carquet_popcount32/64`).
-/
namespace Carquet.Proofs.CFun
open Carquet.Impl.CSem (ctzAux popAux bitLen builtinClz builtinPopcount builtinNonZero sNegOk sSubOk)

/-- number of set bits among the low `w` bits of `n` -/
def bitCount (w n : Nat) : Nat := ((List.range w).filter (fun i => n.testBit i)).length

theorem bitCount_succ (w n : Nat) : bitCount (w + 1) n = n % 2 + bitCount w (n / 2) := by
  unfold bitCount
  rw [List.range_succ_eq_map, List.filter_cons, List.filter_map]
  have h0 : n.testBit 0 = decide (n % 2 = 1) := Nat.testBit_zero n
  have hs : ((fun i => n.testBit i) ∘ Nat.succ) = (fun i => (n / 2).testBit i) := by
    funext i; simp [Function.comp, Nat.testBit_succ]
  rw [hs, h0]
  by_cases h : n % 2 = 1
  · simp [h]; omega
  · have : n % 2 = 0 := by omega
    simp [this]

theorem popAux_eq (w : Nat) : ∀ n, popAux w n = bitCount w n := by
  induction w with
  | zero => intro n; rfl
  | succ w ih => intro n; rw [bitCount_succ, ← ih]; rfl

theorem bitCount_le (w n : Nat) : bitCount w n ≤ w :=
  Nat.le_trans (List.length_filter_le _ _) (Nat.le_of_eq List.length_range)

theorem popcount_toNat {w : Nat} (v : BitVec w) (hw : w < 2 ^ 32) : (builtinPopcount v).toNat = bitCount w v.toNat := by
  rw [builtinPopcount, Carquet.Impl.CSem.popNat, popAux_eq, BitVec.toNat_ofNat,
    Nat.mod_eq_of_lt (Nat.lt_of_le_of_lt (bitCount_le _ _) hw)]

theorem clz_toNat {w : Nat} (v : BitVec w) (hw : w < 2 ^ 32) : (builtinClz v).toNat = w - bitLen v.toNat := by
  rw [builtinClz, Carquet.Impl.CSem.clzNat, BitVec.toNat_ofNat, Nat.mod_eq_of_lt (Nat.lt_of_le_of_lt (Nat.sub_le _ _) hw)]

theorem builtinNonZero_guard {w : Nat} (v : BitVec w) : (if v == 0#w then true else builtinNonZero v) = true := by
  split
  · rfl
  · next h => exact bne_iff_ne.mpr (ne_of_beq_false (Bool.eq_false_iff.mpr h))

/-- `W - clz(v)` in `int`, where `clz(v) = W - b` -/
theorem width_of_clz (W b : Nat) (c : BitVec 32) (hc : c.toNat = W - b) (hb : b ≤ W) (hW : W < 2 ^ 31) :
    (BitVec.ofNat 32 W - c).toNat = b ∧ sSubOk (BitVec.ofNat 32 W) c = true := by
  have hWn : (BitVec.ofNat 32 W).toNat = W := Nat.mod_eq_of_lt (Nat.lt_trans hW (by decide))
  refine ⟨?_, CSem.sSubOk_small _ _ (by rwa [hWn]) (by omega)⟩
  rw [BitVec.toNat_sub_of_le (by rw [BitVec.le_def, hWn]; omega), hWn, hc]
  omega

theorem sNegOk_and_one {w : Nat} (v : BitVec (w + 2)) : sNegOk (v &&& 1#(w + 2)) = true := by
  rw [sNegOk, bne_iff_ne]
  intro h
  have h1 : (v &&& 1#(w + 2)).toNat ≤ (1#(w + 2)).toNat := by rw [BitVec.toNat_and]; exact Nat.and_le_right
  rw [h, BitVec.toNat_intMin, BitVec.toNat_ofNat, Nat.mod_eq_of_lt (Nat.one_lt_two_pow (by omega)),
    Nat.mod_eq_of_lt (Nat.pow_lt_pow_right (by decide) (by omega))] at h1
  exact absurd h1 (Nat.not_le.mpr (Nat.one_lt_two_pow (by omega)))

/-- `ctzAux` finds the lowest set bit of a non-zero number below `2^fuel` -/
theorem ctzAux_spec (fuel : Nat) : ∀ n, n ≠ 0 → n < 2 ^ fuel →
    ctzAux fuel n < fuel ∧ n % 2 ^ (ctzAux fuel n) = 0 ∧ n / 2 ^ (ctzAux fuel n) % 2 = 1 := by
  induction fuel with
  | zero => intro n h0 h; simp at h; omega
  | succ fuel ih =>
    intro n h0 h
    unfold ctzAux
    by_cases h1 : n % 2 = 1
    · simp [h1, Nat.mod_one]
    · have hn : n / 2 ≠ 0 := by omega
      have hl : n / 2 < 2 ^ fuel := by rw [Nat.pow_succ] at h; omega
      obtain ⟨a, b, c⟩ := ih (n / 2) hn hl
      rw [if_neg h1]
      have e : 1 + ctzAux fuel (n / 2) = ctzAux fuel (n / 2) + 1 := by omega
      rw [e]
      refine ⟨by omega, ?_, ?_⟩
      · rw [Nat.pow_succ, Nat.mul_comm]
        have : n % (2 * 2 ^ ctzAux fuel (n / 2)) = n % 2 + 2 * (n / 2 % 2 ^ ctzAux fuel (n / 2)) := Nat.mod_mul
        rw [this, b]; omega
      · rw [Nat.pow_succ, Nat.mul_comm, ← Nat.div_div_eq_div_mul]; exact c

end Carquet.Proofs.CFun
