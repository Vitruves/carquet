import Carquet.Impl.CSem
import Carquet.Gen.CFun
import Carquet.Proofs.CFun.Basic
/-
The four `while (v > 0) { width++; v >>= 1; }` loops among the translated functions: what the generated fuel-bounded
helpers compute, that they stay defined (`width++` does not overflow an `int`), and that the fuel given in
translate/gen_cfun.py is enough (`bitLen v < fuel`).  One statement (`width_loop`), of which the four are instances.
-/
namespace Carquet.Proofs.CFun
open Carquet Carquet.Impl
open Carquet.Impl.CSem (bitLen sAddOk)

/-- The loop `while (v > 0) { width++; v >>= 1; }`.  `L` and `D` stand for a translated loop and its `_defined` as
functions of the fuel, `v` and `width`; `val` reads `v` (of whatever type, within the range `ok` the function is meant
for) as a number, `test` is the loop test, `shr` the shift, `exit` what follows the loop. -/
theorem width_loop {σ : Type} (val : σ → Nat) (ok : σ → Prop) (test : σ → Bool) (shr : σ → σ)
    (exit : BitVec 32 → BitVec 32) (L : Nat → σ → BitVec 32 → BitVec 32) (D : Nat → σ → BitVec 32 → Bool)
    (hL : ∀ f v w, L (f + 1) v w = if test v then L f (shr v) (w + 1#32) else exit w)
    (hD : ∀ f v w, D (f + 1) v w = (if test v then (sAddOk w 1#32 && D f (shr v) (w + 1#32)) else true))
    (htest : ∀ v, ok v → test v = decide (0 < val v))
    (hshr : ∀ v, ok v → 0 < val v → ok (shr v) ∧ val (shr v) = val v / 2) :
    ∀ (f : Nat) (v : σ) (w : BitVec 32), ok v → bitLen (val v) < f → w.toNat + bitLen (val v) < 2 ^ 31 →
      L f v w = exit (BitVec.ofNat 32 (w.toNat + bitLen (val v))) ∧ D f v w = true := by
  intro f
  induction f with
  | zero => intro v w _ h; exact absurd h (Nat.not_lt_zero _)
  | succ f ih =>
    intro v w hv hf hw
    rw [hL, hD, htest v hv]
    by_cases hpos : 0 < val v
    · have hb := bitLen_pos (val v) hpos
      obtain ⟨hv', hs⟩ := hshr v hv hpos
      have hw1 : (w + 1#32).toNat = w.toNat + 1 := by
        rw [BitVec.toNat_add, show (1#32).toNat = 1 from rfl]; exact Nat.mod_eq_of_lt (by omega)
      obtain ⟨r1, r2⟩ := ih (shr v) (w + 1#32) hv' (by rw [hs]; omega) (by rw [hs, hw1]; omega)
      rw [decide_eq_true hpos, if_pos rfl, if_pos rfl, r1, r2, CSem.sAddOk_small _ _ (by rw [show (1#32).toNat = 1 from rfl]; omega),
        hw1, hs, hb, Nat.add_right_comm, Nat.add_assoc]
      exact ⟨rfl, rfl⟩
    · rw [decide_eq_false hpos, if_neg Bool.false_ne_true, if_neg Bool.false_ne_true, Nat.eq_zero_of_not_pos hpos,
        bitLen_zero, Nat.add_zero, BitVec.ofNat_toNat, BitVec.setWidth_eq]
      exact ⟨rfl, rfl⟩

theorem width_loop_zero {σ : Type} (val : σ → Nat) (ok : σ → Prop) (test : σ → Bool) (shr : σ → σ)
    (L : Nat → σ → BitVec 32 → BitVec 32) (D : Nat → σ → BitVec 32 → Bool)
    (hL : ∀ f v w, L (f + 1) v w = if test v then L f (shr v) (w + 1#32) else w)
    (hD : ∀ f v w, D (f + 1) v w = (if test v then (sAddOk w 1#32 && D f (shr v) (w + 1#32)) else true))
    (htest : ∀ v, ok v → test v = decide (0 < val v))
    (hshr : ∀ v, ok v → 0 < val v → ok (shr v) ∧ val (shr v) = val v / 2)
    (f : Nat) (v : σ) (hv : ok v) (hf : bitLen (val v) < f) (hb : bitLen (val v) < 2 ^ 31) :
    (L f v 0#32).toNat = bitLen (val v) ∧ D f v 0#32 = true := by
  have h := width_loop val ok test shr id L D hL hD htest hshr f v 0#32 hv hf (by rwa [BitVec.toNat_zero, Nat.zero_add])
  rw [h.1, BitVec.toNat_zero, Nat.zero_add]
  exact ⟨Nat.mod_eq_of_lt (Nat.lt_trans hb (by decide)), h.2⟩

/-- `bit_width_required` (delta.c): `uint64_t value`, `int width` -/
theorem bit_width_required_eq (v : BitVec 64) :
    (Gen.CFun.bit_width_required v).toNat = bitLen v.toNat ∧ Gen.CFun.bit_width_required_defined v = true := by
  have hb := bitLen_le_of_lt v.toNat 64 v.isLt
  rw [Gen.CFun.bit_width_required, Gen.CFun.bit_width_required_defined,
    ite_beq_zero v 0#32 (Gen.CFun.bit_width_required_loop1 65 · 0#32) rfl,
    ite_beq_zero v true (Gen.CFun.bit_width_required_loop1_defined 65 · 0#32) rfl]
  exact width_loop_zero BitVec.toNat (fun _ => True) (fun v => decide (0#64 < v)) (· >>> 1)
    Gen.CFun.bit_width_required_loop1 Gen.CFun.bit_width_required_loop1_defined (fun _ _ _ => rfl) (fun _ _ _ => rfl)
    (fun _ _ => rfl) (fun v _ _ => ⟨trivial, by rw [BitVec.toNat_ushiftRight, Nat.shiftRight_eq_div_pow]⟩)
    65 v trivial (by omega) (by omega)

/-- `bit_width_for_count` (dictionary.c): `uint32_t count`, `int width`; what follows the loop is
`return width > 0 ? width : 1` -/
theorem bit_width_for_count_eq (c : BitVec 32) (h0 : c ≠ 0#32) :
    (Gen.CFun.bit_width_for_count c).toNat =
      (if 0 < bitLen (c.toNat - 1) then bitLen (c.toNat - 1) else 1) ∧
    Gen.CFun.bit_width_for_count_defined c = true := by
  have hs := toNat_sub_one c h0
  have hb : bitLen (c - 1#32).toNat ≤ 32 := bitLen_le_of_lt _ 32 (c - 1#32).isLt
  have h := width_loop BitVec.toNat (fun _ => True) (fun v => decide (0#32 < v)) (· >>> 1)
    (fun w => if BitVec.slt 0#32 w then w else 1#32)
    Gen.CFun.bit_width_for_count_loop1 Gen.CFun.bit_width_for_count_loop1_defined (fun _ _ _ => rfl) (fun _ _ _ => rfl)
    (fun _ _ => rfl) (fun v _ _ => ⟨trivial, by rw [BitVec.toNat_ushiftRight, Nat.shiftRight_eq_div_pow]⟩)
    33 (c - 1#32) 0#32 trivial (by omega) (by rw [BitVec.toNat_zero, Nat.zero_add]; omega)
  have hn : (BitVec.ofNat 32 (bitLen (c - 1#32).toNat)).toNat = bitLen (c - 1#32).toNat :=
    Nat.mod_eq_of_lt (by omega)
  have hc : ¬ (c == 0#32) = true := by simpa using h0
  rw [Gen.CFun.bit_width_for_count, Gen.CFun.bit_width_for_count_defined, if_neg hc, if_neg hc, h.1, h.2,
    BitVec.toNat_zero, Nat.zero_add, CSem.slt_zero_small _ (by rw [hn]; omega), hn, ← hs]
  refine ⟨?_, rfl⟩
  by_cases hp : 0 < bitLen (c - 1#32).toNat
  · rw [decide_eq_true hp, if_pos rfl, if_pos hp, hn]
  · rw [decide_eq_false hp, if_neg Bool.false_ne_true, if_neg hp]; rfl

/-- `bit_width_for_max` (page_reader.c): `int max_val` (non-negative), `int width` -/
theorem page_reader_bit_width_for_max_eq (m : BitVec 32) (h : 0 ≤ m.toInt) :
    (Gen.CFun.page_reader_bit_width_for_max m).toNat = bitLen m.toNat ∧
    Gen.CFun.page_reader_bit_width_for_max_defined m = true := by
  have hm : m.toNat < 2 ^ 31 := by have := BitVec.toInt_pos_iff.mp h; omega
  have hb := bitLen_le_of_lt _ 31 hm
  rw [Gen.CFun.page_reader_bit_width_for_max, Gen.CFun.page_reader_bit_width_for_max_defined,
    ite_beq_zero m 0#32 (Gen.CFun.page_reader_bit_width_for_max_loop1 32 · 0#32) rfl,
    ite_beq_zero m true (Gen.CFun.page_reader_bit_width_for_max_loop1_defined 32 · 0#32) rfl]
  exact width_loop_zero BitVec.toNat (fun v => v.toNat < 2 ^ 31) (fun v => BitVec.slt 0#32 v)
    (fun v => BitVec.sshiftRight v 1)
    Gen.CFun.page_reader_bit_width_for_max_loop1 Gen.CFun.page_reader_bit_width_for_max_loop1_defined
    (fun _ _ _ => rfl) (fun _ _ _ => rfl) CSem.slt_zero_small
    (fun v hv _ => by rw [CSem.sshr_small v hv, BitVec.toNat_ushiftRight, Nat.shiftRight_eq_div_pow]; exact ⟨by omega, rfl⟩)
    32 m hm (by omega) (by omega)

/-- `bit_width_for_max` (page_writer.c): `int16_t val` (non-negative) promoted to `int` for the test and the shift and
converted back, `int width`; the parameter `max_level` is carried along unchanged -/
theorem page_writer_bit_width_for_max_eq (m : BitVec 16) (h : 0 ≤ m.toInt) :
    (Gen.CFun.page_writer_bit_width_for_max m).toNat = bitLen m.toNat ∧
    Gen.CFun.page_writer_bit_width_for_max_defined m = true := by
  have hm : m.toNat < 2 ^ 15 := by have := BitVec.toInt_pos_iff.mp h; omega
  have hb := bitLen_le_of_lt _ 15 hm
  rw [Gen.CFun.page_writer_bit_width_for_max, Gen.CFun.page_writer_bit_width_for_max_defined]
  split
  · next h0 => rw [← CSem.sext_small (u := 32) m hm (by decide), eq_of_beq h0]; exact ⟨rfl, rfl⟩
  · exact width_loop_zero BitVec.toNat (fun v => v.toNat < 2 ^ 15) (fun v => BitVec.slt 0#32 (BitVec.signExtend 32 v))
      (fun v => BitVec.setWidth 16 (BitVec.sshiftRight (BitVec.signExtend 32 v) 1))
      (fun f v w => Gen.CFun.page_writer_bit_width_for_max_loop1 f m w v)
      (fun f v w => Gen.CFun.page_writer_bit_width_for_max_loop1_defined f m w v)
      (fun _ _ _ => rfl) (fun _ _ _ => rfl)
      (fun v hv => by rw [CSem.slt_zero_small _ (by rw [CSem.sext_small (u := 32) v hv (by decide)]; omega), CSem.sext_small (u := 32) v hv (by decide)])
      (fun v hv _ => by
        have hx := CSem.sext_small (u := 32) v hv (by decide)
        rw [BitVec.toNat_setWidth, CSem.sshr_small _ (by omega), BitVec.toNat_ushiftRight, Nat.shiftRight_eq_div_pow, hx]
        omega)
      16 m hm (by omega) (by omega)

end Carquet.Proofs.CFun
