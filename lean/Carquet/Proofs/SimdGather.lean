import Carquet.Impl.SimdMore
import Carquet.Spec.Kernels
import Carquet.Proofs.SimdBlocked
/-
C15 helper lemmas: the dictionary gathers.  The SSE kernels and the scalar loop zero-extend the
32-bit index; the AVX2 / AVX-512 kernels use `vpgatherdd/dq`, which sign-extend it.  The two
agree lane by lane exactly when the lane's index is below 2^31 or the two addresses hold the same
thing; for a dictionary of at most 2^31 elements they agree on every index.
-/
namespace Carquet.Proofs.SimdGather
open Carquet Carquet.Impl.Simd Carquet.Proofs.SimdBlocked

theorem gatherTail_append {α : Type} (mem : DictMem α) (a r : List (BitVec 32)) :
    gatherTail mem (a ++ r) = gatherTail mem a ++ gatherTail mem r := by simp [gatherTail]

/-! ### SSE: scalar loads, any memory -/

theorem sse32_blk8 {α : Type} (mem : DictMem α) (b : List (BitVec 32)) (h : b.length = 8) :
    sseGather32Blk8 mem b = gatherTail mem b := by
  obtain ⟨a0, a1, a2, a3, a4, a5, a6, a7, rfl⟩ := list_len8 b h
  rfl

theorem sse32_blk4 {α : Type} (mem : DictMem α) (b : List (BitVec 32)) (h : b.length = 4) :
    sseGather32Blk4 mem b = gatherTail mem b := by
  obtain ⟨a0, a1, a2, a3, rfl⟩ := list_len4 b h
  rfl

theorem sse64_blk {α : Type} (mem : DictMem α) (b : List (BitVec 32)) (h : b.length = 4) :
    sseGather64Blk mem b = gatherTail mem b := by
  obtain ⟨a0, a1, a2, a3, rfl⟩ := list_len4 b h
  rfl

theorem sseGather32_eq {α : Type} (mem : DictMem α) (idx : List (BitVec 32)) :
    sseGather32 mem idx = scalarGather mem idx := by
  unfold sseGather32 scalarGather
  have h4 : ∀ t, blockedMap 4 (sseGather32Blk4 mem) (gatherTail mem) t = gatherTail mem t :=
    fun t => blockedMap_eq 4 (by decide) _ _ _ (sse32_blk4 mem) (fun _ _ => rfl)
      (fun a r _ => gatherTail_append mem a r) t
  rw [blockedMap_eq 8 (by decide) _ _ (gatherTail mem) (sse32_blk8 mem) (fun t _ => h4 t)
    (fun a r _ => gatherTail_append mem a r)]

theorem sseGather64_eq {α : Type} (mem : DictMem α) (idx : List (BitVec 32)) :
    sseGather64 mem idx = scalarGather mem idx := by
  unfold sseGather64 scalarGather
  rw [blockedMap_eq 4 (by decide) _ _ (gatherTail mem) (sse64_blk mem) (fun _ _ => rfl)
    (fun a r _ => gatherTail_append mem a r)]

/-! ### hardware gathers: sign-extended index -/

/-- the lane-level condition: the sign-extended and the zero-extended address hold the same thing -/
def LaneAgrees {α : Type} (mem : DictMem α) (i : BitVec 32) : Prop := mem i.toInt = mem (Int.ofNat i.toNat)

theorem toInt_of_lt (i : BitVec 32) (h : i.toNat < 2 ^ 31) : i.toInt = Int.ofNat i.toNat := by
  rw [BitVec.toInt_eq_toNat_cond]
  have : 2 * i.toNat < 2 ^ 32 := by omega
  simp [this]

theorem toInt_of_ge (i : BitVec 32) (h : 2 ^ 31 ≤ i.toNat) : i.toInt = Int.ofNat i.toNat - 2 ^ 32 := by
  rw [BitVec.toInt_eq_toNat_cond]
  have : ¬ 2 * i.toNat < 2 ^ 32 := by omega
  simp [this]

theorem laneAgrees_of_lt {α : Type} (mem : DictMem α) (i : BitVec 32) (h : i.toNat < 2 ^ 31) :
    LaneAgrees mem i := by
  unfold LaneAgrees; rw [toInt_of_lt i h]

/-- a lane whose index has the top bit set reads *before* the dictionary -/
theorem i32gather_lane_negative {α : Type} (d : List α) (i : BitVec 32) (h : 2 ^ 31 ≤ i.toNat) :
    memOf d i.toInt = none := by
  unfold memOf
  rw [toInt_of_ge i h, if_neg]
  have := i.isLt
  simp only [Int.ofNat_eq_natCast]
  omega

theorem loadZx_memOf {α : Type} (d : List α) (i : BitVec 32) : loadZx (memOf d) i = d[i.toNat]? := by
  unfold loadZx memOf
  have hpos : (0 : Int) ≤ Int.ofNat i.toNat := Int.natCast_nonneg _
  rw [if_pos hpos]; rfl

/-- a dictionary of at most 2^31 elements: an index with the top bit set is outside it either way -/
theorem laneAgrees_memOf {α : Type} (d : List α) (hd : d.length ≤ 2 ^ 31) (i : BitVec 32) :
    LaneAgrees (memOf d) i := by
  by_cases h : i.toNat < 2 ^ 31
  · exact laneAgrees_of_lt _ i h
  · exact (i32gather_lane_negative d i (by omega)).trans
      ((loadZx_memOf d i).trans (List.getElem?_eq_none (by omega))).symm

theorem i32gather_blk {α : Type} (mem : DictMem α) (b : List (BitVec 32)) (h : ∀ i ∈ b, LaneAgrees mem i) :
    i32gather mem b = gatherTail mem b := by
  unfold i32gather gatherTail loadZx
  apply List.map_congr_left
  intro i hi
  exact h i hi

theorem hwGather_eq {α : Type} (W : Nat) (hW : 0 < W) (mem : DictMem α) (tail : List (BitVec 32) → List (Option α))
    (htail : ∀ t, (∀ i ∈ t, LaneAgrees mem i) → tail t = gatherTail mem t)
    (idx : List (BitVec 32)) (h : ∀ i ∈ idx, LaneAgrees mem i) :
    blockedMap W (i32gather mem) tail idx = gatherTail mem idx :=
  blockedMap_eq_dom (LaneAgrees mem) W hW _ _ (gatherTail mem) (fun b _ hb => i32gather_blk mem b hb)
    (fun t _ ht => htail t ht) (fun a r _ => gatherTail_append mem a r) idx h

theorem avx2Gather32_eq {α : Type} (mem : DictMem α) (idx : List (BitVec 32)) (h : ∀ i ∈ idx, LaneAgrees mem i) :
    avx2Gather32 mem idx = scalarGather mem idx := by
  unfold avx2Gather32 scalarGather
  rw [hwGather_eq 8 (by decide) mem _ (fun _ _ => rfl) idx h]

theorem avx2Gather64_eq {α : Type} (mem : DictMem α) (idx : List (BitVec 32)) (h : ∀ i ∈ idx, LaneAgrees mem i) :
    avx2Gather64 mem idx = scalarGather mem idx := by
  unfold avx2Gather64 scalarGather
  rw [hwGather_eq 4 (by decide) mem _ (fun _ _ => rfl) idx h]

theorem avx512Gather32_eq {α : Type} (mem : DictMem α) (idx : List (BitVec 32)) (h : ∀ i ∈ idx, LaneAgrees mem i) :
    avx512Gather32 mem idx = scalarGather mem idx := by
  unfold avx512Gather32 scalarGather
  rw [hwGather_eq 16 (by decide) mem _
    (fun t ht => hwGather_eq 8 (by decide) mem _ (fun _ _ => rfl) t ht) idx h]

theorem avx512Gather64_eq {α : Type} (mem : DictMem α) (idx : List (BitVec 32)) (h : ∀ i ∈ idx, LaneAgrees mem i) :
    avx512Gather64 mem idx = scalarGather mem idx := by
  unfold avx512Gather64 scalarGather
  rw [hwGather_eq 8 (by decide) mem _ (fun _ _ => rfl) idx h]

/-! ### the scalar loop over a dictionary = the Spec's gather -/

theorem allLoaded_map {α β : Type} (f : β → Option α) (l : List β) : allLoaded (l.map f) = l.mapM f := by
  induction l with
  | nil => rfl
  | cons x xs ih =>
    simp only [List.map_cons, List.mapM_cons]
    cases hf : f x with
    | none => simp [allLoaded]
    | some y =>
      simp only [allLoaded, ih]
      cases xs.mapM f <;> rfl

theorem scalarGather_spec {α : Type} (d : List α) (idx : List (BitVec 32)) :
    scalarGather (memOf d) idx = Spec.Kernels.gather d (idx.map (·.toNat)) := by
  unfold scalarGather gatherTail Spec.Kernels.gather
  rw [allLoaded_map, List.mapM_map]
  congr 1

/-! ### where they differ -/

theorem allLoaded_none_of_mem {α : Type} (l : List (Option α)) (h : none ∈ l) : allLoaded l = none := by
  induction l with
  | nil => simp at h
  | cons x xs ih =>
    cases x with
    | none => rfl
    | some y =>
      have : none ∈ xs := by simpa using h
      simp [allLoaded, ih this]

theorem allLoaded_isSome {α : Type} (l : List (Option α)) (h : ∀ x ∈ l, x.isSome = true) :
    (allLoaded l).isSome = true := by
  induction l with
  | nil => rfl
  | cons x xs ih =>
    cases x with
    | none => exact h none List.mem_cons_self
    | some y =>
      rw [allLoaded, Option.isSome_map]
      exact ih fun z hz => h z (List.mem_cons_of_mem _ hz)

theorem hwGather_diverges {α : Type} (W : Nat) (hW : 0 < W) (d : List α) (tail : List (BitVec 32) → List (Option α))
    (idx : List (BitVec 32)) (hl : idx.length = W) (hin : ∀ i ∈ idx, i.toNat < d.length)
    (i : BitVec 32) (hi : i ∈ idx) (hbig : 2 ^ 31 ≤ i.toNat) :
    allLoaded (blockedMap W (i32gather (memOf d)) tail idx) = none ∧
    (Spec.Kernels.gather d (idx.map (·.toNat))).isSome = true := by
  constructor
  · apply allLoaded_none_of_mem
    unfold blockedMap
    rw [hl, Nat.div_self hW]
    simp only [mapBlocks, List.append_nil]
    apply List.mem_append_left
    have : idx.take W = idx := List.take_of_length_le (by omega)
    rw [this]
    unfold i32gather
    rw [List.mem_map]
    exact ⟨i, hi, i32gather_lane_negative d i hbig⟩
  · rw [← scalarGather_spec]
    refine allLoaded_isSome _ fun x hx => ?_
    obtain ⟨j, hj, rfl⟩ := List.mem_map.mp hx
    rw [loadZx_memOf, List.getElem?_eq_getElem (hin j hj)]
    rfl

/-! ### kernels over a dictionary = the Spec's gather -/

theorem sse32_spec {α : Type} (d : List α) (idx : List (BitVec 32)) :
    sseGather32 (memOf d) idx = Spec.Kernels.gather d (idx.map (·.toNat)) := by
  rw [sseGather32_eq, scalarGather_spec]
theorem sse64_spec {α : Type} (d : List α) (idx : List (BitVec 32)) :
    sseGather64 (memOf d) idx = Spec.Kernels.gather d (idx.map (·.toNat)) := by
  rw [sseGather64_eq, scalarGather_spec]
theorem avx2_32_spec {α : Type} (d : List α) (hd : d.length ≤ 2 ^ 31) (idx : List (BitVec 32)) :
    avx2Gather32 (memOf d) idx = Spec.Kernels.gather d (idx.map (·.toNat)) := by
  rw [avx2Gather32_eq _ _ (fun i _ => laneAgrees_memOf d hd i), scalarGather_spec]
theorem avx2_64_spec {α : Type} (d : List α) (hd : d.length ≤ 2 ^ 31) (idx : List (BitVec 32)) :
    avx2Gather64 (memOf d) idx = Spec.Kernels.gather d (idx.map (·.toNat)) := by
  rw [avx2Gather64_eq _ _ (fun i _ => laneAgrees_memOf d hd i), scalarGather_spec]
theorem avx512_32_spec {α : Type} (d : List α) (hd : d.length ≤ 2 ^ 31) (idx : List (BitVec 32)) :
    avx512Gather32 (memOf d) idx = Spec.Kernels.gather d (idx.map (·.toNat)) := by
  rw [avx512Gather32_eq _ _ (fun i _ => laneAgrees_memOf d hd i), scalarGather_spec]
theorem avx512_64_spec {α : Type} (d : List α) (hd : d.length ≤ 2 ^ 31) (idx : List (BitVec 32)) :
    avx512Gather64 (memOf d) idx = Spec.Kernels.gather d (idx.map (·.toNat)) := by
  rw [avx512Gather64_eq _ _ (fun i _ => laneAgrees_memOf d hd i), scalarGather_spec]

end Carquet.Proofs.SimdGather
