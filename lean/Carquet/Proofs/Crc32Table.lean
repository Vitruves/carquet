import Carquet.Spec.Crc32
import Carquet.Impl.Crc32
import Carquet.Proofs.Crc32Linear
/-
Helper lemmas for C14_impl_eq_spec: the table entries are iterated `step8`, a tail step is a
byte step, and one slicing-by-8 step is eight byte steps.
-/
namespace Carquet.Proofs.Crc32
open Carquet.Spec.Crc32
open Carquet.Impl.Crc32 (tblStep table0 table le32 idx slice8 tailStep loop)

/-! ### iterated step1 -/

theorem iter_step1_zero (n : Nat) : iter step1 n 0#32 = 0#32 := by
  induction n with
  | zero => rfl
  | succ n ih => simp [iter, step1_zero, ih]

theorem iter_step1_xor (n : Nat) (a b : BitVec 32) :
    iter step1 n (a ^^^ b) = iter step1 n a ^^^ iter step1 n b := Lfsr.iter_step1_xor poly n a b

theorem iter_step1_injective (n : Nat) {a b : BitVec 32} (h : iter step1 n a = iter step1 n b) :
    a = b := by
  induction n generalizing a b with
  | zero => exact h
  | succ n ih => exact step1_injective (ih h)

/-! ### step8 -/

theorem step8_eq_iter (c : BitVec 32) : step8 c = iter step1 8 c := rfl

theorem step8_zero : step8 0#32 = 0#32 := by decide

theorem step8_xor (a b : BitVec 32) : step8 (a ^^^ b) = step8 a ^^^ step8 b := by
  simp only [step8_eq_iter, iter_step1_xor]

theorem iter_step8_zero (n : Nat) : iter step8 n 0#32 = 0#32 := by
  induction n with
  | zero => rfl
  | succ n ih => simp [iter, step8_zero, ih]

theorem iter_step8_xor (n : Nat) (a b : BitVec 32) :
    iter step8 n (a ^^^ b) = iter step8 n a ^^^ iter step8 n b := by
  induction n generalizing a b with
  | zero => rfl
  | succ n ih => simp [iter, step8_xor, ih]

/-- The table-driven byte update: `step8 c = step8 (low byte) ⊕ (c >> 8)`. -/
theorem step8_split (c : BitVec 32) : step8 c = step8 (c &&& 0xFF#32) ^^^ (c >>> 8) := Lfsr.step8_split poly c

/-! ### the C table generation -/

theorem and_one_eq_one_iff (c : BitVec 32) : (c &&& 1#32 = 1#32) ↔ c.getLsbD 0 = true := by
  constructor
  · intro h
    have := congrArg (fun v => v.getLsbD 0) h
    simpa using this
  · intro h
    apply BitVec.eq_of_getLsbD_eq
    intro i hi
    cases i with
    | zero => simp [h]
    | succ i => simp [BitVec.getLsbD_one]

theorem tblStep_eq_step1 (c : BitVec 32) : tblStep c = step1 c := by
  unfold tblStep step1
  simp only [and_one_eq_one_iff]
  rfl

theorem table0_eq (i : Nat) : table0 i = step8 (BitVec.ofNat 32 i) := by
  simp only [table0, tblStep_eq_step1, step8]

theorem ofNat_toNat32 (v : BitVec 32) : BitVec.ofNat 32 v.toNat = v := by simp

/-- `crc32_tables[k][i]` is `k+1` byte steps applied to `i`. -/
theorem table_eq (k i : Nat) : table k i = iter step8 (k + 1) (BitVec.ofNat 32 i) := by
  induction k with
  | zero => simp [table, table0_eq, iter]
  | succ k ih =>
    rw [table, table0_eq, ofNat_toNat32, BitVec.xor_comm, ← step8_split, ih, ← iter_succ' step8]

end Carquet.Proofs.Crc32
