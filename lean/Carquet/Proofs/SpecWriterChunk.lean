import Carquet.Proofs.SpecFileRead
import Carquet.Proofs.SpecWriterPage
import Carquet.Proofs.SnappyComp
import Carquet.Proofs.SnappySpec
import Carquet.Proofs.Lz4Comp
import Carquet.Proofs.Lz4Spec
import Carquet.Proofs.Crc32Damage
/-
Page and chunk stages of `Spec.File.read` on the bytes of a written column chunk
(`pagesBytes D ps`, the concatenation of `header ++ stored body` of the chunk's page records):
header, sizes, CRC (C14), decompression by the Spec decoders (C10), length check, page body
(`page_written`); the pages of a chunk are a chain of pages the reader reads (`pages_chain`: a `DataPages`,
Proofs/SpecFileRead.lean), holding the entries of the page records and adding up to the `total_uncompressed_size`
the writer records; then the chunk with its own checks, value count and first repetition level
(`readChunk_written`).
-/
namespace Carquet.Proofs.SpecWriter
open Carquet.Impl Carquet.Impl.Writer Carquet.Impl.FileReal
open Carquet.Spec Carquet.Spec.File
open Carquet.Proofs.WriterTable Carquet.Proofs.WriterPages Carquet.Proofs.SpecFile

/-! ### CRC and decompression -/

theorem crc_accepts (x : List UInt8) :
    (Spec.Crc32.crc32 x).toNat = ((asI32 (FileReal.crc32 x)) % 4294967296).toNat := by
  have hlt : (Impl.Crc32.crc32 x).toNat < 4294967296 := (Impl.Crc32.crc32 x).isLt
  rw [← Carquet.Proofs.Crc32.impl_crc32_eq]
  unfold FileReal.crc32 asI32
  generalize (Impl.Crc32.crc32 x).toNat = n at hlt ⊢
  split <;> omega

theorem crc32_lt (x : List UInt8) : FileReal.crc32 x < 4294967296 := (Impl.Crc32.crc32 x).isLt

theorem decompress_compress (o : FileReal.Oracle) (or' : File.Oracle) (codec : Nat)
    (hcodec : codec = 0 ∨ codec = 1 ∨ codec = 5 ∨ codec = 7)
    (body comp : List UInt8) (hlen : body.length < 2 ^ 32) (h : FileReal.compress o codec body = some comp) :
    File.decompress or' codec comp body.length = .ok body := by
  rcases hcodec with rfl | rfl | hlz
  · simp only [FileReal.compress, Option.some.injEq] at h
    subst h; simp [File.decompress]
  · simp only [FileReal.compress, Option.some.injEq] at h
    subst h
    have := Carquet.Proofs.Snappy.decode_of_stream (Carquet.Proofs.Snappy.compress_stream body hlen)
    simp [File.decompress, this]
  · obtain ⟨seqs, last, h1, h2, _, _⟩ := Carquet.Proofs.Lz4Comp.compress_spec body (Lz4.bound body.length) (Nat.le_refl _)
    have := Carquet.Proofs.Lz4Spec.decode_complete (Carquet.Proofs.Lz4Spec.encode_block h2) (Nat.le_refl body.length)
    rcases hlz with rfl | rfl <;>
      simp only [FileReal.compress, h1, Option.some.injEq] at h <;> subst h <;> simp [File.decompress, this]

/-! ### one page -/

/-- **raw-page stage**: header, sizes, CRC, decompression, uncompressed length -/
theorem readRawPage_written (o : FileReal.Oracle) (cfg : Config) (codec : Nat)
    (hcodec : codec = 0 ∨ codec = 1 ∨ codec = 5 ∨ codec = 7) (r : PageRec) (rest : List UInt8)
    (hcomp : (deps o).compress codec r.body = some r.comp)
    (hsz : HeaderSizes r.body.length r.comp.length r.rows r.stats) :
    readRawPage cfg codec (r.bytes (deps o) ++ rest) =
      .ok ⟨pageHdrOfWritten r.body.length r.comp.length (FileReal.crc32 r.comp) r.rows r.stats, r.body,
           (r.bytes (deps o)).length, rest⟩ := by
  have hb : r.bytes (deps o) = pageHeader r.body.length r.comp.length (FileReal.crc32 r.comp) r.rows r.stats ++ r.comp := rfl
  rw [hb, List.length_append]
  exact readRawPage_accepts (parsePageHeader_written r.body.length r.comp.length (FileReal.crc32 r.comp) r.rows r.stats
      (r.comp ++ rest) hsz (crc32_lt r.comp)) (Or.inl rfl) rfl rfl (fun c hc => by cases hc; exact crc_accepts r.comp)
    (decompress_compress o cfg.oracle codec hcodec r.body r.comp (Nat.lt_trans hsz.unc (by decide)) hcomp)

/-- the three numbers of a page that the C code keeps in `int32_t` -/
structure PageSmall (r : PageRec) : Prop where
  body : r.body.length < 2147483648
  comp : r.comp.length < 2147483648
  rows : r.rows < 2147483648

instance (r : PageRec) : Decidable (PageSmall r) :=
  decidable_of_iff (r.body.length < 2147483648 ∧ r.comp.length < 2147483648 ∧ r.rows < 2147483648)
    ⟨fun h => ⟨h.1, h.2.1, h.2.2⟩, fun h => ⟨h.body, h.comp, h.rows⟩⟩

/-- everything the reader's page stages need to know about one page record of column `c` -/
structure PageFacts (o : FileReal.Oracle) (codec : Nat) (c : Col) (r : PageRec) : Prop where
  isRec : r = pageRecOf (deps o) codec c r.src
  ok : PageOk (deps o) codec r
  good : PageGood c r.src
  small : PageSmall r

theorem valOk_stat_length (c : Col) (hs : hasStats c.ptype = true) (v : Val) (hv : ValOk c v) :
    v.length < 2147483648 ∧ v ≠ [] := by
  unfold ValOk at hv
  cases hp : c.ptype <;> simp [hp, hasStats] at hs <;> simp only [hp, valOkT] at hv <;>
    exact ⟨by omega, by intro h; simp [h] at hv⟩

theorem pageFacts_rows {o : FileReal.Oracle} {codec : Nat} {c : Col} {r : PageRec} (hf : PageFacts o codec c r) :
    r.rows = r.src.numValues := by
  have := congrArg PageRec.rows hf.isRec; simpa [pageRecOf] using this

theorem pageFacts_body {o : FileReal.Oracle} {codec : Nat} {c : Col} {r : PageRec} (hf : PageFacts o codec c r) :
    r.body = pageBody (deps o) c r.src := by
  have := congrArg PageRec.body hf.isRec; simpa [pageRecOf] using this

theorem pageFacts_stats {o : FileReal.Oracle} {codec : Nat} {c : Col} {r : PageRec} (hf : PageFacts o codec c r) :
    r.stats = pageStatsOf r.src := by
  have := congrArg PageRec.stats hf.isRec; simpa [pageRecOf] using this

theorem numNulls_le (c : Col) (p : Page) (hg : PageGood c p) : p.numNulls ≤ p.numValues := by
  rw [hg.nulls]
  by_cases h0 : c.maxDef = 0
  · simp [hg.defsNil h0]
  · have := hg.defsLen (by omega)
    have := List.length_filter_le (fun x => decide (x < c.maxDef)) p.defs
    omega

theorem headerSizes_of_facts {o : FileReal.Oracle} {codec : Nat} {c : Col} {r : PageRec} (hf : PageFacts o codec c r) :
    HeaderSizes r.body.length r.comp.length r.rows r.stats := by
  refine ⟨hf.small.body, hf.small.comp, hf.small.rows, ?_⟩
  intro s hs
  rw [pageFacts_stats hf] at hs
  unfold pageStatsOf at hs
  rw [hf.good.minMax] at hs
  by_cases hst : hasStats c.ptype = true
  · simp only [hst, if_true] at hs
    cases hfold : r.src.values.foldl (FileReal.statsStep c.ptype) none with
    | none => simp [hfold] at hs
    | some q =>
      obtain ⟨mn, mx⟩ := q
      simp only [hfold, Option.some.injEq] at hs
      subst hs
      obtain ⟨hmn, hmx, _⟩ := statsFold_bounds c.ptype hst r.src.values mn mx hfold
      obtain ⟨a1, a2⟩ := valOk_stat_length c hst mn (hf.good.valsOk mn hmn)
      obtain ⟨b1, b2⟩ := valOk_stat_length c hst mx (hf.good.valsOk mx hmx)
      have hn := numNulls_le c r.src hf.good
      have hr := hf.small.rows
      rw [pageFacts_rows hf] at hr
      exact ⟨by simp only; omega, b1, a1, b2, a2⟩
  · simp [hst] at hs

theorem levels_length_lt {o : FileReal.Oracle} {codec : Nat} {c : Col} {r : PageRec} (hf : PageFacts o codec c r)
    (h0 : 0 < r.src.defs.length) :
    (Rle.encode (FileReal.bitWidth c.maxDef) r.src.defs).length < 2 ^ 32 := by
  have hb := hf.small.body
  rw [pageFacts_body hf] at hb
  simp only [pageBody, h0, if_true, deps, FileReal.levels, List.length_append, gt_iff_lt] at hb
  omega

theorem repLevels_length_lt {o : FileReal.Oracle} {codec : Nat} {c : Col} {r : PageRec} (hf : PageFacts o codec c r)
    (h0 : 0 < r.src.reps.length) :
    (Rle.encode (FileReal.bitWidth c.maxRep) r.src.reps).length < 2 ^ 32 := by
  have hb := hf.small.body
  rw [pageFacts_body hf] at hb
  simp only [pageBody, h0, if_true, deps, FileReal.levels, List.length_append, gt_iff_lt] at hb
  omega

/-! ### entries of concatenated pages -/

theorem specEntriesR_append (m : Nat) : ∀ (r1 d1 : List Nat) (v1 : List Val) (r2 d2 : List Nat) (v2 : List Val),
    r1.length = d1.length → v1.length = (d1.filter (· == m)).length →
    specEntriesR m (r1 ++ r2) (d1 ++ d2) (v1 ++ v2) = specEntriesR m r1 d1 v1 ++ specEntriesR m r2 d2 v2
  | [], [], v1, r2, d2, v2, _, h => by
    have : v1 = [] := List.eq_nil_of_length_eq_zero (by simpa using h)
    subst this; simp [specEntriesR]
  | [], _ :: _, _, _, _, _, hl, _ => by simp at hl
  | _ :: _, [], _, _, _, _, hl, _ => by simp at hl
  | r :: rs, d :: ds, v1, r2, d2, v2, hl, h => by
    have hl' : rs.length = ds.length := by simpa using hl
    by_cases hd : d = m
    · cases v1 with
      | nil => simp [hd] at h
      | cons v v1' =>
        have h' : v1'.length = (ds.filter (· == m)).length := by simpa [hd] using h
        simp only [List.cons_append, specEntriesR, hd, if_true, specEntriesR_append m rs ds v1' r2 d2 v2 hl' h']
    · have h' : v1.length = (ds.filter (· == m)).length := by simpa [hd] using h
      simp only [List.cons_append, specEntriesR, hd, if_false, specEntriesR_append m rs ds v1 r2 d2 v2 hl' h']

theorem specEntriesR_reps (m : Nat) : ∀ (rs ds : List Nat) (vs : List Val), rs.length = ds.length →
    (specEntriesR m rs ds vs).map (·.rep) = rs
  | [], [], _, _ => by simp [specEntriesR]
  | [], _ :: _, _, hl => by simp at hl
  | _ :: _, [], _, hl => by simp at hl
  | r :: rs, d :: ds, vs, hl => by
    have hl' : rs.length = ds.length := by simpa using hl
    simp only [specEntriesR]
    split
    · cases vs <;> simp [specEntriesR_reps m rs ds _ hl']
    · simp [specEntriesR_reps m rs ds _ hl']

theorem specEntriesR_length (m : Nat) (rs ds : List Nat) (vs : List Val) (hl : rs.length = ds.length) :
    (specEntriesR m rs ds vs).length = ds.length := by
  rw [← hl, ← List.length_map (f := (·.rep)), specEntriesR_reps m rs ds vs hl]

/-! for a non-repeated column (`specEntries`: repetition level 0 throughout) -/

theorem specEntries_append (m : Nat) : ∀ (d1 : List Nat) (v1 : List Val) (d2 : List Nat) (v2 : List Val),
    v1.length = (d1.filter (· == m)).length →
    specEntries m (d1 ++ d2) (v1 ++ v2) = specEntries m d1 v1 ++ specEntries m d2 v2 := by
  intro d1 v1 d2 v2 h
  rw [← specEntriesR_flat, ← specEntriesR_flat, ← specEntriesR_flat, List.length_append, ← List.replicate_append_replicate]
  exact specEntriesR_append m _ d1 v1 _ d2 v2 (by simp) h

theorem specEntries_length (m : Nat) : ∀ (ds : List Nat) (vs : List Val), (specEntries m ds vs).length = ds.length := by
  intro ds vs
  rw [← specEntriesR_flat]
  exact specEntriesR_length m _ ds vs (by simp)

theorem specEntries_rep (m : Nat) : ∀ (ds : List Nat) (vs : List Val), ∀ e ∈ specEntries m ds vs, e.rep = 0 := by
  intro ds vs e he
  have h := specEntriesR_reps m (List.replicate ds.length 0) ds vs (by simp)
  rw [specEntriesR_flat] at h
  exact (List.mem_replicate.mp (h ▸ List.mem_map_of_mem (f := Entry.rep) he)).2

theorem pagesData_cons (r : PageRec) (ps : List PageRec) :
    pagesData (r :: ps) = (pageData r.src).append (pagesData ps) := by
  simp [pagesData, pageData, ColData.append]

theorem specChunkOf_append (c : Col) (p : Page) (hg : PageGood c p) (d : ColData) :
    specChunkOf c ((pageData p).append d) = specChunkOf c (pageData p) ++ specChunkOf c d := by
  have hnn := nonNullCount_specDefs c p hg
  unfold nonNullCount at hnn
  have hdefs : specDefs c ((pageData p).append d) = specDefs c (pageData p) ++ specDefs c d := by
    unfold specDefs
    by_cases h0 : c.maxDef = 0
    · simp [h0, ColData.append]
    · simp [h0, ColData.append]
  have hreps : specReps c ((pageData p).append d) = specReps c (pageData p) ++ specReps c d := by
    unfold specReps
    by_cases h0 : c.maxRep = 0
    · simp [h0, ColData.append]
    · simp [h0, ColData.append]
  unfold specChunkOf
  rw [hdefs, hreps]
  exact specEntriesR_append c.maxDef _ _ _ _ _ _
    ((specReps_length c p hg).trans (specDefs_length c p hg).symm) hnn.symm

theorem specChunkOf_pageData_length (c : Col) (p : Page) (hg : PageGood c p) :
    (specChunkOf c (pageData p)).length = p.numValues := by
  unfold specChunkOf
  rw [specEntriesR_length _ _ _ _ ((specReps_length c p hg).trans (specDefs_length c p hg).symm), specDefs_length c p hg]

theorem specChunkOf_empty (c : Col) : specChunkOf c (pagesData []) = [] := by
  unfold specChunkOf specDefs specReps pagesData
  by_cases h0 : c.maxDef = 0 <;> by_cases h1 : c.maxRep = 0 <;> simp [h0, h1, specEntriesR]

/-! ### the pages of a chunk -/

theorem pagesBytes_cons (D : Deps) (r : PageRec) (ps : List PageRec) :
    pagesBytes D (r :: ps) = r.bytes D ++ pagesBytes D ps := by
  simp [pagesBytes]

theorem pageBytes_length_pos {o : FileReal.Oracle} {codec : Nat} {c : Col} {r : PageRec} (hf : PageFacts o codec c r) :
    0 < (r.bytes (deps o)).length := by
  have hs := headerSizes_of_facts hf
  have := pageHeader_length_pos r.body.length r.comp.length (FileReal.crc32 r.comp) r.rows r.stats
    (fun s h => ⟨(hs.stats s h).2.2.2.1, (hs.stats s h).2.2.2.2⟩)
  simp only [PageRec.bytes, deps, List.length_append]
  omega

theorem page_written (o : FileReal.Oracle) (cfg : Config) (codec : Nat)
    (hcodec : codec = 0 ∨ codec = 1 ∨ codec = 5 ∨ codec = 7) (c : Col) (hrep : c.maxRep < 2 ^ 32) (hdef : c.maxDef < 2 ^ 32)
    (r : PageRec) (hf : PageFacts o codec c r) (rest : List UInt8) :
    readRawPage cfg codec (r.bytes (deps o) ++ rest) =
      .ok ⟨pageHdrOfWritten r.body.length r.comp.length (FileReal.crc32 r.comp) r.rows r.stats, r.body,
           (r.bytes (deps o)).length, rest⟩ ∧
    decodeDataPage (leafOf c) none ⟨r.rows, 0, 3, 3, r.stats.map statsMetaOf⟩ r.body =
      .ok (specChunkOf c (pageData r.src)) := by
  refine ⟨readRawPage_written o cfg codec hcodec r rest hf.ok.1 (headerSizes_of_facts hf), ?_⟩
  have hrows : 0 < r.src.numValues := by rw [← pageFacts_rows hf]; exact hf.ok.2
  rw [pageFacts_rows hf, pageFacts_stats hf, pageFacts_body hf]
  exact decodeDataPage_written o c r.src hf.good hrep hdef hrows (repLevels_length_lt hf) (levels_length_lt hf)

/-- **page chaining**: the pages of a written chunk are a chain the reader walks to the chunk's last byte; it holds the
entries of the pages in order, and adds up to Σ (header + uncompressed body) of the page records — what the writer
records as `total_uncompressed_size` after fix F23 -/
theorem pages_chain (o : FileReal.Oracle) (cfg : Config) (codec : Nat)
    (hcodec : codec = 0 ∨ codec = 1 ∨ codec = 5 ∨ codec = 7) (c : Col) (hrep : c.maxRep < 2 ^ 32) (hdef : c.maxDef < 2 ^ 32) :
    ∀ (ps : List PageRec), (∀ r ∈ ps, PageFacts o codec c r) →
      DataPages cfg codec (leafOf c) [0, 3] none (pagesBytes (deps o) ps) (specChunkOf c (pagesData ps))
        (sumUsize (deps o) ps) ps.length
  | [], _ => by rw [specChunkOf_empty]; exact .nil
  | r :: ps, h => by
    have hf := h r (by simp)
    obtain ⟨h1, h2⟩ := page_written o cfg codec hcodec c hrep hdef r hf (pagesBytes (deps o) ps)
    have := DataPages.cons (List.length_pos_iff.mp (pageBytes_length_pos hf)) h1 rfl rfl rfl rfl h2
      (pages_chain o cfg codec hcodec c hrep hdef ps (fun x hx => h x (by simp [hx])))
    rw [pagesBytes_cons, pagesData_cons, specChunkOf_append c r.src hf.good]
    have hu : sumUsize (deps o) (r :: ps) = RawPage.usize ⟨pageHdrOfWritten r.body.length r.comp.length (FileReal.crc32 r.comp)
        r.rows r.stats, r.body, (r.bytes (deps o)).length, pagesBytes (deps o) ps⟩ + sumUsize (deps o) ps := by
      simp only [RawPage.usize, pageHdrOfWritten, sumUsize, List.map_cons, List.sum_cons, PageRec.usize, PageRec.bytes_eq,
        List.length_append]
      omega
    rw [hu]; exact this

/-! ### the chunk -/

theorem specChunkOf_pagesData_length {o : FileReal.Oracle} {codec : Nat} {c : Col} : ∀ (ps : List PageRec),
    (∀ r ∈ ps, PageFacts o codec c r) → (specChunkOf c (pagesData ps)).length = sumRows ps
  | [], _ => by simp [specChunkOf_empty, sumRows]
  | r :: ps, h => by
    have hf := h r (by simp)
    have ih := specChunkOf_pagesData_length ps (fun x hx => h x (by simp [hx]))
    rw [pagesData_cons, specChunkOf_append c r.src hf.good, List.length_append, ih,
      specChunkOf_pageData_length c r.src hf.good, ← pageFacts_rows hf]
    simp [sumRows]

/-- the first repetition level of a column's content is 0 (vacuous for an empty chunk and for a
non-repeated column): a row group begins with a new row -/
def FirstRepZero (c : Col) (d : ColData) : Prop := c.maxRep > 0 → d.reps.headD 0 = 0

instance (c : Col) (d : ColData) : Decidable (FirstRepZero c d) := by unfold FirstRepZero; exact inferInstance

theorem specReps_pagesData_length {o : FileReal.Oracle} {codec : Nat} {c : Col} : ∀ (ps : List PageRec),
    (∀ r ∈ ps, PageFacts o codec c r) →
    (specReps c (pagesData ps)).length = (pagesData ps).rows ∧ (specDefs c (pagesData ps)).length = (pagesData ps).rows
  | [], _ => by
    unfold specReps specDefs pagesData
    by_cases h0 : c.maxDef = 0 <;> by_cases h1 : c.maxRep = 0 <;> simp [h0, h1]
  | r :: ps, h => by
    have hf := h r (by simp)
    obtain ⟨i1, i2⟩ := specReps_pagesData_length ps (fun x hx => h x (by simp [hx]))
    have a1 := specReps_length c r.src hf.good
    have a2 := specDefs_length c r.src hf.good
    rw [pagesData_cons]
    unfold specReps specDefs at *
    by_cases h0 : c.maxDef = 0 <;> by_cases h1 : c.maxRep = 0 <;>
      simp [h0, h1, ColData.append, pageData] at * <;> omega

theorem specChunkOf_first_rep {o : FileReal.Oracle} {codec : Nat} {c : Col} (ps : List PageRec)
    (h : ∀ r ∈ ps, PageFacts o codec c r) (hfirst : FirstRepZero c (pagesData ps)) :
    ∀ e es, specChunkOf c (pagesData ps) = e :: es → e.rep = 0 := by
  intro e es he
  obtain ⟨l1, l2⟩ := specReps_pagesData_length ps h
  have hmap := specEntriesR_reps c.maxDef (specReps c (pagesData ps)) (specDefs c (pagesData ps)) (pagesData ps).vals
    (l1.trans l2.symm)
  unfold specChunkOf at he
  rw [he] at hmap
  unfold specReps at hmap
  by_cases h1 : c.maxRep = 0
  · simp only [h1, if_true, List.map_cons] at hmap
    cases hn : (pagesData ps).rows with
    | zero => simp [hn] at hmap
    | succ k => simp [hn, List.replicate_succ] at hmap; exact hmap.1
  · simp only [h1, if_false, List.map_cons] at hmap
    have := hfirst (by omega)
    rw [← hmap] at this
    exact this

/-- **chunk stage**: the bytes of a written chunk are read to the entries of its pages; value count
and first repetition level agree with the metadata -/
theorem readChunk_written (o : FileReal.Oracle) (cfg : Config) (codec : Nat)
    (hcodec : codec = 0 ∨ codec = 1 ∨ codec = 5 ∨ codec = 7) (c : Col) (hrep : c.maxRep < 2 ^ 32) (hdef : c.maxDef < 2 ^ 32)
    (ps : List PageRec) (h : ∀ r ∈ ps, PageFacts o codec c r) (hfirst : FirstRepZero c (pagesData ps))
    (m : ColumnMeta) (henc : m.encodings = [0, 3])
    (hmc : m.codec = codec) (hd : m.dictionaryPageOffset = none) (hnv : m.numValues = sumRows ps) (start : Nat) :
    readChunk cfg (leafOf c) m start (pagesBytes (deps o) ps) = .ok (specChunkOf c (pagesData ps)) ∧
    chunkUsize ((pagesBytes (deps o) ps).length + 1) (pagesBytes (deps o) ps) = some (sumUsize (deps o) ps) :=
  readChunk_of_pages start (henc ▸ hmc ▸ pages_chain o cfg codec hcodec c hrep hdef ps h)
    ⟨henc ▸ rfl, hnv.trans (specChunkOf_pagesData_length ps h).symm, specChunkOf_first_rep ps h hfirst⟩ hd

end Carquet.Proofs.SpecWriter
