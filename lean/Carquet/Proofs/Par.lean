import Carquet.Impl.Par
/-
Helper lemmas for C07 (parallel reading): basic facts about `exec`, the projection
characterisation of merges, and the non-interference lemma all positive C07 theorems rest on.
-/
namespace Carquet.Proofs.Par
open Carquet.Impl.Par

/-! ### steps -/

theorem stepPrim_file (a : Prim) (sh : Shared) (p : Priv) : (stepPrim a sh p).1.file = sh.file := by
  cases a <;> rfl

theorem runSP_file (ps : List Prim) (sh : Shared) (p : Priv) : (runSP ps sh p).1.file = sh.file := by
  induction ps generalizing sh p with
  | nil => rfl
  | cons a as ih => simp [runSP, ih, stepPrim_file]

/-- the position-only twin used by the driver agrees with the model -/
theorem stepPrim_filePos (f : Nat) (a : Prim) (sh : Shared) (p : Priv) :
    (stepPrim a sh p).1.filePos f = stepPos sh.file.length f a (sh.filePos f) := by
  cases a with
  | seek g o =>
    by_cases h : g = f
    · subst h; simp [stepPrim, stepPos, setPos]
    · have h' : ¬ f = g := fun e => h e.symm
      simp [stepPrim, stepPos, setPos, h, h']
  | read g n =>
    by_cases h : g = f
    · subst h; simp [stepPrim, stepPos, setPos]
    · have h' : ¬ f = g := fun e => h e.symm
      simp [stepPrim, stepPos, setPos, h, h']
  | load o n => simp [stepPrim, stepPos]
  | initCell i v => simp [stepPrim, stepPos]
  | setFlag => simp [stepPrim, stepPos]
  | useTable => simp [stepPrim, stepPos]

theorem runSP_append (as bs : List Prim) (sh : Shared) (p : Priv) :
    runSP (as ++ bs) sh p = runSP bs (runSP as sh p).1 (runSP as sh p).2 := by
  induction as generalizing sh p with
  | nil => rfl
  | cons a as ih => simp [runSP, ih]

theorem setPriv_self (pr : Worker → Priv) (w : Worker) (v : Priv) : setPriv pr w v w = v := by
  simp [setPriv]

theorem setPriv_other (pr : Worker → Priv) (w w' : Worker) (v : Priv) (h : w' ≠ w) :
    setPriv pr w v w' = pr w' := by
  simp [setPriv, h]

theorem setPriv_setPriv (pr : Worker → Priv) (w : Worker) (u v : Priv) :
    setPriv (setPriv pr w u) w v = setPriv pr w v := by
  funext w'; by_cases h : w' = w <;> simp [setPriv, h]

@[simp] theorem run_sh (st : State) (w : Worker) (ps : List Prim) :
    (st.run w ps).sh = (runSP ps st.sh (st.pr w)).1 := rfl

@[simp] theorem run_pr_self (st : State) (w : Worker) (ps : List Prim) :
    (st.run w ps).pr w = (runSP ps st.sh (st.pr w)).2 := by
  simp [State.run, setPriv]

theorem run_pr_other (st : State) (w w' : Worker) (ps : List Prim) (h : w' ≠ w) :
    (st.run w ps).pr w' = st.pr w' := by
  simp [State.run, setPriv, h]

theorem run_nil (st : State) (w : Worker) : st.run w [] = st := by
  cases st with
  | mk sh pr =>
    simp only [State.run, runSP]
    congr 1
    funext w'; by_cases h : w' = w <;> simp [setPriv, h]

theorem run_cons (st : State) (w : Worker) (p : Prim) (ps : List Prim) :
    st.run w (p :: ps) = (st.run w [p]).run w ps := by
  simp only [State.run, runSP, setPriv_self, setPriv_setPriv]

theorem execPrims_append (s t : List (Worker × Prim)) (st : State) :
    execPrims (s ++ t) st = execPrims t (execPrims s st) := by
  induction s generalizing st with
  | nil => rfl
  | cons e s ih => cases e with | mk w p => simp [execPrims, ih]

theorem execPrims_map (w : Worker) (ps : List Prim) (st : State) :
    execPrims (ps.map (fun p => (w, p))) st = st.run w ps := by
  induction ps generalizing st with
  | nil => simp [execPrims, run_nil]
  | cons p ps ih => simp only [List.map_cons, execPrims, ih]; rw [← run_cons]

@[simp] theorem exec_nil (st : State) : exec [] st = st := rfl

theorem exec_cons (w : Worker) (a : Action) (s : List (Worker × Action)) (st : State) :
    exec ((w, a) :: s) st = exec s (st.run w a.prims) := by
  simp only [exec, flat, execPrims_append, execPrims_map]

theorem exec_append (s t : List (Worker × Action)) (st : State) :
    exec (s ++ t) st = exec t (exec s st) := by
  induction s generalizing st with
  | nil => rfl
  | cons e s ih => cases e with | mk w a => simp only [List.cons_append, exec_cons, ih]

/-! ### projections and merges -/

@[simp] theorem proj_nil {α : Type} (w : Worker) : proj w ([] : List (Worker × α)) = [] := rfl

theorem proj_cons_self {α : Type} (w : Worker) (a : α) (s : List (Worker × α)) :
    proj w ((w, a) :: s) = a :: proj w s := by
  simp [proj]

theorem proj_cons_other {α : Type} (w w' : Worker) (a : α) (s : List (Worker × α)) (h : w' ≠ w) :
    proj w ((w', a) :: s) = proj w s := by
  simp [proj, h]

theorem proj_append {α : Type} (w : Worker) (s t : List (Worker × α)) :
    proj w (s ++ t) = proj w s ++ proj w t := by
  simp [proj]

theorem proj_solo_self {α : Type} (w : Worker) (l : List α) : proj w (solo w l) = l := by
  induction l with
  | nil => rfl
  | cons a l ih => simp only [solo, List.map_cons] at *; rw [proj_cons_self, ih]

theorem proj_solo_other {α : Type} (w w' : Worker) (l : List α) (h : w' ≠ w) :
    proj w (solo w' l) = [] := by
  induction l with
  | nil => rfl
  | cons a l ih => simp only [solo, List.map_cons] at *; rw [proj_cons_other _ _ _ _ h, ih]

theorem proj_snoc_self {α : Type} (w : Worker) (s : List (Worker × α)) (a : α) :
    proj w (s ++ [(w, a)]) = proj w s ++ [a] := by
  rw [proj_append, proj_cons_self]; rfl

theorem proj_snoc_other {α : Type} (w w' : Worker) (s : List (Worker × α)) (a : α) (h : w' ≠ w) :
    proj w (s ++ [(w', a)]) = proj w s := by
  rw [proj_append, proj_cons_other _ _ _ _ h]; simp

theorem mem_proj_snoc {α : Type} {w w0 : Worker} {a p : α} {h : List (Worker × α)}
    (hm : a ∈ proj w (h ++ [(w0, p)])) : a ∈ proj w h ∨ (w = w0 ∧ a = p) := by
  by_cases e : w0 = w
  · subst e
    rw [proj_snoc_self] at hm
    simpa [or_comm] using hm
  · rw [proj_snoc_other _ _ _ _ e] at hm
    exact .inl hm

theorem mem_proj {α : Type} {w : Worker} {a : α} {s : List (Worker × α)} : a ∈ proj w s ↔ (w, a) ∈ s := by
  simp only [proj, List.mem_map, List.mem_filter, beq_iff_eq]
  constructor
  · rintro ⟨⟨w', a'⟩, ⟨he, rfl⟩, rfl⟩; exact he
  · intro h; exact ⟨(w, a), ⟨h, rfl⟩, rfl⟩

/-- a merge projects onto every worker's own list, and mentions no other worker -/
theorem isMerge_proj_eq {α : Type} {ls : List (List α)} {s : List (Worker × α)} (h : IsMerge ls s) :
    ∀ w, proj w s = ls.getD w [] := by
  induction h with
  | done hall =>
    intro w
    simp only [proj_nil, List.getD_eq_getElem?_getD]
    cases hw : (_ : List (List α))[w]? with
    | none => rfl
    | some l => simp [hall l (List.mem_of_getElem? hw)]
  | @step ls w a rest s hw _ ih =>
    intro w'
    have hlt : w < ls.length := (List.getElem?_eq_some_iff.mp hw).1
    by_cases h : w' = w
    · subst h
      rw [proj_cons_self, ih]
      simp only [List.getD_eq_getElem?_getD, List.getElem?_set_self hlt, hw, Option.getD_some]
    · rw [proj_cons_other _ _ _ _ (fun e => h e.symm), ih]
      simp only [List.getD_eq_getElem?_getD]
      rw [List.getElem?_set_ne (fun e => h e.symm)]

theorem isMerge_lt_length {α : Type} {ls : List (List α)} {s : List (Worker × α)} (h : IsMerge ls s) :
    ∀ e ∈ s, e.1 < ls.length := by
  induction h with
  | done _ => intro e he; cases he
  | @step ls w a rest s hw _ ih =>
    intro e he
    have hlt : w < ls.length := (List.getElem?_eq_some_iff.mp hw).1
    rcases List.mem_cons.1 he with rfl | he
    · exact hlt
    · simpa using ih e he

/-- conversely, every schedule over the workers of `ls` whose projections are the workers' lists
is a merge: `IsMerge` is exactly "all order-preserving interleavings", nothing narrower. -/
theorem isMerge_of_proj {α : Type} (s : List (Worker × α)) :
    ∀ (ls : List (List α)), (∀ e ∈ s, e.1 < ls.length) → (∀ w, w < ls.length → proj w s = ls.getD w []) →
      IsMerge ls s := by
  induction s with
  | nil =>
    intro ls _ hp
    refine IsMerge.done ?_
    intro l hl
    obtain ⟨i, hi, rfl⟩ := List.getElem_of_mem hl
    have := hp i hi
    simp [List.getD_eq_getElem?_getD, hi] at this
    exact this
  | cons e s ih =>
    intro ls hb hp
    cases e with
    | mk w a =>
      have hw : w < ls.length := hb (w, a) (List.mem_cons_self ..)
      have h1 := hp w hw
      rw [proj_cons_self] at h1
      have hget : ls[w]? = some (a :: proj w s) := by
        simp [List.getD_eq_getElem?_getD, hw] at h1
        simp [hw, h1]
      refine IsMerge.step hget (ih _ ?_ ?_)
      · intro e he; simpa using hb e (List.mem_cons_of_mem _ he)
      · intro w' hw'
        simp only [List.length_set] at hw'
        by_cases h : w' = w
        · subst h; simp [List.getD_eq_getElem?_getD, hw]
        · have := hp w' hw'
          rw [proj_cons_other _ _ _ _ (fun e => h e.symm)] at this
          rw [this]
          simp only [List.getD_eq_getElem?_getD]
          rw [List.getElem?_set_ne (fun e => h e.symm)]

theorem isMerge_iff {α : Type} [BEq α] [LawfulBEq α] (ls : List (List α)) (s : List (Worker × α)) :
    isMerge ls s = true ↔ IsMerge ls s := by
  constructor
  · intro h
    simp only [isMerge, Bool.and_eq_true, List.all_eq_true, decide_eq_true_eq, List.mem_range,
      beq_iff_eq] at h
    exact isMerge_of_proj s ls h.1 h.2
  · intro h
    simp only [isMerge, Bool.and_eq_true, List.all_eq_true, decide_eq_true_eq, List.mem_range,
      beq_iff_eq]
    exact ⟨isMerge_lt_length h, fun w _ => isMerge_proj_eq h w⟩

/-! ### the sequential schedule is a merge -/

theorem proj_seqFrom_lt {α : Type} (ls : List (List α)) (k w : Worker) (h : w < k) :
    proj w (seqFrom k ls) = [] := by
  induction ls generalizing k with
  | nil => rfl
  | cons l ls ih =>
    simp only [seqFrom, proj_append]
    have : proj w (solo k l) = [] := proj_solo_other w k l (by omega)
    simp only [solo] at this
    rw [this, ih (k + 1) (by omega)]; rfl

theorem proj_seqFrom {α : Type} (ls : List (List α)) (k i : Nat) :
    proj (k + i) (seqFrom k ls) = ls.getD i [] := by
  induction ls generalizing k i with
  | nil => simp [seqFrom]
  | cons l ls ih =>
    simp only [seqFrom, proj_append]
    cases i with
    | zero =>
      have h1 : proj k (solo k l) = l := proj_solo_self k l
      simp only [solo] at h1
      simp [h1, proj_seqFrom_lt ls (k + 1) k (by omega)]
    | succ i =>
      have h1 : proj (k + (i + 1)) (solo k l) = [] := proj_solo_other _ k l (by omega)
      simp only [solo] at h1
      have h2 := ih (k + 1) i
      have e : k + 1 + i = k + (i + 1) := by omega
      rw [e] at h2
      simp [h1, h2]

theorem mem_seqFrom_lt {α : Type} (ls : List (List α)) (k : Nat) :
    ∀ e ∈ seqFrom k ls, k ≤ e.1 ∧ e.1 < k + ls.length := by
  induction ls generalizing k with
  | nil => intro e he; cases he
  | cons l ls ih =>
    intro e he
    simp only [seqFrom, List.mem_append, List.mem_map] at he
    rcases he with ⟨a, _, rfl⟩ | he
    · simp
    · have := ih (k + 1) e he
      simp only [List.length_cons]; omega

theorem isMerge_sequential {α : Type} (ls : List (List α)) : IsMerge ls (sequential ls) := by
  apply isMerge_of_proj
  · intro e he
    have := mem_seqFrom_lt ls 0 e he
    omega
  · intro w _
    have := proj_seqFrom ls 0 w
    simpa [sequential] using this

/-! ### non-interference

`view w` is the part of the shared store worker `w` depends on, `obs` what is looked at in a private store (`id`, or
`bytesOf`).  If every scheduled action
(A) acts on its own worker's observed private store and view as a function of these two only, and
(B) leaves every other worker's view alone,
then after ANY schedule the observed private store (and view) of `w` is what `w` gets when it runs its own
actions alone from the same initial state. -/

section NonInterference
variable {V O : Type} (view : Worker → Shared → V) (obs : Priv → O)

def OwnDet (w : Worker) (a : Action) : Prop :=
  ∀ sh sh' p p', view w sh = view w sh' → obs p = obs p' →
    obs (runSP a.prims sh p).2 = obs (runSP a.prims sh' p').2 ∧
    view w (runSP a.prims sh p).1 = view w (runSP a.prims sh' p').1

def OthersKept (w : Worker) (a : Action) : Prop :=
  ∀ w', w' ≠ w → ∀ sh p, view w' (runSP a.prims sh p).1 = view w' sh

theorem solo_congr (w : Worker) (l : List Action) (hA : ∀ a ∈ l, OwnDet view obs w a)
    (st st' : State) (hp : obs (st.pr w) = obs (st'.pr w)) (hv : view w st.sh = view w st'.sh) :
    obs ((exec (solo w l) st).pr w) = obs ((exec (solo w l) st').pr w) ∧
    view w (exec (solo w l) st).sh = view w (exec (solo w l) st').sh := by
  induction l generalizing st st' with
  | nil => exact ⟨hp, hv⟩
  | cons a l ih =>
    simp only [solo, List.map_cons, exec_cons]
    have h := hA a (List.mem_cons_self ..) st.sh st'.sh (st.pr w) (st'.pr w) hv hp
    apply ih (fun b hb => hA b (List.mem_cons_of_mem _ hb))
    · simp only [run_pr_self]; exact h.1
    · simp only [run_sh]; exact h.2

theorem noninterference (s : List (Worker × Action))
    (hA : ∀ e ∈ s, OwnDet view obs e.1 e.2) (hB : ∀ e ∈ s, OthersKept view e.1 e.2)
    (st : State) (w : Worker) :
    obs ((exec s st).pr w) = obs ((exec (solo w (proj w s)) st).pr w) ∧
    view w (exec s st).sh = view w (exec (solo w (proj w s)) st).sh := by
  induction s generalizing st with
  | nil => exact ⟨rfl, rfl⟩
  | cons e s ih =>
    cases e with
    | mk w0 a =>
      have ihs := ih (fun e he => hA e (List.mem_cons_of_mem _ he))
                     (fun e he => hB e (List.mem_cons_of_mem _ he))
      by_cases h : w0 = w
      · subst h
        rw [proj_cons_self]
        simp only [solo, List.map_cons, exec_cons]
        exact ihs _
      · rw [proj_cons_other _ _ _ _ h, exec_cons]
        have h1 := ihs (st.run w0 a.prims)
        have hAw : ∀ b ∈ proj w s, OwnDet view obs w b :=
          fun b hb => hA (w, b) (List.mem_cons_of_mem _ (mem_proj.1 hb))
        have h2 := solo_congr view obs w (proj w s) hAw (st.run w0 a.prims) st
          (congrArg obs (run_pr_other st w0 w a.prims (fun e => h e.symm)))
          (by simpa using hB (w0, a) (List.mem_cons_self ..) w (fun e => h e.symm) st.sh (st.pr w0))
        exact ⟨h1.1.trans h2.1, h1.2.trans h2.2⟩

end NonInterference

theorem isMerge_mem {α : Type} {ls : List (List α)} {s : List (Worker × α)} (hm : IsMerge ls s) :
    ∀ e ∈ s, e.2 ∈ ls.getD e.1 [] := fun e he => isMerge_proj_eq hm e.1 ▸ mem_proj.2 he

/-- two merges of the same lists give every worker the same private store, provided the
non-interference conditions hold for the actions in the lists -/
theorem merges_agree {V : Type} (view : Worker → Shared → V) (ls : List (List Action))
    (hA : ∀ w, ∀ a ∈ ls.getD w [], OwnDet view id w a) (hB : ∀ w, ∀ a ∈ ls.getD w [], OthersKept view w a)
    (s : List (Worker × Action)) (hm : IsMerge ls s) (st : State) (w : Worker) :
    (exec s st).pr w = (exec (solo w (ls.getD w [])) st).pr w := by
  have hmem := isMerge_mem hm
  have := (noninterference view id s (fun e he => hA e.1 e.2 (hmem e he))
    (fun e he => hB e.1 e.2 (hmem e he)) st w).1
  rwa [isMerge_proj_eq hm w] at this

theorem merges_agree_seq {V : Type} (view : Worker → Shared → V) (ls : List (List Action))
    (hA : ∀ w, ∀ a ∈ ls.getD w [], OwnDet view id w a) (hB : ∀ w, ∀ a ∈ ls.getD w [], OthersKept view w a)
    (s : List (Worker × Action)) (hm : IsMerge ls s) (st : State) (w : Worker) :
    (exec s st).pr w = (exec (sequential ls) st).pr w ∧
    (exec s st).pr w = (exec (solo w (ls.getD w [])) st).pr w :=
  have h1 := merges_agree view ls hA hB s hm st w
  ⟨h1.trans (merges_agree view ls hA hB _ (isMerge_sequential ls) st w).symm, h1⟩

end Carquet.Proofs.Par
