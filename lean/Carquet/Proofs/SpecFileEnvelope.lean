import Carquet.Spec.File.Read
import Carquet.Proofs.NatBits
/-
Envelope layer of the independent reader: `splitFile` accepts exactly the byte strings of the
form  PAR1 ++ data ++ footer ++ le32 |footer| ++ PAR1  and returns that footer.
-/
namespace Carquet.Proofs.SpecFile
open Carquet.Spec.File

theorem leBytes_eq : ∀ n v, leBytes n v = Impl.Bitpack.leBytes n v
  | 0, _ => rfl
  | n + 1, v => congrArg _ (leBytes_eq n (v / 256))

theorem leNat_eq : ∀ bs, leNat bs = Impl.Bitpack.leNat bs
  | [] => rfl
  | b :: bs => congrArg (b.toNat + 256 * ·) (leNat_eq bs)

theorem leBytes_length (n v : Nat) : (leBytes n v).length = n := leBytes_eq n v ▸ NatBits.leBytes_length n v

theorem leNat_leBytes (n v : Nat) (h : v < 256 ^ n) : leNat (leBytes n v) = v := by
  rw [leNat_eq, leBytes_eq, NatBits.leNat_leBytes_of_lt h]

theorem leBytes_leNat (bs : Bytes) : leBytes bs.length (leNat bs) = bs := by
  rw [leNat_eq, leBytes_eq, NatBits.leBytes_leNat]

theorem magic_length : magic.length = 4 := rfl

def fileOfParts (data footer : Bytes) : Bytes := magic ++ data ++ footer ++ leBytes 4 footer.length ++ magic

theorem fileOfParts_length (data footer : Bytes) : (fileOfParts data footer).length = data.length + footer.length + 12 := by
  simp [fileOfParts, leBytes_length, magic_length]; omega

theorem footerLen_fileOfParts (data footer : Bytes) (h : footer.length < 2 ^ 32) :
    footerLen (fileOfParts data footer) = footer.length := by
  unfold footerLen
  have hl := fileOfParts_length data footer
  have e : fileOfParts data footer = (magic ++ data ++ footer) ++ (leBytes 4 footer.length ++ magic) := by
    simp [fileOfParts, List.append_assoc]
  have hd : (fileOfParts data footer).length - 8 = (magic ++ data ++ footer).length := by
    simp [hl, magic_length]; omega
  rw [hd, e, List.drop_left]
  have : (leBytes 4 footer.length ++ magic).take 4 = leBytes 4 footer.length := by
    have := List.take_left (l₁ := leBytes 4 footer.length) (l₂ := magic)
    rwa [leBytes_length] at this
  rw [this, leNat_leBytes _ _ (by simpa using h)]

/-- **envelope accepted**: a file assembled as the format says is split into its parts -/
theorem splitFile_fileOfParts (data footer : Bytes) (h : footer.length < 2 ^ 32) :
    splitFile (fileOfParts data footer) = .ok (4 + data.length, footer) := by
  have hl := fileOfParts_length data footer
  have hf := footerLen_fileOfParts data footer h
  unfold splitFile
  have h1 : ¬ (fileOfParts data footer).length < 12 := by omega
  have h2 : (fileOfParts data footer).take 4 = magic := by
    have e : fileOfParts data footer = magic ++ (data ++ footer ++ leBytes 4 footer.length ++ magic) := by
      simp [fileOfParts, List.append_assoc]
    rw [e]; exact List.take_left (l₁ := magic)
  have h3 : (fileOfParts data footer).drop ((fileOfParts data footer).length - 4) = magic := by
    have e : fileOfParts data footer = (magic ++ data ++ footer ++ leBytes 4 footer.length) ++ magic := by
      simp [fileOfParts, List.append_assoc]
    have hd : (fileOfParts data footer).length - 4 = (magic ++ data ++ footer ++ leBytes 4 footer.length).length := by
      simp [hl, leBytes_length, magic_length]; omega
    rw [hd, e, List.drop_left]
  have h4 : ¬ (footerLen (fileOfParts data footer) + 12 > (fileOfParts data footer).length) := by omega
  rw [if_neg h1, if_neg (by simp [h2]), if_neg (by simp [h3]), if_neg h4, hf]
  have hpos : (fileOfParts data footer).length - 8 - footer.length = (magic ++ data).length := by
    simp [hl, magic_length]; omega
  have e : fileOfParts data footer = (magic ++ data) ++ (footer ++ (leBytes 4 footer.length ++ magic)) := by
    simp [fileOfParts, List.append_assoc]
  rw [hpos]
  congr 1
  rw [e, List.drop_left]
  have : (magic ++ data).length = 4 + data.length := by simp [magic_length]
  simp [this, List.take_left']

/-- **only enveloped files are accepted**: whatever `splitFile` accepts has the envelope, and the
returned footer is the one the trailing length announces -/
theorem splitFile_inv {bs footer : Bytes} {fs : Nat} (h : splitFile bs = .ok (fs, footer)) :
    ∃ data, bs = fileOfParts data footer ∧ fs = 4 + data.length := by
  unfold splitFile at h
  split at h; · cases h
  split at h; · cases h
  split at h; · cases h
  split at h; · cases h
  rename_i h1 h2 h3 h4
  simp only [ne_eq, Decidable.not_not] at h2 h3
  simp only [Except.ok.injEq, Prod.mk.injEq] at h
  obtain ⟨hfs, hft⟩ := h
  have hlen : footer.length = footerLen bs := by
    rw [← hft, List.length_take, List.length_drop]; omega
  refine ⟨(bs.drop 4).take (bs.length - 12 - footerLen bs), ?_, ?_⟩
  · -- cut bs from the end: trailing magic, length field, footer, data; then the leading magic
    have e6 : (bs.drop (bs.length - 8)).take 4 = leBytes 4 footer.length := by
      have hl4 : ((bs.drop (bs.length - 8)).take 4).length = 4 := by
        rw [List.length_take, List.length_drop]; omega
      have := leBytes_leNat ((bs.drop (bs.length - 8)).take 4)
      rw [hl4] at this
      rw [hlen]; exact this.symm
    have t3 : bs.drop (bs.length - 8) = leBytes 4 footer.length ++ magic := by
      rw [← List.take_append_drop 4 (bs.drop (bs.length - 8)), e6, List.drop_drop,
        show bs.length - 8 + 4 = bs.length - 4 by omega, h3]
    have t2 : bs.drop (bs.length - 8 - footerLen bs) = footer ++ (leBytes 4 footer.length ++ magic) := by
      rw [← List.take_append_drop (footerLen bs) (bs.drop (bs.length - 8 - footerLen bs)), hft, List.drop_drop,
        show bs.length - 8 - footerLen bs + footerLen bs = bs.length - 8 by omega, t3]
    have t1 : bs.drop 4 = (bs.drop 4).take (bs.length - 12 - footerLen bs) ++ (footer ++ (leBytes 4 footer.length ++ magic)) := by
      conv => lhs; rw [← List.take_append_drop (bs.length - 12 - footerLen bs) (bs.drop 4)]
      rw [List.drop_drop, show 4 + (bs.length - 12 - footerLen bs) = bs.length - 8 - footerLen bs by omega, t2]
    conv => lhs; rw [← List.take_append_drop 4 bs, h2, t1]
    simp [fileOfParts, List.append_assoc]
  · rw [← hfs, List.length_take, List.length_drop]; omega

end Carquet.Proofs.SpecFile
