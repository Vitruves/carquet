import Carquet.Impl.WriterSink
import Carquet.Proofs.Sink
import Carquet.Proofs.Writer
/-
Helper lemmas for C18 (writer on a failing stream, Impl/WriterSink.lean).

Every function of the model can go two ways (`Ran`, and the `_cases` lemmas of the stream calls, of
`writeTail`, and `Closed` for close): no stream operation fails, the error indicator is as before, and from a
state in which nothing has failed (`Good`) the function does what the healthy writer does; or a stream
operation fails, which sets the indicator for good.  That the indicator is sticky, that FILE_WRITE is
reported only with the indicator set, that it stays clear on a stream that never fails, and that a
clear indicator means the healthy run are read off that alternative.
-/
namespace Carquet.Proofs.WriterSink
open Carquet.Impl.Writer Carquet.Impl.WriterSink Carquet.Proofs.Writer Carquet.Proofs.WriterLayout
open Carquet.Impl.Sink (Stream Outcome)
open Carquet.Proofs.Sink (fwrite_err fwrite_ret fwrite_total fflush_err fflush_ret fflush_ok)

variable {ε : Type}

def NoFail (l : List Outcome) : Prop := ∀ oc ∈ l, oc.isFail = false

theorem noFail_append (l : List Outcome) (oc : Outcome) (h : NoFail l) (ho : oc.isFail = false) :
    NoFail (l ++ [oc]) := by
  intro o hm
  rcases List.mem_append.mp hm with h1 | h1
  · exact h o h1
  · simp at h1; subst h1; exact ho

/-- an environment that never makes a stream operation fail -/
def Quiet (E : Env ε) : Prop := ∀ e s op, (E.next e s op).1.isFail = false

/-- the row group in progress has one column writer per column -/
def RgWF (w : W) : Prop := ∀ cws, w.rg = some cws → cws.length = w.cols.length

/-- nothing has failed so far: the stream holds exactly what the healthy writer has written -/
structure Good (x : SW ε) : Prop where
  err : x.s.err = false
  bytes : x.s.delivered ++ x.s.pending = x.w.out.flatten
  log : NoFail x.log
  rg : RgWF x.w

/-! ### the three stream calls -/

theorem swrite_err (E : Env ε) (x : SW ε) (d : Bytes) :
    (swrite E x d).1.s.err = (x.s.err || (E.next x.e x.s (.write d)).1.isFail) := by
  simp [swrite, fwrite_err]

theorem swrite_ret (E : Env ε) (x : SW ε) (d : Bytes) :
    (swrite E x d).2 = !(E.next x.e x.s (.write d)).1.isFail := by
  simp [swrite, fwrite_ret]

theorem not_quiet {E : Env ε} {e : ε} {s : Stream} {op : SOp} (h : (E.next e s op).1.isFail = true) : ¬Quiet E :=
  fun hE => by rw [hE] at h; cases h

theorem swrite_cases (E : Env ε) (x : SW ε) (d : Bytes) :
    ((swrite E x d).2 = true ∧ (swrite E x d).1.s.err = x.s.err ∧
      (swrite E x d).1.s.delivered ++ (swrite E x d).1.s.pending = x.s.delivered ++ x.s.pending ++ d ∧
      (NoFail x.log → NoFail (swrite E x d).1.log)) ∨
    ((swrite E x d).2 = false ∧ (swrite E x d).1.s.err = true ∧ ¬Quiet E) := by
  cases hf : (E.next x.e x.s (.write d)).1.isFail
  · exact .inl ⟨by rw [swrite_ret, hf]; rfl, by rw [swrite_err, hf, Bool.or_false], fwrite_total x.s d _ hf,
      fun hl => noFail_append _ _ hl hf⟩
  · exact .inr ⟨by rw [swrite_ret, hf]; rfl, by rw [swrite_err, hf, Bool.or_true], not_quiet hf⟩

theorem sflush_cases (E : Env ε) (x : SW ε) :
    ((sflush E x).2 = true ∧ (sflush E x).1.s.err = x.s.err ∧
      (sflush E x).1.s.delivered = x.s.delivered ++ x.s.pending ∧ (sflush E x).1.s.pending = [] ∧
      (NoFail x.log → NoFail (sflush E x).1.log)) ∨
    ((sflush E x).2 = false ∧ (sflush E x).1.s.err = true ∧ ¬Quiet E) := by
  cases hf : (E.next x.e x.s .flush).1.isFail
  · have hr : (Impl.Sink.fflush x.s (E.next x.e x.s .flush).1).2 = true := by rw [fflush_ret, hf]; rfl
    exact .inl ⟨hr, by simp [sflush, fflush_err, hf], (fflush_ok x.s _ hr).1, (fflush_ok x.s _ hr).2,
      fun hl => noFail_append _ _ hl hf⟩
  · exact .inr ⟨by simp [sflush, fflush_ret, hf], by simp [sflush, fflush_err, hf], not_quiet hf⟩

theorem sclose_cases (E : Env ε) (x : SW ε) :
    ((sclose E x).2 = true ∧ (sclose E x).1.s.err = x.s.err ∧
      (sclose E x).1.s.delivered = x.s.delivered ++ x.s.pending ∧ (sclose E x).1.s.pending = [] ∧
      (NoFail x.log → NoFail (sclose E x).1.log)) ∨
    ((sclose E x).2 = false ∧ (sclose E x).1.s.err = true ∧ ¬Quiet E) := by
  cases hf : (E.next x.e x.s .close).1.isFail
  · have hr : (Impl.Sink.fflush x.s (E.next x.e x.s .close).1).2 = true := by rw [fflush_ret, hf]; rfl
    exact .inl ⟨hr, by simp [sclose, Impl.Sink.fclose, fflush_err, hf], (fflush_ok x.s _ hr).1, (fflush_ok x.s _ hr).2,
      fun hl => noFail_append _ _ hl hf⟩
  · exact .inr ⟨by simp [sclose, Impl.Sink.fclose, fflush_ret, hf], by simp [sclose, Impl.Sink.fclose, fflush_err, hf],
      not_quiet hf⟩

/-! ### facts about the healthy writer -/

theorem ensureHeader_out (w : W) :
    (ensureHeader w).out = if w.headerWritten then w.out else w.out ++ [magic] := by
  unfold ensureHeader; cases w.headerWritten <;> rfl

theorem ensureHeader_rg (w : W) : (ensureHeader w).rg = w.rg ∧ (ensureHeader w).cols = w.cols := by
  unfold ensureHeader; cases w.headerWritten <;> exact ⟨rfl, rfl⟩

theorem ensureHeader_idem (w : W) (h : w.headerWritten = true) : ensureHeader w = w := by
  unfold ensureHeader; simp [h]

theorem ensureHeader_written (w : W) : (ensureHeader w).headerWritten = true := ensureHeader_header w

theorem rgWF_ensureHeader (w : W) (h : RgWF w) : RgWF (ensureHeader w) := by
  intro cws hc
  rw [(ensureHeader_rg w).1] at hc
  rw [(ensureHeader_rg w).2]
  exact h cws hc

theorem ensureRowGroup_out (w : W) : (ensureRowGroup w).out = w.out := by
  unfold ensureRowGroup; cases w.rg <;> rfl

theorem ensureRowGroup_some (w : W) : ∃ cws, (ensureRowGroup w).rg = some cws := by
  unfold ensureRowGroup
  cases hr : w.rg with
  | some cws => exact ⟨cws, by simp [hr]⟩
  | none => exact ⟨_, rfl⟩

theorem rgWF_move {D : Deps} {B : Col → Batch → Prop} {w w' : W} (m : Move D B w w') (h : RgWF w) : RgWF w' := by
  cases m with
  | header _ => exact h
  | openRg _ => intro cws hc; cases hc; simp
  | batch _ _ hr _ _ => intro cws' hc'; cases hc'; rw [setAt, List.length_set]; exact h _ hr
  | commit _ _ _ => exact nofun

theorem rgWF_moves {D : Deps} {B : Col → Batch → Prop} {w w' : W} (m : Moves D B w w') (h : RgWF w) : RgWF w' :=
  m.inv (fun _ _ => rgWF_move) h

theorem writeBatch_spec (D : Deps) (w : W) (b : Batch) (h : RgWF w) (c : Col) (hc : w.cols[b.col]? = some c) :
    (writeBatch D w b).1.out = (ensureHeader w).out ∧ RgWF (writeBatch D w b).1 := by
  refine ⟨?_, rgWF_moves (writeBatch_moves (B := fun _ _ => True) w b (fun _ _ => trivial)) h⟩
  have hm : Moves D (fun _ _ => True) w (ensureRowGroup (ensureHeader w)) :=
    (ensureHeader_moves w).trans (ensureRowGroup_moves _)
  rcases writeBatch_cases D w b with ⟨e, -⟩ | ⟨hno, -⟩ | e | ⟨_, _, _, _, -, -, -, -, e⟩
  · rw [hc] at e; cases e
  · -- there is a column writer for every column, so there is one for `b.col`
    obtain ⟨cws, hcws⟩ := ensureRowGroup_some (ensureHeader w)
    have hlen := rgWF_moves hm h cws hcws
    rw [hm.params.1] at hlen
    have := List.getElem?_eq_none_iff.mp (hno cws hcws)
    have := (List.getElem?_eq_some_iff.mp hc).1
    omega
  · rw [e]; exact ensureRowGroup_out _
  · rw [e]; exact ensureRowGroup_out _

theorem writeBatch_ne_fw (D : Deps) (w : W) (b : Batch) : (writeBatch D w b).2 ≠ .fileWrite := by
  rcases writeBatch_cases D w b with ⟨-, e⟩ | ⟨-, e⟩ | e | ⟨_, _, _, _, -, -, -, -, e⟩ <;> rw [e] <;> nofun

theorem writeBatch_invalid_state (D : Deps) (w : W) (b : Batch) (h : (writeBatch D w b).2 = .invalidArgument) :
    (writeBatch D w b).1 = w := by
  rcases writeBatch_cases D w b with ⟨-, e⟩ | ⟨-, e⟩ | e | ⟨_, _, _, _, -, -, -, -, e⟩ <;> rw [e] at h ⊢ <;> cases h

theorem flushRowGroup_status (D : Deps) (w : W) :
    (flushRowGroup D w).2 ≠ .fileWrite ∧ (flushRowGroup D w).2 ≠ .invalidArgument := by
  rcases flushRowGroup_cases D w with ⟨-, e⟩ | ⟨_, -, -, e⟩ | ⟨_, _, _, -, -, e⟩ <;> rw [e] <;> exact ⟨nofun, nofun⟩

theorem flushedCols_length (D : Deps) (w : W) : ∀ (cols : List Col) (cws : List ColW),
    (flushedCols D w cols cws).length = cws.length := by
  intro cols
  induction cols with
  | nil => intro cws; simp [flushedCols]
  | cons c cs ih =>
    intro cws
    cases cws with
    | nil => simp [flushedCols]
    | cons cw cws =>
      simp only [flushedCols]
      cases flushPage D w.codec c cw with
      | none => simp
      | some cw' => simp [ih cws]

/-! ### how a call can go -/

/-- `r` is the result of a call made in state `x`, `fh` the same call of the healthy writer.  Either no stream
operation failed: the indicator is as before, the status is not FILE_WRITE, and from a `Good` state the call leaves a
`Good` state and does what `fh` does.  Or one failed: the indicator is set (and the environment is not `Quiet`). -/
def Ran (E : Env ε) (fh : W → W × Status) (x : SW ε) (r : SW ε × Status) : Prop :=
  (r.1.s.err = x.s.err ∧ r.2 ≠ .fileWrite ∧ (Good x → Good r.1 ∧ r.1.w = (fh x.w).1 ∧ r.2 = (fh x.w).2)) ∨
  (r.1.s.err = true ∧ ¬Quiet E)

section Ran
variable {E : Env ε} {fh : W → W × Status} {x : SW ε} {r : SW ε × Status} (h : Ran E fh x r)
include h

theorem Ran.mono (he : x.s.err = true) : r.1.s.err = true := by
  rcases h with ⟨e, -, -⟩ | ⟨e, -⟩
  · rw [e, he]
  · exact e

theorem Ran.clear (he : r.1.s.err = false) : x.s.err = false := by
  cases hx : x.s.err with
  | false => rfl
  | true => rw [h.mono hx] at he; cases he

theorem Ran.fw (hs : r.2 = .fileWrite) : r.1.s.err = true := by
  rcases h with ⟨-, s, -⟩ | ⟨e, -⟩
  · exact absurd hs s
  · exact e

theorem Ran.quiet (hE : Quiet E) (he : x.s.err = false) : r.1.s.err = false := by
  rcases h with ⟨e, -, -⟩ | ⟨-, q⟩
  · rw [e, he]
  · exact absurd hE q

theorem Ran.good (g : Good x) (he : r.1.s.err = false) : Good r.1 ∧ r.1.w = (fh x.w).1 ∧ r.2 = (fh x.w).2 := by
  rcases h with ⟨-, -, k⟩ | ⟨e, -⟩
  · exact k g
  · rw [e] at he; cases he

end Ran

theorem Ran.andThen {E : Env ε} {fh gh : W → W × Status} {x : SW ε} {r : SW ε × Status} {g : SW ε → SW ε × Status}
    (hf : Ran E fh x r) (hg : ∀ y, Ran E gh y (g y)) :
    Ran E (fun w => if (fh w).2 = .ok then gh (fh w).1 else fh w) x (if r.2 = .ok then g r.1 else r) := by
  rcases hf with ⟨e1, s1, k1⟩ | ⟨e1, q⟩
  · by_cases ho : r.2 = .ok
    · rw [if_pos ho]
      rcases hg r.1 with ⟨e2, s2, k2⟩ | ⟨e2, q2⟩
      · refine .inl ⟨e2.trans e1, s2, fun g0 => ?_⟩
        obtain ⟨g1, w1, st1⟩ := k1 g0
        obtain ⟨g2, w2, st2⟩ := k2 g1
        have hok : (fh x.w).2 = .ok := st1 ▸ ho
        simp only [hok, if_true]
        exact ⟨g2, w1 ▸ w2, w1 ▸ st2⟩
      · exact .inr ⟨e2, q2⟩
    · rw [if_neg ho]
      refine .inl ⟨e1, s1, fun g0 => ?_⟩
      obtain ⟨g1, w1, st1⟩ := k1 g0
      have hno : ¬(fh x.w).2 = .ok := st1 ▸ ho
      simp only [hno, if_false]
      exact ⟨g1, w1, st1⟩
  · refine .inr ⟨?_, q⟩
    split
    · exact (hg r.1).mono e1
    · exact e1

/-! ### `ensure_header_written` -/

theorem ran_ensureHeader (E : Env ε) (x : SW ε) : Ran E (fun w => (ensureHeader w, .ok)) x (ensureHeaderS E x) := by
  unfold ensureHeaderS
  by_cases hw : x.w.headerWritten = true
  · rw [if_pos hw]
    exact .inl ⟨rfl, nofun, fun g => ⟨g, (ensureHeader_idem x.w hw).symm, rfl⟩⟩
  · rw [if_neg hw]
    rcases swrite_cases E x magic with ⟨hr, he, hb, hl⟩ | ⟨hr, he, hq⟩
    · rw [if_pos hr]
      refine .inl ⟨he, nofun, fun g => ⟨⟨he.trans g.err, ?_, hl g.log, rgWF_ensureHeader _ g.rg⟩, rfl, rfl⟩⟩
      show (swrite E x magic).1.s.delivered ++ (swrite E x magic).1.s.pending = (ensureHeader x.w).out.flatten
      rw [hb, g.bytes, ensureHeader_out, if_neg hw]
      simp
    · rw [if_neg (by rw [hr]; exact Bool.false_ne_true)]
      exact .inr ⟨he, hq⟩

/-- a failed header write leaves the writer as it was: the next call tries again -/
theorem ensureHeaderS_retry (E : Env ε) (x : SW ε) (h : (ensureHeaderS E x).2 ≠ .ok) :
    (ensureHeaderS E x).1.w = x.w := by
  unfold ensureHeaderS at h ⊢
  split
  · rfl
  · by_cases hr : (swrite E x magic).2 = true
    · rename_i hw; simp [hw, hr] at h
    · simp only [hr]; rfl

/-! ### `flush_row_group` -/

theorem ran_flushRowGroup (D : Deps) (E : Env ε) (x : SW ε) : Ran E (flushRowGroup D) x (flushRowGroupS D E x) := by
  unfold flushRowGroupS
  rcases flushRowGroup_cases D x.w with ⟨hr, e⟩ | ⟨cws, hr, hf, e⟩ | ⟨cws, bytes, metas, hr, hf, e⟩
  · rw [hr]
    exact .inl ⟨rfl, nofun, fun g => ⟨g, by rw [e], by rw [e]⟩⟩
  · rw [hr]; simp only; rw [hf]
    exact .inl ⟨rfl, nofun, fun g => ⟨g, by rw [e], by rw [e]⟩⟩
  · rw [hr]; simp only; rw [hf]; simp only
    have hwf : RgWF (commitRowGroup D x.w cws bytes metas) := nofun
    by_cases hb : bytes.length > 0
    · rw [if_pos hb]
      rcases swrite_cases E x bytes with ⟨hw, he, hby, hl⟩ | ⟨hw, he, hq⟩
      · rw [if_pos hw]
        refine .inl ⟨he, nofun, fun g => ⟨⟨he.trans g.err, ?_, hl g.log, hwf⟩, by rw [e], by rw [e]⟩⟩
        show (swrite E x bytes).1.s.delivered ++ (swrite E x bytes).1.s.pending =
          (commitRowGroup D x.w cws bytes metas).out.flatten
        rw [hby, g.bytes]
        simp [commitRowGroup, hb]
      · rw [if_neg (by rw [hw]; exact Bool.false_ne_true)]
        exact .inr ⟨he, hq⟩
    · rw [if_neg hb]
      refine .inl ⟨rfl, nofun, fun g => ⟨⟨g.err, ?_, g.log, hwf⟩, by rw [e], by rw [e]⟩⟩
      show x.s.delivered ++ x.s.pending = (commitRowGroup D x.w cws bytes metas).out.flatten
      rw [g.bytes]
      simp [commitRowGroup, hb]

/-! ### the calls -/

theorem ran_writeBatch (D : Deps) (E : Env ε) (x : SW ε) (b : Batch) :
    Ran E (fun w => writeBatch D w b) x (writeBatchS D E x b) := by
  unfold writeBatchS
  cases hc : x.w.cols[b.col]? with
  | none =>
    have : writeBatch D x.w b = (x.w, .invalidArgument) := by unfold writeBatch; rw [hc]
    simp only
    exact .inl ⟨rfl, nofun, fun g => ⟨g, (congrArg Prod.fst this).symm, (congrArg Prod.snd this).symm⟩⟩
  | some c =>
    simp only
    rcases ran_ensureHeader E x with ⟨e1, s1, k1⟩ | ⟨e1, q⟩
    · by_cases ho : (ensureHeaderS E x).2 = .ok
      · rw [if_pos ho]
        refine .inl ⟨e1, writeBatch_ne_fw D x.w b, fun g => ?_⟩
        obtain ⟨g1, w1, -⟩ := k1 g
        obtain ⟨o1, o2⟩ := writeBatch_spec D x.w b g.rg c hc
        refine ⟨⟨g1.err, ?_, g1.log, o2⟩, rfl, rfl⟩
        show (ensureHeaderS E x).1.s.delivered ++ (ensureHeaderS E x).1.s.pending = (writeBatch D x.w b).1.out.flatten
        rw [g1.bytes, w1, o1]
      · rw [if_neg ho]
        exact .inl ⟨e1, s1, fun g => absurd (k1 g).2.2 ho⟩
    · refine .inr ⟨?_, q⟩
      split
      · exact e1
      · exact e1

theorem ran_newRowGroup (D : Deps) (E : Env ε) (x : SW ε) :
    Ran E (fun w => flushRowGroup D (ensureHeader w)) x (newRowGroupS D E x) :=
  (ran_ensureHeader E x).andThen (ran_flushRowGroup D E)

theorem ran_step (D : Deps) (E : Env ε) (x : SW ε) (op : Op) : Ran E (fun w => step D w op) x (stepS D E x op) := by
  cases op with
  | batch b => exact ran_writeBatch D E x b
  | newRowGroup => exact ran_newRowGroup D E x

/-! ### `carquet_writer_close` -/

theorem writeTail_cases (D : Deps) (E : Env ε) (x : SW ε) :
    ((writeTail D E x).2 = .ok ∧ (writeTail D E x).1.s.err = x.s.err ∧
      (writeTail D E x).1.s.delivered ++ (writeTail D E x).1.s.pending =
        x.s.delivered ++ x.s.pending ++ footerOf D x.w ++ le32 (footerOf D x.w).length ++ magic ∧
      (NoFail x.log → NoFail (writeTail D E x).1.log)) ∨
    ((writeTail D E x).2 = .fileWrite ∧ (writeTail D E x).1.s.err = true ∧ ¬Quiet E) := by
  unfold writeTail
  rcases swrite_cases E x (footerOf D x.w) with ⟨r1, e1, b1, l1⟩ | ⟨r1, e1, q⟩
  · rw [if_pos r1]
    rcases swrite_cases E (swrite E x (footerOf D x.w)).1 (le32 (footerOf D x.w).length) with
      ⟨r2, e2, b2, l2⟩ | ⟨r2, e2, q⟩
    · rw [if_pos r2]
      rcases swrite_cases E (swrite E (swrite E x (footerOf D x.w)).1 (le32 (footerOf D x.w).length)).1 magic with
        ⟨r3, e3, b3, l3⟩ | ⟨r3, e3, q⟩
      · rw [if_pos r3]
        exact .inl ⟨rfl, e3.trans (e2.trans e1), by rw [b3, b2, b1], fun hl => l3 (l2 (l1 hl))⟩
      · rw [if_neg (by rw [r3]; exact Bool.false_ne_true)]
        exact .inr ⟨rfl, e3, q⟩
    · rw [if_neg (by rw [r2]; exact Bool.false_ne_true)]
      exact .inr ⟨rfl, e2, q⟩
  · rw [if_neg (by rw [r1]; exact Bool.false_ne_true)]
    exact .inr ⟨rfl, e1, q⟩

theorem writeTail_fw (D : Deps) (E : Env ε) (x : SW ε) (h : (writeTail D E x).2 ≠ .ok) :
    (writeTail D E x).1.s.err = true := by
  rcases writeTail_cases D E x with ⟨s, -⟩ | ⟨-, e, -⟩
  · exact absurd s h
  · exact e

/-- What close, or the part of it that has run, has achieved when it leaves `r` from state `x`.  OK needs a clear
indicator (the `ferror` check).  If no stream operation failed, the indicator is as before, and from a `Good` state the
status is the healthy writer's and an OK close has delivered the healthy writer's file; otherwise the indicator is set. -/
def Closed (D : Deps) (E : Env ε) (x : SW ε) (r : SW ε × Status) : Prop :=
  (r.2 = .ok → r.1.s.err = false) ∧
  ((r.1.s.err = x.s.err ∧
    (Good x → r.2 = (close D x.w).2 ∧
      (r.2 = .ok → r.1.s.delivered = (close D x.w).1.flatten ∧ r.1.s.pending = [] ∧ NoFail r.1.log))) ∨
   (r.1.s.err = true ∧ ¬Quiet E))

theorem closed_closeBody (D : Deps) (E : Env ε) (x : SW ε) : Closed D E x (closeBody D E x) := by
  unfold closeBody
  by_cases h1 : (newRowGroupS D E x).2 = .ok
  · rw [if_pos h1]
    rcases writeTail_cases D E (newRowGroupS D E x).1 with ⟨h2, e2, b2, l2⟩ | ⟨h2, e2, q⟩
    · rw [if_pos h2]
      unfold flushCheck
      rcases sflush_cases E (writeTail D E (newRowGroupS D E x).1).1 with ⟨h3, e3, d3, p3, l3⟩ | ⟨h3, e3, q⟩
      · refine ⟨fun hs => ?_, ?_⟩
        · cases he : (sflush E (writeTail D E (newRowGroupS D E x).1).1).1.s.err with
          | false => rfl
          | true => simp [h3, he] at hs
        · rcases ran_newRowGroup D E x with ⟨e1, -, k1⟩ | ⟨e1, q⟩
          · refine .inl ⟨e3.trans (e2.trans e1), fun g => ?_⟩
            obtain ⟨g1, w1, s1⟩ := k1 g
            have hst : (flushRowGroup D (ensureHeader x.w)).2 = .ok := s1 ▸ h1
            have herr : (sflush E (writeTail D E (newRowGroupS D E x).1).1).1.s.err = false :=
              e3.trans (e2.trans g1.err)
            refine ⟨by simp [h3, herr, close_status, hst], fun _ => ⟨?_, p3, l3 (l2 g1.log)⟩⟩
            rw [d3, b2, g1.bytes, w1, close_writes D x.w ((close_status D x.w).trans hst)]
            simp [closing, List.append_assoc]
          · exact .inr ⟨e3.trans (e2.trans e1), q⟩
      · exact ⟨fun hs => (by simp [h3] at hs), .inr ⟨e3, q⟩⟩
    · rw [if_neg (by rw [h2]; decide)]
      exact ⟨fun hs => (by rw [h2] at hs; cases hs), .inr ⟨e2, q⟩⟩
  · rw [if_neg h1]
    refine ⟨fun hs => absurd hs h1, ?_⟩
    rcases ran_newRowGroup D E x with ⟨e1, -, k1⟩ | ⟨e1, q⟩
    · exact .inl ⟨e1, fun g => ⟨by rw [close_status, (k1 g).2.2], fun hs => absurd hs h1⟩⟩
    · exact .inr ⟨e1, q⟩

theorem Closed.cleanup {D : Deps} {E : Env ε} {x : SW ε} {r : SW ε × Status} (h : Closed D E x r) (owns : Bool) :
    Closed D E x (cleanupS E owns r.1 r.2) := by
  obtain ⟨hok, hb⟩ := h
  unfold cleanupS
  cases owns with
  | false => exact ⟨hok, hb⟩
  | true =>
    rw [if_pos rfl]
    rcases sclose_cases E r.1 with ⟨hc, ec, dc, pc, lc⟩ | ⟨hc, ec, q⟩
    · simp only [hc, Bool.not_true, Bool.and_false, Bool.false_eq_true, if_false]
      refine ⟨fun hs => ec.trans (hok hs), ?_⟩
      rcases hb with ⟨eb, kb⟩ | ⟨eb, q⟩
      · refine .inl ⟨ec.trans eb, fun g => ⟨(kb g).1, fun hs => ?_⟩⟩
        obtain ⟨k1, k2, k3⟩ := (kb g).2 hs
        exact ⟨by rw [dc, k1, k2, List.append_nil], pc, lc k3⟩
      · exact .inr ⟨ec.trans eb, q⟩
    · refine ⟨fun hs => ?_, .inr ⟨ec, q⟩⟩
      by_cases hs' : r.2 = .ok <;> simp [hc, hs'] at hs

theorem closed_closeS (D : Deps) (E : Env ε) (owns : Bool) (x : SW ε) : Closed D E x (closeS D E owns x) :=
  (closed_closeBody D E x).cleanup owns

theorem closeS_mono (D : Deps) (E : Env ε) (owns : Bool) (x : SW ε) (h : x.s.err = true) :
    (closeS D E owns x).1.s.err = true := by
  rcases (closed_closeS D E owns x).2 with ⟨e, -⟩ | ⟨e, -⟩
  · rw [e, h]
  · exact e

theorem closeS_ok (D : Deps) (E : Env ε) (owns : Bool) (x : SW ε) (h : (closeS D E owns x).2 = .ok) :
    (closeS D E owns x).1.s.err = false ∧ x.s.err = false ∧
    (Good x → (closeS D E owns x).1.s.delivered = (close D x.w).1.flatten ∧ (closeS D E owns x).1.s.pending = [] ∧
      (close D x.w).2 = .ok ∧ NoFail (closeS D E owns x).1.log) := by
  obtain ⟨hok, hc⟩ := closed_closeS D E owns x
  have he := hok h
  rcases hc with ⟨e, k⟩ | ⟨e, -⟩
  · refine ⟨he, e ▸ he, fun g => ?_⟩
    obtain ⟨k1, k2, k3⟩ := (k g).2 h
    exact ⟨k1, k2, (k g).1 ▸ h, k3⟩
  · rw [e] at he; cases he

theorem closeS_quiet (D : Deps) (E : Env ε) (hE : Quiet E) (owns : Bool) (x : SW ε) (g : Good x) :
    (closeS D E owns x).2 = (close D x.w).2 := by
  rcases (closed_closeS D E owns x).2 with ⟨-, k⟩ | ⟨-, q⟩
  · exact (k g).1
  · exact absurd hE q

/-! ### whole histories -/

theorem good_init (e : ε) (cols : List Col) (codec pageSize : Nat) (createdBy : String) :
    Good (initS e cols codec pageSize createdBy) :=
  ⟨rfl, rfl, fun _ h => by simp [initS] at h, fun _ h => by simp [initS] at h⟩

/-- OK from close: the indicator was clear all along, and from a `Good` state the run is the healthy run -/
theorem runS_ok (D : Deps) (E : Env ε) (owns : Bool) : ∀ (ops : List Op) (x : SW ε) (acc : List Status),
    (runS D E owns x ops acc).2.getLast? = some .ok →
    x.s.err = false ∧
    (Good x → (runS D E owns x ops acc).1.s.delivered = (run D x.w ops acc).1.flatten ∧
      (runS D E owns x ops acc).1.s.pending = [] ∧ (runS D E owns x ops acc).2 = (run D x.w ops acc).2 ∧
      NoFail (runS D E owns x ops acc).1.log ∧ (runS D E owns x ops acc).1.s.err = false) := by
  intro ops
  induction ops with
  | nil =>
    intro x acc h
    simp only [runS, run] at h ⊢
    have hc : (closeS D E owns x).2 = .ok := by simpa using h
    obtain ⟨e1, e0, k⟩ := closeS_ok D E owns x hc
    refine ⟨e0, fun g => ?_⟩
    obtain ⟨k1, k2, k3, k4⟩ := k g
    exact ⟨k1, k2, by rw [hc, k3], k4, e1⟩
  | cons op ops ih =>
    intro x acc h
    simp only [runS, run] at h ⊢
    obtain ⟨e1, k⟩ := ih _ _ h
    refine ⟨(ran_step D E x op).clear e1, fun g => ?_⟩
    obtain ⟨g1, w1, s1⟩ := (ran_step D E x op).good g e1
    have := k g1
    rw [w1, s1] at this
    rw [s1]
    exact this

theorem runS_err (D : Deps) (E : Env ε) (owns : Bool) (ops : List Op) (x : SW ε) (acc : List Status)
    (h : x.s.err = true) : (runS D E owns x ops acc).2.getLast? ≠ some .ok := by
  intro hl
  rw [(runS_ok D E owns ops x acc hl).1] at h
  cases h

/-- a call that reported FILE_WRITE poisons the session: close will not say OK -/
theorem runS_fw (D : Deps) (E : Env ε) (owns : Bool) : ∀ (ops : List Op) (x : SW ε) (acc : List Status),
    Status.fileWrite ∈ (runS D E owns x ops acc).2 →
    Status.fileWrite ∈ acc ∨ (runS D E owns x ops acc).2.getLast? ≠ some .ok := by
  intro ops
  induction ops with
  | nil =>
    intro x acc h
    simp only [runS] at h ⊢
    rcases List.mem_append.mp h with h1 | h1
    · exact Or.inl h1
    · right
      simp only [List.mem_singleton] at h1
      rw [← h1]; simp
  | cons op ops ih =>
    intro x acc h
    simp only [runS] at h ⊢
    rcases ih _ _ h with h1 | h1
    · rcases List.mem_append.mp h1 with h2 | h2
      · exact Or.inl h2
      · right
        simp only [List.mem_singleton] at h2
        exact runS_err D E owns ops _ _ ((ran_step D E x op).fw h2.symm)
    · exact Or.inr h1

/-- on a stream that never fails the statuses are those of the healthy writer -/
theorem runS_quiet (D : Deps) (E : Env ε) (hE : Quiet E) (owns : Bool) : ∀ (ops : List Op) (x : SW ε) (acc : List Status),
    Good x → (runS D E owns x ops acc).2 = (run D x.w ops acc).2 := by
  intro ops
  induction ops with
  | nil =>
    intro x acc g
    simp only [runS, run]
    rw [closeS_quiet D E hE owns x g]
  | cons op ops ih =>
    intro x acc g
    simp only [runS, run]
    obtain ⟨g1, w1, s1⟩ := (ran_step D E x op).good g ((ran_step D E x op).quiet hE g.err)
    rw [ih _ _ g1, w1, s1]

/-! ### the sub-history of the calls that returned OK (healthy writer) -/

/-- the calls whose status (same position in `sts`) is OK -/
def okCalls : List Op → List Status → List Op
  | op :: ops, st :: sts => if st = .ok then op :: okCalls ops sts else okCalls ops sts
  | _, _ => []

theorem step_status (D : Deps) (w : W) (op : Op) :
    (step D w op).2 ≠ .fileWrite ∧ ((step D w op).2 = .invalidArgument → (step D w op).1 = w) := by
  cases op with
  | batch b => exact ⟨writeBatch_ne_fw D w b, writeBatch_invalid_state D w b⟩
  | newRowGroup =>
    exact ⟨(flushRowGroup_status D _).1, fun h => absurd h (flushRowGroup_status D _).2⟩

/-- dropping the calls that were refused (no call failed inside the codec) changes neither the
state nor, therefore, the file; and in the remaining history every call returns OK -/
theorem okCalls_state (D : Deps) : ∀ (ops : List Op) (w : W) (tail : List Status),
    (∀ st ∈ stepStatuses D w ops, st ≠ .other) →
    stateAfter D w (okCalls ops (stepStatuses D w ops ++ tail)) = stateAfter D w ops ∧
    ∀ st ∈ stepStatuses D w (okCalls ops (stepStatuses D w ops ++ tail)), st = .ok := by
  intro ops
  induction ops with
  | nil => intro w tail _; simp [okCalls, stepStatuses, stateAfter]
  | cons op ops ih =>
    intro w tail h
    simp only [stepStatuses, List.cons_append, okCalls]
    have hrest : ∀ st ∈ stepStatuses D (step D w op).1 ops, st ≠ .other :=
      fun st hm => h st (by simp [stepStatuses, hm])
    have hop : (step D w op).2 ≠ .other := h _ (by simp [stepStatuses])
    obtain ⟨s1, s2⟩ := step_status D w op
    by_cases hk : (step D w op).2 = .ok
    · simp only [hk, if_true]
      obtain ⟨i1, i2⟩ := ih (step D w op).1 tail hrest
      refine ⟨by simpa [stateAfter] using i1, ?_⟩
      intro st hm
      simp only [stepStatuses, List.mem_cons] at hm
      rcases hm with rfl | hm
      · exact hk
      · exact i2 st hm
    · simp only [hk, if_false]
      have hinv : (step D w op).2 = .invalidArgument := by
        cases hs : (step D w op).2 with
        | ok => exact absurd hs hk
        | invalidArgument => rfl
        | fileWrite => exact absurd hs s1
        | other => exact absurd hs hop
      have hw := s2 hinv
      rw [hw] at hrest ⊢
      obtain ⟨i1, i2⟩ := ih w tail hrest
      exact ⟨by simpa [stateAfter, hw] using i1, i2⟩

/-! ### a small concrete instance (for the non-vacuity examples and the regression witness) -/

/-- byte-level components small enough for kernel evaluation: no compression, a three-byte page
header, a footer that shows `num_rows`, the number of row groups and every row group's
`total_byte_size` and `file_offset` -/
def toyDeps : Deps :=
  { plain := fun _ _ vs => vs.flatten,
    plainBools := fun vs => vs.flatten,
    levels := fun _ ls => ls.map UInt8.ofNat,
    compress := fun _ b => some b,
    crc32 := fun _ => 0,
    pageHeader := fun u c _ n _ => [UInt8.ofNat u, UInt8.ofNat c, UInt8.ofNat n],
    footer := fun f => [UInt8.ofNat f.numRows, UInt8.ofNat f.rowGroups.length] ++
      f.rowGroups.flatMap (fun g => [UInt8.ofNat g.totalByteSize, UInt8.ofNat g.fileOffset]),
    statsStep := fun _ c _ => c }

def toyCols : List Col := [⟨"a", .int32, .required, 0, none⟩]

/-- one batch of two INT32 values, `new_row_group`, one more batch -/
def toyOps : List Op :=
  [.batch ⟨0, 2, none, [[1, 0, 0, 0], [2, 0, 0, 0]], none⟩, .newRowGroup, .batch ⟨0, 1, none, [[3, 0, 0, 0]], none⟩]

/-- stdio pushes everything at once; the sink never fails -/
def quietOracle : Impl.Sink.Oracle := fun _ => .push 1000

/-- a transient fault: stream operation 1 (the `fwrite` of the first row group inside
`new_row_group`) is cut short after 3 bytes, what was not taken is lost; everything else succeeds -/
def transientOracle : Impl.Sink.Oracle := fun i => if i = 1 then .drop 3 0 else .push 1000

end Carquet.Proofs.WriterSink
