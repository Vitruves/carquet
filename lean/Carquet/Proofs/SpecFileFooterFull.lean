import Carquet.Proofs.SpecFileExtract
import Carquet.Proofs.SpecFileSchema
/-
Footer layer: the metadata structures are extracted back from the Thrift values the reference writer
builds for them, with unknown fields at every level (footer, schema elements, row groups, column
chunks, column metadata) and with chunk statistics in ColumnMetaData.
-/
namespace Carquet.Proofs.SpecFile
open Carquet.Spec Carquet.Spec.File Carquet.Spec.Thrift Carquet.Spec.ParquetThrift

attribute [local simp] field?_nil field?_cons field?_append field?_optField field?_ite
  knownTyped_nil knownTyped_cons knownTyped_append knownTyped_optField knownTyped_ite

theorem bytesStr_strBytes (s : String) : bytesStr (strBytes s) = some s := by
  unfold bytesStr strBytes
  have h : (ByteArray.mk s.toUTF8.data.toList.toArray) = s.toByteArray := by simp [String.toUTF8]
  rw [h]
  simp [String.fromUTF8?, s.isValidUTF8, String.fromUTF8]

theorem repOf_repCode (r : Option Schema.Rep) : repOf (r.map repCode) = .ok r := by
  cases r with
  | none => rfl
  | some x => cases x <;> rfl

theorem natCast_not_neg (n : Nat) : ¬ ((n : Int) < 0) := by omega

/-! ### the LogicalType union -/

theorem timeUnitOf_TV (u : Schema.AnnotTimeUnit) :
    (match annotUnitTV u with
     | .struct fs => timeUnitOf fs
     | _ => .error .footerNotThrift) = .ok u := by
  cases u <;> rfl

theorem annotUnitTV_struct (u : Schema.AnnotTimeUnit) : ∃ fs, annotUnitTV u = .struct fs ∧ timeUnitOf fs = .ok u := by
  cases u <;> exact ⟨_, rfl, rfl⟩

theorem logicalTypeOf_TV (a : Schema.Annotation) :
    ∃ fs, annotationTV a = .struct fs ∧ logicalTypeOf fs = .ok (some a) := by
  cases a with
  | decimal s p => exact ⟨_, rfl, rfl⟩
  | time utc u =>
    cases u <;> cases utc <;> exact ⟨_, rfl, by decide⟩
  | timestamp utc u =>
    cases u <;> cases utc <;> exact ⟨_, rfl, by decide⟩
  | integer bw sg => cases sg <;> exact ⟨_, rfl, rfl⟩
  | _ => exact ⟨_, rfl, by decide⟩

theorem optLogicalTypeOf_absent (fs : Fields) (h : field? fs 10 = none) : optLogicalTypeOf fs = .ok none := by
  simp [optLogicalTypeOf, getStruct, h]

theorem optLogicalTypeOf_present (fs : Fields) (a : Schema.Annotation) (h : field? fs 10 = some (annotationTV a)) :
    optLogicalTypeOf fs = .ok (some a) := by
  obtain ⟨u, hu, hr⟩ := logicalTypeOf_TV a
  simp [optLogicalTypeOf, getStruct, h, hu, hr]

/-- the fields of a SchemaElement value in front of field 10 -/
def seFieldsBase (e : Schema.Element) : Fields :=
  optField 1 (fun n : Nat => .i32 n) e.info.ptype ++
   (if e.info.typeLength = 0 then [] else [(2, .i32 e.info.typeLength)]) ++
   optField 3 (fun r => .i32 (repCode r)) e.info.rep ++
   [(4, .binary (strBytes e.info.name))] ++
   (if e.numChildren = 0 then [] else [(5, .i32 e.numChildren)]) ++
   optField 6 (fun n : Nat => .i32 n) e.info.logical

theorem annotationTV_ty (a : Schema.Annotation) : (annotationTV a).ty = .struct := by cases a <;> rfl

/-! ### lists of structs -/

theorem structsOf_map {α : Type} (what : String) (f : α → Fields) (xs : List α) :
    structsOf what (xs.map (fun x => TVal.struct (f x))) = .ok (xs.map f) := by
  induction xs with
  | nil => rfl
  | cons x r ih => simp [structsOf, ih]

def seFields (e : Schema.Element) : Fields :=
  optField 1 (fun n : Nat => .i32 n) e.info.ptype ++
   (if e.info.typeLength = 0 then [] else [(2, .i32 e.info.typeLength)]) ++
   optField 3 (fun r => .i32 (repCode r)) e.info.rep ++
   [(4, .binary (strBytes e.info.name))] ++
   (if e.numChildren = 0 then [] else [(5, .i32 e.numChildren)]) ++
   optField 6 (fun n : Nat => .i32 n) e.info.logical ++
   optField 10 annotationTV e.info.logicalType

theorem schemaElementTV_eq (e : Schema.Element) : schemaElementTV e [] = .struct (seFields e) := rfl

theorem checkStruct_seFields (e : Schema.Element) : checkStruct schemaElement (seFields e) = .ok () := by
  refine checkStruct_ok _ _ ?_ ?_
  · rw [complete_eq, show (schemaElement.fields.filter (·.required)).map (·.id) = [4] from rfl]
    simp [seFields]
  · simp [seFields, annotationTV_ty]
    simp +decide [TVal.ty]

theorem schemaElementOf_seFields (e : Schema.Element) : schemaElementOf (seFields e) = .ok e := by
  obtain ⟨⟨name, rep, pt, tl, lg, lt⟩, nc⟩ := e
  have hlt : optLogicalTypeOf (seFields ⟨⟨name, rep, pt, tl, lg, lt⟩, nc⟩) = .ok lt := by
    cases lt with
    | none => exact optLogicalTypeOf_absent _ (by simp [seFields])
    | some a => exact optLogicalTypeOf_present _ a (by simp [seFields])
  unfold schemaElementOf
  rw [checkStruct_seFields, hlt, optNatField_eq (o := pt), optNatField_eq (o := lg)]
  · simp [seFields, getInt, getBin, bind, Except.bind, pure, Except.pure, bytesStr_strBytes, bind_intOf_i32_fun, repOf_repCode,
      getD_omitted_zero]
  all_goals simp [seFields, getInt, bind_intOf_i32_fun]

/-! ### column metadata -/

theorem intsOf_map (xs : List Int) : intsOf (xs.map TVal.i32) = xs := by
  induction xs with
  | nil => rfl
  | cons x r ih => simp [intsOf, intOf, ih]

theorem binsOf_map (xs : List Bytes) : binsOf (xs.map TVal.binary) = xs := by
  induction xs with
  | nil => rfl
  | cons x r ih => simp [binsOf, ih]

def cmFields (m : ColumnMeta) : Fields :=
  [(1, .i32 m.ptype), (2, .list .i32 (m.encodings.map .i32)), (3, .list .binary (m.path.map .binary)),
   (4, .i32 m.codec), (5, .i64 m.numValues), (6, .i64 m.totalUncompressed), (7, .i64 m.totalCompressed),
   (9, .i64 m.dataPageOffset)] ++ optField 11 (fun n : Nat => .i64 n) m.dictionaryPageOffset

/-- column metadata, with or without chunk statistics (field 12, which the reader does not look at) -/
theorem columnMetaOf_cm (m : ColumnMeta) (stats : Option Fields) :
    columnMetaOf (cmFields m ++ optField 12 TVal.struct stats) = .ok m := by
  obtain ⟨pt, encs, path, codec, nv, tu, tc, dpo, dict⟩ := m
  unfold columnMetaOf
  rw [checkStruct_ok, natField_eq (n := pt), natField_eq (n := codec), natField_eq (n := nv), natField_eq (n := tu),
    natField_eq (n := tc), natField_eq (n := dpo), optNatField_eq (o := dict)]
  · simp [cmFields, getList, intsOf_map, binsOf_map, bind, Except.bind, pure, Except.pure]
  · simp [cmFields, getInt, bind_intOf_i64_fun]
  iterate 6 simp [cmFields, getInt, intOf]
  · rw [complete_eq, show (columnMetaData.fields.filter (·.required)).map (·.id) = [1, 2, 3, 4, 5, 6, 7, 9] from rfl]
    simp [cmFields]
  · simp [cmFields]
    simp +decide [TVal.ty]

/-- what the footer says about one column chunk -/
structure CcDesc where
  off : Nat
  m : ColumnMeta
  stats : Option Fields
  metaExtra : Fields
  chunkExtra : Fields

def CcDesc.fields (d : CcDesc) : Fields :=
  withExtras [(2, .i64 d.off), (3, .struct (withExtras (cmFields d.m ++ optField 12 TVal.struct d.stats) d.metaExtra))]
    d.chunkExtra

structure CcDesc.Ok (d : CcDesc) : Prop where
  metaExtra : extrasOk columnMetaData d.metaExtra = true
  chunkExtra : extrasOk columnChunk d.chunkExtra = true

theorem columnChunkOf_desc (d : CcDesc) (h : d.Ok) : columnChunkOf d.fields = .ok d.m := by
  unfold CcDesc.fields
  rw [columnChunkOf_we _ _ h.chunkExtra]
  unfold columnChunkOf
  rw [checkStruct_ok _ _ rfl rfl]
  simp [bind, Except.bind, getStruct, field?, columnMetaOf_we _ _ h.metaExtra, columnMetaOf_cm]

theorem columnChunksOf_descs : ∀ (ds : List CcDesc), (∀ d ∈ ds, d.Ok) →
    columnChunksOf (ds.map CcDesc.fields) = .ok (ds.map (·.m))
  | [], _ => rfl
  | d :: r, h => by
    have ih := columnChunksOf_descs r (fun x hx => h x (by simp [hx]))
    simp [columnChunksOf, columnChunkOf_desc d (h d (by simp)), ih, bind, Except.bind, pure, Except.pure]

/-- a column chunk without statistics and unknown fields (what carquet's writer emits) -/
def ccFields (off : Nat) (m : ColumnMeta) : Fields := [(2, .i64 off), (3, .struct (cmFields m))]

theorem columnChunkOf_ccFields (off : Nat) (m : ColumnMeta) : columnChunkOf (ccFields off m) = .ok m := by
  simpa [CcDesc.fields, withExtras_nil, optField, ccFields] using columnChunkOf_desc ⟨off, m, none, [], []⟩ ⟨rfl, rfl⟩

theorem columnChunksOf_map (ms : List (Nat × ColumnMeta)) :
    columnChunksOf (ms.map (fun p => ccFields p.1 p.2)) = .ok (ms.map (·.2)) := by
  induction ms with
  | nil => rfl
  | cons p r ih => simp [columnChunksOf, columnChunkOf_ccFields, ih, bind, Except.bind, pure, Except.pure]

/-! ### row groups -/

structure RgDesc2 where
  chunks : List CcDesc
  totalByteSize : Nat
  numRows : Nat
  extra : Fields

def RgDesc2.fields (g : RgDesc2) : Fields :=
  withExtras [(1, .list .struct (g.chunks.map (fun d => TVal.struct d.fields))), (2, .i64 g.totalByteSize), (3, .i64 g.numRows)]
    g.extra

def RgDesc2.meta' (g : RgDesc2) : RowGroupMeta := ⟨g.chunks.map (·.m), g.totalByteSize, g.numRows⟩

structure RgDesc2.Ok (g : RgDesc2) : Prop where
  extra : extrasOk rowGroup g.extra = true
  chunks : ∀ d ∈ g.chunks, d.Ok

theorem rowGroupOf_desc (g : RgDesc2) (h : g.Ok) : rowGroupOf g.fields = .ok g.meta' := by
  unfold RgDesc2.fields
  rw [rowGroupOf_we _ _ h.extra]
  unfold rowGroupOf
  rw [checkStruct_ok _ _ rfl rfl]
  have h1 := structsOf_map "RowGroup.columns" CcDesc.fields g.chunks
  simp [bind, Except.bind, pure, Except.pure, getList, field?, h1, columnChunksOf_descs g.chunks h.chunks, natField, getInt,
    intOf, natCast_not_neg, RgDesc2.meta']

theorem rowGroupsOf_descs : ∀ (gs : List RgDesc2), (∀ g ∈ gs, g.Ok) →
    rowGroupsOf (gs.map RgDesc2.fields) = .ok (gs.map RgDesc2.meta')
  | [], _ => rfl
  | g :: r, h => by
    have ih := rowGroupsOf_descs r (fun x hx => h x (by simp [hx]))
    simp [rowGroupsOf, rowGroupOf_desc g (h g (by simp)), ih, bind, Except.bind, pure, Except.pure]

/-! ### schema elements and the file -/

theorem schemaElementsOf_map_we (se : Fields) (hse : extrasOk schemaElement se = true) : ∀ (es : List Schema.Element),
    schemaElementsOf (es.map (fun e => withExtras (seFields e) se)) = .ok es
  | [] => rfl
  | e :: r => by
    have ih := schemaElementsOf_map_we se hse r
    simp [schemaElementsOf, schemaElementOf_we _ _ hse, schemaElementOf_seFields, ih, bind, Except.bind, pure, Except.pure]

theorem schemaElementsOf_map (es : List Schema.Element) : schemaElementsOf (es.map seFields) = .ok es :=
  schemaElementsOf_map_we [] rfl es

def fmFields2 (version : Int) (schema : List Schema.Element) (se : Fields) (numRows : Nat) (gs : List RgDesc2)
    (createdBy : Option Bytes) (extra : Fields) : Fields :=
  withExtras
    ([(1, .i32 version), (2, .list .struct (schema.map (fun e => TVal.struct (withExtras (seFields e) se)))), (3, .i64 numRows),
      (4, .list .struct (gs.map (fun g => TVal.struct g.fields)))] ++ optField 6 .binary createdBy) extra

/-- **footer value → metadata structures**, unknown fields everywhere -/
theorem fileMetaOf_fmFields2 (version : Int) (schema : List Schema.Element) (se : Fields) (numRows : Nat) (gs : List RgDesc2)
    (createdBy : Option Bytes) (extra : Fields) (hx : extrasOk fileMetaData extra = true)
    (hse : extrasOk schemaElement se = true) (hgs : ∀ g ∈ gs, g.Ok) :
    fileMetaOf (fmFields2 version schema se numRows gs createdBy extra) =
      .ok ⟨version, schema, numRows, gs.map RgDesc2.meta'⟩ := by
  unfold fmFields2
  rw [fileMetaOf_we _ _ hx]
  unfold fileMetaOf
  have h1 := structsOf_map "FileMetaData.schema" (fun e => withExtras (seFields e) se) schema
  have h2 := structsOf_map "FileMetaData.row_groups" RgDesc2.fields gs
  cases createdBy <;>
    simp only [optField, List.append_nil] <;>
    rw [checkStruct_ok _ _ rfl rfl] <;>
    simp [bind, Except.bind, pure, Except.pure, getList, field?, h1, h2, schemaElementsOf_map_we se hse, rowGroupsOf_descs gs hgs,
      natField, getInt, intOf, natCast_not_neg]

/-! ### the announced uncompressed sizes (page headers carry them as i32) -/

theorem chunkUsizeOk_fields (d : CcDesc) (h : d.Ok) :
    chunkUsizeOk (.struct d.fields) = decide (d.m.totalUncompressed < 2 ^ 31) := by
  unfold chunkUsizeOk CcDesc.fields
  simp only
  rw [getStruct_we h.chunkExtra _ 3 (by decide)]
  simp only [getStruct_eq, field?_cons, field?_nil, asStruct, show ¬ ((2 : Int) = 3) by decide, if_false, if_true]
  rw [getInt_we h.metaExtra _ 6 (by decide)]
  simp [cmFields, getInt, intOf]
  omega

theorem chunkUsizeOk_desc (d : CcDesc) (h : d.Ok) (hu : chunkUsizeOk (.struct d.fields) = true) :
    d.m.totalUncompressed < 2 ^ 31 := by
  simpa [chunkUsizeOk_fields d h] using hu

theorem rgUsizeOk_rowGroupTV (cols : List TVal) (tb nr : Nat) (extra : Fields) (hx : extrasOk rowGroup extra = true) :
    rgUsizeOk (rowGroupTV cols tb nr extra) = cols.all chunkUsizeOk := by
  unfold rgUsizeOk rowGroupTV
  simp only
  rw [getList_we hx _ 1 (by decide)]
  simp [getList_eq, asList]

theorem rgUsizeOk_withExtras (cols : List TVal) (tb nr : Nat) (extra : Fields) (hx : extrasOk rowGroup extra = true)
    (hu : rgUsizeOk (rowGroupTV cols tb nr extra) = true) : ∀ c ∈ cols, chunkUsizeOk c = true := by
  simpa [rgUsizeOk_rowGroupTV cols tb nr extra hx] using hu

theorem footerUsizeOk_fileMetaTV (version : Int) (schema : List TVal) (numRows : Nat) (rgs : List TVal)
    (createdBy : Option Bytes) (extra : Fields) (hx : extrasOk fileMetaData extra = true) :
    footerUsizeOk (fileMetaTV version schema numRows rgs createdBy extra) = rgs.all rgUsizeOk := by
  unfold footerUsizeOk fileMetaTV
  simp only
  rw [getList_we hx _ 4 (by decide)]
  simp [getList_eq, asList]

theorem footerUsizeOk_withExtras (version : Int) (schema : List TVal) (numRows : Nat) (rgs : List TVal)
    (createdBy : Option Bytes) (extra : Fields) (hx : extrasOk fileMetaData extra = true)
    (hu : footerUsizeOk (fileMetaTV version schema numRows rgs createdBy extra) = true) : ∀ g ∈ rgs, rgUsizeOk g = true := by
  simpa [footerUsizeOk_fileMetaTV version schema numRows rgs createdBy extra hx] using hu

end Carquet.Proofs.SpecFile
