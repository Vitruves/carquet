import Carquet.Impl.AllocFlow
import Carquet.Proofs.AllocBuffer
import Carquet.Proofs.AllocArena
/-
Program logic for the flow models (C19).  `Run m Q`: no run of `m` crashes, and every successful run has a certificate
`g : Bool` with `Q g a`, where `g = true` certifies that every request was granted and that the fault-free run returns
the same result.  A checked step succeeds only with `g = true` (`Strict`); an unchecked one (`reqU`, `arenaU`) hands
its answer on with the certificate, so the test that follows in the C code is a case split; a step that absorbs a
refusal says nothing about `g`.  `Clean`, `NoCrash`, `SameEffect` are read off a `Run` fact.
-/
namespace Carquet.Impl.Alloc.Flow
open Carquet.Impl.Alloc
open Carquet.Impl.Alloc.Buffer (Buf)

/-- `o'` is what is left of `o` after some requests that were all granted -/
def Granted (o o' : Oracle) : Prop := ∃ pre : List Bool, o = pre ++ o' ∧ ∀ b ∈ pre, b = true

theorem Granted.refl (o : Oracle) : Granted o o := ⟨[], rfl, by simp⟩

theorem Granted.trans {a b c : Oracle} (h1 : Granted a b) (h2 : Granted b c) : Granted a c := by
  obtain ⟨p1, e1, t1⟩ := h1
  obtain ⟨p2, e2, t2⟩ := h2
  refine ⟨p1 ++ p2, by rw [e1, e2, List.append_assoc], ?_⟩
  intro x hx
  rcases List.mem_append.mp hx with h | h
  · exact t1 x h
  · exact t2 x h

theorem Granted.step (o : Oracle) (h : o.grant = true) : Granted o o.rest := by
  cases o with
  | nil => exact Granted.refl _
  | cons b r =>
    simp [Oracle.grant] at h; subst h
    exact ⟨[true], rfl, by simp⟩

def NoCrash (m : M α) : Prop := ∀ o o', m o ≠ (.error .crash, o')

/-- success implies: every request made was granted and the result is the fault-free one; no crash -/
def Clean (m : M α) : Prop :=
  (∀ o a o', m o = (.ok a, o') → Granted o o' ∧ m [] = (.ok a, [])) ∧ NoCrash m

/-- success implies the fault-free result (requests may have been refused and absorbed); no crash -/
def Faithful (m : M α) : Prop :=
  (∀ o a o', m o = (.ok a, o') → m [] = (.ok a, [])) ∧ NoCrash m

theorem Clean.faithful {m : M α} (h : Clean m) : Faithful m :=
  ⟨fun o a o' e => (h.1 o a o' e).2, h.2⟩

/-- some request made between `o` and `o'` was refused -/
def Refused (o o' : Oracle) : Prop := ∃ pre : List Bool, o = pre ++ o' ∧ false ∈ pre

theorem granted_not_refused {o o' : Oracle} (hg : Granted o o') (hr : Refused o o') : False := by
  obtain ⟨p1, e1, t1⟩ := hg
  obtain ⟨p2, e2, f2⟩ := hr
  have : p1 = p2 := List.append_cancel_right (e1.symm.trans e2)
  subst this
  exact absurd (t1 false f2) (by decide)

/-- the propagation statement in its plain form: a `Clean` computation during which a request was
refused ends in an error status (and not in a crash) -/
theorem Clean.refused {m : M α} (h : Clean m) {o o' : Oracle} {r : Except Fault α}
    (hm : m o = (r, o')) (hr : Refused o o') : ∃ e, r = .error e ∧ e ≠ .crash := by
  cases r with
  | ok a => exact absurd hr (fun hr => granted_not_refused (h.1 o a o' hm).1 hr)
  | error e => exact ⟨e, rfl, fun he => h.2 o o' (by rw [hm, he])⟩

/-- the effect statement: whenever the call succeeds, its result is the one of the fault-free run -/
def SameEffect (m : M α) : Prop :=
  ∀ o a o', m o = (.ok a, o') → ∀ a0 o0, m [] = (.ok a0, o0) → a = a0

theorem Faithful.sameEffect {m : M α} (h : Faithful m) : SameEffect m := by
  intro o a o' hm a0 o0 h0
  have := h.1 o a o' hm
  rw [this] at h0
  simp at h0
  exact h0.1

theorem bind_ok {m : M α} {f : α → M β} {o : Oracle} {b : β} {o' : Oracle}
    (h : M.bind m f o = (.ok b, o')) : ∃ a o1, m o = (.ok a, o1) ∧ f a o1 = (.ok b, o') := by
  unfold M.bind at h
  generalize hm : m o = r at h
  obtain ⟨res, o1⟩ := r
  cases res with
  | ok a => exact ⟨a, o1, rfl, h⟩
  | error e => simp at h

theorem bind_crash {m : M α} {f : α → M β} {o o' : Oracle}
    (h : M.bind m f o = (.error .crash, o')) :
    m o = (.error .crash, o') ∨ ∃ a o1, m o = (.ok a, o1) ∧ f a o1 = (.error .crash, o') := by
  unfold M.bind at h
  generalize hm : m o = r at h
  obtain ⟨res, o1⟩ := r
  cases res with
  | ok a => exact Or.inr ⟨a, o1, rfl, h⟩
  | error e => simp at h; left; rw [h.1, h.2]

theorem bind_of_ok {m : M α} {f : α → M β} {o o1 : Oracle} {a : α} (h : m o = (.ok a, o1)) :
    M.bind m f o = f a o1 := by
  unfold M.bind; rw [h]

def Run (m : M α) (Q : Bool → α → Prop) : Prop :=
  (∀ o a o', m o = (.ok a, o') → ∃ g, Q g a ∧ (g = true → Granted o o' ∧ m [] = (.ok a, []))) ∧ NoCrash m

abbrev Strict (m : M α) (Q : α → Prop := fun _ => True) : Prop := Run m fun g a => g = true ∧ Q a

theorem Run.clean {m : M α} {Q : α → Prop} (h : Strict m Q) : Clean m :=
  ⟨fun o a o' e => by obtain ⟨g, ⟨hg, -⟩, hc⟩ := h.1 o a o' e; exact hc hg, h.2⟩

theorem Run.post {m : M α} {Q : Bool → α → Prop} (h : Run m Q) {o : Oracle} {a : α} {o' : Oracle}
    (e : m o = (.ok a, o')) : ∃ g, Q g a ∧ (g = true → Granted o o') := by
  obtain ⟨g, hq, hc⟩ := h.1 o a o' e; exact ⟨g, hq, fun hg => (hc hg).1⟩

theorem Run.mono {m : M α} {Q Q' : Bool → α → Prop} (h : Run m Q) (hq : ∀ g a, Q g a → Q' g a) : Run m Q' :=
  ⟨fun o a o' e => by obtain ⟨g, hg, hc⟩ := h.1 o a o' e; exact ⟨g, hq g a hg, hc⟩, h.2⟩

theorem run_of_nocrash {m : M α} (h : NoCrash m) : Run m fun _ _ => True :=
  ⟨fun _ _ _ _ => ⟨false, trivial, nofun⟩, h⟩

theorem strict_of_cases {m : M α}
    (h : ∀ o, (∃ e o', m o = (.error e, o') ∧ e ≠ .crash) ∨
      ∃ a o', m o = (.ok a, o') ∧ Granted o o' ∧ m [] = (.ok a, [])) : Strict m := by
  refine ⟨fun o a o' e => ?_, fun o o' e => ?_⟩ <;> rcases h o with ⟨e', o1, he, hne⟩ | ⟨a', o1, he, g, e0⟩ <;>
    rw [he] at e <;> cases e
  · exact ⟨true, ⟨rfl, trivial⟩, fun _ => ⟨g, e0⟩⟩
  · exact hne rfl

theorem run_pure {a : α} {Q : Bool → α → Prop} (h : Q true a) : Run (M.pure a) Q :=
  ⟨fun o x o' e => by cases e; exact ⟨true, h, fun _ => ⟨Granted.refl _, rfl⟩⟩, fun _ _ h => nomatch h⟩

theorem strict_pure {a : α} {Q : α → Prop} (h : Q a) : Strict (M.pure a) Q := run_pure ⟨rfl, h⟩

theorem run_fail {e : Fault} {Q : Bool → α → Prop} (he : e ≠ .crash := by decide) : Run (fail e : M α) Q :=
  ⟨fun _ _ _ h => (nomatch h), fun _ _ h => he (by cases h; rfl)⟩

theorem run_bind {m : M α} {f : α → M β} {Q : Bool → α → Prop} {R : Bool → β → Prop}
    (hm : Run m Q) (hf : ∀ g a, Q g a → Run (f a) fun g' b => R (g && g') b) : Run (M.bind m f) R := by
  refine ⟨fun o b o' h => ?_, fun o o' h => ?_⟩
  · obtain ⟨a, o1, h1, h2⟩ := bind_ok h
    obtain ⟨g, hq, hc⟩ := hm.1 o a o1 h1
    obtain ⟨g', hr, hc'⟩ := (hf g a hq).1 o1 b o' h2
    refine ⟨g && g', hr, fun hg => ?_⟩
    rw [Bool.and_eq_true] at hg
    obtain ⟨g1, e1⟩ := hc hg.1
    obtain ⟨g2, e2⟩ := hc' hg.2
    exact ⟨g1.trans g2, by rw [bind_of_ok e1]; exact e2⟩
  · rcases bind_crash h with h1 | ⟨a, o1, h1, h2⟩
    · exact hm.2 o o' h1
    · obtain ⟨g, hq, -⟩ := hm.1 o a o1 h1
      exact (hf g a hq).2 o1 o' h2

theorem strict_bind {m : M α} {f : α → M β} {Q : α → Prop} {R : Bool → β → Prop}
    (hm : Strict m Q) (hf : ∀ a, Q a → Run (f a) R) : Run (M.bind m f) R :=
  run_bind hm fun _ a h => by obtain ⟨rfl, ha⟩ := h; exact hf a ha

theorem run_ite {c : Prop} [Decidable c] {m1 m2 : M α} {Q : Bool → α → Prop} (h1 : Run m1 Q) (h2 : Run m2 Q) :
    Run (if c then m1 else m2) Q := by
  split <;> assumption

/-- loop rule: `R pre g s` relates state and certificate to the elements processed so far -/
theorem run_forEach {xs : List α} {s : β} {f : β → α → M β} {R : List α → Bool → β → Prop}
    (hs : R [] true s) (hf : ∀ pre x g s, R pre g s → Run (f s x) fun g' s' => R (pre ++ [x]) (g && g') s') :
    Run (forEach xs s f) (R xs) := by
  suffices h : ∀ pre g s, R pre g s → Run (forEach xs s f) fun g' s' => R (pre ++ xs) (g && g') s' by
    simpa using h [] true s hs
  induction xs with
  | nil => intro pre g s h; exact run_pure (by simpa using h)
  | cons x xs ih =>
    intro pre g s h
    refine run_bind (hf pre x g s h) fun g1 s1 h1 => (ih (pre ++ [x]) (g && g1) s1 h1).mono fun g2 s2 h2 => ?_
    simpa [Bool.and_assoc] using h2

theorem strict_forEach {xs : List α} {s : β} {f : β → α → M β} {R : List α → β → Prop}
    (hs : R [] s) (hf : ∀ pre x s, R pre s → Strict (f s x) (R (pre ++ [x]))) : Strict (forEach xs s f) (R xs) :=
  run_forEach (R := fun pre g s => g = true ∧ R pre s) ⟨rfl, hs⟩ fun pre x _ s h => by
    obtain ⟨rfl, h⟩ := h; exact hf pre x s h

theorem strict_forEach' {xs : List α} {s : β} {f : β → α → M β} (hf : ∀ s x, Strict (f s x)) : Strict (forEach xs s f) :=
  strict_forEach (R := fun _ _ => True) trivial fun _ x s _ => hf s x

theorem run_guard {got : Bool} {k : M α} {e : Fault} {Q : Bool → α → Prop} (h : got = true → Run k Q)
    (he : e ≠ .crash := by decide) : Run (guardGot true got k e) Q := by
  cases got
  · exact run_fail he
  · exact h rfl

theorem faithful_bind {m : M α} {f : α → M β} (hm : Faithful m) (hf : ∀ a, Faithful (f a)) : Faithful (M.bind m f) := by
  refine ⟨?_, ?_⟩
  · intro o b o' h
    obtain ⟨a, o1, h1, h2⟩ := bind_ok h
    have e1 := hm.1 o a o1 h1
    have e2 := (hf a).1 o1 b o' h2
    rw [bind_of_ok e1]; exact e2
  · intro o o' h
    rcases bind_crash h with h1 | ⟨a, o1, _, h2⟩
    · exact hm.2 o o' h1
    · exact (hf a).2 o1 o' h2

theorem faithful_ite {c : Prop} [Decidable c] {m1 m2 : M α} (h1 : Faithful m1) (h2 : Faithful m2) :
    Faithful (if c then m1 else m2) := by
  split <;> assumption

theorem faithful_forEach {xs : List α} {s : β} {f : β → α → M β} (hf : ∀ s x, Faithful (f s x)) :
    Faithful (forEach xs s f) := by
  induction xs generalizing s with
  | nil => exact (Run.clean (Q := fun _ => True) (strict_pure trivial)).faithful
  | cons x xs ih => exact faithful_bind (hf s x) (fun s' => ih)

theorem run_req : Strict req := strict_of_cases fun o => by
  unfold req
  cases hg : o.grant
  · exact .inl ⟨.oom, o.rest, by simp, by decide⟩
  · exact .inr ⟨(), o.rest, by simp, Granted.step o hg, rfl⟩

theorem run_reqIf (c : Bool) : Strict (reqIf c) := by
  unfold reqIf; exact run_ite run_req (strict_pure trivial)

theorem run_reqU : Run reqU fun g b => b = g :=
  ⟨fun o b o' e => by cases e; exact ⟨o.grant, rfl, fun h => ⟨Granted.step o h, h ▸ rfl⟩⟩, fun _ _ h => nomatch h⟩

/-- `p = malloc(…); if (!p) return e;` with the result passed on -/
theorem run_reqU_guard {k : Bool → M α} {e : Fault} {R : Bool → α → Prop} (h : Run (k true) R)
    (he : e ≠ .crash := by decide) : Run (M.bind reqU fun got => guardGot true got (k got) e) R :=
  run_bind run_reqU fun _ _ hg => run_guard (fun hgot => by subst hg hgot; exact h) he

/-! ### buffer appends -/

@[simp] theorem grant_nil : Oracle.grant [] = true := rfl
@[simp] theorem rest_nil : Oracle.rest [] = [] := rfl

theorem ensureCapacity_ok_indep (b : Buf) (n : Nat) (o : Oracle) (h : (Buffer.ensureCapacity b n o).1 = .ok) :
    Granted o (Buffer.ensureCapacity b n o).2.2 ∧
    Buffer.ensureCapacity b n [] = (.ok, (Buffer.ensureCapacity b n o).2.1, []) := by
  unfold Buffer.ensureCapacity at *
  by_cases h1 : n ≤ b.capacity
  · simp [h1]; exact Granted.refl _
  · by_cases h2 : (!b.owns && b.hasData) = true
    · simp [h1, h2] at h
    · by_cases h3 : o.grant = true
      · simp [h1, h2, h3]; exact Granted.step o h3
      · simp [h1, h2, h3] at h

theorem append_ok_indep (b : Buf) (bytes : List UInt8) (o : Oracle) (h : (Buffer.append b bytes o).1 = .ok) :
    Granted o (Buffer.append b bytes o).2.2 ∧
    Buffer.append b bytes [] = (.ok, (Buffer.append b bytes o).2.1, []) := by
  unfold Buffer.append at *
  by_cases h0 : bytes.length = 0
  · simp [h0]; exact Granted.refl _
  · simp only [h0, if_false] at *
    have hs : (Buffer.ensureCapacity b (b.size + bytes.length) o).1 = .ok := by
      rcases Buffer.ensureCapacity_spec b (b.size + bytes.length) o with ⟨hs, _⟩ | ⟨hs, _⟩
      · exact hs
      · have hne : (Buffer.ensureCapacity b (b.size + bytes.length) o).1 ≠ .ok := by rw [hs]; decide
        rw [Buffer.pushBytes_err _ _ hne] at h; exact absurd h hne
    obtain ⟨g, e⟩ := ensureCapacity_ok_indep b _ o hs
    rw [Buffer.pushBytes_ok _ _ hs, e]
    exact ⟨g, rfl⟩

theorem run_appendM (b : Buf) (bytes : List UInt8) : Strict (appendM b bytes) := strict_of_cases fun o => by
  have hI := append_ok_indep b bytes o
  unfold appendM
  generalize Buffer.append b bytes o = r at hI
  obtain ⟨st, b', o1⟩ := r
  cases st
  · obtain ⟨g, e⟩ := hI rfl
    exact .inr ⟨b', o1, rfl, g, by rw [e]⟩
  all_goals exact .inl ⟨.oom, o1, rfl, by decide⟩

theorem run_appendAll (b : Buf) (chunks : List (List UInt8)) : Strict (appendAll b chunks) :=
  strict_forEach' fun s x => run_appendM s x

/-! ### arena allocations -/

theorem allocAligned_some_indep (ar : Arena.Arena) (size al nb : Nat) (o : Oracle) (p : Nat × Nat)
    (h : (Arena.allocAligned ar size al nb o).1 = some p) :
    Granted o (Arena.allocAligned ar size al nb o).2.2 ∧
    Arena.allocAligned ar size al nb [] = (some p, (Arena.allocAligned ar size al nb o).2.1, []) := by
  unfold Arena.allocAligned at *
  by_cases h0 : size = 0
  · simp [h0] at h
  · simp only [h0, if_false] at *
    cases hc : ar.blocks[ar.current]? with
    | none => simp [hc] at h
    | some cur =>
      simp only [hc] at *
      by_cases hf : Arena.fits cur size (Arena.effAlign al) = true
      · simp only [hf, if_true] at *
        simp at h; subst h
        exact ⟨Granted.refl _, rfl⟩
      · simp only [hf] at *
        cases hff : Arena.findFit (ar.blocks.drop (ar.current + 1)) (ar.current + 1) size (Arena.effAlign al) with
        | some j =>
          simp only [hff] at *
          cases hj : ar.blocks[j]? with
          | none => simp [hj] at h
          | some bj =>
            simp only [hj] at *
            simp at h; subst h
            exact ⟨Granted.refl _, rfl⟩
        | none =>
          simp only [hff, Arena.newBlock] at *
          by_cases hg : o.grant = true
          · simp only [hg, if_true] at h ⊢
            simp at h; subst h
            simp
            exact Granted.step o hg
          · simp [hg] at h

theorem run_arenaU (ar : Arena.Arena) (size al : Nat) : Run (arenaU ar size al) fun g r => r.2 = true → g = true := by
  refine ⟨fun o r o' e => ?_, fun o o' e => ?_⟩ <;> have hI := allocAligned_some_indep ar size al 8 o <;>
    unfold arenaU at * <;> generalize Arena.allocAligned ar size al 8 o = x at hI e <;> obtain ⟨_ | p, ar', o1⟩ := x <;>
    cases e
  · exact ⟨false, nofun, nofun⟩
  · obtain ⟨g, e⟩ := hI p rfl
    exact ⟨true, fun _ => rfl, fun _ => ⟨g, by rw [e]⟩⟩

theorem arenaU_zero (ar : Arena.Arena) (al : Nat) : arenaU ar 0 al = M.pure (ar, false) := by
  funext o; simp [arenaU, Arena.allocAligned, M.pure]

theorem arenaM_eq (ar : Arena.Arena) (size al : Nat) :
    arenaM ar size al = M.bind (arenaU ar size al) fun r =>
      if r.2 || size = 0 then M.pure r.1 else fail .oom := by
  funext o
  simp only [arenaM, arenaU, M.bind]
  generalize Arena.allocAligned ar size al 8 o = r
  obtain ⟨_ | p, ar', o1⟩ := r
  · by_cases h0 : size = 0 <;> simp [h0, M.pure, fail]
  · rfl

theorem run_arenaM (ar : Arena.Arena) (size al : Nat) : Strict (arenaM ar size al) := by
  rw [arenaM_eq]
  by_cases h0 : size = 0
  · -- NULL for an empty request is not an error
    subst h0; rw [arenaU_zero]; exact strict_pure trivial
  · refine run_bind (run_arenaU ..) fun _ r hg => ?_
    obtain ⟨ar', got⟩ := r
    cases got
    · simpa [h0] using run_fail (α := Arena.Arena) (e := .oom)
    · obtain rfl := hg rfl; exact strict_pure trivial

/-- `p = carquet_arena_alloc(…); if (!p) return e;` with the arena passed on -/
theorem run_arenaU_guard {ar : Arena.Arena} {size al : Nat} {k : Arena.Arena × Bool → M α} {e : Fault}
    {R : Bool → α → Prop} (h : ∀ ar', Run (k (ar', true)) R) (he : e ≠ .crash := by decide) :
    Run (M.bind (arenaU ar size al) fun r => guardGot true r.2 (k r) e) R :=
  run_bind (run_arenaU ..) fun _ r hg => run_guard (fun hgot => by
    obtain ⟨ar', got⟩ := r; obtain rfl : got = true := hgot; obtain rfl := hg rfl; exact h ar') he

/-! ### the Thrift latch -/

theorem put_status (e : Enc) (bytes : List UInt8) (o : Oracle) :
    (e.put bytes o).1.status = .ok ↔ e.status = .ok ∧ (e.put bytes o).2.2 = .ok := by
  unfold Enc.put
  by_cases h1 : e.status = .ok
  · by_cases h2 : (Buffer.append e.buf bytes o).1 = .ok <;> simp [h1, h2]
  · simp [h1]

/-- any failed append → final status ≠ OK; and an encoder already in error stays in error -/
theorem putAll_status (e : Enc) (chunks : List (List UInt8)) (o : Oracle) :
    (e.putAll chunks o).1.status = .ok ↔ e.status = .ok ∧ ∀ s ∈ (e.putAll chunks o).2.2, s = .ok := by
  induction chunks generalizing e o with
  | nil => simp [Enc.putAll]
  | cons c cs ih =>
    simp only [Enc.putAll]
    have := ih (e.put c o).1 (e.put c o).2.1
    generalize hr : Enc.putAll (e.put c o).1 cs (e.put c o).2.1 = r at *
    obtain ⟨e', o', tr⟩ := r
    simp only at this ⊢
    rw [this, put_status]
    simp only [List.mem_cons, forall_eq_or_imp]
    constructor
    · rintro ⟨⟨h1, h2⟩, h3⟩; exact ⟨h1, h2, h3⟩
    · rintro ⟨h1, h2, h3⟩; exact ⟨⟨h1, h2⟩, h3⟩

theorem putAll_cons (e : Enc) (c : List UInt8) (cs : List (List UInt8)) (o : Oracle) :
    e.putAll (c :: cs) o =
      (((e.put c o).1.putAll cs (e.put c o).2.1).1, ((e.put c o).1.putAll cs (e.put c o).2.1).2.1,
       (e.put c o).2.2 :: ((e.put c o).1.putAll cs (e.put c o).2.1).2.2) := by
  simp only [Enc.putAll]

/-- a fully successful encoder run: every request granted, buffer = fault-free buffer -/
theorem putAll_ok_indep (e : Enc) (chunks : List (List UInt8)) (o : Oracle)
    (h : (e.putAll chunks o).1.status = .ok) :
    Granted o (e.putAll chunks o).2.1 ∧
    (e.putAll chunks []).1 = (e.putAll chunks o).1 ∧ (e.putAll chunks []).2.1 = [] := by
  induction chunks generalizing e o with
  | nil => simp [Enc.putAll]; exact Granted.refl _
  | cons c cs ih =>
    have hst := (putAll_status e (c :: cs) o).mp h
    rw [putAll_cons] at h hst ⊢
    simp only at h hst ⊢
    have hput : (e.put c o).2.2 = .ok := hst.2 _ (List.mem_cons_self)
    have happ : (Buffer.append e.buf c o).1 = .ok := hput
    obtain ⟨g, eq⟩ := append_ok_indep e.buf c o happ
    have hp0 : e.put c [] = ((e.put c o).1, [], Status.ok) := by
      unfold Enc.put; rw [eq]; simp [happ]
    obtain ⟨g2, e2, e3⟩ := ih (e.put c o).1 (e.put c o).2.1 h
    have hg : Granted o (e.put c o).2.1 := g
    rw [putAll_cons, hp0]
    exact ⟨hg.trans g2, e2, e3⟩

theorem run_encodeChecked (b : Buf) (chunks : List (List UInt8)) : Strict (encodeChecked b chunks) :=
  strict_of_cases fun o => by
    unfold encodeChecked
    by_cases hs : ((Enc.init b).putAll chunks o).1.status = .ok
    · obtain ⟨g, e1, e2⟩ := putAll_ok_indep (Enc.init b) chunks o hs
      exact .inr ⟨_, _, if_pos hs, g, by rw [e1, e2, if_pos hs]⟩
    · exact .inl ⟨.oom, _, if_neg hs, by decide⟩

end Carquet.Impl.Alloc.Flow
