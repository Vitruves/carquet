import Carquet.Proofs.CursorBatch
/-
C02 / C03, batch reader: `carquet_batch_reader_next` refines an abstract machine over the rows of
the projected columns (`absNext`), in every I/O mode; draining the reader refines `absRun`.
-/
namespace Carquet.Proofs.Cursor
open Carquet.Spec.Cursor (Row)
open Carquet.Impl.ColumnReader (Fixes Reader Page)
open Carquet.Impl.BatchReader

/-! ### the abstract machine -/

def headLen : List (List (Row α)) → Nat
  | P :: _ => P.length
  | [] => 0

/-- one batch out of the pending rows `Ps` of the current row group (`n` projected columns) -/
def absRead (n : Nat) (cols : List Column) (bs : Nat) (Ps : List (List (Row α))) : Batch α × List (List (Row α)) :=
  if min (headLen Ps) bs = 0 then (emptyBatch n, Ps)
  else (⟨(min (headLen Ps) bs : Nat), absCols (min (headLen Ps) bs) cols Ps⟩,
        Ps.map (List.drop (min (headLen Ps) bs)))

/-- pending rows of the open row group (if any) and the rows of the row groups behind it -/
structure AbsSt (α : Type) where
  cur : Option (List (List (Row α)))
  later : List (List (List (Row α)))

def absAdvance (n : Nat) (cols : List Column) (bs : Nat) (s : AbsSt α) : AbsSt α × Status × Option (Batch α) :=
  match s.later with
  | [] => (s, .endOfData, none)
  | rg :: later => (⟨some (absRead n cols bs rg).2, later⟩, .ok, some (absRead n cols bs rg).1)

def absNext (n : Nat) (cols : List Column) (bs : Nat) (s : AbsSt α) : AbsSt α × Status × Option (Batch α) :=
  match s.cur with
  | none => absAdvance n cols bs s
  | some Ps =>
    if headLen Ps > 0 then (⟨some (absRead n cols bs Ps).2, s.later⟩, .ok, some (absRead n cols bs Ps).1)
    else absAdvance n cols bs s

def absRun (n : Nat) (cols : List Column) (bs : Nat) : Nat → AbsSt α → List (Batch α) × Status
  | 0, _ => ([], .ok)
  | fuel + 1, s =>
    match absNext n cols bs s with
    | (s', .ok, some b) =>
      match absRun n cols bs fuel s' with
      | (bs', st) => (b :: bs', st)
    | (_, st, _) => ([], st)

/-! ### the concrete reader represents an abstract state -/

structure BInv (f : File α) (proj : List Nat) (bs : Nat) (br : BatchReader α) (s : AbsSt α) : Prop where
  hfile : br.file = f
  hproj : br.projected = proj.map Int.ofNat
  hbsz : br.batchSize = (bs : Int)
  lo : -1 ≤ br.currentRowGroup
  hi : br.currentRowGroup + 1 ≤ f.rowGroups.length
  cur : match s.cur with
    | none => br.currentRowGroup = -1
    | some Ps => 0 ≤ br.currentRowGroup ∧ ColsInv (projCols f proj) br.colReaders Ps ∧
        ∀ P ∈ Ps, P.length = headLen Ps
  later : (f.rowGroups.drop (br.currentRowGroup + 1).toNat).map (projRows f proj) = s.later

theorem colFits_mono (col : Column) (a b : Nat) (h : a ≤ b) (hb : ColFits col b) : ColFits col a :=
  ⟨hb.1, Nat.le_trans (Nat.mul_le_mul_left _ h) hb.2⟩

theorem length_projCols (f : File α) (proj : List Nat) (hproj : ∀ c ∈ proj, c < f.columns.length) :
    (projCols f proj).length = proj.length := by
  induction proj with
  | nil => rfl
  | cons c proj ih =>
    have hc : c < f.columns.length := hproj c (by simp)
    have := ih (fun x hx => hproj x (by simp [hx]))
    simp [projCols, List.getElem?_eq_getElem hc] at this ⊢
    exact this

theorem absCols_numValues (rtr : Nat) (cols : List Column) (Ps : List (List (Row α)))
    (h : ∀ P ∈ Ps, rtr ≤ P.length) : ∀ cd ∈ absCols rtr cols Ps, cd.numValues = (rtr : Int) := by
  intro cd hcd
  rw [absCols, ← List.map_uncurry_zip_eq_zipWith] at hcd
  obtain ⟨⟨col, P⟩, hm, rfl⟩ := List.mem_map.mp hcd
  have := h P (List.of_mem_zip hm).2
  simp [specCol, List.length_take]; omega

/-- the reader of column 0 and the rows it still has to deliver -/
theorem ColsInv.head {cols : List Column} {r0 : Reader α} {rs : List (Reader α)} {Ps : List (List (Row α))}
    (h : ColsInv cols (r0 :: rs) Ps) : ∃ c col0 cols' P0 Ps', cols = col0 :: cols' ∧ Ps = P0 :: Ps' ∧ Rep c P0 r0 := by
  cases h with
  | cons hr _ _ => exact ⟨_, _, _, _, _, rfl, rfl, hr⟩

theorem ColsInv.readers_ne {col : Column} {cols : List Column} {rs : List (Reader α)} {Ps : List (List (Row α))}
    (h : ColsInv (col :: cols) rs Ps) : ∃ r0 rs', rs = r0 :: rs' := by
  cases h with
  | cons _ _ _ => exact ⟨_, _, rfl⟩

theorem sameLen_drop (n : Nat) (Ps : List (List (Row α))) (h : ∀ P ∈ Ps, P.length = headLen Ps) :
    ∀ P ∈ Ps.map (List.drop n), P.length = headLen (Ps.map (List.drop n)) := by
  cases Ps with
  | nil => simp
  | cons P0 Ps =>
    intro P hP
    simp only [List.map_cons, List.mem_cons, List.mem_map] at hP
    simp only [List.map_cons, headLen, List.length_drop]
    rcases hP with rfl | ⟨Q, hQ, rfl⟩
    · simp
    · have := h Q (by simp [hQ])
      simp only [headLen] at this
      simp [this]

theorem eta_colReaders (br : BatchReader α) : { br with colReaders := br.colReaders } = br := by
  cases br; rfl

/-- Everything after the row-group check: one abstract read. -/
theorem readBatchRows_abs (mode : IOMode) (f : File α) (proj : List Nat) (bs : Nat) (hbs0 : 0 < bs)
    (hbs : bs < 2147483648) (_hprojOk : ∀ c ∈ proj, c < f.columns.length)
    (hfit : ∀ col ∈ projCols f proj, ColFits col bs)
    (br : BatchReader α) (r0 : Reader α) (rs : List (Reader α)) (Ps : List (List (Row α)))
    (hmode : br.mode = mode) (hrs : br.colReaders = r0 :: rs) (hfile : br.file = f)
    (hproj : br.projected = proj.map Int.ofNat) (hbsz : br.batchSize = (bs : Int))
    (hcols : ColsInv (projCols f proj) br.colReaders Ps) (heq : ∀ P ∈ Ps, P.length = headLen Ps) :
    ∃ rs' b, readBatchRows Fixes.all br r0 = ({ br with colReaders := rs' }, .ok, some b) ∧
      Batch.erase b = (absRead proj.length (projCols f proj) bs Ps).1 ∧
      ColsInv (projCols f proj) rs' (absRead proj.length (projCols f proj) bs Ps).2 ∧
      (∀ P ∈ (absRead proj.length (projCols f proj) bs Ps).2,
        P.length = headLen (absRead proj.length (projCols f proj) bs Ps).2) := by
  obtain ⟨c0, col0, cols, P0, Ps', hc0, rfl, hrep0⟩ := (hrs ▸ hcols).head
  have hrem : Impl.ColumnReader.remaining r0 = ((headLen (P0 :: Ps') : Nat) : Int) := hrep0.rem
  have hmin : min (Impl.ColumnReader.remaining r0) br.batchSize = ((min (headLen (P0 :: Ps')) bs : Nat) : Int) := by
    rw [hrem, hbsz]; omega
  unfold readBatchRows absRead
  rw [hmin]
  by_cases hz : min (headLen (P0 :: Ps')) bs = 0
  · simp only [hz, show ((0 : Nat) : Int) = 0 from rfl, if_true]
    refine ⟨br.colReaders, emptyBatch br.projected.length, by rw [eta_colReaders br], ?_, hcols, heq⟩
    rw [hproj]; simp [Batch.erase, emptyBatch, ColData.erase]
  · have hz' : ¬ ((min (headLen (P0 :: Ps')) bs : Nat) : Int) = 0 := by omega
    simp only [hz, hz', if_false]
    generalize hrtr : min (headLen (P0 :: Ps')) bs = rtr at hz hz'
    have hr0 : 0 < rtr := by omega
    have hr1 : rtr ≤ bs := by omega
    have hlenAll : ∀ P ∈ P0 :: Ps', rtr ≤ P.length := by
      intro P hP; rw [heq P hP]; omega
    obtain ⟨rs', cds, hread, hcols', hcds⟩ := readColumns_ok mode rtr hr0 (by omega) (colsInv_prefetch hcols) hlenAll
      (fun col hcol => colFits_mono col rtr bs hr1 (hfit col hcol))
    rw [hfile, hproj, projectedColumns_eq, hmode, hread]
    simp only
    refine ⟨rs', _, rfl, ?_, hcols', ?_⟩
    · -- the batch
      have hnv := absCols_numValues rtr (projCols f proj) (P0 :: Ps') hlenAll
      cases cds with
      | nil => rw [hc0] at hcds; simp [absCols] at hcds
      | cons cd cds =>
        have hcd : cd.numValues = (rtr : Int) := by
          have h1 : ColData.erase cd ∈ absCols rtr (projCols f proj) (P0 :: Ps') := by
            rw [← hcds]; simp
          have := hnv _ h1
          simpa [ColData.erase] using this
        simp only [Batch.erase, List.head?_cons, Option.map_some, Option.getD_some, hcd, hcds]
    · exact sameLen_drop rtr _ heq

theorem projRows_sameLen (f : File α) (hf : FileOk f) (proj : List Nat) (rg : List (ChunkData α))
    (hrg : rg ∈ f.rowGroups) : ∀ P ∈ projRows f proj rg, P.length = headLen (projRows f proj rg) := by
  obtain ⟨n, hn⟩ := hf.sameRows rg hrg
  have hall : ∀ P ∈ projRows f proj rg, P.length = n := by
    intro P hP
    simp only [projRows, List.mem_filterMap] at hP
    obtain ⟨c, _, hc⟩ := hP
    cases hcol : f.columns[c]? with
    | none => simp [hcol] at hc
    | some col =>
      cases hcd : rg[c]? with
      | none => simp [hcol, hcd] at hc
      | some cd =>
        simp only [hcol, hcd, Option.some.injEq] at hc
        rw [← hc]; exact hn c col cd hcol hcd
  intro P hP
  rw [hall P hP]
  cases hpr : projRows f proj rg with
  | nil => rw [hpr] at hP; cases hP
  | cons Q Qs => simp only [headLen]; exact (hall Q (by rw [hpr]; simp)).symm

section next
variable (mode : IOMode) (f : File α) (hf : FileOk f) (proj : List Nat)
  (hprojOk : ∀ c ∈ proj, c < f.columns.length) (hne : proj ≠ [])
  (bs : Nat) (hbs0 : 0 < bs) (hbs : bs < 2147483648) (hfit : ∀ col ∈ projCols f proj, ColFits col bs)
include hf hprojOk hne hbs0 hbs hfit

omit hf hbs0 hbs hfit in
theorem projCols_ne : ∃ col0 cols, projCols f proj = col0 :: cols := by
  have := length_projCols f proj hprojOk
  cases hpc : projCols f proj with
  | nil =>
    rw [hpc] at this
    cases proj with
    | nil => exact absurd rfl hne
    | cons _ _ => simp at this
  | cons c cs => exact ⟨c, cs, rfl⟩

theorem afterAdvance_abs (br : BatchReader α) (s : AbsSt α) (hmode : br.mode = mode) (hfile : br.file = f)
    (hproj : br.projected = proj.map Int.ofNat) (hbsz : br.batchSize = (bs : Int))
    (lo : -1 ≤ br.currentRowGroup) (hi : br.currentRowGroup + 1 ≤ f.rowGroups.length)
    (later : (f.rowGroups.drop (br.currentRowGroup + 1).toNat).map (projRows f proj) = s.later) :
    ∃ br' ob, afterAdvance Fixes.all br = (br', (absAdvance proj.length (projCols f proj) bs s).2.1, ob) ∧
      ob.map Batch.erase = (absAdvance proj.length (projCols f proj) bs s).2.2 ∧ br'.mode = mode ∧
      ((absAdvance proj.length (projCols f proj) bs s).2.1 = .ok →
        BInv f proj bs br' (absAdvance proj.length (projCols f proj) bs s).1) := by
  unfold afterAdvance advanceRowGroup absAdvance
  generalize hk : (br.currentRowGroup + 1).toNat = k at later
  have hkI : br.currentRowGroup + 1 = (k : Int) := by omega
  cases hd : f.rowGroups.drop k with
  | nil =>
    have hl : s.later = [] := by rw [← later, hd]; rfl
    have hge : br.currentRowGroup + 1 ≥ (f.rowGroups.length : Int) := by
      have := List.drop_eq_nil_iff.mp hd; omega
    rw [hfile]
    simp only [hge, if_true, hl]
    exact ⟨_, none, rfl, rfl, hmode, fun h => by cases h⟩
  | cons rgc rest =>
    have hl : s.later = projRows f proj rgc :: rest.map (projRows f proj) := by rw [← later, hd]; rfl
    obtain ⟨hget, hrest⟩ := drop_cons_getElem? _ _ _ _ hd
    have hlt : ¬ (br.currentRowGroup + 1 ≥ (f.rowGroups.length : Int)) := by
      have : k < f.rowGroups.length := by
        rcases Nat.lt_or_ge k f.rowGroups.length with h | h
        · exact h
        · rw [List.getElem?_eq_none h] at hget; cases hget
      omega
    obtain ⟨rs, hopen, hcols⟩ := openReaders_ok mode f hf k rgc hget proj hprojOk
    rw [hfile, hmode, hproj, hkI]
    simp only [hkI ▸ hlt, if_false, hopen, hl]
    obtain ⟨col0, cols, hc0⟩ := projCols_ne f proj hprojOk hne
    obtain ⟨r0, rs', rfl⟩ := (hc0 ▸ hcols).readers_ne
    simp only
    have hmem : rgc ∈ f.rowGroups := List.mem_of_getElem? hget
    obtain ⟨rs'', b, hread, hb, hcols', heq'⟩ := readBatchRows_abs mode f proj bs hbs0 hbs hprojOk hfit
      ⟨mode, f, br.batchSize, proj.map Int.ofNat, (k : Int), r0 :: rs'⟩ r0 rs' (projRows f proj rgc)
      rfl rfl rfl rfl hbsz hcols (projRows_sameLen f hf proj rgc hmem)
    rw [hread]
    refine ⟨_, some b, rfl, by simp [hb], rfl, fun _ => ?_⟩
    exact ⟨rfl, rfl, hbsz, by simp only; omega, by
      simp only
      have : k < f.rowGroups.length := by
        rcases Nat.lt_or_ge k f.rowGroups.length with h | h
        · exact h
        · rw [List.getElem?_eq_none h] at hget; cases hget
      omega, ⟨by simp, hcols', heq'⟩, by
      simp only
      have : ((k : Int) + 1).toNat = k + 1 := by omega
      rw [this, hrest]⟩

/-- **`carquet_batch_reader_next` refines `absNext`.** -/
theorem next_abs (br : BatchReader α) (s : AbsSt α) (hmode : br.mode = mode) (h : BInv f proj bs br s) :
    ∃ br' ob, next Fixes.all br = (br', (absNext proj.length (projCols f proj) bs s).2.1, ob) ∧
      ob.map Batch.erase = (absNext proj.length (projCols f proj) bs s).2.2 ∧ br'.mode = mode ∧
      ((absNext proj.length (projCols f proj) bs s).2.1 = .ok →
        BInv f proj bs br' (absNext proj.length (projCols f proj) bs s).1) := by
  unfold next absNext
  cases hcur : s.cur with
  | none =>
    have := h.cur; rw [hcur] at this
    have hneg : br.currentRowGroup < 0 := by simp only at this; omega
    simp only [hneg, if_true]
    exact afterAdvance_abs mode f hf proj hprojOk hne bs hbs0 hbs hfit br s hmode h.hfile h.hproj h.hbsz h.lo h.hi h.later
  | some Ps =>
    have := h.cur; rw [hcur] at this
    obtain ⟨hge, hcols, heq⟩ := this
    have hneg : ¬ br.currentRowGroup < 0 := by omega
    simp only [hneg, if_false]
    obtain ⟨col0, cols, hc0⟩ := projCols_ne f proj hprojOk hne
    obtain ⟨r0, rs', hrs⟩ := (hc0 ▸ hcols).readers_ne
    obtain ⟨c0, _, _, P0, Ps', _, hPs, hrep0⟩ := (hrs ▸ hcols).head
    rw [hrs]
    simp only
    have hhas : Impl.ColumnReader.hasNext r0 = decide (headLen Ps > 0) := by
      simp only [Impl.ColumnReader.hasNext, hrep0.rem, hPs, headLen]
      congr 1
      simp
    rw [hhas]
    by_cases hpos : headLen Ps > 0
    · simp only [hpos, decide_true, if_true]
      obtain ⟨rs'', b, hread, hb, hcols', heq'⟩ := readBatchRows_abs mode f proj bs hbs0 hbs hprojOk hfit
        br r0 rs' Ps hmode hrs h.hfile h.hproj h.hbsz hcols heq
      rw [hread]
      refine ⟨_, some b, rfl, by simp [hb], hmode, fun _ => ?_⟩
      exact ⟨h.hfile, h.hproj, h.hbsz, h.lo, h.hi, ⟨hge, hcols', heq'⟩, h.later⟩
    · simp only [hpos, decide_false, Bool.false_eq_true, if_false]
      exact afterAdvance_abs mode f hf proj hprojOk hne bs hbs0 hbs hfit br s hmode h.hfile h.hproj h.hbsz h.lo h.hi h.later

/-- **Draining the batch reader refines `absRun`** — in whatever mode the file was opened. -/
theorem runAll_abs : ∀ (fuel : Nat) (br : BatchReader α) (s : AbsSt α), br.mode = mode → BInv f proj bs br s →
    ((runAll Fixes.all fuel br).1.map Batch.erase, (runAll Fixes.all fuel br).2) =
      absRun proj.length (projCols f proj) bs fuel s := by
  intro fuel
  induction fuel with
  | zero => intro br s _ _; rfl
  | succ fuel ih =>
    intro br s hmode h
    obtain ⟨br', ob, hnext, hob, hmode', hinv'⟩ := next_abs mode f hf proj hprojOk hne bs hbs0 hbs hfit br s hmode h
    unfold runAll absRun
    rw [hnext]
    generalize habs : absNext proj.length (projCols f proj) bs s = res at hob hinv'
    obtain ⟨s', st, ob'⟩ := res
    simp only at hob hinv' ⊢
    cases st with
    | ok =>
      cases ob with
      | none =>
        simp only [Option.map_none] at hob
        rw [← hob]
        rfl
      | some b =>
        simp only [Option.map_some] at hob
        rw [← hob]
        simp only
        have := ih br' s' hmode' (hinv' rfl)
        rw [← this]
        simp
    | _ => rfl

end next

end Carquet.Proofs.Cursor
