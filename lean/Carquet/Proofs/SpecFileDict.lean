import Carquet.Proofs.SpecFileExtras
import Carquet.Proofs.SpecFileRead
import Carquet.Proofs.SpecFileStats
/-
Value section of a data page in both claimed encodings: PLAIN, and dictionary indices
(PLAIN_DICTIONARY / RLE_DICTIONARY: one width byte ≤ 32, then an RLE-hybrid stream in any run
plan; the dictionary may hold duplicates and unused entries — the writer takes the first
occurrence, the reader looks every id up).  Hence the general v1 data page body.
-/
namespace Carquet.Proofs.SpecFile
open Carquet.Spec Carquet.Spec.File

theorem getElem?_indexIn {α : Type} [DecidableEq α] (v : α) : ∀ d : List α, v ∈ d →
    d[Dictionary.indexIn v d]? = some v
  | [], h => by cases h
  | x :: xs, h => by
    unfold Dictionary.indexIn
    by_cases hx : x = v
    · simp [hx]
    · have hm : v ∈ xs := by
        rcases List.mem_cons.mp h with h' | h'
        · exact absurd h'.symm hx
        · exact h'
      simp only [hx, if_false, List.getElem?_cons_succ]
      exact getElem?_indexIn v xs hm

/-- looking the first-occurrence ids up gives the values back (duplicates and unused entries in
the dictionary do no harm) -/
theorem dict_decode_indexIn (d : List Bytes) : ∀ vals : List Bytes, (∀ v ∈ vals, v ∈ d) →
    Dictionary.decode d (vals.map (fun v => Dictionary.indexIn v d)) = some vals
  | [], _ => rfl
  | v :: r, h => by
    have ih := dict_decode_indexIn d r (fun x hx => h x (by simp [hx]))
    simp only [List.map_cons, Dictionary.decode, getElem?_indexIn v d (h v (by simp)), ih]

theorem uint8_ofNat_toNat_le32 (w : Nat) (h : w ≤ 32) : (UInt8.ofNat w).toNat = w := by
  rw [UInt8.toNat_ofNat']; omega

/-- **value section**: what `valueBytes` lays out, `readValues` reads back -/
theorem readValues_written (leaf : LeafInfo) (dict : Option (List Bytes)) (enc : ValueEnc) (vals : List Bytes)
    (valB : Bytes) (hv : valueBytes leaf dict enc vals = some valB) (hok : valuesOk enc = true)
    (hvalid : ∀ v ∈ vals, validValue leaf v = true) :
    readValues leaf dict (valueEncTag enc) vals.length valB = .ok vals := by
  cases enc with
  | plain =>
    simp only [valueBytes, Option.some.injEq] at hv
    subst hv
    have h3 := plainValues_written leaf vals hvalid [] (fun _ => rfl)
    simp only [List.append_nil] at h3
    simp [readValues, valueEncTag, h3]
  | other tag payload => cases hok
  | dict tag w runs =>
    simp only [valuesOk, Bool.or_eq_true, beq_iff_eq] at hok
    cases dict with
    | none => simp [valueBytes] at hv
    | some d =>
      simp only [valueBytes] at hv
      split at hv
      · cases hv
      · rename_i hcond
        have hw : w ≤ 32 := by omega
        have hall : ∀ v ∈ vals, v ∈ d := by
          intro v hm
          have : vals.all (fun v => d.contains v) = true := by
            apply Classical.byContradiction; intro hn; exact hcond (Or.inr hn)
          rw [List.all_eq_true] at this
          simpa using this v hm
        cases he : RleHybrid.encodeWith w runs (vals.map (fun v => Dictionary.indexIn v d)) with
        | none => simp [he] at hv
        | some bs =>
          simp only [he, Option.some.injEq] at hv
          subst hv
          obtain ⟨pad, hruns⟩ := Carquet.Proofs.RleSpecEncoder.encodeWith_sound _ _ _ _ he
          have hdec := Carquet.Proofs.RleSpecDecoder.decode_complete hruns vals.length (by simp)
          have hlen : (vals.map (fun v => Dictionary.indexIn v d)).length = vals.length := by simp
          rw [← hlen, List.take_left] at hdec
          rw [hlen] at hdec
          have hne0 : ¬ ((tag : Int) = 0) := by rcases hok with rfl | rfl <;> decide
          have h28 : (tag : Int) = 2 ∨ (tag : Int) = 8 := by rcases hok with rfl | rfl <;> simp
          have hwn : ¬ (w > 32) := by omega
          unfold readValues
          simp only [valueEncTag, hne0, if_false, h28, if_true, uint8_ofNat_toNat_le32 w hw, hwn, hdec,
            dict_decode_indexIn d vals hall]

/-- **a v1 data page body in either value encoding, with the writer's statistics in its header,
is decoded to the entries it was written from** -/
theorem decodeDataPage_written (leaf : LeafInfo) (dict : Option (List Bytes)) (es : List Entry)
    (repRuns defRuns : List RleHybrid.Choice) (repB defB : Bytes) (sel : StatsSel) (enc : ValueEnc) (valB : Bytes)
    (hr : levelBytes leaf.maxRep repRuns (es.map (·.rep)) = some repB)
    (hd : levelBytes leaf.maxDef defRuns (es.map (·.dl)) = some defB)
    (hwf : ∀ e ∈ es, wellFormedEntry leaf e = true)
    (hlr : repB.length < 2 ^ 32) (hld : defB.length < 2 ^ 32)
    (hv : valueBytes leaf dict enc (es.filterMap (·.val)) = some valB) (hok : valuesOk enc = true) :
    decodeDataPage leaf dict ⟨es.length, valueEncTag enc, 3, 3, statsFor leaf sel (es.map (·.dl)) (es.filterMap (·.val))⟩
      (v1Body leaf .v1 es repB defB valB) = .ok es := by
  obtain ⟨hrep, hdef, hvals⟩ := wellFormed_parts hwf
  have h1 := readLevels_written leaf.maxRep repRuns (es.map (·.rep))
    repB ((if leaf.maxDef = 0 then [] else prefixed defB) ++ valB) hr hrep hlr
  have h2 := readLevels_written leaf.maxDef defRuns (es.map (·.dl)) defB valB hd hdef hld
  have h3 := readValues_written leaf dict enc (es.filterMap (·.val)) valB hv hok hvals
  simp only [List.length_map] at h1 h2
  have hbody : v1Body leaf .v1 es repB defB valB =
      (if leaf.maxRep = 0 then [] else prefixed repB) ++ ((if leaf.maxDef = 0 then [] else prefixed defB) ++ valB) := by
    simp [v1Body, List.append_assoc]
  rw [← nonNullCount_written leaf es hwf] at h3
  have hst := checkStats_statsFor leaf sel (es.map (·.dl)) (es.filterMap (·.val)) hvals
  generalize statsFor leaf sel (es.map (·.dl)) (es.filterMap (·.val)) = st at hst ⊢
  rw [hbody, decodeDataPage_accepts (h := ⟨es.length, valueEncTag enc, 3, 3, st⟩) rfl rfl h1 h2 h3 hst,
    assemble_written leaf es hwf]

end Carquet.Proofs.SpecFile
