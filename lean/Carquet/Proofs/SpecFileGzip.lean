import Carquet.Spec.File.Admissible
import Carquet.Proofs.SpecFileEnvelope
/-
The stored-block GZIP members of `Spec.File.gzipStored` are decodable: a reader of RFC 1952 /
RFC 1951 stored blocks (`gunzipStored`, defined here for the proof only) recovers the data, provided
the FNAME field holds no zero byte (it is zero-terminated).  Hence two members with the same bytes
hold the same data — what the coherence of the writer's oracle table needs.
-/
namespace Carquet.Proofs.SpecFile
open Carquet.Spec Carquet.Spec.File

/-- stored deflate blocks up to and including the final one: the data and what follows -/
def unstore : Nat → Bytes → Option (Bytes × Bytes)
  | 0, _ => none
  | f + 1, bs =>
    if bs.length < 5 then none
    else if (bs.drop 5).length < leNat ((bs.drop 1).take 2) then none
    else if bs.take 1 = [1] then
      some ((bs.drop 5).take (leNat ((bs.drop 1).take 2)), (bs.drop 5).drop (leNat ((bs.drop 1).take 2)))
    else if bs.take 1 = [0] then
      match unstore f ((bs.drop 5).drop (leNat ((bs.drop 1).take 2))) with
      | some (d, r) => some ((bs.drop 5).take (leNat ((bs.drop 1).take 2)) ++ d, r)
      | none => none
    else none

theorem storedBlock_shape (final : Bool) (piece rest : Bytes) :
    storedBlock final piece ++ rest =
      (if final then (1 : UInt8) else 0) :: (File.leBytes 2 piece.length ++ (File.leBytes 2 (65535 - piece.length) ++ (piece ++ rest))) := by
  simp [storedBlock, List.append_assoc]

theorem unstore_block (f : Nat) (final : Bool) (piece rest : Bytes) (hl : piece.length ≤ 65535) :
    unstore (f + 1) (storedBlock final piece ++ rest) =
      if final then some (piece, rest)
      else match unstore f rest with
        | some (d, r) => some (piece ++ d, r)
        | none => none := by
  rw [storedBlock_shape]
  have hlen2 : (File.leBytes 2 piece.length).length = 2 := leBytes_length 2 _
  have hlen2' : (File.leBytes 2 (65535 - piece.length)).length = 2 := leBytes_length 2 _
  have hn : leNat (File.leBytes 2 piece.length) = piece.length := leNat_leBytes 2 _ (by omega)
  generalize hu : unstore f rest = u
  unfold unstore
  have hd1 : ∀ (x : UInt8) (l : Bytes), (x :: l).drop 1 = l := fun _ _ => rfl
  have ht1 : ∀ (x : UInt8) (l : Bytes), (x :: l).take 1 = [x] := fun _ _ => by simp
  have hd5 : ∀ (x : UInt8), (x :: (File.leBytes 2 piece.length ++ (File.leBytes 2 (65535 - piece.length) ++ (piece ++ rest)))).drop 5
      = piece ++ rest := by
    intro x
    have : (5 : Nat) = 1 + (2 + 2) := rfl
    rw [this, ← List.drop_drop, hd1, ← List.drop_drop, List.drop_left' hlen2, List.drop_left' hlen2']
  have hlen5 : ∀ (x : UInt8), ¬ ((x :: (File.leBytes 2 piece.length ++ (File.leBytes 2 (65535 - piece.length) ++ (piece ++ rest)))).length < 5) := by
    intro x; simp [hlen2, hlen2']; omega
  simp only [hd1, ht1, hd5, hlen5, if_false, List.take_left' hlen2, hn, List.length_append, List.take_left, List.drop_left]
  have hlt : ¬ (piece.length + rest.length < piece.length) := by omega
  simp only [hlt, if_false, hu]
  cases final with
  | true => simp
  | false => simp

/-- every piece fits a stored block -/
theorem unstore_storedBlocks : ∀ (ps : List Bytes) (rest : Bytes) (f : Nat), (∀ p ∈ ps, p.length ≤ 65535) → ps.length < f →
    unstore f (storedBlocks ps ++ rest) = some (ps.flatten, rest)
  | [], rest, f + 1, _, _ => by rw [storedBlocks, unstore_block f true [] rest (by simp)]; simp
  | [p], rest, f + 1, hp, _ => by rw [storedBlocks, unstore_block f true p rest (hp p (by simp))]; simp
  | p :: q :: r, rest, f + 1, hp, hf => by
    have ih := unstore_storedBlocks (q :: r) rest f (fun x hx => hp x (by simp [hx])) (by simp at hf ⊢; omega)
    rw [storedBlocks, List.append_assoc, unstore_block f false p _ (hp p (by simp)), ih]
    simp

theorem chunksOf_flatten (k : Nat) : ∀ (fuel : Nat) (bs : Bytes), bs.length ≤ fuel → (chunksOf k fuel bs).flatten = bs
  | 0, bs, h => by
    have : bs = [] := List.length_eq_zero_iff.mp (by omega)
    subst this; rfl
  | fuel + 1, bs, h => by
    unfold chunksOf
    by_cases hb : bs = []
    · simp [hb]
    · have hpos : 0 < bs.length := List.length_pos_iff.mpr hb
      have ih := chunksOf_flatten k fuel (bs.drop (max k 1)) (by simp only [List.length_drop]; omega)
      simp only [hb, if_false, List.flatten_cons, ih, List.take_append_drop]

theorem chunksOf_piece_le (k : Nat) : ∀ (fuel : Nat) (bs : Bytes), ∀ p ∈ chunksOf k fuel bs, p.length ≤ max k 1
  | 0, _, p, hp => by simp [chunksOf] at hp
  | fuel + 1, bs, p, hp => by
    unfold chunksOf at hp
    by_cases hb : bs = []
    · simp [hb] at hp
    · simp only [hb, if_false, List.mem_cons] at hp
      rcases hp with rfl | hp
      · simp only [List.length_take]; omega
      · exact chunksOf_piece_le k fuel _ p hp

theorem chunksOf_length_le (k : Nat) : ∀ (fuel : Nat) (bs : Bytes), (chunksOf k fuel bs).length ≤ fuel
  | 0, _ => by simp [chunksOf]
  | fuel + 1, bs => by
    unfold chunksOf
    by_cases hb : bs = []
    · simp [hb]
    · have := chunksOf_length_le k fuel (bs.drop (max k 1))
      simp only [hb, if_false, List.length_cons]; omega

/-- the rest of a zero-terminated string -/
def skipName : Bytes → Option Bytes
  | [] => none
  | b :: r => if b = 0 then some r else skipName r

theorem skipName_name : ∀ (n rest : Bytes), n.all (· != 0) = true → skipName (n ++ 0 :: rest) = some rest
  | [], rest, _ => by simp [skipName]
  | b :: r, rest, h => by
    simp only [List.all_cons, Bool.and_eq_true, bne_iff_ne, ne_eq] at h
    simp only [List.cons_append, skipName, h.1, if_false]
    exact skipName_name r rest h.2

/-- a reader of gzip members whose deflate stream consists of stored blocks (for the proof only) -/
def gunzipStored (bs : Bytes) : Option Bytes :=
  if bs.take 3 ≠ [0x1f, 0x8b, 8] then none
  else
    match (if (bs.drop 3).take 1 = [8] then skipName (bs.drop 10)
           else if (bs.drop 3).take 1 = [0] then some (bs.drop 10) else none) with
    | some r =>
      match unstore (r.length + 1) r with
      | some (d, _) => some d
      | none => none
    | none => none

theorem gunzipStored_gzipStored (k : Nat) (name : Option Bytes) (data : Bytes) (hn : fnameOk name = true) :
    gunzipStored (gzipStored k name data) = some data := by
  have hk : max (min (max k 1) 65535) 1 ≤ 65535 := by omega
  have hps : ∀ p ∈ chunksOf (min (max k 1) 65535) data.length data, p.length ≤ 65535 :=
    fun p hp => Nat.le_trans (chunksOf_piece_le _ _ _ p hp) hk
  have hfl := chunksOf_flatten (min (max k 1) 65535) data.length data (Nat.le_refl _)
  generalize hps' : chunksOf (min (max k 1) 65535) data.length data = ps at hps hfl
  generalize htr : File.leBytes 4 (Crc32.crc32 data).toNat ++ File.leBytes 4 (data.length % 2 ^ 32) = trailer
  have hblocks : ∀ f, ps.length < f → unstore f (storedBlocks ps ++ trailer) = some (data, trailer) := by
    intro f hf
    rw [unstore_storedBlocks ps trailer f hps hf, hfl]
  have hsl : ps.length < (storedBlocks ps ++ trailer).length + 1 := by
    have : ps.length ≤ (storedBlocks ps).length := by
      clear hblocks hfl hps hps'
      induction ps with
      | nil => simp
      | cons p r ih =>
        cases r with
        | nil => simp [storedBlocks, storedBlock]
        | cons q r' =>
          simp only [storedBlocks, List.length_append, List.length_cons] at ih ⊢
          have : 0 < (storedBlock false p).length := by simp [storedBlock]
          omega
    simp only [List.length_append]; omega
  unfold gzipStored
  rw [hps']
  cases name with
  | none =>
    simp only [List.append_nil, List.append_assoc, htr]
    unfold gunzipStored
    simp only [List.cons_append, List.nil_append, List.take_succ_cons, List.take_zero, List.drop_succ_cons, List.drop_zero,
      ne_eq, not_true_eq_false, if_false]
    have h80 : ¬ (([0] : Bytes) = [8]) := by decide
    simp only [h80, if_false, if_true]
    rw [hblocks _ hsl]
  | some n =>
    simp only [fnameOk] at hn
    simp only [List.append_assoc, htr]
    unfold gunzipStored
    simp only [List.cons_append, List.nil_append, List.take_succ_cons, List.take_zero, List.drop_succ_cons, List.drop_zero,
      ne_eq, not_true_eq_false, if_false, if_true]
    rw [skipName_name n _ hn]
    simp only []
    rw [hblocks _ hsl]

end Carquet.Proofs.SpecFile
