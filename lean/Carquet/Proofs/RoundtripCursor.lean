import Carquet.Proofs.RoundtripFile
import Carquet.Proofs.CursorFile
/-
C01, file level — the batch-at-a-time API (through C02): for the chunk of row group `i`, column `j`
of a completed run, EVERY history of `read k | skip k | has_next | remaining | re-create` calls on
the column reader `get_column` creates returns what the index cursor (Spec.Cursor) returns over the
rows of that column of the table the history denotes (`tableRows`).
-/
namespace Carquet.Proofs.Roundtrip
open Carquet.Impl Carquet.Impl.Reader
open Carquet.Impl.Writer (ChunkMeta RgMeta FooterData PageRec Op readerDefs readerReps tableRows rowsOfLevels rowsOfLevelsR)
open Carquet.Proofs.SpecWriter Carquet.Proofs.WriterTable
open Carquet.Proofs.ReaderPageRoundtrip Carquet.Proofs.ReaderChunkRoundtrip
open Carquet.Proofs.Cursor

theorem rowsOfLevels_eq (maxDef : Nat) : ∀ (ds : List Nat) (vs : List Writer.Val),
    rowsOfLevels maxDef ds vs = pageRows maxDef ds (List.replicate ds.length 0) vs
  | [], _ => by simp [rowsOfLevels, pageRows]
  | d :: ds, vs => by
    simp only [rowsOfLevels, List.length_cons, List.replicate_succ, pageRows]
    split
    · cases vs with
      | nil => simp only [rowsOfLevels_eq maxDef ds []]
      | cons v vs' => simp only [rowsOfLevels_eq maxDef ds vs']
    · simp only [rowsOfLevels_eq maxDef ds vs]

theorem rowsOfLevelsR_eq (maxDef : Nat) : ∀ (ds rs : List Nat) (vs : List Writer.Val),
    rowsOfLevelsR maxDef ds rs vs = pageRows maxDef ds rs vs
  | [], _, _ => by simp [rowsOfLevelsR, pageRows]
  | _ :: _, [], _ => by simp [rowsOfLevelsR, pageRows]
  | d :: ds, r :: rs, vs => by
    simp only [rowsOfLevelsR, pageRows]
    split
    · cases vs with
      | nil => simp only [rowsOfLevelsR_eq maxDef ds rs []]
      | cons v vs' => simp only [rowsOfLevelsR_eq maxDef ds rs vs']
    · simp only [rowsOfLevelsR_eq maxDef ds rs vs]

theorem writtenRows_eq_tableRows (c : Writer.Col) (ps : List PageRec) (hall : ∀ r ∈ ps, RecShape c r) :
    writtenRows c ps = tableRows c (pagesData ps) := by
  obtain ⟨_, hd, hr, hv⟩ := writtenRows_content c ps hall
  have hwf : ∀ row ∈ writtenRows c ps, Carquet.Spec.Cursor.Row.WF c.maxDef row := by
    apply rowsOfPages_wf
    intro p hp
    obtain ⟨r, hr, rfl⟩ := List.mem_map.mp hp
    exact ⟨_, rfl, cursorPage_pageOk c r (hall r hr)⟩
  have hrl : (readerDefs c (pagesData ps)).length = (readerReps c (pagesData ps)).length := by
    rw [← hd, ← hr, List.length_map, List.length_map]
  have hnn : nn c.maxDef (readerDefs c (pagesData ps)) = (pagesData ps).vals.length := by
    rw [← hd, ← hv, length_filterMap_val c.maxDef _ hwf]
  -- both sides are well-formed rows with the same levels and the same values
  unfold tableRows
  rw [rowsOfLevelsR_eq]
  apply encode_faithful c.maxDef _ _ hwf
  · apply pageRows_wf _ _ _ _ (Nat.le_of_eq hrl) (Nat.le_of_eq hnn)
    intro d hdm
    rw [← hd] at hdm
    obtain ⟨row, hrow, rfl⟩ := List.mem_map.mp hdm
    exact (hwf row hrow).1
  · rw [map_def_pageRows _ _ _ _ (Nat.le_of_eq hrl), hd]
  · rw [map_rep_pageRows _ _ _ _ (Nat.le_of_eq hrl), hrl, List.take_length, hr]
  · rw [filterMap_val_pageRows _ _ _ _ (Nat.le_of_eq hrl) (Nat.le_of_eq hnn), hnn, List.take_length, hv]

/-- **any consumption pattern on one chunk of a written file** -/
theorem runCell (L : Libs) (verify : Bool) (mode : Mode) (codec : Nat) (o : FileReal.Oracle)
    (hst : StoredOk L o codec) (file : Reader.Bytes) (c : Writer.Col) (hc : ColOk c)
    (m : ChunkMeta) (ps : List PageRec) (hcell : Cell o codec file c m ps) (hfile : file.length < 2 ^ 64)
    (cops : List Carquet.Spec.Cursor.Op) (hops : ∀ op ∈ cops, OpOk op) :
    (ColumnReader.run ColumnReader.Fixes.all (chunkOf Fixes.all L verify mode file (colOf c (cmdOf m))) cops).2 =
      (Carquet.Spec.Cursor.run (tableRows c (pagesData ps)) cops).2.map encodeOut := by
  obtain ⟨hshape, hok, hrows, _⟩ := cell_chunk L verify mode codec o hst file c hc m ps hcell hfile
  rw [← writtenRows_eq_tableRows c ps hshape, ← hrows]
  exact (Carquet.Proofs.Cursor.outs_ok hok cops _ 0 (rep_getColumn _ hok) (Nat.zero_le _) hops).1

end Carquet.Proofs.Roundtrip
