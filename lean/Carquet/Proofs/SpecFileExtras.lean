import Carquet.Spec.File.Admissible
/-
Field lists of Thrift struct values, as the reference writer builds them and the independent reader
takes them apart.

A struct value is built from single fields, optional fields (`optField`), conditional fields and
`++`; `field?`, the typed check `knownTyped` and the required-field check `complete` distribute over
these constructors, so that every getter of a written struct is computed field by field, without a
case split on which optional fields are present.

Unknown fields: merging fields whose ids are not in a struct's table of parquet.thrift into a struct
value (`withExtras`) changes neither the required-field / field-type check of that struct nor any
lookup of a field the table names; every getter of `Spec.File.Meta` sees through `withExtras` when the
extra ids avoid the struct's table (`extrasOk`), and well-formedness distributes over the merge.
-/
namespace Carquet.Proofs.SpecFile
open Carquet.Spec Carquet.Spec.File Carquet.Spec.Thrift Carquet.Spec.ParquetThrift

/-! ### lookups through the constructors of a field list -/

theorem field?_nil (k : Int) : field? [] k = none := rfl

theorem field?_cons (i : Int) (v : TVal) (fs : Fields) (k : Int) :
    field? ((i, v) :: fs) k = if i = k then some v else field? fs k := by
  by_cases h : i = k
  · simp [field?, h]
  · have : (i == k) = false := by simpa using h
    simp [field?, h, this]

theorem field?_append (a b : Fields) (k : Int) : field? (a ++ b) k = (field? a k).or (field? b k) := by
  simp only [field?, List.find?_append]
  cases List.find? (fun f => f.1 == k) a <;> simp

theorem field?_optField {α : Type} (i : Int) (mk : α → TVal) (o : Option α) (k : Int) :
    field? (optField i mk o) k = if i = k then o.map mk else none := by
  cases o <;> simp [optField, field?_cons, field?_nil]

theorem field?_ite (c : Prop) [Decidable c] (a b : Fields) (k : Int) :
    field? (if c then a else b) k = if c then field? a k else field? b k := by
  split <;> rfl

/-! ### the struct check through the constructors -/

/-- the table of `s` has no field `i`, or gives it the type `t` -/
def typedOk (s : StructSpec) (i : Int) (t : TType) : Bool :=
  match s.find i with
  | some fsp => fsp.ty == t
  | none => true

theorem knownTyped_nil (s : StructSpec) : knownTyped s [] = true := rfl

theorem knownTyped_cons (s : StructSpec) (i : Int) (v : TVal) (fs : Fields) :
    knownTyped s ((i, v) :: fs) = true ↔ typedOk s i v.ty = true ∧ knownTyped s fs = true :=
  Iff.of_eq (Bool.and_eq_true (typedOk s i v.ty) (knownTyped s fs))

theorem knownTyped_append (s : StructSpec) (a b : Fields) :
    knownTyped s (a ++ b) = true ↔ knownTyped s a = true ∧ knownTyped s b = true := by
  simp [knownTyped]

theorem knownTyped_optField {α : Type} (s : StructSpec) (i : Int) (mk : α → TVal) (o : Option α) :
    knownTyped s (optField i mk o) = true ↔ ∀ x, o = some x → typedOk s i (mk x).ty = true := by
  cases o <;> simp [optField, knownTyped_cons, knownTyped_nil]

theorem knownTyped_ite (s : StructSpec) (c : Prop) [Decidable c] (a b : Fields) :
    knownTyped s (if c then a else b) = true ↔ if c then knownTyped s a = true else knownTyped s b = true := by
  split <;> rfl

theorem complete_eq (s : StructSpec) (fs : Fields) :
    s.complete fs = ((s.fields.filter (·.required)).map (·.id)).all (fun k => (field? fs k).isSome) := by
  unfold StructSpec.complete
  induction s.fields with
  | nil => rfl
  | cons f r ih =>
    have : fs.any (fun x => x.1 == f.id) = (field? fs f.id).isSome := by
      rw [Bool.eq_iff_iff, List.any_eq_true, field?, Option.isSome_map, List.find?_isSome]
    cases hr : f.required <;> simp [hr, ih, this]

theorem checkStruct_ok (s : StructSpec) (fs : Fields) (h1 : s.complete fs = true) (h2 : knownTyped s fs = true) :
    checkStruct s fs = .ok () := by
  simp [checkStruct, h1, h2]

/-! ### the getters, on what a lookup found -/

/-- the `match` of `getBin` / `getStruct` / `getList` as a function of the looked-up value -/
def asBin : Option TVal → Option Bytes
  | some (.binary b) => some b
  | _ => none

def asStruct : Option TVal → Option Fields
  | some (.struct g) => some g
  | _ => none

def asList : Option TVal → Option (List TVal)
  | some (.list _ xs) => some xs
  | _ => none

theorem getBin_eq (fs : Fields) (k : Int) : getBin fs k = asBin (field? fs k) := by
  unfold getBin asBin; split <;> simp_all

theorem getStruct_eq (fs : Fields) (k : Int) : getStruct fs k = asStruct (field? fs k) := by
  unfold getStruct asStruct; split <;> simp_all

theorem getList_eq (fs : Fields) (k : Int) : getList fs k = asList (field? fs k) := by
  unfold getList asList; split <;> simp_all

theorem asBin_map (o : Option Bytes) : asBin (o.map .binary) = o := by cases o <;> rfl

theorem bind_intOf_i32 (o : Option Int) : (o.map TVal.i32).bind intOf = o := by cases o <;> rfl
theorem bind_intOf_i64 (o : Option Int) : (o.map TVal.i64).bind intOf = o := by cases o <;> rfl

theorem bind_intOf_i32_fun {α : Type} (f : α → Int) (o : Option α) :
    (o.map (fun x => TVal.i32 (f x))).bind intOf = o.map f := by cases o <;> rfl

theorem bind_intOf_i64_fun {α : Type} (f : α → Int) (o : Option α) :
    (o.map (fun x => TVal.i64 (f x))).bind intOf = o.map f := by cases o <;> rfl

theorem getD_omitted_zero (v : Int) : ((if v = 0 then none else some (TVal.i32 v)).bind intOf).getD 0 = v := by
  split <;> simp [*, intOf]

theorem natField_eq {what : String} {fs : Fields} {k : Int} {n : Nat} (h : getInt fs k = some (n : Int)) :
    natField what fs k = .ok n := by
  have : ¬ (n : Int) < 0 := by omega
  simp [natField, h, this]

theorem optNatField_eq {what : String} {fs : Fields} {k : Int} {o : Option Nat} (h : getInt fs k = o.map Nat.cast) :
    optNatField what fs k = .ok o := by
  cases o with
  | none => simp [optNatField, h]
  | some n =>
    have : ¬ (n : Int) < 0 := by omega
    simp [optNatField, h, this]

/-! ### unknown fields -/

theorem withExtras_nil (known : Fields) : withExtras known [] = known := rfl

/-- merging fields in only reorders: `withExtras known extra` is a permutation of `known ++ extra` -/
theorem insertField_perm (f : Int × TVal) : ∀ fs : Fields, (insertField f fs).Perm (f :: fs)
  | [] => .refl _
  | g :: r => by
    simp only [insertField]
    split
    · exact .refl _
    · exact ((insertField_perm f r).cons g).trans (.swap f g r)

theorem withExtras_perm : ∀ (extra known : Fields), (withExtras known extra).Perm (known ++ extra)
  | [], known => by simp [withExtras]
  | f :: r, known => by
    have ih := withExtras_perm r (insertField f known)
    simp only [withExtras, List.foldl_cons] at ih ⊢
    exact ih.trans (((insertField_perm f known).append_right r).trans List.perm_middle.symm)

theorem all_withExtras (p : Int × TVal → Bool) (extra known : Fields) :
    (withExtras known extra).all p = (known.all p && extra.all p) :=
  (withExtras_perm extra known).all_eq.trans List.all_append

theorem any_withExtras (p : Int × TVal → Bool) (extra known : Fields) :
    (withExtras known extra).any p = (known.any p || extra.any p) :=
  (withExtras_perm extra known).any_eq.trans List.any_append

theorem find_insertField (k : Int) (f : Int × TVal) (h : f.1 ≠ k) : ∀ fs : Fields,
    (insertField f fs).find? (fun x => x.1 == k) = fs.find? (fun x => x.1 == k)
  | [] => by simp [insertField, h]
  | g :: r => by
    simp only [insertField]
    split
    · simp [List.find?_cons, h]
    · simp only [List.find?_cons, find_insertField k f h r]

theorem field?_withExtras (k : Int) : ∀ (extra known : Fields), (∀ f ∈ extra, f.1 ≠ k) →
    field? (withExtras known extra) k = field? known k
  | [], known, _ => rfl
  | f :: r, known, h => by
    have ih := field?_withExtras k r (insertField f known) (fun x hx => h x (by simp [hx]))
    simp only [withExtras, List.foldl_cons, field?] at ih ⊢
    rw [ih, find_insertField k f (h f (by simp))]

theorem find_none_iff (s : StructSpec) (k : Int) : s.find k = none ↔ ∀ fsp ∈ s.fields, fsp.id ≠ k := by
  unfold StructSpec.find
  rw [List.find?_eq_none]
  constructor
  · intro h fsp hf heq; exact h fsp hf (by simp [heq])
  · intro h fsp hf heq; exact h fsp hf (by simpa using heq)

/-- **unknown fields are ignored**: fields with ids outside the struct's table leave the
required / typed check and every lookup of a table id as they were -/
theorem unknown_fields_ignored (s : StructSpec) (known extra : Fields) (havoid : ∀ f ∈ extra, s.find f.1 = none) :
    checkStruct s (withExtras known extra) = checkStruct s known ∧
    ∀ k, s.find k ≠ none → field? (withExtras known extra) k = field? known k := by
  constructor
  · have all_congr_mem : ∀ (l : List FieldSpec) (f g : FieldSpec → Bool), (∀ x ∈ l, f x = g x) → l.all f = l.all g := by
      intro l f g h
      induction l with
      | nil => rfl
      | cons x r ih =>
        simp only [List.all_cons, h x (by simp), ih (fun y hy => h y (by simp [hy]))]
    have hc : s.complete (withExtras known extra) = s.complete known := by
      unfold StructSpec.complete
      apply all_congr_mem
      intro fsp hf
      rw [any_withExtras]
      have : extra.any (fun x => x.1 == fsp.id) = false := by
        rw [List.any_eq_false]
        intro f hfe heq
        have h1 : f.1 = fsp.id := by simpa using heq
        exact (find_none_iff s f.1).mp (havoid f hfe) fsp hf h1.symm
      rw [this, Bool.or_false]
    have hte : knownTyped s extra = true := by
      unfold knownTyped
      rw [List.all_eq_true]
      intro f hfe
      rw [havoid f hfe]
    have ht : knownTyped s (withExtras known extra) = knownTyped s known := by
      have : knownTyped s (withExtras known extra) = (knownTyped s known && knownTyped s extra) := by
        unfold knownTyped
        exact all_withExtras _ extra known
      rw [this, hte, Bool.and_true]
    unfold checkStruct
    rw [hc, ht]
  · intro k hk
    apply field?_withExtras
    intro f hfe heq
    exact hk (heq ▸ havoid f hfe)

/-! ### unknown fields in the form the extraction lemmas use: ids outside the struct's table -/

theorem extrasOk_avoid {s : StructSpec} {extra : Fields} (h : extrasOk s extra = true) :
    ∀ f ∈ extra, s.find f.1 = none := by
  intro f hf
  unfold extrasOk at h
  rw [List.all_eq_true] at h
  have := h f hf
  simpa using this

theorem extrasOk_nil (s : StructSpec) : extrasOk s [] = true := rfl

theorem checkStruct_we {s : StructSpec} {extra : Fields} (h : extrasOk s extra = true) (known : Fields) :
    checkStruct s (withExtras known extra) = checkStruct s known :=
  (unknown_fields_ignored s known extra (extrasOk_avoid h)).1

theorem field?_we {s : StructSpec} {extra : Fields} (h : extrasOk s extra = true) (known : Fields) (k : Int)
    (hk : (s.find k).isSome = true) : field? (withExtras known extra) k = field? known k := by
  apply (unknown_fields_ignored s known extra (extrasOk_avoid h)).2 k
  intro hn
  rw [hn] at hk
  cases hk

theorem getInt_we {s : StructSpec} {extra : Fields} (h : extrasOk s extra = true) (known : Fields) (k : Int)
    (hk : (s.find k).isSome = true) : getInt (withExtras known extra) k = getInt known k := by
  unfold getInt; rw [field?_we h known k hk]

theorem getBin_we {s : StructSpec} {extra : Fields} (h : extrasOk s extra = true) (known : Fields) (k : Int)
    (hk : (s.find k).isSome = true) : getBin (withExtras known extra) k = getBin known k := by
  unfold getBin; rw [field?_we h known k hk]

theorem getStruct_we {s : StructSpec} {extra : Fields} (h : extrasOk s extra = true) (known : Fields) (k : Int)
    (hk : (s.find k).isSome = true) : getStruct (withExtras known extra) k = getStruct known k := by
  unfold getStruct; rw [field?_we h known k hk]

theorem getList_we {s : StructSpec} {extra : Fields} (h : extrasOk s extra = true) (known : Fields) (k : Int)
    (hk : (s.find k).isSome = true) : getList (withExtras known extra) k = getList known k := by
  unfold getList; rw [field?_we h known k hk]

theorem natField_we {s : StructSpec} {extra : Fields} (h : extrasOk s extra = true) (what : String) (known : Fields)
    (k : Int) (hk : (s.find k).isSome = true) : natField what (withExtras known extra) k = natField what known k := by
  unfold natField; rw [getInt_we h known k hk]

theorem optNatField_we {s : StructSpec} {extra : Fields} (h : extrasOk s extra = true) (what : String) (known : Fields)
    (k : Int) (hk : (s.find k).isSome = true) :
    optNatField what (withExtras known extra) k = optNatField what known k := by
  unfold optNatField; rw [getInt_we h known k hk]

/-! ### well-formedness of a struct with merged-in fields -/

theorem wfFields_eq_all : ∀ fs : Fields, wfFields fs = fs.all (fun f => decide (inI16 f.1) && f.2.wf)
  | [] => rfl
  | (id, v) :: r => by simp only [wfFields, List.all_cons, wfFields_eq_all r]

theorem wfFields_withExtras (extra known : Fields) :
    wfFields (withExtras known extra) = (wfFields known && wfFields extra) := by
  simp only [wfFields_eq_all, all_withExtras]

theorem wfFields_append (a b : Fields) : wfFields (a ++ b) = (wfFields a && wfFields b) := by
  simp only [wfFields_eq_all, List.all_append]

theorem wfFields_optField {α : Type} (i : Int) (mk : α → TVal) (o : Option α) :
    wfFields (optField i mk o) = true ↔ ∀ x, o = some x → inI16 i ∧ (mk x).wf = true := by
  cases o <;> simp [optField, wfFields]

/-! ### the oracle table -/

theorem oracleCoherent_lookup {o : Oracle} (h : oracleCoherent o = true) :
    ∀ e ∈ o, oracleLookup o e.1 = some e.2 := by
  intro e he
  unfold oracleCoherent at h
  rw [List.all_eq_true] at h
  simpa using h e he

end Carquet.Proofs.SpecFile
