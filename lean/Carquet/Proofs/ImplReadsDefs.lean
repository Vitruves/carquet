import Carquet.Impl.ReaderTableSpec
import Carquet.Impl.ReaderClaim
import Carquet.Spec.File.Admissible
import Carquet.Proofs.SpecFileFooterFull
import Carquet.Proofs.ThriftStructs
import Carquet.Proofs.ImplReadsPages
/-
C06, implementation half (`C06_impl_reads_reference`): the definitions shared by the stage proofs
(Proofs/ImplReads*.lean) — how the objects of the reference writer (`Spec.File.write`) look from
carquet's reader model (`Impl.Reader`): column readers, decoded pages and dictionaries, the library
contract on GZIP / ZSTD bodies, the metadata records of the footer.  (Pages as the loaders meet them,
`RPage` / `DataPageOk` / `DictPageOk`, are in Proofs/ImplReadsPages: they do not depend on the writer.)
-/
namespace Carquet.Proofs.ImplReads
open Carquet.Spec Carquet.Spec.File Carquet.Spec.Thrift
open Carquet.Impl
open Carquet.Impl.Reader hiding Bytes
open Carquet.Impl.ThriftParquetReq (PageHdr parsePageHeaderC)
open Carquet.Proofs.SpecFile (CcDesc RgDesc2)

/-! ### columns, pages, dictionaries -/

/-- the column reader `get_column` creates for a leaf of the schema and the chunk's metadata -/
def colOfLeaf (leaf : LeafInfo) (cm : ThriftParquet.ColumnMetaData) : Col :=
  ⟨cm, leaf.maxDef, leaf.maxRep, (ptypeCode leaf.ptype : Int), (leaf.typeLength : Int)⟩

/-- the decoded page (`decoded_def_levels`, `decoded_rep_levels`, dense `decoded_values`) that stands
for the entries of one data page -/
def decodedOfEntries (es : List Entry) : Decoded := ⟨es.map (·.dl), es.map (·.rep), es.filterMap (·.val)⟩

/-- offsets of the length prefixes of the entries of a PLAIN BYTE_ARRAY dictionary page, the first
one at `pos` -/
def dictOffsets : Nat → List Bytes → List Nat
  | _, [] => []
  | pos, v :: r => pos :: dictOffsets (pos + 4 + v.length) r

/-- the dictionary a column reader of `leaf` holds after `carquet_read_dictionary_page` on the PLAIN
page of `values`: BYTE_ARRAY keeps the page and an offset per entry, the fixed-width types the
concatenated values -/
def dictOf (leaf : LeafInfo) (values : List Bytes) : Dict :=
  if leaf.ptype = .byteArray then ⟨plainEncode leaf values, (values.length : Int), dictOffsets 0 values⟩
  else ⟨plainEncode leaf values, (values.length : Int), []⟩

/-! ### GZIP / ZSTD: the library contract on the stored bodies of a file -/

/-- a gzip member (RFC 1952 magic) -/
def isGzip (c : Bytes) : Bool := c.take 2 == [0x1f, 0x8b]
/-- a zstd frame (RFC 8878 magic) -/
def isZstd (c : Bytes) : Bool := c.take 4 == [0x28, 0xB5, 0x2F, 0xFD]

/-- **The library contract on a file**: zlib (behind `carquet_gzip_decompress`) inflates every gzip
member of the table to its contents, libzstd every zstd frame, when given the contents' length as
output capacity.  `oracle` is the table of GZIP / ZSTD page bodies the reference writer returns with
the file (`writeFull`).  (zlib and libzstd are in the trusted base; the bodies are stored-block
members and raw/RLE-block frames, which every conforming inflater decodes.) -/
structure LibsDecode (L : Libs) (o : Oracle) : Prop where
  gzip : ∀ e ∈ o, isGzip e.1 = true → L.gzip.decompress e.1 e.2.length = some e.2
  zstd : ∀ e ∈ o, isZstd e.1 = true → L.zstd.decompress e.1 e.2.length = some e.2

theorem LibsDecode.mono {L : Libs} {o o' : Oracle} (h : LibsDecode L o) (hs : ∀ e ∈ o', e ∈ o) : LibsDecode L o' :=
  ⟨fun e he => h.gzip e (hs e he), fun e he => h.zstd e (hs e he)⟩

/-! ### the metadata structures `parquet_parse_file_metadata` builds from the reference writer's footer -/

def implStats (fs : Fields) : ThriftParquet.Statistics := Carquet.Proofs.Thrift.ofFields Carquet.Proofs.Thrift.tblStats {} fs

/-- ColumnMetaData (`strdup`ed path elements end at their first NUL) -/
def implCM (m : ColumnMeta) (stats : Option Fields) : ThriftParquet.ColumnMetaData :=
  { type := (m.ptype : Int), encodings := m.encodings, pathInSchema := m.path.map ThriftParquet.cstr,
    codec := (m.codec : Int), numValues := (m.numValues : Int), totalUncompressedSize := (m.totalUncompressed : Int),
    totalCompressedSize := (m.totalCompressed : Int), dataPageOffset := (m.dataPageOffset : Int),
    dictionaryPageOffset := m.dictionaryPageOffset.map (fun n => (n : Int)), statistics := stats.map implStats }

def implCC (d : CcDesc) : ThriftParquet.ColumnChunk := { fileOffset := (d.off : Int), metaData := some (implCM d.m d.stats) }

def implRG (g : RgDesc2) : ThriftParquet.RowGroup :=
  { columns := g.chunks.map implCC, totalByteSize := (g.totalByteSize : Int), numRows := (g.numRows : Int) }

def implUnit : Schema.AnnotTimeUnit → ThriftParquet.TimeUnit
  | .millis => .millis | .micros => .micros | .nanos => .nanos

/-- the `carquet_logical_type_t` carquet's parser makes of a LogicalType union that states the annotation -/
def implLogical : Schema.Annotation → ThriftParquet.LogicalType
  | .string => .string | .map => .map | .list => .list | .enum => .enum
  | .decimal s p => .decimal s p
  | .date => .date
  | .time utc u => .time utc (implUnit u)
  | .timestamp utc u => .timestamp utc (implUnit u)
  | .integer bw sg => .integer bw sg
  | .nullType => .null | .json => .json | .bson => .bson | .uuid => .uuid | .float16 => .float16

def implSE (e : Schema.Element) : ThriftParquet.SchemaElement :=
  { type := e.info.ptype.map (fun n => (n : Int)), typeLength := e.info.typeLength,
    repetition := e.info.rep.map repCode, name := some (ThriftParquet.cstr (strBytes e.info.name)),
    numChildren := e.numChildren, convertedType := e.info.logical.map (fun n => (n : Int)),
    logicalType := e.info.logicalType.map implLogical }

/-! ### what carquet's Thrift reader bounds (defined next to the reader model, Impl/ReaderClaim.lean) -/

export Carquet.Impl.Reader.Claim (extrasDepth pageExtrasDepthOk dictExtrasDepthOk chunkExtrasDepthOk layoutExtrasDepthOk
  windowOk pageWindowOk pagesWindowOk chunkWindowOk pagesNonEmpty chunkClaimed fileClaimed)

end Carquet.Proofs.ImplReads
