import Carquet.Proofs.DeltaTop
import Carquet.Impl.DeltaLength
import Carquet.Impl.DeltaStrings
/-
DELTA_LENGTH_BYTE_ARRAY and DELTA_BYTE_ARRAY: round trips of the Impl models and both directions
against the Spec, on top of the DELTA_BINARY_PACKED INT32 results.
-/
namespace Carquet.Impl.DeltaLength
open Carquet.Impl.Delta
open Carquet.Spec.Delta (Stream)

theorem ofNat32_toNat (n : Nat) (h : n < 2 ^ 31) : (BitVec.ofNat 32 n).toNat = n := by
  rw [BitVec.toNat_ofNat, Nat.mod_eq_of_lt (by omega)]

theorem ofNat32_toInt (n : Nat) (h : n < 2 ^ 31) : (BitVec.ofNat 32 n).toInt = (n : Int) := by
  rw [BitVec.toInt_eq_toNat_cond, ofNat32_toNat n h]
  have : 2 * n < 2 ^ 32 := by omega
  simp [this]

theorem map_toInt_lens (vs : List (List UInt8)) (h : ∀ v ∈ vs, v.length < 2 ^ 31) :
    (vs.map (fun v => BitVec.ofNat 32 v.length)).map BitVec.toInt = vs.map (fun v => Int.ofNat v.length) := by
  rw [List.map_map]
  apply List.map_congr_left
  intro v hv
  exact ofNat32_toInt _ (h v hv)

theorem splitByLengths_flatten (vs : List (List UInt8)) (tail : List UInt8) :
    Spec.Delta.splitByLengths (vs.map (fun v => Int.ofNat v.length)) (vs.flatten ++ tail) = .ok (vs, tail) := by
  induction vs with
  | nil => rfl
  | cons v vs ih =>
    simp only [List.map_cons, Spec.Delta.splitByLengths, List.flatten_cons, List.append_assoc]
    rw [if_neg (by simp), if_neg (by simp)]
    simp only [Int.ofNat_eq_natCast, Int.toNat_natCast] at ih ⊢
    rw [List.drop_left, ih, List.take_left]

theorem encode_parts (vs : List (List UInt8)) (bs : List UInt8) (hne : vs ≠ []) (henc : encode vs = .ok bs) :
    ∃ lb, encodeInt32 (vs.map (fun v => BitVec.ofNat 32 v.length)) (lengthsCapacity vs.length) = .ok lb ∧
      bs = lb ++ vs.flatten := by
  rw [encode, if_neg hne] at henc
  split at henc
  · cases henc
  · rename_i lb hl
    exact ⟨lb, hl, (Except.ok.inj henc).symm⟩

/-- C12, carquet → Spec, DELTA_LENGTH_BYTE_ARRAY -/
theorem to_spec (vs : List (List UInt8)) (bs tail : List UInt8) (hne : vs ≠ [])
    (hlen : vs.length ≤ 2147483647) (hv : ∀ v ∈ vs, v.length < 2 ^ 31) (henc : encode vs = .ok bs) :
    Spec.Delta.decodeLengthByteArray (bs ++ tail) = .ok (vs, tail) := by
  obtain ⟨lb, hl, rfl⟩ := encode_parts vs bs hne henc
  have hsp := int32_to_spec (vs.map (fun v => BitVec.ofNat 32 v.length)) _ lb (vs.flatten ++ tail)
    (by simpa using hne) (by simpa using hlen) hl
  unfold Spec.Delta.decodeLengthByteArray
  rw [List.append_assoc, hsp]
  simp only
  rw [map_toInt_lens vs hv, splitByLengths_flatten]

theorem splitByLengths_ok (ls : List Int) : ∀ (rest : List UInt8) (vals : List (List UInt8)) (rest' : List UInt8),
    Spec.Delta.splitByLengths ls rest = .ok (vals, rest') →
    (∀ l ∈ ls, 0 ≤ l) ∧ vals = slices (ls.map Int.toNat) rest ∧
    (ls.map Int.toNat).sum ≤ rest.length ∧ rest' = rest.drop (ls.map Int.toNat).sum := by
  induction ls with
  | nil =>
    intro rest vals rest' h
    simp only [Spec.Delta.splitByLengths, Except.ok.injEq, Prod.mk.injEq] at h
    obtain ⟨rfl, rfl⟩ := h
    simp [slices]
  | cons l ls ih =>
    intro rest vals rest' h
    simp only [Spec.Delta.splitByLengths] at h
    split at h
    · cases h
    · split at h
      · cases h
      · rename_i hneg hshort
        cases hr : Spec.Delta.splitByLengths ls (rest.drop l.toNat) with
        | error e => rw [hr] at h; cases h
        | ok p =>
          obtain ⟨vs', r'⟩ := p
          rw [hr] at h
          simp only [Except.ok.injEq, Prod.mk.injEq] at h
          obtain ⟨rfl, rfl⟩ := h
          obtain ⟨h1, h2, h3, h4⟩ := ih _ _ _ hr
          refine ⟨List.forall_mem_cons.mpr ⟨by omega, h1⟩, ?_, ?_, ?_⟩
          · simp [slices, h2]
          · simp only [List.map_cons, List.sum_cons]
            rw [List.length_drop] at h3
            omega
          · simp only [List.map_cons, List.sum_cons]
            rw [h4, List.drop_drop]

theorem toNat_of_nonneg32 (x : BitVec 32) (h : 0 ≤ x.toInt) : x.toNat = x.toInt.toNat := by
  rw [BitVec.toInt_eq_toNat_cond] at h ⊢
  split at h <;> rename_i hc
  · rw [if_pos hc]; simp
  · have := x.isLt
    omega

theorem nonneg_ofInt32 (s : Stream) (h : ∀ y ∈ s.values 32, 0 ≤ y) :
    ∀ b ∈ (s.values 32).map (BitVec.ofInt 32), 0 ≤ b.toInt := by
  intro b hb
  have : b.toInt ∈ ((s.values 32).map (BitVec.ofInt 32)).map BitVec.toInt := List.mem_map_of_mem hb
  rw [toInt_ofInt_values] at this
  exact h _ this

theorem map_toNat_ofInt32 (s : Stream) (h : ∀ y ∈ s.values 32, 0 ≤ y) :
    ((s.values 32).map (BitVec.ofInt 32)).map (fun l => l.toNat) = (s.values 32).map Int.toNat := by
  conv => rhs; rw [← toInt_ofInt_values 32 s, List.map_map]
  exact List.map_congr_left fun l hl => toNat_of_nonneg32 l (nonneg_ofInt32 s h l hl)

theorem any_neg_false (a : List (BitVec 32)) (ha : ∀ x ∈ a, 0 ≤ x.toInt) :
    a.any (fun l => decide (l.toInt < 0)) = false := by
  rw [List.any_eq_false]
  intro l hl
  have := ha l hl
  simp; omega

/-- C12, Spec → carquet, DELTA_LENGTH_BYTE_ARRAY: whenever the length stream is a grammar stream of
geometry 128/4 and the reference decoder accepts the whole input, carquet returns the same byte
arrays and reports the same end of stream. -/
theorem from_spec (s : Stream) (rest rest' : List UInt8) (vals : List (List UInt8))
    (hwf : s.wf) (hg : s.geom = ⟨128, 4⟩) (hcnt : s.count ≤ 2147483647) (hc : 0 < s.count)
    (hspec : Spec.Delta.decodeLengthByteArray (s.bytes ++ rest) = .ok (vals, rest')) :
    decode (s.bytes ++ rest) s.count = .ok (vals, s.bytes.length + rest.length - rest'.length) := by
  unfold Spec.Delta.decodeLengthByteArray at hspec
  rw [Spec.Delta.decode_stream 32 s rest hwf] at hspec
  simp only at hspec
  obtain ⟨h1, h2, h3, h4⟩ := splitByLengths_ok _ _ _ _ hspec
  unfold decode
  rw [if_neg (by omega), Int.toNat_natCast, stream_decodeInt32 s rest hwf hg hcnt]
  simp only
  rw [any_neg_false _ (nonneg_ofInt32 s h1)]
  simp only [Bool.false_eq_true, if_false, map_toNat_ofInt32 s h1]
  rw [if_neg (by simp only [List.length_append]; omega), List.drop_left, ← h2, h4, List.length_drop]
  congr 2
  omega

/-- C11 for DELTA_LENGTH_BYTE_ARRAY on the models -/
theorem roundtrip (vs : List (List UInt8)) (bs tail : List UInt8) (hne : vs ≠ [])
    (hlen : vs.length ≤ 2147483647) (hv : ∀ v ∈ vs, v.length < 2 ^ 31) (henc : encode vs = .ok bs) :
    decode (bs ++ tail) vs.length = .ok (vs, bs.length) := by
  have hsp := to_spec vs bs tail hne hlen hv henc
  obtain ⟨lb, hl, rfl⟩ := encode_parts vs bs hne henc
  obtain ⟨s, hwf, hg, rfl, hcnt, _⟩ := encodeInt32_stream _ _ lb (by simpa using hne) (by simpa using hlen) hl
  rw [List.length_map] at hcnt
  rw [List.append_assoc] at hsp ⊢
  rw [← hcnt, from_spec s _ tail vs hwf hg (hcnt ▸ hlen) (by rw [hcnt]; exact List.length_pos_iff.mpr hne) hsp]
  simp only [List.length_append, ← Nat.add_assoc, Nat.add_sub_cancel]

end Carquet.Impl.DeltaLength

namespace Carquet.Impl.DeltaStrings
open Carquet.Impl.Delta Carquet.Impl.DeltaLength
open Carquet.Spec.Delta (Stream)

theorem commonPrefix_spec (a b : List UInt8) :
    commonPrefixLength a b ≤ a.length ∧ commonPrefixLength a b ≤ b.length ∧
    a.take (commonPrefixLength a b) = b.take (commonPrefixLength a b) := by
  induction a generalizing b with
  | nil => simp [commonPrefixLength]
  | cons x xs ih =>
    cases b with
    | nil => simp [commonPrefixLength]
    | cons y ys =>
      simp only [commonPrefixLength]
      by_cases h : x = y
      · subst h
        obtain ⟨h1, h2, h3⟩ := ih ys
        simp only [if_true, List.length_cons, List.take_succ_cons, h3]
        exact ⟨by omega, by omega, trivial⟩
      · simp [h]

/-- suffix lengths and suffixes the encoder derives from its prefix lengths -/
def suffixLens (pl : List Nat) (vs : List (List UInt8)) : List Nat := List.zipWith (fun p v => v.length - p) pl vs
def suffixes (pl : List Nat) (vs : List (List UInt8)) : List (List UInt8) := List.zipWith (fun p (v : List UInt8) => v.drop p) pl vs

theorem prefixLengths_nil (prev : Option (List UInt8)) : prefixLengths prev [] = [] := by
  cases prev <;> rfl

/-- no previous value and an empty previous value give the same prefix length, 0 -/
theorem prefixLengths_cons (prev : Option (List UInt8)) (v : List UInt8) (vs : List (List UInt8)) :
    prefixLengths prev (v :: vs) = commonPrefixLength (prev.getD []) v :: prefixLengths (some v) vs := by
  cases prev <;> rfl

theorem length_prefixLengths (prev : Option (List UInt8)) (vs : List (List UInt8)) :
    (prefixLengths prev vs).length = vs.length := by
  induction vs generalizing prev with
  | nil => rw [prefixLengths_nil]; rfl
  | cons v vs ih => rw [prefixLengths_cons, List.length_cons, ih, List.length_cons]

theorem prefixLengths_le (prev : Option (List UInt8)) (vs : List (List UInt8)) (h : ∀ v ∈ vs, v.length < 2 ^ 31) :
    ∀ p ∈ prefixLengths prev vs, p < 2 ^ 31 := by
  induction vs generalizing prev with
  | nil => rw [prefixLengths_nil]; simp
  | cons v vs ih =>
    rw [prefixLengths_cons]
    exact List.forall_mem_cons.mpr ⟨Nat.lt_of_le_of_lt (commonPrefix_spec _ v).2.1 (h v (by simp)),
      ih (some v) (fun x hx => h x (by simp [hx]))⟩

theorem suffixLens_lt (pl : List Nat) (vs : List (List UInt8)) (h : ∀ v ∈ vs, v.length < 2 ^ 31) :
    ∀ x ∈ suffixLens pl vs, x < 2 ^ 31 := by
  induction vs generalizing pl with
  | nil => simp [suffixLens]
  | cons v vs ih =>
    cases pl with
    | nil => simp [suffixLens]
    | cons p pl =>
      exact List.forall_mem_cons.mpr ⟨Nat.lt_of_le_of_lt (Nat.sub_le _ _) (h v (by simp)),
        ih pl (fun y hy => h y (by simp [hy]))⟩

theorem suffixes_lens (pl : List Nat) (vs : List (List UInt8)) :
    (suffixes pl vs).map List.length = suffixLens pl vs := by
  simp [suffixes, suffixLens, List.map_zipWith]

theorem zipWith_suffixLens (pl : List Nat) (vs : List (List UInt8)) :
    List.zipWith (fun p (v : List UInt8) => BitVec.ofNat 32 (v.length - p)) pl vs =
      (suffixLens pl vs).map (BitVec.ofNat 32) := by
  simp [suffixLens, List.map_zipWith]

theorem map_ofNat32_toInt (l : List Nat) (h : ∀ x ∈ l, x < 2 ^ 31) :
    (l.map (BitVec.ofNat 32)).map BitVec.toInt = l.map Int.ofNat := by
  rw [List.map_map]
  exact List.map_congr_left (fun x hx => ofNat32_toInt x (h x hx))

theorem zip_any_neg_false (a b : List (BitVec 32)) (ha : ∀ x ∈ a, 0 ≤ x.toInt) (hb : ∀ x ∈ b, 0 ≤ x.toInt) :
    (List.zip a b).any (fun sp => decide (sp.1.toInt < 0 ∨ sp.2.toInt < 0)) = false := by
  rw [List.any_eq_false]
  intro sp hsp
  obtain ⟨x, y⟩ := sp
  obtain ⟨hx, hy⟩ := List.of_mem_zip hsp
  have := ha x hx
  have := hb y hy
  simp; omega

theorem encode_parts (vs : List (List UInt8)) (bs : List UInt8) (hne : vs ≠ []) (henc : encode vs = .ok bs) :
    ∃ pre suf,
      encodeInt32 ((prefixLengths none vs).map (BitVec.ofNat 32)) (deltaCapacity vs.length) = .ok pre ∧
      encodeInt32 ((suffixLens (prefixLengths none vs) vs).map (BitVec.ofNat 32)) (deltaCapacity vs.length) = .ok suf ∧
      bs = pre ++ suf ++ (suffixes (prefixLengths none vs) vs).flatten := by
  rw [encode, if_neg hne, zipWith_suffixLens] at henc
  split at henc
  · cases henc
  · rename_i pre h1
    split at henc
    · cases henc
    · rename_i suf h2
      exact ⟨pre, suf, h1, h2, (Except.ok.inj henc).symm⟩

theorem ne_nil_of_length {α β : Type} {l : List α} {m : List β} (h : l.length = m.length) (hm : m ≠ []) : l ≠ [] :=
  fun e => hm (List.length_eq_zero_iff.mp (by rw [← h, e]; rfl))

theorem length_suffixLens (vs : List (List UInt8)) :
    (suffixLens (prefixLengths none vs) vs).length = vs.length := by
  simp [suffixLens, length_prefixLengths]

theorem joinPrefixes_encoded (vs : List (List UInt8)) : ∀ (prev : Option (List UInt8)),
    Spec.Delta.joinPrefixes (prev.getD []) ((prefixLengths prev vs).map Int.ofNat)
      (suffixes (prefixLengths prev vs) vs) = .ok vs := by
  induction vs with
  | nil => intro prev; rw [prefixLengths_nil]; rfl
  | cons v vs ih =>
    intro prev
    obtain ⟨h1, _, h3⟩ := commonPrefix_spec (prev.getD []) v
    have := ih (some v)
    simp only [Option.getD_some, suffixes] at this
    rw [prefixLengths_cons]
    simp only [List.map_cons, suffixes, List.zipWith_cons_cons, Spec.Delta.joinPrefixes]
    rw [if_neg (by simp), if_neg (by simp; omega)]
    simp only [Int.ofNat_eq_natCast, Int.toNat_natCast]
    rw [h3, List.take_append_drop, this]

/-- C12, carquet → Spec, DELTA_BYTE_ARRAY -/
theorem to_spec (vs : List (List UInt8)) (bs tail : List UInt8) (hne : vs ≠ [])
    (hlen : vs.length ≤ 2147483647) (hv : ∀ v ∈ vs, v.length < 2 ^ 31) (henc : encode vs = .ok bs) :
    Spec.Delta.decodeByteArray (bs ++ tail) = .ok (vs, tail) := by
  obtain ⟨pre, suf, h1, h2, rfl⟩ := encode_parts vs bs hne henc
  have hpl := prefixLengths_le none vs hv
  have hsl := suffixLens_lt (prefixLengths none vs) vs hv
  have r1 := int32_to_spec _ _ pre (suf ++ ((suffixes (prefixLengths none vs) vs).flatten ++ tail))
    (ne_nil_of_length (by simp [length_prefixLengths]) hne)
    (by simpa [length_prefixLengths] using hlen) h1
  have r2 := int32_to_spec _ _ suf ((suffixes (prefixLengths none vs) vs).flatten ++ tail)
    (ne_nil_of_length (by simp [length_suffixLens]) hne)
    (by simpa [length_suffixLens] using hlen) h2
  unfold Spec.Delta.decodeByteArray Spec.Delta.decodeLengthByteArray
  simp only [List.append_assoc]
  rw [r1]
  simp only
  rw [r2]
  simp only
  rw [map_ofNat32_toInt _ hsl, map_ofNat32_toInt _ hpl]
  have hs : (suffixLens (prefixLengths none vs) vs).map Int.ofNat =
      (suffixes (prefixLengths none vs) vs).map (fun v => Int.ofNat v.length) := by
    rw [← suffixes_lens, List.map_map]; rfl
  rw [hs, splitByLengths_flatten]
  simp only
  have := joinPrefixes_encoded vs none
  simp only [Option.getD_none] at this
  rw [this]

theorem length_slices (ls : List Nat) (data : List UInt8) : (slices ls data).length = ls.length := by
  induction ls generalizing data with
  | nil => rfl
  | cons l ls ih => simp [slices, ih]

/-- the C test on a prefix length (`prev_string == NULL`, or longer than the previous value as `int32_t`)
is "longer than the previous value", below 2 GiB -/
theorem prefix_check (prev : Option (List UInt8)) (p : Nat) (h : (prev.getD []).length < 2 ^ 31) :
    (0 < p ∧ (prev = none ∨ asInt32 ((prev.getD []).length) < (p : Int))) ↔ (prev.getD []).length < p := by
  rw [show asInt32 (prev.getD []).length = ((prev.getD []).length : Int) from ofNat32_toInt _ h]
  cases prev with
  | none => simp
  | some pr => simp only [reduceCtorEq, false_or, Option.getD_some]; omega

theorem reconstruct_of_join (work : Nat) : ∀ (Pn Sn : List Nat) (data : List UInt8) (prev : Option (List UInt8))
    (off : Nat) (vals : List (List UInt8)),
    Spec.Delta.joinPrefixes (prev.getD []) (Pn.map Int.ofNat) (slices Sn data) = .ok vals →
    Pn.length = Sn.length → Sn.sum ≤ data.length →
    (prev.getD []).length < 2 ^ 31 → (∀ v ∈ vals, v.length < 2 ^ 31) →
    off + (vals.map List.length).sum ≤ work →
    reconstruct work Pn Sn data off prev = .ok vals
  | [], [], data, prev, off, vals, hj, _, _, _, _, _ => by
    simp only [List.map_nil, slices, Spec.Delta.joinPrefixes, Except.ok.injEq] at hj
    subst hj
    simp [reconstruct]
  | [], _ :: _, _, _, _, _, _, hl, _, _, _, _ | _ :: _, [], _, _, _, _, _, hl, _, _, _, _ => by simp at hl
  | p :: ps, sl :: ss, data, prev, off, vals, hj, hl, hsum, hpr, hvals, hwork => by
    simp only [List.map_cons, slices, Spec.Delta.joinPrefixes] at hj
    rw [if_neg (by simp)] at hj
    simp only [Int.ofNat_eq_natCast, Int.toNat_natCast] at hj
    split at hj
    · cases hj
    · rename_i hple
      cases hr : Spec.Delta.joinPrefixes ((prev.getD []).take p ++ data.take sl) (ps.map Int.ofNat) (slices ss (data.drop sl)) with
      | error e => rw [hr] at hj; cases hj
      | ok vs' =>
        rw [hr] at hj
        simp only [Except.ok.injEq] at hj
        subst hj
        simp only [List.sum_cons] at hsum
        have hvl : ((prev.getD []).take p ++ data.take sl).length = p + sl := by
          rw [List.length_append, List.length_take, List.length_take]; omega
        have hv0 := hvals _ (List.mem_cons_self ..)
        simp only [List.map_cons, List.sum_cons, hvl] at hwork
        rw [hvl] at hv0
        rw [reconstruct, Nat.mod_eq_of_lt (by omega), if_neg (by omega),
          if_neg (by rw [prefix_check prev p hpr]; omega),
          reconstruct_of_join work ps ss (data.drop sl) (some ((prev.getD []).take p ++ data.take sl)) (off + (p + sl)) vs'
            (by simpa using hr) (by simpa using hl) (by rw [List.length_drop]; omega)
            (by rw [Option.getD_some, hvl]; exact hv0) (fun v hv => hvals v (by simp [hv])) (by omega)]

theorem joinPrefixes_nonneg (P : List Int) : ∀ (prev : List UInt8) (sufs vals : List (List UInt8)),
    Spec.Delta.joinPrefixes prev P sufs = .ok vals → (∀ p ∈ P, 0 ≤ p) ∧ P.length = sufs.length := by
  induction P with
  | nil =>
    intro prev sufs vals h
    cases sufs with
    | nil => simp
    | cons s ss => simp [Spec.Delta.joinPrefixes] at h
  | cons p ps ih =>
    intro prev sufs vals h
    cases sufs with
    | nil => simp [Spec.Delta.joinPrefixes] at h
    | cons s ss =>
      simp only [Spec.Delta.joinPrefixes] at h
      split at h
      · cases h
      · split at h
        · cases h
        · rename_i hn _
          cases hr : Spec.Delta.joinPrefixes (prev.take p.toNat ++ s) ps ss with
          | error e => rw [hr] at h; cases h
          | ok vs' =>
            obtain ⟨h1, h2⟩ := ih _ _ _ hr
            exact ⟨List.forall_mem_cons.mpr ⟨by omega, h1⟩, by simp [h2]⟩

/-- C12, Spec → carquet, DELTA_BYTE_ARRAY: prefix-length and suffix-length streams are grammar
streams of geometry 128/4; whenever the reference decoder accepts the whole input, carquet returns
the same byte arrays and the same end of stream (work buffer large enough, values below 2 GiB). -/
theorem from_spec (sP sS : Stream) (rest rest' : List UInt8) (vals : List (List UInt8)) (work : Nat)
    (hwfP : sP.wf) (hgP : sP.geom = ⟨128, 4⟩) (hwfS : sS.wf) (hgS : sS.geom = ⟨128, 4⟩)
    (hcnt : sP.count = sS.count) (hc : 0 < sP.count) (hcount : sP.count ≤ 2147483647)
    (hspec : Spec.Delta.decodeByteArray (sP.bytes ++ (sS.bytes ++ rest)) = .ok (vals, rest'))
    (hwork : (vals.map List.length).sum ≤ work) (hsmall : ∀ v ∈ vals, v.length < 2 ^ 31) :
    decode (sP.bytes ++ (sS.bytes ++ rest)) sP.count work =
      .ok (vals, sP.bytes.length + sS.bytes.length + rest.length - rest'.length) := by
  unfold Spec.Delta.decodeByteArray Spec.Delta.decodeLengthByteArray at hspec
  rw [Spec.Delta.decode_stream 32 sP _ hwfP] at hspec
  simp only at hspec
  rw [Spec.Delta.decode_stream 32 sS _ hwfS] at hspec
  simp only at hspec
  cases hsp : Spec.Delta.splitByLengths (sS.values 32) rest with
  | error e => rw [hsp] at hspec; cases hspec
  | ok q =>
    obtain ⟨sufs, r'⟩ := q
    rw [hsp] at hspec
    simp only at hspec
    cases hj : Spec.Delta.joinPrefixes [] (sP.values 32) sufs with
    | error e => rw [hj] at hspec; cases hspec
    | ok vs' =>
      rw [hj] at hspec
      simp only [Except.ok.injEq, Prod.mk.injEq] at hspec
      obtain ⟨rfl, rfl⟩ := hspec
      obtain ⟨hS0, hsufs, hSsum, hr'⟩ := splitByLengths_ok _ _ _ _ hsp
      obtain ⟨hP0, hPlen⟩ := joinPrefixes_nonneg _ _ _ _ hj
      unfold decode
      rw [if_neg (by omega), Int.toNat_natCast, stream_decodeInt32 sP _ hwfP hgP hcount]
      simp only
      rw [List.drop_left, hcnt, stream_decodeInt32 sS _ hwfS hgS (hcnt ▸ hcount)]
      simp only
      rw [zip_any_neg_false _ _ (nonneg_ofInt32 sS hS0) (nonneg_ofInt32 sP hP0)]
      simp only [Bool.false_eq_true, if_false]
      rw [map_toNat_ofInt32 sS hS0, map_toNat_ofInt32 sP hP0]
      have hd : ∀ (a b c : List UInt8), (a ++ (b ++ c)).drop (a.length + b.length) = c := by
        intro a b c; rw [← List.drop_drop, List.drop_left, List.drop_left]
      rw [if_neg (by simp only [List.length_append]; omega), hd]
      have hPback : ((sP.values 32).map Int.toNat).map Int.ofNat = sP.values 32 := by
        rw [List.map_map]
        conv => rhs; rw [← List.map_id (sP.values 32)]
        apply List.map_congr_left
        intro y hy
        simp only [Function.comp_def, Int.ofNat_eq_natCast, id]
        exact Int.toNat_of_nonneg (hP0 y hy)
      have := reconstruct_of_join work ((sP.values 32).map Int.toNat) ((sS.values 32).map Int.toNat) rest none 0 vs'
        (by simpa [hPback, ← hsufs] using hj)
        (by simp only [List.length_map]; rw [hPlen, hsufs, length_slices]; simp)
        hSsum (by simp) hsmall (by omega)
      rw [this, hr', List.length_drop]
      simp only [Except.ok.injEq, Prod.mk.injEq, true_and]
      omega

/-- C11 for DELTA_BYTE_ARRAY on the models -/
theorem roundtrip (vs : List (List UInt8)) (bs tail : List UInt8) (work : Nat) (hne : vs ≠ [])
    (hlen : vs.length ≤ 2147483647) (hv : ∀ v ∈ vs, v.length < 2 ^ 31)
    (hwork : (vs.map List.length).sum ≤ work) (henc : encode vs = .ok bs) :
    decode (bs ++ tail) vs.length work = .ok (vs, bs.length) := by
  have hsp := to_spec vs bs tail hne hlen hv henc
  obtain ⟨pre, suf, h1, h2, rfl⟩ := encode_parts vs bs hne henc
  obtain ⟨sP, hwfP, hgP, rfl, hcP, _⟩ := encodeInt32_stream _ _ pre
    (ne_nil_of_length (by simp [length_prefixLengths]) hne) (by simpa [length_prefixLengths] using hlen) h1
  obtain ⟨sS, hwfS, hgS, rfl, hcS, _⟩ := encodeInt32_stream _ _ suf
    (ne_nil_of_length (by simp [length_suffixLens]) hne) (by simpa [length_suffixLens] using hlen) h2
  simp only [List.length_map, length_prefixLengths, length_suffixLens] at hcP hcS
  simp only [List.append_assoc] at hsp ⊢
  rw [← hcP, from_spec sP sS _ tail vs work hwfP hgP hwfS hgS (by rw [hcP, hcS])
    (by rw [hcP]; exact List.length_pos_iff.mpr hne) (hcP ▸ hlen) hsp hwork hv]
  simp only [List.length_append, ← Nat.add_assoc, Nat.add_sub_cancel]

end Carquet.Impl.DeltaStrings
