import Carquet.Spec.Lz4
import Carquet.Impl.Lz4
import Carquet.Proofs.Lz4Spec
import Carquet.Proofs.Lz4Comp
/-
Fuel bounds: every fuel-driven loop of the LZ4 models is started with enough fuel — giving it
more does not change its result, i.e. the `0`-fuel branch is never what decides.
(`Impl.Lz4.chain`: inside `Lz4Decomp.chain_sim`; `chainBytes`: `Lz4Comp.chainBytes_eq`.)
-/
namespace Carquet.Proofs.Lz4Fuel
open Carquet
open Carquet.Impl.Lz4
open Carquet.Proofs.Lz4Comp

theorem findLoop_succ (src : Bytes) (n f ip anchor : Nat) (tbl : Array UInt16) (acc : List Seq) :
    findLoop src n (f + 1) ip anchor tbl acc =
      if ip + 4 < n then
        match probe src n ip tbl with
        | some (off, mlen) =>
          findLoop src n f (ip + mlen) (ip + mlen)
            (afterMatch src n (ip + mlen) (insert tbl (hashAt src ip) ip)) (⟨anchor, ip, off, mlen⟩ :: acc)
        | none => findLoop src n f (ip + 1) anchor (insert tbl (hashAt src ip) ip) acc
      else (acc, anchor) := rfl

theorem countTail_fuel (src : Bytes) (limit : Nat) : ∀ (fuel p m acc : Nat), limit - p ≤ fuel →
    countTail src limit (fuel + 1) p m acc = countTail src limit fuel p m acc := by
  intro fuel p m acc h
  rw [countTail_eq src limit _ _ _ _ h, countTail_eq src limit _ _ _ _ (Nat.le_succ_of_le h)]

/-- the inner `while (*p == *match)` of `lz4_count` has no bound test in C: it is entered only when a difference lies
within the 8 bytes its fuel covers -/
theorem countFast_firstDiff_fuel (src : Bytes) (p m acc : Nat) (h : ¬ eq8 src p m = true) :
    firstDiff src (8 + 1) p m acc = firstDiff src 8 p m acc := by
  rw [firstDiff_eq, firstDiff_eq, runLen_stop src 8 p m 9 (Nat.lt_of_le_of_ne (runLen_le src 8 p m)
    (fun e => h (eq8_iff_agree.mpr (e ▸ runLen_agree src 8 p m)))) (by omega)]

theorem findLoop_fuel (src : Bytes) (n : Nat) : ∀ (fuel ip anchor : Nat) (tbl : Array UInt16) (acc : List Seq),
    n - ip ≤ fuel →
    findLoop src n (fuel + 1) ip anchor tbl acc = findLoop src n fuel ip anchor tbl acc := by
  intro fuel
  induction fuel with
  | zero =>
    intro ip anchor tbl acc h
    rw [findLoop_succ, if_neg (by omega)]
    rfl
  | succ fuel ih =>
    intro ip anchor tbl acc h
    rw [findLoop_succ src n (fuel + 1) ip anchor tbl acc, findLoop_succ src n fuel ip anchor tbl acc]
    split
    · split
      · rename_i off mlen hp
        have := (probe_ok tbl hp).mlen_ge
        exact ih _ _ _ _ (by omega)
      · exact ih _ _ _ _ (by omega)
    · rfl

theorem spec_loop_fuel (bs : List UInt8) (out : Array UInt8) (cap : Nat) (o : Array UInt8) (f1 f2 : Nat)
    (h1 : bs.length < f2) (h : Spec.Lz4.loop f1 bs out cap = .ok o) : Spec.Lz4.loop f2 bs out cap = .ok o := by
  obtain ⟨hs, hle⟩ := Lz4Spec.loop_sound f1 bs out cap o h
  simpa using Lz4Spec.loop_complete hs f2 cap h1 (by simpa using hle)

theorem findLoop_fuel_add (src : Bytes) (n : Nat) (tbl : Array UInt16) (acc : List Seq) : ∀ k : Nat,
    findLoop src n (n + k) 0 0 tbl acc = findLoop src n n 0 0 tbl acc := by
  intro k
  induction k with
  | zero => rfl
  | succ k ih => rw [← Nat.add_assoc, findLoop_fuel src n (n + k) 0 0 tbl acc (by omega), ih]

theorem count_fuel_add (src : Bytes) (p m limit k : Nat) :
    countFast src limit (limit - p + 1 + k) p m 0 = count src p m limit := by
  rw [count_eq, countFast_eq src limit _ p m 0 (by omega), Nat.zero_add]

theorem decode_fuel_add (bs : List UInt8) (cap : Nat) (o : Array UInt8) (k : Nat) :
    Spec.Lz4.loop (bs.length + 1 + k) bs #[] cap = .ok o ↔ Spec.Lz4.loop (bs.length + 1) bs #[] cap = .ok o :=
  ⟨spec_loop_fuel bs #[] cap o _ _ (by omega), spec_loop_fuel bs #[] cap o _ _ (by omega)⟩

end Carquet.Proofs.Lz4Fuel
