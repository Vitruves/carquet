import Carquet.Spec.Lz4
import Carquet.Impl.Lz4
import Carquet.Proofs.Lz4Spec
/-
The model of `carquet_lz4_decompress` (after fix F40) computes the Spec decoder: same result on
every input and capacity, every Spec error being `invalidData`, and the fail-stop memory errors
`oobRead` / `oobWrite` never occurring.
-/
namespace Carquet.Proofs.Lz4Decomp
open Carquet
open Carquet.Spec.Lz4 (applyMatch copy1 readChain readLen)
open Carquet.Proofs.Lz4Spec

/-- status mapping: every format error is `CARQUET_ERROR_INVALID_COMPRESSED_DATA` -/
def mapR : Except Spec.Lz4.Err (Array UInt8) → Except Impl.Lz4.Err (Array UInt8)
  | .ok o => .ok o
  | .error _ => .error .invalidData

/-- the Impl step does what the Spec step does, at position `ip' > ip0` of `bs` -/
inductive Sim (bs : List UInt8) (cap ip0 : Nat) : Spec.Lz4.Step → Impl.Lz4.Step → Prop
  | done (r : Except Spec.Lz4.Err (Array UInt8)) : Sim bs cap ip0 (.done r) (.done (mapR r))
  | more (ip' : Nat) (o : Array UInt8) :
      ip0 < ip' → ip' ≤ bs.length → o.size ≤ cap → Sim bs cap ip0 (.more (bs.drop ip') o) (.more ip' o)

theorem Sim.err {bs : List UInt8} {cap ip0 : Nat} (e : Spec.Lz4.Err) :
    Sim bs cap ip0 (.done (.error e)) (.done (.error .invalidData)) :=
  Sim.done (.error e)

/-! ### length chains -/

theorem chain_sim (bs : List UInt8) : ∀ (fuel ip acc : Nat), bs.length - ip < fuel → ip ≤ bs.length →
    (readChain (bs.drop ip) acc = none → Impl.Lz4.chain bs.toArray fuel ip acc = .error .invalidData) ∧
    (∀ v rest, readChain (bs.drop ip) acc = some (v, rest) →
      ∃ ip', Impl.Lz4.chain bs.toArray fuel ip acc = .ok (v, ip') ∧
        rest = bs.drop ip' ∧ ip < ip' ∧ ip' ≤ bs.length) := by
  intro fuel
  induction fuel with
  | zero => intro ip acc h; omega
  | succ fuel ih =>
    intro ip acc hf hip
    by_cases hlt : ip < bs.length
    · rw [List.drop_eq_getElem_cons hlt]
      simp only [readChain, Impl.Lz4.chain, List.size_toArray, List.getElem?_toArray]
      rw [if_neg (show ¬ (bs.length ≤ ip) by omega)]
      simp only [List.getElem?_eq_getElem hlt]
      by_cases h255 : bs[ip] = 255
      · rw [if_pos h255, if_pos h255]
        obtain ⟨ihn, ihs⟩ := ih (ip + 1) (acc + 255) (by omega) (by omega)
        refine ⟨ihn, ?_⟩
        intro v rest h
        obtain ⟨ip', h1, h2, h3, h4⟩ := ihs v rest h
        exact ⟨ip', h1, h2, by omega, h4⟩
      · rw [if_neg h255, if_neg h255]
        refine ⟨by simp, ?_⟩
        intro v rest h
        simp only [Option.some.injEq, Prod.mk.injEq] at h
        exact ⟨ip + 1, by rw [h.1], h.2.symm, by omega, by omega⟩
    · have hnil : bs.drop ip = [] := List.drop_eq_nil_of_le (by omega)
      rw [hnil]
      simp only [readChain, Impl.Lz4.chain, List.size_toArray]
      rw [if_pos (show bs.length ≤ ip by omega)]
      simp

/-! ### match copy -/

theorem copyMatch_size {off : Nat} (h0 : 0 < off) (n : Nat) (l : List UInt8) (h1 : off ≤ l.length) :
    (Spec.Lz4.copyMatch l.toArray off n).size = l.length + n := by
  rw [copyMatch_eq h0 n l h1]; simp [applyMatch_length h0 n l h1]

theorem copyBytes_eq {off cap : Nat} (h0 : 0 < off) : ∀ (n : Nat) (l : List UInt8), off ≤ l.length →
    l.length + n ≤ cap → Impl.Lz4.copyBytes off cap n l.toArray = .ok (applyMatch l off n).toArray
  | 0, _, _, _ => rfl
  | n + 1, l, h1, hc => by
    simp only [Impl.Lz4.copyBytes, List.size_toArray, List.getElem?_toArray, Lz77.back_get h0 h1, applyMatch, copy1,
      List.push_toArray]
    rw [if_neg (by omega), if_neg (by omega)]
    exact copyBytes_eq h0 n _ (by simp; omega) (by simp; omega)

theorem copy8_eq {off cap : Nat} (h8 : 8 ≤ off) (l : List UInt8) (h1 : off ≤ l.length)
    (hc : l.length + 8 ≤ cap) : Impl.Lz4.copy8 l.toArray off cap = .ok (applyMatch l off 8).toArray := by
  simp only [Impl.Lz4.copy8, List.size_toArray]
  rw [if_neg (by omega), if_neg (by omega), if_neg (by omega), applyMatch_eq, Lz77.backCopy_block (by omega) h1 8 h8]
  simp [List.extract_toArray, List.extract_eq_take_drop]

theorem copyWide_eq {off cap : Nat} (h8 : 8 ≤ off) : ∀ (k : Nat) (l : List UInt8), off ≤ l.length →
    l.length + 8 * k ≤ cap → Impl.Lz4.copyWide off cap k l.toArray = .ok (applyMatch l off (8 * k)).toArray := by
  intro k
  induction k with
  | zero => intro l _ _; simp [Impl.Lz4.copyWide, applyMatch]
  | succ k ih =>
    intro l h1 hc
    simp only [Impl.Lz4.copyWide]
    rw [copy8_eq h8 l h1 (by omega)]
    simp only
    have hlen := applyMatch_length (show 0 < off by omega) 8 l h1
    rw [ih _ (by omega) (by omega)]
    rw [show 8 * (k + 1) = 8 + 8 * k by omega, applyMatch_add]

/-- the wide-copy loop and the byte loop together write exactly the byte-by-byte copy -/
theorem copyMatch_impl_eq {off cap : Nat} (h0 : 0 < off) (n : Nat) (l : List UInt8) (h1 : off ≤ l.length)
    (hc : l.length + n ≤ cap) :
    Impl.Lz4.copyMatch l.toArray off cap n = .ok (applyMatch l off n).toArray := by
  unfold Impl.Lz4.copyMatch
  split
  · rename_i h8
    have hdm : 8 * (n / 8) + n % 8 = n := Nat.div_add_mod n 8
    rw [copyWide_eq h8 (n / 8) l h1 (by omega)]
    simp only
    have hlen := applyMatch_length h0 (8 * (n / 8)) l h1
    rw [copyBytes_eq h0 (n % 8) _ (by omega) (by omega), ← applyMatch_add, hdm]
  · exact copyBytes_eq h0 n l h1 hc

/-! ### the step -/

theorem stepCopy_sim (bs : List UInt8) (cap ip0 : Nat) {off : Nat} (h0 : 0 < off) (mc ip : Nat)
    (l : List UInt8) (h1 : off ≤ l.length) (hip0 : ip0 < ip) (hip : ip ≤ bs.length) :
    Sim bs cap ip0
      (if cap < l.toArray.size + (mc + 4) then .done (.error .outputOverrun)
       else .more (bs.drop ip) (Spec.Lz4.copyMatch l.toArray off (mc + 4)))
      (Impl.Lz4.stepCopy off (mc + 4) ip l.toArray cap) := by
  unfold Impl.Lz4.stepCopy
  by_cases hc : cap < l.toArray.size + (mc + 4)
  · rw [if_pos hc, if_pos hc]; exact Sim.err _
  · rw [if_neg hc, if_neg hc]
    simp only [List.size_toArray] at hc
    rw [copyMatch_impl_eq h0 (mc + 4) l h1 (by omega), copyMatch_eq h0 (mc + 4) l h1]
    simp only
    refine Sim.more ip _ hip0 hip ?_
    simp [applyMatch_length h0 (mc + 4) l h1]; omega

theorem stepOff_sim (bs : List UInt8) (cap ip0 : Nat) (tok : UInt8) (off ip : Nat) (l : List UInt8)
    (hip0 : ip0 < ip) (hip : ip ≤ bs.length) :
    Sim bs cap ip0 (Spec.Lz4.stepOff tok off (bs.drop ip) l.toArray cap)
      (Impl.Lz4.stepOff bs.toArray tok off ip l.toArray cap) := by
  unfold Spec.Lz4.stepOff Impl.Lz4.stepOff
  by_cases hz : off = 0
  · rw [if_pos hz, if_pos (Or.inl hz)]; exact Sim.err _
  · rw [if_neg hz]
    by_cases hfar : l.toArray.size < off
    · rw [if_pos hfar, if_pos (Or.inr hfar)]; exact Sim.err _
    · rw [if_neg hfar, if_neg (by intro h; cases h <;> contradiction)]
      simp only [List.size_toArray] at hfar
      have h0 : 0 < off := by omega
      have h1 : off ≤ l.length := by omega
      unfold readLen
      by_cases h15 : tok.toNat % 16 = 15
      · rw [if_pos h15, if_neg (by omega)]
        -- the C code starts the chain at 15 + 4, the Spec adds the 4 afterwards
        obtain ⟨hn, hs⟩ := chain_sim bs (bs.length + 1) ip (15 + 4) (by omega) hip
        rw [readChain_add 4] at hn hs
        simp only [List.size_toArray]
        cases hrc : readChain (bs.drop ip) 15 with
        | none => rw [hn (by rw [hrc]; rfl)]; exact Sim.err _
        | some p =>
          obtain ⟨v, rest⟩ := p
          obtain ⟨ip', e1, e2, e3, e4⟩ := hs _ _ (by rw [hrc]; rfl)
          rw [e1]
          simp only at e2 ⊢
          rw [e2]
          exact stepCopy_sim bs cap ip0 h0 v ip' l h1 (by omega) e4
      · have hlt : tok.toNat % 16 < 15 := by omega
        rw [if_neg h15, if_pos hlt]
        exact stepCopy_sim bs cap ip0 h0 (tok.toNat % 16) ip l h1 hip0 hip

theorem offset_eq (lo hi : UInt8) : lo.toNat ||| (hi.toNat <<< 8) = lo.toNat + 256 * hi.toNat := by
  have hlo : lo.toNat < 2 ^ 8 := by have := lo.toNat_lt; omega
  rw [Nat.or_comm, ← Nat.shiftLeft_add_eq_or_of_lt hlo, Nat.shiftLeft_eq]
  omega

theorem stepEnd_sim (bs : List UInt8) (cap ip0 : Nat) (tok : UInt8) (ip : Nat) (l : List UInt8)
    (hip0 : ip0 < ip) :
    Sim bs cap ip0 (Spec.Lz4.stepMatch tok (bs.drop ip) l.toArray cap)
      (Impl.Lz4.stepEnd bs.toArray tok ip l.toArray cap) := by
  unfold Impl.Lz4.stepEnd
  simp only [List.size_toArray, List.getElem?_toArray]
  by_cases h1 : bs.length ≤ ip
  · rw [if_pos h1, List.drop_eq_nil_of_le h1]
    simp only [Spec.Lz4.stepMatch]
    exact Sim.done (.ok l.toArray)
  · rw [if_neg h1]
    have hlt : ip < bs.length := by omega
    rw [List.drop_eq_getElem_cons hlt]
    by_cases h2 : bs.length < ip + 2
    · rw [if_pos h2, List.drop_eq_nil_of_le (by omega)]
      simp only [Spec.Lz4.stepMatch]
      exact Sim.err _
    · rw [if_neg h2]
      have hlt2 : ip + 1 < bs.length := by omega
      rw [List.drop_eq_getElem_cons hlt2]
      simp only [Spec.Lz4.stepMatch, List.getElem?_eq_getElem hlt, List.getElem?_eq_getElem hlt2, offset_eq]
      exact stepOff_sim bs cap ip0 tok _ (ip + 2) l (by omega) (by omega)

theorem stepLits_sim (bs : List UInt8) (cap ip0 : Nat) (tok : UInt8) (ll ip : Nat) (l : List UInt8)
    (hip0 : ip0 < ip) (hip : ip ≤ bs.length) (hl : l.length ≤ cap) :
    Sim bs cap ip0 (Spec.Lz4.stepLits tok ll (bs.drop ip) l.toArray cap)
      (Impl.Lz4.stepLits bs.toArray tok ll ip l.toArray cap) := by
  unfold Spec.Lz4.stepLits Impl.Lz4.stepLits
  simp only [List.size_toArray, List.length_take, List.length_drop]
  by_cases hll : 0 < ll
  · rw [if_pos hll]
    by_cases ha : bs.length < ip + ll
    · rw [if_pos (show min ll (bs.length - ip) < ll by omega), if_pos (Or.inl ha)]; exact Sim.err _
    · rw [if_neg (show ¬ (min ll (bs.length - ip) < ll) by omega)]
      by_cases hb : cap < l.length + ll
      · rw [if_pos hb, if_pos (Or.inr hb)]; exact Sim.err _
      · rw [if_neg hb, if_neg (by intro h; cases h <;> contradiction)]
        simp only [Impl.Lz4.memcpyLits, List.size_toArray]
        rw [if_neg ha, if_neg hb]
        simp only [List.extract_toArray, List.extract_eq_take_drop, List.append_toArray, List.toArray_appendList,
          List.drop_drop, Nat.add_sub_cancel_left]
        exact stepEnd_sim bs cap ip0 tok (ip + ll) (l ++ List.take ll (List.drop ip bs)) (by omega)
  · have h0 : ll = 0 := by omega
    subst h0
    rw [if_neg (by omega), if_neg (by omega), if_neg (by omega)]
    simp only [List.take_zero, List.drop_zero, List.toArray_appendList, List.append_nil]
    exact stepEnd_sim bs cap ip0 tok ip l hip0

theorem step_sim (bs : List UInt8) (cap ip : Nat) (l : List UInt8) (hip : ip < bs.length) (hl : l.length ≤ cap) :
    Sim bs cap ip (Spec.Lz4.step (bs.drop ip) l.toArray cap) (Impl.Lz4.step bs.toArray ip l.toArray cap) := by
  rw [List.drop_eq_getElem_cons hip]
  unfold Spec.Lz4.step Impl.Lz4.step
  simp only [List.getElem?_toArray, List.getElem?_eq_getElem hip, List.size_toArray]
  have hlt16 : bs[ip].toNat / 16 < 16 := by have := bs[ip].toNat_lt; omega
  unfold readLen
  by_cases h15 : bs[ip].toNat / 16 = 15
  · rw [if_pos h15, if_neg (by omega)]
    obtain ⟨hn, hs⟩ := chain_sim bs (bs.length + 1) (ip + 1) 15 (by omega) (by omega)
    cases hrc : readChain (bs.drop (ip + 1)) 15 with
    | none => rw [hn hrc]; exact Sim.err _
    | some p =>
      obtain ⟨v, rest⟩ := p
      obtain ⟨ip', e1, e2, e3, e4⟩ := hs _ _ hrc
      rw [e1]
      simp only
      rw [e2]
      exact stepLits_sim bs cap ip _ v ip' l (by omega) e4 hl
  · rw [if_neg h15, if_pos (by omega)]
    exact stepLits_sim bs cap ip _ _ (ip + 1) l (by omega) (by omega) hl

/-! ### the loop -/

/-- the output stays within `cap` from step to step: with no literals the Spec still tests the capacity where the C
code does not -/
theorem loop_sim (bs : List UInt8) (cap : Nat) : ∀ (fuel ip : Nat) (l : List UInt8), ip ≤ bs.length →
    l.length ≤ cap →
    Impl.Lz4.loop bs.toArray cap fuel ip l.toArray = mapR (Spec.Lz4.loop fuel (bs.drop ip) l.toArray cap) := by
  intro fuel
  induction fuel with
  | zero => intro ip l _ _; rfl
  | succ fuel ih =>
    intro ip l hip hl
    simp only [Impl.Lz4.loop, Spec.Lz4.loop, List.size_toArray]
    by_cases hend : bs.length ≤ ip
    · rw [if_pos hend, List.drop_eq_nil_of_le hend]
      rfl
    · rw [if_neg hend]
      have hs := step_sim bs cap ip l (by omega) hl
      revert hs
      generalize Spec.Lz4.step (bs.drop ip) l.toArray cap = ss
      generalize Impl.Lz4.step bs.toArray ip l.toArray cap = is
      intro hs
      cases hs with
      | done r => rfl
      | more ip' o h1 h2 h3 =>
        obtain ⟨ol⟩ := o
        exact ih ip' ol h2 (by simpa using h3)

theorem decompress_eq_spec (bs : List UInt8) (cap : Nat) :
    Impl.Lz4.decompress bs cap =
      (match Spec.Lz4.decode bs cap with
       | .ok o => .ok o
       | .error _ => .error .invalidData) := by
  rw [Impl.Lz4.decompress, Spec.Lz4.decode, loop_sim bs cap (bs.length + 1) 0 [] (Nat.zero_le _) (Nat.zero_le _),
    List.drop_zero]
  cases Spec.Lz4.loop (bs.length + 1) bs #[] cap <;> rfl

end Carquet.Proofs.Lz4Decomp
