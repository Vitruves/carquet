import Carquet.Impl.ThriftParquet
import Carquet.Proofs.ImplReadsExt
/-
Safety of the Thrift compact decoder on ARBITRARY bytes (C04 / C08 for the metadata parser).

`Adv d d'` ("`d'` is reached from `d` by reading forward") packs the invariants every decoder
function maintains, whatever the bytes are:
  * the remaining bytes of `d'` are a suffix of those of `d`, and `pos` has advanced by exactly
    the number of bytes dropped (so `pos + |rest|` is constant: no read beyond the end);
  * the loop budget is unchanged;
  * an OK status at the end means an OK status at the start and the same nesting level;
  * the model artefacts `Err.fuel` (a `while (read_field_begin)` loop ran out of its budget) and
    `Err.stack` (`thrift_skip` needed more frames than granted) are never *introduced*.
The straight-line readers of Impl.Thrift are `Adv` from every state: each is put, once, into the class
`Fwd` (safe, consumes at least `m` bytes when it ends without error, does the same on an extended
input), which is where Proofs.ThriftCost takes its progress facts and Proofs.ImplReadsPrefix2 the
prefix monotonicity of the readers from.  The loops and `thrift_skip` are `Adv` from any `Good` state
(budget larger than the remaining bytes), `thrift_skip` for every stack grant of at least
`maxNesting + 1 - nesting_level` frames.
-/
namespace Carquet.Proofs.ThriftSafe
open Carquet.Impl.Thrift
open Carquet.Proofs.Thrift (lengthGe_iff fieldLoop_end fieldLoop_iter skip_ok setError_status_ne setError_of_some)
open Carquet.Proofs.ImplReads.Prefix (Ext Ext.elim Ext.intro' GoodP GoodD)

/-- the loop budget exceeds the remaining bytes (true initially: `budget = size + 1`) and neither
model artefact has been reported so far -/
structure Good (d : Dec) : Prop where
  bud : d.rest.length < d.budget
  nofuel : d.status ≠ some .fuel
  nostack : d.status ≠ some .stack

structure Adv (d d' : Dec) : Prop where
  bud : d'.budget = d.budget
  rest : ∃ pre, d.rest = pre ++ d'.rest ∧ d'.pos = d.pos + pre.length
  ok : d'.status = none → d.status = none
  depth : d'.status = none → d'.lastId.length = d.lastId.length
  fuel : d'.status = some .fuel → d.status = some .fuel
  stack : d'.status = some .stack → d.status = some .stack

theorem Adv.refl (d : Dec) : Adv d d :=
  ⟨rfl, ⟨[], by simp, by simp⟩, id, fun _ => rfl, id, id⟩

theorem Adv.trans {a b c : Dec} (h1 : Adv a b) (h2 : Adv b c) : Adv a c := by
  obtain ⟨p1, hr1, hp1⟩ := h1.rest
  obtain ⟨p2, hr2, hp2⟩ := h2.rest
  exact ⟨h2.bud.trans h1.bud,
    ⟨p1 ++ p2, by rw [hr1, hr2, List.append_assoc], by rw [hp2, hp1, List.length_append]; omega⟩,
    fun h => h1.ok (h2.ok h), fun h => (h2.depth h).trans (h1.depth (h2.ok h)),
    fun h => h1.fuel (h2.fuel h), fun h => h1.stack (h2.stack h)⟩

theorem Adv.len {d d' : Dec} (h : Adv d d') : d'.rest.length ≤ d.rest.length := by
  obtain ⟨p, hr, _⟩ := h.rest
  rw [hr, List.length_append]; omega

/-- `pos + remaining` is constant: the position never passes the end of the buffer -/
theorem Adv.pos_len {d d' : Dec} (h : Adv d d') : d'.pos + d'.rest.length = d.pos + d.rest.length := by
  obtain ⟨p, hr, hp⟩ := h.rest
  rw [hr, hp, List.length_append]; omega

theorem Adv.good {d d' : Dec} (h : Adv d d') (g : Good d) : Good d' := by
  refine ⟨?_, fun hf => g.nofuel (h.fuel hf), fun hf => g.nostack (h.stack hf)⟩
  have := h.len
  have := g.bud
  rw [h.bud]; omega

/-- the general way to show `Adv`: `pre` was consumed, the nesting level is the same (when the
result is OK), the status is unchanged or became an error other than the two artefacts -/
theorem Adv.step' (d d' : Dec) (pre : List UInt8) (hb : d'.budget = d.budget) (hr : d.rest = pre ++ d'.rest)
    (hp : d'.pos = d.pos + pre.length) (hl : d'.status = none → d'.lastId.length = d.lastId.length)
    (hs : d'.status = d.status ∨ ∃ e, d'.status = some e ∧ e ≠ .fuel ∧ e ≠ .stack) : Adv d d' := by
  refine ⟨hb, ⟨pre, hr, hp⟩, ?_, hl, ?_, ?_⟩
  · intro h
    rcases hs with hs | ⟨e, he, _, _⟩
    · rw [← hs]; exact h
    · rw [he] at h; cases h
  · intro h
    rcases hs with hs | ⟨e, he, hf, _⟩
    · rw [← hs]; exact h
    · rw [he] at h; cases h; exact absurd rfl hf
  · intro h
    rcases hs with hs | ⟨e, he, _, hk⟩
    · rw [← hs]; exact h
    · rw [he] at h; cases h; exact absurd rfl hk

theorem Adv.step (d d' : Dec) (pre : List UInt8) (hb : d'.budget = d.budget) (hr : d.rest = pre ++ d'.rest)
    (hp : d'.pos = d.pos + pre.length) (hl : d'.lastId.length = d.lastId.length)
    (hs : d'.status = d.status ∨ ∃ e, d'.status = some e ∧ e ≠ .fuel ∧ e ≠ .stack) : Adv d d' :=
  Adv.step' d d' pre hb hr hp (fun _ => hl) hs

theorem setError_status (d : Dec) (e : Err) :
    (d.setError e).status = d.status ∨ (d.status = none ∧ (d.setError e).status = some e) := by
  unfold Dec.setError
  cases h : d.status with
  | none => exact Or.inr ⟨rfl, rfl⟩
  | some x => exact Or.inl h

@[simp] theorem setError_rest (d : Dec) (e : Err) : (d.setError e).rest = d.rest := by
  unfold Dec.setError; cases d.status <;> rfl
@[simp] theorem setError_pos (d : Dec) (e : Err) : (d.setError e).pos = d.pos := by
  unfold Dec.setError; cases d.status <;> rfl
@[simp] theorem setError_lastId (d : Dec) (e : Err) : (d.setError e).lastId = d.lastId := by
  unfold Dec.setError; cases d.status <;> rfl
@[simp] theorem setError_budget (d : Dec) (e : Err) : (d.setError e).budget = d.budget := by
  unfold Dec.setError; cases d.status <;> rfl

theorem setError_adv (d : Dec) (e : Err) (h1 : e ≠ .fuel := by decide) (h2 : e ≠ .stack := by decide) :
    Adv d (d.setError e) := by
  refine Adv.step d _ [] (by simp) (by simp) (by simp) (by simp) ?_
  rcases setError_status d e with h | ⟨_, h⟩
  · exact Or.inl h
  · exact Or.inr ⟨e, h, h1, h2⟩

/-! ### the reader -/

theorem advance_adv (d : Dec) (n : Nat) (h : d.has n = true) : Adv d (d.advance n) := by
  unfold Dec.has at h
  rw [lengthGe_iff] at h
  refine Adv.step d _ (d.rest.take n) rfl ?_ ?_ rfl (Or.inl rfl)
  · simp [Dec.advance]
  · simp [Dec.advance, Nat.min_eq_left h]

theorem setTop_length (l : List Int) (v : Int) : (setTop l v).length = l.length := by
  cases l <;> rfl

/-! ### straight-line readers -/

/-- `f : Dec → ρ` (its result holds a value `val r` and the decoder `dec r`; both are plain functions, see
`Prefix.Good`) is a forward step of the decoder, whatever the bytes and the state it starts in:
  * the decoder it leaves is `Adv` from the one it got;
  * when it leaves no error it has consumed at least `m` bytes;
  * on an input extended behind its end it does the same, provided it leaves no error (`Prefix.Good`, C06).
The class is closed under the ways the functions of Impl.Thrift are written, so each of them that neither loops
nor changes the nesting level is put into it by a term that follows its definition.  (The field loop,
`thrift_skip` and the struct brackets are not in it: they need a good state, a stack grant, or change the level;
see below and Proofs.ImplReadsPrefix2.) -/
structure Fwd {ρ α : Type} (m : Nat) (val : ρ → α) (dec : ρ → Dec) (f : Dec → ρ) : Prop where
  adv : ∀ d, Adv d (dec (f d))
  /- `s` is `dec (f d)` through an equation, for the reason given at `Prefix.Good.lockstep` -/
  prog : ∀ d s, s = dec (f d) → s.status = none → s.rest.length + m ≤ d.rest.length
  ext : ∀ {x N}, ImplReads.Prefix.Good x N val dec f

namespace Fwd
variable {ρ σ α β : Type} {val : ρ → α} {dec : ρ → Dec} {val' : σ → β} {dec' : σ → Dec} {m n : Nat}

theorem mono {f : Dec → ρ} (h : Fwd m val dec f) (hn : n ≤ m) : Fwd n val dec f :=
  ⟨h.adv, fun d s hs h0 => by have := h.prog d s hs h0; omega, h.ext⟩

theorem pure {r : Dec → ρ} (hv : ∀ d d', val (r d') = val (r d) := by exact fun _ _ => rfl)
    (hd : ∀ d, dec (r d) = d := by exact fun _ => rfl) : Fwd 0 val dec r :=
  ⟨fun d => by rw [hd]; exact Adv.refl d, fun d s hs _ => by rw [hs, hd]; omega, .pure hv hd⟩

theorem fail {r : Dec → ρ} (e : Err) (hd : ∀ d, dec (r d) = d.setError e := by exact fun _ => rfl)
    (h1 : e ≠ .fuel := by decide) (h2 : e ≠ .stack := by decide) : Fwd m val dec r :=
  ⟨fun d => by rw [hd]; exact setError_adv d e h1 h2,
    fun d s hs h0 => by rw [hs, hd] at h0; exact absurd h0 (setError_status_ne d e),
    .fail fun d => by rw [hd]; exact setError_status_ne d e⟩

theorem bind {f : Dec → ρ} {g : α → Dec → σ} (hf : Fwd m val dec f) (hg : ∀ a, Fwd n val' dec' (g a)) :
    Fwd (m + n) val' dec' (fun d => g (val (f d)) (dec (f d))) :=
  ⟨fun d => (hf.adv d).trans ((hg _).adv _),
    fun d s hs h0 => by
      have h2 := (hg _).prog _ s hs h0
      have h1 := hf.prog d _ rfl (((hg _).adv _).ok (hs ▸ h0))
      omega,
    hf.ext.bind fun a => (hg a).ext⟩

theorem map {f : Dec → ρ} (hf : Fwd m val dec f) (φ : α → β) : Fwd m Prod.fst Prod.snd (fun d => (φ (val (f d)), dec (f d))) :=
  ⟨hf.adv, hf.prog, hf.ext.map φ⟩

theorem ite {c : Prop} [Decidable c] {f g : Dec → ρ} (hf : Fwd m val dec f) (hg : Fwd m val dec g) :
    Fwd m val dec (fun d => if c then f d else g d) := by
  by_cases hc : c
  · simp only [if_pos hc]; exact hf
  · simp only [if_neg hc]; exact hg

theorem guard {f : Dec → ρ} {r : Err → Dec → ρ} (hf : Fwd m val dec f)
    (hr : ∀ e d, dec (r e d) = d := by exact fun _ _ => rfl) :
    Fwd m val dec (fun d => match d.status with | some e => r e d | none => f d) :=
  ⟨fun d => by
      split
      · rw [hr]; exact Adv.refl d
      · exact hf.adv d,
    fun d s hs h0 => by
      split at hs
      · rename_i e he; rw [hs, hr, he] at h0; cases h0
      · exact hf.prog d s hs h0,
    hf.ext.guard hr⟩

/-- `read_byte_raw` and what is done with the byte; an input that has ended is THRIFT_TRUNCATED -/
theorem byte {g : UInt8 → Dec → ρ} {r : Dec → ρ} (hg : ∀ b, Fwd m val dec (g b))
    (hr : ∀ d, dec (r d) = d.setError .truncated := by exact fun _ => rfl) :
    Fwd (m + 1) val dec (fun d => match d.rest with | [] => r d | b :: t => g b { d with rest := t, pos := d.pos + 1 }) := by
  refine ⟨fun d => ?_, fun d s hs h0 => ?_, fun d h => ?_, fun d d' hE hs => ?_⟩
  · split
    · rw [hr]; exact setError_adv d _
    · rename_i b t h
      have h1 : Adv d { d with rest := t, pos := d.pos + 1 } := Adv.step d _ [b] rfl (by simp [h]) rfl rfl (Or.inl rfl)
      exact h1.trans ((hg b).adv _)
  · split at hs
    · rw [hs, hr] at h0; exact absurd h0 (setError_status_ne _ _)
    · rename_i b t h
      have := (hg b).prog _ s hs h0
      rw [h, List.length_cons]; simp only [] at this; omega
  · dsimp only at h; split at h
    · rw [hr] at h; exact absurd h (setError_status_ne _ _)
    · rename_i b t _; exact ((hg b).adv { d with rest := t, pos := d.pos + 1 }).ok h
  · ext_destruct d hE
    cases rest with
    | nil => simp only [hr] at hs; exact absurd hs (setError_status_ne _ _)
    | cons a t =>
      simp only [List.cons_append] at hs ⊢
      exact (hg a).ext.2 _ _ (Ext.intro' _ _ _ _ _ _ _ _ hb (by simp at hl ⊢; omega)) hs

theorem take (n : Nat) {g : List UInt8 → Dec → ρ} {r : Dec → ρ} (e : Err) (hg : ∀ bs, Fwd m val dec (g bs))
    (hr : ∀ d, dec (r d) = d.setError e := by exact fun _ => rfl) (h1 : e ≠ .fuel := by decide) (h2 : e ≠ .stack := by decide) :
    Fwd (m + n) val dec (fun d => if d.has n then g (d.rest.take n) (d.advance n) else r d) := by
  refine ⟨fun d => ?_, fun d s hs h0 => ?_, .take n (fun bs => (hg bs).ext) fun d => by rw [hr]; exact setError_status_ne d e⟩
  · split
    · exact (advance_adv d n ‹_›).trans ((hg _).adv _)
    · rw [hr]; exact setError_adv d e h1 h2
  · split at hs
    · rename_i h
      have := (hg _).prog _ s hs h0
      unfold Dec.has at h; rw [lengthGe_iff] at h
      simp only [Dec.advance, List.length_drop] at this; omega
    · rw [hs, hr] at h0; exact absurd h0 (setError_status_ne _ _)

theorem needs (n : Nat) {f r : Dec → ρ} (e : Err) (hf : Fwd m val dec f)
    (hr : ∀ d, dec (r d) = d.setError e := by exact fun _ => rfl) (h1 : e ≠ .fuel := by decide) (h2 : e ≠ .stack := by decide) :
    Fwd m val dec (fun d => if !d.has n then r d else f d) := by
  refine ⟨fun d => ?_, fun d s hs h0 => ?_, .needs n hf.ext fun d => by rw [hr]; exact setError_status_ne d e⟩
  · split
    · rw [hr]; exact setError_adv d e h1 h2
    · exact hf.adv d
  · split at hs
    · rw [hs, hr] at h0; exact absurd h0 (setError_status_ne _ _)
    · exact hf.prog d s hs h0

theorem peek {β : Type} (π : Dec → β) (hπ : ∀ x N d d', Ext x N d d' → π d' = π d) {g : β → Dec → ρ}
    (hg : ∀ b, Fwd m val dec (g b)) : Fwd m val dec (fun d => g (π d) d) :=
  ⟨fun d => (hg _).adv d, fun d => (hg _).prog d, .peek π (hπ _ _) fun b => (hg b).ext⟩

end Fwd

/-! ### the readers of Impl.Thrift, each by a term that follows its definition -/

theorem fwd_setError {m : Nat} (e : Err) (h1 : e ≠ .fuel := by decide) (h2 : e ≠ .stack := by decide) :
    Fwd m (fun _ => ()) (fun d => d) (fun d => d.setError e) := .fail e (fun _ => rfl) h1 h2

theorem fwd_readByteRaw : Fwd 1 Prod.fst Prod.snd readByteRaw :=
  .byte (g := fun b d => (b, d)) fun _ => .pure

theorem fwd_readVarintLoop : ∀ n shift acc, Fwd 1 Prod.fst Prod.snd (readVarintLoop n shift acc)
  | 0, _, _ => .fail .decode
  | n + 1, shift, acc =>
    .byte (g := fun b d => if b.toNat < 128 then ((acc + b.toNat * 2 ^ shift) % 18446744073709551616, d)
      else readVarintLoop n (shift + 7) (acc + (b.toNat % 128) * 2 ^ shift) d)
      fun _ => .ite .pure ((fwd_readVarintLoop n _ _).mono (Nat.zero_le _))

theorem fwd_readVarint : Fwd 1 Prod.fst Prod.snd readVarint := fwd_readVarintLoop 10 0 0
theorem fwd_readZigzag : Fwd 1 Prod.fst Prod.snd readZigzag := fwd_readVarint.map zigzagDec
theorem fwd_readI8 : Fwd 1 Prod.fst Prod.snd readI8 := fwd_readByteRaw.map fun b => toI8 b.toNat
theorem fwd_readI16 : Fwd 1 Prod.fst Prod.snd readI16 := fwd_readZigzag.map toI16
theorem fwd_readI32 : Fwd 1 Prod.fst Prod.snd readI32 := fwd_readZigzag.map toI32
theorem fwd_readI64 : Fwd 1 Prod.fst Prod.snd readI64 := fwd_readZigzag

theorem fwd_readDouble : Fwd 8 Prod.fst Prod.snd readDouble :=
  .take 8 .truncated (g := fun bs d => (leNat bs, d)) fun _ => .pure

theorem fwd_readUuid : Fwd 16 Prod.fst Prod.snd readUuid :=
  .take 16 .truncated (g := fun bs d => (bs, d)) fun _ => .pure

theorem fwd_setBool (p v : Bool) : Fwd 0 (fun _ => ()) (fun d => d) (fun d => { d with boolPending := p, boolValue := v }) :=
  ⟨fun d => Adv.step d _ [] rfl (by simp) (by simp) rfl (Or.inl rfl), fun d s hs _ => by rw [hs]; exact Nat.le_refl _,
    ImplReads.Prefix.good_setBool p v⟩

/-- the innermost `last_field_id` is overwritten (the nesting level stays) -/
theorem fwd_setTop (v : Int) : Fwd 0 (fun _ => ()) (fun d => d) (fun d => { d with lastId := setTop d.lastId v }) :=
  ⟨fun d => Adv.step d _ [] rfl (by simp) (by simp) (by simp [setTop_length]) (Or.inl rfl),
    fun d s hs _ => by rw [hs]; exact Nat.le_refl _, ImplReads.Prefix.good_mapLastId (setTop · v)⟩

theorem fwd_readBool : Fwd 0 Prod.fst Prod.snd readBool :=
  .peek (fun d => (d.boolPending, d.boolValue)) (fun _ _ _ _ hE => by rw [hE.bp, hE.bv])
    (g := fun b d => if b.1 then (b.2, ({ d with boolPending := false, boolValue := b.2 } : Dec)) else ((readByteRaw d).1 == 1, (readByteRaw d).2))
    fun b => .ite ((fwd_setBool false b.2).map fun _ => b.2) ((fwd_readByteRaw.map (· == 1)).mono (Nat.zero_le _))

/-- `readBinaryK` with the length already cast to `int32_t` (stated for a variable `i`: the kernel must never see
`(toI32 n).toNat` in a definitional-equality problem) -/
def binK (i : Int) (d : Dec) : Option (List UInt8) × Int × Dec :=
  if i < 0 then (none, 0, d.setError .decode)
  else if d.has i.toNat then (some (d.rest.take i.toNat), i, d.advance i.toNat)
  else (none, 0, d.setError .truncated)

section
variable {α : Type} (val : Option (List UInt8) × Int × Dec → α)
  (hval : ∀ a b d d', val (a, b, d') = val (a, b, d) := by exact fun _ _ _ _ => rfl)
include hval

/- `val`: any reading of the result that does not look at the decoder (the data pointer, the length, both) -/
theorem fwd_binK (i : Int) : Fwd 0 val (fun r => r.2.2) (binK i) :=
  .ite (.fail .decode) ((Fwd.take _ .truncated (g := fun bs d => (some bs, i, d)) fun _ => .pure (fun _ _ => hval _ _ _ _)).mono
    (Nat.zero_le _))

theorem fwd_readBinary : Fwd 1 val (fun r => r.2.2) readBinary :=
  fwd_readVarint.bind fun n => fwd_binK val hval (toI32 n)

end

theorem fwd_notePendingBool (ty : Nat) : Fwd 0 (fun _ => ()) (fun d => d) (notePendingBool ty) :=
  .ite (fwd_setBool true true) <| .ite (fwd_setBool true false) .pure

theorem fwd_readFieldBeginK (h : UInt8) : Fwd 0 (fun r => (r.more, r.ty, r.fid)) FieldBegin.dec (readFieldBeginK h) := by
  have hk : ∀ fid : Int, Fwd 0 (fun r => (r.more, r.ty, r.fid)) FieldBegin.dec
      (fun d => ⟨true, h.toNat % 16, fid, notePendingBool (h.toNat % 16) { d with lastId := setTop d.lastId fid }⟩) := fun fid =>
    ((fwd_setTop fid).bind fun _ => fwd_notePendingBool (h.toNat % 16)).bind
      (g := fun _ d => (⟨true, h.toNat % 16, fid, d⟩ : FieldBegin)) fun _ => .pure
  exact .ite ((fwd_readI16.bind hk).mono (Nat.zero_le _))
    (.peek (·.lastId) (fun _ _ _ _ hE => hE.lastId)
      (g := fun l d => (⟨true, h.toNat % 16, toI16 (l.headD 0 + (h.toNat / 16 : Nat)), notePendingBool (h.toNat % 16)
        { d with lastId := setTop d.lastId (toI16 (l.headD 0 + (h.toNat / 16 : Nat))) }⟩ : FieldBegin)) fun _ => hk _)

theorem fwd_readFieldBegin : Fwd 1 (fun r => (r.more, r.ty, r.fid)) FieldBegin.dec readFieldBegin :=
  .guard (r := fun _ d => (⟨false, 0, 0, d⟩ : FieldBegin)) <|
    .byte (r := fun d => (⟨false, 0, 0, d.setError .truncated⟩ : FieldBegin))
      (g := fun h d => if h = 0 then (⟨false, 0, 0, d⟩ : FieldBegin) else readFieldBeginK h d)
      fun h => .ite .pure (fwd_readFieldBeginK h)

theorem fwd_listCountChecks (et : Nat) (c : Int) : Fwd 0 (fun r => (r.elemTy, r.count)) ListBegin.dec (listCountChecks et c) :=
  .ite (.fail .decode) (.needs _ .decode .pure)

theorem fwd_readListBegin : Fwd 1 (fun r => (r.elemTy, r.count)) ListBegin.dec readListBegin :=
  fwd_readByteRaw.bind fun b => .ite (c := b.toNat / 16 = 15)
    ((fwd_readVarint.bind fun n => fwd_listCountChecks (b.toNat % 16) (toI32 n)).mono (Nat.zero_le _))
    (fwd_listCountChecks (b.toNat % 16) (b.toNat / 16 : Nat))

theorem fwd_readMapBeginK (c : Int) : Fwd 0 (fun r => (r.keyTy, r.valTy, r.count)) MapBegin.dec (readMapBeginK c) :=
  .ite (.fail .decode) <| .ite .pure <|
    .needs _ .decode ((fwd_readByteRaw.bind (g := fun b d => (⟨b.toNat / 16, b.toNat % 16, c, d⟩ : MapBegin)) fun _ => .pure).mono
      (Nat.zero_le _))

theorem fwd_readMapBegin : Fwd 1 (fun r => (r.keyTy, r.valTy, r.count)) MapBegin.dec readMapBegin :=
  fwd_readVarint.bind fun n => fwd_readMapBeginK (toI32 n)

theorem fwd_skipFixed (n : Nat) : Fwd n (fun _ => ()) (fun d => d) (fun d => d.skipFixed Cfg.fixed n) := by
  unfold Dec.skipFixed
  simp only [Cfg.fixed, if_true]
  exact (Fwd.take n .truncated (g := fun _ d => d) fun _ => .pure).mono (Nat.le_add_left _ _)

theorem readZigzag_adv (d : Dec) : Adv d (readZigzag d).2 := fwd_readZigzag.adv d
theorem readDouble_adv (d : Dec) : Adv d (readDouble d).2 := fwd_readDouble.adv d
theorem readUuid_adv (d : Dec) : Adv d (readUuid d).2 := fwd_readUuid.adv d

/-- an iteration of a `while (read_field_begin)` loop has consumed at least the header byte -/
theorem readFieldBegin_progress (d : Dec) (h : (readFieldBegin d).more = true) :
    (readFieldBegin d).dec.rest.length < d.rest.length := by
  unfold readFieldBegin at h ⊢
  split
  · rename_i hs; simp [hs] at h
  · rename_i hs
    split
    · rename_i hr; simp [hs, hr] at h
    · rename_i b r hr
      split
      · rename_i hb; simp [hs, hr, hb] at h
      · have := ((fwd_readFieldBeginK b).adv { d with rest := r, pos := d.pos + 1 }).len
        simp only [] at this
        rw [hr, List.length_cons]
        omega

/-! ### what is read from the wire is bounded by the bytes that are left -/

/-- what `thrift_read_binary` returns is a slice of the remaining input (never more than is left) -/
theorem readBinary_slice (d : Dec) (b : List UInt8) (h : (readBinary d).1 = some b) :
    b.length ≤ (readVarint d).2.rest.length ∧ b = (readVarint d).2.rest.take b.length := by
  unfold readBinary readBinaryK at h
  split at h
  · cases h
  · split at h
    · rename_i hh
      unfold Dec.has at hh
      rw [lengthGe_iff] at hh
      simp only [Option.some.injEq] at h
      subst h
      refine ⟨by simp only [List.length_take]; omega, ?_⟩
      simp only [List.length_take, Nat.min_eq_left hh]
    · cases h

theorem listCountChecks_count (et : Nat) (c : Int) (d : Dec) :
    0 ≤ (listCountChecks et c d).count ∧
    (listCountChecks et c d).count.toNat ≤ (listCountChecks et c d).dec.rest.length := by
  unfold listCountChecks
  split
  · simp
  · split
    · simp
    · rename_i h1 h2
      have h2 : d.has c.toNat = true := by
        cases hh : d.has c.toNat
        · simp [hh] at h2
        · rfl
      unfold Dec.has at h2
      rw [lengthGe_iff] at h2
      dsimp only
      exact ⟨by omega, h2⟩

/-- **VALIDATE on the wire**: the count `thrift_read_list_begin` hands out is non-negative, below
2^31 and at most the number of bytes left behind the header. -/
theorem readListBegin_count (d : Dec) :
    0 ≤ (readListBegin d).count ∧ (readListBegin d).count.toNat ≤ (readListBegin d).dec.rest.length := by
  unfold readListBegin
  split
  · exact listCountChecks_count _ _ _
  · exact listCountChecks_count _ _ _

theorem readMapBeginK_count (c : Int) (d : Dec) :
    0 ≤ (readMapBeginK c d).count ∧ (readMapBeginK c d).count.toNat ≤ (readMapBeginK c d).dec.rest.length + 1 := by
  unfold readMapBeginK
  split
  · simp
  · split
    · simp
    · split
      · simp
      · rename_i h1 h2 h3
        have h3 : d.has c.toNat = true := by
          cases hh : d.has c.toNat
          · simp [hh] at h3
          · rfl
        unfold Dec.has at h3
        rw [lengthGe_iff] at h3
        have hb : (readByteRaw d).2.rest.length + 1 = d.rest.length := by
          unfold readByteRaw
          split
          · rename_i hr; rw [hr] at h3; simp at h3; omega
          · rename_i b r hr; simp [hr]
        dsimp only
        refine ⟨by omega, ?_⟩
        omega

/-- the count `thrift_read_map_begin` hands out is at most the bytes left (the types byte included) -/
theorem readMapBegin_count (d : Dec) :
    0 ≤ (readMapBegin d).count ∧ (readMapBegin d).count.toNat ≤ (readMapBegin d).dec.rest.length + 1 :=
  readMapBeginK_count _ _

/-! ### loops -/

/-- `for (i = 0; i < count && status == OK; i++) g(dec)`; `Q` is any property of the nesting level
the iterations rely on -/
theorem repeatOk_adv (g : Dec → Dec) (Q : Nat → Prop)
    (hg : ∀ d, Good d → d.status = none → Q d.lastId.length → Adv d (g d)) :
    ∀ (n : Nat) (d : Dec), Good d → (d.status = none → Q d.lastId.length) → Adv d (repeatOk g n d)
  | 0, d, _, _ => Adv.refl d
  | n + 1, d, hgd, hq => by
    unfold repeatOk
    split
    · exact Adv.refl d
    · rename_i hs
      have h1 := hg d hgd hs (hq hs)
      refine h1.trans (repeatOk_adv g Q hg n (g d) (h1.good hgd) ?_)
      intro h
      rw [h1.depth h]
      exact hq hs

/-- the body of a `while (read_field_begin)` loop is safe at nesting levels satisfying `Q`, from
states with at most `N` bytes left, and keeps the loop-state invariant `Inv` -/
def BodySafe {σ : Type} (Q : Nat → Prop) (N : Nat) (Inv : σ → Prop) (body : Nat → Int → Dec → σ → σ × Dec) : Prop :=
  ∀ ty fid d s, Good d → d.rest.length ≤ N → (d.status = none → Q d.lastId.length) → Inv s →
    Adv d (body ty fid d s).2 ∧ Inv (body ty fid d s).1

/-- **no `while (read_field_begin)` loop exhausts its budget**: with more fuel than bytes left the
loop is `Adv` — in particular it does not end in `Err.fuel` -/
theorem fieldLoop_adv {σ : Type} (stop : σ → Bool) (body : Nat → Int → Dec → σ → σ × Dec)
    (Q : Nat → Prop) (N : Nat) (Inv : σ → Prop) (hb : BodySafe Q N Inv body) :
    ∀ (fuel : Nat) (d : Dec) (s : σ), Good d → d.rest.length < fuel → d.rest.length ≤ N →
      (d.status = none → Q d.lastId.length) → Inv s →
      Adv d (fieldLoop stop body fuel d s).2 ∧ Inv (fieldLoop stop body fuel d s).1
  | 0, d, s, _, hf, _, _, _ => by omega
  | f + 1, d, s, hg, hf, hn, hq, hi => by
    unfold fieldLoop
    have h1 := fwd_readFieldBegin.adv d
    split
    · exact ⟨h1, hi⟩
    · rename_i hm
      have hp := readFieldBegin_progress d hm
      have hq1 : (readFieldBegin d).dec.status = none → Q (readFieldBegin d).dec.lastId.length := by
        intro h; rw [h1.depth h]; exact hq (h1.ok h)
      have h2 := hb (readFieldBegin d).ty (readFieldBegin d).fid (readFieldBegin d).dec s (h1.good hg)
        (by omega) hq1 hi
      split
      · exact ⟨h1.trans h2.1, h2.2⟩
      · have h12 := h1.trans h2.1
        have hl2 := h2.1.len
        have h3 := fieldLoop_adv stop body Q N Inv hb f _ _ (h12.good hg) (by omega) (by omega)
          (by intro h; rw [h12.depth h]; exact hq (h12.ok h)) h2.2
        exact ⟨h12.trans h3.1, h3.2⟩

/-- `struct_begin … struct_end` / `enter_container … leave_container` around an `Adv` run -/
theorem bracket_adv (d d2 : Dec) (h : Adv { d with lastId := 0 :: d.lastId } d2) :
    Adv d { d2 with lastId := d2.lastId.tail } := by
  obtain ⟨pre, hr, hp⟩ := h.rest
  refine ⟨h.bud, ⟨pre, hr, hp⟩, h.ok, ?_, h.fuel, h.stack⟩
  intro hs
  have := h.depth hs
  simp only [List.length_cons] at this
  simp only [List.length_tail]
  omega

theorem tail_adv_err (d d2 : Dec) (h : Adv d d2) (he : d2.status ≠ none) :
    Adv d { d2 with lastId := d2.lastId.tail } := by
  obtain ⟨pre, hr, hp⟩ := h.rest
  exact ⟨h.bud, ⟨pre, hr, hp⟩, fun hs => absurd hs he, fun hs => absurd hs he, h.fuel, h.stack⟩

/-- `thrift_read_struct_begin; while (read_field_begin) body; thrift_read_struct_end` -/
theorem structLoop_adv {σ : Type} (stop : σ → Bool) (body : Nat → Int → Dec → σ → σ × Dec)
    (Q : Nat → Prop) (N : Nat) (Inv : σ → Prop) (hb : BodySafe Q N Inv body)
    (d : Dec) (s : σ) (hg : Good d) (hn : d.rest.length ≤ N)
    (hq : d.status = none → d.lastId.length < maxNesting → Q (d.lastId.length + 1)) (hi : Inv s) :
    Adv d (structEnd (fieldLoop stop body d.budget (structBegin d) s).2) ∧
      Inv (fieldLoop stop body d.budget (structBegin d) s).1 := by
  unfold structBegin structEnd
  split
  · -- nesting limit reached
    have h0 := setError_adv d .decode (by decide) (by decide)
    have h1 := fieldLoop_adv stop body Q N Inv hb d.budget (d.setError .decode) s (h0.good hg)
      (by rw [setError_rest]; exact hg.bud) (by rw [setError_rest]; exact hn) (fun h => absurd h (setError_status_ne d _)) hi
    refine ⟨tail_adv_err d _ (h0.trans h1.1) ?_, h1.2⟩
    intro h
    exact setError_status_ne d _ (h1.1.ok h)
  · rename_i hlt
    have hg1 : Good { d with lastId := 0 :: d.lastId } := ⟨hg.bud, hg.nofuel, hg.nostack⟩
    have h1 := fieldLoop_adv stop body Q N Inv hb d.budget { d with lastId := 0 :: d.lastId } s hg1
      hg.bud hn (fun h => by simpa using hq h (by omega)) hi
    exact ⟨bracket_adv d _ h1.1, h1.2⟩

/-! ### `thrift_skip` -/

theorem skipElement_adv (sk : Nat → Dec → Dec) (ty : Nat) (d : Dec) (hs : d.status = none → Adv d (sk ty d)) :
    Adv d (skipElement Cfg.fixed sk ty d) := by
  unfold skipElement
  simp only [Cfg.fixed, if_true]
  split
  · exact Adv.refl d
  · rename_i h
    split
    · exact fwd_readByteRaw.adv d
    · exact hs h

theorem skip_of_err (cfg : Cfg) (stk ty : Nat) (d : Dec) (x : Err) (h : d.status = some x) : skip cfg stk ty d = d := by
  cases stk with
  | zero => unfold skip; exact setError_of_some d _ x h
  | succ k => unfold skip; simp only [h]

/-- The `switch (type)` of `thrift_skip`, as a case analysis: whatever holds of the outcome of each
`case` (under what that case knows of `ty`) holds of `skipCase`. -/
theorem skipCase_cases {P : Dec → Prop} (cfg : Cfg) (sk : Nat → Dec → Dec) (ty : Nat) (d : Dec)
    (stop : ty = 0 → P (d.setError .decode))
    (bool : ty = 1 ∨ ty = 2 → P { d with boolPending := false })
    (byte : ty = 3 → P (d.skipFixed cfg 1))
    (int : ty = 4 ∨ ty = 5 ∨ ty = 6 → P (readVarint d).2)
    (double : ty = 7 → P (d.skipFixed cfg 8))
    (binary : ty = 8 → P (readBinary d).2.2)
    (list : ty = 9 ∨ ty = 10 → P (skipContainer cfg (skipListBody cfg sk) d))
    (map : ty = 11 → P (skipContainer cfg (skipMapBody cfg sk) d))
    (struct : ty = 12 → P (structEnd (skipFields sk d.budget (structBegin d))))
    (uuid : ty = 13 → P (d.skipFixed cfg 16))
    (other : 14 ≤ ty → P (d.setError .invalidType)) : P (skipCase cfg sk ty d) := by
  unfold skipCase
  by_cases h0 : ty = 0
  · rw [if_pos h0]; exact stop h0
  rw [if_neg h0]
  by_cases h1 : ty = 1 ∨ ty = 2
  · rw [if_pos h1]; exact bool h1
  rw [if_neg h1]
  by_cases h3 : ty = 3
  · rw [if_pos h3]; exact byte h3
  rw [if_neg h3]
  by_cases h4 : ty = 4 ∨ ty = 5 ∨ ty = 6
  · rw [if_pos h4]; exact int h4
  rw [if_neg h4]
  by_cases h7 : ty = 7
  · rw [if_pos h7]; exact double h7
  rw [if_neg h7]
  by_cases h8 : ty = 8
  · rw [if_pos h8]; exact binary h8
  rw [if_neg h8]
  by_cases h9 : ty = 9 ∨ ty = 10
  · rw [if_pos h9]; exact list h9
  rw [if_neg h9]
  by_cases h11 : ty = 11
  · rw [if_pos h11]; exact map h11
  rw [if_neg h11]
  by_cases h12 : ty = 12
  · rw [if_pos h12]; exact struct h12
  rw [if_neg h12]
  by_cases h13 : ty = 13
  · rw [if_pos h13]; exact uuid h13
  rw [if_neg h13]
  exact other (by omega)

theorem skipContainer_adv (body : Dec → Dec) (d : Dec) (hg : Good d)
    (hbody : ∀ d1, Good d1 → d1.lastId.length = d.lastId.length + 1 → d.lastId.length < maxNesting → Adv d1 (body d1)) :
    Adv d (skipContainer Cfg.fixed body d) := by
  unfold skipContainer enterContainer
  simp only [Cfg.fixed, if_true]
  split
  · simp only [Bool.false_eq_true, if_false]
    exact setError_adv d _
  · rename_i hlt
    simp only [if_true]
    exact bracket_adv d _ (hbody _ ⟨hg.bud, hg.nofuel, hg.nostack⟩ (by simp) (by omega))

theorem skipCase_adv (sk : Nat → Dec → Dec) (ty : Nat) (d : Dec) (hg : Good d)
    (hsk : ∀ ty' d', Good d' → (d'.status = none → d'.lastId.length = d.lastId.length + 1 ∧ d.lastId.length < maxNesting) →
      Adv d' (sk ty' d')) :
    Adv d (skipCase Cfg.fixed sk ty d) := by
  refine skipCase_cases (P := Adv d) Cfg.fixed sk ty d
    (fun _ => setError_adv d _)
    (fun _ => Adv.step d _ [] rfl (by simp) (by simp) rfl (Or.inl rfl))
    (fun _ => (fwd_skipFixed 1).adv d) (fun _ => fwd_readVarint.adv d) (fun _ => (fwd_skipFixed 8).adv d)
    (fun _ => (fwd_readBinary fun _ => ()).adv d) (fun _ => ?list) (fun _ => ?map) (fun _ => ?struct)
    (fun _ => (fwd_skipFixed 16).adv d) (fun _ => setError_adv d _)
  case list =>
    refine skipContainer_adv _ d hg (fun d1 hg1 hl1 hlt => ?_)
    have h1 := fwd_readListBegin.adv d1
    refine h1.trans (repeatOk_adv _ (· = d.lastId.length + 1) ?_ _ _ (h1.good hg1) ?_)
    · intro x hgx _ hlx
      exact skipElement_adv _ _ x (fun _ => hsk _ x hgx (fun _ => ⟨hlx, hlt⟩))
    · intro h; rw [h1.depth h]; exact hl1
  case map =>
    refine skipContainer_adv _ d hg (fun d1 hg1 hl1 hlt => ?_)
    have h1 := fwd_readMapBegin.adv d1
    refine h1.trans (repeatOk_adv _ (· = d.lastId.length + 1) ?_ _ _ (h1.good hg1) ?_)
    · intro x hgx _ hlx
      have hk := skipElement_adv sk (readMapBegin d1).keyTy x (fun _ => hsk _ x hgx (fun _ => ⟨hlx, hlt⟩))
      exact hk.trans (skipElement_adv _ _ _ (fun _ => hsk _ _ (hk.good hgx) (fun h => ⟨(hk.depth h).trans hlx, hlt⟩)))
    · intro h; rw [h1.depth h]; exact hl1
  case struct =>
    have hb : BodySafe (· = d.lastId.length + 1 ∧ d.lastId.length < maxNesting) d.rest.length (fun _ : Unit => True)
        (fun ty _ d s => (s, sk ty d)) := fun ty' _ d' _ hg' _ hq _ => ⟨hsk ty' d' hg' hq, trivial⟩
    exact (structLoop_adv (fun _ => false) _ _ d.rest.length _ hb d () hg (Nat.le_refl _)
      (fun _ hlt => ⟨rfl, hlt⟩) trivial).1

/-- what `thrift_skip` needs of its stack grant: one frame, and `maxNesting + 1` frames in all
counted from nesting level 0 -/
def StackOK (stk : Nat) (d : Dec) : Prop := 1 ≤ stk ∧ maxNesting + 1 ≤ stk + d.lastId.length

/-- **`thrift_skip` is safe on arbitrary bytes** (repaired code), for every wire type: it stays
inside the buffer, exhausts no loop budget, and `maxNesting + 1 − nesting_level` frames suffice. -/
theorem skip_adv : ∀ (stk ty : Nat) (d : Dec), Good d → (d.status = none → StackOK stk d) →
    Adv d (skip Cfg.fixed stk ty d)
  | 0, ty, d, _, hst => by
    unfold skip
    cases hs : d.status with
    | none => have := (hst hs).1; omega
    | some x => rw [setError_of_some d _ x hs]; exact Adv.refl d
  | stk + 1, ty, d, hg, hst => by
    unfold skip
    split
    · exact Adv.refl d
    · rename_i hs
      obtain ⟨_, hstk⟩ := hst hs
      -- the recursive calls happen one level deeper
      refine skipCase_adv _ ty d hg (fun ty' d' hg' hq => skip_adv stk ty' d' hg' (fun h => ?_))
      have := hq h
      unfold StackOK maxNesting at *
      omega

theorem stackBudget_ok (d : Dec) : StackOK stackBudget d := by
  unfold StackOK stackBudget maxNesting; omega

/-- `thrift_skip_field` as the parsers call it -/
theorem skipField_adv (ty : Nat) (d : Dec) (hg : Good d) : Adv d (skipField Cfg.fixed ty d) :=
  skip_adv stackBudget ty d hg (fun _ => stackBudget_ok d)

end Carquet.Proofs.ThriftSafe
