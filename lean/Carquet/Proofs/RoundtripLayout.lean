import Carquet.Proofs.SpecWriterFile
import Carquet.Proofs.WriterRun
/-
C01, file level — stage "chunk offsets": in the file of a completed run, the chunk of row group `i`
and column `j` starts exactly at the `file_offset` (= `data_page_offset`) its metadata name and
consists of the bytes of its page records:

    file = pre ++ pagesBytes D ps ++ post,   |pre| = m.fileOffset,   8 ≤ |post|

— the shape the chunk theorems of the reader half take (C01_chunk_pages_roundtrip).  Derived from
what the writer guarantees of the row groups and chunks of a completed run (`Groups` / `Chunks`,
Proofs/WriterInv.lean: consecutive ranges from offset 4, a chunk's `total_compressed_size` the length of
its pages' bytes) by induction on those derivations, together with everything else they say of that cell
(`PageFacts` for every page, the chunk metadata's sums and physical type).
-/
namespace Carquet.Proofs.Roundtrip
open Carquet.Impl Carquet.Impl.Writer Carquet.Impl.FileReal
open Carquet.Proofs.SpecWriter Carquet.Proofs.WriterTable Carquet.Proofs.WriterPages Carquet.Proofs.WriterLayout
open Carquet.Proofs.WriterInv

/-- one cell of a row group: chunk `j` of the zipped lists, with the split of the bytes -/
theorem chunk_at {D : Deps} {P : Col → Page → Prop} {codec : Nat} {cols : List Col} {ms : List ChunkMeta}
    {pss : List (List PageRec)} {pos : Nat} (h : Chunks D P codec cols ms pss pos) :
    ∀ (pre post : List UInt8) {j : Nat} {c : Col}, pre.length = pos → cols[j]? = some c →
    ∃ m ps pre' post', ms[j]? = some m ∧ pss[j]? = some ps ∧
      pre ++ groupBytes D pss ++ post = pre' ++ pagesBytes D ps ++ post' ∧ post.length ≤ post'.length ∧
      ChunkOk D P codec c m ps pre'.length := by
  induction h with
  | nil => intro _ _ j c _ hc; cases hc
  | @cons c0 m ps off cs ms pss h _ ih =>
    intro pre post j c hpre hc
    cases j with
    | zero =>
      cases hc
      exact ⟨m, ps, pre, groupBytes D pss ++ post, rfl, rfl, by simp [groupBytes, List.append_assoc], by simp, hpre ▸ h⟩
    | succ k =>
      obtain ⟨m', ps', pre', post', h1, h2, h3, h4⟩ :=
        ih (pre ++ pagesBytes D ps) post (by simp [hpre, h.pages.2.1]) hc
      exact ⟨m', ps', pre', post', h1, h2, by rw [← h3]; simp [groupBytes, List.append_assoc], h4⟩

/-- one row group: group `i` of the zipped lists, with the split of the bytes -/
theorem group_at {D : Deps} {pp : Pred D} {codec : Nat} {cols : List Col} {gms : List RgMeta}
    {gs : List (List (List PageRec))} {pos ord : Nat} (h : Groups D pp codec cols gms gs pos ord) :
    ∀ (pre post : List UInt8) {i : Nat} {gm : RgMeta}, pre.length = pos → gms[i]? = some gm →
    ∃ g pre' post', gs[i]? = some g ∧ pre ++ dataBytes D gs ++ post = pre' ++ groupBytes D g ++ post' ∧
      post.length ≤ post'.length ∧ Chunks D pp.P codec cols gm.chunks g pre'.length := by
  induction h with
  | nil => intro _ _ i gm _ hg; cases hg
  | @cons gm0 g off ord gms gs h _ ih =>
    intro pre post i gm hpre hg
    cases i with
    | zero =>
      cases hg
      exact ⟨g, pre, dataBytes D gs ++ post, rfl, by simp [dataBytes, List.append_assoc], by simp, hpre ▸ h.chunks⟩
    | succ k =>
      obtain ⟨g', pre', post', h1, h2, h3⟩ :=
        ih (pre ++ groupBytes D g) post (by simp [hpre, h.compressed, h.chunks.size]) hg
      exact ⟨g', pre', post', h1, by rw [← h2]; simp [dataBytes, List.append_assoc], h3⟩

/-- everything a completed run establishes about the chunk of row group `i`, column `j` -/
structure Cell (o : FileReal.Oracle) (codec : Nat) (file : List UInt8) (c : Col) (m : ChunkMeta) (ps : List PageRec) : Prop where
  split : ∃ pre post, file = pre ++ pagesBytes (deps o) ps ++ post ∧ pre.length = m.fileOffset ∧ 8 ≤ post.length
  pages : ChunkPages (deps o) codec m ps
  ptype : m.ptype = c.ptype
  facts : ∀ r ∈ ps, PageFacts o codec c r

/-- **chunk offsets**: for every row group `i` of the footer and every column `j` of the schema
there are the chunk's metadata `m` (entry `j` of the row group's chunk list), its page records `ps`
(entry `i`, `j` of the ghost page lists) and a split of the file at `m.fileOffset` -/
theorem cell_of_run (o : FileReal.Oracle) (codec : Nat) (cols : List Col) (ops : List Op)
    (file : List UInt8) (md : FooterData) (gs : List (List (List PageRec)))
    (hf : RunFacts (deps o) (goodPred o) cols codec ops file md gs) (hsm : RunSmall md gs)
    (i j : Nat) (gm : RgMeta) (c : Col) (hgm : md.rowGroups[i]? = some gm) (hc : cols[j]? = some c) :
    ∃ g m ps, gs[i]? = some g ∧ gm.chunks[j]? = some m ∧ g[j]? = some ps ∧ Cell o codec file c m ps := by
  obtain ⟨g, pre1, post1, g1, g2, g3, g4⟩ :=
    group_at hf.groups magic ((deps o).footer md ++ le32 ((deps o).footer md).length ++ magic) rfl hgm
  obtain ⟨m, ps, pre2, post2, c1, c2, c3, c4, c5⟩ := chunk_at g4 pre1 post1 rfl hc
  refine ⟨g, m, ps, g1, c1, c2, ⟨⟨pre2, post2, ?_, c5.offset.symm, ?_⟩, c5.pages, c5.ptype, fun r hr =>
    ⟨(c5.recs r hr).1, c5.pages.2.2.2.2 r hr, (c5.recs r hr).2,
      hsm.pages g (List.mem_of_getElem? g1) ps (List.mem_of_getElem? c2) r hr⟩⟩⟩
  · rw [hf.file_eq, ← c3, ← g2]; simp [List.append_assoc]
  · have : 8 ≤ ((deps o).footer md ++ le32 ((deps o).footer md).length ++ magic).length := by
      simp only [List.length_append, le32, magic, List.length_cons, List.length_nil]; omega
    omega

end Carquet.Proofs.Roundtrip
