import Carquet.Impl.ThriftParquet
/-
Model of carquet's writer pipeline: src/writer/page_writer.c, column_writer.c,
row_group_writer.c, file_writer.c (as of the fixes F2/F3/F17/F60/F64/F23).

The byte-level components the pipeline calls (PLAIN, RLE levels, compression, CRC, Thrift
headers and footer, statistics order) are taken as a parameter record `Deps`, instantiated in
Impl/FileReal.lean with the Impl models of those components.  This file mirrors exactly the
*control* of the writer: what is accumulated per batch, when a page is cut, what a page body
is, how chunks are laid out, which offsets and sizes go into the metadata, the order and the
sizes of the stream writes, and the status flow.  Fidelity: exact for that control; the tie is
byte equality of whole files (harness op `wr`).
-/
namespace Carquet.Impl.Writer

abbrev Bytes := List UInt8

/-- physical types, numbered as `carquet_physical_type_t` -/
inductive PType where
  | boolean | int32 | int64 | int96 | float | double | byteArray | flba
  deriving DecidableEq, Repr

def PType.code : PType → Nat
  | .boolean => 0 | .int32 => 1 | .int64 => 2 | .int96 => 3
  | .float => 4 | .double => 5 | .byteArray => 6 | .flba => 7

def PType.ofCode : Nat → Option PType
  | 0 => some .boolean | 1 => some .int32 | 2 => some .int64 | 3 => some .int96
  | 4 => some .float | 5 => some .double | 6 => some .byteArray | 7 => some .flba | _ => none

/-- repetition of a flat column, numbered as `carquet_field_repetition_t` -/
inductive Rep where
  | required | optional | repeated
  deriving DecidableEq, Repr

def Rep.code : Rep → Nat
  | .required => 0 | .optional => 1 | .repeated => 2

/-- one `carquet_schema_add_column(schema, name, physical_type, logical_type, repetition, type_length)`
call as `carquet_writer_create` + `add_column_internal` keep it (`writer_column_def_t`).  `logical` is the
`logical_type` argument: `none` = NULL pointer (the struct stays zero-filled, id UNKNOWN), the `params`
union is the constructor's arguments (Impl/ThriftParquet.lean). -/
structure Col where
  name : String
  ptype : PType
  rep : Rep
  typeLen : Nat
  logical : Option ThriftParquet.LogicalType := none
  deriving DecidableEq, Repr

/-- `add_column_internal`: levels of a flat column -/
def Col.maxDef (c : Col) : Nat := if c.rep = .required then 0 else 1   -- after F60 (was: 1 for OPTIONAL only)
def Col.maxRep (c : Col) : Nat := if c.rep = .repeated then 1 else 0

/-- a value is its bit pattern: the bytes PLAIN stores for it (BOOLEAN: one byte 0/1;
BYTE_ARRAY: the content without length prefix) -/
abbrev Val := Bytes

/-- one `carquet_writer_write_batch(col, values, nrows, def_levels, rep_levels)` call.
`nrows` is the `num_values` argument: the number of level ENTRIES (for a REQUIRED / OPTIONAL column
that is the number of rows; for a REPEATED column every list element and every empty list is one
entry).  `defs = none` is a NULL def_levels pointer, `reps = none` a NULL rep_levels pointer.
`vals` are the values the caller's array holds (the non-null ones, dense). -/
structure Batch where
  col : Nat
  nrows : Nat
  defs : Option (List Nat)
  vals : List Val
  reps : Option (List Nat) := none
  deriving DecidableEq, Repr

inductive Op where
  | batch (b : Batch)
  | newRowGroup
  deriving DecidableEq, Repr

inductive Status where
  | ok | invalidArgument | fileWrite | other
  deriving DecidableEq, Repr

/-- statistics carried in a data page header -/
structure PageStats where
  nullCount : Nat
  max : Bytes
  min : Bytes
  deriving DecidableEq, Repr

structure ChunkMeta where
  fileOffset : Nat            -- = data_page_offset
  ptype : PType
  codec : Nat
  numValues : Nat
  totalCompressed : Nat       -- bytes of the chunk in the file, page headers included
  totalUncompressed : Nat     -- Σ (page header + uncompressed page body), as parquet.thrift defines it (after fix F23)
  path : String
  deriving DecidableEq, Repr

structure RgMeta where
  numRows : Nat
  totalByteSize : Nat         -- Σ total_uncompressed_size of the chunks (after fix F23; was the compressed chunk sizes)
  fileOffset : Nat
  totalCompressed : Nat
  ordinal : Nat
  chunks : List ChunkMeta
  deriving DecidableEq, Repr

structure FooterData where
  cols : List Col
  createdBy : String
  numRows : Nat
  rowGroups : List RgMeta
  deriving DecidableEq, Repr

/-- The byte-level components (see Impl/FileReal.lean for the instantiation). -/
structure Deps where
  /-- `carquet_encode_plain_*` of the dense values of one batch (BOOLEAN is not routed here) -/
  plain : PType → (typeLen : Nat) → List Val → Bytes
  /-- `carquet_encode_plain_boolean` of all booleans of a page (one byte each in, bit-packed out) -/
  plainBools : List Val → Bytes
  /-- `encode_levels`: 4-byte length prefix + RLE hybrid at the width of `maxLevel` -/
  levels : (maxLevel : Nat) → List Nat → Bytes
  /-- `compress_data`; `none` = unsupported codec or codec failure -/
  compress : (codec : Nat) → Bytes → Option Bytes
  crc32 : Bytes → Nat
  /-- the hand-written page header of `carquet_page_writer_finalize` -/
  pageHeader : (uncompressed compressed crc numValues : Nat) → Option PageStats → Bytes
  /-- `parquet_write_file_metadata` of what `build_file_metadata` assembles -/
  footer : FooterData → Bytes
  /-- `update_statistics_*`: new (min, max) after seeing one more value -/
  statsStep : PType → Option (Val × Val) → Val → Option (Val × Val)

/-- page builder (`carquet_page_writer_t`) -/
structure Page where
  values : List Val := []       -- values of the page so far (dense), in order
  defs : List Nat := []         -- raw definition levels (only when maxDef > 0)
  reps : List Nat := []         -- raw repetition levels (only when maxRep > 0)
  numValues : Nat := 0          -- level entries (rows of a non-repeated column)
  numNulls : Nat := 0
  minMax : Option (Val × Val) := none
  deriving Repr

/-- ghost record of one finished data page (not in the C structs): what
`carquet_page_writer_finalize` computed for it -/
structure PageRec where
  rows : Nat                    -- num_values of the header
  body : Bytes                  -- uncompressed page body
  comp : Bytes                  -- stored (compressed) page body
  stats : Option PageStats
  src : Page                    -- the page builder's content when the page was cut
  deriving Repr

/-- column writer (`carquet_column_writer_internal_t`) -/
structure ColW where
  page : Page := {}
  buffer : Bytes := []          -- finished pages
  totalValues : Nat := 0
  totalUncompressed : Nat := 0
  numPages : Nat := 0
  /-- ghost (not in the C struct): the finished pages; `buffer` is the concatenation of
  their bytes (`ColOk.buffer`, Proofs/WriterInv) -/
  pages : List PageRec := []
  deriving Repr

structure W where
  cols : List Col
  codec : Nat
  pageSize : Nat                -- options.page_size
  createdBy : String
  out : List Bytes := []        -- the fwrite calls made so far, in order (file bytes = their concatenation)
  headerWritten : Bool := false
  fileOffset : Nat := 0
  rg : Option (List ColW) := none
  rgRows : Nat := 0
  rowGroups : List RgMeta := []
  totalRows : Nat := 0
  /-- ghost (not in the C struct): the pages of the row groups written so far, per chunk -/
  pagesDone : List (List (List PageRec)) := []
  deriving Repr

def bitWidthForMax (m : Nat) : Nat := if m = 0 then 0 else Nat.log2 m + 1

def targetPageSize (w : W) : Nat := if w.pageSize > 0 then w.pageSize else 1024 * 1024

/-- number of non-null rows `carquet_page_writer_add_values` counts -/
def numNonNull (c : Col) (b : Batch) : Nat :=
  match b.defs with
  | some ds => if c.maxDef > 0 then (ds.filter (· == c.maxDef)).length else b.nrows
  | none => b.nrows

/-- PLAIN size of the values buffer of the page (BOOLEAN: one byte per value until finalize) -/
def valuesBufferSize (D : Deps) (c : Col) (p : Page) : Nat :=
  if c.ptype = .boolean then p.values.length else (D.plain c.ptype c.typeLen p.values).length

/-- `carquet_page_writer_estimated_size` -/
def estimatedSize (D : Deps) (c : Col) (p : Page) : Nat :=
  (if c.ptype = .boolean then (p.values.length + 7) / 8 else (D.plain c.ptype c.typeLen p.values).length) +
  (if p.defs.length = 0 then 0 else 4 + (p.defs.length * bitWidthForMax c.maxDef + 7) / 8) +
  (if p.reps.length = 0 then 0 else 4 + (p.reps.length * bitWidthForMax c.maxRep + 7) / 8) + 64

def hasStats (t : PType) : Bool :=
  t = .int32 || t = .int64 || t = .float || t = .double

/-- `carquet_page_writer_add_values` -/
def addValues (D : Deps) (c : Col) (p : Page) (b : Batch) : Page :=
  { values := p.values ++ b.vals,
    defs := if c.maxDef > 0 then p.defs ++ (match b.defs with
                                            | some ds => ds
                                            | none => List.replicate b.nrows c.maxDef) else p.defs,
    reps := if c.maxRep > 0 then p.reps ++ (match b.reps with
                                            | some rs => rs
                                            | none => List.replicate b.nrows 0) else p.reps,
    numValues := p.numValues + b.nrows,
    numNulls := p.numNulls + (match b.defs with
                              | some _ => if c.maxDef > 0 then b.nrows - numNonNull c b else 0
                              | none => 0),
    minMax := if hasStats c.ptype then b.vals.foldl (D.statsStep c.ptype) p.minMax else p.minMax }

/-- body of a page before compression: rep levels, def levels, values -/
def pageBody (D : Deps) (c : Col) (p : Page) : Bytes :=
  (if p.reps.length > 0 then D.levels c.maxRep p.reps else []) ++
  (if p.defs.length > 0 then D.levels c.maxDef p.defs else []) ++
  (if c.ptype = .boolean then D.plainBools p.values else D.plain c.ptype c.typeLen p.values)

/-- statistics `carquet_page_writer_finalize` puts into the header -/
def pageStatsOf (p : Page) : Option PageStats :=
  match p.minMax with
  | some (mn, mx) => some ⟨p.numNulls, mx, mn⟩
  | none => none

/-- header ++ stored body of a finished page -/
def PageRec.bytes (D : Deps) (r : PageRec) : Bytes :=
  D.pageHeader r.body.length r.comp.length (D.crc32 r.comp) r.rows r.stats ++ r.comp

/-- ghost: the header in front of the stored body of a finished page -/
def PageRec.header (D : Deps) (r : PageRec) : Bytes :=
  D.pageHeader r.body.length r.comp.length (D.crc32 r.comp) r.rows r.stats

/-- ghost: what parquet.thrift calls the uncompressed size of a page — header + uncompressed body -/
def PageRec.usize (D : Deps) (r : PageRec) : Nat := (r.header D).length + r.body.length

/-- `carquet_page_writer_finalize`: header ++ compressed body (`page_data`, `page_size`), the
uncompressed size and the compressed size of the body -/
def finalizePage (D : Deps) (codec : Nat) (c : Col) (p : Page) : Option (Bytes × Nat × Nat) :=
  match D.compress codec (pageBody D c p) with
  | none => none
  | some comp =>
    some (D.pageHeader (pageBody D c p).length comp.length (D.crc32 comp) p.numValues (pageStatsOf p) ++ comp,
          (pageBody D c p).length, comp.length)

/-- ghost: the record of the page `finalizePage` emits -/
def pageRecOf (D : Deps) (codec : Nat) (c : Col) (p : Page) : PageRec :=
  { rows := p.numValues, body := pageBody D c p,
    comp := (D.compress codec (pageBody D c p)).getD [], stats := pageStatsOf p, src := p }

/-- `flush_current_page` (after fix F23): `total_uncompressed_size += (page_size - compressed_size) +
uncompressed_size`, i.e. the page header is counted as well -/
def flushPage (D : Deps) (codec : Nat) (c : Col) (cw : ColW) : Option ColW :=
  if cw.page.numValues = 0 then some cw
  else match finalizePage D codec c cw.page with
    | none => none
    | some (bytes, unc, comp) =>
      some { cw with page := {}, buffer := cw.buffer ++ bytes,
                     totalUncompressed := cw.totalUncompressed + ((bytes.length - comp) + unc),
                     numPages := cw.numPages + 1,
                     pages := cw.pages ++ [pageRecOf D codec c cw.page] }

/-- `carquet_column_writer_write_batch` -/
def colWriteBatch (D : Deps) (codec target : Nat) (c : Col) (cw : ColW) (b : Batch) : Option ColW :=
  if target ≤ estimatedSize D c (addValues D c cw.page b) then
    flushPage D codec c { cw with page := addValues D c cw.page b, totalValues := cw.totalValues + b.nrows }
  else
    some { cw with page := addValues D c cw.page b, totalValues := cw.totalValues + b.nrows }

def magic : Bytes := [0x50, 0x41, 0x52, 0x31]

/-- `ensure_header_written` -/
def ensureHeader (w : W) : W :=
  if w.headerWritten then w
  else { w with out := w.out ++ [magic], fileOffset := 4, headerWritten := true }

/-- `ensure_row_group` -/
def ensureRowGroup (w : W) : W :=
  match w.rg with
  | some _ => w
  | none => { w with rg := some (w.cols.map (fun _ => ({} : ColW))), rgRows := 0 }

/-- chunk metadata and bytes of one finalised column -/
def chunkOf (w : W) (c : Col) (cw : ColW) (offset : Nat) : ChunkMeta :=
  { fileOffset := offset, ptype := c.ptype, codec := w.codec, numValues := cw.totalValues,
    totalCompressed := cw.buffer.length, totalUncompressed := cw.totalUncompressed, path := c.name }

/-- the loop of `carquet_row_group_writer_finalize`: flush every column, lay chunks out -/
def finalizeCols (D : Deps) (w : W) : List Col → List ColW → Nat → Option (Bytes × List ChunkMeta)
  | c :: cs, cw :: cws, off =>
    match flushPage D w.codec c cw with
    | none => none
    | some cw' =>
      match finalizeCols D w cs cws (off + cw'.buffer.length) with
      | none => none
      | some (bytes, metas) => some (cw'.buffer ++ bytes, chunkOf w c cw' off :: metas)
  | _, _, _ => some ([], [])

/-- ghost: the page records of the chunks `finalizeCols` lays out -/
def finalizeColsPages (D : Deps) (w : W) : List Col → List ColW → List (List PageRec)
  | c :: cs, cw :: cws =>
    match flushPage D w.codec c cw with
    | none => []
    | some cw' => cw'.pages :: finalizeColsPages D w cs cws
  | _, _ => []

/-- what `carquet_row_group_writer_finalize` leaves in `total_byte_size` (after fix F23): the field is
reset at the start of every finalisation and each column adds its `total_uncompressed_size` -/
def chunksUncompressed (ms : List ChunkMeta) : Nat := (ms.map (·.totalUncompressed)).sum

/-- `flush_row_group` -/
def flushRowGroup (D : Deps) (w : W) : W × Status :=
  match w.rg with
  | none => (w, .ok)
  | some cws =>
    match finalizeCols D w w.cols cws w.fileOffset with
    | none => (w, .other)
    | some (bytes, metas) =>
      ({ w with out := if bytes.length > 0 then w.out ++ [bytes] else w.out,
                rowGroups := w.rowGroups ++ [{ numRows := w.rgRows, totalByteSize := chunksUncompressed metas,
                                               fileOffset := w.fileOffset, totalCompressed := bytes.length,
                                               ordinal := w.rowGroups.length, chunks := metas }],
                fileOffset := w.fileOffset + bytes.length,
                totalRows := w.totalRows + w.rgRows,
                rg := none, rgRows := 0,
                pagesDone := w.pagesDone ++ [finalizeColsPages D w w.cols cws] }, .ok)

/-- replace element `i` of a list -/
def setAt (l : List α) (i : Nat) (x : α) : List α := l.set i x

/-- rows one batch of column 0 adds to the open row group (`carquet_writer_write_batch` after fix
F64): with a rep_levels array and a REPEATED column, the entries with repetition level 0; otherwise
`num_values` -/
def batchRows (c : Col) (b : Batch) : Nat :=
  match b.reps with
  | some rs => if c.maxRep > 0 then (rs.filter (· == 0)).length else b.nrows
  | none => b.nrows

/-- `carquet_writer_write_batch` -/
def writeBatch (D : Deps) (w : W) (b : Batch) : W × Status :=
  match w.cols[b.col]? with
  | none => (w, .invalidArgument)
  | some c =>
    match (ensureRowGroup (ensureHeader w)).rg with
    | none => (w, .other)
    | some cws =>
      match cws[b.col]? with
      | none => (w, .other)
      | some cw =>
        match colWriteBatch D w.codec (targetPageSize w) c cw b with
        | none => (ensureRowGroup (ensureHeader w), .other)
        | some cw' =>
          ({ ensureRowGroup (ensureHeader w) with
               rg := some (setAt cws b.col cw'),
               rgRows := (ensureRowGroup (ensureHeader w)).rgRows + (if b.col = 0 then batchRows c b else 0) }, .ok)

/-- the pinned code (before fix F64): `if (column_index == 0) current_row_group_rows += num_values`
— the row count of a row group whose first column is REPEATED was its number of level entries -/
def writeBatchPreFixF64 (D : Deps) (w : W) (b : Batch) : W × Status :=
  match w.cols[b.col]? with
  | none => (w, .invalidArgument)
  | some c =>
    match (ensureRowGroup (ensureHeader w)).rg with
    | none => (w, .other)
    | some cws =>
      match cws[b.col]? with
      | none => (w, .other)
      | some cw =>
        match colWriteBatch D w.codec (targetPageSize w) c cw b with
        | none => (ensureRowGroup (ensureHeader w), .other)
        | some cw' =>
          ({ ensureRowGroup (ensureHeader w) with
               rg := some (setAt cws b.col cw'),
               rgRows := (ensureRowGroup (ensureHeader w)).rgRows + (if b.col = 0 then b.nrows else 0) }, .ok)

def le32 (n : Nat) : Bytes :=
  [UInt8.ofNat (n % 256), UInt8.ofNat (n / 256 % 256), UInt8.ofNat (n / 65536 % 256), UInt8.ofNat (n / 16777216 % 256)]

def footerOf (D : Deps) (w : W) : Bytes := D.footer ⟨w.cols, w.createdBy, w.totalRows, w.rowGroups⟩

/-- `carquet_writer_close` on a healthy stream (sink failures: Impl/Sink): the fwrite calls
made in total, and the status -/
def close (D : Deps) (w : W) : List Bytes × Status :=
  match flushRowGroup D (ensureHeader w) with
  | (w', .ok) => (w'.out ++ [footerOf D w', le32 (footerOf D w').length, magic], .ok)
  | (w', s) => (w'.out, s)

def step (D : Deps) (w : W) : Op → W × Status
  | .batch b => writeBatch D w b
  | .newRowGroup => flushRowGroup D (ensureHeader w)

/-- run a history; statuses of every call, then close -/
def run (D : Deps) (w : W) : List Op → List Status → List Bytes × List Status
  | [], acc => ((close D w).1, acc ++ [(close D w).2])
  | op :: ops, acc => run D (step D w op).1 ops (acc ++ [(step D w op).2])

def writesOf (D : Deps) (cols : List Col) (codec pageSize : Nat) (createdBy : String) (ops : List Op) :
    List Bytes × List Status :=
  run D { cols := cols, codec := codec, pageSize := pageSize, createdBy := createdBy } ops []

/-- the file a healthy stream receives -/
def fileOf (D : Deps) (cols : List Col) (codec pageSize : Nat) (createdBy : String) (ops : List Op) :
    Bytes × List Status :=
  ((writesOf D cols codec pageSize createdBy ops).1.flatten, (writesOf D cols codec pageSize createdBy ops).2)

/-! ### the pinned code before fix F64 (kept for the regression example `C05_regression_F64`) -/

def stepPreFixF64 (D : Deps) (w : W) : Op → W × Status
  | .batch b => writeBatchPreFixF64 D w b
  | .newRowGroup => flushRowGroup D (ensureHeader w)

def runPreFixF64 (D : Deps) (w : W) : List Op → List Status → List Bytes × List Status
  | [], acc => ((close D w).1, acc ++ [(close D w).2])
  | op :: ops, acc => runPreFixF64 D (stepPreFixF64 D w op).1 ops (acc ++ [(stepPreFixF64 D w op).2])

/-- the file the pinned code (before F64) wrote -/
def fileOfPreFixF64 (D : Deps) (cols : List Col) (codec pageSize : Nat) (createdBy : String) (ops : List Op) :
    Bytes × List Status :=
  ((runPreFixF64 D { cols := cols, codec := codec, pageSize := pageSize, createdBy := createdBy } ops []).1.flatten,
   (runPreFixF64 D { cols := cols, codec := codec, pageSize := pageSize, createdBy := createdBy } ops []).2)

end Carquet.Impl.Writer
