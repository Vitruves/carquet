import Carquet.Impl.Varint
import Carquet.Impl.Bitpack
/-
Model of src/encoding/rle.c — the RLE / bit-packed hybrid — **as repaired** by
fixes/F1-rle-partial-group.patch, fixes/F30-rle-run-header-wrap.patch,
fixes/F31-rle-empty-run-value.patch and fixes/F33-rle-prefix-length-wrap.patch.  The pinned (pre-fix) functions are kept in
Impl/RlePreFix.lean together with their counterexamples.

Encoder  : carquet_rle_encoder_init/put/put_repeat/flush, flush_rle, flush_bitpack,
           complete_bitpack_group (added by F1), carquet_rle_encode_all, carquet_rle_encode_levels
Decoder  : carquet_rle_decoder_init/has_next/get/get_batch/skip, start_new_run,
           fill_bitpack_buffer, carquet_rle_decode_all,
           carquet_rle_decode_levels (separate fast path), carquet_rle_decode_levels_prefixed

Fidelity: exact, with these representation choices (all stated in NOTES_rle.md):
* `(data, size, pos)` is the unread suffix `rest` (`pos = size - rest.length`);
* `bitpack_buffer[bitpack_pos .. bitpack_count)` of the decoder is the list `bp`; the encoder's
  `bitpack_buffer[0 .. bitpack_count)` is the list `buf`;
* uint32 values are `Nat` (callers pass values < 2^32; explicit `% 2^32` where C truncates);
  `int64_t repeat_count / run_remaining` are `Nat` (never negative in the C code);
* the nested loops of get_batch / skip are flattened into one loop whose iteration is
  "make sure a run is open – make sure the group buffer is filled – move one chunk"; the
  `break`s of the C code all lead to the loop exit because `has_next` is false after an error;
* the encoder never fails: `carquet_buffer_append` results are ignored by the C code
  (allocation failure is outside this model), `enc->status` is always OK.
Decoder widths above 32 are refused by the repaired code (F80, fixes/F80-rle-decoder-bit-width.patch:
`carquet_rle_decoder_init` sets INVALID_RLE, `carquet_rle_decode_levels` returns 0); the pinned
behaviour (shifts of a 32-bit value by 32 and more, undefined) is `Impl.RlePreFix.readRunValuePreF80`.
Encoder widths above 32 are outside the model (stack buffers of 4 / 32 bytes in C, see NOTES_rle).
-/
namespace Carquet.Impl.Rle
open Carquet.Impl

/-- `int value_bytes = (bit_width + 7) / 8` -/
def valueBytes (w : Nat) : Nat := (w + 7) / 8

/-- `value_mask = bit_width >= 32 ? ~0U : (1U << bit_width) - 1` -/
def valueMask (w : Nat) : Nat := if w ≥ 32 then 0xFFFFFFFF else (1 <<< w) - 1

/-! ## Encoder -/

/-- `carquet_rle_encoder_t` (without `buffer*`, `status`): `out` is the buffer content -/
structure Enc where
  width : Nat
  out : List UInt8
  prev : Nat
  rep : Nat
  hasPrev : Bool
  buf : List Nat
  total : Nat
  deriving DecidableEq, Repr

/-- `carquet_rle_encoder_init` on an empty buffer -/
def Enc.init (w : Nat) : Enc := ⟨w, [], 0, 0, false, [], 0⟩

/-- `INT32_MAX`, the longest run one header can carry (F30) -/
def maxRun : Nat := 2147483647

/-- the value bytes written by `flush_rle`: `bytes[i] = (uint8_t)(prev_value >> (i*8))` -/
def valueLE (w v : Nat) : List UInt8 :=
  (List.range (valueBytes w)).map (fun i => UInt8.ofNat (v >>> (i * 8)))

/-- one iteration of the `while` in `flush_rle`: header `(uint32_t)(run << 1)` and value -/
def rleRunBytes (w v run : Nat) : List UInt8 :=
  Varint.writeVarint32 ((run <<< 1) % 2 ^ 32) ++ valueLE w v

/-- `flush_rle`: `while (repeat_count > 0) { run = min(repeat_count, INT32_MAX); … }` -/
def flushRleLoop : Nat → Enc → Enc
  | 0, e => e
  | f + 1, e =>
    if e.rep > 0 then
      flushRleLoop f { e with out := e.out ++ rleRunBytes e.width e.prev (min e.rep maxRun),
                              rep := e.rep - min e.rep maxRun }
    else e

/-- `flush_rle(enc)` (fuel = number of iterations, `rep / INT32_MAX + 1` suffices) -/
def flushRle (e : Enc) : Enc := flushRleLoop (e.rep / maxRun + 1) e

/-- the `for (g < num_groups)` loop of `flush_bitpack`: the same packed group each time -/
def groupsBytes (w : Nat) (buf8 : List Nat) : Nat → List UInt8
  | 0 => []
  | g + 1 => (Bitpack.pack8 w buf8).take w ++ groupsBytes w buf8 g

/-- `flush_bitpack(enc)`: pad the group with zeros, header `(num_groups << 1) | 1`, data -/
def flushBitpack (e : Enc) : Enc :=
  if e.buf.length = 0 then e
  else
    { e with
      out := e.out ++ Varint.writeVarint32 (((((e.total + 7) / 8) <<< 1) ||| 1) % 2 ^ 32) ++
               groupsBytes e.width (e.buf ++ List.replicate (8 - e.buf.length) 0) ((e.total + 7) / 8),
      buf := [], total := 0 }

/-- `complete_bitpack_group(enc)` (F1): fill a pending partial group with values of the run -/
def completeGroup (e : Enc) : Enc :=
  if e.buf.length = 0 then e
  else
    flushBitpack { e with buf := e.buf ++ List.replicate (8 - e.buf.length) e.prev,
                          total := e.total + (8 - e.buf.length),
                          rep := e.rep - (8 - e.buf.length) }

/-- body of `for (i < repeat_count)`: push `prev_value`, flush the group at 8 -/
def push1 (e : Enc) : Enc :=
  if (e.buf ++ [e.prev]).length = 8 then
    flushBitpack { e with buf := e.buf ++ [e.prev], total := e.total + 1 }
  else { e with buf := e.buf ++ [e.prev], total := e.total + 1 }

/-- `for (i = 0; i < repeat_count; i++) …` -/
def pushRun : Nat → Enc → Enc
  | 0, e => e
  | n + 1, e => pushRun n (push1 e)

/-- the "value changed" part of `put` up to (not including) `prev_value = value` -/
def endRun (e : Enc) : Enc :=
  if e.rep ≥ 8 then flushRle (completeGroup e)
  else { pushRun e.rep e with rep := 0 }

/-- `carquet_rle_encoder_put(enc, value)` -/
def put (e : Enc) (v : Nat) : Enc :=
  if e.hasPrev = false then { e with prev := v, rep := 1, hasPrev := true }
  else if v = e.prev then { e with rep := e.rep + 1 }
  else { endRun e with prev := v, rep := 1 }

/-- `carquet_rle_encoder_put_repeat(enc, value, count)` -/
def putRepeat (e : Enc) (v : Nat) : Nat → Enc
  | 0 => e
  | n + 1 => putRepeat (put e v) v n

/-- `carquet_rle_encoder_flush(enc)` -/
def flush (e : Enc) : Enc :=
  if e.rep ≥ 8 then flushRle (completeGroup e)
  else if e.rep > 0 then
    if ({ pushRun e.rep e with rep := 0 } : Enc).buf.length > 0 then
      flushBitpack { pushRun e.rep e with rep := 0 }
    else { pushRun e.rep e with rep := 0 }
  else e

/-- `carquet_rle_encode_all(input, count, bit_width, output)` on an empty output buffer:
everything the encoder emits for the sequence (put* then flush) -/
def encode (w : Nat) (vals : List Nat) : List UInt8 :=
  (flush (vals.foldl put (Enc.init w))).out

/-! ### Encoder histories: any sequence of `put` / `put_repeat` / `flush` calls -/

/-- one call on a `carquet_rle_encoder_t` -/
inductive EncOp
  | put (v : Nat)
  | rep (v n : Nat)
  | flush
  deriving DecidableEq, Repr

/-- the encoder after a history of calls -/
def runEncOps (e : Enc) : List EncOp → Enc
  | [] => e
  | .put v :: ops => runEncOps (put e v) ops
  | .rep v n :: ops => runEncOps (putRepeat e v n) ops
  | .flush :: ops => runEncOps (flush e) ops

/-- number of zero values `carquet_rle_encoder_flush` adds to the stream in state `e`: a pending
run of 1..7 values goes to the group buffer and the group is padded to 8 with zeros; a run of 8 or
more completes the group from the run (F1) and needs none; with nothing pending nothing is written -/
def flushPad (e : Enc) : Nat :=
  if 0 < e.rep ∧ e.rep < 8 then (8 - (e.buf.length + e.rep) % 8) % 8 else 0

/-- the padding counts of the flushes of a history, in order -/
def flushPads : Enc → List EncOp → List Nat
  | _, [] => []
  | e, .put v :: ops => flushPads (put e v) ops
  | e, .rep v n :: ops => flushPads (putRepeat e v n) ops
  | e, .flush :: ops => flushPad e :: flushPads (flush e) ops

/-- the values a history puts, in order -/
def histValues : List EncOp → List Nat
  | [] => []
  | .put v :: ops => v :: histValues ops
  | .rep v n :: ops => List.replicate n v ++ histValues ops
  | .flush :: ops => histValues ops

/-- what a stream written by a history denotes, given the number of padding zeros at each flush:
the values put, in order, with `pads[i]` zeros after the values that precede the i-th flush -/
def denoteWith : List Nat → List EncOp → List Nat
  | _, [] => []
  | ps, .put v :: ops => v :: denoteWith ps ops
  | ps, .rep v n :: ops => List.replicate n v ++ denoteWith ps ops
  | k :: ps, .flush :: ops => List.replicate k 0 ++ denoteWith ps ops
  | [], .flush :: ops => denoteWith [] ops

/-- `(uint32_t)input[i]` for `int16_t input[i]` -/
def u32OfI16 (x : Int) : Nat := (x % 4294967296).toNat

/-- `carquet_rle_encode_levels(input, count, bit_width, output)` -/
def encodeLevels (w : Nat) (levels : List Int) : List UInt8 :=
  encode w (levels.map u32OfI16)

/-! ## Decoder -/

/-- the two values `dec->status` takes in rle.c -/
inductive Status
  | ok
  | invalidRle
  deriving DecidableEq, Repr

/-- `carquet_rle_decoder_t` -/
structure Dec where
  width : Nat
  rest : List UInt8
  inRle : Bool
  runRemaining : Nat
  rleValue : Nat
  bp : List Nat
  status : Status
  deriving DecidableEq, Repr

/-- the widths the decoders accept (F80): `!(bit_width < 0 || bit_width > 32)` -/
def maxWidth : Nat := 32

/-- `carquet_rle_decoder_init(dec, data, size, bit_width)`; a width above 32 leaves the decoder in
status INVALID_RLE (fixes/F80-rle-decoder-bit-width.patch): it never delivers a value -/
def Dec.init (w : Nat) (data : List UInt8) : Dec :=
  ⟨w, data, false, 0, 0, [], if w ≤ maxWidth then .ok else .invalidRle⟩

/-- `start_new_run(dec)` (recursion on empty runs; each level consumes ≥ 1 byte, fuel below).
Order of the checks in the RLE branch as repaired by F31: header, value bytes, then the
test for an empty run. -/
def startNewRunF : Nat → Dec → Bool × Dec
  | 0, d => (false, d)
  | f + 1, d =>
    if d.rest.length = 0 then (false, d)
    else
      match Varint.readVarintRle d.rest with
      | none => (false, { d with status := .invalidRle })
      | some (h, rest) =>
        if h &&& 1 = 0 then
          if rest.length < valueBytes d.width then
            (false, { d with rest := rest, inRle := true, runRemaining := h >>> 1, status := .invalidRle })
          else if h >>> 1 = 0 then
            startNewRunF f { d with rest := rest.drop (valueBytes d.width), inRle := true, runRemaining := 0,
                                    rleValue := Bitpack.leNat (rest.take (valueBytes d.width)) &&& valueMask d.width }
          else
            (true, { d with rest := rest.drop (valueBytes d.width), inRle := true, runRemaining := h >>> 1,
                            rleValue := Bitpack.leNat (rest.take (valueBytes d.width)) &&& valueMask d.width })
        else
          if (h >>> 1) * 8 = 0 then
            startNewRunF f { d with rest := rest, inRle := false, runRemaining := 0 }
          else
            (true, { d with rest := rest, inRle := false, runRemaining := (h >>> 1) * 8, bp := [] })

def startNewRun (d : Dec) : Bool × Dec := startNewRunF (d.rest.length + 1) d

/-- `fill_bitpack_buffer(dec)` -/
def fill (d : Dec) : Bool × Dec :=
  if d.runRemaining = 0 then (false, d)
  else if d.rest.length < d.width then (false, { d with status := .invalidRle })
  else (true, { d with bp := Bitpack.unpack8 d.width d.rest, rest := d.rest.drop d.width })

/-- `carquet_rle_decoder_has_next(dec)` -/
def hasNext (d : Dec) : Bool :=
  if d.status ≠ .ok then false
  else if d.runRemaining > 0 then true
  else d.rest.length > 0

/-- `if (dec->run_remaining <= 0) { if (!start_new_run(dec)) … }` -/
def ensureRun (d : Dec) : Bool × Dec :=
  if d.runRemaining = 0 then startNewRun d else (true, d)

/-- in a bit-packed run: `if (bitpack_pos >= bitpack_count) { if (!fill_bitpack_buffer(dec)) … }` -/
def ensureBuf (d : Dec) : Bool × Dec :=
  if d.inRle = true then (true, d)
  else if d.bp.length = 0 then fill d
  else (true, d)

/-- run open and (for a bit-packed run) group buffer non-empty, or failure -/
def prep (d : Dec) : Bool × Dec :=
  if (ensureRun d).1 = true then ensureBuf (ensureRun d).2 else (false, (ensureRun d).2)

/-- `return dec->rle_value` / `return dec->bitpack_buffer[dec->bitpack_pos++]` with `run_remaining--` -/
def pop (d : Dec) : Nat × Dec :=
  if d.inRle = true then (d.rleValue, { d with runRemaining := d.runRemaining - 1 })
  else (d.bp.headD 0, { d with bp := d.bp.tail, runRemaining := d.runRemaining - 1 })

/-- `carquet_rle_decoder_get(dec)`: the value (0 when there is none) and the new state -/
def get (d : Dec) : Nat × Dec :=
  if d.status ≠ .ok then (0, d)
  else if (prep d).1 = true then pop (prep d).2
  else (0, (prep d).2)

/-- number of values one chunk moves: RLE `min(count - read, run_remaining)`, bit-packed
`min(count - read, bitpack_count - bitpack_pos, run_remaining)` -/
def chunkLen (d : Dec) (want : Nat) : Nat :=
  if d.inRle = true then min want d.runRemaining
  else min want (min d.bp.length d.runRemaining)

/-- the values of one chunk -/
def chunkVals (d : Dec) (want : Nat) : List Nat :=
  if d.inRle = true then List.replicate (chunkLen d want) d.rleValue
  else d.bp.take (chunkLen d want)

/-- the state after one chunk -/
def chunkDec (d : Dec) (want : Nat) : Dec :=
  if d.inRle = true then { d with runRemaining := d.runRemaining - chunkLen d want }
  else { d with bp := d.bp.drop (chunkLen d want), runRemaining := d.runRemaining - chunkLen d want }

/-- loop of `carquet_rle_decoder_get_batch` (flattened, see header); fuel `count` suffices:
every completed iteration stores at least one value -/
def batchLoop : Nat → Dec → Nat → List Nat × Dec
  | 0, d, _ => ([], d)
  | f + 1, d, want =>
    if want = 0 then ([], d)
    else if hasNext d = false then ([], d)
    else if (prep d).1 = false then ([], (prep d).2)
    else
      (chunkVals (prep d).2 want ++
         (batchLoop f (chunkDec (prep d).2 want) (want - chunkLen (prep d).2 want)).1,
       (batchLoop f (chunkDec (prep d).2 want) (want - chunkLen (prep d).2 want)).2)

/-- `carquet_rle_decoder_get_batch(dec, output, count)`: the values stored (their number is
the return value) and the new state -/
def getBatch (d : Dec) (count : Nat) : List Nat × Dec := batchLoop count d count

/-- loop of `carquet_rle_decoder_skip` (same shape, nothing stored) -/
def skipLoop : Nat → Dec → Nat → Nat × Dec
  | 0, d, _ => (0, d)
  | f + 1, d, want =>
    if want = 0 then (0, d)
    else if hasNext d = false then (0, d)
    else if (prep d).1 = false then (0, (prep d).2)
    else
      (chunkLen (prep d).2 want +
         (skipLoop f (chunkDec (prep d).2 want) (want - chunkLen (prep d).2 want)).1,
       (skipLoop f (chunkDec (prep d).2 want) (want - chunkLen (prep d).2 want)).2)

/-- `carquet_rle_decoder_skip(dec, count)`: number skipped and the new state -/
def skip (d : Dec) (count : Nat) : Nat × Dec := skipLoop count d count

/-- `carquet_rle_decode_all(input, input_size, bit_width, output, max_values)`: the values
written to `output` (the return value is their number; the C function never returns −1, a
malformed or short input just yields fewer values — the decoder's status is local and lost). -/
def decodeAll (w : Nat) (bytes : List UInt8) (count : Nat) : List Nat :=
  (getBatch (Dec.init w bytes) count).1

/-- what a caller of `carquet_rle_decode_all` that needs `count` values can observe -/
inductive Err
  | short (got : Nat)     -- fewer than `count` values were returned
  deriving DecidableEq, Repr

/-- One-shot decode as seen by a caller that compares the returned count with the requested
one (`carquet_rle_decode_all` itself has no error result). -/
def decode (w : Nat) (bytes : List UInt8) (count : Nat) : Except Err (List Nat) :=
  if (decodeAll w bytes count).length = count then .ok (decodeAll w bytes count)
  else .error (.short (decodeAll w bytes count).length)

/-! ### Streaming interface as a state machine -/

inductive Op
  | get
  | getBatch (k : Nat)
  | skip (k : Nat)
  deriving DecidableEq, Repr

/-- what the caller sees of one call -/
inductive Obs
  | val (v : Nat)              -- return value of `get`
  | vals (vs : List Nat)       -- `output[0..ret)` of `get_batch`
  | skipped (n : Nat)          -- return value of `skip`
  deriving DecidableEq, Repr

def step (d : Dec) : Op → Obs × Dec
  | .get => (.val (get d).1, (get d).2)
  | .getBatch k => (.vals (getBatch d k).1, (getBatch d k).2)
  | .skip k => (.skipped (skip d k).1, (skip d k).2)

def runOps (d : Dec) : List Op → List Obs
  | [] => []
  | op :: ops => (step d op).1 :: runOps (step d op).2 ops

/-- Reference list cursor: the abstract machine the streaming decoder refines
(`C11_rle_stream_eq_oneshot`).  `r` is what is left of the one-shot decode; `get` past the
end returns 0 exactly as `carquet_rle_decoder_get` does. -/
def cursorOps (r : List Nat) : List Op → List Obs
  | [] => []
  | .get :: ops => .val (r.headD 0) :: cursorOps (r.drop 1) ops
  | .getBatch k :: ops => .vals (r.take k) :: cursorOps (r.drop k) ops
  | .skip k :: ops => .skipped (min k r.length) :: cursorOps (r.drop k) ops

/-- number of values a history asks for -/
def demand : List Op → Nat
  | [] => 0
  | .get :: ops => 1 + demand ops
  | .getBatch k :: ops => k + demand ops
  | .skip k :: ops => k + demand ops

/-! ## Levels (int16) -/

/-- `(int16_t)x` for a `uint32_t x` (truncation) -/
def truncI16 (v : Nat) : Int :=
  if v % 65536 < 32768 then ((v % 65536 : Nat) : Int) else ((v % 65536 : Nat) : Int) - 65536

/-- one lane of `_mm_packs_epi32`: the `uint32_t` read as `int32_t`, saturated to int16 -/
def satI16 (v : Nat) : Int :=
  if v % 4294967296 < 2147483648 then
    (if v % 4294967296 > 32767 then 32767 else ((v % 4294967296 : Nat) : Int))
  else
    (if v % 4294967296 < 4294934528 then -32768 else ((v % 4294967296 : Nat) : Int) - 4294967296)

/-- store of one unpacked group in `carquet_rle_decode_levels`: all 8 through the SSE2
saturating pack, a partial group through scalar truncation -/
def storeGroup (temp : List Nat) (want : Nat) : List Int :=
  if want ≥ 8 then temp.map satI16 else (temp.take want).map truncI16

/-- `for (g = 0; g < num_groups && count < max_values; g++)`: values stored and unread input
(a truncated group ends this loop; whether it did is `groupsCut`) -/
def levelsGroups (w : Nat) : Nat → List UInt8 → Nat → List Int × List UInt8
  | 0, rest, _ => ([], rest)
  | g + 1, rest, want =>
    if want = 0 then ([], rest)
    else if rest.length < w then ([], rest)
    else
      (storeGroup (Bitpack.unpack8 w rest) want ++ (levelsGroups w g (rest.drop w) (want - min 8 want)).1,
       (levelsGroups w g (rest.drop w) (want - min 8 want)).2)

/-- the loop BEFORE repair F58: a bit-packed group that is cut short only `break`s the group loop,
and the leftover bytes are parsed as the next run header (kept for `C11_regression_F58`; on legal
streams it too is an instance of `RleLevels.complete_of_iter`, Proofs/RleLevels.lean) -/
def levelsLoopPreF58 (w : Nat) : Nat → List UInt8 → Nat → List Int
  | 0, _, _ => []
  | f + 1, bs, want =>
    if want = 0 then []
    else if bs.length = 0 then []
    else if (Varint.readHeaderLevels bs).1 &&& 1 = 0 then
      if (Varint.readHeaderLevels bs).2.length < valueBytes w then []
      else if (Varint.readHeaderLevels bs).1 >>> 1 = 0 then
        levelsLoopPreF58 w f ((Varint.readHeaderLevels bs).2.drop (valueBytes w)) want
      else
        List.replicate (min ((Varint.readHeaderLevels bs).1 >>> 1) want)
            (truncI16 (Bitpack.leNat ((Varint.readHeaderLevels bs).2.take (valueBytes w)) &&& valueMask w)) ++
          levelsLoopPreF58 w f ((Varint.readHeaderLevels bs).2.drop (valueBytes w))
            (want - min ((Varint.readHeaderLevels bs).1 >>> 1) want)
    else
      if ((Varint.readHeaderLevels bs).1 >>> 1) * 8 = 0 then
        levelsLoopPreF58 w f (Varint.readHeaderLevels bs).2 want
      else
        (levelsGroups w ((Varint.readHeaderLevels bs).1 >>> 1) (Varint.readHeaderLevels bs).2 want).1 ++
          levelsLoopPreF58 w f
            (levelsGroups w ((Varint.readHeaderLevels bs).1 >>> 1) (Varint.readHeaderLevels bs).2 want).2
            (want - (levelsGroups w ((Varint.readHeaderLevels bs).1 >>> 1) (Varint.readHeaderLevels bs).2 want).1.length)

/-- the group loop of a bit-packed run stopped because fewer than `w` bytes were left for a group
(`if (pos + bit_width > input_size) return count;` after F58) -/
def groupsCut (w : Nat) : Nat → List UInt8 → Nat → Bool
  | 0, _, _ => false
  | g + 1, rest, want =>
    if want = 0 then false
    else if rest.length < w then true
    else groupsCut w g (rest.drop w) (want - min 8 want)

/-- `while (count < max_values && pos < input_size)` of `carquet_rle_decode_levels`
(every iteration consumes ≥ 1 byte; fuel `input_size + 1`).  RLE branch as repaired by F31;
a bit-packed group that is cut short ends the decoding (repair F58: `return count`). -/
def levelsLoop (w : Nat) : Nat → List UInt8 → Nat → List Int
  | 0, _, _ => []
  | f + 1, bs, want =>
    if want = 0 then []
    else if bs.length = 0 then []
    else if (Varint.readHeaderLevels bs).1 &&& 1 = 0 then
      if (Varint.readHeaderLevels bs).2.length < valueBytes w then []
      else if (Varint.readHeaderLevels bs).1 >>> 1 = 0 then
        levelsLoop w f ((Varint.readHeaderLevels bs).2.drop (valueBytes w)) want
      else
        List.replicate (min ((Varint.readHeaderLevels bs).1 >>> 1) want)
            (truncI16 (Bitpack.leNat ((Varint.readHeaderLevels bs).2.take (valueBytes w)) &&& valueMask w)) ++
          levelsLoop w f ((Varint.readHeaderLevels bs).2.drop (valueBytes w))
            (want - min ((Varint.readHeaderLevels bs).1 >>> 1) want)
    else
      if ((Varint.readHeaderLevels bs).1 >>> 1) * 8 = 0 then
        levelsLoop w f (Varint.readHeaderLevels bs).2 want
      else if groupsCut w ((Varint.readHeaderLevels bs).1 >>> 1) (Varint.readHeaderLevels bs).2 want then
        (levelsGroups w ((Varint.readHeaderLevels bs).1 >>> 1) (Varint.readHeaderLevels bs).2 want).1
      else
        (levelsGroups w ((Varint.readHeaderLevels bs).1 >>> 1) (Varint.readHeaderLevels bs).2 want).1 ++
          levelsLoop w f
            (levelsGroups w ((Varint.readHeaderLevels bs).1 >>> 1) (Varint.readHeaderLevels bs).2 want).2
            (want - (levelsGroups w ((Varint.readHeaderLevels bs).1 >>> 1) (Varint.readHeaderLevels bs).2 want).1.length)

/-- `carquet_rle_decode_levels` before repair F58 -/
def decodeLevelsPreF58 (w : Nat) (bytes : List UInt8) (maxValues : Nat) : List Int :=
  levelsLoopPreF58 w (bytes.length + 1) bytes maxValues

/-- `carquet_rle_decode_levels(input, input_size, bit_width, output, max_values)`: the levels
stored (their number is the return value; never an error), as repaired by F58; no levels at a width
above 32 (F80: `if (bit_width < 0 || bit_width > 32) return 0;`) -/
def decodeLevels (w : Nat) (bytes : List UInt8) (maxValues : Nat) : List Int :=
  if w ≤ maxWidth then levelsLoop w (bytes.length + 1) bytes maxValues else []

/-- results of `carquet_rle_decode_levels_prefixed` other than success (both return −1 and
set `*bytes_consumed = 0`) -/
inductive PrefixErr
  | tooShort               -- `input_size < 4`
  | lengthExceedsInput     -- `rle_length > input_size - 4`
  deriving DecidableEq, Repr

/-- `carquet_rle_decode_levels_prefixed(input, input_size, bit_width, output, max_values,
&bytes_consumed)`: levels and `bytes_consumed`, as repaired by
fixes/F33-rle-prefix-length-wrap.patch (the pinned test is in Impl/RlePreFix.lean). -/
def decodeLevelsPrefixed (w : Nat) (bytes : List UInt8) (maxValues : Nat) :
    Except PrefixErr (List Int × Nat) :=
  if bytes.length < 4 then .error .tooShort
  else if Bitpack.leNat (bytes.take 4) > bytes.length - 4 then .error .lengthExceedsInput
  else
    .ok (decodeLevels w ((bytes.drop 4).take (Bitpack.leNat (bytes.take 4))) maxValues,
         4 + Bitpack.leNat (bytes.take 4))

/-- the framing a caller (page writer) puts around a level block: 4-byte little-endian length -/
def withLengthPrefix (payload : List UInt8) : List UInt8 :=
  Bitpack.leBytes 4 payload.length ++ payload

-- tests of the transcription against bytes produced by the repaired C code
example : encode 1 [1, 0, 1, 1, 1, 1, 1, 1, 1, 1, 1, 1, 0] = [0x03, 0xFD, 0x08, 0x01, 0x03, 0x00] := by decide
example : decodeAll 1 [0x03, 0xFD, 0x08, 0x01, 0x03, 0x00] 13 = [1, 0, 1, 1, 1, 1, 1, 1, 1, 1, 1, 1, 0] := by decide
example : encode 3 [] = [] := by decide
example : decodeAll 3 [0x00, 0x05, 0x02, 0x03] 1 = [3] := by decide

-- quirks of the two decoders on malformed / out-of-range input (checked against the C code by the harness)
-- a truncated bit-packed group stops `decode_all` (status INVALID_RLE, nothing returned); before F58 it
-- only `break`s the group loop of `decode_levels`, which went on parsing the leftover bytes as a
-- header; after F58 `decode_levels` stops there too:
example : decodeAll 8 [0x03, 0x02, 0x05] 4 = [] ∧ decodeLevelsPreF58 8 [0x03, 0x02, 0x05] 4 = [5] ∧
    decodeLevels 8 [0x03, 0x02, 0x05] 4 = [] := by decide
-- width 16, value 40000: a whole group of 8 goes through the saturating SSE2 pack (32767), a partial
-- group and an RLE run through truncation (40000 − 65536):
example : decodeLevels 16 ([0x03] ++ (List.replicate 8 [0x40, 0x9C]).flatten) 8 = List.replicate 8 32767 := by decide
example : decodeLevels 16 ([0x03] ++ (List.replicate 8 [0x40, 0x9C]).flatten) 7 = List.replicate 7 (-25536) := by decide
example : decodeLevels 16 [0x10, 0x40, 0x9C] 8 = List.replicate 8 (-25536) := by decide

end Carquet.Impl.Rle
