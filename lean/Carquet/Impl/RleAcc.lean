import Carquet.Impl.Rle
/-
Access-reporting twins of the RLE / bit-packed hybrid *decoders* of Impl/Rle.lean (C08).

Impl/Rle.lean represents `(data, size, pos)` by the unread suffix `rest`, so "a read outside the
input" cannot even be written down there.  The functions below are the same decoders — same
branches, same order of checks, same results (proved: `Proofs.RleAcc.*_twin`, field `fst`) — that additionally
report every read the C code makes as an access `(offset, length)` into `data[0 .. size)`, where
`offset = size − rest.length` is the C variable `pos` at the moment of the read:

  read_varint / the inlined header loop      (pos, number of bytes examined: ≤ 5, stops at the
                                              first byte without continuation bit or at the end)
  `data[pos++]` × value_bytes                (pos, value_bytes)        after `pos + value_bytes > size` failed
  carquet_bitunpack8_32(data + pos, w, …)    (pos, w)                  after `pos + w > size` failed
  carquet_read_u32_le(input)                 (0, 4)                    after `input_size < 4` failed

A failing `read_varint` examines bytes without consuming them; everything else is consumed.
`size` is a parameter (the input length of the enclosing call); the theorems instantiate it with
`data.length` and show every reported access lies inside `[pos, size)`.
-/
namespace Carquet.Impl.Rle

/-- one read access to the input: `len` bytes starting at `off` -/
structure Acc where
  off : Nat
  len : Nat
  deriving DecidableEq, Repr

/-- number of bytes the header loops examine: `while (p < size && shift < 32) { byte = data[p++]; …
if ((byte & 0x80) == 0) break/return; shift += 7; }` -/
def headerBytes : Nat → List UInt8 → Nat
  | 0, _ => 0
  | _ + 1, [] => 0
  | f + 1, b :: rest => if b.toNat &&& 0x80 = 0 then 1 else 1 + headerBytes f rest

/-- bytes examined by rle.c `read_varint` and by the header loop of `carquet_rle_decode_levels` -/
def headerLen (bs : List UInt8) : Nat := headerBytes 5 bs

/-- twin of `startNewRunF` -/
def startNewRunAccF (size : Nat) : Nat → Dec → (Bool × Dec) × List Acc
  | 0, d => ((false, d), [])
  | f + 1, d =>
    if d.rest.length = 0 then ((false, d), [])
    else
      match Varint.readVarintRle d.rest with
      | none => ((false, { d with status := .invalidRle }), [⟨size - d.rest.length, headerLen d.rest⟩])
      | some (h, rest) =>
        if h &&& 1 = 0 then
          if rest.length < valueBytes d.width then
            ((false, { d with rest := rest, inRle := true, runRemaining := h >>> 1, status := .invalidRle }),
             [⟨size - d.rest.length, headerLen d.rest⟩])
          else if h >>> 1 = 0 then
            ((startNewRunAccF size f { d with rest := rest.drop (valueBytes d.width), inRle := true, runRemaining := 0, rleValue := Bitpack.leNat (rest.take (valueBytes d.width)) &&& valueMask d.width }).1,
             ⟨size - d.rest.length, headerLen d.rest⟩ :: ⟨size - rest.length, valueBytes d.width⟩ ::
             (startNewRunAccF size f { d with rest := rest.drop (valueBytes d.width), inRle := true, runRemaining := 0, rleValue := Bitpack.leNat (rest.take (valueBytes d.width)) &&& valueMask d.width }).2)
          else
            ((true, { d with rest := rest.drop (valueBytes d.width), inRle := true, runRemaining := h >>> 1, rleValue := Bitpack.leNat (rest.take (valueBytes d.width)) &&& valueMask d.width }),
             [⟨size - d.rest.length, headerLen d.rest⟩, ⟨size - rest.length, valueBytes d.width⟩])
        else
          if (h >>> 1) * 8 = 0 then
            ((startNewRunAccF size f { d with rest := rest, inRle := false, runRemaining := 0 }).1,
             ⟨size - d.rest.length, headerLen d.rest⟩ ::
             (startNewRunAccF size f { d with rest := rest, inRle := false, runRemaining := 0 }).2)
          else
            ((true, { d with rest := rest, inRle := false, runRemaining := (h >>> 1) * 8, bp := [] }),
             [⟨size - d.rest.length, headerLen d.rest⟩])

def startNewRunAcc (size : Nat) (d : Dec) : (Bool × Dec) × List Acc :=
  startNewRunAccF size (d.rest.length + 1) d

/-- twin of `fill` -/
def fillAcc (size : Nat) (d : Dec) : (Bool × Dec) × List Acc :=
  if d.runRemaining = 0 then ((false, d), [])
  else if d.rest.length < d.width then ((false, { d with status := .invalidRle }), [])
  else ((true, { d with bp := Bitpack.unpack8 d.width d.rest, rest := d.rest.drop d.width }),
        [⟨size - d.rest.length, d.width⟩])

/-- twin of `ensureRun` -/
def ensureRunAcc (size : Nat) (d : Dec) : (Bool × Dec) × List Acc :=
  if d.runRemaining = 0 then startNewRunAcc size d else ((true, d), [])

/-- twin of `ensureBuf` -/
def ensureBufAcc (size : Nat) (d : Dec) : (Bool × Dec) × List Acc :=
  if d.inRle = true then ((true, d), [])
  else if d.bp.length = 0 then fillAcc size d
  else ((true, d), [])

/-- twin of `prep` -/
def prepAcc (size : Nat) (d : Dec) : (Bool × Dec) × List Acc :=
  if (ensureRunAcc size d).1.1 = true then
    ((ensureBufAcc size (ensureRunAcc size d).1.2).1,
     (ensureRunAcc size d).2 ++ (ensureBufAcc size (ensureRunAcc size d).1.2).2)
  else ((false, (ensureRunAcc size d).1.2), (ensureRunAcc size d).2)

/-- twin of `get` -/
def getAcc (size : Nat) (d : Dec) : (Nat × Dec) × List Acc :=
  if d.status ≠ .ok then ((0, d), [])
  else if (prepAcc size d).1.1 = true then (pop (prepAcc size d).1.2, (prepAcc size d).2)
  else ((0, (prepAcc size d).1.2), (prepAcc size d).2)

/-- twin of `batchLoop` -/
def batchLoopAcc (size : Nat) : Nat → Dec → Nat → (List Nat × Dec) × List Acc
  | 0, d, _ => (([], d), [])
  | f + 1, d, want =>
    if want = 0 then (([], d), [])
    else if hasNext d = false then (([], d), [])
    else if (prepAcc size d).1.1 = false then (([], (prepAcc size d).1.2), (prepAcc size d).2)
    else
      ((chunkVals (prepAcc size d).1.2 want ++
          (batchLoopAcc size f (chunkDec (prepAcc size d).1.2 want) (want - chunkLen (prepAcc size d).1.2 want)).1.1,
        (batchLoopAcc size f (chunkDec (prepAcc size d).1.2 want) (want - chunkLen (prepAcc size d).1.2 want)).1.2),
       (prepAcc size d).2 ++
          (batchLoopAcc size f (chunkDec (prepAcc size d).1.2 want) (want - chunkLen (prepAcc size d).1.2 want)).2)

/-- twin of `getBatch` -/
def getBatchAcc (size : Nat) (d : Dec) (count : Nat) : (List Nat × Dec) × List Acc :=
  batchLoopAcc size count d count

/-- twin of `skipLoop` -/
def skipLoopAcc (size : Nat) : Nat → Dec → Nat → (Nat × Dec) × List Acc
  | 0, d, _ => ((0, d), [])
  | f + 1, d, want =>
    if want = 0 then ((0, d), [])
    else if hasNext d = false then ((0, d), [])
    else if (prepAcc size d).1.1 = false then ((0, (prepAcc size d).1.2), (prepAcc size d).2)
    else
      ((chunkLen (prepAcc size d).1.2 want +
          (skipLoopAcc size f (chunkDec (prepAcc size d).1.2 want) (want - chunkLen (prepAcc size d).1.2 want)).1.1,
        (skipLoopAcc size f (chunkDec (prepAcc size d).1.2 want) (want - chunkLen (prepAcc size d).1.2 want)).1.2),
       (prepAcc size d).2 ++
          (skipLoopAcc size f (chunkDec (prepAcc size d).1.2 want) (want - chunkLen (prepAcc size d).1.2 want)).2)

/-- twin of `skip` -/
def skipAcc (size : Nat) (d : Dec) (count : Nat) : (Nat × Dec) × List Acc := skipLoopAcc size count d count

/-- twin of `step` -/
def stepAcc (size : Nat) (d : Dec) : Op → (Obs × Dec) × List Acc
  | .get => ((.val (getAcc size d).1.1, (getAcc size d).1.2), (getAcc size d).2)
  | .getBatch k => ((.vals (getBatchAcc size d k).1.1, (getBatchAcc size d k).1.2), (getBatchAcc size d k).2)
  | .skip k => ((.skipped (skipAcc size d k).1.1, (skipAcc size d k).1.2), (skipAcc size d k).2)

/-- twin of `runOps`: observations, accesses in order, final state -/
def runOpsAcc (size : Nat) (d : Dec) : List Op → List Obs × List Acc × Dec
  | [] => ([], [], d)
  | op :: ops =>
    ((stepAcc size d op).1.1 :: (runOpsAcc size (stepAcc size d op).1.2 ops).1,
     (stepAcc size d op).2 ++ (runOpsAcc size (stepAcc size d op).1.2 ops).2.1,
     (runOpsAcc size (stepAcc size d op).1.2 ops).2.2)

/-- twin of `decodeAll`: `carquet_rle_decode_all` with the final state (`dec.pos`, `dec.status`) -/
def decodeAllAcc (w : Nat) (bytes : List UInt8) (count : Nat) : (List Nat × Dec) × List Acc :=
  getBatchAcc bytes.length (Dec.init w bytes) count

/-! ### levels -/

/-- twin of `levelsGroups` (values, unread input) with the group reads -/
def levelsGroupsAcc (size w : Nat) : Nat → List UInt8 → Nat → (List Int × List UInt8) × List Acc
  | 0, rest, _ => (([], rest), [])
  | g + 1, rest, want =>
    if want = 0 then (([], rest), [])
    else if rest.length < w then (([], rest), [])
    else
      ((storeGroup (Bitpack.unpack8 w rest) want ++ (levelsGroupsAcc size w g (rest.drop w) (want - min 8 want)).1.1,
        (levelsGroupsAcc size w g (rest.drop w) (want - min 8 want)).1.2),
       ⟨size - rest.length, w⟩ :: (levelsGroupsAcc size w g (rest.drop w) (want - min 8 want)).2)

/-- twin of `levelsLoop`: levels, the unread input when the function returns, accesses -/
def levelsLoopAcc (size w : Nat) : Nat → List UInt8 → Nat → (List Int × List UInt8) × List Acc
  | 0, bs, _ => (([], bs), [])
  | f + 1, bs, want =>
    if want = 0 then (([], bs), [])
    else if bs.length = 0 then (([], bs), [])
    else if (Varint.readHeaderLevels bs).1 &&& 1 = 0 then
      if (Varint.readHeaderLevels bs).2.length < valueBytes w then
        (([], (Varint.readHeaderLevels bs).2), [⟨size - bs.length, headerLen bs⟩])
      else if (Varint.readHeaderLevels bs).1 >>> 1 = 0 then
        ((levelsLoopAcc size w f ((Varint.readHeaderLevels bs).2.drop (valueBytes w)) want).1,
         ⟨size - bs.length, headerLen bs⟩ :: ⟨size - (Varint.readHeaderLevels bs).2.length, valueBytes w⟩ ::
         (levelsLoopAcc size w f ((Varint.readHeaderLevels bs).2.drop (valueBytes w)) want).2)
      else
        ((List.replicate (min ((Varint.readHeaderLevels bs).1 >>> 1) want)
              (truncI16 (Bitpack.leNat ((Varint.readHeaderLevels bs).2.take (valueBytes w)) &&& valueMask w)) ++
            (levelsLoopAcc size w f ((Varint.readHeaderLevels bs).2.drop (valueBytes w))
              (want - min ((Varint.readHeaderLevels bs).1 >>> 1) want)).1.1,
          (levelsLoopAcc size w f ((Varint.readHeaderLevels bs).2.drop (valueBytes w))
              (want - min ((Varint.readHeaderLevels bs).1 >>> 1) want)).1.2),
         ⟨size - bs.length, headerLen bs⟩ :: ⟨size - (Varint.readHeaderLevels bs).2.length, valueBytes w⟩ ::
         (levelsLoopAcc size w f ((Varint.readHeaderLevels bs).2.drop (valueBytes w))
              (want - min ((Varint.readHeaderLevels bs).1 >>> 1) want)).2)
    else
      if ((Varint.readHeaderLevels bs).1 >>> 1) * 8 = 0 then
        ((levelsLoopAcc size w f (Varint.readHeaderLevels bs).2 want).1,
         ⟨size - bs.length, headerLen bs⟩ :: (levelsLoopAcc size w f (Varint.readHeaderLevels bs).2 want).2)
      else if groupsCut w ((Varint.readHeaderLevels bs).1 >>> 1) (Varint.readHeaderLevels bs).2 want then
        ((levelsGroupsAcc size w ((Varint.readHeaderLevels bs).1 >>> 1) (Varint.readHeaderLevels bs).2 want).1,
         ⟨size - bs.length, headerLen bs⟩ ::
         (levelsGroupsAcc size w ((Varint.readHeaderLevels bs).1 >>> 1) (Varint.readHeaderLevels bs).2 want).2)
      else
        (((levelsGroupsAcc size w ((Varint.readHeaderLevels bs).1 >>> 1) (Varint.readHeaderLevels bs).2 want).1.1 ++
            (levelsLoopAcc size w f
              (levelsGroupsAcc size w ((Varint.readHeaderLevels bs).1 >>> 1) (Varint.readHeaderLevels bs).2 want).1.2
              (want - (levelsGroupsAcc size w ((Varint.readHeaderLevels bs).1 >>> 1) (Varint.readHeaderLevels bs).2 want).1.1.length)).1.1,
          (levelsLoopAcc size w f
              (levelsGroupsAcc size w ((Varint.readHeaderLevels bs).1 >>> 1) (Varint.readHeaderLevels bs).2 want).1.2
              (want - (levelsGroupsAcc size w ((Varint.readHeaderLevels bs).1 >>> 1) (Varint.readHeaderLevels bs).2 want).1.1.length)).1.2),
         ⟨size - bs.length, headerLen bs⟩ ::
         ((levelsGroupsAcc size w ((Varint.readHeaderLevels bs).1 >>> 1) (Varint.readHeaderLevels bs).2 want).2 ++
          (levelsLoopAcc size w f
              (levelsGroupsAcc size w ((Varint.readHeaderLevels bs).1 >>> 1) (Varint.readHeaderLevels bs).2 want).1.2
              (want - (levelsGroupsAcc size w ((Varint.readHeaderLevels bs).1 >>> 1) (Varint.readHeaderLevels bs).2 want).1.1.length)).2))

/-- twin of `decodeLevels`: the levels stored, the value of `pos` when the function returns, accesses
relative to an input that starts at offset `base` of the caller's buffer of `size` bytes -/
def decodeLevelsAcc (w : Nat) (bytes : List UInt8) (maxValues : Nat) : (List Int × Nat) × List Acc :=
  if w ≤ maxWidth then
    (((levelsLoopAcc bytes.length w (bytes.length + 1) bytes maxValues).1.1,
      bytes.length - (levelsLoopAcc bytes.length w (bytes.length + 1) bytes maxValues).1.2.length),
     (levelsLoopAcc bytes.length w (bytes.length + 1) bytes maxValues).2)
  else (([], 0), [])

/-- shift the accesses of a sub-buffer that starts at `base` -/
def shiftAccs (base : Nat) (l : List Acc) : List Acc := l.map (fun a => ⟨base + a.off, a.len⟩)

/-- twin of `decodeLevelsPrefixed`: result and accesses into `input[0 .. input_size)` -/
def decodeLevelsPrefixedAcc (w : Nat) (bytes : List UInt8) (maxValues : Nat) :
    Except PrefixErr (List Int × Nat) × List Acc :=
  if bytes.length < 4 then (.error .tooShort, [])
  else if Bitpack.leNat (bytes.take 4) > bytes.length - 4 then (.error .lengthExceedsInput, [⟨0, 4⟩])
  else
    (.ok ((decodeLevelsAcc w ((bytes.drop 4).take (Bitpack.leNat (bytes.take 4))) maxValues).1.1,
          4 + Bitpack.leNat (bytes.take 4)),
     ⟨0, 4⟩ :: shiftAccs 4 (decodeLevelsAcc w ((bytes.drop 4).take (Bitpack.leNat (bytes.take 4))) maxValues).2)

example : decodeAllAcc 3 [0x00, 0x05, 0x02, 0x03] 1 =
    (([3], ⟨3, [], true, 0, 3, [], .ok⟩), [⟨0, 1⟩, ⟨1, 1⟩, ⟨2, 1⟩, ⟨3, 1⟩]) := by decide +kernel
example : (decodeAllAcc 8 [0x03, 0x02, 0x05] 4).2 = [⟨0, 1⟩] ∧ (decodeAllAcc 8 [0x03, 0x02, 0x05] 4).1.2.status = .invalidRle := by decide +kernel
example : (decodeAllAcc 33 [0x10, 1, 2, 3, 4, 5] 8) = (([], Dec.init 33 [0x10, 1, 2, 3, 4, 5]), []) := by decide +kernel
example : (decodeLevelsPrefixedAcc 1 [0x02, 0, 0, 0, 0x03, 0x05, 0xEE] 8).1.toOption = some ([1, 0, 1, 0, 0, 0, 0, 0], 6) ∧
    (decodeLevelsPrefixedAcc 1 [0x02, 0, 0, 0, 0x03, 0x05, 0xEE] 8).2 = [⟨0, 4⟩, ⟨4, 1⟩, ⟨5, 1⟩] := by decide +kernel
example : (decodeLevelsPrefixedAcc 1 [0xFF, 0xFF, 0xFF, 0xFF, 0x02, 0x01] 5).1.toOption = none ∧
    (decodeLevelsPrefixedAcc 1 [0xFF, 0xFF, 0xFF, 0xFF, 0x02, 0x01] 5).2 = [⟨0, 4⟩] := by decide +kernel

end Carquet.Impl.Rle
